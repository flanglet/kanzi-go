/-
BWTS (C13): the inverse transform undoes the specification: `decode (bwtsSpec s) = s`.

`visitGo` (the pure form of the loops of `BWTS.Inverse`) walks the cycles of the LF mapping in the
order of their least index.  On the sorted rotations of the Lyndon factors `w1 ≥ … ≥ wk` the cycle
with the least unvisited index spells the least remaining factor, i.e. the LAST remaining one; the
loops write the cycles from the end of the block backwards, which rebuilds `w1 … wk`.
-/
import Kanzi.Proofs.BWTSMatrix

namespace Kanzi.BWTS

/-! ## one cycle -/

/-- the first `k` points of the orbit of `r`, newest first -/
def orbR (π : Nat → Nat) (r : Nat) : Nat → List Nat
  | 0 => []
  | k + 1 => itr π k r :: orbR π r k

theorem orbR_eq (π : Nat → Nat) (r k : Nat) :
    orbR π r k = ((List.range k).map (fun a => itr π a r)).reverse := by
  induction k with
  | zero => rfl
  | succ k ih =>
    rw [orbR, ih, List.range_succ, List.map_append, List.reverse_append]
    rfl

theorem mem_orbR {π : Nat → Nat} {r k x : Nat} : x ∈ orbR π r k ↔ ∃ a, a < k ∧ x = itr π a r := by
  simp [orbR_eq, eq_comm]

theorem orbR_length (π : Nat → Nat) (r k : Nat) : (orbR π r k).length = k := by
  simp [orbR_eq]

theorem closed_itr {π : Nat → Nat} {vis : List Nat} (hc : ∀ q ∈ vis, π q ∈ vis) (q : Nat)
    (hq : q ∈ vis) (k : Nat) : itr π k q ∈ vis := by
  induction k with
  | zero => exact hq
  | succ k ih => exact hc _ ih

section
variable {L : List (List Nat)}

theorem itr_not_mem (hL : SortedRots L) {vis : List Nat} (hc : ∀ q ∈ vis, lfOfL L q ∈ vis)
    {r : Nat} (hr : r < L.length) (hrv : r ∉ vis) (a : Nat) (ha : a ≤ L[r].length) :
    itr (lfOfL L) a r ∉ vis := by
  intro hmem
  have := closed_itr hc _ hmem (L[r].length - a)
  rw [← itr_add, Nat.sub_add_cancel ha, itr_length_self hL r hr] at this
  exact hrv this

theorem orbR_closed (hL : SortedRots L) (r : Nat) (hr : r < L.length) :
    ∀ q ∈ orbR (lfOfL L) r L[r].length, lfOfL L q ∈ orbR (lfOfL L) r L[r].length := by
  intro q hq
  obtain ⟨a, ha, rfl⟩ := mem_orbR.1 hq
  by_cases hlast : a + 1 = L[r].length
  · refine mem_orbR.2 ⟨0, by omega, ?_⟩
    have := itr_length_self hL r hr
    rw [← hlast] at this
    exact this
  · exact mem_orbR.2 ⟨a + 1, by omega, rfl⟩

/-- the inner loop, entered at the `j`-th point of the orbit of `r`, completes the orbit -/
theorem cycleGo_orbit (hL : SortedRots L) (vis : List Nat) (hc : ∀ q ∈ vis, lfOfL L q ∈ vis)
    (r : Nat) (hr : r < L.length) (hrv : r ∉ vis) :
    ∀ fuel j, j < L[r].length → L[r].length ≤ fuel + j →
      cycleGo (lfOfL L) fuel (orbR (lfOfL L) r j ++ vis) (itr (lfOfL L) j r) =
        orbR (lfOfL L) r L[r].length ++ vis := by
  intro fuel
  induction fuel with
  | zero => intro j hj hf; omega
  | succ f ih =>
    intro j hj hf
    rw [cycleGo]
    by_cases hlast : j + 1 = L[r].length
    · have hπ : lfOfL L (itr (lfOfL L) j r) = r := by
        have := itr_length_self hL r hr
        rwa [← hlast] at this
      have hmem : r ∈ orbR (lfOfL L) r (j + 1) ++ vis :=
        List.mem_append_left vis (mem_orbR.2 ⟨0, by omega, rfl⟩)
      rw [hπ, if_pos (show r ∈ _ :: (_ ++ _) from hmem), ← hlast]
      rfl
    · have hnot : itr (lfOfL L) (j + 1) r ∉ orbR (lfOfL L) r (j + 1) ++ vis := by
        intro hmem
        rcases List.mem_append.1 hmem with h | h
        · obtain ⟨a, ha, he⟩ := mem_orbR.1 h
          exact itr_injective hL r hr a (j + 1) (by omega) (by omega) he.symm
        · exact itr_not_mem hL hc hr hrv (j + 1) (by omega) h
      rw [if_neg (show lfOfL L _ ∉ _ :: (_ ++ _) from hnot)]
      exact ih (j + 1) (by omega) (by omega)

theorem orbR_letters (hL : SortedRots L) (r : Nat) (hr : r < L.length) (k : Nat)
    (hk : k ≤ L[r].length) :
    (orbR (lfOfL L) r k).map (fun q => (L.map lastL).getD q 0) = L[r].drop (L[r].length - k) := by
  induction k with
  | zero => simp [orbR]
  | succ k ih =>
    simp only [orbR, List.map_cons]
    rw [ih (by omega), letter_itr hL r hr k (by omega),
      show L[r].length - k = (L[r].length - (k + 1)) + 1 by omega,
      show L[r].length - 1 - k = L[r].length - (k + 1) by omega]
    have hlt : L[r].length - (k + 1) < L[r].length := by omega
    rw [List.drop_eq_getElem_cons hlt]
    simp [List.getD_eq_getElem?_getD, List.getElem?_eq_getElem hlt]

theorem orbR_nodup (hL : SortedRots L) (r : Nat) (hr : r < L.length) (k : Nat)
    (hk : k ≤ L[r].length) : (orbR (lfOfL L) r k).Nodup := by
  induction k with
  | zero => simp [orbR]
  | succ k ih =>
    simp only [orbR]
    refine List.nodup_cons.2 ⟨?_, ih (by omega)⟩
    intro h
    obtain ⟨a, ha, he⟩ := mem_orbR.1 h
    exact itr_injective hL r hr a k ha (by omega) he.symm

theorem orbR_words (hL : SortedRots L) (r : Nat) (hr : r < L.length) :
    ((orbR (lfOfL L) r L[r].length).map (fun q => L.getD q [])).Perm (rotations L[r]) := by
  have hX : L[r] ≠ [] := (hL.rotl _ (List.getElem_mem hr)).ne_nil
  -- newest first: `rot L[r] (m - k + 1), …, rot L[r] m`
  have h1 : ∀ k, k ≤ L[r].length → (orbR (lfOfL L) r k).map (fun q => L.getD q []) =
      (List.range' (L[r].length - k + 1) k).map (rot L[r]) := by
    intro k
    induction k with
    | zero => intro _; rfl
    | succ k ih =>
      intro hk
      obtain ⟨hq, he⟩ := itr_spec hL r hr k
      rw [orbR, List.map_cons, ih (by omega), getD_eq L [] _ hq, he, rotRn_eq_rot _ hX k (by omega),
        show L[r].length - (k + 1) + 1 = L[r].length - k by omega]
      rfl
  rw [h1 _ (Nat.le_refl _), Nat.sub_self, List.range'_eq_map_range, List.map_map]
  simp only [Function.comp_def, Nat.zero_add, Nat.add_comm 1]
  exact shift_perm L[r].length (rot L[r]) (by rw [rot_length_self, rot_zero])

end

/-! ## the unvisited indices -/

def unvis (n : Nat) (vis : List Nat) : List Nat := (List.range n).filter (fun q => decide (q ∉ vis))

theorem mem_unvis {n : Nat} {vis : List Nat} {q : Nat} : q ∈ unvis n vis ↔ q < n ∧ q ∉ vis := by
  simp [unvis]

theorem unvis_nodup (n : Nat) (vis : List Nat) : (unvis n vis).Nodup :=
  List.Nodup.filter _ List.nodup_range

theorem unvis_split (n : Nat) (O vis : List Nat) (hO : O.Nodup)
    (hsub : ∀ q ∈ O, q < n ∧ q ∉ vis) : (unvis n vis).Perm (O ++ unvis n (O ++ vis)) := by
  have h1 : unvis n (O ++ vis) = (unvis n vis).filter (fun q => !decide (q ∈ O)) := by
    unfold unvis
    rw [List.filter_filter]
    apply List.filter_congr
    intro q _
    simp [List.mem_append, not_or]
  have h2 := List.filter_append_perm (fun q => decide (q ∈ O)) (unvis n vis)
  have h3 : ((unvis n vis).filter (fun q => decide (q ∈ O))).Perm O := by
    apply (List.perm_ext_iff_of_nodup (List.Nodup.filter _ (unvis_nodup n vis)) hO).2
    intro a
    simp only [List.mem_filter, decide_eq_true_eq, mem_unvis]
    exact ⟨fun h => h.2, fun h => ⟨hsub a h, h⟩⟩
  rw [h1]
  exact h2.symm.trans (h3.append_right _)

theorem flatten_length_zero {rem : List (List Nat)} (hne : ∀ w ∈ rem, w ≠ [])
    (h : rem.flatten.length = 0) : rem = [] := by
  cases rem with
  | nil => rfl
  | cons w rem =>
    have := hne w (by simp)
    have hl : w.length ≠ 0 := fun h0 => this (List.eq_nil_of_length_eq_zero h0)
    rw [List.flatten_cons, List.length_append] at h; omega

/-! ## all cycles -/

section
variable {L fs rem dn : List (List Nat)} {vis : List Nat} {i : Nat}

/-- invariant of the outer loop at index `i`: the factors `dn` are written, the rows not yet
    visited are the rotations of the factors `rem` -/
structure Walk (L fs : List (List Nat)) (vis : List Nat) (i : Nat) (rem dn : List (List Nat)) :
    Prop where
  split : fs = rem ++ dn
  closed : ∀ q ∈ vis, lfOfL L q ∈ vis
  below : ∀ q, q < i → q ∈ vis
  letters : vis.map (fun q => (L.map lastL).getD q 0) = dn.flatten
  rows : ((unvis L.length vis).map (fun q => L.getD q [])).Perm (rem.flatMap rotations)

theorem Walk.skip (h : Walk L fs vis i rem dn) (hiv : i ∈ vis) : Walk L fs vis (i + 1) rem dn :=
  { h with below := below_succ h.below (fun _ h => h) hiv }

theorem Walk.finish (h : Walk L fs vis i rem dn) (hne : ∀ w ∈ fs, w ≠ [])
    (hU : unvis L.length vis = []) : vis.map (fun q => (L.map lastL).getD q 0) = fs.flatten := by
  have hperm := h.rows
  rw [hU] at hperm
  have hr : rem.flatMap rotations = [] := by simpa using hperm.symm.eq_nil
  have hrem : rem = [] := by
    apply flatten_length_zero (fun w hw => hne w (by rw [h.split]; simp [hw]))
    rw [← flatMap_rotations_length, hr]; rfl
  rw [h.letters, h.split, hrem, List.nil_append]

/-- the least unvisited index `i` carries the last remaining factor; its cycle writes that factor
    and visits exactly its rotations -/
theorem Walk.cycle (hL : SortedRots L) (hfs : ∀ w ∈ fs, Lyndon w)
    (hpw : fs.Pairwise (fun a b => lexLt a b = false)) (h : Walk L fs vis i rem dn)
    (hi : i < L.length) (hiv : i ∉ vis) :
    ∃ rem', Walk L fs (orbR (lfOfL L) i L[i].length ++ vis) (i + 1) rem' (L[i] :: dn) := by
  have hXrot : RotL L[i] := hL.rotl _ (List.getElem_mem hi)
  have hmpos : 0 < L[i].length := List.length_pos_iff.2 hXrot.ne_nil
  have hrow : L[i] ∈ rem.flatMap rotations := by
    rw [← getD_eq L [] i hi]
    exact h.rows.mem_iff.1 (List.mem_map.2 ⟨i, mem_unvis.2 ⟨hi, hiv⟩, rfl⟩)
  have hrem0 : rem ≠ [] := by
    rintro rfl
    simp at hrow
  obtain ⟨rem', w, rfl⟩ : ∃ rem' w, rem = rem' ++ [w] :=
    ⟨rem.dropLast, rem.getLast hrem0, (List.dropLast_append_getLast hrem0).symm⟩
  have hwL : Lyndon w := hfs w (by rw [h.split]; simp)
  have hwrot : w ∈ rotations w := self_mem_rotations hwL.1
  -- `L[i]` is a rotation of a remaining factor `w' ≥ w`, hence `≥ω w`
  have hle1 : SeqLe (pw w) (pw L[i]) := by
    obtain ⟨w', hw', k, hk, he⟩ := mem_flatMap_rotations.1 hrow
    have hw'L : Lyndon w' := hfs w' (by rw [h.split]; exact List.mem_append_left _ hw')
    have hlex : lexLt w' w = false := by
      rcases List.mem_append.1 hw' with h1 | h1
      · have hp := hpw
        rw [h.split, List.append_assoc] at hp
        exact (List.pairwise_append.1 hp).2.2 w' h1 w (by simp)
      · rw [List.mem_singleton.1 h1]; exact lexLt_irrefl w
    rw [he]
    exact (lyndon_seqLe hw'L hwL hlex).trans (lyndon_le_rot hw'L k hk)
  -- `w` is a row not yet visited, and `i` is the least index of such a row
  have hle2 : SeqLe (pw L[i]) (pw w) := by
    have hmem : w ∈ (rem' ++ [w]).flatMap rotations :=
      List.mem_flatMap.2 ⟨w, by simp, hwrot⟩
    obtain ⟨u, huU, hue⟩ := List.mem_map.1 (h.rows.mem_iff.2 hmem)
    have hu := mem_unvis.1 huU
    rw [getD_eq L [] u hu.1] at hue
    rw [← hue]
    by_cases hiu : i = u
    · subst hiu; exact seqLe_refl _
    · have : i < u := by
        by_cases hlt : u < i
        · exact absurd (h.below u hlt) hu.2
        · omega
      exact List.pairwise_iff_getElem.1 hL.sorted i u hi hu.1 this
  have hXw : L[i] = w :=
    rotL_antisymm hXrot ⟨w, 0, hwL, List.length_pos_iff.2 hwL.1, (rot_zero w).symm⟩
      (seqEq_of_le_of_le hle2 hle1)
  subst hXw
  have hOsub : ∀ q ∈ orbR (lfOfL L) i L[i].length, q < L.length ∧ q ∉ vis := by
    intro q hq
    obtain ⟨a, ha, rfl⟩ := mem_orbR.1 hq
    exact ⟨itr_lt hL i hi a, itr_not_mem hL h.closed hi hiv a (by omega)⟩
  refine ⟨rem', by rw [h.split]; simp, ?_, ?_, ?_, ?_⟩
  · intro q hq
    rcases List.mem_append.1 hq with h1 | h1
    · exact List.mem_append_left _ (orbR_closed hL i hi q h1)
    · exact List.mem_append_right _ (h.closed q h1)
  · exact below_succ h.below (fun q h => List.mem_append_right _ h)
      (List.mem_append_left _ (mem_orbR.2 ⟨0, hmpos, rfl⟩))
  · rw [List.map_append, orbR_letters hL i hi _ (Nat.le_refl _), h.letters, Nat.sub_self,
      List.drop_zero, List.flatten_cons]
  · -- remove the rotations of `L[i]` on both sides
    have hsplit := (unvis_split L.length _ vis
      (orbR_nodup hL i hi _ (Nat.le_refl _)) hOsub).map (fun q => L.getD q [])
    rw [List.map_append] at hsplit
    have hrows := h.rows
    rw [List.flatMap_append, List.flatMap_singleton] at hrows
    exact (List.perm_append_left_iff _).1
      (((orbR_words hL i hi).symm.append_right _).trans
        ((hsplit.symm.trans hrows).trans List.perm_append_comm))

/-- the outer loop, started inside the invariant, spells the whole factorisation -/
theorem visit_main (hL : SortedRots L) (hfs : ∀ w ∈ fs, Lyndon w)
    (hpw : fs.Pairwise (fun a b => lexLt a b = false)) (hn : L.length = fs.flatten.length) :
    ∀ (fuel : Nat) (vis : List Nat) (i : Nat) (rem dn : List (List Nat)), Walk L fs vis i rem dn →
      L.length + 1 ≤ fuel + i →
      (visitGo (lfOfL L) L.length fuel vis i).map (fun q => (L.map lastL).getD q 0) = fs.flatten := by
  have hne : ∀ w ∈ fs, w ≠ [] := fun w hw => (hfs w hw).1
  intro fuel
  induction fuel with
  | zero =>
    intro vis i rem dn h hfuel
    refine h.finish hne (List.eq_nil_iff_forall_not_mem.2 fun q hq => ?_)
    have := mem_unvis.1 hq
    exact this.2 (h.below q (by omega))
  | succ f ih =>
    intro vis i rem dn h hfuel
    unfold visitGo
    by_cases hdone : L.length ≤ vis.length
    · rw [if_pos hdone]
      have hlenU := h.rows.length_eq
      have hlenV := congrArg List.length h.letters
      have hsum := congrArg (fun l => l.flatten.length) h.split
      simp only [List.length_map, flatMap_rotations_length, List.flatten_append,
        List.length_append] at hlenU hlenV hsum
      exact h.finish hne (List.eq_nil_of_length_eq_zero (by omega))
    · rw [if_neg hdone]
      by_cases hiv : i ∈ vis
      · rw [if_pos hiv]
        exact ih vis (i + 1) rem dn (h.skip hiv) (by omega)
      · rw [if_neg hiv]
        have hi : i < L.length := by
          apply Classical.byContradiction
          intro hc
          exact hdone (length_ge_of_all fun q hq => h.below q (by omega))
        obtain ⟨rem', h'⟩ := h.cycle hL hfs hpw hi hiv
        have hmpos : 0 < L[i].length :=
          List.length_pos_iff.2 (hL.rotl _ (List.getElem_mem hi)).ne_nil
        have hmlen : L[i].length ≤ L.length := by
          have := nodup_length_le (orbR_nodup hL i hi _ (Nat.le_refl _))
            (fun q hq => by obtain ⟨a, _, rfl⟩ := mem_orbR.1 hq; exact itr_lt hL i hi a)
          rwa [orbR_length] at this
        have hcyc : cycleGo (lfOfL L) (L.length + 1) vis i = _ :=
          cycleGo_orbit hL vis h.closed i hi hiv (L.length + 1) 0 hmpos (by omega)
        rw [hcyc]
        exact ih _ (i + 1) rem' _ h' (by omega)

end

end Kanzi.BWTS
