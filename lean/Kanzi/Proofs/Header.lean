/-
The version 6 stream header (`Kanzi/Model/Header.lean`): `readHeader` returns what `writeHeader`
wrote (`parseHeader_headerBits`), the writer only produces well-formed headers (`mkHeader_wf`), and
one inverted bit of the block-size field is always detected (`parseHeader_flip_blockSize`): the flip
moves the multiplicative hash by ± `crcHash * 2^p`, and for each of the 28 values of `p` that
difference survives the folding to 24 bits (`t_ok`, checked by `decide`; `fold24_detects`).
-/
import Kanzi.Model.Header
import Kanzi.Proofs.Bits

namespace Kanzi.Header

open Kanzi.Bits

theorem readBits_natBits_append (v n : Nat) (rest : Bits) :
    readBits n (natBits v n ++ rest) = .ok (v % 2 ^ n, rest) := by
  unfold readBits
  rw [if_neg (by simp), bitsNat_take_natBits, drop_natBits]

theorem headerBits_length (h : Header) : (headerBits h).length = 160 + 16 * (if h.szMask > 0 then h.szMask else 0) := by
  unfold headerBits
  split <;> simp [natBits_length] <;> omega

theorem validEntropy_lt {e : Nat} (h : validEntropy e = true) : e < 32 := by
  simp [validEntropy] at h; omega

theorem shift_block {b : Nat} (h16 : b % 16 = 0) : (b >>> 4) <<< 4 = b := by
  rw [Nat.shiftRight_eq_div_pow, Nat.shiftLeft_eq]
  omega

theorem shift_block_lt {b : Nat} (hi : b ≤ 2 ^ 30) : b >>> 4 < 2 ^ 28 := by
  rw [Nat.shiftRight_eq_div_pow]
  omega

/-! `headerBitsF h f c` has `f` in the 28-bit block field and `c` as stored CRC, so that a header with a
damaged block field is still of this form; `headerBits h = headerBitsF h (h.blockSize >>> 4) (headerCrc h)`. -/

def headerBitsF (h : Header) (f c : Nat) : Bits :=
  natBits magic 32 ++ natBits version 4 ++ natBits h.ckSize 2 ++ natBits h.entropyType 5 ++
  natBits h.transformType 48 ++ natBits f 28 ++ natBits h.szMask 2 ++
  (if h.szMask > 0 then natBits h.origSize (16 * h.szMask) else []) ++
  natBits 0 15 ++ natBits c 24

theorem headerBits_eq_F (h : Header) : headerBits h = headerBitsF h (h.blockSize >>> 4) (headerCrc h) := rfl

theorem parseHeader_headerBitsF (h : Header) (wf : WF h) (f c : Nat) (hf : f < 2 ^ 28) (rest : Bits) :
    parseHeader (headerBitsF h f c ++ rest) =
      if f <<< 4 < minBlockSize ∨ f <<< 4 > maxBlockSize then .error .blockSize
      else if c % 2 ^ 24 ≠ headerCrc { h with blockSize := f <<< 4 } % 2 ^ 24 then .error .crc
      else .ok ({ h with blockSize := f <<< 4 }, rest) := by
  obtain ⟨ck, ent, trLt, tr, bsLo, bsHi, bs16, mask, size⟩ := wf
  cases h with
  | mk ckS eT tT bS sM oS =>
  dsimp only at ck ent trLt tr mask size ⊢
  have e1 : ckS % 2 ^ 2 = ckS := Nat.mod_eq_of_lt (by omega)
  have e2 : eT % 2 ^ 5 = eT := Nat.mod_eq_of_lt (validEntropy_lt ent)
  have e3 : tT % 2 ^ 48 = tT := Nat.mod_eq_of_lt trLt
  have e4 : f % 2 ^ 28 = f := Nat.mod_eq_of_lt hf
  have e5 : sM % 2 ^ 2 = sM := Nat.mod_eq_of_lt (by omega)
  have e6 : oS % 2 ^ (16 * sM) = oS := Nat.mod_eq_of_lt size
  have m1 : magic % 2 ^ 32 = magic := by decide
  have m2 : version % 2 ^ 4 = version := by decide
  have hck : ¬ ckS = 3 := by omega
  unfold parseHeader headerBitsF
  simp only [List.append_assoc, readBits_natBits_append, bind, Except.bind, m1, m2, e1, e2, e3, e4, e5,
    ne_eq, not_true_eq_false, if_false, Nat.lt_irrefl, pure, Except.pure, hck, ent, tr,
    Bool.not_true, Bool.false_eq_true, gt_iff_lt]
  by_cases hb : f <<< 4 < minBlockSize ∨ maxBlockSize < f <<< 4
  · simp only [hb, if_true]
    rfl
  · simp only [hb, if_false]
    by_cases hm : sM = 0
    · subst hm
      have hs : oS = 0 := by simpa using size
      subst hs
      simp only [Nat.lt_irrefl, if_false, not_true_eq_false, List.nil_append, readBits_natBits_append,
        Nat.zero_mod]
      split <;> rfl
    · have hp : sM > 0 := Nat.pos_of_ne_zero hm
      simp only [hm, hp, if_true, not_false_eq_true, readBits_natBits_append, e6]
      split <;> rfl

theorem parseHeader_headerBits (h : Header) (wf : WF h) (rest : Bits) :
    parseHeader (headerBits h ++ rest) = .ok (h, rest) := by
  have hb : ¬ (h.blockSize < minBlockSize ∨ h.blockSize > maxBlockSize) :=
    not_or.2 ⟨Nat.not_lt.2 wf.bsLo, Nat.not_lt.2 wf.bsHi⟩
  rw [headerBits_eq_F, parseHeader_headerBitsF h wf _ _ (shift_block_lt wf.bsHi), shift_block wf.bs16,
    if_neg hb, if_neg (fun hne => hne rfl)]

/-- the 24 stored bits of `crcFold`, on the value of the accumulator -/
def fold24 (n : Nat) : Nat := (n / 2 ^ 3 % 2 ^ 24) ^^^ (n / 2 ^ 23)

theorem crcFold_toNat_mod (c : BitVec 32) : (crcFold c).toNat % 2 ^ 24 = fold24 c.toNat := by
  have hc := c.isLt
  unfold crcFold fold24
  rw [BitVec.toNat_xor, BitVec.toNat_ushiftRight, BitVec.toNat_ushiftRight, Nat.xor_comm,
    Nat.xor_mod_two_pow, Nat.shiftRight_eq_div_pow, Nat.shiftRight_eq_div_pow]
  have : c.toNat / 2 ^ 23 % 2 ^ 24 = c.toNat / 2 ^ 23 := by omega
  rw [this]

theorem fold24_xor (x y : Nat) : fold24 (x ^^^ y) = fold24 x ^^^ fold24 y := by
  unfold fold24
  rw [Nat.xor_div_two_pow, Nat.xor_div_two_pow, Nat.xor_mod_two_pow]
  simp only [Nat.xor_assoc]
  congr 1
  rw [← Nat.xor_assoc, ← Nat.xor_assoc, Nat.xor_comm (x / 2 ^ 23)]

/-- bits 9..23 of the fold of a 32-bit value are bits 12..26 of the value -/
theorem fold24_div (x : Nat) (hx : x < 2 ^ 32) : fold24 x / 2 ^ 9 = x % 2 ^ 27 / 2 ^ 12 := by
  unfold fold24
  rw [Nat.xor_div_two_pow, Nat.div_div_eq_div_mul, Nat.div_eq_of_lt (a := x) hx, Nat.xor_zero]
  omega

theorem fold24_low (x y : Nat) (h : x % 2 ^ 27 = y % 2 ^ 27) (hf : fold24 x = fold24 y) : x = y := by
  unfold fold24 at hf
  have h3 : x / 2 ^ 3 % 2 ^ 24 = y / 2 ^ 3 % 2 ^ 24 := by omega
  rw [h3] at hf
  have := xor_cancel_left hf
  clear hf h3
  omega

/-- the fold separates two accumulators that differ by a constant `t` (mod 2^32) whenever `t` has a set
bit in positions 12..26 that cannot be absorbed by a carry, or lives entirely in bits 27..31 -/
theorem fold24_detects (a a' t : Nat) (ha : a < 2 ^ 32) (h' : a' = (a + t) % 2 ^ 32)
    (ht : (4096 ≤ t % 2 ^ 27 ∧ t % 2 ^ 27 ≤ 2 ^ 27 - 4096) ∨ (t % 2 ^ 27 = 0 ∧ t % 2 ^ 32 ≠ 0)) :
    fold24 a ≠ fold24 a' := by
  intro heq
  subst h'
  rcases ht with ht | ht
  · have h2 := fold24_div _ (Nat.mod_lt (a + t) (by decide : 0 < 2 ^ 32))
    rw [← heq, fold24_div a ha] at h2
    clear heq
    omega
  · have := fold24_low a _ (by omega) heq
    clear heq
    omega

theorem notLo_xor (b p : Nat) : notLo (b ^^^ 2 ^ p) = notLo b ^^^ BitVec.twoPow 32 p := by
  unfold notLo
  ext i hi
  simp
  rw [← BitVec.getLsbD_eq_getElem, BitVec.getLsbD_ofNat, Nat.testBit_two_pow]
  simp [hi, eq_comm]

theorem getLsbD_not_of_getElem (N : BitVec 32) (p : Nat) (hp : p < 32) (hb : N.getLsbD p = false) : N[p] = false := by
  rw [← BitVec.getLsbD_eq_getElem]; exact hb

theorem xor_twoPow_add (N : BitVec 32) (p : Nat) (hp : p < 32) (hb : N.getLsbD p = false) :
    N ^^^ BitVec.twoPow 32 p = N + BitVec.twoPow 32 p := by
  have hb' := getLsbD_not_of_getElem N p hp hb
  rw [BitVec.add_eq_or_of_and_eq_zero]
  · ext i hi
    simp
    by_cases h : i = p
    · subst h; simp [hb']
    · simp [h]
  · ext i hi
    simp
    intro h1 h2
    subst h2
    rw [hb'] at h1
    exact Bool.noConfusion h1

/-- the hypothesis `ht` of `fold24_detects` for `t = crcHash * 2^p`, at each of the 28 bit positions
of the block-size field: a finite check on the constant `crcHash` -/
theorem t_ok : ∀ p, p < 32 → 4 ≤ p →
    (4096 ≤ (crcHash * BitVec.twoPow 32 p).toNat % 2 ^ 27 ∧
      (crcHash * BitVec.twoPow 32 p).toNat % 2 ^ 27 ≤ 2 ^ 27 - 4096) ∨
    ((crcHash * BitVec.twoPow 32 p).toNat % 2 ^ 27 = 0 ∧ (crcHash * BitVec.twoPow 32 p).toNat % 2 ^ 32 ≠ 0) := by
  decide

theorem mul_flip (N : BitVec 32) (p : Nat) (hp : p < 32) :
    crcHash * (N ^^^ BitVec.twoPow 32 p) = crcHash * N + crcHash * BitVec.twoPow 32 p ∨
    crcHash * N = crcHash * (N ^^^ BitVec.twoPow 32 p) + crcHash * BitVec.twoPow 32 p := by
  cases hb : N.getLsbD p with
  | false => left; rw [xor_twoPow_add N p hp hb, BitVec.mul_add]
  | true =>
    right
    have hb2 : (N ^^^ BitVec.twoPow 32 p).getLsbD p = false := by
      simp [hb, hp]
    have := xor_twoPow_add (N ^^^ BitVec.twoPow 32 p) p hp hb2
    rw [BitVec.xor_assoc, BitVec.xor_self, BitVec.xor_zero] at this
    rw [← BitVec.mul_add, ← this]

theorem fold24_mul_flip_ne (N : BitVec 32) (p : Nat) (hp : p < 32) (h4 : 4 ≤ p) :
    fold24 (crcHash * N).toNat ≠ fold24 (crcHash * (N ^^^ BitVec.twoPow 32 p)).toNat := by
  rcases mul_flip N p hp with h | h
  · apply fold24_detects _ _ (crcHash * BitVec.twoPow 32 p).toNat (crcHash * N).isLt _ (t_ok p hp h4)
    rw [h, BitVec.toNat_add]
  · intro heq
    refine fold24_detects _ _ (crcHash * BitVec.twoPow 32 p).toNat
      (crcHash * (N ^^^ BitVec.twoPow 32 p)).isLt ?_ (t_ok p hp h4) heq.symm
    rw [h, BitVec.toNat_add]

/-- the part of the accumulator that does not depend on the block size -/
def crcRest (h : Header) : BitVec 32 :=
  let c0 := crcHash * crcSeed
  let c1 := c0 ^^^ (crcHash * notLo h.ckSize)
  let c2 := c1 ^^^ (crcHash * notLo h.entropyType)
  let c3 := c2 ^^^ (crcHash * notHi h.transformType)
  let c4 := c3 ^^^ (crcHash * notLo h.transformType)
  if h.szMask > 0 then
    (c4 ^^^ (crcHash * notHi h.origSize)) ^^^ (crcHash * notLo h.origSize)
  else c4

theorem crcAcc_split (h : Header) : crcAcc h = (crcHash * notLo h.blockSize) ^^^ crcRest h := by
  unfold crcAcc crcRest
  split <;> (dsimp only; ac_rfl)

theorem headerCrc_mod (h : Header) :
    headerCrc h % 2 ^ 24 = fold24 (crcHash * notLo h.blockSize).toNat ^^^ fold24 (crcRest h).toNat := by
  unfold headerCrc
  rw [crcFold_toNat_mod, crcAcc_split, BitVec.toNat_xor, fold24_xor]

theorem headerCrc_flip_ne (h : Header) (p : Nat) (hp : p < 32) (h4 : 4 ≤ p) :
    headerCrc h % 2 ^ 24 ≠ headerCrc { h with blockSize := h.blockSize ^^^ 2 ^ p } % 2 ^ 24 := by
  rw [headerCrc_mod, headerCrc_mod]
  have hr : crcRest { h with blockSize := h.blockSize ^^^ 2 ^ p } = crcRest h := rfl
  rw [hr]
  dsimp only
  rw [notLo_xor]
  intro heq
  exact fold24_mul_flip_ne (notLo h.blockSize) p hp h4 (xor_cancel_right heq)

/-- the bit string with bit `i` inverted (unchanged when `i` is out of range) -/
def flipBit (bs : Bits) (i : Nat) : Bits := bs.set i (!bs.getD i false)

theorem flipBit_append_right (A B : Bits) (n j : Nat) (hA : A.length = n) :
    flipBit (A ++ B) (n + j) = A ++ flipBit B j := by
  unfold flipBit
  subst hA
  rw [List.set_append_right _ _ (by omega)]
  simp [List.getD_eq_getElem?_getD, List.getElem?_append_right]

theorem flipBit_append_left (A B : Bits) (j : Nat) (hj : j < A.length) :
    flipBit (A ++ B) j = flipBit A j ++ B := by
  unfold flipBit
  rw [List.set_append_left _ _ hj]
  simp [List.getD_eq_getElem?_getD, List.getElem?_append_left hj]

theorem natBits_getElem (v n j : Nat) (hj : j < (natBits v n).length) :
    (natBits v n)[j] = v.testBit (n - 1 - j) := by
  simp [natBits]

theorem flipBit_length (bs : Bits) (j : Nat) : (flipBit bs j).length = bs.length := by
  simp [flipBit]

theorem flipBit_getElem (bs : Bits) (j i : Nat) (h : i < (flipBit bs j).length) :
    (flipBit bs j)[i] = if j = i then !bs.getD j false else bs[i]'(by rw [flipBit_length] at h; exact h) := by
  simp [flipBit, List.getElem_set]

theorem flipBit_natBits (v n j : Nat) (hj : j < n) :
    flipBit (natBits v n) j = natBits (v ^^^ 2 ^ (n - 1 - j)) n := by
  apply List.ext_getElem
  · simp [flipBit_length, natBits_length]
  · intro i h1 h2
    have hi : i < n := by rw [natBits_length] at h2; exact h2
    rw [natBits_getElem, flipBit_getElem, Nat.testBit_xor, Nat.testBit_two_pow]
    split
    · rename_i hji
      subst hji
      rw [List.getD_eq_getElem?_getD, List.getElem?_eq_getElem (by rw [natBits_length]; exact hj),
        Option.getD_some, natBits_getElem]
      simp
    · rename_i hji
      rw [natBits_getElem]
      have : ¬ (n - 1 - j = n - 1 - i) := by omega
      simp [this]

theorem flipBit_headerBits (h : Header) (j : Nat) (hj : j < 28) :
    flipBit (headerBits h) (91 + j) = headerBitsF h ((h.blockSize >>> 4) ^^^ 2 ^ (27 - j)) (headerCrc h) := by
  rw [headerBits_eq_F]
  unfold headerBitsF
  simp only [List.append_assoc]
  rw [show 91 + j = 32 + (4 + (2 + (5 + (48 + j)))) by omega]
  rw [flipBit_append_right _ _ _ _ (natBits_length _ _), flipBit_append_right _ _ _ _ (natBits_length _ _),
    flipBit_append_right _ _ _ _ (natBits_length _ _), flipBit_append_right _ _ _ _ (natBits_length _ _),
    flipBit_append_right _ _ _ _ (natBits_length _ _),
    flipBit_append_left _ _ _ (by rw [natBits_length]; exact hj), flipBit_natBits _ _ _ hj]

/-- inverting any single bit of the 28-bit block-size field of a well-formed header makes
`readHeader` fail: with an out-of-range block size, or else with a CRC mismatch -/
theorem parseHeader_flip_blockSize (h : Header) (wf : WF h) (rest : Bits) (j : Nat) (hj : j < 28) :
    parseHeader (flipBit (headerBits h) (91 + j) ++ rest) = .error .blockSize ∨
    parseHeader (flipBit (headerBits h) (91 + j) ++ rest) = .error .crc := by
  have hf : (h.blockSize >>> 4) ^^^ 2 ^ (27 - j) < 2 ^ 28 :=
    Nat.xor_lt_two_pow (shift_block_lt wf.bsHi) (Nat.pow_lt_pow_right (by omega) (by omega))
  have hsh : ((h.blockSize >>> 4) ^^^ 2 ^ (27 - j)) <<< 4 = h.blockSize ^^^ 2 ^ (27 - j + 4) := by
    rw [Nat.shiftLeft_xor_distrib, shift_block wf.bs16, Nat.shiftLeft_eq, ← Nat.pow_add]
  rw [flipBit_headerBits h j hj, parseHeader_headerBitsF h wf _ _ hf, hsh]
  split
  · left; rfl
  · right
    rw [if_pos (headerCrc_flip_ne h (27 - j + 4) (by omega) (by omega))]

theorem szMaskOf_spec (n : Nat) :
    szMaskOf n ≤ 3 ∧ (if szMaskOf n > 0 then n else 0) < 2 ^ (16 * szMaskOf n) := by
  unfold szMaskOf
  by_cases h0 : n = 0
  · rw [if_pos h0]
    exact ⟨by decide, Nat.one_pos⟩
  rw [if_neg h0]
  by_cases h48 : n ≥ 2 ^ 48
  · rw [if_pos h48]
    exact ⟨by decide, Nat.one_pos⟩
  rw [if_neg h48]
  by_cases h32 : n ≥ 2 ^ 32
  · rw [if_pos h32]
    exact ⟨by decide, Nat.lt_of_not_le h48⟩
  rw [if_neg h32]
  by_cases h16 : n ≥ 2 ^ 16
  · rw [if_pos h16]
    exact ⟨by decide, Nat.lt_of_not_le h32⟩
  rw [if_neg h16]
  exact ⟨by decide, Nat.lt_of_not_le h16⟩

theorem mkHeader_wf (ck ent tr bs sz : Nat) (hck : ck ≤ 2) (hent : validEntropy ent = true)
    (htr : tr < 2 ^ 48) (hval : validTransform tr = true) (hlo : 1024 ≤ bs) (hhi : bs ≤ 2 ^ 30)
    (h16 : bs % 16 = 0) : WF (mkHeader ck ent tr bs sz) :=
  ⟨hck, hent, htr, hval, hlo, hhi, h16, (szMaskOf_spec sz).1, (szMaskOf_spec sz).2⟩

end Kanzi.Header
