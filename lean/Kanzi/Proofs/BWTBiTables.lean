/-
inverseBiPSIv2: the tables when the decoding tasks start, for ARBITRARY source bytes and
`1 <= pIdx <= n`.  The third loop pair (`biFill`) is a two level counting sort: level 1 (`freqs`) hands
every source index its row (`posOf`), level 2 scatters the row numbers by bigram (`putList_spec` asks
for pairwise disjoint bucket ranges only: the bigram starts are monotone in the flat key, not in the
bucket index).  After the transposition
`buckets[x<<8|y]` = one past the last row of bigram `x y` (`endK`), `data[start + j]` = the row written
for the j-th source index of that bigram, and no step of the table construction leaves its arrays
(`tables_spec`).
-/
import Kanzi.Proofs.BWTBiStarts

namespace Kanzi.BWT

/-! ### level 1: the `freqs` array while the source is scanned -/

/-- `freqs` before source index `i` -/
def FrAt (src : Array Nat) (fr : Array Nat) (i : Nat) : Prop :=
  fr.size = 256 ∧ ∀ c, c < 256 → rd fr c = fC src c + seen src i c

/-- row written into `data` for source index `j`: the row of `BWT'` (Model/BWT.lean, with the end-marker
row `p0`) it stands for -/
def rowOfIdx (p0 j : Nat) : Nat := if j < p0 then j else j + 1

/-- entry scattered for source index `j` (none for the index whose row is the end-marker row) -/
def entOf (src : Array Nat) (p0 off j : Nat) : Option (Nat × Nat) :=
  if posOf src j = p0 then none else some (Tix (keyOf src p0 j), j + off)

theorem biFill_eq (src : Array Nat) (hb : ∀ b ∈ src.toList, b < 256) (p0 off : Nat) (hp0 : p0 ≤ src.size)
    (k i : Nat) (hik : i + k ≤ src.size) (fr bk data : Array Nat) (hfr : FrAt src fr i)
    (r : Array Nat × Array Nat)
    (hr : putList ((List.range' i k).filterMap (entOf src p0 off)) bk data = some r) :
    ∃ fr', FrAt src fr' (i + k) ∧ biFill src p0 off k i fr bk data = some (fr', r.1, r.2) := by
  induction k generalizing i fr bk data with
  | zero =>
    simp only [List.range'_zero, List.filterMap_nil, putList] at hr
    injection hr with hr; subst hr
    exact ⟨fr, hfr, rfl⟩
  | succ k ih =>
    have hi : i < src.size := by omega
    have hc : src[i] < fr.size := by rw [hfr.1]; exact hb _ (by simp)
    have hc256 : src[i] < 256 := hb _ (by simp)
    have hp : fr[src[i]] = posOf src i := by
      rw [rd_eq_getElem hc, hfr.2 _ hc256, rd_eq_getElem hi]; rfl
    have hfr' : FrAt src (fr.set src[i] (fr[src[i]] + 1) hc) (i + 1) := by
      refine ⟨by rw [Array.size_set]; exact hfr.1, ?_⟩
      intro c hc'
      rw [rd_set, seen_succ src i c hi, ← rd_eq_getElem hi]
      by_cases h : src[i] = c
      · subst h; rw [rd_eq_getElem hc, hfr.2 _ hc256]; simp; omega
      · simp [h, hfr.2 c hc']
    have hpb := posOf_bounds src i hi
    rw [List.range'_succ, List.filterMap_cons] at hr
    have hnext : i + 1 + k = i + (k + 1) := by omega
    simp only [biFill, hi, dite_true, hc, hp]
    by_cases hpp : posOf src i = p0
    · have he : entOf src p0 off i = none := by simp [entOf, hpp]
      rw [he] at hr
      simp only at hr
      obtain ⟨fr2, h1, h2⟩ := ih (i + 1) (by omega) _ bk data hfr' hr
      rw [hnext] at h1
      refine ⟨fr2, h1, ?_⟩
      simp only [hpp, ite_true]
      simp only [hp, hpp] at h2
      exact h2
    · have he : entOf src p0 off i = some (Tix (keyOf src p0 i), i + off) := by simp [entOf, hpp]
      rw [he] at hr
      simp only [putList] at hr
      have hq : (if posOf src i < p0 then posOf src i else posOf src i - 1) < src.size := by
        split <;> omega
      have hkey : (src[i] <<< 8) ||| src[if posOf src i < p0 then posOf src i else posOf src i - 1]'hq
          = Tix (keyOf src p0 i) := by
        have hx : src[if posOf src i < p0 then posOf src i else posOf src i - 1]'hq = Lrow src p0 (posOf src i) := by
          rw [rd_eq_getElem hq]
          unfold Lrow
          split <;> rfl
        have hxl := Lrow_lt src hb p0 (posOf src i)
        rw [hx, shl8_or _ _ hxl]
        unfold keyOf flat Tix
        rw [← rd_eq_getElem hi]
        omega
      simp only [hpp, ite_false, hq, dite_true, hkey]
      cases hput : put bk data (Tix (keyOf src p0 i)) (i + off) with
      | none => rw [hput] at hr; cases hr
      | some r1 =>
        rw [hput] at hr
        simp only at hr
        obtain ⟨fr2, h1, h2⟩ := ih (i + 1) (by omega) _ r1.1 r1.2 hfr' hr
        rw [hnext] at h1
        refine ⟨fr2, h1, ?_⟩
        simp only [hp] at h2
        exact h2

/-! ### the transposition -/

theorem rd_swap (a : Array Nat) (i j k : Nat) (hi : i < a.size) (hj : j < a.size) :
    rd (a.swapIfInBounds i j) k = if k = i then rd a j else if k = j then rd a i else rd a k := by
  rw [Array.swapIfInBounds_def, dif_pos hi, dif_pos hj]
  simp only [rd, Array.getD_eq_getD_getElem?, Array.getElem?_swap]
  by_cases h1 : k = i
  · subst h1
    by_cases h2 : j = k
    · subst h2; simp [hi]
    · simp [h2, hj]
  · by_cases h2 : k = j
    · subst h2; simp [hi, h1]
    · have h1' : ¬ i = k := fun e => h1 e.symm
      have h2' : ¬ j = k := fun e => h2 e.symm
      simp [h1, h2, h1', h2']

/-- swaps of row `c`: `d` runs over the first `m` columns (`m <= c`) -/
def swapRow (bk : Array Nat) (c m : Nat) : Array Nat :=
  (List.range m).foldl (fun bk d => bk.swapIfInBounds ((d <<< 8) ||| c) ((c <<< 8) ||| d)) bk

theorem swapRow_spec (bk : Array Nat) (hs : bk.size = 65536) (c : Nat) (hc : c < 256) (m : Nat) (hm : m ≤ c) :
    (swapRow bk c m).size = 65536 ∧
    ∀ x y, x < 256 → y < 256 →
      rd (swapRow bk c m) (x * 256 + y)
        = if (x = c ∧ y < m) ∨ (y = c ∧ x < m) then rd bk (y * 256 + x) else rd bk (x * 256 + y) := by
  induction m with
  | zero =>
    refine ⟨hs, ?_⟩
    intro x y _ _
    have : ¬ ((x = c ∧ y < 0) ∨ (y = c ∧ x < 0)) := by omega
    simp only [swapRow, List.range_zero, List.foldl_nil, this, ite_false]
  | succ m ih =>
    obtain ⟨h1, h2⟩ := ih (by omega)
    have hstep : swapRow bk c (m + 1)
        = (swapRow bk c m).swapIfInBounds ((m <<< 8) ||| c) ((c <<< 8) ||| m) := by
      simp only [swapRow, List.range_succ, List.foldl_append, List.foldl_cons, List.foldl_nil]
    have e1 : (m <<< 8) ||| c = m * 256 + c := shl8_or m c hc
    have e2 : (c <<< 8) ||| m = c * 256 + m := shl8_or c m (by omega)
    rw [hstep, e1, e2]
    refine ⟨by rw [Array.size_swapIfInBounds]; exact h1, ?_⟩
    intro x y hx hy
    have hm256 : m < 256 := by omega
    rw [rd_swap _ _ _ _ (by rw [h1]; omega) (by rw [h1]; omega)]
    by_cases ha : x = m ∧ y = c
    · obtain ⟨rfl, rfl⟩ := ha
      rw [if_pos rfl, h2 y x hy hx, if_neg (by omega), if_pos (by omega)]
    · rw [if_neg (fun e => ha ((flat_inj hy hc).1 e))]
      by_cases hb' : x = c ∧ y = m
      · obtain ⟨rfl, rfl⟩ := hb'
        rw [if_pos rfl, h2 y x hy hx, if_neg (by omega), if_pos (by omega)]
      · rw [if_neg (fun e => hb' ((flat_inj hy hm256).1 e)), h2 x y hx hy]
        by_cases h3 : (x = c ∧ y < m) ∨ (y = c ∧ x < m)
        · rw [if_pos h3, if_pos (by omega)]
        · rw [if_neg h3, if_neg (by omega)]

def transposeUpTo (bk : Array Nat) (m : Nat) : Array Nat :=
  (List.range m).foldl (fun bk c => swapRow bk c c) bk

theorem transposeUpTo_spec (bk : Array Nat) (hs : bk.size = 65536) (m : Nat) (hm : m ≤ 256) :
    (transposeUpTo bk m).size = 65536 ∧
    ∀ x y, x < 256 → y < 256 →
      rd (transposeUpTo bk m) (x * 256 + y)
        = if x < m ∧ y < m then rd bk (y * 256 + x) else rd bk (x * 256 + y) := by
  induction m with
  | zero =>
    refine ⟨hs, ?_⟩
    intro x y _ _
    have : ¬ (x < 0 ∧ y < 0) := by omega
    simp only [transposeUpTo, List.range_zero, List.foldl_nil, this, ite_false]
  | succ m ih =>
    obtain ⟨h1, h2⟩ := ih (by omega)
    have hstep : transposeUpTo bk (m + 1) = swapRow (transposeUpTo bk m) m m := by
      simp only [transposeUpTo, List.range_succ, List.foldl_append, List.foldl_cons, List.foldl_nil]
    obtain ⟨h3, h4⟩ := swapRow_spec (transposeUpTo bk m) h1 m (by omega) m (Nat.le_refl _)
    rw [hstep]
    refine ⟨h3, ?_⟩
    intro x y hx hy
    rw [h4 x y hx hy]
    by_cases h5 : (x = m ∧ y < m) ∨ (y = m ∧ x < m)
    · rw [if_pos h5, h2 y x hy hx, if_neg (by omega), if_pos (by omega)]
    · rw [if_neg h5, h2 x y hx hy]
      by_cases h6 : x < m ∧ y < m
      · rw [if_pos h6, if_pos (by omega)]
      · rw [if_neg h6]
        by_cases h7 : x < m + 1 ∧ y < m + 1
        · -- then x = y = m
          have : x = m ∧ y = m := by omega
          rw [if_pos h7, this.1, this.2]
        · rw [if_neg h7]

theorem transpose_eq (bk : Array Nat) : transpose bk = transposeUpTo bk 256 := rfl

theorem transpose_spec (bk : Array Nat) (hs : bk.size = 65536) :
    (transpose bk).size = 65536 ∧ ∀ kk, kk < 65536 → rd (transpose bk) kk = rd bk (Tix kk) := by
  obtain ⟨h1, h2⟩ := transposeUpTo_spec bk hs 256 (Nat.le_refl _)
  rw [transpose_eq]
  refine ⟨h1, ?_⟩
  intro kk hk
  have hx : kk / 256 < 256 := Nat.div_lt_of_lt_mul (by omega)
  have := h2 (kk / 256) (kk % 256) hx (Nat.mod_lt _ (by decide))
  have e : kk / 256 * 256 + kk % 256 = kk := Nat.div_add_mod' kk 256
  rw [e] at this
  rw [this, if_pos ⟨hx, Nat.mod_lt _ (by decide)⟩]
  unfold Tix
  rw [Nat.add_comm]

/-! ### the scattered entries -/

theorem filterMap_entOf (src : Array Nat) (p0 off : Nat) (l : List Nat) :
    l.filterMap (entOf src p0 off)
      = (l.filter (fun j => posOf src j ≠ p0)).map (fun j => (Tix (keyOf src p0 j), j + off)) := by
  induction l with
  | nil => rfl
  | cons j l ih =>
    rw [List.filterMap_cons, List.filter_cons]
    by_cases h : posOf src j = p0 <;> simp [entOf, h, ih]

/-- all entries, in the order the two loops scatter them -/
def entries2 (src : Array Nat) (p0 : Nat) : List (Nat × Nat) :=
  (liveIdx src p0).map (fun j => (Tix (keyOf src p0 j), rowOfIdx p0 j))

theorem entries2_eq (src : Array Nat) (p0 : Nat) (hp0 : p0 ≤ src.size) :
    (List.range' 0 p0).filterMap (entOf src p0 0) ++ (List.range' p0 (src.size - p0)).filterMap (entOf src p0 1)
      = entries2 src p0 := by
  rw [filterMap_entOf, filterMap_entOf, entries2, liveIdx]
  have hsplit : List.range src.size = List.range' 0 p0 ++ List.range' p0 (src.size - p0) := by
    rw [List.range_eq_range']
    have : src.size = p0 + (src.size - p0) := by omega
    conv => lhs; rw [this]
    rw [← List.range'_append_1]; simp
  rw [hsplit, List.filter_append, List.map_append]
  congr 1
  · apply List.map_congr_left
    intro j hj
    have := (List.mem_filter.1 hj).1
    rw [List.mem_range'_1] at this
    have h2 : j < p0 := by omega
    simp [rowOfIdx, h2]
  · apply List.map_congr_left
    intro j hj
    have := (List.mem_filter.1 hj).1
    rw [List.mem_range'_1] at this
    have : ¬ j < p0 := by omega
    simp [rowOfIdx, this]

theorem ebucket_entries2 (src : Array Nat) (hb : ∀ b ∈ src.toList, b < 256) (p0 t : Nat) (ht : t < 65536) :
    (ebucket (entries2 src p0) t).length = cntK src p0 (Tix t) := by
  rw [cntK_eq src hb p0 (Tix t)]
  simp only [ebucket, bucket, entries2, List.filter_map, List.length_map]
  congr 1
  apply List.filter_congr
  intro j _
  simp only [Function.comp]
  have hk := keyOf_lt src hb p0 j
  by_cases h : keyOf src p0 j = Tix t
  · have hA : Tix (keyOf src p0 j) = t := by rw [h, Tix_Tix t ht]
    simp [h, Tix_Tix t ht]
  · have : ¬ Tix (keyOf src p0 j) = t := by
      intro e
      apply h
      rw [← e, Tix_Tix _ hk]
    simp [h, this]

/-- the state of `buckets`, `data` when the tasks start -/
structure Tables (src : Array Nat) (p0 : Nat) (data0 bk data : Array Nat) : Prop where
  bksize : bk.size = 65536
  dsize : data.size = data0.size
  ends : ∀ kk, kk < 65536 → rd bk kk = endK src p0 kk
  rows : ∀ kk, kk < 65536 → ∀ j, j < cntK src p0 kk →
    rd data (startK src p0 kk + j)
      = ((ebucket (entries2 src p0) (Tix kk)).getD j (0, 0)).2
  rest : ∀ r, (∀ kk, kk < 65536 → ¬ (startK src p0 kk ≤ r ∧ r < endK src p0 kk)) → rd data r = rd data0 r

/-- THE TABLES for arbitrary bytes and `1 <= pIdx <= n`: the three construction loops and the
transposition run without leaving their arrays and produce `Tables`. -/
theorem tables_spec (src : Array Nat) (hb : ∀ b ∈ src.toList, b < 256) (p0 : Nat) (hp : 1 ≤ p0 ∧ p0 ≤ src.size)
    (hn : src.size < 2 ^ 64) (data0 : Array Nat) (hd : src.size + 1 ≤ data0.size) :
    ∃ fr bk1 bk2 fbs v fr3 bk3 d3 fr4 bk4 d4,
      biHist src (histogram src) p0 256 0 1 (Array.emptyWithCapacity 256) (Array.replicate 65536 0) = some (fr, bk1) ∧
      biStarts (rd src 0) (shiftOf src.size) 256 0 0 1 bk1 (Array.replicate (MASK_FASTBITS + 1) 0) = some (bk2, fbs) ∧
      biFill src p0 0 p0 0 fr bk2 data0 = some (fr3, bk3, d3) ∧
      biFill src p0 1 (src.size - p0) p0 fr3 bk3 d3 = some (fr4, bk4, d4) ∧
      StInv src p0 (shiftOf src.size) 65536 v bk2 fbs ∧
      Tables src p0 data0 (transpose bk4) d4 := by
  obtain ⟨fr, bk1, r1, hinv1⟩ := biHist_run src hb p0 hp.2
  have hshift := shiftOf_spec src.size hn
  have hst0 : StInv src p0 (shiftOf src.size) (0 * 256) 0 bk1 (Array.replicate (MASK_FASTBITS + 1) 0) := by
    refine ⟨hinv1.bksize, by simp [MASK_FASTBITS, NB_FASTBITS], ?_, ?_, ?_, ?_, ?_⟩
    · intro t ht; omega
    · intro t _ ht
      have := hinv1.done (t % 256) (t / 256) (Nat.mod_lt _ (by decide)) (by omega)
      unfold Tix cntK
      rw [← this]; congr 1; omega
    · intro t ht; omega
    · intro u; rw [rd_replicate]; split <;> decide
    · intro u hu; omega
  obtain ⟨v, bk2, fbs, r2, hst⟩ := biStarts_spec src hb p0 hp (shiftOf src.size) hshift 256 0 0 rfl bk1 _ hst0
  have hsum0 : 1 + (if rd src 0 < 0 then 1 else 0) + psum (cntK src p0) (0 * 256) = 1 := by
    simp [psum]
  rw [hsum0] at r2
  -- level 2: bucket `c` of `buckets` starts at `startK (Tix c)`; the ranges are ordered by `Tix c`, hence disjoint
  have hC : ∀ c, c < bk2.size → rd bk2 c = startK src p0 (Tix c) := by
    intro c hc
    rw [hst.bksize] at hc
    have := hst.done (Tix c) (Tix_lt c hc)
    rwa [Tix_Tix c hc] at this
  obtain ⟨bk4, d4, hrun, hdsz, hbsz, hB, hD, hU⟩ := putList_spec (entries2 src p0)
    (fun c => startK src p0 (Tix c)) bk2 data0
    (by
      intro e he
      obtain ⟨j, _, rfl⟩ := List.mem_map.1 he
      rw [hst.bksize]
      exact Tix_lt _ (keyOf_lt src hb p0 j))
    hC
    (by
      intro c c2 hc hc2 hne
      rw [hst.bksize] at hc hc2
      rw [ebucket_entries2 src hb p0 c hc, ebucket_entries2 src hb p0 c2 hc2]
      have hne' : Tix c ≠ Tix c2 := fun e => hne (Tix_inj c c2 hc hc2 e)
      rcases Nat.lt_or_gt_of_ne hne' with h | h
      · exact Or.inl (endK_le_startK src p0 h)
      · exact Or.inr (endK_le_startK src p0 h))
    (by
      intro c hc
      rw [hst.bksize] at hc
      rw [ebucket_entries2 src hb p0 c hc]
      have := endK_le src hb p0 hp (Tix c) (Tix_lt c hc)
      unfold endK at this
      omega)
  rw [← entries2_eq src p0 hp.2] at hrun
  obtain ⟨m, hm1, hm2⟩ := putList_append_some hrun
  have hfr0 : FrAt src fr 0 := by
    refine ⟨hinv1.frsize, ?_⟩
    intro c hc
    rw [hinv1.fr c hc]
    simp [seen]
  obtain ⟨fr3, hfr3, f1⟩ := biFill_eq src hb p0 0 hp.2 p0 0 (by omega) fr bk2 data0 hfr0 m hm1
  rw [Nat.zero_add] at hfr3
  obtain ⟨fr4, _, f2⟩ := biFill_eq src hb p0 1 hp.2 (src.size - p0) p0 (by omega) fr3 m.1 m.2 hfr3 (bk4, d4) hm2
  refine ⟨fr, bk1, bk2, fbs, v, fr3, m.1, m.2, fr4, bk4, d4, r1, r2, f1, f2, hst, ?_⟩
  rw [hst.bksize] at hbsz hB hD hU
  obtain ⟨t1, t2⟩ := transpose_spec bk4 hbsz
  refine ⟨t1, hdsz, ?_, ?_, ?_⟩
  · intro kk hk
    rw [t2 kk hk, hB (Tix kk) (Tix_lt kk hk), ebucket_entries2 src hb p0 _ (Tix_lt kk hk), Tix_Tix kk hk]
    rfl
  · intro kk hk j hj
    have := hD (Tix kk) (Tix_lt kk hk) j (by rw [ebucket_entries2 src hb p0 _ (Tix_lt kk hk), Tix_Tix kk hk]; exact hj)
    simp only [Tix_Tix kk hk] at this
    exact this
  · intro r hr
    apply hU
    intro c hc ⟨h1, h2⟩
    rw [ebucket_entries2 src hb p0 c hc] at h2
    exact hr (Tix c) (Tix_lt c hc) ⟨h1, h2⟩

end Kanzi.BWT
