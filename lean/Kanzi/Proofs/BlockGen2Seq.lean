/-
Proofs for `Kanzi/Model/BlockGen2.lean`, the transform sequence: the per-transform law `Tr2.Law`, with the numeric
side of its output bound stated once (`Grow`); the sharp bound that follows a block through a sequence (`runG`, beside
`runMax` of `Proofs/Seq.lean`); and the chain of classes that lawful transforms give to `Steps` (`steps_of_law3`,
whence `seq3_roundtrip`; this last part lives in the namespace `Kanzi.BlockGen3`, where `Law3` is used).

Because SRT and MM may EXPAND a block, the classes are graded: `Upto s` = "bytes, at most `s` of them", where `s`
follows the sharp per-stage bound `g` (`runG`), and `m ≥ s` follows `MaxEncodedLen` (`runMax` = `MaxEncodedLen` of the
rest of the sequence).

The loops are compared under a per-transform law that asks LESS of Inverse than `Tr2.Law`:

  `Law3 t g lim P`: as `Tr2.Law`, but Inverse is only required to restore the block into a destination that is
  STRICTLY longer than the block and whose size satisfies `P` (an admissible destination size).

This is what `transform.TextCodec` satisfies: codec 1 fails into a destination of exactly the block
length when the block ends with an escape byte, and both codecs compute `uint32(len(dst)/128)`, which wraps from
2^39 on.  The sequence always inverts into buffers longer than the block (`dl ≥ blockSize + 512`), so nothing is
lost: the price is the STRICT version `Grow.gboundS` of the bound that links the output bound `g` to `MaxEncodedLen`
(an input shorter than the bound handed to `MaxEncodedLen` has an output shorter than the next bound), which `Grow`
yields because `g` is strictly monotone.  `Tr2.Law` gives `Law3` for every `P` (`Law3.ofLaw`).
-/
import Kanzi.Model.BlockGen2
import Kanzi.Proofs.BlockGen

namespace Kanzi.BlockGen2
open Kanzi.Bits Kanzi.TrSmall Kanzi.Block Kanzi.BlockGen

def Bytes (x : List Nat) : Prop := ∀ b ∈ x, b < 256

/-- the output bound `g` of a transform: strictly monotone, and below `MaxEncodedLen` for inputs up to `lim + 1` bytes
(one step above `lim`: that is what makes the strict form `gboundS` a consequence) -/
structure Grow (g maxLen : Nat → Nat) (lim : Nat) : Prop where
  strict : ∀ a, g a < g (a + 1)
  bound : ∀ s r, s ≤ r → s ≤ lim + 1 → g s ≤ max r (maxLen r)

theorem Grow.mono {g maxLen : Nat → Nat} {lim : Nat} (h : Grow g maxLen lim) : ∀ a b, a ≤ b → g a ≤ g b := by
  intro a b hab
  induction b with
  | zero => rw [Nat.le_zero.1 hab]; exact Nat.le_refl _
  | succ b ih =>
    by_cases e : a = b + 1
    · rw [e]; exact Nat.le_refl _
    · exact Nat.le_trans (ih (by omega)) (Nat.le_of_lt (h.strict b))

theorem Grow.gbound {g maxLen : Nat → Nat} {lim : Nat} (h : Grow g maxLen lim) (s r : Nat) (hsr : s ≤ r)
    (hs : s ≤ lim) : g s ≤ max r (maxLen r) := h.bound s r hsr (by omega)

/-- an input shorter than the bound handed to `MaxEncodedLen` has an output shorter than the next bound -/
theorem Grow.gboundS {g maxLen : Nat → Nat} {lim : Nat} (h : Grow g maxLen lim) (s r : Nat) (hsr : s < r)
    (hs : s ≤ lim) : max s (g s) < max r (maxLen r) := by
  have h1 := h.strict s
  have h2 := h.bound (s + 1) r hsr (by omega)
  omega

theorem grow_id (maxLen : Nat → Nat) (lim : Nat) : Grow (fun a => a) maxLen lim :=
  ⟨fun a => Nat.lt_succ_self a, fun _ r h _ => Nat.le_trans h (Nat.le_max_left r _)⟩

/-- the law of one transform: `g` = a bound on the output length (strictly monotone; below `MaxEncodedLen` in the
sense of `Grow`); for every hint `dt`, every block of bytes of at most `lim` bytes and every non-empty
destination, a successful Forward returns bytes, at most `g len` of them, which Inverse turns back into
the block in any destination of at least `len` bytes.  (Every Forward of the modelled transforms checks
`len(dst) ≥ MaxEncodedLen(len(src))` itself and declines otherwise; `MaxEncodedLen` of RLT is not
monotone — 544 for 512 bytes, 513 for 513 —, so a stage that follows a shrinking stage can find the
destination of the sequence too small: it is then skipped.) -/
structure Tr2.Law (t : Tr2) (g : Nat → Nat) (lim : Nat) : Prop where
  grow : Grow g t.maxLen lim
  invNil : ∀ n, t.inv [] n = .ok []
  rt : ∀ dt x d y, Bytes x → x.length ≤ lim → 0 < d → t.fwd dt x d = .ok y →
    Bytes y ∧ y.length ≤ g x.length ∧ ∀ n, x.length ≤ n → t.inv y n = .ok x

/-- the first checks of a Forward that tests its destination: an empty block or an empty destination gives an empty
output; otherwise a destination below `MaxEncodedLen` is declined -/
def Tr2.Guarded (t : Tr2) : Prop :=
  ∀ dt x d, x.length = 0 ∨ d < t.maxLen x.length →
    ∃ e, t.fwd dt x d = if x.length = 0 ∨ d = 0 then .ok [] else .error e

/-- for a guarded transform the round trip is only needed for non-empty blocks and destinations of at least
`MaxEncodedLen` bytes: the form in which the round-trip theorems of the individual transforms are stated -/
theorem Tr2.Law.of_guarded {t : Tr2} {g : Nat → Nat} {lim : Nat} (hg : t.Guarded) (grow : Grow g t.maxLen lim)
    (invNil : ∀ n, t.inv [] n = .ok [])
    (rt : ∀ dt x d y, Bytes x → x ≠ [] → x.length ≤ lim → 0 < d → t.maxLen x.length ≤ d → t.fwd dt x d = .ok y →
      Bytes y ∧ y.length ≤ g x.length ∧ ∀ n, x.length ≤ n → t.inv y n = .ok x) : t.Law g lim where
  grow := grow
  invNil := invNil
  rt := by
    intro dt x d y hb hl hd hf
    by_cases hx : x.length = 0
    · obtain ⟨e, he⟩ := hg dt x d (.inl hx)
      rw [he, if_pos (.inl hx)] at hf
      injection hf with hf
      subst hf
      rw [List.eq_nil_of_length_eq_zero hx]
      exact ⟨fun _ h => (nomatch h), Nat.zero_le _, fun n _ => invNil n⟩
    · by_cases hlt : d < t.maxLen x.length
      · obtain ⟨e, he⟩ := hg dt x d (.inr hlt)
        rw [he, if_neg (by omega)] at hf
        cases hf
      · exact rt dt x d y hb (fun h => hx (by rw [h]; rfl)) hl hd (by omega) hf

/-- the sharp bound on the length after the sequence -/
def runG : List LTr → Nat → Nat
  | [], s => s
  | l :: ls, s => runG ls (max s (l.g s))

theorem le_runG : ∀ (ls : List LTr) (s : Nat), s ≤ runG ls s := by
  intro ls
  induction ls with
  | nil => intro s; exact Nat.le_refl _
  | cons l ls ih =>
    intro s
    rw [runG]
    have := ih (max s (l.g s))
    omega

theorem runG_mono : ∀ (ls : List LTr), (∀ l ∈ ls, ∀ a b, a ≤ b → l.g a ≤ l.g b) →
    ∀ a b, a ≤ b → runG ls a ≤ runG ls b := by
  intro ls
  induction ls with
  | nil => intro _ a b h; exact h
  | cons l ls ih =>
    intro hm a b hab
    have hl := hm l (List.mem_cons_self ..) a b hab
    rw [runG, runG]
    apply ih (fun s hs => hm s (List.mem_cons_of_mem _ hs))
    omega

end Kanzi.BlockGen2

namespace Kanzi.BlockGen3
open Kanzi.Bits Kanzi.TrSmall Kanzi.Block Kanzi.BlockGen Kanzi.BlockGen2

/-- the law of one transform as the comparison of the loops uses it: Inverse has to restore the block only into
destinations strictly longer than the block whose size satisfies `P`; in exchange the law asks for a non-empty
output on a non-empty block -/
structure Law3 (t : Tr2) (g : Nat → Nat) (lim : Nat) (P : Nat → Prop) : Prop where
  grow : Grow g t.maxLen lim
  rt : ∀ dt x d y, Bytes x → x.length ≤ lim → 0 < d → t.fwd dt x d = .ok y →
    Bytes y ∧ y.length ≤ g x.length ∧ (x ≠ [] → y ≠ []) ∧ ∀ n, x.length < n → P n → t.inv y n = .ok x

/-- `Tr2.Law` (Inverse restores into every destination of at least the block length) gives `Law3` for every `P`; the
non-empty output comes from `invNil` -/
theorem Law3.ofLaw {t : Tr2} {g : Nat → Nat} {lim : Nat} (h : t.Law g lim) (P : Nat → Prop) : Law3 t g lim P where
  grow := h.grow
  rt := by
    intro dt x d y hb hl hd hf
    obtain ⟨h1, h2, h3⟩ := h.rt dt x d y hb hl hd hf
    refine ⟨h1, h2, fun hx hy => ?_, fun n hn _ => h3 n (Nat.le_of_lt hn)⟩
    subst hy
    have := h3 x.length (Nat.le_refl _)
    rw [h.invNil] at this
    injection this with this
    exact hx this.symm

theorem runG_le_runMax3 (lim : Nat) (P : Nat → Prop) : ∀ (ls : List LTr), (∀ l ∈ ls, Law3 l.t l.g lim P) →
    ∀ s m, s ≤ m → runG ls s ≤ lim → runG ls s ≤ runMax ls m := by
  intro ls
  induction ls with
  | nil => intro _ s m h _; exact h
  | cons l ls ih =>
    intro hlaw s m hsm hlim
    have hL := hlaw l (List.mem_cons_self ..)
    rw [runG] at hlim ⊢
    rw [runMax]
    have hslim : s ≤ lim := Nat.le_trans (Nat.le_trans (Nat.le_max_left s (l.g s)) (le_runG ls _)) hlim
    have hs' : max s (l.g s) ≤ (if l.t.maxLen m > m then l.t.maxLen m else m) := by
      have h1 := hL.grow.gbound s m hsm hslim
      split <;> omega
    exact ih (fun l' h' => hlaw l' (List.mem_cons_of_mem _ h')) _ _ hs' hlim

/-- blocks of bytes of at most `s` bytes -/
def Upto (s : Nat) (x : List Nat) : Prop := Bytes x ∧ x.length ≤ s

/-- lawful transforms lead from `Upto s` to `Upto (runG ls s)`; `m` follows `MaxEncodedLen` of the sequence, and stays
STRICTLY above `s` (`gboundS`), so that every stage inverts into a destination `n ≥ runMax ls m` longer than its block -/
theorem steps_of_law3 (lim req l0 n : Nat) (P : Nat → Prop) (A : Prop) (hreq0 : 0 < req) (hl0 : 0 < l0) :
    ∀ (ls : List LTr) (s m : Nat), (∀ l ∈ ls, Law3 l.t l.g lim P) → runG ls s ≤ lim →
      (A → s < m ∧ runMax ls m ≤ n ∧ P n) → Steps req l0 n A (ltrs ls) (Upto s) (Upto (runG ls s))
  | [], _, _, _, _, _ => fun _ h => h
  | l :: rest, s, m, hlaw, hlim, hA => by
    have hL := hlaw l (List.mem_cons_self ..)
    have hslim : s ≤ lim := Nat.le_trans (Nat.le_trans (Nat.le_max_left s (l.g s)) (le_runG rest _)) hlim
    refine ⟨Upto (max s (l.g s)), fun x h => ⟨h.1, Nat.le_trans h.2 (Nat.le_max_left ..)⟩, ?_,
      steps_of_law3 lim req l0 n P A hreq0 hl0 rest _ (if l.t.maxLen m > m then l.t.maxLen m else m)
        (fun l' h' => hlaw l' (List.mem_cons_of_mem _ h')) hlim fun a => ?_⟩
    · intro dt d x y hd hx hf
      obtain ⟨h1, h2, h3, h4⟩ := hL.rt dt x d y hx.1 (Nat.le_trans hx.2 hslim)
        (by rcases hd with rfl | rfl <;> assumption) hf
      refine ⟨⟨h1, ?_⟩, h3, fun a => ?_⟩
      · have := hL.grow.mono x.length s hx.2
        omega
      · obtain ⟨hsm, hn, hP⟩ := hA a
        have := le_runMax (l :: rest) m
        exact h4 n (by have := hx.2; omega) hP
    · obtain ⟨hsm, hn, hP⟩ := hA a
      have := hL.grow.gboundS s m hsm hslim
      exact ⟨by split <;> omega, hn, hP⟩

/-- the sequence: the output of `Forward` (into non-empty destinations) consists of bytes, is at most `runG ls len`
bytes long and is empty only for an empty block; `Inverse` into buffers of `n` bytes, `n` admissible and at least
`MaxEncodedLen` of the sequence on some `m` above the block length, undoes it -/
theorem seq3_roundtrip (lim req l0 n dt m : Nat) (P : Nat → Prop) (ls : List LTr) (x : List Nat)
    (hlaw : ∀ l ∈ ls, Law3 l.t l.g lim P) (hlen : ls.length ≤ 8) (hreq0 : 0 < req) (hl0 : 0 < l0)
    (hb : Bytes x) (hlim : runG ls x.length ≤ lim) :
    (x.length < m → runMax ls m ≤ n → P n →
      seqInverse (stagesOf (trsOf (ltrs ls)) 0 n) (seqForward2 (ltrs ls) req l0 dt x).2
        (seqForward2 (ltrs ls) req l0 dt x).1 = .ok x) ∧
      Bytes (seqForward2 (ltrs ls) req l0 dt x).1 ∧
      (seqForward2 (ltrs ls) req l0 dt x).1.length ≤ runG ls x.length ∧
      (x ≠ [] → (seqForward2 (ltrs ls) req l0 dt x).1 ≠ []) := by
  obtain ⟨h1, h2, h3⟩ := seq_steps req l0 n dt (x.length < m ∧ runMax ls m ≤ n ∧ P n) _ _ _ x
    (steps_of_law3 lim req l0 n P _ hreq0 hl0 ls x.length m hlaw hlim id)
    (by simp only [ltrs, List.length_map]; exact hlen) ⟨hb, Nat.le_refl _⟩
  exact ⟨fun a b c => h1 ⟨a, b, c⟩, h2.1, h2.2, h3⟩

end Kanzi.BlockGen3
