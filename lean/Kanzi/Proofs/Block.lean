/-
Proofs for the NONE/NONE block codec and the stream image (`Kanzi/Model/Block.lean`).
Property statements: `Kanzi/Properties/C01_none.lean`.
-/
import Kanzi.Model.Block
import Kanzi.Proofs.BlockLemmas
import Kanzi.Proofs.Container
import Kanzi.Proofs.Header
import Kanzi.Drv.Stream
import Kanzi.Spec.Stream

namespace Kanzi.Block
open Kanzi.Bits

theorem readBits_natBits_append (v n : Nat) (rest : Bits) :
    readBits n (natBits v n ++ rest) = .ok (v % 2 ^ n, rest) := by
  unfold readBits
  rw [if_neg (by simp), bitsNat_take_natBits, drop_natBits]

theorem ckWidth_cases (ck : Nat) : ckWidth ck = 0 ∨ ckWidth ck = 32 ∨ ckWidth ck = 64 := by
  unfold ckWidth
  by_cases h1 : ck = 32
  · simp [h1]
  · by_cases h2 : ck = 64 <;> simp [h1, h2]

theorem ckWidth_of (ck : Nat) (h : ck = 0 ∨ ck = 32 ∨ ck = 64) : ckWidth ck = ck := by
  rcases h with rfl | rfl | rfl <;> rfl

theorem dataSizeOf_pos (n : Nat) : 1 ≤ dataSizeOf n := by
  unfold dataSizeOf; split <;> omega

theorem dataSizeOf_le (n : Nat) (h : n < 2 ^ 32) : dataSizeOf n ≤ 4 := by
  unfold dataSizeOf
  split
  · omega
  · have : n.log2 < 32 := (Nat.log2_lt (by omega)).2 h
    omega

theorem lt_pow_dataSizeOf (n : Nat) : n < 2 ^ (8 * dataSizeOf n) := by
  unfold dataSizeOf
  split
  · omega
  · have h1 : n < 2 ^ (n.log2 + 1) := Nat.lt_log2_self
    have h2 : n.log2 + 1 ≤ 8 * (n.log2 / 8 + 1) := by omega
    exact Nat.lt_of_lt_of_le h1 (Nat.pow_le_pow_right (by omega) h2)

theorem dataSizeOf_small (n : Nat) (h : n ≤ 15) : dataSizeOf n = 1 := by
  unfold dataSizeOf; rw [if_pos (by omega)]

theorem modeByte_spec (n : Nat) (h : n < 2 ^ 32) :
    modeByte n < 256 ∧ (modeByte n &&& 0x80 ≠ 0 ↔ n ≤ 15) ∧ modeByte n &&& 0x10 = 0 ∧
      1 + ((modeByte n >>> 5) &&& 3) = dataSizeOf n := by
  have h1 := dataSizeOf_pos n
  have h4 := dataSizeOf_le n h
  unfold modeByte noneSkipFlags
  by_cases hn : n ≤ 15
  · rw [dataSizeOf_small n hn, if_pos hn]
    simp only [hn, iff_true]
    decide
  · rw [if_neg hn]
    simp only [hn, iff_false]
    have : dataSizeOf n = 1 ∨ dataSizeOf n = 2 ∨ dataSizeOf n = 3 ∨ dataSizeOf n = 4 := by omega
    rcases this with e | e | e | e <;> rw [e] <;> decide

theorem encodeNoneWith_length (ck sum : Nat) (data : List Nat) :
    (encodeNoneWith ck sum data).length =
      8 + 8 * dataSizeOf data.length + ckWidth ck + 8 * data.length := by
  simp [encodeNoneWith, ofBytes_length]; omega

theorem padToByte_of_mod (bs : Bits) (h : bs.length % 8 = 0) : padToByte bs = bs := by
  unfold padToByte; rw [h]; simp

theorem padToByte_encodeNoneWith (ck sum : Nat) (data : List Nat) :
    padToByte (encodeNoneWith ck sum data) = encodeNoneWith ck sum data := by
  apply padToByte_of_mod
  rw [encodeNoneWith_length]
  rcases ckWidth_cases ck with e | e | e <;> rw [e] <;> omega

theorem le_maxTransformLength (n B : Nat) (hB : n ≤ B) (hmax : n ≤ 2 ^ 30) : n ≤ maxTransformLength B := by
  unfold maxTransformLength taskBlockLength
  omega

theorem checksum_lt (ck : Nat) (data : List Nat) : checksum ck data < 2 ^ ckWidth ck := by
  unfold checksum ckWidth
  split
  · exact (XXHash.xxh32 _ _).isLt
  · split
    · exact (XXHash.xxh64 _ _).isLt
    · simp

/-- the decoding task on a well-formed payload whose checksum field holds `sum`: the block is
returned iff the recomputed checksum equals the field, else `crc` -/
theorem decodeTask_encodeNoneWith (ck B sum : Nat) (data : List Nat) (h0 : 0 < data.length)
    (hB : data.length ≤ B) (hmax : data.length ≤ 2 ^ 30) (hb : ∀ b ∈ data, b < 256) :
    decodeTask ck B (encodeNoneWith ck sum data) =
      if ckWidth ck ≠ 0 ∧ checksum ck data ≠ sum % 2 ^ ckWidth ck then ⟨data.length, .error .crc⟩
      else ⟨data.length, .ok data⟩ := by
  obtain ⟨m256, mcopy, m10, mds⟩ := modeByte_spec data.length (by omega)
  have hlen := lt_pow_dataSizeOf data.length
  have hmt := le_maxTransformLength data.length B hB hmax
  unfold decodeTask
  rw [padToByte_encodeNoneWith]
  unfold encodeNoneWith
  simp only [List.append_assoc]
  rw [readBits_natBits_append]
  simp only [Nat.mod_eq_of_lt m256]
  -- skip flags: whatever the branch, the rest of the payload is untouched
  have hsf : ∀ R : Bits, ∃ x, (if modeByte data.length &&& 0x80 ≠ 0 then (Except.ok (0, R) : Except Err (Nat × Bits))
        else if modeByte data.length &&& 0x10 ≠ 0 then readBits 8 R
        else Except.ok (((modeByte data.length <<< 4) ||| 0x0F) % 256, R)) = Except.ok (x, R) := by
    intro R
    by_cases hc : modeByte data.length &&& 0x80 ≠ 0
    · exact ⟨_, by rw [if_pos hc]⟩
    · exact ⟨_, by rw [if_neg hc, if_neg (by rw [m10]; simp)]⟩
  obtain ⟨x, hx⟩ := hsf (natBits data.length (8 * dataSizeOf data.length) ++
    (natBits sum (ckWidth ck) ++ ofBytes data))
  rw [hx]
  simp only [mds]
  rw [readBits_natBits_append]
  simp only [Nat.mod_eq_of_lt hlen]
  rw [if_neg (by omega), readBits_natBits_append]
  simp only []
  rw [if_neg (by rw [ofBytes_length]; omega)]
  have ht : (ofBytes data).take (8 * data.length) = ofBytes data :=
    List.take_of_length_le (by rw [ofBytes_length]; omega)
  simp only [ht, toBytes_ofBytes data hb]

theorem decodeTask_encodeNone (ck B : Nat) (data : List Nat) (h0 : 0 < data.length)
    (hB : data.length ≤ B) (hmax : data.length ≤ 2 ^ 30) (hb : ∀ b ∈ data, b < 256) :
    decodeTask ck B (encodeNone ck data) = ⟨data.length, .ok data⟩ := by
  unfold encodeNone
  rw [decodeTask_encodeNoneWith ck B _ data h0 hB hmax hb, if_neg]
  rw [Nat.mod_eq_of_lt (checksum_lt ck data)]
  simp

theorem decodeNone_encodeNone (ck B : Nat) (data : List Nat) (h0 : 0 < data.length)
    (hB : data.length ≤ B) (hmax : data.length ≤ 2 ^ 30) (hb : ∀ b ∈ data, b < 256) :
    decodeNone ck B (encodeNone ck data) = .ok data := by
  unfold decodeNone
  rw [decodeTask_encodeNone ck B data h0 hB hmax hb]

theorem decodeNone_crc (ck B sum : Nat) (data : List Nat) (hck : ck = 32 ∨ ck = 64)
    (h0 : 0 < data.length) (hB : data.length ≤ B) (hmax : data.length ≤ 2 ^ 30)
    (hb : ∀ b ∈ data, b < 256) (hs : sum < 2 ^ ck) (hne : checksum ck data ≠ sum) :
    decodeNone ck B (encodeNoneWith ck sum data) = .error .crc := by
  unfold decodeNone
  have hw : ckWidth ck = ck := ckWidth_of ck (by omega)
  rw [decodeTask_encodeNoneWith ck B _ data h0 hB hmax hb, if_pos]
  rw [hw, Nat.mod_eq_of_lt hs]
  exact ⟨by omega, hne⟩

/-! ### lengths (the accounting of the Writer model) -/

theorem encodeNone_length (ck : Nat) (data : List Nat) (hck : ck = 0 ∨ ck = 32 ∨ ck = 64) :
    (encodeNone ck data).length = Kanzi.Drv.nonePayloadBits data.length ck := by
  unfold encodeNone
  rw [encodeNoneWith_length, ckWidth_of ck hck]
  unfold Kanzi.Drv.nonePayloadBits dataSizeOf
  rfl

theorem frameBits_encodeNone_length (ck : Nat) (data : List Nat) (hck : ck = 0 ∨ ck = 32 ∨ ck = 64) :
    (Container.frameBits (encodeNone ck data)).length = Kanzi.Drv.noneFrameBits ck data := by
  rw [Container.frameBits_length, encodeNone_length ck data hck]
  rfl

/-! ### frames: the parser with the `maxFrameLength` bound agrees with the container parser on frames
within the bound -/

theorem parseFrame_of_container (B : Nat) (bs : Bits) (r : Container.Parsed)
    (h : Container.parseFrame bs = r) (hne : r ≠ .eos)
    (hp : ∀ p rest, r = .frame p rest → p.length ≤ maxFrameBits B) : parseFrame B bs = r := by
  unfold Container.parseFrame at h
  unfold parseFrame
  by_cases h1 : bs.length < 5
  · rw [if_pos h1] at h
    exact absurd h.symm hne
  rw [if_neg h1] at h ⊢
  simp only [] at h ⊢
  by_cases h2 : (bs.drop 5).length < bitsNat (bs.take 5) + 3
  · rw [if_pos h2] at h
    exact absurd h.symm hne
  rw [if_neg h2] at h ⊢
  generalize bitsNat ((bs.drop 5).take (bitsNat (bs.take 5) + 3)) = len at h ⊢
  generalize (bs.drop 5).drop (bitsNat (bs.take 5) + 3) = r2 at h ⊢
  by_cases h3 : len = 0
  · rw [if_pos h3] at h ⊢
    exact h
  rw [if_neg h3] at h ⊢
  by_cases h4 : len > 2 ^ 34
  · rw [if_pos h4] at h
    rw [if_pos (Or.inl h4)]
    exact h
  rw [if_neg h4] at h
  by_cases h5 : r2.length < len
  · rw [if_pos h5] at h
    exact absurd h.symm hne
  rw [if_neg h5] at h
  -- the payload the container parser found is `len` bits long, so `len` is within the bound
  have hl : (r2.take len).length ≤ maxFrameBits B := hp _ _ h.symm
  rw [List.length_take] at hl
  rw [if_neg (by omega), if_neg h5]
  exact h

theorem parseFrames_stream (B : Nat) (payloads : List Bits) (pad : Bits)
    (h : ∀ p ∈ payloads, 0 < p.length ∧ p.length < 2 ^ 34 ∧ p.length ≤ maxFrameBits B)
    (fuel : Nat) (hf : payloads.length + 1 ≤ fuel) :
    parseFrames B fuel (payloads.flatMap Container.frameBits ++ Container.endMarker ++ pad) =
      payloads.map Container.Item.payload ++ [Container.Item.endMark] := by
  induction payloads generalizing fuel with
  | nil =>
    obtain ⟨f, rfl⟩ : ∃ f, fuel = f + 1 := ⟨fuel - 1, by simp at hf; omega⟩
    simp only [List.flatMap_nil, List.nil_append, List.map_nil]
    rw [parseFrames, parseFrame_of_container B _ _ (Container.parseFrame_endMarker pad) nofun nofun]
  | cons p ps ih =>
    obtain ⟨f, rfl⟩ : ∃ f, fuel = f + 1 := ⟨fuel - 1, by simp at hf; omega⟩
    have hp := h p (by simp)
    have ih' := ih (fun q hq => h q (by simp [hq])) f (by simp at hf; omega)
    simp only [List.flatMap_cons, List.map_cons, List.cons_append, List.append_assoc] at ih' ⊢
    rw [parseFrames, parseFrame_of_container B _ _ (Container.parseFrame_frameBits p _ hp.1 hp.2.1) nofun
      (fun _ _ hq => by cases hq; exact hp.2.2)]
    simp only [ih']

theorem flatMap_frameBits_length (payloads : List Bits) :
    payloads.length ≤ (payloads.flatMap Container.frameBits).length := by
  induction payloads with
  | nil => simp
  | cons p ps ih =>
    simp only [List.flatMap_cons, List.length_append, List.length_cons, Container.frameBits_length]
    omega

/-- the blocks of a stream with block size `B`: non-empty, at most `B` long, of byte values -/
def ValidBlocks (B : Nat) (blocks : List (List Nat)) : Prop :=
  ∀ b ∈ blocks, 0 < b.length ∧ b.length ≤ B ∧ ∀ x ∈ b, x < 256

theorem encodeNone_bounds (ck B : Nat) (b : List Nat) (h0 : 0 < b.length) (hB : b.length ≤ B)
    (hmax : B ≤ 2 ^ 30) :
    0 < (encodeNone ck b).length ∧ (encodeNone ck b).length < 2 ^ 34 ∧
      (encodeNone ck b).length ≤ maxFrameBits B := by
  have h4 := dataSizeOf_le b.length (by omega)
  have hm := le_maxTransformLength b.length B hB (by omega)
  have hm30 : maxTransformLength B ≤ 2 ^ 30 := Nat.min_le_right _ _
  have hw : ckWidth ck ≤ 64 := by
    rcases ckWidth_cases ck with e | e | e <;> omega
  unfold encodeNone
  rw [encodeNoneWith_length]
  simp only [maxFrameBits]
  generalize maxTransformLength B = m at hm hm30 ⊢
  omega

theorem decodeFrames_stream (ck B : Nat) (blocks : List (List Nat)) (hv : ValidBlocks B blocks)
    (hmax : B ≤ 2 ^ 30) :
    decodeFrames ck B (blocks.map (fun b => Container.Item.payload (encodeNone ck b)) ++
      [Container.Item.endMark]) = (blocks, .endOfStream) := by
  induction blocks with
  | nil => simp [decodeFrames]
  | cons b bs ih =>
    have hb := hv b (by simp)
    have ih' := ih (fun q hq => hv q (by simp [hq]))
    simp only [List.map_cons, List.cons_append]
    rw [decodeFrames, decodeTask_encodeNone ck B b hb.1 hb.2.1 (by omega) hb.2.2]
    simp only [ih']
    rw [if_neg (by omega)]

theorem streamBits_eq (h : Header.Header) (ck : Nat) (blocks : List (List Nat)) :
    streamBits h ck blocks = Header.headerBits h ++
      ((blocks.map (encodeNone ck)).flatMap Container.frameBits ++ Container.endMarker) := by
  unfold streamBits
  rw [List.append_assoc, List.flatMap_map]

theorem ofBytes_streamImage (h : Header.Header) (ck : Nat) (blocks : List (List Nat)) :
    ofBytes (streamImage h ck blocks) =
      streamBits h ck blocks ++ List.replicate (padLen (streamBits h ck blocks).length) false := by
  unfold streamImage
  exact ofBytes_packBytes _

theorem payloads_bounds (ck B : Nat) (blocks : List (List Nat)) (hv : ValidBlocks B blocks)
    (hmax : B ≤ 2 ^ 30) :
    ∀ p ∈ blocks.map (encodeNone ck), 0 < p.length ∧ p.length < 2 ^ 34 ∧ p.length ≤ maxFrameBits B := by
  intro p hp
  obtain ⟨b, hb, rfl⟩ := List.mem_map.mp hp
  have := hv b hb
  exact encodeNone_bounds ck B b this.1 this.2.1 hmax

theorem parseImage_streamImage (h : Header.Header) (wf : Header.WF h) (hent : h.entropyType = 0)
    (htr : h.transformType = 0) (blocks : List (List Nat)) (hv : ValidBlocks h.blockSize blocks) :
    parseImage (streamImage h (32 * h.ckSize) blocks) = (some h, blocks, .endOfStream) := by
  unfold parseImage
  rw [ofBytes_streamImage, streamBits_eq, List.append_assoc,
    Header.parseHeader_headerBits h wf]
  simp only []
  rw [if_neg (by simp [hent, htr])]
  rw [parseFrames_stream h.blockSize _ _ (payloads_bounds _ _ blocks hv wf.bsHi) _
    (by
      have := flatMap_frameBits_length (blocks.map (encodeNone (32 * h.ckSize)))
      simp only [List.length_append, List.length_map] at this ⊢
      omega)]
  rw [List.map_map]
  have := decodeFrames_stream (32 * h.ckSize) h.blockSize blocks hv wf.bsHi
  simp only [Function.comp_def]
  rw [this]

theorem streamImageFast_eq (h : Header.Header) (ck : Nat) (blocks : List (List Nat)) :
    streamImageFast h ck blocks = streamImage h ck blocks := by
  unfold streamImageFast streamImage
  exact packFast_eq _

/-! ### size of the image = the accounting of the Writer model -/

theorem streamBits_length (h : Header.Header) (ck : Nat) (blocks : List (List Nat))
    (hck : ck = 0 ∨ ck = 32 ∨ ck = 64) :
    (streamBits h ck blocks).length =
      (Header.headerBits h).length + (blocks.map (Kanzi.Drv.noneFrameBits ck)).sum + 8 := by
  unfold streamBits
  rw [List.length_append, List.length_append, Container.endMarker_length]
  congr 2
  induction blocks with
  | nil => simp
  | cons b bs ih =>
    rw [List.flatMap_cons, List.length_append, ih, frameBits_encodeNone_length ck b hck]
    simp

theorem streamImage_length (h : Header.Header) (ck : Nat) (blocks : List (List Nat))
    (hck : ck = 0 ∨ ck = 32 ∨ ck = 64) :
    (streamImage h ck blocks).length =
      ((Header.headerBits h).length + (blocks.map (Kanzi.Drv.noneFrameBits ck)).sum + 8 + 7) / 8 := by
  unfold streamImage
  rw [packBytes_length, streamBits_length h ck blocks hck]

/-! ### the blocks cut by the Writer hold elements of its input (the byte-range clause of `ValidBlocks`) -/

theorem mem_of_mem_chunks (B : Nat) (l : List Nat) (b : List Nat) (hb : b ∈ Spec.chunks B l)
    (x : Nat) (hx : x ∈ b) : x ∈ l := by
  unfold Spec.chunks at hb
  obtain ⟨k, _, rfl⟩ := List.mem_map.mp hb
  exact List.mem_of_mem_drop (List.mem_of_mem_take hx)

end Kanzi.Block
