/-
Writer and Reader composed at the level of blocks: a healthy `Writer` run emits `chunks B data`
(`Writer.healthy_run`), that block list is valid for the `Reader` (`chunks_valid`), and without
`from_` / `to_` the Reader keeps all of it, so `Reader.reader_refines_spec` gives back the data.
-/
import Kanzi.Model.Writer
import Kanzi.Model.Reader
import Kanzi.Spec.Stream
import Kanzi.Proofs.Writer
import Kanzi.Proofs.Reader
namespace Kanzi.C01
open Kanzi.Spec

theorem chunks_valid (B : Nat) (hB : 0 < B) (data : List Nat) :
    Reader.validBlocks B (chunks B data) ∧ (chunks B data).flatten = data := by
  induction hn : data.length using Nat.strongRecOn generalizing data with
  | _ n ih =>
    by_cases hd : data = []
    · subst hd
      rw [Writer.chunks_nil B hB]
      exact ⟨Reader.validBlocks_nil B, rfl⟩
    · have hpos : 0 < data.length := List.length_pos_iff.mpr hd
      rw [Writer.chunks_cons B hB data hd]
      obtain ⟨i1, i2⟩ := ih (data.drop B).length (by rw [List.length_drop]; omega) (data.drop B) rfl
      refine ⟨?_, ?_⟩
      · rw [Reader.validBlocks_cons]
        refine ⟨⟨?_, ?_⟩, ?_, i1⟩
        · rw [List.length_take]; omega
        · rw [List.length_take]; omega
        · intro hne
          rw [List.length_take]
          by_cases hle : data.length ≤ B
          · exfalso; apply hne
            rw [List.drop_eq_nil_of_le hle, Writer.chunks_nil B hB]
          · omega
      · rw [List.flatten_cons, i2, List.take_append_drop]

theorem keptOf_all (c : Reader.Cfg) (hf : c.from_ = none) (ht : c.to_ = none) (id : Nat)
    (bl : List (List Nat)) : Reader.keptOf c id bl = bl := by
  induction bl generalizing id with
  | nil => simp [Reader.keptOf]
  | cons b bs ih =>
    have hr : Reader.inRange c id = true := by simp [Reader.inRange, hf, ht]
    rw [Reader.keptOf_cons, if_pos hr, ih]

theorem selectRange_all (c : Reader.Cfg) (hf : c.from_ = none) (ht : c.to_ = none)
    (bl : List (List Nat)) : selectRange c.from_ c.to_ bl = bl := by
  rw [Reader.selectRange_eq, keptOf_all c hf ht]

/-- Whatever the partition `parts` of the data into `Write` calls and whatever the sizes of the
`Read` calls.  Block sizes of both sides agree (`hBr`); the job counts need not. -/
theorem roundtrip (cw : Writer.Cfg) (cr : Reader.Cfg) (hB : 0 < cw.B) (hJ : 0 < cw.J)
    (hBr : cr.B = cw.B) (hJr : 0 < cr.J) (hrange : cr.from_ = none ∧ cr.to_ = none)
    (parts : List (List Nat)) (sizes : List Nat) :
    let w := Writer.run cw (Writer.init cw) (Writer.healthyProgram parts)
    let data := parts.flatten
    w.2 = parts.map (fun d => Writer.Out.wrote d.length none) ++ [Writer.Out.closedR none] ∧
    ∀ k, (hk : k < sizes.length) →
      ((Reader.readSeq cr (Reader.init (Reader.validFrames w.1.emitted)) sizes).2)[k]? =
        some (if sizes[k] = 0 then Reader.ReadRes.data [] none
              else if (sizes.take k).sum ≥ data.length then Reader.ReadRes.eof
              else Reader.ReadRes.data (specRead data (sizes.take k).sum sizes[k]) none) := by
  intro w data
  obtain ⟨h1, h2, _⟩ := Writer.healthy_run cw hB hJ parts
  refine ⟨h1, ?_⟩
  intro k hk
  have hBr' : 0 < cr.B := by omega
  obtain ⟨v1, v2⟩ := chunks_valid cr.B hBr' data
  have he : w.1.emitted = chunks cr.B data := by rw [hBr]; exact h2
  rw [he]
  have := Reader.reader_refines_spec cr hBr' hJr (chunks cr.B data) v1 sizes k hk
  rw [selectRange_all cr hrange.1 hrange.2, v2] at this
  exact this

theorem empty_stream (cw : Writer.Cfg) (cr : Reader.Cfg) (hB : 0 < cw.B) (hJ : 0 < cw.J)
    (hBr : cr.B = cw.B) (hJr : 0 < cr.J) (n : Nat) (hn : 0 < n) :
    (Writer.run cw (Writer.init cw) (Writer.healthyProgram [])).1.emitted = [] ∧
    (Reader.read cr (Reader.init (Reader.validFrames [])) n).2 = Reader.ReadRes.eof := by
  constructor
  · obtain ⟨_, h2, _⟩ := Writer.healthy_run cw hB hJ []
    rw [h2, List.flatten_nil, Writer.chunks_nil cw.B hB]
  · have hBr' : 0 < cr.B := by omega
    have := Reader.reader_refines_spec cr hBr' hJr [] (Reader.validBlocks_nil cr.B) [n] 0 (by simp)
    have hs : selectRange cr.from_ cr.to_ ([] : List (List Nat)) = [] := by simp [selectRange]
    have hn0 : n ≠ 0 := by omega
    simpa [Reader.readSeq, hs, hn0] using this

end Kanzi.C01
