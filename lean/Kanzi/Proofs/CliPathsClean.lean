/-
The model of `filepath.Clean` (lean/Kanzi/Model/CliPaths.lean) as a pair (rooted?, component
stack): the kept stack is in normal form (`Normal`), `Clean` recovers the pair from what it renders
(`render_stack`, hence `clean_idem`), and the names the directory walk reports are the rendering of
the root's stack extended by the relative path, so they determine it, for EVERY spelling of the root
(`walkPath_render`, `walkPath_inj`).
-/
import Kanzi.Proofs.CliPaths

namespace Kanzi.CliPaths

/-- a component `Clean` keeps on its stack; unlike a `ValidName` it may be `..` -/
def NormComp (c : Str) : Prop := c ≠ [] ∧ c ≠ [DOT] ∧ SEP ∉ c

/-- a `..` is kept only on top of nothing but `..`, and never in a rooted path -/
def Normal (r : Bool) : List Str → Prop
  | [] => True
  | c :: st => NormComp c ∧ Normal r st ∧ (c = DOTDOT → r = false ∧ ∀ d ∈ st, d = DOTDOT)

theorem normComp_dotdot : NormComp DOTDOT := by
  refine ⟨by decide, by decide, by decide⟩

theorem ValidName.norm {n : Str} (h : ValidName n) : NormComp n := ⟨h.1, h.2.1, h.2.2.2⟩

theorem normal_push (r : Bool) (st : List Str) (n : Str) (hn : ValidName n) (h : Normal r st) :
    Normal r (n :: st) :=
  ⟨hn.norm, h, fun e => absurd e hn.2.2.1⟩

theorem cleanStep_normal (r : Bool) (st : List Str) (c : Str) (hc : SEP ∉ c) (h : Normal r st) :
    Normal r (cleanStep r st c) := by
  unfold cleanStep
  by_cases h1 : c = [] ∨ c = [DOT]
  · rw [if_pos h1]; exact h
  rw [if_neg h1]
  have hn : NormComp c := ⟨fun e => h1 (Or.inl e), fun e => h1 (Or.inr e), hc⟩
  by_cases hdd : c = DOTDOT
  · rw [if_pos hdd]
    match st, h with
    | [], _ =>
      cases r
      · exact ⟨hn, trivial, fun _ => ⟨rfl, by simp⟩⟩
      · trivial
    | t :: ts, h =>
      dsimp only
      by_cases ht : t = DOTDOT
      · rw [if_pos ht]
        obtain ⟨hr, hall⟩ := h.2.2 ht
        exact ⟨hn, h, fun _ => ⟨hr, fun d hd => (List.mem_cons.mp hd).elim (fun e => e ▸ ht) (hall d)⟩⟩
      · rw [if_neg ht]; exact h.2.1
  · rw [if_neg hdd]; exact ⟨hn, h, fun e => absurd e hdd⟩

theorem splitSep_mem_noSep (s : Str) : ∀ c ∈ splitSep s, SEP ∉ c := by
  induction s with
  | nil => simp [splitSep]
  | cons x xs ih =>
    unfold splitSep
    split
    · intro c hc
      rcases List.mem_cons.mp hc with hc | hc
      · rw [hc]; simp
      · exact ih c hc
    · rename_i hx
      cases hs : splitSep xs with
      | nil => exact absurd hs (splitSep_ne_nil xs)
      | cons w ws =>
        rw [hs] at ih
        intro c hc
        simp only [consHead] at hc
        rcases List.mem_cons.mp hc with hc | hc
        · rw [hc]
          intro hm
          rcases List.mem_cons.mp hm with hm | hm
          · exact hx hm.symm
          · exact ih w (by simp) hm
        · exact ih c (by simp [hc])

theorem foldl_cleanStep_normal (r : Bool) (cs : List Str) (st : List Str) (hcs : ∀ c ∈ cs, SEP ∉ c)
    (h : Normal r st) : Normal r (cs.foldl (cleanStep r) st) := by
  induction cs generalizing st with
  | nil => exact h
  | cons c cs ih =>
    exact ih _ (fun d hd => hcs d (by simp [hd])) (cleanStep_normal r st c (hcs c (by simp)) h)

theorem stackOf_normal (p : Str) : Normal (isRooted p) (stackOf p) :=
  foldl_cleanStep_normal _ _ _ (splitSep_mem_noSep p) trivial

theorem fold_normal (r : Bool) (st : List Str) (h : Normal r st) :
    st.reverse.foldl (cleanStep r) [] = st := by
  induction st with
  | nil => rfl
  | cons c st ih =>
    obtain ⟨hc, hst, hdd⟩ := h
    rw [List.reverse_cons, List.foldl_append, ih hst]
    simp only [List.foldl_cons, List.foldl_nil]
    unfold cleanStep
    have h1 : ¬ (c = [] ∨ c = [DOT]) := by
      intro e; rcases e with e | e
      · exact hc.1 e
      · exact hc.2.1 e
    rw [if_neg h1]
    by_cases hd : c = DOTDOT
    · rw [if_pos hd]
      obtain ⟨hr, hall⟩ := hdd hd
      cases st with
      | nil => simp [hr, hd]
      | cons t ts =>
        have ht : t = DOTDOT := hall t (by simp)
        simp [ht, hd]
    · rw [if_neg hd]

theorem normal_comps {r : Bool} {st : List Str} (h : Normal r st) : ∀ c ∈ st, NormComp c := by
  induction st with
  | nil => simp
  | cons c st ih =>
    intro d hd
    rcases List.mem_cons.mp hd with hd | hd
    · rw [hd]; exact h.1
    · exact ih h.2.1 d hd

theorem normal_noSep {r : Bool} {st : List Str} (h : Normal r st) : ∀ c ∈ st, SEP ∉ c :=
  fun c hc => (normal_comps h c hc).2.2

theorem isRooted_joinSep (l : List Str) (hl : l ≠ []) (h : ∀ c ∈ l, NormComp c) :
    isRooted (joinSep l) = false := by
  cases l with
  | nil => exact absurd rfl hl
  | cons w ws =>
    have hw := h w (by simp)
    cases w with
    | nil => exact absurd rfl hw.1
    | cons x xs =>
      have hx : x ≠ SEP := fun e => hw.2.2 (by simp [e])
      cases ws with
      | nil => simp [joinSep, isRooted, hx]
      | cons v vs => simp [joinSep, isRooted, hx]

theorem render_stack (r : Bool) (st : List Str) (hne : st ≠ []) (h : Normal r st) :
    isRooted (render r st) = r ∧ stackOf (render r st) = st := by
  have hrev : st.reverse ≠ [] := by simpa using hne
  have hns : ∀ c ∈ st.reverse, SEP ∉ c := fun c hc => normal_noSep h c (by simpa using hc)
  have hsp := splitSep_joinSep st.reverse hrev hns
  cases r with
  | true =>
    have e : render true st = SEP :: joinSep st.reverse := by simp [render]
    rw [e]
    refine ⟨by simp [isRooted], ?_⟩
    unfold stackOf
    have : splitSep (SEP :: joinSep st.reverse) = [] :: st.reverse := by
      simp [splitSep, hsp]
    rw [this]
    simp only [List.foldl_cons, cleanStep_empty]
    have hr : isRooted (SEP :: joinSep st.reverse) = true := by simp [isRooted]
    rw [hr]
    exact fold_normal true st h
  | false =>
    have e : render false st = joinSep st.reverse := by simp [render, hne]
    rw [e]
    have hr : isRooted (joinSep st.reverse) = false :=
      isRooted_joinSep _ hrev (fun c hc => normal_comps h c (by simpa using hc))
    refine ⟨hr, ?_⟩
    unfold stackOf
    rw [hr, hsp]
    exact fold_normal false st h

theorem render_ne_nil (r : Bool) (st : List Str) (hne : st ≠ []) (h : Normal r st) : render r st ≠ [] := by
  intro e
  have := (render_stack r st hne h).2
  rw [e, stackOf_nil] at this
  exact hne this.symm

theorem clean_stack (p : Str) : isRooted (clean p) = isRooted p ∧ stackOf (clean p) = stackOf p := by
  by_cases hst : stackOf p = []
  · unfold clean
    rw [hst]
    cases isRooted p <;> decide
  · exact render_stack (isRooted p) (stackOf p) hst (stackOf_normal p)

theorem clean_idem (p : Str) : clean (clean p) = clean p := by
  show render (isRooted (clean p)) (stackOf (clean p)) = clean p
  rw [(clean_stack p).1, (clean_stack p).2]
  rfl

theorem join2_eq (p n : Str) (hp : p ≠ []) (hn : ValidName n) :
    join2 p n = render (isRooted p) (n :: stackOf p) := by
  unfold join2 clean
  rw [isRooted_append p _ hp, stackOf_append_name p n hp hn]

theorem walkPath_render_aux (r : Bool) (rel : List Str) (hrel : rel ≠ []) (hv : ∀ n ∈ rel, ValidName n) :
    ∀ (st : List Str) (p : Str), Normal r st → p ≠ [] → isRooted p = r → stackOf p = st →
      walkPath p rel = render r (rel.reverse ++ st) := by
  induction rel with
  | nil => exact absurd rfl hrel
  | cons n rest ih =>
    intro st p hst hp hr hs
    have hn := hv n (by simp)
    have hj : join2 p n = render r (n :: st) := by rw [join2_eq p n hp hn, hr, hs]
    have hnorm : Normal r (n :: st) := normal_push r st n hn hst
    cases rest with
    | nil => simp [walkPath, hj]
    | cons m ms =>
      obtain ⟨h1, h2⟩ := render_stack r (n :: st) (by simp) hnorm
      have := ih (by simp) (fun x hx => hv x (by simp [hx])) (n :: st) (render r (n :: st)) hnorm
        (render_ne_nil r _ (by simp) hnorm) h1 h2
      simp only [walkPath, List.foldl_cons] at this ⊢
      rw [hj, this]
      simp

theorem walkPath_render (p : Str) (rel : List Str) (hp : p ≠ []) (hrel : rel ≠ [])
    (hv : ∀ n ∈ rel, ValidName n) :
    walkPath p rel = render (isRooted p) (rel.reverse ++ stackOf p) :=
  walkPath_render_aux (isRooted p) rel hrel hv (stackOf p) p (stackOf_normal p) hp rfl rfl

theorem normal_append_valid (r : Bool) (st : List Str) (rel : List Str) (hv : ∀ n ∈ rel, ValidName n)
    (h : Normal r st) : Normal r (rel.reverse ++ st) := by
  induction rel generalizing st with
  | nil => simpa using h
  | cons n rest ih =>
    have := ih (n :: st) (fun x hx => hv x (by simp [hx])) (normal_push r st n (hv n (by simp)) h)
    simpa [List.reverse_cons, List.append_assoc] using this

theorem render_inj (r : Bool) (s1 s2 : List Str) (h1 : s1 ≠ []) (h2 : s2 ≠ []) (n1 : Normal r s1)
    (n2 : Normal r s2) (h : render r s1 = render r s2) : s1 = s2 := by
  have a := (render_stack r s1 h1 n1).2
  have b := (render_stack r s2 h2 n2).2
  rw [← a, ← b, h]

theorem walkPath_inj (p : Str) (r1 r2 : List Str) (hp : p ≠ []) (h1 : r1 ≠ []) (h2 : r2 ≠ [])
    (v1 : ∀ n ∈ r1, ValidName n) (v2 : ∀ n ∈ r2, ValidName n)
    (h : walkPath p r1 = walkPath p r2) : r1 = r2 := by
  rw [walkPath_render p r1 hp h1 v1, walkPath_render p r2 hp h2 v2] at h
  have := render_inj _ _ _ (by simp [h1]) (by simp [h2])
    (normal_append_valid _ _ r1 v1 (stackOf_normal p)) (normal_append_valid _ _ r2 v2 (stackOf_normal p)) h
  have := List.append_cancel_right this
  exact List.reverse_inj.mp this

theorem render_head_append (r : Bool) (st : List Str) (n s : Str) :
    render r (n :: st) ++ s = render r ((n ++ s) :: st) := by
  rw [render_cons, render_cons]
  by_cases h : st = []
  · cases r <;> simp [h]
  · simp [h]

theorem walkPath_snoc_append (p : Str) (init : List Str) (last s : Str) (hp : p ≠ [])
    (hv : ∀ n ∈ init ++ [last], ValidName n) (hv' : ValidName (last ++ s)) :
    walkPath p (init ++ [last ++ s]) = walkPath p (init ++ [last]) ++ s := by
  have hv2 : ∀ n ∈ init ++ [last ++ s], ValidName n := by
    intro n hn
    rcases List.mem_append.mp hn with hn | hn
    · exact hv n (by simp [hn])
    · have : n = last ++ s := by simpa using hn
      rw [this]; exact hv'
  rw [walkPath_render p _ hp (by simp) hv2, walkPath_render p _ hp (by simp) hv]
  simp only [List.reverse_append, List.reverse_cons, List.reverse_nil, List.nil_append,
    List.cons_append]
  rw [render_head_append]

end Kanzi.CliPaths
