/-
Text codecs: what the CR+LF flag of `computeTextStats` means: in a block for which it is set every CR is
followed by a LF and every LF is preceded by a CR (`CrlfOK`, `crlfOK_of_stats`).  The flag is computed from the
order-0 and order-1 counts only; `Good` is what the order-1 condition says about adjacent bytes (the table starts
with the previous byte 0), and equal numbers of CR and LF rule out a CR at the very end.
-/
import Kanzi.Proofs.TextSim

namespace Kanzi.Text
open Kanzi.RLT (Out Res wr fq histogram)

/-- number of adjacent pairs `(p, c)` in `prv :: l` -/
def pairs (p c : Nat) : Nat → List Nat → Nat
  | _, [] => 0
  | prv, x :: r => (if prv = p ∧ x = c then 1 else 0) + pairs p c x r

theorem order1Go_size : ∀ (l : List Nat) (prv : Nat) (a : Array Nat), (order1Go l prv a).size = a.size
  | [], _, _ => rfl
  | x :: r, prv, a => by
    unfold order1Go
    rw [order1Go_size r x _, Array.size_modify]

theorem order1Go_get (p c : Nat) (hp : p < 256) (hc : c < 256) :
    ∀ (l : List Nat) (prv : Nat) (a : Array Nat), prv < 256 → (∀ x ∈ l, x < 256) → a.size = 65536 →
      f1 (order1Go l prv a) p c = f1 a p c + pairs p c prv l
  | [], _, _, _, _, _ => rfl
  | x :: r, prv, a, hprv, hl, ha => by
    unfold order1Go pairs
    have hx : x < 256 := hl x (List.mem_cons_self ..)
    rw [order1Go_get p c hp hc r x _ hx (fun y hy => hl y (List.mem_cons_of_mem _ hy))
      (by rw [Array.size_modify]; exact ha)]
    unfold f1
    rw [Array.getD_eq_getD_getElem?, Array.getD_eq_getD_getElem?, Array.getElem?_modify]
    have hin : p * 256 + c < a.size := by rw [ha]; omega
    by_cases hidx : prv * 256 + x = p * 256 + c
    · have h1 : prv = p ∧ x = c := by omega
      rw [if_pos hidx, if_pos h1, Array.getElem?_eq_getElem hin]
      simp only [Option.map_some, Option.getD_some]
      omega
    · have h1 : ¬ (prv = p ∧ x = c) := by omega
      rw [if_neg hidx, if_neg h1]
      omega

/-- `prv :: l` is consistent: a CR is followed by a LF (unless it is the last byte), a LF is preceded by a CR -/
def Good : Nat → List Nat → Prop
  | _, [] => True
  | prv, x :: r => (prv = CR → x = LF) ∧ (x = LF → prv = CR) ∧ Good x r

theorem good_of_pairs : ∀ (l : List Nat) (prv : Nat), prv < 256 → (∀ x ∈ l, x < 256) →
    (∀ i, i < 256 → i ≠ LF → pairs CR i prv l = 0) → (∀ i, i < 256 → i ≠ CR → pairs i LF prv l = 0) → Good prv l
  | [], _, _, _, _, _ => trivial
  | x :: r, prv, hprv, hl, hA, hB => by
    have hx : x < 256 := hl x (List.mem_cons_self ..)
    refine ⟨?_, ?_, good_of_pairs r x hx (fun y hy => hl y (List.mem_cons_of_mem _ hy)) ?_ ?_⟩
    · intro h
      by_cases c : x = LF
      · exact c
      · have := hA x hx c
        unfold pairs at this
        rw [if_pos ⟨h, rfl⟩] at this
        omega
    · intro h
      by_cases c : prv = CR
      · exact c
      · have := hB prv hprv c
        unfold pairs at this
        rw [if_pos ⟨rfl, h⟩] at this
        omega
    · intro i hi hne
      have := hA i hi hne
      unfold pairs at this
      omega
    · intro i hi hne
      have := hB i hi hne
      unfold pairs at this
      omega

theorem good_count : ∀ (l : List Nat) (prv : Nat), Good prv l →
    l.count CR + (if prv = CR then 1 else 0) = l.count LF + (if (prv :: l).getLast? = some CR then 1 else 0)
  | [], prv, _ => by simp
  | x :: r, prv, h => by
    obtain ⟨h1, h2, h3⟩ := h
    have ih := good_count r x h3
    have hl : (prv :: x :: r).getLast? = (x :: r).getLast? := by simp [List.getLast?_cons_cons]
    rw [hl, List.count_cons, List.count_cons]
    have hne : CR ≠ LF := by decide
    by_cases c1 : x = CR
    · have c2 : x ≠ LF := by rw [c1]; exact hne
      have c3 : prv ≠ CR := fun hp => c2 (h1 hp)
      simp only [c1, beq_self_eq_true, if_true] at ih ⊢
      rw [if_neg c3]
      have : ((CR : Nat) == LF) = false := by decide
      simp only [this] at ih ⊢
      simp only [Bool.false_eq_true, if_false] at ih ⊢
      omega
    · by_cases c2 : x = LF
      · have c3 : prv = CR := h2 c2
        simp only [c2] at ih ⊢
        have e1 : ((LF : Nat) == CR) = false := by decide
        have e2 : ¬ ((LF : Nat) = CR) := by decide
        rw [if_neg e2] at ih
        simp only [e1, beq_self_eq_true, if_true, Bool.false_eq_true, if_false, c3] at ih ⊢
        omega
      · have c3 : prv ≠ CR := fun hp => c2 (h1 hp)
        have e1 : (x == CR) = false := by simpa using c1
        have e2 : (x == LF) = false := by simpa using c2
        rw [if_neg c3]
        simp only [e1, e2, Bool.false_eq_true, if_false] at ih ⊢
        rw [if_neg c1] at ih
        omega

theorem crlfOK_of_good : ∀ (l : List Nat) (prv : Nat), Good prv l → prv ≠ CR → (prv :: l).getLast? ≠ some CR →
    CrlfOK l
  | [], _, _, _, _ => trivial
  | [x], prv, h, hp, hlast => by
    obtain ⟨_, h2, _⟩ := h
    unfold CrlfOK
    have : x ≠ CR := by
      intro e
      apply hlast
      simp [e]
    rw [if_neg this]
    exact ⟨fun e => hp (h2 e), trivial⟩
  | x :: y :: r, prv, h, hp, hlast => by
    obtain ⟨_, h2, h3⟩ := h
    have hl : (prv :: x :: y :: r).getLast? = (y :: r).getLast? := by
      simp [List.getLast?_cons_cons]
    unfold CrlfOK
    by_cases c1 : x = CR
    · rw [if_pos c1]
      simp only
      obtain ⟨g1, _, g3⟩ := h3
      have hy : y = LF := g1 c1
      refine ⟨hy, ?_⟩
      refine crlfOK_of_good r y g3 (by rw [hy]; decide) ?_
      rw [← hl]; exact hlast
    · rw [if_neg c1]
      refine ⟨fun e => hp (h2 e), ?_⟩
      refine crlfOK_of_good (y :: r) x h3 c1 ?_
      have : (x :: y :: r).getLast? = (y :: r).getLast? := by simp [List.getLast?_cons_cons]
      rw [this, ← hl]; exact hlast

/-- `v` is the flag `m` of the mode byte, set or not -/
def IsFlag (m v : Nat) : Prop := v = 0 ∨ v = m

theorem IsFlag.zero (m : Nat) : IsFlag m 0 := Or.inl rfl
theorem IsFlag.self (m : Nat) : IsFlag m m := Or.inr rfl

theorem IsFlag.ite {m a b : Nat} {c : Prop} [Decidable c] (ha : IsFlag m a) (hb : IsFlag m b) :
    IsFlag m (if c then a else b) := by
  by_cases h : c
  · rw [if_pos h]; exact ha
  · rw [if_neg h]; exact hb

theorem xmlFlag_flag (f0 f1 : Array Nat) (count nb : Nat) : IsFlag MASK_XML_HTML (xmlFlag f0 f1 count nb) := by
  unfold xmlFlag
  exact .ite (.ite (.ite (.ite (.self _) (.zero _)) (.ite (.ite (.self _) (.zero _)) (.self _))) (.zero _)) (.zero _)

theorem crlfFlag_flag (f0 f1 : Array Nat) : IsFlag MASK_CRLF (crlfFlag f0 f1) := by
  unfold crlfFlag
  exact .ite (.ite (.self _) (.zero _)) (.zero _)

theorem xmlFlag_and (f0 f1 : Array Nat) (count nb : Nat) : xmlFlag f0 f1 count nb &&& MASK_CRLF = 0 := by
  rcases xmlFlag_flag f0 f1 count nb with h | h <;> rw [h] <;> decide

theorem mode_lt (strict : Bool) (src : List Nat) : computeStats strict src &&& MASK_NOT_TEXT = 0 →
    computeStats strict src < 256 := by
  intro h
  rw [(computeStats_accepted strict src h).2]
  apply Nat.or_lt_two_pow (n := 8)
  · rcases xmlFlag_flag (histogram src) (order1Go src 0 (Array.replicate 65536 0)) src.length
      (src.length - sumIf (histogram src) (fun _ => true) 128) with e | e <;> rw [e] <;> decide
  · rcases crlfFlag_flag (histogram src) (order1Go src 0 (Array.replicate 65536 0)) with e | e <;> rw [e] <;> decide

theorem crlfFlag_ne_zero (f0 fr1 : Array Nat) (h : crlfFlag f0 fr1 ≠ 0) :
    (fq f0 CR ≠ 0 ∧ fq f0 CR = fq f0 LF) ∧
      ∀ i, i < 256 → (i ≠ LF → f1 fr1 CR i = 0) ∧ (i ≠ CR → f1 fr1 i LF = 0) := by
  unfold crlfFlag at h
  by_cases hc : fq f0 CR ≠ 0 ∧ fq f0 CR = fq f0 LF
  · rw [if_pos hc] at h
    refine ⟨hc, fun i hi => ?_⟩
    by_cases hall : ((List.range 256).all fun i => !((i ≠ LF ∧ f1 fr1 CR i ≠ 0) ∨ (i ≠ CR ∧ f1 fr1 i LF ≠ 0))) = true
    · have := List.all_eq_true.mp hall i (List.mem_range.mpr hi)
      simp only [Bool.not_eq_true', decide_eq_false_iff_not, not_or, not_and, Decidable.not_not] at this
      exact this
    · rw [if_neg hall] at h
      exact absurd rfl h
  · rw [if_neg hc] at h
    exact absurd rfl h

/-- the CR+LF flag of the mode byte implies that the block is CR+LF consistent -/
theorem crlfOK_of_stats (strict : Bool) (src : List Nat) (hb : ∀ x ∈ src, x < 256)
    (hacc : computeStats strict src &&& MASK_NOT_TEXT = 0) (hcr : computeStats strict src &&& MASK_CRLF ≠ 0) :
    CrlfOK src := by
  rw [(computeStats_accepted strict src hacc).2, Nat.and_or_distrib_right, xmlFlag_and, Nat.zero_or] at hcr
  obtain ⟨hc, hall⟩ := crlfFlag_ne_zero (histogram src) (order1Go src 0 (Array.replicate 65536 0)) (by
    intro h
    rw [h] at hcr
    exact hcr (by decide))
  have hf1 : ∀ p c, p < 256 → c < 256 →
      f1 (order1Go src 0 (Array.replicate 65536 0)) p c = pairs p c 0 src := by
    intro p c hp hc'
    rw [order1Go_get p c hp hc' src 0 _ (by decide) hb (by simp)]
    unfold f1
    rw [Array.getD_eq_getD_getElem?, Array.getElem?_replicate, if_pos (by omega)]
    simp
  have hA : ∀ i, i < 256 → i ≠ LF → pairs CR i 0 src = 0 := fun i hi hne => by
    rw [← hf1 CR i (by decide) hi]
    exact (hall i hi).1 hne
  have hB : ∀ i, i < 256 → i ≠ CR → pairs i LF 0 src = 0 := fun i hi hne => by
    rw [← hf1 i LF hi (by decide)]
    exact (hall i hi).2 hne
  have hgood := good_of_pairs src 0 (by decide) hb hA hB
  have hcount := good_count src 0 hgood
  rw [Kanzi.Alias.fq_histogram src CR (by decide), Kanzi.Alias.fq_histogram src LF (by decide)] at hc
  have h0 : ¬ ((0 : Nat) = CR) := by decide
  rw [if_neg h0] at hcount
  refine crlfOK_of_good src 0 hgood h0 ?_
  intro hl
  rw [if_pos hl] at hcount
  omega

end Kanzi.Text
