/-
Stream level for the generic block codec (`Kanzi/Model/BlockGen.lean`): the byte image of a whole
stream parses back to the blocks, and its size is what the Writer model charges.
-/
import Kanzi.Proofs.BlockGenInst
import Kanzi.Proofs.Writer
import Kanzi.Proofs.C01
import Kanzi.Proofs.BlockGenNone

namespace Kanzi.BlockGen
open Kanzi.Bits Kanzi.TrSmall Kanzi.Block

theorem encodeTaskGen_length_ge {c : Cfg} {b : List Nat} {p : Bits} (h : encodeTaskGen c b = .ok p) :
    8 ≤ p.length := by
  unfold encodeTaskGen at h
  split at h
  · exact (encodeOf_shape _ _ _ _ _ _ _ h).1
  · exact (encodeOf_shape _ _ _ _ _ _ _ h).1

theorem small_post (c : Cfg) (b : List Nat) (hn : c.trs.length ≤ 8) (hs : ∀ t ∈ c.trs, IsSmallTr t)
    (hbytes : ∀ x ∈ b, x < 256) (hb0 : 0 < b.length) (h30 : b.length ≤ 2 ^ 30) :
    IsBlock b.length (fallback c.bs (seqMaxLen c.trs b.length) b (seqForward (fwdStages c.trs b.length) b)).1 := by
  have hne : b ≠ [] := fun h => by rw [h] at hb0; exact Nat.lt_irrefl 0 hb0
  have hseq := seqLaw_small c.trs hn hs b.length b.length (by omega) (Nat.le_refl _)
  rcases fallback_cases c.bs (seqMaxLen c.trs b.length) b (seqForward (fwdStages c.trs b.length) b) with h' | h' <;>
    rw [h']
  · exact (seq_of_seqLaw _ c.trs b _ b.length hseq ⟨hbytes, Nat.le_refl _⟩ (Nat.le_refl _)).2.1
  · exact ⟨hbytes, Nat.le_refl _⟩

theorem small_none_fit (c : Cfg) (B : Nat) (b : List Nat) (p : Bits)
    (hn : c.trs.length ≤ 8) (hs : ∀ t ∈ c.trs, IsSmallTr t) (hent : c.ent = noneEnt)
    (hbytes : ∀ x ∈ b, x < 256) (hb0 : 0 < b.length) (hB : b.length ≤ B) (hmax : B ≤ 2 ^ 30)
    (h : encodeTaskGen c b = .ok p) : FrameFit B p := by
  unfold encodeTaskGen at h
  split at h
  · exact copy_fit B c.ck _ c.bs b p hb0 hB hmax h
  · rw [hent] at h
    have hpost := (small_post c b hn hs hbytes hb0 (by omega)).2
    exact encodeOf_none_fit B h (le_maxTransformLength _ B (by omega) (by omega))

/-- what the stream-level theorems need to know about one block: the encoder (configuration `ce`)
succeeds, the decoder (configuration `cd`) returns the block, the payload fits a frame -/
def BlockOK (ce cd : Cfg) (B : Nat) (b : List Nat) : Prop :=
  ∃ p, encodeTaskGen ce b = .ok p ∧ decodeTaskGen cd B p = ⟨b.length, .ok b⟩ ∧ FrameFit B p

theorem payloadOf_of_ok (c : Cfg) (b : List Nat) (p : Bits) (h : encodeTaskGen c b = .ok p) :
    payloadOf c b = p := by
  unfold payloadOf; rw [h]

theorem encodeBlocks_ok (ce cd : Cfg) (B : Nat) (blocks : List (List Nat))
    (h : ∀ b ∈ blocks, BlockOK ce cd B b) :
    encodeBlocks ce blocks = .ok (blocks.map (payloadOf ce)) := by
  induction blocks with
  | nil => rfl
  | cons b bs ih =>
    obtain ⟨p, hp, _, _⟩ := h b (by simp)
    rw [encodeBlocks, hp, ih (fun q hq => h q (by simp [hq]))]
    simp only [List.map_cons, payloadOf_of_ok ce b p hp]

theorem decodeFrames_stream (ce cd : Cfg) (B : Nat) (blocks : List (List Nat))
    (h : ∀ b ∈ blocks, BlockOK ce cd B b ∧ 0 < b.length ∧ b.length ≤ B) :
    decodeFrames cd B (blocks.map (fun b => Container.Item.payload (payloadOf ce b)) ++
      [Container.Item.endMark]) = (blocks, .endOfStream) := by
  induction blocks with
  | nil => simp [decodeFrames]
  | cons b bs ih =>
    obtain ⟨⟨p, hp, hd, _⟩, h0, hB⟩ := h b (by simp)
    have ih' := ih (fun q hq => h q (by simp [hq]))
    simp only [List.map_cons, List.cons_append]
    rw [decodeFrames, payloadOf_of_ok ce b p hp, hd]
    simp only [ih']
    rw [if_neg (by omega), if_neg (by omega)]

theorem payloads_fit (ce cd : Cfg) (B : Nat) (blocks : List (List Nat))
    (h : ∀ b ∈ blocks, BlockOK ce cd B b) : ∀ p ∈ blocks.map (payloadOf ce), FrameFit B p := by
  intro p hp
  obtain ⟨b, hb, rfl⟩ := List.mem_map.mp hp
  obtain ⟨q, hq, _, hf⟩ := h b hb
  rw [payloadOf_of_ok ce b q hq]
  exact hf

theorem parse_streamBits (h : Header.Header) (wf : Header.WF h) (ps : List Bits)
    (hfit : ∀ p ∈ ps, FrameFit h.blockSize p) :
    ∃ rest, Header.parseHeader (ofBytes (packBytes (streamBitsOf h ps))) = .ok (h, rest) ∧
      parseFrames h.blockSize (rest.length + 1) rest =
        ps.map Container.Item.payload ++ [Container.Item.endMark] := by
  refine ⟨ps.flatMap Container.frameBits ++ (Container.endMarker ++
    List.replicate (padLen (streamBitsOf h ps).length) false), ?_, ?_⟩
  · unfold streamBitsOf
    rw [ofBytes_packBytes, List.append_assoc, List.append_assoc, Header.parseHeader_headerBits h wf]
    rfl
  · rw [← List.append_assoc]
    refine parseFrames_stream h.blockSize _ _ hfit _ ?_
    have := flatMap_frameBits_length ps
    simp only [List.length_append] at this ⊢
    omega

theorem parseImageGen_streamImageGen (h : Header.Header) (wf : Header.WF h) (ce cd : Cfg)
    (hcfg : cfgOfHeader h false = some cd) (blocks : List (List Nat))
    (hok : ∀ b ∈ blocks, BlockOK ce cd h.blockSize b ∧ 0 < b.length ∧ b.length ≤ h.blockSize) :
    ∃ img, streamImageGen h ce blocks = .ok img ∧
      img = packBytes (streamBitsOf h (blocks.map (payloadOf ce))) ∧
      parseImageGen img = (some h, blocks, .endOfStream) := by
  have hok1 : ∀ b ∈ blocks, BlockOK ce cd h.blockSize b := fun b hb => (hok b hb).1
  obtain ⟨rest, hh, hf⟩ := parse_streamBits h wf _ (payloads_fit ce cd h.blockSize blocks hok1)
  refine ⟨_, ?_, rfl, ?_⟩
  · unfold streamImageGen
    rw [encodeBlocks_ok ce cd h.blockSize blocks hok1]
  · unfold parseImageGen
    simp only [hh, hcfg, hf, List.map_map, Function.comp_def, decodeFrames_stream ce cd h.blockSize blocks hok]

theorem streamBitsOf_length (h : Header.Header) (c : Cfg) (blocks : List (List Nat)) :
    (streamBitsOf h (blocks.map (payloadOf c))).length =
      (Header.headerBits h).length + (blocks.map (frameBitsGen c)).sum + 8 := by
  unfold streamBitsOf
  rw [List.length_append, List.length_append, Container.endMarker_length]
  congr 2
  induction blocks with
  | nil => simp
  | cons b bs ih =>
    rw [List.map_cons, List.flatMap_cons, List.length_append, ih]
    simp [frameBitsGen]

theorem tokenTr_small (t : Nat) (tr : Tr) (h : tokenTr t = some tr) : IsSmallTr tr := by
  unfold tokenTr at h
  split at h
  · injection h with h; exact Or.inl h.symm
  · split at h
    · injection h with h; exact Or.inr (Or.inl h.symm)
    · split at h
      · injection h with h; exact Or.inr (Or.inr ⟨1, h.symm⟩)
      · split at h
        · injection h with h; exact Or.inr (Or.inr ⟨2, h.symm⟩)
        · cases h

theorem mapM_tokenTr_small : ∀ (ts : List Nat) (trs : List Tr), ts.mapM tokenTr = some trs →
    trs.length = ts.length ∧ ∀ t ∈ trs, IsSmallTr t := by
  intro ts
  induction ts with
  | nil => intro trs h; simp at h; subst h; simp
  | cons t ts ih =>
    intro trs h
    rw [List.mapM_cons] at h
    cases h1 : tokenTr t with
    | none => rw [h1] at h; simp at h
    | some tr =>
      cases h2 : ts.mapM tokenTr with
      | none => rw [h1, h2] at h; simp at h
      | some rest =>
        rw [h1, h2] at h
        simp at h
        subst h
        obtain ⟨i1, i2⟩ := ih rest h2
        refine ⟨by simp [i1], ?_⟩
        intro u hu
        rcases List.mem_cons.mp hu with rfl | hu
        · exact tokenTr_small t _ h1
        · exact i2 u hu

theorem seqTokens_length (ft : Nat) : (seqTokens ft).length ≤ 8 := by
  unfold seqTokens
  simp only [List.length_map]
  refine Nat.le_trans (List.length_filter_le _ _) ?_
  rw [List.length_range]
  have : ((List.range 8).filter (fun i => Header.slot ft i ≠ 0)).length ≤ 8 := by
    have := List.length_filter_le (fun i => decide (Header.slot ft i ≠ 0)) (List.range 8)
    simpa using this
  split <;> omega

theorem newSeq_small (ft : Nat) (trs : List Tr) (h : newSeq ft = some trs) :
    trs.length ≤ 8 ∧ ∀ t ∈ trs, IsSmallTr t := by
  obtain ⟨h1, h2⟩ := mapM_tokenTr_small _ _ h
  exact ⟨by rw [h1]; exact seqTokens_length ft, h2⟩

theorem cfgOfHeader_spec (h : Header.Header) (sb : Bool) (c : Cfg) (hc : cfgOfHeader h sb = some c) :
    c.ck = 32 * h.ckSize ∧ c.skipBlocks = sb ∧ c.trs.length ≤ 8 ∧ (∀ t ∈ c.trs, IsSmallTr t) ∧
      ((h.entropyType = 0 ∧ c.ent = noneEnt) ∨ (h.entropyType = 5 ∧ c.ent = ans0Ent)) := by
  unfold cfgOfHeader at hc
  cases h1 : newSeq h.transformType with
  | none => rw [h1] at hc; simp at hc
  | some trs =>
    cases h2 : entOf h.entropyType with
    | none => rw [h1, h2] at hc; simp at hc
    | some ent =>
      rw [h1, h2] at hc
      simp only [Option.some.injEq] at hc
      subst hc
      obtain ⟨a1, a2⟩ := newSeq_small _ _ h1
      refine ⟨rfl, rfl, a1, a2, ?_⟩
      unfold entOf at h2
      split at h2
      · rename_i he; injection h2 with h2; exact Or.inl ⟨he, h2.symm⟩
      · split at h2
        · rename_i he; injection h2 with h2; exact Or.inr ⟨he, h2.symm⟩
        · cases h2

/-- Run the Writer model with the frame size of the generic encoder; take the byte image of the
header and of the blocks it emitted; read it back. -/
theorem end_to_end (h : Header.Header) (wf : Header.WF h) (ce cd : Cfg)
    (hcfg : cfgOfHeader h false = some cd)
    (c : Writer.Cfg) (hB : c.B = h.blockSize) (hJ : 0 < c.J) (hhl : c.headless = false)
    (hhb : c.headerBits = (Header.headerBits h).length) (hfb : c.frameBits = frameBitsGen ce)
    (parts : List (List Nat)) (hbytes : ∀ d ∈ parts, ∀ x ∈ d, x < 256)
    (hok : ∀ b ∈ Spec.chunks c.B parts.flatten, 0 < b.length → b.length ≤ h.blockSize →
      (∀ x ∈ b, x < 256) → BlockOK ce cd h.blockSize b) :
    ∃ img, streamImageGen h ce (Writer.run c (Writer.init c) (Writer.healthyProgram parts)).1.emitted = .ok img ∧
      img.length = Writer.getWritten (Writer.run c (Writer.init c) (Writer.healthyProgram parts)).1 ∧
      (parseImageGen img).1 = some h ∧ (parseImageGen img).2.2 = Stop.endOfStream ∧
      (parseImageGen img).2.1.flatten = parts.flatten := by
  have hBpos : 0 < c.B := by have := wf.bsLo; omega
  have hem : (Writer.run c (Writer.init c) (Writer.healthyProgram parts)).1.emitted =
      Spec.chunks c.B parts.flatten := (Writer.healthy_run c hBpos hJ parts).2.1
  have hcv := Kanzi.C01.chunks_valid c.B hBpos parts.flatten
  have hv : ∀ b ∈ Spec.chunks c.B parts.flatten,
      BlockOK ce cd h.blockSize b ∧ 0 < b.length ∧ b.length ≤ h.blockSize := by
    intro b hb
    have hl := hcv.1.1 b hb
    have hx : ∀ x ∈ b, x < 256 := by
      intro x hx
      have hx' := mem_of_mem_chunks c.B parts.flatten b hb x hx
      obtain ⟨d, hd, hxd⟩ := List.mem_flatten.mp hx'
      exact hbytes d hd x hxd
    exact ⟨hok b hb hl.1 (by omega) hx, hl.1, by omega⟩
  rw [hem]
  obtain ⟨img, h1, h2, h3⟩ := parseImageGen_streamImageGen h wf ce cd hcfg _ hv
  refine ⟨img, h1, ?_, by rw [h3], by rw [h3], by rw [h3]; exact hcv.2⟩
  rw [h2, packBytes_length, streamBitsOf_length, Writer.getWritten_final c hBpos hJ parts, hhl, hhb, hfb]
  simp

/-! ### NONE / NONE: the generic image is the image of `Kanzi/Model/Block.lean` -/

theorem encodeBlocks_none (ck : Nat) (blocks : List (List Nat))
    (hv : ∀ b ∈ blocks, 0 < b.length ∧ b.length ≤ 2 ^ 30) :
    encodeBlocks (noneCfg ck) blocks = .ok (blocks.map (encodeNone ck)) := by
  induction blocks with
  | nil => rfl
  | cons b bs ih =>
    have hb := hv b (by simp)
    rw [encodeBlocks, encodeTaskGen_none ck b hb.1 hb.2, ih (fun q hq => hv q (by simp [hq]))]
    rfl

theorem streamImageGen_none (h : Header.Header) (ck : Nat) (blocks : List (List Nat))
    (hv : ∀ b ∈ blocks, 0 < b.length ∧ b.length ≤ 2 ^ 30) :
    streamImageGen h (noneCfg ck) blocks = .ok (streamImage h ck blocks) := by
  unfold streamImageGen
  rw [encodeBlocks_none ck blocks hv]
  simp only [streamImage, streamBitsOf, streamBits_eq, List.append_assoc]

theorem streamImageGenFast_eq (h : Header.Header) (c : Cfg) (blocks : List (List Nat)) :
    streamImageGenFast h c blocks = streamImageGen h c blocks := by
  unfold streamImageGenFast streamImageGen
  cases encodeBlocks c blocks with
  | error e => rfl
  | ok ps => simp only [packFast_eq]

end Kanzi.BlockGen
