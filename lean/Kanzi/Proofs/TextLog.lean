/-
Text codecs: `internal.Log2NoCheck` (two halving steps, then the table `internal.LOG2`) is the integer
logarithm on `uint32`; hence the initial dictionary size chosen by `reset` (`dictSizeFor`) is monotone in the block
size.
-/
import Kanzi.Proofs.TextDict

namespace Kanzi.Text
open Kanzi.FSD (LOG2 log2NoCheck)

theorem LOG2_eq : LOG2.toList = (List.range 256).map fun k => Nat.log2 (k + 1) := by
  decide +kernel

theorem LOG2_getD (y : Nat) (h0 : 0 < y) (h : y < 2 ^ 8) : LOG2.getD (y - 1) 0 = Nat.log2 y := by
  rw [Array.getD_eq_getD_getElem?, ← Array.getElem?_toList, LOG2_eq, List.getElem?_map,
    List.getElem?_range (by omega), Option.map_some, Option.getD_some, Nat.sub_add_cancel h0]

theorem shiftRight_pos (x k : Nat) (h : 2 ^ k ≤ x) : 0 < x >>> k := by
  rw [Nat.shiftRight_eq_div_pow]
  exact Nat.div_pos h (Nat.two_pow_pos k)

theorem shiftRight_lt (x k m : Nat) (h : x < 2 ^ (m + k)) : x >>> k < 2 ^ m := by
  rw [Nat.shiftRight_eq_div_pow]
  rw [Nat.pow_add] at h
  exact Nat.div_lt_of_lt_mul (Nat.mul_comm _ _ ▸ h)

theorem log2_shiftRight (x k : Nat) (h : 2 ^ k ≤ x) : Nat.log2 x = Nat.log2 (x >>> k) + k := by
  have hk : 0 < 2 ^ k := Nat.two_pow_pos k
  have hq := shiftRight_pos x k h
  have h2 := @Nat.lt_log2_self (x >>> k)
  rw [Nat.shiftRight_eq_div_pow] at hq h2 ⊢
  rw [Nat.pow_succ] at h2
  rw [Nat.log2_eq_iff (by omega), Nat.pow_add, Nat.pow_succ, Nat.pow_add, Nat.mul_right_comm]
  exact ⟨(Nat.le_div_iff_mul_le hk).mp (Nat.log2_self_le (by omega)), (Nat.div_lt_iff_lt_mul hk).mp h2⟩

/-- `internal.Log2NoCheck` is the integer logarithm on `uint32` -/
theorem log2NoCheck_eq (x : Nat) (h0 : 0 < x) (h32 : x < 2 ^ 32) : log2NoCheck x = Nat.log2 x := by
  unfold log2NoCheck
  by_cases c1 : x ≥ 2 ^ 16
  · have h16 : x >>> 16 < 2 ^ 16 := shiftRight_lt x 16 16 h32
    simp only [if_pos c1]
    rw [log2_shiftRight x 16 c1]
    by_cases c2 : x >>> 16 ≥ 2 ^ 8
    · simp only [if_pos c2]
      rw [log2_shiftRight _ 8 c2, LOG2_getD _ (shiftRight_pos _ 8 c2) (shiftRight_lt _ 8 8 h16)]
      omega
    · simp only [if_neg c2]
      rw [LOG2_getD _ (shiftRight_pos x 16 c1) (by omega)]
      omega
  · simp only [if_neg c1]
    by_cases c2 : x ≥ 2 ^ 8
    · simp only [if_pos c2]
      rw [log2_shiftRight x 8 c2, LOG2_getD _ (shiftRight_pos x 8 c2) (shiftRight_lt x 8 8 (by omega))]
      omega
    · simp only [if_neg c2]
      rw [LOG2_getD x h0 (by omega)]
      omega

theorem log2NoCheck_mono (a b : Nat) (ha : 0 < a) (hab : a ≤ b) (hb : b < 2 ^ 32) :
    log2NoCheck a ≤ log2NoCheck b := by
  rw [log2NoCheck_eq a ha (by omega), log2NoCheck_eq b (by omega) hb, Nat.le_log2 (by omega)]
  exact Nat.le_trans (Nat.log2_self_le (by omega)) hab

/-- as long as `uint32(count / 128)` does not wrap -/
theorem dictSizeFor_mono (count n : Nat) (h : count ≤ n) (hn : n < 2 ^ 39) : dictSizeFor count ≤ dictSizeFor n := by
  by_cases c : count ≥ 1024
  · unfold dictSizeFor
    rw [if_pos c, if_pos (by omega), Nat.one_shiftLeft, Nat.one_shiftLeft]
    apply Nat.pow_le_pow_right (by decide)
    have ha : 0 < count / 128 := by omega
    have hb : n / 128 < 2 ^ 32 := by omega
    have hab : count / 128 ≤ n / 128 := Nat.div_le_div_right h
    unfold log2u32
    rw [Nat.mod_eq_of_lt (by omega), Nat.mod_eq_of_lt hb, if_neg (by omega), if_neg (by omega)]
    have := log2NoCheck_mono (count / 128) (n / 128) ha hab hb
    omega
  · have h1 : dictSizeFor count = 1 <<< 13 := by unfold dictSizeFor; rw [if_neg c]
    rw [h1]
    exact dictSizeFor_ge n

end Kanzi.Text
