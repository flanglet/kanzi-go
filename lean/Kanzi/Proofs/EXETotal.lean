/-
`EXECodec`: no run-time panic, stated with `Out.NF` / `Out.Sat []` of `RLTInv.lean`.  Inverse (all three
formats) on ANY input and any destination; the forward loops for any code range; header parsing and type
detection on any block of at least 64 bytes; hence Forward on any block.

Every proof walks its function once with `ite_of`, `Out.Sat.bind` and the rules for `need`: a bounds-checked read
is discharged by `need_leN` / `need_beN` / `need_boN` / `need_get` from "the index is in range".
-/
import Kanzi.Proofs.EXE

namespace Kanzi.EXE
open Kanzi.RLT (Out wr wr_ok wr_cases)

theorem need_sat {α β : Type} {P : β → Prop} {o : Option α} {f : α → Out β} (ho : o.isSome)
    (hf : ∀ a, Out.Sat [] P (f a)) : Out.Sat [] P (need o f) := by
  cases o with
  | none => cases ho
  | some a => exact hf a

theorem rdN_isSome (s : Array Nat) (i : Int) (n : Nat) (h0 : 0 ≤ i) (h1 : i + n ≤ s.size) : (rdN s i n).isSome := by
  unfold rdN
  rw [if_neg (by omega)]; rfl

theorem leN_isSome (s : Array Nat) (i : Int) (n : Nat) (h0 : 0 ≤ i) (h1 : i + n ≤ s.size) : (leN s i n).isSome := by
  unfold leN; rw [Option.isSome_map]; exact rdN_isSome s i n h0 h1
theorem beN_isSome (s : Array Nat) (i : Int) (n : Nat) (h0 : 0 ≤ i) (h1 : i + n ≤ s.size) : (beN s i n).isSome := by
  unfold beN; rw [Option.isSome_map]; exact rdN_isSome s i n h0 h1
theorem boN_isSome (be : Bool) (s : Array Nat) (i : Int) (n : Nat) (h0 : 0 ≤ i) (h1 : i + n ≤ s.size) :
    (boN be s i n).isSome := by
  unfold boN; split
  · exact beN_isSome s i n h0 h1
  · exact leN_isSome s i n h0 h1

theorem need_leN {β : Type} {P : β → Prop} {s : Array Nat} {i : Int} {n : Nat} {f : Nat → Out β}
    (h0 : 0 ≤ i) (h1 : i + n ≤ s.size) (hf : ∀ a, Out.Sat [] P (f a)) : Out.Sat [] P (need (leN s i n) f) :=
  need_sat (leN_isSome s i n h0 h1) hf

theorem need_beN {β : Type} {P : β → Prop} {s : Array Nat} {i : Int} {n : Nat} {f : Nat → Out β}
    (h0 : 0 ≤ i) (h1 : i + n ≤ s.size) (hf : ∀ a, Out.Sat [] P (f a)) : Out.Sat [] P (need (beN s i n) f) :=
  need_sat (beN_isSome s i n h0 h1) hf

theorem need_boN {β : Type} {P : β → Prop} {be : Bool} {s : Array Nat} {i : Int} {n : Nat} {f : Nat → Out β}
    (h0 : 0 ≤ i) (h1 : i + n ≤ s.size) (hf : ∀ a, Out.Sat [] P (f a)) : Out.Sat [] P (need (boN be s i n) f) :=
  need_sat (boN_isSome be s i n h0 h1) hf

theorem need_get {β : Type} {P : β → Prop} {s : Array Nat} {i : Nat} {f : Nat → Out β} (h : i < s.size)
    (hf : ∀ a, Out.Sat [] P (f a)) : Out.Sat [] P (need s[i]? f) := by
  rw [Array.getElem?_eq_getElem h]
  exact hf _

/-- an inverse step taken at `srcIdx = i`, `dstIdx = d` is safe: no panic, it consumes at least one byte (the loop
    terminates), stays within the code section end `ce` and stores within the destination length `dl` -/
def IStep.safe (ce dl i d : Nat) : IStep → Prop
  | .emit e c => 1 ≤ c ∧ i + c ≤ ce ∧ d + e.length ≤ dl
  | .last e c => 1 ≤ c ∧ i + c ≤ ce ∧ d + e.length ≤ dl
  | .err _ => True
  | .fault _ => False

theorem x86InvJump_safe (ce dl : Nat) (pre rest : List Nat) (i d i0 d0 : Nat)
    (hlen : ce ≤ i + rest.length) (hi : i0 + pre.length = i) (hd : d0 + pre.length = d) :
    (x86InvJump ce dl pre rest i d).safe ce dl i0 d0 := by
  unfold x86InvJump
  refine ite_of (fun _ => trivial) fun hce => ite_of (fun _ => trivial) fun hdl => ?_
  obtain ⟨op, a0, a1, a2, a3, r, rfl⟩ := exists_cons5 (l := rest) (by omega)
  refine ⟨by omega, by omega, ?_⟩
  rw [List.length_append, List.length_cons, le32Bytes_length]
  omega

theorem x86InvStep_safe (ce dl : Nat) (rest : List Nat) (i d : Nat) (hlt : i < ce) (hlen : ce ≤ i + rest.length) :
    (x86InvStep ce dl rest i d).safe ce dl i d := by
  obtain ⟨b, r1, rfl⟩ := List.exists_cons_of_length_pos (l := rest) (by omega)
  rw [List.length_cons] at hlen
  simp only [x86InvStep, List.getElem?_cons_zero, List.getElem?_cons_succ]
  refine ite_of (fun _ => ?_) fun _ => ite_of (fun _ => ?_) fun _ => ?_
  · refine ite_of (fun _ => ?_) fun h1 => ite_of (fun _ => trivial) fun _ => ?_
    · exact ite_of (fun _ => trivial) fun _ => ⟨by decide, by omega, show d + 1 ≤ dl by omega⟩
    obtain ⟨b1, r2, rfl⟩ := List.exists_cons_of_length_pos (l := r1) (by omega)
    rw [List.length_cons] at hlen
    simp only [List.getElem?_cons_zero, List.getElem?_cons_succ]
    refine ite_of (fun _ => ?_) fun _ => ?_
    · refine ite_of (fun _ => ?_) fun _ => ?_
      · refine ite_of (fun _ => trivial) fun h2 => ite_of (fun _ => trivial) fun _ => ?_
        obtain ⟨b2, r3, rfl⟩ := List.exists_cons_of_length_pos (l := r2) (by omega)
        exact ⟨by decide, by omega, show d + 2 ≤ dl by omega⟩
      · exact ite_of (fun _ => trivial) fun _ => ⟨by decide, by omega, show d + 2 ≤ dl by omega⟩
    · refine x86InvJump_safe ce dl [b] _ (i + 1) (d + 1) i d ?_ rfl rfl
      rw [List.drop_one, List.tail_cons, List.length_cons]
      omega
  · refine ite_of (fun _ => ?_) fun _ => ?_
    · refine ite_of (fun _ => trivial) fun h1 => ite_of (fun _ => trivial) fun _ => ?_
      obtain ⟨b1, r2, rfl⟩ := List.exists_cons_of_length_pos (l := r1) (by omega)
      exact ⟨by decide, by omega, show d + 1 ≤ dl by omega⟩
    · exact ite_of (fun _ => trivial) fun _ => ⟨by decide, by omega, show d + 1 ≤ dl by omega⟩
  · exact x86InvJump_safe ce dl [] _ i d i d (by rw [List.length_cons]; omega) rfl rfl

theorem armInvStep_safe (ce dl : Nat) (rest : List Nat) (i d : Nat) (hlen : ce ≤ i + rest.length) :
    (armInvStep ce dl rest i d).safe ce dl i d := by
  unfold armInvStep
  refine ite_of (fun _ => trivial) fun h4 => ite_of (fun _ => trivial) fun hd => ?_
  obtain ⟨b0, b1, b2, b3, r4, rfl⟩ := exists_cons4 (l := rest) (by omega)
  refine ite_of (fun _ => ⟨by decide, by omega, show d + 4 ≤ dl by omega⟩) fun _ => ?_
  refine ite_of (fun _ => ?_) fun _ => ⟨by decide, by omega, by rw [le32Bytes_length]; omega⟩
  refine ite_of (fun _ => trivial) fun h8 => ?_
  obtain ⟨c0, c1, c2, c3, r, rfl⟩ := exists_cons4 (l := r4) (by simp only [List.length_cons] at hlen; omega)
  exact ⟨by decide, by omega, show d + 4 ≤ dl by omega⟩

def Step.safe (ce i maxE : Nat) : Step → Prop
  | .stop => True
  | .emit e c _ => 1 ≤ c ∧ i + c ≤ ce ∧ e.length ≤ maxE
  | .emitStop e _ => e.length ≤ maxE
  | .fault _ => False

theorem escLit_length (b : Nat) : (escLit b).length ≤ 2 := by
  unfold escLit
  split
  · exact Nat.le_refl 2
  · exact Nat.le_succ 1

theorem jumpStep_safe (ce i : Nat) (pre rest : List Nat) (hp : pre.length ≤ 1) (h5 : 5 ≤ rest.length)
    (hce : i + pre.length + 5 ≤ ce) : (jumpStep pre (x86Jump rest (i + pre.length))).safe ce i 6 := by
  obtain ⟨op, o0, o1, o2, sgn, r, rfl⟩ := exists_cons5 h5
  by_cases hbad : (sgn ≠ 0 ∧ sgn ≠ 0xFF) ∨ leVal [o0, o1, o2, sgn] = 0xFF000000
  · simp only [x86Jump, if_pos hbad, jumpStep]
    refine ⟨by omega, by omega, ?_⟩
    rw [List.length_append]
    show pre.length + 2 ≤ 6
    omega
  · simp only [x86Jump, if_neg hbad, jumpStep]
    refine ⟨by omega, by omega, ?_⟩
    rw [List.length_append, List.length_cons, be32Bytes_length]
    omega

theorem x86FwdStep_safe (ce : Nat) (rest : List Nat) (i : Nat) (hlt : i < ce) (hlen : ce ≤ i + rest.length) :
    (x86FwdStep ce rest i).safe ce i 6 := by
  obtain ⟨b, r1, rfl⟩ := List.exists_cons_of_length_pos (l := rest) (by omega)
  rw [List.length_cons] at hlen
  simp only [x86FwdStep, List.getElem?_cons_zero, List.getElem?_cons_succ]
  have hlit : ∀ x, (escLit x).length ≤ 5 := fun x => Nat.le_trans (escLit_length x) (by decide)
  refine ite_of (fun _ => ?_) fun _ => ite_of (fun _ => ?_) fun _ => ?_
  · refine ite_of (fun _ => trivial) fun h1 => ?_
    obtain ⟨b1, r2, rfl⟩ := List.exists_cons_of_length_pos (l := r1) (by omega)
    rw [List.length_cons] at hlen
    simp only [List.getElem?_cons_zero]
    refine ite_of (fun _ => trivial) fun h5 => ite_of (fun _ => ?_) fun hj => ?_
    · exact ⟨by decide, by omega, by rw [List.length_cons]; have := hlit b1; omega⟩
    · refine ite_of (fun _ => show 1 ≤ 6 by omega) fun h5' => ?_
      refine jumpStep_safe ce i [b] _ (Nat.le_refl 1) ?_ (show i + 1 + 5 ≤ ce by omega)
      rw [List.drop_one, List.tail_cons, List.length_cons]
      omega
  · exact ⟨by decide, by omega, by have := hlit b; omega⟩
  · refine ite_of (fun _ => trivial) fun h4 => ?_
    exact jumpStep_safe ce i [] _ (Nat.zero_le 1) (by rw [List.length_cons]; omega) (show i + 0 + 5 ≤ ce by omega)

theorem armFwdStep_safe (ce : Nat) (rest : List Nat) (i : Nat) (hlt : i + 4 ≤ ce) (hlen : ce ≤ i + rest.length) :
    (armFwdStep rest i).safe ce i 8 := by
  obtain ⟨b0, b1, b2, b3, r, rfl⟩ := exists_cons4 (l := rest) (by omega)
  unfold armFwdStep
  refine ite_of (fun _ => ⟨by decide, hlt, show 4 ≤ 8 by omega⟩) fun _ => ite_of (fun _ => ?_) fun _ => ?_
  · exact ⟨by decide, hlt, by rw [List.length_append, le32Bytes_length]; show 4 + 4 ≤ 8; omega⟩
  · exact ⟨by decide, hlt, by rw [le32Bytes_length]; omega⟩

theorem invLoop_nf {step : List Nat → Nat → Nat → IStep} (ce dl : Nat)
    (hsafe : ∀ rest i d, i < ce → ce ≤ i + rest.length → (step rest i d).safe ce dl i d) :
    ∀ (f : Nat) (rest : List Nat) (i : Nat) (out : Array Nat),
      ce ≤ i + rest.length → ce - i < f → Out.NF (invLoop step ce dl f rest i out) := by
  intro f
  induction f with
  | zero => intro rest i out _ hf; omega
  | succ f ih =>
    intro rest i out hlen hf
    unfold invLoop
    refine ite_of (fun hlt => ?_) fun _ => trivial
    have hs := hsafe rest i out.size hlt hlen
    cases hstep : step rest i out.size with
    | emit e c =>
      rw [hstep] at hs
      obtain ⟨hc, hic, hd⟩ := hs
      dsimp only
      rw [wr_ok dl out e hd]
      exact ih _ _ _ (by rw [List.length_drop]; omega) (by omega)
    | last e c =>
      rw [hstep] at hs
      dsimp only
      rw [wr_ok dl out e hs.2.2]
      exact trivial
    | err s => exact trivial
    | fault s =>
      rw [hstep] at hs
      exact hs.elim

/-- `maxE` = the most one iteration stores; the loop condition leaves that much room -/
theorem fwdLoop_nf {go : Nat → Nat → Prop} [∀ i d, Decidable (go i d)] {step : List Nat → Nat → Step}
    (ce dstLen maxE : Nat) (hgo : ∀ i d, go i d → d + maxE ≤ dstLen)
    (hsafe : ∀ rest i d, go i d → ce ≤ i + rest.length → (step rest i).safe ce i maxE) :
    ∀ (f : Nat) (rest : List Nat) (i : Nat) (out : Array Nat) (m : Nat),
      ce ≤ i + rest.length → ce - i < f → Out.NF (fwdLoop go step dstLen f rest i out m) := by
  intro f
  induction f with
  | zero =>
    intro rest i out m hlen hf
    omega
  | succ f ih =>
    intro rest i out m hlen hf
    unfold fwdLoop
    refine ite_of (fun hcond => ?_) fun _ => trivial
    have hs := hsafe rest i out.size hcond hlen
    have hroom := hgo i out.size hcond
    cases hstep : step rest i with
    | stop => exact trivial
    | emit e c dm =>
      rw [hstep] at hs
      obtain ⟨hc, hic, he⟩ := hs
      dsimp only
      rw [wr_ok dstLen out e (by omega)]
      exact ih _ _ _ _ (by rw [List.length_drop]; omega) (by omega)
    | emitStop e c =>
      rw [hstep] at hs
      dsimp only
      rw [wr_ok dstLen out e (Nat.le_trans (Nat.add_le_add_left hs _) hroom)]
      exact trivial
    | fault s =>
      rw [hstep] at hs
      exact hs.elim

theorem invFinish_nf (src : List Nat) (n : Nat) (r : Nat × Array Nat) : Out.NF (invFinish src n r) := by
  unfold invFinish
  exact ite_of (fun _ => trivial) fun _ => trivial

theorem invHeader_some (src : List Nat) (n cs ce : Nat) (h : invHeader src n = some (cs, ce)) :
    9 + cs ≤ ce ∧ ce ≤ src.length ∧ cs ≤ n := by
  simp only [invHeader] at h
  split at h
  · cases h
  · simp only [Option.some.injEq, Prod.mk.injEq] at h
    obtain ⟨rfl, rfl⟩ := h
    omega

/-- the copy of the prefix fits (`cs ≤ n` was tested) and the loop starts inside the input -/
theorem invSection_nf {step : Nat → Nat → List Nat → Nat → Nat → IStep}
    (hsafe : ∀ ce dl rest i d, i < ce → ce ≤ i + rest.length → (step ce dl rest i d).safe ce dl i d)
    (src : List Nat) (n : Nat) : Out.NF (invSection step src n) := by
  unfold invSection
  split
  · exact trivial
  next cs ce hh =>
    obtain ⟨h1, h2, h3⟩ := invHeader_some src n cs ce hh
    have hl : ((src.drop 9).take cs).length = cs := by
      rw [List.length_take, List.length_drop]
      omega
    rw [wr_ok n #[] _ (by rw [hl]; exact Nat.le_trans (Nat.le_of_eq (Nat.zero_add cs)) h3), Out.bind_ok]
    refine Out.Sat.bind (invLoop_nf ce n (hsafe ce n) _ _ _ _ ?_ ?_) fun r _ => invFinish_nf src n r
    · rw [List.length_drop]
      omega
    · omega

theorem invX86_nf (src : List Nat) (n : Nat) : Out.NF (invX86 src n) := by
  rw [invX86_eq]
  exact invSection_nf x86InvStep_safe src n

theorem invARM_nf (src : List Nat) (n : Nat) : Out.NF (invARM src n) := by
  rw [invARM_eq]
  exact invSection_nf (fun ce dl rest i d _ hl => armInvStep_safe ce dl rest i d hl) src n

/-- legacy loop: `dstIdx ≤ srcIdx` throughout (`L` = `srcIdx` + what is left of the input, constant) -/
theorem v2Loop_sat (en dl L : Nat) : ∀ (f : Nat) (rest : List Nat) (i : Nat) (out : Array Nat),
    i + rest.length = L → en + 8 ≤ L ∨ en ≤ i → L ≤ dl → out.size ≤ i → en - i < f →
    Out.Sat [] (fun r => r.2.size ≤ r.1 ∧ r.1 ≤ L) (v2Loop en dl f rest i out) := by
  intro f
  induction f with
  | zero =>
    intro rest i out _ _ _ _ hf
    omega
  | succ f ih =>
    intro rest i out hL hen hdl hout hf
    unfold v2Loop
    refine ite_of (fun hlt => ?_) fun _ => ⟨hout, by omega⟩
    obtain ⟨b, s0, a1, a2, a3, r, rfl⟩ := exists_cons5 (l := rest) (by omega)
    simp only [List.length_cons] at hL
    have next : ∀ (c : Nat) (o : Array Nat), 1 ≤ c → c ≤ 5 → o.size ≤ i + c →
        Out.Sat [] (fun r => r.2.size ≤ r.1 ∧ r.1 ≤ L)
          (v2Loop en dl f ((b :: s0 :: a1 :: a2 :: a3 :: r).drop c) (i + c) o) :=
      fun c o h1 h5 ho =>
        ih _ _ _ (by rw [List.length_drop]; simp only [List.length_cons]; omega) (by omega) hdl ho (by omega)
    have hsz : (out ++ [b]).size = out.size + 1 := size_appendList out [b]
    simp only [List.getElem?_cons_zero, List.getElem?_cons_succ, need]
    rw [wr_ok dl out [b] (show out.size + 1 ≤ dl by omega), Out.bind_ok]
    refine ite_of (fun _ => next 1 _ (by decide) (by decide) (by omega)) fun _ => ?_
    refine ite_of (fun _ => next 2 _ (by decide) (by decide) (by omega)) fun _ => ?_
    refine ite_of (fun _ => next 1 _ (by decide) (by decide) (by omega)) fun _ => ?_
    rw [wr_ok dl (out ++ [b]) _ (by show (out ++ [b]).size + 4 ≤ dl; omega), Out.bind_ok]
    refine next 5 _ (by decide) (by decide) ?_
    rw [size_appendList, hsz]
    show out.size + 1 + 4 ≤ i + 5
    omega

theorem invV2_nf (src : List Nat) (n : Nat) : Out.NF (invV2 src n) := by
  unfold invV2
  refine ite_of (fun _ => trivial) fun hle => ?_
  refine Out.Sat.bind (v2Loop_sat (src.length - 8) n src.length (src.length + 1) src 0 #[] (Nat.zero_add _)
    (by omega) (by omega) (Nat.le_refl 0) (by omega)) fun r hr => ?_
  rw [wr_ok n r.2 _ (by rw [List.length_drop]; omega)]
  exact trivial

/-- Inverse never panics: any input, any destination size, both bitstream generations -/
theorem exeInverse_nf (v2 : Bool) (src : List Nat) (n : Nat) : Out.NF (exeInverse v2 src n) := by
  unfold exeInverse
  refine ite_of (fun _ => trivial) fun h0 => ite_of (fun _ => invV2_nf src n) fun _ => ?_
  refine ite_of (fun _ => trivial) fun _ => ?_
  obtain ⟨m, r, rfl⟩ := List.exists_cons_of_length_pos (l := src) (by omega)
  exact ite_of (fun _ => invX86_nf _ n) fun _ => ite_of (fun _ => invARM_nf _ n) fun _ => trivial

theorem fwdFinish_nf (mode slack : Nat) (src : List Nat) (dstLen cs i : Nat) (out : Array Nat) :
    Out.NF (fwdFinish mode slack src dstLen cs i out) := by
  unfold fwdFinish
  exact ite_of (fun _ => trivial) fun _ => ite_of (fun _ => trivial) fun _ => trivial

theorem fwdX86_nf (src : List Nat) (dstLen : Nat) (cs ce : Int) (hd : 9 ≤ dstLen) : Out.NF (fwdX86 src dstLen cs ce) := by
  unfold fwdX86
  refine ite_of (fun _ => trivial) fun hchk => ?_
  rw [if_neg (by omega)]
  refine ite_of (fun _ => trivial) fun _ => ?_
  simp only [x86FwdLoop_eq]
  refine Out.Sat.bind (fwdLoop_nf ce.toNat dstLen 6 (fun i d h => by omega)
    (fun rest i d h hl => x86FwdStep_safe ce.toNat rest i h.1 hl) _ _ _ _ _
    (by rw [List.length_drop]; omega) (by omega)) fun st _ => ?_
  exact ite_of (fun _ => trivial) fun _ => ite_of (fun _ => trivial) fun _ => fwdFinish_nf _ _ _ _ _ _ _

theorem fwdARM_nf (src : List Nat) (dstLen : Nat) (cs ce : Int) (hd : 9 ≤ dstLen) : Out.NF (fwdARM src dstLen cs ce) := by
  unfold fwdARM
  refine ite_of (fun _ => trivial) fun hchk => ?_
  rw [if_neg (by omega)]
  refine ite_of (fun _ => trivial) fun _ => ?_
  simp only [armFwdLoop_eq]
  refine Out.Sat.bind (fwdLoop_nf ce.toNat dstLen 8 (fun i d h => by omega)
    (fun rest i d h hl => armFwdStep_safe ce.toNat rest i h.1 hl) _ _ _ _ _
    (by rw [List.length_drop]; omega) (by omega)) fun st _ => ?_
  exact ite_of (fun _ => trivial) fun _ => ite_of (fun _ => trivial) fun _ => fwdFinish_nf _ _ _ _ _ _ _

theorem machLoop_nf (s : Array Nat) (is64 : Bool) :
    ∀ (f : Nat) (pos cs ce : Int), Out.NF (machLoop s is64 f pos cs ce) := by
  intro f
  induction f with
  | zero => intro pos cs ce; exact trivial
  | succ f ih =>
    intro pos cs ce
    unfold machLoop
    have hsz : (0 : Int) ≤ if is64 then 0x48 else 0x38 := by
      cases is64 <;> decide
    generalize (if is64 then (0x48 : Int) else 0x38) = sz at hsz
    refine ite_of (fun _ => trivial) fun hpos => ?_
    refine need_leN (by omega) (by omega) fun ldCmd => ?_
    refine need_leN (by omega) (by omega) fun szCmd => ?_
    refine ite_of (fun _ => ?_) fun _ => ih _ _ _
    refine ite_of (fun _ => trivial) fun h16 => ?_
    refine need_beN (by omega) (by omega) fun nameSegment => ?_
    refine ite_of (fun _ => ?_) fun _ => ih _ _ _
    refine ite_of (fun _ => trivial) fun h38 => ?_
    refine need_beN (by omega) (by omega) fun nameSection => ?_
    refine ite_of (fun _ => ?_) fun _ => ih _ _ _
    refine ite_of (fun _ => ?_) fun _ => ?_
    · exact need_leN (by omega) (by omega) fun a => need_leN (by omega) (by omega) fun l => trivial
    · exact need_leN (by omega) (by omega) fun a => need_leN (by omega) (by omega) fun l => trivial

theorem i64_eq (x : Int) (h0 : -2 ^ 63 ≤ x) (h1 : x < 2 ^ 63) : i64 x = x := by
  unfold i64
  rw [Int.bmod_eq_emod]
  have hc : ((2 ^ 64 : Nat) : Int) = 18446744073709551616 := by simp
  rw [hc]
  split <;> omega

theorem i64_add (st k size : Int) (h0 : 0 ≤ st) (h1 : st < size) (hs : size < 2 ^ 62) (hk0 : 0 ≤ k)
    (hk : k ≤ 0x20) : i64 (st + k) = st + k :=
  i64_eq _ (by omega) (by omega)

theorem elfLoop_nf (s : Array Nat) (be is64 : Bool) (pos szEntry : Int) (hs : s.size < 2 ^ 62) :
    ∀ (f i : Nat) (cs ce : Int), Out.NF (elfLoop s be is64 pos szEntry f i cs ce) := by
  intro f
  induction f with
  | zero => intro i cs ce; exact trivial
  | succ f ih =>
    intro i cs ce
    unfold elfLoop
    generalize i64 (pos + (i : Int) * szEntry) = st
    cases is64
    all_goals
      simp only [Bool.false_eq_true, if_false, if_true]
      refine ite_of (fun _ => trivial) fun hst => ?_
      have e := fun k => i64_add st k s.size (by omega) (by omega) (by omega)
      simp (disch := decide) only [e]
      refine need_boN (by omega) (by omega) fun typeSection => ?_
      refine need_boN (by omega) (by omega) fun off => ?_
      refine need_boN (by omega) (by omega) fun len => ?_
      exact ite_of (fun _ => ih _ _ _) fun _ => ih _ _ _

theorem parseExeHeader_nf (s : Array Nat) (magic : Nat) (h : Hdr) (h64 : 64 ≤ s.size) (hs : s.size < 2 ^ 62) :
    Out.NF (parseExeHeader s magic h) := by
  unfold parseExeHeader
  refine ite_of (fun _ => ?_) fun _ => ite_of (fun _ => ?_) fun _ => ite_of (fun _ => ?_) fun _ => trivial
  · -- PE
    refine ite_of (fun _ => ?_) fun _ => trivial
    refine need_leN (by omega) (by omega) fun posPE => ?_
    refine ite_of (fun hp => ?_) fun _ => trivial
    refine need_leN (by omega) (by omega) fun sig => ?_
    refine ite_of (fun _ => ?_) fun _ => trivial
    refine need_leN (by omega) (by omega) fun a => ?_
    refine need_leN (by omega) (by omega) fun l => ?_
    exact need_leN (by omega) (by omega) fun ar => trivial
  · -- ELF: every header field lies in the first 64 bytes
    refine need_get (by omega) fun b5 => ?_
    refine ite_of (fun _ => ?_) fun _ => trivial
    refine need_get (by omega) fun b4 => ?_
    have hrd : ∀ {β : Type} (be : Bool) (i : Int) (n : Nat) (g : Nat → Out β), 0 ≤ i → i + n ≤ 64 →
        (∀ a, Out.NF (g a)) → Out.NF (need (boN be s i n) g) :=
      fun be i n g h0 h1 hg => need_boN h0 (by omega) hg
    refine hrd _ _ _ _ (by split <;> decide) (by split <;> decide) fun nbEntries => ?_
    refine hrd _ _ _ _ (by split <;> decide) (by split <;> decide) fun szEntry => ?_
    refine need_sat (ite_of (p := fun o : Option Nat => o.isSome) (fun _ => boN_isSome _ _ _ _ (by decide) (by omega)) fun _ =>
      boN_isSome _ _ _ _ (by decide) (by omega)) fun posSection => ?_
    refine Out.Sat.bind (elfLoop_nf s _ _ _ _ hs _ _ _ _) fun r _ => ?_
    refine ite_of (fun _ => ?_) fun _ => trivial
    exact hrd _ _ _ _ (by decide) (by decide) fun ar => trivial
  · -- Mach-O
    refine ite_of (fun _ => ?_) fun _ => trivial
    refine need_leN (by omega) (by omega) fun mode => ?_
    refine ite_of (fun _ => trivial) fun _ => ?_
    refine need_leN (by omega) (by omega) fun ar => ?_
    refine need_leN (by omega) (by omega) fun nbCmds => ?_
    refine Out.Sat.bind (machLoop_nf s _ _ _ _ _) fun r _ => ?_
    exact ite_of (fun _ => trivial) fun _ => trivial

theorem scanArm_nf (s : Array Nat) (i ja : Nat) : Out.NF (scanArm s i ja) := by
  unfold scanArm
  refine ite_of (fun _ => trivial) fun h => ?_
  refine need_leN (by omega) (by omega) fun instr => ?_
  exact ite_of (fun _ => trivial) fun _ => trivial

theorem scanLoop_nf (s : Array Nat) (ce : Nat) (hce : ce + 4 ≤ s.size) :
    ∀ (f i : Nat) (st : Scan), ce - i < f → Out.NF (scanLoop s ce f i st) := by
  intro f
  induction f with
  | zero => intro i st hf; omega
  | succ f ih =>
    intro i st hf
    unfold scanLoop
    refine ite_of (fun hlt => ?_) fun _ => trivial
    have harm : ∀ k j h jx, i < j → Out.NF ((scanArm s k st.ja).bind fun ja => scanLoop s ce f j ⟨h, jx, ja⟩) :=
      fun k j h jx hj => Out.Sat.bind (scanArm_nf s _ _) fun ja _ => ih _ _ (by omega)
    refine need_get (by omega) fun b => ?_
    refine ite_of (fun _ => ?_) fun _ => ite_of (fun _ => ?_) fun _ => harm _ (i + 1) _ _ (by omega)
    · refine need_get (by omega) fun b4 => ?_
      exact ite_of (fun _ => ih _ _ (by omega)) fun _ => harm _ (i + 1) _ _ (by omega)
    · refine need_get (by omega) fun c => ?_
      have hi2 : i + 1 ≤ (if c = 0x38 ∨ c = 0x3A then i + 2 else i + 1) ∧
          (if c = 0x38 ∨ c = 0x3A then i + 2 else i + 1) ≤ i + 2 := by
        split <;> omega
      generalize (if c = 0x38 ∨ c = 0x3A then i + 2 else i + 1) = i2 at hi2
      refine need_get (by omega) fun d => ?_
      exact ite_of (fun _ => ih _ _ (by omega)) fun _ => harm _ (i2 + 1) _ _ (by omega)

theorem heuristic_nf (s : Array Nat) (cs0 ce0 : Int) (h4 : 4 ≤ s.size) : Out.NF (heuristic s cs0 ce0) := by
  unfold heuristic
  refine Out.Sat.bind (scanLoop_nf s _ (by omega) _ _ _ (by omega)) fun st _ => ?_
  refine ite_of (fun _ => trivial) fun _ => ite_of (fun _ => trivial) fun _ => ?_
  exact ite_of (fun _ => trivial) fun _ => ite_of (fun _ => trivial) fun _ => trivial

theorem detectExeType_nf (s : Array Nat) (cs0 ce0 : Int) (h64 : 64 ≤ s.size) (hs : s.size < 2 ^ 62) :
    Out.NF (detectExeType s cs0 ce0) := by
  unfold detectExeType
  refine Out.Sat.bind (parseExeHeader_nf s _ _ h64 hs) fun r _ => ?_
  split
  · exact trivial
  · exact Out.Sat.bind (heuristic_nf s _ _ (by omega)) fun m _ => trivial

/-- Forward never panics on any block when the destination is as large as advertised -/
theorem exeForward_nf (dt : Option Nat) (src : List Nat) (dstLen : Nat)
    (hdst : exeMaxEncodedLen src.length ≤ dstLen) : Out.NF (exeForward dt src dstLen) := by
  unfold exeForward
  refine ite_of (fun _ => trivial) fun _ => ite_of (fun _ => trivial) fun hmin => ?_
  refine ite_of (fun _ => trivial) fun hmax => ite_of (fun _ => trivial) fun _ => ?_
  refine ite_of (fun _ => trivial) fun _ => ?_
  rw [MIN_BLOCK_SIZE_eq] at hmin
  rw [MAX_BLOCK_SIZE_eq] at hmax
  have hd9 : 9 ≤ dstLen := Nat.le_trans (by omega) (Nat.le_trans (exeMaxEncodedLen_ge src.length) hdst)
  have hsz : (List.take (src.length - 4) src).toArray.size = src.length - 4 := by
    rw [List.size_toArray, List.length_take]
    omega
  refine Out.Sat.bind (detectExeType_nf _ _ _ (by omega) (by omega)) fun d _ => ?_
  refine ite_of (fun _ => trivial) fun _ => ite_of (fun _ => fwdX86_nf src dstLen _ _ hd9) fun _ => ?_
  exact ite_of (fun _ => fwdARM_nf src dstLen _ _ hd9) fun _ => trivial

end Kanzi.EXE
