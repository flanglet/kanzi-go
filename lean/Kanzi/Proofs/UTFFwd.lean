/-
The UTF codec, `utfForward` as a whole.  The ranking (`ranked` is a permutation of the symbols: the only
fact used about the sort), the symbol-map loop (`mapLoop`: three bytes per symbol, the size estimate, the
alias of the symbol of rank `k` is `aliasCode k`, which stands for the one or two bytes `aliasBytes k`),
the alias emission loop (`emitLoop`) on a token walk, and the double-counting identity "length of the alias
stream = estimate computed from the multiplicities".  For every block of bytes and every destination of at
least `MaxEncodedLen` bytes Forward declines or returns `encoded src start ts iEnd rk`: header, symbol map,
the `start` head bytes, the alias stream of a token walk, the tail bytes; it never faults.  The ranking `rk`
enters only through: its keys are the distinct packed values, each once.
-/
import Kanzi.Proofs.UTFTok

namespace Kanzi.UTF
open Kanzi.RLT

/-! ## ranked: a permutation -/

theorem ranked_perm (am : Array Nat) (symb : List Nat) :
    (ranked am symb).Perm (symb.map fun s => (am.getD s 0, s)) := by
  unfold ranked
  exact (List.reverse_perm _).trans (List.mergeSort_perm _ _)

theorem ranked_keys_perm (am : Array Nat) (symb : List Nat) : ((ranked am symb).map (·.2)).Perm symb := by
  have h := (ranked_perm am symb).map (·.2)
  rw [List.map_map] at h
  have e : ((fun x : Nat × Nat => x.2) ∘ fun s => (am.getD s 0, s)) = id := by funext s; rfl
  rw [e, List.map_id] at h
  exact h

theorem ranked_fst (am : Array Nat) (symb : List Nat) : ∀ p ∈ ranked am symb, p.1 = am.getD p.2 0 := by
  intro p hp
  have := (ranked_perm am symb).mem_iff.mp hp
  rcases List.mem_map.mp this with ⟨s, _, rfl⟩
  rfl

/-! ## the alias encoding -/

/-- the bytes emitted for the symbol of rank `k` -/
def aliasBytes (k : Nat) : List Nat := if k < 128 then [k] else [128 + k % 128, k / 128]

def aliasCost (k : Nat) : Nat := if k < 128 then 1 else 2

theorem aliasBytes_length (k : Nat) : (aliasBytes k).length = aliasCost k := by
  unfold aliasBytes aliasCost; split <;> rfl

theorem aliasCode_small (k : Nat) (h : k < 128) :
    aliasCode k >>> 16 = 0 ∧ aliasCode k % 256 = k := by
  unfold aliasCode; rw [if_pos h, Nat.shiftRight_eq_div_pow]; omega

theorem aliasCode_big (k : Nat) (h1 : 128 ≤ k) (h2 : k < 32768) :
    aliasCode k = 65536 + (k / 128) * 256 + 128 + k % 128 := by
  unfold aliasCode; rw [if_neg (by omega)]
  have hk : (k * 2 ^ 1) &&& 0xFF00 = k / 128 * 2 ^ 8 := by
    have := and_split (k * 2 ^ 1) 0xFF00 8
    rwa [Nat.and_zero, Nat.add_zero, show (0xFF00 : Nat) / 2 ^ 8 = 2 ^ 8 - 1 from rfl, Nat.and_two_pow_sub_one_eq_mod,
      show k * 2 ^ 1 / 2 ^ 8 % 2 ^ 8 = k / 128 by omega] at this
  rw [Nat.shiftLeft_eq, hk, and_7F]
  have e1 : (0x10080 : Nat) = 0x10000 ||| 0x80 := by simp
  rw [e1, Nat.or_assoc, Nat.or_assoc, Nat.or_comm 0x80, Nat.or_assoc]
  rw [or_eq_add' 0x80 (k % 128) 7 rfl (Nat.mod_lt _ (by decide))]
  rw [or_eq_add (k / 128 * 2 ^ 8) _ 8 (Nat.mul_mod_left _ _) (by omega)]
  rw [or_eq_add 0x10000 _ 16 (by simp) (by omega)]
  omega

theorem aliasCode_big_bytes (k : Nat) (h1 : 128 ≤ k) (h2 : k < 32768) :
    aliasCode k >>> 16 = 1 ∧ aliasCode k % 256 = 128 + k % 128 ∧ (aliasCode k >>> 8) % 256 = k / 128 := by
  rw [aliasCode_big k h1 h2, Nat.shiftRight_eq_div_pow, Nat.shiftRight_eq_div_pow]; omega

/-! ## the symbol-map loop -/

def mapBytes (rk : List (Nat × Nat)) : List Nat :=
  rk.flatMap fun p => [(p.2 >>> 16) % 256, (p.2 >>> 8) % 256, p.2 % 256]

theorem mapBytes_length (rk : List (Nat × Nat)) : (mapBytes rk).length = 3 * rk.length := by
  induction rk with
  | nil => rfl
  | cons p tl ih =>
    unfold mapBytes at ih ⊢
    rw [List.flatMap_cons, List.length_append, ih]; simp; omega

/-- Go: what the map loop adds to `estimate` from rank `i` on -/
def estSum : List (Nat × Nat) → Nat → Nat
  | [], _ => 0
  | p :: tl, i => (if i < 128 then p.1 else 2 * p.1) + estSum tl (i + 1)

/-- `aliasMap` after the map loop -/
def amFinal : List (Nat × Nat) → Nat → Array Nat → Array Nat
  | [], _, am => am
  | p :: tl, i, am => amFinal tl (i + 1) (am.setIfInBounds p.2 (aliasCode i))

theorem amFinal_size (rk : List (Nat × Nat)) : ∀ (i : Nat) (am : Array Nat), (amFinal rk i am).size = am.size := by
  induction rk with
  | nil => intro i am; rfl
  | cons p tl ih => intro i am; rw [amFinal, ih]; simp

theorem amFinal_untouched (rk : List (Nat × Nat)) : ∀ (i : Nat) (am : Array Nat) (v : Nat),
    v ∉ rk.map (·.2) → (amFinal rk i am).getD v 0 = am.getD v 0 := by
  induction rk with
  | nil => intro i am v _; rfl
  | cons p tl ih =>
    intro i am v hv
    simp only [List.map_cons, List.mem_cons, not_or] at hv
    rw [amFinal, ih _ _ _ hv.2, getD_setIfInBounds, if_neg]
    intro h; exact hv.1 h.1.symm

theorem amFinal_get (rk : List (Nat × Nat)) : ∀ (i : Nat) (am : Array Nat) (v : Nat),
    (rk.map (·.2)).Nodup → (∀ p ∈ rk, p.2 < am.size) → v ∈ rk.map (·.2) →
    (amFinal rk i am).getD v 0 = aliasCode (i + (rk.map (·.2)).idxOf v) := by
  induction rk with
  | nil => intro i am v _ _ hv; simp at hv
  | cons p tl ih =>
    intro i am v hnd hlt hv
    simp only [List.map_cons] at hnd hv ⊢
    rw [List.nodup_cons] at hnd
    rw [amFinal, List.idxOf_cons]
    by_cases hpv : p.2 = v
    · subst hpv
      rw [amFinal_untouched tl _ _ _ hnd.1, getD_setIfInBounds, if_pos ⟨rfl, hlt p (by simp)⟩]
      simp
    · have hv' : v ∈ tl.map (·.2) := by
        rcases List.mem_cons.mp hv with h | h
        · exact absurd h.symm hpv
        · exact h
      rw [ih (i + 1) _ v hnd.2 (fun q hq => by simp; exact hlt q (by simp [hq])) hv']
      have : (p.2 == v) = false := by simp [hpv]
      rw [this]; simp only [cond_false]
      congr 1; omega

theorem mapLoop_spec (dstLen : Nat) (rk : List (Nat × Nat)) : ∀ (i : Nat) (am : Array Nat) (est : Nat) (out : Array Nat),
    (∀ p ∈ rk, p.2 < am.size) → out.size + 3 * rk.length ≤ dstLen →
    mapLoop dstLen rk i am est out = .ok ⟨amFinal rk i am, est + estSum rk i, out ++ mapBytes rk⟩ := by
  induction rk with
  | nil =>
    intro i am est out _ _
    simp [mapLoop, amFinal, estSum, mapBytes]
  | cons p tl ih =>
    intro i am est out hlt hd
    unfold mapLoop
    rw [wr_ok _ _ _ (by simp at hd ⊢; omega)]
    simp only [Out.bind_ok]
    rw [if_neg (by have := hlt p (by simp); omega)]
    rw [ih (i + 1) _ _ _ (fun q hq => by simp; exact hlt q (by simp [hq]))
      (by rw [size_appendList]; simp at hd ⊢; omega)]
    simp only [amFinal, estSum, mapBytes, List.flatMap_cons]
    congr 2
    · omega

/-! ## the alias emission loop -/

theorem appendList_nil' (out : Array Nat) : out ++ ([] : List Nat) = out := by
  apply Array.toList_inj.mp; simp

def aliasStream (kof : Nat → Nat) (ts : List (Nat × Nat)) : List Nat := ts.flatMap fun t => aliasBytes (kof t.2)

theorem emitLoop_alias (src : Array Nat) (endI dstLen : Nat) (am : Array Nat) (f i k : Nat) (out : Array Nat)
    (hi : i < endI) (hsz : endI + 4 ≤ src.size) (h1 : (tokAt src i).2 < am.size)
    (h3 : am.getD (tokAt src i).2 0 = aliasCode k) (hk : k < 32768) (hd : out.size + 2 ≤ dstLen) :
    emitLoop src endI dstLen am (f + 1) i out =
      emitLoop src endI dstLen am f (i + (tokAt src i).1) (out ++ aliasBytes k) := by
  rw [emitLoop, if_pos hi, pack_eq src i (by omega), Out.bind_ok, if_neg (Nat.not_le.2 h1)]
  dsimp only
  rw [h3, if_neg (Nat.not_lt.2 hd)]
  unfold aliasBytes
  by_cases hsm : k < 128
  · have hc := aliasCode_small k hsm
    rw [if_pos hc.1, hc.2, if_pos hsm]
  · have hc := aliasCode_big_bytes k (Nat.le_of_not_lt hsm) hk
    rw [if_neg (by omega), if_pos hc.1, hc.2.1, hc.2.2, if_neg hsm]

theorem emitLoop_spec (src : Array Nat) (endI dstLen : Nat) (am : Array Nat) (kof : Nat → Nat)
    (hsz : endI + 4 ≤ src.size) {i iEnd : Nat} {ts : List (Nat × Nat)} (h : Toks src endI i ts iEnd) :
    (∀ t ∈ ts, t.2 < am.size ∧ kof t.2 < 32768 ∧ am.getD t.2 0 = aliasCode (kof t.2)) →
    ∀ (f : Nat) (out : Array Nat), endI ≤ i + f → out.size + (aliasStream kof ts).length + 1 ≤ dstLen →
      emitLoop src endI dstLen am f i out = .ok (iEnd, out ++ aliasStream kof ts) := by
  induction h with
  | nil i hi =>
    intro _ f out _ _
    cases f <;> simp [emitLoop, hi, aliasStream]
  | cons i ts iEnd hi hok hrest ih =>
    intro hall f out hf hd
    have hpos := seqOk_pos _ _ _ hok
    obtain ⟨h1, h2, h3⟩ := hall (tokAt src i) List.mem_cons_self
    have hs : aliasStream kof (tokAt src i :: ts) = aliasBytes (kof (tokAt src i).2) ++ aliasStream kof ts :=
      List.flatMap_cons
    have hc : 1 ≤ aliasCost (kof (tokAt src i).2) ∧ aliasCost (kof (tokAt src i).2) ≤ 2 := by
      unfold aliasCost
      split <;> omega
    rw [hs, List.length_append, aliasBytes_length] at hd
    obtain ⟨f, rfl⟩ : ∃ f', f = f' + 1 := ⟨f - 1, by omega⟩
    rw [emitLoop_alias src endI dstLen am f i _ out hi hsz h1 h3 h2 (by omega),
      ih (fun t ht => hall t (List.mem_cons_of_mem _ ht)) f _ (by omega)
        (by rw [size_appendList, aliasBytes_length]; omega), appendList_assoc, hs]

/-! ## double counting -/

theorem sum_map_split (g : Nat → Nat) (a : Nat) (vals : List Nat) :
    (vals.map g).sum = vals.count a * g a + ((vals.filter (fun v => v != a)).map g).sum := by
  induction vals with
  | nil => simp
  | cons v tl ih =>
    by_cases hva : v = a
    · subst hva
      simp only [List.map_cons, List.sum_cons, List.count_cons_self, bne_self_eq_false, Bool.false_eq_true,
        not_false_eq_true, List.filter_cons_of_neg, ih]
      rw [Nat.add_mul]; omega
    · have h1 : (v != a) = true := by simp [hva]
      have h2 : (v == a) = false := by simp [hva]
      rw [List.filter_cons]
      simp only [h1, if_true, List.map_cons, List.sum_cons, ih, List.count_cons, h2]
      simp; omega

/-- the length of the alias stream, token by token, equals the estimate computed rank by rank from the
    multiplicities -/
theorem alias_sum (rk : List (Nat × Nat)) : ∀ (vals : List Nat) (i0 : Nat),
    (rk.map (·.2)).Nodup → (∀ v ∈ vals, v ∈ rk.map (·.2)) → (∀ p ∈ rk, p.1 = vals.count p.2) →
    (vals.map fun v => aliasCost (i0 + (rk.map (·.2)).idxOf v)).sum = estSum rk i0 := by
  induction rk with
  | nil =>
    intro vals i0 _ hmem _
    have : vals = [] := by
      cases vals with
      | nil => rfl
      | cons v tl => exact absurd (hmem v (by simp)) (by simp)
    subst this; rfl
  | cons p tl ih =>
    intro vals i0 hnd hmem hcnt
    simp only [List.map_cons] at hnd hmem ⊢
    rw [List.nodup_cons] at hnd
    rw [sum_map_split _ p.2 vals, estSum]
    have hp := hcnt p (by simp)
    have e1 : vals.count p.2 * aliasCost (i0 + List.idxOf p.2 (p.2 :: tl.map (·.2))) =
        (if i0 < 128 then p.1 else 2 * p.1) := by
      rw [List.idxOf_cons]; simp only [beq_self_eq_true, cond_true, Nat.add_zero, aliasCost, ← hp]
      split <;> omega
    rw [e1]
    congr 1
    -- the other values: ranks shift by one
    have e2 : ((vals.filter fun v => v != p.2).map fun v => aliasCost (i0 + List.idxOf v (p.2 :: tl.map (·.2)))) =
        ((vals.filter fun v => v != p.2).map fun v => aliasCost (i0 + 1 + (tl.map (·.2)).idxOf v)) := by
      apply List.map_congr_left
      intro v hv
      have hne : v ≠ p.2 := by simpa using (List.mem_filter.mp hv).2
      have : (p.2 == v) = false := by simp; exact fun h => hne h.symm
      rw [List.idxOf_cons, this]; simp only [cond_false]
      congr 1; omega
    rw [e2]
    apply ih _ _ hnd.2
    · intro v hv
      have hne : v ≠ p.2 := by simpa using (List.mem_filter.mp hv).2
      rcases List.mem_cons.mp (hmem v (List.mem_filter.mp hv).1) with h | h
      · exact absurd h hne
      · exact h
    · intro q hq
      rw [hcnt q (by simp [hq])]
      have hne : q.2 ≠ p.2 := by
        intro h; apply hnd.1; rw [← h]; exact List.mem_map.mpr ⟨q, hq, rfl⟩
      rw [List.count_filter]; simp [hne]

/-! ## the head -/

theorem headSkip_spec (src : Array Nat) : ∀ (k st : Nat), st + k ≤ src.size →
    Out.Sat [] (fun s => st ≤ s ∧ s ≤ st + k) (headSkip src k st) := by
  intro k
  induction k with
  | zero => intro st _; exact ⟨Nat.le_refl st, Nat.le_refl st⟩
  | succ k ih =>
    intro st h
    unfold headSkip
    rw [getElem?_eq_getD src st (by omega)]
    simp only []
    -- as a variable, so that unfolding the goal stops at the guard (it would evaluate the size table)
    generalize utfSize (src.getD st 0) = sz
    exact ite_of (fun _ => (ih (st + 1) (by omega)).mono fun s hs => ⟨by omega, by omega⟩) fun _ =>
      ⟨Nat.le_refl st, Nat.le_add_right st _⟩

theorem headStart_spec (src : Array Nat) (h : 4 ≤ src.size) : Out.Sat [] (fun s => s ≤ 3) (headStart src) := by
  unfold headStart
  rw [getElem?_eq_getD src 0 (by omega), getElem?_eq_getD src 1 (by omega), getElem?_eq_getD src 2 (by omega),
    getElem?_eq_getD src 3 (by omega)]
  exact ite_of (fun _ => Nat.le_refl 3) fun _ => (headSkip_spec src 3 0 (by omega)).mono fun s hs => by omega

/-! ## the part of Forward after the counting loop -/

/-- the continuation of `utfForward` after `countLoop`, given a name so that `fwdAfterCount_spec` can be
    stated about it (same text as in the model: `utfForward_eq` is `rfl`) -/
def fwdAfterCount (a : Array Nat) (dstLen start : Nat) (c : Array Nat × Array Nat) : Res :=
  let count := a.size
  let n := c.2.size
  if n = 0 then .err "notutf"
  else
    let maxTarget := count - count / 10
    if 3 * n + 6 ≥ maxTarget then .err "noimp"
    else
      (wr dstLen #[0, 0] [(n >>> 8) % 256, n % 256]).bind fun o =>
      (mapLoop dstLen (ranked c.1 c.2.toList) 0 c.1 (4 + 6 + 3 * n) o).bind fun m =>
        if m.est ≥ maxTarget then .err "noimp"
        else
          (wr dstLen m.out (a.extract 0 start).toList).bind fun o2 =>
          (emitLoop a (count - 4) dstLen m.am count start o2).bind fun e =>
          (wr dstLen e.2 (a.extract e.1 count).toList).bind fun o3 =>
            if o3.size ≥ maxTarget then .err "noimp"
            else .ok (start % 256 :: (e.1 - (count - 4)) % 256 :: o3.toList.drop 2)

theorem utfForward_eq (dt : Nat) (src : List Nat) (dstLen : Nat) :
    utfForward dt src dstLen =
      if src.length = 0 ∨ dstLen = 0 then .ok []
      else if src.length < MIN_BLOCKSIZE then .err "small"
      else if dstLen < utfMaxEncodedLen src.length then .err "dst"
      else if dt ≠ DT_UNDEFINED ∧ dt ≠ DT_UTF8 then .err "type"
      else
        (headStart src.toArray).bind fun start =>
          if dt ≠ DT_UTF8 ∧ validate ((src.toArray.extract start (src.toArray.size - 4)).toList) = false then .err "notutf"
          else
            (countLoop src.toArray (src.toArray.size - 4) src.toArray.size start (Array.replicate ALIAS_MAP_SIZE 0) #[]).bind
              fun c => fwdAfterCount src.toArray dstLen start c := rfl

/-- the ranking as a function of the packed value -/
def kofOf (rk : List (Nat × Nat)) (v : Nat) : Nat := (rk.map (·.2)).idxOf v

/-- the output of a successful Forward -/
def encoded (src : List Nat) (start : Nat) (ts : List (Nat × Nat)) (iEnd : Nat) (rk : List (Nat × Nat)) : List Nat :=
  start :: (iEnd - (src.length - 4)) :: (rk.length >>> 8) % 256 :: rk.length % 256 ::
    (mapBytes rk ++ (src.take start ++ (aliasStream (kofOf rk) ts ++ src.drop iEnd)))

/-- what is known about the pieces of a successful Forward -/
structure FwdOK (src : List Nat) (start : Nat) (ts : List (Nat × Nat)) (iEnd : Nat) (rk : List (Nat × Nat)) : Prop where
  len : 1024 ≤ src.length
  start_le : start ≤ 3
  toks : Toks src.toArray (src.length - 4) start ts iEnd
  n_pos : 0 < rk.length
  n_lt : rk.length < 32768
  nodup : (rk.map (·.2)).Nodup
  tok_mem : ∀ t ∈ ts, t.2 ∈ rk.map (·.2)
  key_tok : ∀ v ∈ rk.map (·.2), ∃ t ∈ ts, t.2 = v
  short : (encoded src start ts iEnd rk).length < src.length - src.length / 10

theorem FwdOK.iEnd_bounds {src : List Nat} {start iEnd : Nat} {ts rk : List (Nat × Nat)} (h : FwdOK src start ts iEnd rk) :
    start ≤ iEnd ∧ src.length ≤ iEnd + 4 ∧ iEnd < src.length ∧ 4 ≤ src.length := by
  have := h.toks.bounds
  have := h.len
  have := h.start_le
  omega

theorem encoded_length (src : List Nat) (start iEnd : Nat) (ts rk : List (Nat × Nat)) (hs : start ≤ src.length) :
    (encoded src start ts iEnd rk).length =
      4 + 3 * rk.length + start + (aliasStream (kofOf rk) ts).length + (src.length - iEnd) := by
  unfold encoded
  simp only [List.length_cons, List.length_append, mapBytes_length, List.length_take, List.length_drop,
    Nat.min_eq_left hs]
  omega

theorem aliasStream_length (kof : Nat → Nat) (ts : List (Nat × Nat)) :
    (aliasStream kof ts).length = ((ts.map (·.2)).map fun v => aliasCost (kof v)).sum := by
  unfold aliasStream
  rw [List.length_flatMap, List.map_map]
  congr 1
  apply List.map_congr_left
  intro t _
  simp [aliasBytes_length]

/-- the stores of Forward, in their order, end inside a destination of `len + 8192` bytes: header, symbol map and
    head bytes by the first size check (`3 n + 6 < T ≤ len`), the alias stream of `S` bytes (with the spare byte
    `emitLoop_spec` asks for) and the tail by the second (`10 + 3 n + S < T`) -/
theorem layout_fits {len dstLen T n start S tail : Nat} (hd : len + 8192 ≤ dstLen) (hT : T ≤ len) (hs : start ≤ 3)
    (ht : tail ≤ 4) (h1 : 3 * n + 6 < T) :
    4 ≤ dstLen ∧ 4 + 3 * n ≤ dstLen ∧ 4 + 3 * n + start ≤ dstLen ∧
      (4 + 6 + 3 * n + S < T → 4 + 3 * n + start + S + 1 ≤ dstLen ∧ 4 + 3 * n + start + S + tail ≤ dstLen) := by
  omega

/-- after a counting loop whose result is the fold over the walk `ts`: a decline, or `encoded` for some
    ranking `rk` with `FwdOK`.  No write hits the end of the destination: the size checks against the target
    `len - len/10` come first, the estimate checked after the map loop is exactly the length of the alias
    stream (`alias_sum`), and the destination holds `MaxEncodedLen = len + 8192` bytes. -/
theorem fwdAfterCount_spec (src : List Nat) (dstLen start iEnd : Nat) (ts : List (Nat × Nat))
    (hb : ∀ x ∈ src, x < 256) (hlen : 1024 ≤ src.length) (hdst : utfMaxEncodedLen src.length ≤ dstLen)
    (hstart : start ≤ 3) (ht : Toks src.toArray (src.length - 4) start ts iEnd)
    (hs : ((ts.map (·.2)).foldl cstep (Array.replicate ALIAS_MAP_SIZE 0, #[])).2.size < MAX_SYMBOLS) :
    Out.Sat [] (fun t => ∃ rk, FwdOK src start ts iEnd rk ∧ t = encoded src start ts iEnd rk)
      (fwdAfterCount src.toArray dstLen start ((ts.map (·.2)).foldl cstep (Array.replicate ALIAS_MAP_SIZE 0, #[]))) := by
  have hb' : ∀ x ∈ src.toArray.toList, x < 256 := by simpa using hb
  have hvlt : ∀ v ∈ ts.map (·.2), v < 4194304 := by
    intro v hv
    rcases List.mem_map.mp hv with ⟨t, ht', rfl⟩
    exact (ht.all hb' t ht').1
  have hinv := CInv.fold (ts.map (·.2)) [] _ CInv.init hvlt
  rw [List.nil_append] at hinv
  generalize (ts.map (·.2)).foldl cstep (Array.replicate ALIAS_MAP_SIZE 0, #[]) = st at hinv hs ⊢
  unfold fwdAfterCount
  simp only [List.size_toArray]
  -- the ranking: all that is used of it
  have hperm := ranked_keys_perm st.1 st.2.toList
  have hrl : (ranked st.1 st.2.toList).length = st.2.size := by
    have := hperm.length_eq; simpa using this
  have hnd : ((ranked st.1 st.2.toList).map (·.2)).Nodup := hperm.nodup_iff.mpr hinv.nodup
  have hkey : ∀ v, v ∈ (ranked st.1 st.2.toList).map (·.2) ↔ v ∈ ts.map (·.2) := by
    intro v; rw [hperm.mem_iff, hinv.mem]
  have hfst := ranked_fst st.1 st.2.toList
  clear hperm
  generalize ranked st.1 st.2.toList = rk at hrl hnd hkey hfst ⊢
  have hplt : ∀ p ∈ rk, p.2 < st.1.size := by
    intro p hp
    rw [hinv.size]
    exact hvlt _ ((hkey p.2).mp (List.mem_map.mpr ⟨p, hp, rfl⟩))
  have hmb := mapBytes_length rk
  have hsum : (aliasStream (kofOf rk) ts).length = estSum rk 0 := by
    rw [aliasStream_length]
    have := alias_sum rk (ts.map (·.2)) 0 hnd (fun v hv => (hkey v).mpr hv) (fun p hp => by
      rw [hfst p hp]
      exact hinv.cnt p.2 (by have := hplt p hp; rw [hinv.size] at this; exact this))
    simp only [Nat.zero_add] at this
    exact this
  obtain ⟨hi1, hi2⟩ : src.length ≤ iEnd + 4 ∧ iEnd < src.length := by
    have := ht.bounds
    omega
  unfold utfMaxEncodedLen at hdst
  unfold MAX_SYMBOLS at hs
  -- the target size enters the bounds checks only through `T ≤ src.length`
  generalize hT : src.length - src.length / 10 = T
  have hTle : T ≤ src.length := by omega
  have hshort : ∀ L, L < T → L < src.length - src.length / 10 := fun L hL => hT ▸ hL
  clear hT
  rw [← hrl]
  generalize hn : rk.length = n at hmb
  refine ite_of (fun _ => trivial) fun hn0 => ?_
  refine ite_of (fun _ => trivial) fun hn1 => ?_
  obtain ⟨fitHdr, fitMap, fitHead, fitRest⟩ := layout_fits (S := estSum rk 0) hdst hTle hstart
    (Nat.sub_le_iff_le_add'.mpr hi1) (Nat.lt_of_not_ge hn1)
  have s1 : ((#[0, 0] : Array Nat) ++ [(n >>> 8) % 256, n % 256]).size = 4 := by rw [size_appendList]; rfl
  rw [wr_ok _ _ _ (by rw [List.length_cons, List.length_singleton]; exact fitHdr)]
  simp only [Out.bind_ok]
  rw [mapLoop_spec _ _ _ _ _ _ hplt (by rw [s1, hn]; exact fitMap)]
  simp only [Out.bind_ok]
  have s2 : (((#[0, 0] : Array Nat) ++ [(n >>> 8) % 256, n % 256]) ++ mapBytes rk).size = 4 + 3 * n := by
    rw [size_appendList, s1, hmb]
  refine ite_of (fun _ => trivial) fun hn2 => ?_
  obtain ⟨fitStream, fitTail⟩ := fitRest (Nat.lt_of_not_ge hn2)
  have hhead : (src.toArray.extract 0 start).toList = src.take start := by
    rw [Array.toList_extract]; simp [List.extract]
  have hhl : (src.take start).length = start := by rw [List.length_take]; omega
  rw [hhead, wr_ok _ _ _ (by rw [s2, hhl]; exact fitHead)]
  simp only [Out.bind_ok]
  have s3 : ((((#[0, 0] : Array Nat) ++ [(n >>> 8) % 256, n % 256]) ++ mapBytes rk) ++ src.take start).size =
      4 + 3 * n + start := by
    rw [size_appendList, s2, hhl]
  rw [emitLoop_spec src.toArray (src.length - 4) dstLen (amFinal rk 0 st.1) (kofOf rk) (by simp; omega) ht (by
      intro t ht'
      have hmem : t.2 ∈ rk.map (·.2) := (hkey t.2).mpr (List.mem_map.mpr ⟨t, ht', rfl⟩)
      refine ⟨?_, ?_, ?_⟩
      · rw [amFinal_size, hinv.size]; exact (ht.all hb' t ht').1
      · have := List.idxOf_lt_length_iff.mpr hmem
        rw [List.length_map] at this
        unfold kofOf; omega
      · have := amFinal_get rk 0 st.1 t.2 hnd hplt hmem
        rw [Nat.zero_add] at this
        exact this)
    src.length _ (by omega) (by rw [hsum, s3]; exact fitStream)]
  simp only [Out.bind_ok]
  have htail : (src.toArray.extract iEnd src.length).toList = src.drop iEnd := by
    rw [Array.toList_extract]; simp only [List.extract]
    exact List.take_of_length_le (by simp)
  have s4 : ((((((#[0, 0] : Array Nat) ++ [(n >>> 8) % 256, n % 256]) ++ mapBytes rk) ++ src.take start) ++
      aliasStream (kofOf rk) ts) ++ src.drop iEnd).size = (encoded src start ts iEnd rk).length := by
    rw [size_appendList, size_appendList, s3, encoded_length _ _ _ _ _ (by omega), hn, List.length_drop]
  rw [htail, wr_ok _ _ _ (by rw [size_appendList, s3, hsum, List.length_drop]; exact fitTail)]
  simp only [Out.bind_ok]
  rw [s4]
  refine ite_of (fun _ => trivial) fun hn3 => ?_
  refine ⟨rk, ?_, ?_⟩
  · exact {
      len := hlen
      start_le := hstart
      toks := ht
      n_pos := by rw [hn]; exact Nat.pos_of_ne_zero hn0
      n_lt := by omega
      nodup := hnd
      tok_mem := fun t ht' => (hkey t.2).mpr (List.mem_map.mpr ⟨t, ht', rfl⟩)
      key_tok := fun v hv => by
        rcases List.mem_map.mp ((hkey v).mp hv) with ⟨t, ht', rfl⟩
        exact ⟨t, ht', rfl⟩
      short := hshort _ (by omega) }
  · unfold encoded
    rw [Nat.mod_eq_of_lt (by omega : start < 256), Nat.mod_eq_of_lt (by omega : iEnd - (src.length - 4) < 256), hn]
    simp

/-- Forward on a destination of at least `MaxEncodedLen` bytes: `.ok []` for the empty block, a decline,
    or the encoding of a token walk; never a fault -/
theorem utfForward_spec (dt : Nat) (src : List Nat) (dstLen : Nat) (hb : ∀ x ∈ src, x < 256)
    (hdst : utfMaxEncodedLen src.length ≤ dstLen) :
    Out.Sat [] (fun t => src = [] ∧ t = [] ∨ (dt = DT_UNDEFINED ∨ dt = DT_UTF8) ∧
        ∃ start ts iEnd rk, FwdOK src start ts iEnd rk ∧ t = encoded src start ts iEnd rk)
      (utfForward dt src dstLen) := by
  rw [utfForward_eq]
  have hd0 : dstLen ≠ 0 := by unfold utfMaxEncodedLen at hdst; omega
  refine ite_of (fun h0 => Or.inl ⟨List.length_eq_zero_iff.mp (by omega), rfl⟩) fun h0 => ?_
  refine ite_of (fun _ => trivial) fun h1 => ite_of (fun _ => trivial) fun _ => ite_of (fun _ => trivial) fun h2 => ?_
  unfold MIN_BLOCKSIZE at h1
  refine (headStart_spec src.toArray (by simp; omega)).bind fun start hstart => ite_of (fun _ => trivial) fun _ => ?_
  have hb' : ∀ x ∈ src.toArray.toList, x < 256 := by simpa using hb
  refine (countLoop_spec src.toArray (src.toArray.size - 4) hb' (by simp; omega) src.toArray.size start
    (Array.replicate ALIAS_MAP_SIZE 0) #[] (by omega) (by simp [ALIAS_MAP_SIZE]) (by simp [MAX_SYMBOLS])).bind
      fun c ⟨ts, iEnd, ht, hc, hs⟩ => ?_
  subst hc
  simp only [List.size_toArray] at ht
  exact (fwdAfterCount_spec src dstLen start iEnd ts hb (by omega) hdst hstart ht hs).mono
    fun t ⟨rk, hok, he⟩ => Or.inr ⟨by omega, start, ts, iEnd, rk, hok, he⟩

end Kanzi.UTF
