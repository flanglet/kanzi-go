/-
The small transforms of `Kanzi/Model/TrSmall.lean`: round trips of NullTransform, ZRLT (the inverse is
followed token by token through the encoding `zrltEnc`) and SBRT (the two rank tables stay mutually
inverse permutations, `PermInv`), the bit arithmetic of the skip flags and of the mode byte of
ByteTransformSequence, and the three transforms as stages of a sequence (`Stage.GoodOn`).  The sequence itself is
in `Kanzi/Proofs/Seq.lean`.  The statements are published in `Kanzi/Properties/C13_small.lean`.
-/
import Kanzi.Model.TrSmall
import Kanzi.Proofs.Base

namespace Kanzi.TrSmall

/-! ## Array helpers -/

theorem appendList_nil (a : Array Nat) : a ++ ([] : List Nat) = a := by
  apply Array.ext'; simp

/-! ## NullTransform -/

/-- `doCopy` into any destination that can hold the block -/
theorem nullCopy_ok {b : List Nat} {k : Nat} (hk : b.length ≤ k) : nullCopy b k = .ok b := by
  unfold nullCopy
  by_cases h0 : b.length = 0 ∨ k = 0
  · have hb : b = [] := List.eq_nil_of_length_eq_zero (by omega)
    rw [if_pos h0, hb]
  · rw [if_neg h0, if_neg (Nat.not_lt.2 hk)]

theorem null_roundtrip (b : List Nat) (n m : Nat)
    (hn : nullMaxEncodedLen b.length ≤ n) (hm : b.length ≤ m) :
    nullForward b n = .ok b ∧ nullInverse b m = .ok b :=
  ⟨by rw [nullForward, if_neg (Nat.not_lt.2 hn)]; exact nullCopy_ok hn, nullCopy_ok hm⟩

/-! ## ZRLT -/

theorem bitBytes_length (v k : Nat) : (bitBytes v k).length = k := by
  induction k with
  | zero => rfl
  | succ k ih => simp [bitBytes, ih]

theorem bit_le_one (v k : Nat) : (v >>> k) &&& 1 ≤ 1 := by
  rw [Nat.and_one_is_mod]; omega

/-- the side condition that makes Go's unsigned `dstEnd-uint(log2)` safe -/
theorem zrlt_log2_le (run n : Nat) (h : run ≤ n) : zrltLog2 (run + 1) ≤ n := by
  unfold zrltLog2
  have h1 : (run + 1) % 2 ^ 32 ≤ run + 1 := Nat.mod_le _ _
  by_cases h0 : (run + 1) % 2 ^ 32 = 0
  · rw [h0]; exact Nat.le_trans (by decide : Nat.log2 0 ≤ 0) (Nat.zero_le _)
  · have h2 := Nat.log2_self_le h0
    have h3 : (run + 1) % 2 ^ 32 < 2 ^ n.succ := by
      have : n + 1 < 2 ^ (n + 1) := Nat.lt_two_pow_self
      omega
    have := (Nat.log2_lt h0).2 h3
    omega

/-- inside a run-length token the inverse only accumulates bits: from the bits of `v` above bit `k`
    it arrives at `v` -/
theorem zrltInvGo_bits (dstEnd v : Nat) (rest : List Nat) (out : Array Nat) (hv : v < 2 ^ 64) :
    ∀ k, zrltInvGo dstEnd (bitBytes v k ++ rest) (some (v >>> k)) out
        = zrltInvGo dstEnd rest (some v) out := by
  intro k
  induction k with
  | zero => rfl
  | succ k ih =>
    have e : v >>> (k + 1) + (v >>> (k + 1) + ((v >>> k) &&& 1)) = v >>> k := by
      rw [Nat.shiftRight_succ, Nat.and_one_is_mod]; omega
    simp only [bitBytes, List.cons_append]
    rw [zrltInvGo, if_pos (bit_le_one v k)]
    rw [e, show wrap64 (v >>> k) = v >>> k from
      Nat.mod_eq_of_lt (Nat.lt_of_le_of_lt (Nat.shiftRight_le _ _) hv), ih]

theorem zrltLog2_spec (run : Nat) (h : run + 1 < 2 ^ 32) :
    2 ^ zrltLog2 (run + 1) ≤ run + 1 ∧ run + 1 < 2 * 2 ^ zrltLog2 (run + 1) := by
  unfold zrltLog2
  rw [Nat.mod_eq_of_lt h, Nat.mul_comm, ← Nat.pow_succ]
  exact ⟨Nat.log2_self_le (Nat.succ_ne_zero run), Nat.lt_log2_self⟩

/-- the run-length token emitted by the forward transform for `run` zeros -/
def tokBits (run : Nat) : List Nat :=
  if run = 0 then [] else bitBytes (run + 1) (zrltLog2 (run + 1))

/-- the encoding of a non-zero byte -/
def encByte (x : Nat) : List Nat := if x ≥ 0xFE then [0xFF, x - 0xFE] else [x + 1]

/-- a whole token read from outside a run: the state becomes `some (run+1)` -/
theorem zrltInvGo_token (dstEnd run : Nat) (rest : List Nat) (out : Array Nat)
    (h0 : 0 < run) (h : run + 1 < 2 ^ 32) (hout : out.size < dstEnd) :
    zrltInvGo dstEnd (tokBits run ++ rest) none out = zrltInvGo dstEnd rest (some (run + 1)) out := by
  obtain ⟨hlo, hhi⟩ := zrltLog2_spec run h
  have h1 : (run + 1) >>> zrltLog2 (run + 1) = 1 := by
    rw [Nat.shiftRight_eq_div_pow]
    exact Nat.div_eq_of_lt_le (by omega) (by omega)
  obtain ⟨k, hk⟩ : ∃ k, zrltLog2 (run + 1) = k + 1 := by
    cases hz : zrltLog2 (run + 1) with
    | zero => rw [hz] at hhi; omega
    | succ k => exact ⟨k, rfl⟩
  rw [tokBits, if_neg (Nat.ne_of_gt h0), ← zrltInvGo_bits dstEnd (run + 1) rest out (by omega) _, h1, hk]
  -- the first bit, read from `none`, leaves the same state as from `some 1`
  simp only [bitBytes, List.cons_append]
  rw [zrltInvGo, zrltInvGo, if_pos (bit_le_one _ k), if_pos (bit_le_one _ k),
    if_neg (Nat.not_le.2 hout)]

theorem zrltInvGo_literal (dstEnd x : Nat) (rest : List Nat) (st : Option Nat) (out o1 : Array Nat)
    (hx0 : x ≠ 0) (hx : x < 256) (hf : zrltInvFlush dstEnd st out = .ok o1) :
    zrltInvGo dstEnd (encByte x ++ rest) st out = zrltInvGo dstEnd rest none (o1.push x) := by
  unfold encByte
  by_cases hge : x ≥ 0xFE
  · rw [if_pos hge]
    simp only [List.cons_append, List.nil_append]
    rw [zrltInvGo.eq_def]
    simp only []
    rw [if_neg (by omega), hf]
    simp only [if_true]
    rw [Nat.add_sub_cancel' hge, Nat.mod_eq_of_lt hx]
  · rw [if_neg hge]
    simp only [List.cons_append, List.nil_append]
    rw [zrltInvGo.eq_def]
    simp only []
    rw [if_neg (by omega), hf]
    simp only []
    rw [if_neg (by omega)]
    rw [Nat.add_sub_cancel]

theorem wrap64_pred (run : Nat) (h : run + 1 < 2 ^ 32) : wrap64 (run + 1 + (2 ^ 64 - 1)) = run := by
  unfold wrap64; omega

theorem zrltInvGo_run_literal (dstEnd run x : Nat) (rest : List Nat) (out : Array Nat)
    (hx0 : x ≠ 0) (hx : x < 256) (h : run + 1 < 2 ^ 32) (hroom : out.size + run + 1 ≤ dstEnd) :
    zrltInvGo dstEnd (tokBits run ++ encByte x ++ rest) none out
      = zrltInvGo dstEnd rest none (out ++ (List.replicate run 0 ++ [x])) := by
  by_cases h0 : run = 0
  · subst h0
    have hf : zrltInvFlush dstEnd none out = .ok out := by
      unfold zrltInvFlush; simp only; rw [if_neg (by omega)]
    simp only [tokBits, if_true, List.nil_append]
    rw [zrltInvGo_literal dstEnd x rest none out out hx0 hx hf, push_eq_appendList]
    simp
  · have hf : zrltInvFlush dstEnd (some (run + 1)) out = .ok (out ++ List.replicate run 0) := by
      unfold zrltInvFlush; simp only
      rw [wrap64_pred run h, if_neg (by omega)]
    rw [List.append_assoc, zrltInvGo_token dstEnd run _ out (by omega) h (by omega)]
    rw [zrltInvGo_literal dstEnd x rest _ out _ hx0 hx hf, push_eq_appendList, appendList_assoc]

theorem zrltInvGo_run_end (dstEnd run : Nat) (out : Array Nat)
    (h : run + 1 < 2 ^ 32) (hroom : out.size + run ≤ dstEnd) :
    zrltInvGo dstEnd (tokBits run) none out = .ok (out ++ List.replicate run 0) := by
  by_cases h0 : run = 0
  · subst h0; simp [tokBits, zrltInvGo]
  · have := zrltInvGo_token dstEnd run [] out (by omega) h (by omega)
    rw [List.append_nil] at this
    rw [this, zrltInvGo]
    rw [if_neg (by omega), if_neg (by omega)]
    simp

theorem zrltFlush_spec (dstEnd run : Nat) (out o1 : Array Nat) (h : zrltFlush dstEnd run out = some o1) :
    o1 = out ++ tokBits run ∧ (out.size ≤ dstEnd → o1.size ≤ dstEnd) := by
  unfold zrltFlush at h
  unfold tokBits
  by_cases h0 : run = 0
  · rw [if_pos h0] at h
    injection h with h
    subst h
    simp [h0]
  · rw [if_neg h0] at h
    rw [if_neg h0]
    by_cases hc : out.size ≥ dstEnd - zrltLog2 (run + 1)
    · rw [if_pos hc] at h; cases h
    · rw [if_neg hc] at h
      injection h with h
      subst h
      refine ⟨rfl, fun _ => ?_⟩
      rw [size_appendList, bitBytes_length]
      omega

theorem bitBytes_lt (v k : Nat) : ∀ y ∈ bitBytes v k, y < 256 := by
  induction k with
  | zero => intro y hy; cases hy
  | succ k ih =>
    intro y hy
    simp only [bitBytes, List.mem_cons] at hy
    cases hy with
    | inl h => have := bit_le_one v k; omega
    | inr h => exact ih y h

theorem tokBits_lt (run : Nat) : ∀ y ∈ tokBits run, y < 256 := by
  unfold tokBits
  split
  · intro y hy; cases hy
  · exact bitBytes_lt _ _

/-- the output of the forward pass from a state with `run` pending zeros -/
def zrltEnc : Nat → List Nat → List Nat
  | run, [] => tokBits run
  | run, x :: rest =>
    if x = 0 then zrltEnc (run + 1) rest else tokBits run ++ encByte x ++ zrltEnc 0 rest

theorem zrltFwdGo_cons {dstEnd x run : Nat} {rest : List Nat} {out T : Array Nat} (hx0 : x ≠ 0)
    (h : zrltFwdGo dstEnd (x :: rest) run out = some T) :
    ∃ o1, zrltFlush dstEnd run out = some o1 ∧ (o1 ++ encByte x).size ≤ dstEnd ∧
      zrltFwdGo dstEnd rest 0 (o1 ++ encByte x) = some T := by
  rw [zrltFwdGo, if_neg hx0] at h
  cases hfl : zrltFlush dstEnd run out with
  | none => rw [hfl] at h; cases h
  | some o1 =>
    rw [hfl] at h
    simp only at h
    refine ⟨o1, rfl, ?_⟩
    unfold encByte
    by_cases hge : x ≥ 0xFE
    · rw [if_pos hge] at h ⊢
      by_cases hc : o1.size ≥ dstEnd - 1
      · rw [if_pos hc] at h; cases h
      · rw [if_neg hc, push_eq_appendList, push_eq_appendList, appendList_assoc] at h
        exact ⟨by rw [size_appendList]; simp only [List.length_cons, List.length_nil]; omega, h⟩
    · rw [if_neg hge] at h ⊢
      by_cases hc : o1.size ≥ dstEnd
      · rw [if_pos hc] at h; cases h
      · rw [if_neg hc, push_eq_appendList] at h
        exact ⟨by rw [size_appendList]; simp only [List.length_cons, List.length_nil]; omega, h⟩

theorem zrltFwdGo_eq (dstEnd : Nat) : ∀ (s : List Nat) (run : Nat) (out T : Array Nat),
    zrltFwdGo dstEnd s run out = some T →
    T = out ++ zrltEnc run s ∧ (out.size ≤ dstEnd → T.size ≤ dstEnd) := by
  intro s
  induction s with
  | nil => intro run out T h; exact zrltFlush_spec dstEnd run out T h
  | cons x rest ih =>
    intro run out T h
    rw [zrltEnc]
    by_cases hx0 : x = 0
    · rw [zrltFwdGo, if_pos hx0] at h
      rw [if_pos hx0]
      exact ih _ _ _ h
    · obtain ⟨o1, hfl, hsz, h'⟩ := zrltFwdGo_cons hx0 h
      obtain ⟨e, hT⟩ := ih _ _ _ h'
      refine ⟨?_, fun _ => hT hsz⟩
      rw [if_neg hx0, e, (zrltFlush_spec dstEnd run out o1 hfl).1, appendList_assoc,
        appendList_assoc, List.append_assoc]

theorem zrltEnc_bytes : ∀ (s : List Nat) (run : Nat), (∀ x ∈ s, x < 256) →
    ∀ y ∈ zrltEnc run s, y < 256 := by
  intro s
  induction s with
  | nil => intro run _; exact tokBits_lt run
  | cons x rest ih =>
    intro run hb y hy
    have hrest : ∀ z ∈ rest, z < 256 := fun z hz => hb z (List.mem_cons_of_mem _ hz)
    have hx : x < 256 := hb x (List.mem_cons_self ..)
    rw [zrltEnc] at hy
    by_cases hx0 : x = 0
    · rw [if_pos hx0] at hy; exact ih _ hrest y hy
    · rw [if_neg hx0, List.mem_append, List.mem_append] at hy
      rcases hy with (hy | hy) | hy
      · exact tokBits_lt run y hy
      · unfold encByte at hy
        by_cases hge : x ≥ 0xFE
        · rw [if_pos hge] at hy; simp only [List.mem_cons, List.not_mem_nil, or_false] at hy; omega
        · rw [if_neg hge] at hy; simp only [List.mem_cons, List.not_mem_nil, or_false] at hy; omega
      · exact ih _ hrest y hy

/-- the inverse, started outside a run, decodes the encoding into the pending zeros followed by the
    input — for every destination size with enough room -/
theorem zrltInvGo_enc : ∀ (s : List Nat) (run n : Nat) (outI : Array Nat),
    (∀ x ∈ s, x < 256) → run + s.length + 1 < 2 ^ 32 → outI.size + run + s.length ≤ n →
    zrltInvGo n (zrltEnc run s) none outI = .ok (outI ++ (List.replicate run 0 ++ s)) := by
  intro s
  induction s with
  | nil =>
    intro run n outI _ hlen hroom
    rw [zrltEnc, zrltInvGo_run_end n run outI (by omega) hroom, List.append_nil]
  | cons x rest ih =>
    intro run n outI hb hlen hroom
    simp only [List.length_cons] at hlen hroom
    have hrest : ∀ z ∈ rest, z < 256 := fun z hz => hb z (List.mem_cons_of_mem _ hz)
    have hx : x < 256 := hb x (List.mem_cons_self ..)
    rw [zrltEnc]
    by_cases hx0 : x = 0
    · rw [if_pos hx0, ih _ n outI hrest (by omega) (by omega), hx0, List.replicate_succ',
        List.append_assoc]
      rfl
    · rw [if_neg hx0, zrltInvGo_run_literal n run x _ outI hx0 hx (by omega) (by omega),
        ih 0 n _ hrest (by omega) (by rw [size_appendList]; simp; omega), appendList_assoc]
      simp

theorem zrltForward_ok {b t : List Nat} {dstLen : Nat} (h : zrltForward b dstLen = .ok t) :
    t = [] ∧ (b.length = 0 ∨ dstLen = 0) ∨ t = zrltEnc 0 b ∧ t.length ≤ b.length := by
  unfold zrltForward at h
  by_cases he : b.length = 0 ∨ dstLen = 0
  · rw [if_pos he] at h
    injection h with h
    exact Or.inl ⟨h.symm, he⟩
  · rw [if_neg he] at h
    by_cases hd : dstLen < zrltMaxEncodedLen b.length
    · rw [if_pos hd] at h; cases h
    · rw [if_neg hd] at h
      cases hf : zrltFwdGo b.length b 0 #[] with
      | none => rw [hf] at h; cases h
      | some T =>
        rw [hf] at h
        injection h with h
        obtain ⟨e, hsz⟩ := zrltFwdGo_eq b.length b 0 #[] T hf
        refine Or.inr ⟨by rw [← h, e]; simp, ?_⟩
        rw [← h, Array.length_toList]
        exact hsz (Nat.zero_le _)

/-- C13_zrlt -/
theorem zrlt_roundtrip (b t : List Nat) (dstLen : Nat)
    (hb : ∀ x ∈ b, x < 256) (hlen : b.length + 1 < 2 ^ 32)
    (hdst : zrltMaxEncodedLen b.length ≤ dstLen)
    (h : zrltForward b dstLen = .ok t) :
    t.length ≤ zrltMaxEncodedLen b.length ∧ ∀ n, b.length ≤ n → zrltInverse t n = .ok b := by
  unfold zrltMaxEncodedLen at *
  rcases zrltForward_ok h with ⟨rfl, he⟩ | ⟨rfl, hle⟩
  · have hb0 : b = [] := List.eq_nil_of_length_eq_zero (by omega)
    subst hb0
    exact ⟨Nat.le_refl _, fun n _ => by simp [zrltInverse]⟩
  · refine ⟨hle, fun n hn => ?_⟩
    have hi := zrltInvGo_enc b 0 n #[] hb (by omega) (by simp; omega)
    unfold zrltInverse
    -- the encoding of a non-empty block is not empty: the inverse loop would return nothing
    have hne : b ≠ [] → ¬ ((zrltEnc 0 b).length = 0 ∨ n = 0) := by
      rintro hb0 (h0 | h0)
      · rw [List.eq_nil_of_length_eq_zero h0, zrltInvGo] at hi
        injection hi with hi
        exact hb0 (by simpa using (congrArg Array.toList hi).symm)
      · exact hb0 (List.eq_nil_of_length_eq_zero (by omega))
    by_cases hb0 : b = []
    · subst hb0
      simp [zrltEnc, tokBits]
    · rw [if_neg (hne hb0), hi]
      simp

/-! ## SBRT -/

theorem rd_wr (a : Array Nat) (i v j : Nat) :
    rd (wr a i v) j = if i = j ∧ i < a.size then v else rd a j :=
  getD_setIfInBounds a i v j 0

theorem size_wr (a : Array Nat) (i v : Nat) : (wr a i v).size = a.size := by
  unfold wr; simp

theorem rd_range {n j : Nat} (h : j < n) : rd (Array.range n) j = j := by
  simp [rd, h]

theorem rd_wr_eq {a : Array Nat} {i : Nat} (v : Nat) (h : i < a.size) : rd (wr a i v) i = v := by
  rw [rd_wr, if_pos ⟨rfl, h⟩]

theorem rd_wr_ne {a : Array Nat} {i j : Nat} (v : Nat) (h : i ≠ j) : rd (wr a i v) j = rd a j := by
  rw [rd_wr, if_neg (fun hh => h hh.1)]

/-- `s2r` and `r2s` are mutually inverse permutations of the byte values -/
structure PermInv (s2r r2s : Array Nat) : Prop where
  hs : s2r.size = 256
  hr : r2s.size = 256
  rank : ∀ j, j < 256 → rd r2s j < 256 ∧ rd s2r (rd r2s j) = j
  sym : ∀ c, c < 256 → rd s2r c < 256 ∧ rd r2s (rd s2r c) = c

/-- state inside the move-up loop for symbol `c`: rank `r` is free, every other rank / symbol
    is consistently mapped -/
structure Hole (c r : Nat) (s2r r2s : Array Nat) : Prop where
  hs : s2r.size = 256
  hr : r2s.size = 256
  hc : c < 256
  hrr : r < 256
  a : ∀ j, j < 256 → j ≠ r → rd r2s j < 256 ∧ rd r2s j ≠ c ∧ rd s2r (rd r2s j) = j
  b : ∀ c', c' < 256 → c' ≠ c → rd s2r c' < 256 ∧ rd s2r c' ≠ r ∧ rd r2s (rd s2r c') = c'

theorem permInv_init : PermInv (Array.range 256) (Array.range 256) :=
  have h : ∀ j, j < 256 → rd (Array.range 256) j < 256 ∧
      rd (Array.range 256) (rd (Array.range 256) j) = j := by
    intro j hj
    rw [rd_range hj, rd_range hj]
    exact ⟨hj, rfl⟩
  ⟨Array.size_range, Array.size_range, h, h⟩

/-- opening a hole at `c ↦ r`; both halves of `Hole` are this fact, with the tables exchanged -/
theorem hole_init_half {f g : Array Nat} {c r : Nat}
    (h : ∀ j, j < 256 → rd g j < 256 ∧ rd f (rd g j) = j) (hcr : rd f c = r) :
    ∀ j, j < 256 → j ≠ r → rd g j < 256 ∧ rd g j ≠ c ∧ rd f (rd g j) = j :=
  fun j hj hne => ⟨(h j hj).1, fun e => hne (by rw [← (h j hj).2, e, hcr]), (h j hj).2⟩

theorem hole_init {s2r r2s : Array Nat} (h : PermInv s2r r2s) (c : Nat) (hc : c < 256) :
    Hole c (rd s2r c) s2r r2s :=
  ⟨h.hs, h.hr, hc, (h.sym c hc).1, hole_init_half h.rank rfl, hole_init_half h.sym (h.sym c hc).2⟩

theorem hole_step {c r : Nat} {s2r r2s : Array Nat} (h : Hole c (r + 1) s2r r2s) :
    Hole c r (wr s2r (rd r2s r) (r + 1)) (wr r2s (r + 1) (rd r2s r)) := by
  have hr1 := h.hrr
  have hr : r < 256 := Nat.lt_of_succ_lt hr1
  obtain ⟨ht, htc, hst⟩ := h.a r hr (Nat.ne_of_lt (Nat.lt_succ_self r))
  have hts : rd r2s r < s2r.size := by rw [h.hs]; exact ht
  have hrs : r + 1 < r2s.size := by rw [h.hr]; exact hr1
  refine ⟨by rw [size_wr]; exact h.hs, by rw [size_wr]; exact h.hr, h.hc, hr, ?_, ?_⟩
  · intro j hj hne
    by_cases hj1 : j = r + 1
    · subst hj1
      rw [rd_wr_eq _ hrs, rd_wr_eq _ hts]
      exact ⟨ht, htc, rfl⟩
    · obtain ⟨hl, hnc, hinv⟩ := h.a j hj hj1
      rw [rd_wr_ne _ (Ne.symm hj1),
        rd_wr_ne _ (fun e => hne (hinv.symm.trans ((congrArg (rd s2r) e.symm).trans hst)))]
      exact ⟨hl, hnc, hinv⟩
  · intro c' hc' hne
    by_cases hct : c' = rd r2s r
    · subst hct
      rw [rd_wr_eq _ hts, rd_wr_eq _ hrs]
      exact ⟨hr1, Nat.succ_ne_self r, rfl⟩
    · obtain ⟨hl, hnr, hinv⟩ := h.b c' hc' hne
      rw [rd_wr_ne _ (Ne.symm hct), rd_wr_ne _ (Ne.symm hnr)]
      exact ⟨hl, fun he => hct (by rw [← hinv, he]), hinv⟩

theorem hole_up (q : Array Nat) (qc c : Nat) :
    ∀ (r : Nat) (s2r r2s : Array Nat), Hole c r s2r r2s →
      Hole c (sbrtFwdUp q qc r s2r r2s).1 (sbrtFwdUp q qc r s2r r2s).2.1
        (sbrtFwdUp q qc r s2r r2s).2.2 := by
  intro r
  induction r with
  | zero => intro s2r r2s h; simpa [sbrtFwdUp] using h
  | succ r ih =>
    intro s2r r2s h
    rw [sbrtFwdUp]
    by_cases hq : rd q (rd r2s r) ≤ qc
    · rw [if_pos hq]; exact ih _ _ (hole_step h)
    · rw [if_neg hq]; exact h

/-- closing the hole with `c ↦ r`; both halves of `PermInv` are this fact, with the tables exchanged -/
theorem hole_close_half {f g : Array Nat} {c r : Nat} (hc : c < 256) (hcf : c < f.size)
    (hrg : r < g.size)
    (h : ∀ j, j < 256 → j ≠ r → rd g j < 256 ∧ rd g j ≠ c ∧ rd f (rd g j) = j) :
    ∀ j, j < 256 → rd (wr g r c) j < 256 ∧ rd (wr f c r) (rd (wr g r c) j) = j := by
  intro j hj
  by_cases hjr : r = j
  · rw [← hjr, rd_wr_eq _ hrg, rd_wr_eq _ hcf]
    exact ⟨hc, rfl⟩
  · obtain ⟨hl, hnc, hinv⟩ := h j hj (Ne.symm hjr)
    rw [rd_wr_ne _ hjr, rd_wr_ne _ (Ne.symm hnc)]
    exact ⟨hl, hinv⟩

theorem hole_close {c r : Nat} {s2r r2s : Array Nat} (h : Hole c r s2r r2s) :
    PermInv (wr s2r c r) (wr r2s r c) :=
  have hcs : c < s2r.size := by rw [h.hs]; exact h.hc
  have hrs : r < r2s.size := by rw [h.hr]; exact h.hrr
  ⟨by rw [size_wr]; exact h.hs, by rw [size_wr]; exact h.hr,
    hole_close_half h.hc hcs hrs h.a, hole_close_half h.hrr hrs hcs h.b⟩

/-- the inverse move-up loop performs the same moves on `r2s` as the forward one -/
theorem up_same (q : Array Nat) (qc : Nat) :
    ∀ (r : Nat) (s2r r2s : Array Nat),
      (sbrtFwdUp q qc r s2r r2s).1 = (sbrtInvUp q qc r r2s).1 ∧
      (sbrtFwdUp q qc r s2r r2s).2.2 = (sbrtInvUp q qc r r2s).2 := by
  intro r
  induction r with
  | zero => intro s2r r2s; simp [sbrtFwdUp, sbrtInvUp]
  | succ r ih =>
    intro s2r r2s
    rw [sbrtFwdUp, sbrtInvUp]
    by_cases hq : rd q (rd r2s r) ≤ qc
    · rw [if_pos hq, if_pos hq]; exact ih _ _
    · rw [if_neg hq, if_neg hq]; exact ⟨rfl, rfl⟩

theorem sbrtFwdGo_acc (mode : Nat) :
    ∀ (s : List Nat) (i : Nat) (s2r r2s p q out : Array Nat),
      (sbrtFwdGo mode s i s2r r2s p q out).toList
        = out.toList ++ (sbrtFwdGo mode s i s2r r2s p q #[]).toList := by
  intro s
  induction s with
  | nil => intro i s2r r2s p q out; simp [sbrtFwdGo]
  | cons c rest ih =>
    intro i s2r r2s p q out
    simp only [sbrtFwdGo]
    rw [ih, ih (out := #[].push _)]
    simp

theorem sbrtInvGo_acc (mode : Nat) :
    ∀ (s : List Nat) (i : Nat) (r2s p q out : Array Nat),
      (sbrtInvGo mode s i r2s p q out).toList
        = out.toList ++ (sbrtInvGo mode s i r2s p q #[]).toList := by
  intro s
  induction s with
  | nil => intro i r2s p q out; simp [sbrtInvGo]
  | cons c rest ih =>
    intro i r2s p q out
    simp only [sbrtInvGo]
    rw [ih, ih (out := #[].push _)]
    simp

theorem sbrtFwdGo_length (mode : Nat) :
    ∀ (s : List Nat) (i : Nat) (s2r r2s p q out : Array Nat),
      (sbrtFwdGo mode s i s2r r2s p q out).toList.length = out.size + s.length := by
  intro s
  induction s with
  | nil => intro i s2r r2s p q out; simp [sbrtFwdGo]
  | cons c rest ih =>
    intro i s2r r2s p q out
    simp only [sbrtFwdGo]
    rw [ih]
    simp
    omega

theorem sbrt_go_roundtrip (mode : Nat) :
    ∀ (s : List Nat) (i : Nat) (s2r r2s p q : Array Nat), PermInv s2r r2s → (∀ x ∈ s, x < 256) →
      (sbrtInvGo mode (sbrtFwdGo mode s i s2r r2s p q #[]).toList i r2s p q #[]).toList = s ∧
      ∀ y ∈ (sbrtFwdGo mode s i s2r r2s p q #[]).toList, y < 256 := by
  intro s
  induction s with
  | nil => intro i s2r r2s p q _ _; simp [sbrtFwdGo, sbrtInvGo]
  | cons c rest ih =>
    intro i s2r r2s p q hinv hb
    have hc : c < 256 := hb c (List.mem_cons_self ..)
    obtain ⟨hlt, hcc⟩ := hinv.sym c hc
    obtain ⟨e1, e2⟩ :=
      up_same (wr q c (sbrtQc mode i (rd p c))) (sbrtQc mode i (rd p c)) (rd s2r c) s2r r2s
    obtain ⟨ih1, ih2⟩ := ih (i + 1) _ _ (wr p c i) (wr q c (sbrtQc mode i (rd p c)))
      (hole_close (hole_up (wr q c (sbrtQc mode i (rd p c))) (sbrtQc mode i (rd p c)) c _ _ _
        (hole_init hinv c hc)))
      (fun y hy => hb y (List.mem_cons_of_mem _ hy))
    simp only [sbrtFwdGo]
    rw [sbrtFwdGo_acc]
    simp only [Array.toList_push, List.nil_append, List.cons_append, List.mem_cons, sbrtInvGo]
    rw [hcc, ← e1, ← e2, sbrtInvGo_acc]
    simp only [Array.toList_push, List.nil_append, List.cons_append]
    rw [ih1]
    refine ⟨rfl, fun y hy => ?_⟩
    cases hy with
    | inl h => rw [h]; exact hlt
    | inr h => exact ih2 y h

/-- C13_sbrt -/
theorem sbrt_roundtrip (mode : Nat) (b : List Nat) (dstLen : Nat)
    (hb : ∀ x ∈ b, x < 256) (hdst : sbrtMaxEncodedLen b.length ≤ dstLen) :
    ∃ t, sbrtForward mode b dstLen = .ok t ∧ t.length = b.length ∧ (∀ y ∈ t, y < 256) ∧
      ∀ n, b.length ≤ n → sbrtInverse mode t n = .ok b := by
  unfold sbrtMaxEncodedLen at hdst
  cases b with
  | nil => exact ⟨[], by simp [sbrtForward], rfl, fun _ hy => (nomatch hy), fun n _ => by simp [sbrtInverse]⟩
  | cons x xs =>
    have hne : ¬ ((x :: xs).length = 0 ∨ dstLen = 0) := by simp only [List.length_cons]; omega
    obtain ⟨hrt, hbytes⟩ := sbrt_go_roundtrip mode (x :: xs) 0 _ _ (Array.replicate 256 0)
      (Array.replicate 256 0) permInv_init hb
    refine ⟨_, by unfold sbrtForward; rw [if_neg hne, if_neg (by unfold sbrtMaxEncodedLen; omega)],
      ?_, hbytes, ?_⟩
    · rw [sbrtFwdGo_length]; simp
    · intro n hn
      unfold sbrtInverse
      rw [sbrtFwdGo_length]
      simp only [Array.size_empty, Nat.zero_add]
      rw [if_neg (by simp only [List.length_cons] at *; omega), if_neg (by omega), hrt]

/-! ## ByteTransformSequence: the bits of the skip flags and of the mode byte -/

theorem mask_and_bit_self : ∀ i, i < 8 → (0xFF ^^^ (1 <<< (7 - i))) &&& (1 <<< (7 - i)) = 0 := by
  decide +kernel

theorem mask_and_bit_other :
    ∀ i, i < 8 → ∀ j, j < 8 → i ≠ j → (0xFF ^^^ (1 <<< (7 - j))) &&& (1 <<< (7 - i)) = 1 <<< (7 - i) := by
  decide +kernel

theorem flagSet_clear_self (f i : Nat) (hi : i < 8) : flagSet (clearFlag f i) i = false := by
  unfold flagSet clearFlag
  rw [Nat.and_assoc, mask_and_bit_self i hi]
  simp

theorem flagSet_clear_other (f i j : Nat) (hi : i < 8) (hj : j < 8) (hne : i ≠ j) :
    flagSet (clearFlag f j) i = flagSet f i := by
  unfold flagSet clearFlag
  rw [Nat.and_assoc, mask_and_bit_other i hi j hj hne]

theorem mask_low : ∀ k, k < 8 → (0xFF ^^^ (1 <<< k)) % 2 ^ k = 2 ^ k - 1 := by decide

theorem ones_mod_succ {f k : Nat} (h : f % 2 ^ (k + 1) = 2 ^ (k + 1) - 1) : f % 2 ^ k = 2 ^ k - 1 := by
  have hp : 0 < 2 ^ k := Nat.two_pow_pos k
  rw [← Nat.mod_mod_of_dvd f (Nat.pow_dvd_pow 2 (Nat.le_succ k)), h, Nat.pow_succ,
    show 2 ^ k * 2 - 1 = 2 ^ k + (2 ^ k - 1) by omega, Nat.add_mod_left,
    Nat.mod_eq_of_lt (by omega)]

theorem flags_low_step : ∀ f, f < 256 → ∀ i, i < 8 → f % 2 ^ (8 - i) = 2 ^ (8 - i) - 1 →
    f % 2 ^ (7 - i) = 2 ^ (7 - i) - 1 ∧ clearFlag f i < 256 ∧
    clearFlag f i % 2 ^ (7 - i) = 2 ^ (7 - i) - 1 := by
  intro f hf i hi h
  rw [show 8 - i = 7 - i + 1 by omega] at h
  have h1 := ones_mod_succ h
  refine ⟨h1, Nat.lt_of_le_of_lt Nat.and_le_left hf, ?_⟩
  rw [clearFlag, Nat.and_mod_two_pow, h1, mask_low _ (by omega), Nat.and_self]

theorem ones_mod_le {f k : Nat} : ∀ m, k ≤ m → f % 2 ^ m = 2 ^ m - 1 → f % 2 ^ k = 2 ^ k - 1 := by
  intro m
  induction m with
  | zero => intro hk h; rw [Nat.le_zero.1 hk]; exact h
  | succ m ih =>
    intro hk h
    by_cases e : k = m + 1
    · rw [e]; exact h
    · exact ih (by omega) (ones_mod_succ h)

theorem flags_low_nibble : ∀ f, f < 256 → ∀ n, n ≤ 4 → f % 2 ^ (8 - n) = 2 ^ (8 - n) - 1 →
    f % 16 = 15 :=
  fun _ _ n hn h => ones_mod_le (k := 4) (8 - n) (by omega) h

theorem flagSet_ff : ∀ k, k < 8 → flagSet 0xFF k = true := by decide

/-! ### mode byte -/

theorem mode0_shape : ∀ m, m < 256 → m &&& 0x9F = 0 → m / 32 < 4 ∧ m = 32 * (m / 32) := by
  decide +kernel

theorem mode_small : ∀ d, d < 4 → ∀ h, h < 16 →
    (32 * d) &&& 0x80 = 0 ∧
    decodeFlags ((32 * d ||| ((16 * h + 15) >>> 4)) % 256) none = 16 * h + 15 ∧
    (((32 * d ||| ((16 * h + 15) >>> 4)) % 256) >>> 5) &&& 3 = d := by decide +kernel

theorem mode_large : ∀ d, d < 4 →
    (32 * d) &&& 0x80 = 0 ∧ ((32 * d ||| 0x10) % 256) &&& 0x80 = 0 ∧
    ((32 * d ||| 0x10) % 256) &&& 0x10 ≠ 0 ∧ (((32 * d ||| 0x10) % 256) >>> 5) &&& 3 = d := by
  decide +kernel

/-- the skip flags written in the block header are the ones read back, in both layouts, and the
    block-size bits of the mode byte are not disturbed -/
theorem mode_byte_roundtrip (mode0 flags n : Nat)
    (hm : mode0 < 256) (hm0 : mode0 &&& 0x9F = 0) (hf : flags < 256)
    (hlow : n ≤ 4 → flags % 16 = 15) :
    decodeFlags (encodeMode mode0 flags n).1 (encodeMode mode0 flags n).2 = flags ∧
    ((encodeMode mode0 flags n).1 >>> 5) &&& 3 = mode0 / 32 := by
  obtain ⟨hd, he⟩ := mode0_shape mode0 hm hm0
  generalize mode0 / 32 = d at hd he
  subst he
  unfold encodeMode
  by_cases hn : n ≤ 4
  · obtain ⟨h1, h2, h3⟩ := mode_small d hd (flags / 16) (by omega)
    have hfl : 16 * (flags / 16) + 15 = flags := by have := hlow hn; omega
    rw [hfl] at h2 h3
    rw [if_pos (Or.inr hn)]
    exact ⟨h2, h3⟩
  · obtain ⟨h1, h2, h3, h4⟩ := mode_large d hd
    rw [if_neg (by intro h; cases h with | inl h => exact h h1 | inr h => exact hn h)]
    refine ⟨?_, h4⟩
    unfold decodeFlags
    simp only
    rw [if_neg (by intro h; exact h h2), if_pos h3]
    rfl

/-! ## the concrete stages satisfy the stage hypothesis -/

/-- the per-stage round-trip hypothesis of `C13_sequence`, relative to a class `D` of blocks that
    the stages preserve (e.g. "byte values, at most N bytes"; `fun _ => True` for the plain form) -/
def Stage.GoodOn (D : List Nat → Prop) (st : Stage) : Prop :=
  ∀ x y, D x → st.fwd x = .ok y → D y ∧ (x ≠ [] → y ≠ []) ∧ st.inv y = .ok x

def IsBlock (N : Nat) (x : List Nat) : Prop := (∀ b ∈ x, b < 256) ∧ x.length ≤ N

theorem zrltForward_bytes (b t : List Nat) (dstLen : Nat) (hb : ∀ x ∈ b, x < 256)
    (h : zrltForward b dstLen = .ok t) : ∀ y ∈ t, y < 256 := by
  rcases zrltForward_ok h with ⟨rfl, _⟩ | ⟨rfl, _⟩
  · intro y hy; cases hy
  · exact zrltEnc_bytes b 0 hb

theorem null_good (N req n : Nat) (hn : N ≤ n) : (nullStage req n).GoodOn (IsBlock N) := by
  intro x y hD hf
  simp only [nullStage, nullForward] at hf ⊢
  by_cases hreq : req < nullMaxEncodedLen x.length
  · rw [if_pos hreq] at hf; cases hf
  · rw [if_neg hreq, nullCopy_ok (Nat.not_lt.1 hreq)] at hf
    injection hf with hf
    subst hf
    exact ⟨hD, id, nullCopy_ok (Nat.le_trans hD.2 hn)⟩

theorem zrlt_good (N req n : Nat) (hn : N ≤ n) (hN : N + 1 < 2 ^ 32) (hreq : N ≤ req) :
    (zrltStage req n).GoodOn (IsBlock N) := by
  intro x y hD hf
  simp only [zrltStage] at hf ⊢
  have hlen := hD.2
  obtain ⟨h1, h2⟩ := zrlt_roundtrip x y req hD.1 (by omega) (by unfold zrltMaxEncodedLen; omega) hf
  unfold zrltMaxEncodedLen at h1
  have hinv := h2 n (by omega)
  refine ⟨⟨zrltForward_bytes x y req hD.1 hf, by omega⟩, ?_, hinv⟩
  intro hx hy
  subst hy
  simp [zrltInverse] at hinv
  exact hx hinv

theorem sbrt_good (mode N req n : Nat) (hn : N ≤ n) (hreq : N + 33 ≤ req) :
    (sbrtStage mode req n).GoodOn (IsBlock N) := by
  intro x y hD hf
  simp only [sbrtStage] at hf ⊢
  have hlen := hD.2
  obtain ⟨t, h1, h2, hbytes, h3⟩ :=
    sbrt_roundtrip mode x req hD.1 (by unfold sbrtMaxEncodedLen; omega)
  rw [h1] at hf
  injection hf with hf
  subst hf
  refine ⟨⟨hbytes, by omega⟩, ?_, h3 n (by omega)⟩
  intro hx ht
  subst ht
  exact hx (List.eq_nil_of_length_eq_zero h2.symm)

/-- one of the three concrete stages, forward destination `req`, inverse destination `n` -/
def IsSmallStage (req n : Nat) (st : Stage) : Prop :=
  st = nullStage req n ∨ st = zrltStage req n ∨ ∃ mode, st = sbrtStage mode req n

theorem smallStage_mono (req n : Nat) (st : Stage) (h : IsSmallStage req n st) :
    ∀ a b, a ≤ b → st.maxLen a ≤ st.maxLen b := by
  intro a b hab
  rcases h with h | h | ⟨m, h⟩ <;> subst h <;>
    simp only [nullStage, zrltStage, sbrtStage, nullMaxEncodedLen, zrltMaxEncodedLen,
      sbrtMaxEncodedLen] <;> omega

end Kanzi.TrSmall
