/-
The UTF codec: Inverse restores what Forward encoded, and the statements used by
`Kanzi/Properties/C13_utf.lean`.  Forward is known only through `utfForward_spec` (`UTFFwd`): an accepted
block is `encoded src start ts iEnd rk` with `FwdOK`; Inverse is run over that layout piece by piece (symbol
map, alias stream of the token walk `Toks` of `UTFTok`, tail), and `UTFInv` gives that it faults on no
output of Forward.  Import chain: `UTFPack`, `UTFTok`, `UTFFwd`, `UTFInv`, `UTF`.
-/
import Kanzi.Proofs.UTFInv

namespace Kanzi.UTF
open Kanzi.RLT

/-! ## reading an array given as appended lists -/

theorem arr_get (pre l : List Nat) (k : Nat) : (pre ++ l).toArray[pre.length + k]? = l[k]? := by
  rw [List.getElem?_toArray, List.getElem?_append_right (Nat.le_add_right _ _), Nat.add_sub_cancel_left]

theorem arr_get0 (pre rest : List Nat) (x : Nat) : (pre ++ x :: rest).toArray[pre.length]? = some x :=
  arr_get pre (x :: rest) 0

theorem reassemble (v : Nat) (h : v < 16777216) :
    (((v >>> 16) % 256) <<< 16) ||| (((v >>> 8) % 256) <<< 8) ||| (v % 256) = v := by
  have h1 : v % 256 < 2 ^ 8 := Nat.mod_lt v (by decide)
  have h2 : ((v >>> 8) % 256) <<< 8 + v % 256 < 2 ^ 16 := by rw [Nat.shiftLeft_eq]; omega
  rw [Nat.or_assoc, ← Nat.shiftLeft_add_eq_or_of_lt h1 ((v >>> 8) % 256),
    ← Nat.shiftLeft_add_eq_or_of_lt h2 ((v >>> 16) % 256), Nat.shiftRight_eq_div_pow,
    Nat.shiftRight_eq_div_pow, Nat.shiftLeft_eq, Nat.shiftLeft_eq]
  omega

/-! ## the inverse map -/

theorem buildMap_enc (rk : List (Nat × Nat)) : ∀ (pre post : List Nat) (m : Array (List Nat)),
    (∀ p ∈ rk, p.2 < 16777216 ∧ unpack1 p.2 ≠ []) →
    buildMap false (pre ++ (mapBytes rk ++ post)).toArray rk.length pre.length m =
      .ok (m ++ rk.map fun p => unpack1 p.2) := by
  induction rk with
  | nil => intro pre post m _; simp [buildMap]
  | cons p tl ih =>
    intro pre post m hall
    obtain ⟨hlt, hne⟩ := hall p (by simp)
    have e : pre ++ (mapBytes (p :: tl) ++ post) =
        pre ++ (p.2 >>> 16) % 256 :: (p.2 >>> 8) % 256 :: p.2 % 256 :: (mapBytes tl ++ post) := by
      simp [mapBytes]
    have e' : pre ++ (mapBytes (p :: tl) ++ post) =
        (pre ++ [(p.2 >>> 16) % 256, (p.2 >>> 8) % 256, p.2 % 256]) ++ (mapBytes tl ++ post) := by
      simp [mapBytes]
    rw [List.length_cons]
    unfold buildMap
    rw [e, arr_get0, arr_get pre _ 1, arr_get pre _ 2]
    simp only [List.getElem?_cons_succ, List.getElem?_cons_zero]
    simp only [Bool.false_eq_true, if_false]
    rw [reassemble p.2 hlt, if_neg (by simpa using hne)]
    rw [← e, e']
    have := ih (pre ++ [(p.2 >>> 16) % 256, (p.2 >>> 8) % 256, p.2 % 256]) post (m.push (unpack1 p.2))
      (fun q hq => hall q (by simp [hq]))
    simp only [List.length_append, List.length_cons, List.length_nil] at this
    rw [this]
    congr 1

/-! ## the main loop on an alias stream -/

theorem alias_decode (k : Nat) (_h1 : 128 ≤ k) : ((k / 128) <<< 7) + ((128 + k % 128) &&& 0x7F) = k := by
  rw [and_7F, Nat.shiftLeft_eq]; omega

theorem invLoop_alias (m : Array (List Nat)) (srcEnd dstEnd f k : Nat) (pre rest : List Nat) (out : Array Nat)
    (hk : k < 32768) (hs : pre.length + (aliasBytes k).length ≤ srcEnd) (hd : out.size < dstEnd) :
    invLoop (pre ++ (aliasBytes k ++ rest)).toArray m srcEnd dstEnd (f + 1) pre.length out =
      invLoop (pre ++ (aliasBytes k ++ rest)).toArray m srcEnd dstEnd f (pre.length + (aliasBytes k).length)
        (out ++ m.getD k []) := by
  have h0 : (pre ++ (aliasBytes k ++ rest)).toArray[pre.length]? = (aliasBytes k ++ rest)[0]? := arr_get pre _ 0
  have h1 := arr_get pre (aliasBytes k ++ rest) 1
  generalize (pre ++ (aliasBytes k ++ rest)).toArray = src at h0 h1 ⊢
  rw [invLoop]
  unfold aliasBytes at hs h0 h1 ⊢
  by_cases hsm : k < 128
  · rw [if_pos hsm] at hs h0 ⊢
    rw [if_pos ⟨hs, hd⟩, h0]
    simp only [List.cons_append, List.getElem?_cons_zero]
    rw [if_neg (Nat.not_le.2 hsm)]
    rfl
  · rw [if_neg hsm] at hs h0 h1 ⊢
    rw [if_pos ⟨by simp at hs; omega, hd⟩, h0]
    simp only [List.cons_append, List.getElem?_cons_zero]
    rw [if_pos (by omega), if_neg (by simp at hs; omega), h1]
    simp only [List.cons_append, List.getElem?_cons_succ, List.getElem?_cons_zero]
    rw [alias_decode k (by omega), if_neg (by unfold MAX_SYMBOLS; omega)]
    rfl

/-- the main loop of Inverse on the alias stream of a token walk of the original block `srcO`, with a map
    `m` that holds the bytes of every token at its rank `kof`: the output grows by the bytes of the tokens.
    `out.size = j` ties the output position to the walk so that `dstEnd` is not hit before the end. -/
theorem invLoop_enc (srcO : Array Nat) (endI dstEnd : Nat) (kof : Nat → Nat) (m : Array (List Nat))
    (hbO : ∀ x ∈ srcO.toList, x < 256) {j jEnd : Nat} {ts : List (Nat × Nat)} (h : Toks srcO endI j ts jEnd) :
    (∀ t ∈ ts, kof t.2 < 32768 ∧ m.getD (kof t.2) [] = unpack1 t.2) → endI ≤ dstEnd →
    ∀ (pre post : List Nat) (f : Nat) (out : Array Nat), out.size = j → (aliasStream kof ts).length ≤ f →
      invLoop (pre ++ (aliasStream kof ts ++ post)).toArray m (pre.length + (aliasStream kof ts).length) dstEnd f
          pre.length out =
        .ok (pre.length + (aliasStream kof ts).length, out ++ ts.flatMap fun t => unpack1 t.2) := by
  induction h with
  | nil i hi =>
    intro _ _ pre post f out _ _
    show invLoop _ m pre.length dstEnd f pre.length out = .ok (pre.length, out ++ ([] : List Nat))
    rw [invLoop_exit _ _ _ _ _ _ _ (fun h => Nat.lt_irrefl _ h.1), appendList_nil']
  | cons j ts jEnd hj hok hrest ih =>
    intro hall hde pre post f out hout hf
    obtain ⟨hk, hm⟩ := hall (tokAt srcO j) List.mem_cons_self
    have hlen : (unpack1 (tokAt srcO j).2).length = (tokAt srcO j).1 :=
      ((Toks.cons j ts jEnd hj hok hrest).all hbO _ List.mem_cons_self).2.2
    have hpos := seqOk_pos _ _ _ hok
    have hs : aliasStream kof (tokAt srcO j :: ts) = aliasBytes (kof (tokAt srcO j).2) ++ aliasStream kof ts :=
      List.flatMap_cons
    have h1 : 1 ≤ (aliasBytes (kof (tokAt srcO j).2)).length := by
      rw [aliasBytes_length]
      unfold aliasCost
      split <;> omega
    rw [hs, List.length_append] at hf ⊢
    obtain ⟨f, rfl⟩ : ∃ f', f = f' + 1 := ⟨f - 1, by omega⟩
    rw [List.flatMap_cons, List.append_assoc, invLoop_alias m _ _ f _ pre _ out hk (by omega) (by omega), hm,
      ← List.append_assoc pre, ← Nat.add_assoc, ← List.length_append,
      ih (fun t ht => hall t (List.mem_cons_of_mem _ ht)) hde _ post f _ (by rw [size_appendList, hlen]; omega) (by omega),
      appendList_assoc]

/-! ## assembly -/

theorem nsplit (n : Nat) (h : n < 32768) : (((n >>> 8) % 256) <<< 8) + n % 256 = n := by
  rw [Nat.shiftRight_eq_div_pow, Nat.shiftLeft_eq]; omega

/-- Inverse on a stream laid out as header, symbol map, head bytes, alias stream, tail bytes, given what
    the map loop and the alias loop make of it -/
theorem utfInverse_layout (v3 : Bool) (src : List Nat) (start adj n : Nat) (mb head S tail body : List Nat)
    (m : Array (List Nat)) (dstLen : Nat)
    (hsrc : src = [start, adj, (n >>> 8) % 256, n % 256] ++ (mb ++ (head ++ (S ++ tail))))
    (hs : start ≤ 3) (ha : adj ≤ 3) (hn0 : 0 < n) (hn : n < 32768)
    (hmb : mb.length = 3 * n) (hh : head.length = start) (ht : tail.length + adj = 4)
    (hd4 : 4 ≤ dstLen) (hd : start + body.length + tail.length ≤ dstLen)
    (hmap : buildMap v3 src.toArray n 4 #[] = .ok m)
    (hloop : invLoop src.toArray m (4 + 3 * n + start + S.length) (dstLen - 4) src.length (4 + 3 * n + start)
      ((#[] : Array Nat) ++ head) = .ok (4 + 3 * n + start + S.length, (#[] : Array Nat) ++ head ++ body)) :
    utfInverse v3 src dstLen = .ok (head ++ (body ++ tail)) := by
  have hlen : src.length = 4 + 3 * n + start + S.length + tail.length := by
    rw [hsrc]; simp only [List.length_append, List.length_cons, List.length_nil, hmb, hh]; omega
  have hd1 : (src.drop (4 + 3 * n)).take start = head := by
    rw [hsrc, ← List.append_assoc, List.drop_left' (by simp [hmb]; omega), List.take_left' hh]
  have hd2 : (src.drop (4 + 3 * n + start + S.length)).take tail.length = tail := by
    rw [hsrc, ← List.append_assoc, ← List.append_assoc, ← List.append_assoc,
      List.drop_left' (by simp [hmb, hh]; omega), List.take_of_length_le (Nat.le_refl _)]
  rw [utfInverse_run v3 src dstLen n start adj m
      (by rw [hsrc]; exact nsplit _ hn)
      (by rw [hsrc]; show start &&& 0x03 = start; rw [and_03]; exact Nat.mod_eq_of_lt (Nat.lt_succ_of_le hs))
      (by rw [hsrc]; show adj &&& 0x03 = adj; rw [and_03]; exact Nat.mod_eq_of_lt (Nat.lt_succ_of_le ha))
      (by omega) hd4 (Nat.ne_of_gt hn0) hn hmap (by omega) (by omega),
    show src.length - 4 + adj = 4 + 3 * n + start + S.length by omega,
    show src.length - (4 + 3 * n + start + S.length) = tail.length by omega]
  rw [hd1, hloop]
  simp only [Out.bind_ok]
  have hsz : ((#[] : Array Nat) ++ head ++ body).size = start + body.length := by
    rw [size_appendList, size_appendList, hh]; simp
  rw [hsz, if_neg (by omega), copyN_ok _ _ _ _ _ (by simp; omega) (by rw [hsz]; omega)]
  simp only [Out.bind_ok]
  rw [hd2]
  simp

/-- Inverse (bitstream version 4 and later) restores the block from `encoded`, into any destination at
    least as large as the block -/
theorem utfInverse_encoded (src : List Nat) (start iEnd : Nat) (ts : List (Nat × Nat)) (rk : List (Nat × Nat))
    (hb : ∀ x ∈ src, x < 256) (h : FwdOK src start ts iEnd rk) (dstLen : Nat) (hd : src.length ≤ dstLen) :
    utfInverse false (encoded src start ts iEnd rk) dstLen = .ok src := by
  have hb' : ∀ x ∈ src.toArray.toList, x < 256 := by simpa using hb
  have hst := h.start_le
  obtain ⟨hi0, hi1, hi2, hi3⟩ := h.iEnd_bounds
  have hhead : (src.take start).length = start := by rw [List.length_take]; omega
  have hmid : (src.drop start).take (iEnd - start) = ts.flatMap fun t => unpack1 t.2 :=
    (h.toks.bytes hb' (by simp; omega)).symm
  have hmidlen : (ts.flatMap fun t => unpack1 t.2).length = iEnd - start := by
    rw [← hmid, List.length_take, List.length_drop]; omega
  -- every ranked value unpacks to something, every token finds its value at its rank
  have hkeys : ∀ p ∈ rk, p.2 < 16777216 ∧ unpack1 p.2 ≠ [] := by
    intro p hp
    obtain ⟨t, ht, hv⟩ := h.key_tok p.2 (List.mem_map.mpr ⟨p, hp, rfl⟩)
    have := h.toks.all hb' t ht
    rw [hv] at this
    exact ⟨by omega, fun he => by rw [he] at this; simp at this; omega⟩
  have hm : ∀ t ∈ ts, kofOf rk t.2 < 32768 ∧
      ((#[] : Array (List Nat)) ++ rk.map fun p => unpack1 p.2).getD (kofOf rk t.2) [] = unpack1 t.2 := by
    intro t ht
    have hlt := List.idxOf_lt_length_iff.mpr (h.tok_mem t ht)
    rw [List.length_map] at hlt
    refine ⟨by have := h.n_lt; unfold kofOf; omega, ?_⟩
    have hidx : (rk.map (·.2))[kofOf rk t.2]? = some t.2 := by
      unfold kofOf
      rw [List.getElem?_eq_getElem (by simpa using hlt), List.getElem_idxOf]
    rw [Array.getD_eq_getD_getElem?]
    have : ((#[] : Array (List Nat)) ++ rk.map fun p => unpack1 p.2)[kofOf rk t.2]? =
        ((rk.map (·.2)).map unpack1)[kofOf rk t.2]? := by
      rw [← Array.getElem?_toList]; simp; rfl
    rw [this, List.getElem?_map, hidx]; rfl
  have hloop := invLoop_enc src.toArray (src.length - 4) (dstLen - 4) (kofOf rk) _ hb' h.toks hm (by omega)
    ([start, iEnd - (src.length - 4), (rk.length >>> 8) % 256, rk.length % 256] ++ (mapBytes rk ++ src.take start))
    (src.drop iEnd) (encoded src start ts iEnd rk).length ((#[] : Array Nat) ++ src.take start)
    (by rw [size_appendList, hhead]; simp) (by rw [encoded_length _ _ _ _ _ (by omega)]; omega)
  rw [List.append_assoc, List.append_assoc] at hloop
  have e : src = src.take start ++ ((ts.flatMap fun t => unpack1 t.2) ++ src.drop iEnd) := by
    rw [← hmid, ← List.append_assoc, ← List.take_add, show start + (iEnd - start) = iEnd by omega, List.take_append_drop]
  conv => rhs; rw [e]
  have hsrc : encoded src start ts iEnd rk = [start, iEnd - (src.length - 4), (rk.length >>> 8) % 256, rk.length % 256] ++
      (mapBytes rk ++ (src.take start ++ (aliasStream (kofOf rk) ts ++ src.drop iEnd))) := rfl
  have hmap := buildMap_enc rk [start, iEnd - (src.length - 4), (rk.length >>> 8) % 256, rk.length % 256]
    (src.take start ++ (aliasStream (kofOf rk) ts ++ src.drop iEnd)) #[] hkeys
  rw [← hsrc] at hmap hloop
  have hpre : ([start, iEnd - (src.length - 4), (rk.length >>> 8) % 256, rk.length % 256] ++
      (mapBytes rk ++ src.take start)).length = 4 + 3 * rk.length + start := by
    simp only [List.length_append, List.length_cons, List.length_nil, mapBytes_length, hhead]; omega
  rw [hpre] at hloop
  exact utfInverse_layout false (encoded src start ts iEnd rk) start (iEnd - (src.length - 4)) rk.length (mapBytes rk)
    (src.take start) (aliasStream (kofOf rk) ts) (src.drop iEnd) (ts.flatMap fun t => unpack1 t.2)
    ((#[] : Array (List Nat)) ++ rk.map fun p => unpack1 p.2) dstLen hsrc hst
    (by omega) h.n_pos h.n_lt (mapBytes_length rk) hhead (by rw [List.length_drop]; omega) (by omega)
    (by rw [hmidlen, List.length_drop]; omega) hmap hloop

/-! ## the statements of C13 -/

theorem aliasBytes_lt (k : Nat) (h : k < 32768) : ∀ y ∈ aliasBytes k, y < 256 := by
  intro y hy
  unfold aliasBytes at hy
  split at hy
  · simp at hy; omega
  · simp at hy; omega

theorem mapBytes_lt (rk : List (Nat × Nat)) : ∀ y ∈ mapBytes rk, y < 256 := by
  intro y hy
  unfold mapBytes at hy
  rcases List.mem_flatMap.mp hy with ⟨p, _, hp⟩
  simp at hp
  omega

theorem encoded_lt (src : List Nat) (start iEnd : Nat) (ts rk : List (Nat × Nat)) (hb : ∀ x ∈ src, x < 256)
    (h : FwdOK src start ts iEnd rk) : ∀ y ∈ encoded src start ts iEnd rk, y < 256 := by
  obtain ⟨_, _, _, _⟩ := h.iEnd_bounds
  have := h.start_le
  intro y hy
  unfold encoded at hy
  simp only [List.mem_cons, List.mem_append] at hy
  rcases hy with rfl | rfl | rfl | rfl | hy | hy | hy | hy
  · omega
  · omega
  · omega
  · omega
  · exact mapBytes_lt rk y hy
  · exact hb y (List.mem_of_mem_take hy)
  · unfold aliasStream at hy
    rcases List.mem_flatMap.mp hy with ⟨t, ht, hyt⟩
    refine aliasBytes_lt _ ?_ y hyt
    have := List.idxOf_lt_length_iff.mpr (h.tok_mem t ht)
    rw [List.length_map] at this
    have := h.n_lt
    unfold kofOf; omega
  · exact hb y (List.mem_of_mem_drop hy)

/-- the header written by Forward never makes Inverse read past its input -/
theorem encoded_not_overlap (src : List Nat) (start iEnd : Nat) (ts rk : List (Nat × Nat))
    (h : FwdOK src start ts iEnd rk) : ¬ invOverlap (encoded src start ts iEnd rk) := by
  obtain ⟨_, hi1, hi2, _⟩ := h.iEnd_bounds
  have hs := h.start_le
  unfold invOverlap
  rw [encoded_length src start iEnd ts rk (by omega), show (encoded src start ts iEnd rk).getD 0 0 = start from rfl,
    show (encoded src start ts iEnd rk).getD 1 0 = iEnd - (src.length - 4) from rfl,
    show (encoded src start ts iEnd rk).getD 2 0 = (rk.length >>> 8) % 256 from rfl,
    show (encoded src start ts iEnd rk).getD 3 0 = rk.length % 256 from rfl,
    nsplit _ h.n_lt, and_03, and_03, Nat.mod_eq_of_lt (by omega : start < 4),
    Nat.mod_eq_of_lt (by omega : iEnd - (src.length - 4) < 4)]
  omega

/-- C13 for the UTF codec, all parts: size bound, strict shrinking, byte range, round trip (bitstream
    version 4 and later), and no fault of Inverse on the output whatever the version and destination size -/
theorem utf_roundtrip (dt : Nat) (b t : List Nat) (dstLen : Nat) (hb : ∀ x ∈ b, x < 256)
    (hdst : utfMaxEncodedLen b.length ≤ dstLen) (h : utfForward dt b dstLen = .ok t) :
    t.length ≤ utfMaxEncodedLen b.length ∧ (b ≠ [] → t.length < b.length) ∧ (∀ y ∈ t, y < 256) ∧
    (∀ n, b.length ≤ n → utfInverse false t n = .ok b) ∧
    (∀ (v3 : Bool) (n : Nat) (e : String), utfInverse v3 t n ≠ .fault e) := by
  rcases (utfForward_spec dt b dstLen hb hdst).ok h with ⟨rfl, rfl⟩ | ⟨_, start, ts, iEnd, rk, hok, rfl⟩
  · refine ⟨by simp [utfMaxEncodedLen], fun h => absurd rfl h, by simp, fun n _ => by simp [utfInverse], ?_⟩
    intro v3 n e; simp [utfInverse]
  · have hs := hok.short
    refine ⟨by unfold utfMaxEncodedLen; omega, fun _ => by omega, encoded_lt b start iEnd ts rk hb hok,
      fun n hn => utfInverse_encoded b start iEnd ts rk hb hok n hn, ?_⟩
    intro v3 n e hf
    exact encoded_not_overlap b start iEnd ts rk hok
      (utfInverse_fault v3 _ n e (encoded_lt b start iEnd ts rk hb hok) hf)

theorem utfForward_ne_fault (dt : Nat) (b : List Nat) (dstLen : Nat) (hb : ∀ x ∈ b, x < 256)
    (hdst : utfMaxEncodedLen b.length ≤ dstLen) (e : String) : utfForward dt b dstLen ≠ .fault e :=
  (utfForward_spec dt b dstLen hb hdst).nf e

end Kanzi.UTF
