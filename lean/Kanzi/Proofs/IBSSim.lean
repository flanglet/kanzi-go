/-
Proofs about `Kanzi.Model.IBS`.

Layer 1 (this file, `IBSArr`): the concrete stream (buffer, refills, chunked source) is simulated
by the abstract word machine `A` (no buffer, no chunks: the remaining bytes as one list).
Layer 2 (`IBS`): the word machine refines `Kanzi.Bits` (take/drop on a bit string).
`IBSThm` composes the two.
-/
import Kanzi.Model.IBS
import Kanzi.Spec.Bits

namespace Kanzi.IBS

/-- bytes the source will deliver: all chunks up to and including the first one tagged `err` -/
def srcBytes : List Chunk → List Byte
  | [] => []
  | c :: cs => if c.err then c.bytes else c.bytes ++ srcBytes cs

/-- bytes still to come from the source, given the error already recorded -/
def future (err : Option ErrKind) (src : Src) : List Byte :=
  match err with
  | some _ => []
  | none => srcBytes src.chunks

def NE (cs : List Chunk) : Prop := ∀ c ∈ cs, c.bytes ≠ []

/-- what one result of `Src.read` / `complete` guarantees with respect to the source `s0` -/
structure RdOk (s0 : Src) (r : RdRes) : Prop where
  bytes : r.data ++ future r.err r.src = srcBytes s0.chunks
  err : ∀ e, r.err = some e → e = s0.term.err
  term : r.src.term = s0.term
  ne : NE r.src.chunks

theorem read_ok (s : Src) (n : Nat) (hne : NE s.chunks) : RdOk s (s.read n) := by
  obtain ⟨chunks, term⟩ := s
  unfold Src.read
  cases chunks with
  | nil => exact ⟨by simp [future, srcBytes], by simp, rfl, by simpa using hne⟩
  | cons c cs =>
    have hne' : NE cs := fun x hx => hne x (by simp [hx])
    simp only
    split
    · refine ⟨?_, ?_, rfl, hne'⟩
      · cases he : c.err <;> simp [future, srcBytes, he]
      · intro e; cases c.err <;> simp; exact fun h => h.symm
    · refine ⟨?_, by simp, rfl, ?_⟩
      · cases he : c.err <;> simp [future, srcBytes, he, ← List.append_assoc]
      · intro x hx
        simp only [List.mem_cons] at hx
        rcases hx with rfl | hx
        · simp only [ne_eq, List.drop_eq_nil_iff]; omega
        · exact hne' x hx

theorem read_len (s : Src) (n : Nat) : (s.read n).data.length ≤ n := by
  unfold Src.read
  cases s.chunks with
  | nil => simp
  | cons c cs =>
    simp only
    split
    · assumption
    · simp; omega

theorem read_nil (s : Src) (n : Nat) (hn : 0 < n) (hne : NE s.chunks)
    (h : (s.read n).data = []) :
    s.chunks = [] ∧ (s.read n).err = some s.term.err ∧ (s.read n).src.chunks = [] := by
  obtain ⟨chunks, term⟩ := s
  unfold Src.read at h ⊢
  cases chunks with
  | nil => simp
  | cons c cs =>
    have : c.bytes ≠ [] := hne c (by simp)
    simp only at h
    split at h
    · exact absurd h this
    · simp only [List.take_eq_nil_iff] at h
      rcases h with h | h
      · omega
      · exact absurd h this

theorem RdOk.trans {s0 s1 : Src} {r : RdRes} (h0 : srcBytes s1.chunks = srcBytes s0.chunks)
    (ht : s1.term = s0.term) (h : RdOk s1 r) : RdOk s0 r :=
  ⟨h.bytes.trans h0, fun e he => (h.err e he).trans (by rw [ht]), h.term.trans ht, h.ne⟩

/-- the loop condition of `complete` is false -/
def Done (count : Nat) (r : RdRes) : Prop :=
  r.data = [] ∨ r.data.length % 8 = 0 ∨ r.data.length = count ∨ r.err ≠ none

theorem complete_ok (s0 : Src) (count : Nat) : ∀ (fuel : Nat) (r : RdRes),
    RdOk s0 r → r.data.length ≤ count →
    RdOk s0 (complete count fuel r) ∧ (complete count fuel r).data.length ≤ count ∧
    (r.data = [] → complete count fuel r = r) ∧
    (r.data ≠ [] → (complete count fuel r).data ≠ []) ∧
    (count - r.data.length ≤ fuel → Done count (complete count fuel r)) := by
  intro fuel
  induction fuel with
  | zero =>
    intro r hr hl
    refine ⟨hr, hl, fun _ => rfl, fun h => h, fun h => ?_⟩
    simp only [complete]
    right; right; left; omega
  | succ fuel ih =>
    intro r hr hl
    unfold complete
    split
    next hc =>
      obtain ⟨hpos, hmod, hlt, herr⟩ := hc
      have hrne : r.data ≠ [] := by intro h; simp [h] at hpos
      have hfut : future r.err r.src = srcBytes r.src.chunks := by simp [future, herr]
      have hq := read_ok r.src (count - r.data.length) hr.ne
      have hql := read_len r.src (count - r.data.length)
      split
      next hz =>
        have hz' : (r.src.read (count - r.data.length)).data = [] := List.eq_nil_of_length_eq_zero hz
        have hn := read_nil r.src (count - r.data.length) (by omega) hr.ne hz'
        refine ⟨⟨?_, ?_, ?_, hq.ne⟩, hl, fun h => absurd h hrne, fun _ => hrne, fun _ => ?_⟩
        · have := hr.bytes
          rw [hfut, hn.1] at this
          simpa [future, hn.2.1, srcBytes] using this
        · intro e; simp only [hn.2.1, Option.getD_some, Option.some.injEq]
          intro h; rw [← h, hr.term]
        · exact hq.term.trans hr.term
        · right; right; right; simp [hn.2.1]
      next hz =>
        have hr' : RdOk s0 ⟨r.data ++ (r.src.read (count - r.data.length)).data,
            (r.src.read (count - r.data.length)).err, (r.src.read (count - r.data.length)).src⟩ := by
          refine ⟨?_, ?_, hq.term.trans hr.term, hq.ne⟩
          · have h1 := hr.bytes
            have h2 := hq.bytes
            rw [hfut] at h1
            simp only [List.append_assoc]
            rw [h2, h1]
          · intro e he; rw [hq.err e he, hr.term]
        have hl' : (r.data ++ (r.src.read (count - r.data.length)).data).length ≤ count := by
          simp only [List.length_append]; omega
        obtain ⟨i1, i2, _, i4, i5⟩ := ih _ hr' hl'
        refine ⟨i1, i2, fun h => absurd h hrne, fun _ => i4 (by simp [hrne]), fun hf => i5 ?_⟩
        simp only [List.length_append]; omega
    next hc =>
      refine ⟨hr, hl, fun _ => rfl, fun h => h, fun _ => ?_⟩
      unfold Done
      by_cases h1 : r.data = []
      · left; exact h1
      · have : 0 < r.data.length := List.length_pos_iff.mpr h1
        by_cases h2 : r.data.length % 8 = 0
        · right; left; exact h2
        · by_cases h3 : r.err = none
          · right; right; left
            have : ¬ r.data.length < count := fun h => hc ⟨this, h2, h, h3⟩
            omega
          · right; right; right; exact h3


/-- invariant of the concrete stream.  `al`: the buffered bytes are whole words until the source has
    reported its end (so a partial last word only occurs then); `cl`: `Close` leaves nothing to read -/
structure Inv (s : St) : Prop where
  blen : s.buffer.length % 8 = 0
  bpos : 0 < s.buffer.length
  mp : -1 ≤ s.maxPosition
  lim_le : s.lim ≤ s.buffer.length
  avail_le : s.availBits ≤ 64
  ne : NE s.src.chunks
  pend : ∀ e, s.pendingErr = some e → e = s.src.term.err
  al : s.pendingErr = none → s.bufRest.length % 8 = 0
  cl : s.closed = true → s.availBits = 0 ∧ s.maxPosition = -1

/-- open, and `availBytes ≥ 0` in `ReadArray` (lost only when a panic went through the
    `pendingErr` path, or by `Close`) -/
def Fresh (s : St) : Prop := s.closed = false ∧ s.position ≤ s.lim

structure A where
  closed : Bool
  cnt : Int
  avail : Nat
  cur : BitVec 64
  rest : List Byte
  ending : ErrKind

def abs (s : St) : A :=
  { closed := s.closed, cnt := s.count, avail := s.availBits, cur := s.current,
    rest := if s.closed then [] else s.bufRest ++ future s.pendingErr s.src,
    ending := s.src.term.err }

def A.pull (a : A) : Option ErrKind × A :=
  if a.closed then (some .closed, a)
  else if a.rest = [] then (some a.ending, a)
  else (none, { a with cur := beWord (a.rest.take 8), avail := 8 * (a.rest.take 8).length,
                       rest := a.rest.drop 8, cnt := a.cnt + a.avail })

theorem A.pull_closed (a : A) (hc : a.closed = true) : a.pull = (some .closed, a) := by
  unfold A.pull; simp [hc]

theorem A.pull_nil (a : A) (hc : a.closed = false) (hr : a.rest = []) :
    a.pull = (some a.ending, a) := by
  unfold A.pull; simp [hc, hr]

theorem A.pull_ok (a : A) (hc : a.closed = false) (hr : a.rest ≠ []) :
    a.pull = (none, ⟨a.closed, a.cnt + a.avail, 8 * (a.rest.take 8).length,
      beWord (a.rest.take 8), a.rest.drop 8, a.ending⟩) := by
  unfold A.pull; simp [hc, hr]

theorem fetch_ok (s : St) (hi : Inv s) :
    RdOk s.src (fetch s) ∧ (fetch s).data.length ≤ s.buffer.length ∧
    ((fetch s).data = [] → srcBytes s.src.chunks = [] ∧ (fetch s).err = some s.src.term.err ∧
        srcBytes (fetch s).src.chunks = []) ∧
    ((fetch s).data ≠ [] → (fetch s).data.length % 8 = 0 ∨ (fetch s).err ≠ none) := by
  have h0 := read_ok s.src s.buffer.length hi.ne
  have hl := read_len s.src s.buffer.length
  obtain ⟨c1, c2, c3, c4, c5⟩ := complete_ok s.src s.buffer.length s.buffer.length _ h0 hl
  refine ⟨c1, c2, ?_, ?_⟩
  · intro h
    by_cases hd : (s.src.read s.buffer.length).data = []
    · have hn := read_nil s.src s.buffer.length hi.bpos hi.ne hd
      unfold fetch
      rw [c3 hd]
      exact ⟨by rw [hn.1]; rfl, hn.2.1, by rw [hn.2.2]; rfl⟩
    · exact absurd h (c4 hd)
  · intro h
    have hd := c5 (by omega)
    rcases hd with hd | hd | hd | hd
    · exact absurd hd h
    · left; exact hd
    · left; unfold fetch; rw [hd]; exact hi.blen
    · right; exact hd

theorem lim_of_max (s : St) (n : Nat) (h : s.maxPosition = (n : Int) - 1) : s.lim = n := by
  unfold St.lim; omega

theorem refill_pend (s : St) (hc : s.closed = false) (hb : s.buffer.length ≠ 0) (e : ErrKind)
    (hp : s.pendingErr = some e) : refill s = (some e, { s with maxPosition := -1 }) := by
  unfold refill; simp [hc, hb, hp]

theorem refill_empty (s : St) (hc : s.closed = false) (hb : s.buffer.length ≠ 0)
    (hp : s.pendingErr = none) (hz : (fetch s).data.length = 0) :
    refill s = (some (((fetch s).err).getD .eos),
          { s with read := s.read + 8 * (s.position : Int), position := 0, maxPosition := -1,
                   src := (fetch s).src }) := by
  unfold refill; simp [hc, hb, hp, hz]

theorem refill_data (s : St) (hc : s.closed = false) (hb : s.buffer.length ≠ 0)
    (hp : s.pendingErr = none) (hz : (fetch s).data.length ≠ 0) :
    refill s = (none,
          { s with read := s.read + 8 * (s.position : Int), position := 0,
                   maxPosition := ((fetch s).data.length : Int) - 1,
                   pendingErr := (fetch s).err, src := (fetch s).src,
                   buffer := (fetch s).data ++ s.buffer.drop (fetch s).data.length }) := by
  unfold refill; simp [hc, hb, hp, hz]

theorem A.ext' {a b : A} (h1 : a.closed = b.closed) (h2 : a.cnt = b.cnt) (h3 : a.avail = b.avail)
    (h4 : a.cur = b.cur) (h5 : a.rest = b.rest) (h6 : a.ending = b.ending) : a = b := by
  cases a; cases b; simp_all

theorem abs_rest_open (s : St) (hc : s.closed = false) :
    (abs s).rest = s.bufRest ++ future s.pendingErr s.src := by simp [abs, hc]

theorem abs_eq_of {s t : St} (hs : s.closed = false) (ht : t.closed = false)
    (h1 : t.count = s.count) (h2 : t.availBits = s.availBits) (h3 : t.current = s.current)
    (h4 : t.bufRest ++ future t.pendingErr t.src = s.bufRest ++ future s.pendingErr s.src)
    (h5 : t.src.term = s.src.term) : abs t = abs s := by
  apply A.ext'
  · exact ht.trans hs.symm
  · exact h1
  · exact h2
  · exact h3
  · rw [abs_rest_open t ht, abs_rest_open s hs, h4]
  · show t.src.term.err = s.src.term.err
    rw [h5]

theorem bufRest_of_max (t : St) (h : t.maxPosition = -1) : t.bufRest = [] := by
  simp [St.bufRest, St.lim, h]

/-- `refill` is called with the buffer used up; when it fails nothing more was to come, and the
    abstract state is unchanged -/
theorem refill_err (s : St) (hi : Inv s) (hc : s.closed = false) (hb : s.bufRest = [])
    (e : ErrKind) (h : (refill s).1 = some e) :
    e = s.src.term.err ∧ (abs s).rest = [] ∧ abs (refill s).2 = abs s ∧ Inv (refill s).2 ∧
    (s.pendingErr = none → (refill s).2.position = 0) := by
  have hb0 : s.buffer.length ≠ 0 := by have := hi.bpos; omega
  have hrest := abs_rest_open s hc
  rw [hb, List.nil_append] at hrest
  cases hp : s.pendingErr with
  | some e' =>
    rw [refill_pend s hc hb0 e' hp] at h ⊢
    simp only [Option.some.injEq] at h
    subst h
    refine ⟨hi.pend _ hp, by rw [hrest, hp]; rfl, abs_eq_of hc hc rfl rfl rfl ?_ rfl, ?_,
      fun h => by cases h⟩
    · rw [bufRest_of_max _ rfl, hb]
    · exact ⟨hi.blen, hi.bpos, by simp, by simp [St.lim], hi.avail_le, hi.ne, hi.pend,
        fun _ => by rw [bufRest_of_max _ rfl]; rfl, by simp [hc]⟩
  | none =>
    obtain ⟨f1, f2, f3, f4⟩ := fetch_ok s hi
    by_cases hz : (fetch s).data.length = 0
    · obtain ⟨g1, g2, g3⟩ := f3 (List.eq_nil_of_length_eq_zero hz)
      rw [refill_empty s hc hb0 hp hz] at h ⊢
      simp only [g2, Option.getD_some, Option.some.injEq] at h
      refine ⟨h.symm, by rw [hrest, hp]; exact g1, abs_eq_of hc hc ?_ rfl rfl ?_ f1.term, ?_,
        fun _ => rfl⟩
      · simp [St.count]
      · rw [bufRest_of_max _ rfl, hb, hp]
        exact g3.trans g1.symm
      · exact ⟨hi.blen, hi.bpos, by simp, by simp [St.lim], hi.avail_le, f1.ne, by simp [hp],
          fun _ => by rw [bufRest_of_max _ rfl]; rfl, by simp [hc]⟩
    · rw [refill_data s hc hb0 hp hz] at h
      simp at h

theorem refill_ok (s : St) (hi : Inv s) (hc : s.closed = false) (hb : s.bufRest = [])
    (h : (refill s).1 = none) :
    s.pendingErr = none ∧ abs (refill s).2 = abs s ∧ Inv (refill s).2 ∧
    (refill s).2.position = 0 ∧ (refill s).2.bufRest ≠ [] := by
  have hb0 : s.buffer.length ≠ 0 := by have := hi.bpos; omega
  cases hp : s.pendingErr with
  | some e' => rw [refill_pend s hc hb0 e' hp] at h; simp at h
  | none =>
    obtain ⟨f1, f2, f3, f4⟩ := fetch_ok s hi
    by_cases hz : (fetch s).data.length = 0
    · rw [refill_empty s hc hb0 hp hz] at h; simp at h
    · rw [refill_data s hc hb0 hp hz]
      have hne : (fetch s).data ≠ [] := fun h0 => hz (by simp [h0])
      have hbr : ∀ (t : St), t.buffer = (fetch s).data ++ s.buffer.drop (fetch s).data.length →
          t.position = 0 → t.maxPosition = ((fetch s).data.length : Int) - 1 →
          t.bufRest = (fetch s).data := by
        intro t h1 h2 h3
        simp only [St.bufRest, lim_of_max t _ h3, h1, h2, List.drop_zero, List.take_left']
      refine ⟨rfl, abs_eq_of hc hc ?_ rfl rfl ?_ f1.term, ?_, rfl,
        by rw [hbr _ rfl rfl rfl]; exact hne⟩
      · simp [St.count]
      · rw [hbr _ rfl rfl rfl, hb, hp]
        exact f1.bytes
      · refine ⟨?_, ?_, ?_, ?_, hi.avail_le, f1.ne,
          fun e he => (f1.err e he).trans (by rw [← f1.term]), ?_, by simp [hc]⟩
        · simp only [List.length_append, List.length_drop]
          have := hi.blen; omega
        · simp only [List.length_append, List.length_drop]
          have := hi.bpos; omega
        · simp only; omega
        · rw [lim_of_max _ (fetch s).data.length rfl]
          simp only [List.length_append, List.length_drop]; omega
        · rw [hbr _ rfl rfl rfl]
          intro hf
          exact (f4 hne).resolve_right (fun h8 => h8 hf)

theorem bufRest_len (s : St) (h : s.lim ≤ s.buffer.length) :
    s.bufRest.length = s.lim - s.position := by
  simp only [St.bufRest, List.length_drop, List.length_take]; omega

theorem bufRest_nil_iff (s : St) (hi : Inv s) :
    s.bufRest = [] ↔ (s.position : Int) > s.maxPosition := by
  rw [← List.length_eq_zero_iff, bufRest_len s hi.lim_le]
  have := hi.mp
  unfold St.lim; omega

/-- both branches of `pullWord` take the next (up to) 8 buffered bytes -/
theorem pullWord_eq (t : St) (hi : Inv t) :
    pullWord t = { t with current := beWord (t.bufRest.take 8),
                          availBits := 8 * (t.bufRest.take 8).length,
                          position := t.position + (t.bufRest.take 8).length } := by
  have hlen := bufRest_len t hi.lim_le
  have hmp := hi.mp
  have hlimdef : t.lim = (t.maxPosition + 1).toNat := rfl
  unfold pullWord
  by_cases hcase : (t.position : Int) + 7 > t.maxPosition
  · rw [if_pos hcase, List.take_of_length_le (by omega)]
  · rw [if_neg hcase]
    have htake : (t.buffer.drop t.position).take 8 = t.bufRest.take 8 := by
      simp only [St.bufRest, List.drop_take, List.take_take]
      congr 1; omega
    have hl : (t.bufRest.take 8).length = 8 := by rw [List.length_take]; omega
    rw [htake, hl]

theorem take_drop_append_of {α : Type} (x y : List α) (n : Nat) (h : n ≤ x.length ∨ y = []) :
    (x ++ y).take n = x.take n ∧ (x ++ y).drop n = x.drop n ++ y := by
  rcases h with h | h
  · exact ⟨List.take_append_of_le_length h, List.drop_append_of_le_length h⟩
  · subst h; simp

theorem pullWord_sim (t : St) (hi : Inv t) (hc : t.closed = false) (hne : t.bufRest ≠ []) :
    A.pull (abs t) = (none, abs (pullWord t)) ∧ Inv (pullWord t) ∧ Fresh (pullWord t) ∧
    ((pullWord t).availBits = 64 ∨
      ((pullWord t).pendingErr ≠ none ∧ (pullWord t).bufRest = [])) := by
  have hlen := bufRest_len t hi.lim_le
  have hpos : 0 < t.bufRest.length := List.length_pos_iff.mpr hne
  have hk : (t.bufRest.take 8).length = min 8 t.bufRest.length := List.length_take
  -- a partial last word only occurs once the source is exhausted
  have hpe : 8 ≤ t.bufRest.length ∨ t.pendingErr ≠ none := by
    by_cases h : t.pendingErr = none
    · have := hi.al h; omega
    · exact Or.inr h
  obtain ⟨k1, k2⟩ := take_drop_append_of t.bufRest (future t.pendingErr t.src) 8 (by
    rcases hpe with h | h
    · exact Or.inl h
    · right; cases hp : t.pendingErr with
      | none => exact absurd hp h
      | some e => rfl)
  rw [A.pull_ok (abs t) hc (by rw [abs_rest_open t hc]; simp [hne]), abs_rest_open t hc, k1, k2,
    pullWord_eq t hi]
  have hbr : ({ t with current := beWord (t.bufRest.take 8),
                       availBits := 8 * (t.bufRest.take 8).length,
                       position := t.position + (t.bufRest.take 8).length } : St).bufRest
      = t.bufRest.drop 8 := by
    have hd : t.bufRest.drop (t.bufRest.take 8).length = t.bufRest.drop 8 := by
      rw [hk]
      by_cases h : 8 ≤ t.bufRest.length
      · rw [Nat.min_eq_left h]
      · rw [Nat.min_eq_right (by omega), List.drop_length, List.drop_of_length_le (by omega)]
    rw [← hd]
    simp only [St.bufRest, St.lim, List.drop_drop]
  refine ⟨?_, ?_, ⟨hc, ?_⟩, ?_⟩
  · congr 1
    apply A.ext' <;> try rfl
    · simp only [abs, St.count]; omega
    · refine Eq.trans ?_ (abs_rest_open _ ?_).symm
      · rw [hbr]
      · exact hc
  · refine ⟨hi.blen, hi.bpos, hi.mp, hi.lim_le, by simp only [hk]; omega, hi.ne, hi.pend, ?_,
      fun h => by rw [hc] at h; cases h⟩
    intro h
    have := hi.al h
    rw [hbr, List.length_drop]; omega
  · show t.position + (t.bufRest.take 8).length ≤ t.lim
    omega
  · rcases hpe with h | h
    · left; show 8 * (t.bufRest.take 8).length = 64; omega
    · by_cases h8 : 8 ≤ t.bufRest.length
      · left; show 8 * (t.bufRest.take 8).length = 64; omega
      · exact Or.inr ⟨h, by rw [hbr]; exact List.drop_of_length_le (by omega)⟩

theorem pull_closed (s : St) (hi : Inv s) (hc : s.closed = true) : pull s = (some .closed, s) := by
  obtain ⟨_, hm⟩ := hi.cl hc
  have h1 : (s.position : Int) > s.maxPosition := by omega
  have hr : refill s = (some .closed, s) := by unfold refill; simp [hc]
  unfold pull; simp [h1, hr]

theorem pull_sim (s : St) (hi : Inv s) :
    (pull s).1 = (A.pull (abs s)).1 ∧ abs (pull s).2 = (A.pull (abs s)).2 ∧ Inv (pull s).2 ∧
    ((pull s).1 = none → Fresh (pull s).2 ∧
      ((pull s).2.availBits = 64 ∨
        ((pull s).2.pendingErr ≠ none ∧ (pull s).2.bufRest = []))) := by
  cases hc : s.closed with
  | true => rw [pull_closed s hi hc, A.pull_closed _ hc]; exact ⟨rfl, rfl, hi, by simp⟩
  | false =>
    by_cases h1 : (s.position : Int) > s.maxPosition
    · have hbn : s.bufRest = [] := (bufRest_nil_iff s hi).mpr h1
      cases hr : (refill s).1 with
      | some e =>
        obtain ⟨r1, r2, r3, r4, _⟩ := refill_err s hi hc hbn e hr
        have hp : pull s = (some e, (refill s).2) := by unfold pull; simp [h1, hr]
        rw [hp, A.pull_nil _ hc r2]
        exact ⟨by rw [r1]; rfl, r3, r4, by simp⟩
      | none =>
        obtain ⟨_, r2, r3, _, r5⟩ := refill_ok s hi hc hbn hr
        have hp : pull s = (none, pullWord (refill s).2) := by unfold pull; simp [h1, hr]
        have hc' : (refill s).2.closed = false := (congrArg A.closed r2).trans hc
        obtain ⟨w1, w2, w3, w4⟩ := pullWord_sim (refill s).2 r3 hc' r5
        rw [hp, ← r2, w1]
        exact ⟨rfl, rfl, w2, fun _ => ⟨w3, w4⟩⟩
    · have hbn : s.bufRest ≠ [] := fun h => h1 ((bufRest_nil_iff s hi).mp h)
      have hp : pull s = (none, pullWord s) := by unfold pull; simp [h1]
      obtain ⟨w1, w2, w3, w4⟩ := pullWord_sim s hi hc hbn
      rw [hp, w1]
      exact ⟨rfl, rfl, w2, fun _ => ⟨w3, w4⟩⟩

/-! Every operation of the concrete stream is simulated by the same operation of the abstract word
machine `A` (defined here by mirroring the model with `A.pull` for `pull`).
-/

/-- consume `n ≤ avail` bits of the current word -/
def A.take (a : A) (n : Nat) : A := { a with avail := a.avail - n, cnt := a.cnt + n }

def A.readBit (a : A) : Res (BitVec 64) × A :=
  if a.avail = 0 then
    match a.pull.1 with
    | some e => (.panic e, a.pull.2)
    | none => (.val ((a.pull.2.cur >>> (a.pull.2.avail - 1)) &&& 1), a.pull.2.take 1)
  else (.val ((a.cur >>> (a.avail - 1)) &&& 1), a.take 1)

def A.readBitsAux : Nat → A → Nat → Res (BitVec 64) × A
  | 0, a, _ => (.panic .fuel, a)
  | fuel + 1, a, n =>
    if n = 0 ∨ n > 64 then (.panic .invalidCount, a)
    else if n ≤ a.avail then
      (.val ((a.cur >>> (a.avail - n)) &&& mask n), a.take n)
    else
      match a.pull.1 with
      | some e => (.panic e, a.pull.2)
      | none =>
        match (A.readBitsAux fuel a.pull.2 (n - a.avail)).1 with
        | .val v =>
          (.val (((a.cur &&& mask a.avail) <<< (n - a.avail)) ||| v),
            (A.readBitsAux fuel a.pull.2 (n - a.avail)).2)
        | .panic e => (.panic e, (A.readBitsAux fuel a.pull.2 (n - a.avail)).2)

def A.readBits (a : A) (n : Nat) : Res (BitVec 64) × A := A.readBitsAux (n + 2) a n

def A.hasMore (a : A) : Res Unit × A :=
  if a.closed then (.panic .closed, a)
  else if a.rest ≠ [] ∨ a.avail ≠ 0 then (.val (), a)
  else (.panic a.ending, a)

def A.close (a : A) : A :=
  if a.closed then a else { a with closed := true, avail := 0, rest := [] }

/-- simulation of one value-returning operation -/
def SimR {α : Type} (s : St) (r : Res α × St) (r' : Res α × A) : Prop :=
  r.1 = r'.1 ∧ abs r.2 = r'.2 ∧ Inv r.2 ∧ (Fresh s → (∀ e, r.1 ≠ .panic e) → Fresh r.2)

theorem abs_take (s : St) (n : Nat) (hn : n ≤ s.availBits) (hi : Inv s) :
    abs { s with availBits := s.availBits - n } = (abs s).take n ∧
    Inv { s with availBits := s.availBits - n } ∧
    (Fresh s → Fresh { s with availBits := s.availBits - n }) := by
  refine ⟨?_, ?_, fun h => h⟩
  · apply A.ext' <;> try rfl
    simp only [abs, A.take, St.count]; omega
  · refine ⟨hi.blen, hi.bpos, hi.mp, hi.lim_le, ?_, hi.ne, hi.pend, hi.al, ?_⟩
    · have := hi.avail_le; simp only; omega
    · intro h; have := hi.cl h; simp only; omega

theorem A.pull_none (a : A) (h : a.pull.1 = none) : a.closed = false ∧ a.rest ≠ [] := by
  unfold A.pull at h
  cases hc : a.closed with
  | true => simp [hc] at h
  | false =>
    refine ⟨rfl, fun hr => ?_⟩
    simp [hc, hr] at h

theorem pull_avail_pos (s : St) (hi : Inv s) (h : (pull s).1 = none) :
    8 ≤ (pull s).2.availBits := by
  obtain ⟨p1, p2, p3, p4⟩ := pull_sim s hi
  have hA : (A.pull (abs s)).1 = none := by rw [← p1]; exact h
  obtain ⟨a1, a2⟩ := A.pull_none _ hA
  have : (abs (pull s).2).avail = (pull s).2.availBits := rfl
  rw [← this, p2, A.pull_ok _ a1 a2]
  have : 0 < ((abs s).rest.take 8).length := by
    simp only [List.length_take]
    have := List.length_pos_iff.mpr a2
    omega
  simp only; omega

theorem readBit_sim (s : St) (hi : Inv s) : SimR s (readBit s) (A.readBit (abs s)) := by
  obtain ⟨p1, p2, p3, p4⟩ := pull_sim s hi
  unfold readBit A.readBit
  have hav : (abs s).avail = s.availBits := rfl
  have hcur : (abs s).cur = s.current := rfl
  rw [hav, hcur]
  by_cases h0 : s.availBits = 0
  · simp only [h0, ↓reduceIte]
    rw [← p1]
    cases hp : (pull s).1 with
    | some e => exact ⟨rfl, p2, p3, fun _ h => absurd rfl (h e)⟩
    | none =>
      have h8 := pull_avail_pos s hi hp
      obtain ⟨t1, t2, t3⟩ := abs_take (pull s).2 1 (by omega) p3
      simp only
      refine ⟨?_, ?_, t2, fun _ _ => t3 (p4 hp).1⟩
      · rw [← p2]; rfl
      · rw [t1, p2]
  · simp only [h0, ↓reduceIte]
    obtain ⟨t1, t2, t3⟩ := abs_take s 1 (by omega) hi
    exact ⟨rfl, t1, t2, fun h _ => t3 h⟩

theorem readBitsAux_sim : ∀ (fuel : Nat) (s : St) (n : Nat), Inv s →
    SimR s (readBitsAux fuel s n) (A.readBitsAux fuel (abs s) n) := by
  intro fuel
  induction fuel with
  | zero => intro s n hi; exact ⟨rfl, rfl, hi, fun h _ => h⟩
  | succ fuel ih =>
    intro s n hi
    obtain ⟨p1, p2, p3, p4⟩ := pull_sim s hi
    unfold readBitsAux A.readBitsAux
    have hav : (abs s).avail = s.availBits := rfl
    have hcur : (abs s).cur = s.current := rfl
    rw [hav, hcur]
    by_cases hn : n = 0 ∨ n > 64
    · simp only [hn, ↓reduceIte]; exact ⟨rfl, rfl, hi, fun h _ => h⟩
    · simp only [hn, ↓reduceIte]
      by_cases hle : n ≤ s.availBits
      · simp only [hle, ↓reduceIte]
        obtain ⟨t1, t2, t3⟩ := abs_take s n hle hi
        exact ⟨rfl, t1, t2, fun h _ => t3 h⟩
      · simp only [hle, ↓reduceIte]
        rw [← p1]
        cases hp : (pull s).1 with
        | some e => exact ⟨rfl, p2, p3, fun _ h => absurd rfl (h e)⟩
        | none =>
          simp only
          obtain ⟨q1, q2, q3, q4⟩ := ih (pull s).2 (n - s.availBits) p3
          rw [← p2, ← q1]
          cases hr : (readBitsAux fuel (pull s).2 (n - s.availBits)).1 with
          | val v =>
            simp only
            refine ⟨rfl, q2, q3, fun _ _ => q4 (p4 hp).1 ?_⟩
            intro e he; rw [hr] at he; cases he
          | panic e =>
            simp only
            exact ⟨rfl, q2, q3, fun _ h => absurd rfl (h e)⟩

theorem readBits_sim (s : St) (n : Nat) (hi : Inv s) :
    SimR s (readBits s n) (A.readBits (abs s) n) := readBitsAux_sim (n + 2) s n hi

theorem hasMore_sim (s : St) (hi : Inv s) :
    (hasMore s).1 = (A.hasMore (abs s)).1 ∧ abs (hasMore s).2 = (A.hasMore (abs s)).2 ∧
    Inv (hasMore s).2 ∧ (Fresh s → Fresh (hasMore s).2) := by
  unfold hasMore A.hasMore
  have hcl : (abs s).closed = s.closed := rfl
  have hav : (abs s).avail = s.availBits := rfl
  rw [hcl, hav]
  cases hc : s.closed with
  | true => exact ⟨rfl, rfl, hi, id⟩
  | false =>
    simp only [Bool.false_eq_true, ↓reduceIte]
    have hrest := abs_rest_open s hc
    have hnil := bufRest_nil_iff s hi
    by_cases h1 : (s.position : Int) ≤ s.maxPosition ∨ s.availBits ≠ 0
    · have h2 : (abs s).rest ≠ [] ∨ s.availBits ≠ 0 := by
        rcases h1 with h1 | h1
        · left; rw [hrest]
          have : s.bufRest ≠ [] := fun h => by have := hnil.mp h; omega
          simp [this]
        · right; exact h1
      rw [if_pos h1, if_pos h2]; exact ⟨rfl, rfl, hi, id⟩
    · have hb : s.bufRest = [] := hnil.mpr (by omega)
      rw [if_neg h1]
      cases hp : s.pendingErr with
      | some e =>
        have h2 : ¬ ((abs s).rest ≠ [] ∨ s.availBits ≠ 0) := by
          rw [hrest, hb, hp]
          simp only [future, List.append_nil, ne_eq, not_true_eq_false, false_or]; omega
        rw [if_neg h2]
        exact ⟨by rw [hi.pend e hp]; rfl, rfl, hi, id⟩
      | none =>
        simp only
        cases hr : (refill s).1 with
        | some e =>
          obtain ⟨r1, r2, r3, r4, r5⟩ := refill_err s hi hc hb e hr
          have h2 : ¬ ((abs s).rest ≠ [] ∨ s.availBits ≠ 0) := by
            rw [r2]; simp only [ne_eq, not_true_eq_false, false_or]; omega
          rw [if_neg h2]
          exact ⟨by rw [r1]; rfl, r3, r4,
            fun _ => ⟨(congrArg A.closed r3).trans hc, by rw [r5 hp]; omega⟩⟩
        | none =>
          obtain ⟨_, r2, r3, r4, r5⟩ := refill_ok s hi hc hb hr
          have hc' : (refill s).2.closed = false := (congrArg A.closed r2).trans hc
          have h2 : (abs s).rest ≠ [] ∨ s.availBits ≠ 0 := by
            left; rw [← r2, abs_rest_open _ hc']; simp [r5]
          rw [if_pos h2]
          exact ⟨rfl, r2, r3, fun _ => ⟨hc', by rw [r4]; omega⟩⟩

theorem close_sim (s : St) (hi : Inv s) : abs (close s) = A.close (abs s) ∧ Inv (close s) := by
  unfold close A.close
  have hcl : (abs s).closed = s.closed := rfl
  rw [hcl]
  cases hc : s.closed with
  | true => exact ⟨rfl, hi⟩
  | false =>
    simp only [Bool.false_eq_true, ↓reduceIte]
    refine ⟨?_, ?_⟩
    · apply A.ext'
      · rfl
      · simp only [abs, St.count]; omega
      · rfl
      · rfl
      · simp [abs]
      · rfl
    · refine ⟨hi.blen, hi.bpos, by simp, by simp [St.lim], by simp, hi.ne, by simp, ?_, by simp⟩
      intro _; simp [St.bufRest, St.lim]

end Kanzi.IBS
