/-
Dictionary invariants of the text codecs (model `Kanzi/Model/Text.lean`): what `createDictionary` builds (`EntryOK`,
`StaticOK`), what `reset` establishes (`DictOK`) and what `learn` / `expand` preserve (`DictOKx x`, which is `DictOK`
for `x = 0` and allows a `dictList` with `x` stale entries beyond `dictSize`, as a used codec object has).  `learn` is
split into `learnCore` (store the word) and `learnNext` (advance the ring index, expand or wrap).
-/
import Kanzi.Proofs.Text

namespace Kanzi.Text
open Kanzi.RLT (Out Res wr)

/-! ## character classes -/

theorem isText_lt {c : Nat} (h : isText c = true) : c < 128 := by
  unfold isText isLower at h
  have h1 : 97 ≤ c ||| 0x20 ∧ c ||| 0x20 ≤ 122 := by simpa using h
  have h2 : c ≤ c ||| 0x20 := Nat.left_le_or
  omega

theorem isText_of_isLower {c : Nat} (h : isLower c = true) : isText c = true := by
  unfold isLower at h
  have h1 : 97 ≤ c ∧ c ≤ 122 := by simpa using h
  have : ∀ c, c < 123 → 97 ≤ c → isText c = true := by decide
  exact this c (by omega) h1.1

theorem isLower_flip_of_isUpper {c : Nat} (h : isUpper c = true) : isLower (c ^^^ 0x20) = true := by
  unfold isUpper at h
  have h1 : 65 ≤ c ∧ c ≤ 90 := by simpa using h
  have : ∀ c, c < 91 → 65 ≤ c → isLower (c ^^^ 0x20) = true := by decide
  exact this c (by omega) h1.1

/-! ## entries -/

/-- a well-formed entry at position `k` of `dictList`: `idx` is the position; without text the length is 0;
    with text `w` the length is `w.length`, and a word proper (length >= 2) consists of letters and carries
    its own hash -/
def EntryOK (k : Nat) (e : Entry) : Prop :=
  e.idx = k ∧
  match e.ptr with
  | none => e.len = 0
  | some w => w.length = e.len ∧ (2 ≤ e.len → e.hash = hashWord w ∧ ∀ b ∈ w, isText b = true)

theorem EntryOK_fresh (k : Nat) : EntryOK k (Entry.fresh k) := ⟨rfl, rfl⟩

theorem EntryOK_word (k h : Nat) (w : List Nat) (hh : h = hashWord w) (ht : ∀ b ∈ w, isText b = true) :
    EntryOK k ⟨h, w.length, k, some w⟩ := ⟨rfl, rfl, fun _ => ⟨hh, ht⟩⟩

/-! ## createDictionary -/

/-- loop invariant of `createDictionary` (`nb0` = `startWord`): `cur` is the word being collected, all letters,
    `h` its running hash; the entries `dict[nb0, nb)` stored so far are well formed -/
structure CDInv (maxWords nb0 : Nat) (s : CD) : Prop where
  nb_le : s.nb ≤ maxWords
  nb0_le : nb0 ≤ s.nb
  size : s.dict.size = maxWords
  h_eq : s.h = s.cur.toList.foldl hashStep HASH1
  cur_text : ∀ b ∈ s.cur.toList, isText b = true
  entries : ∀ j, nb0 ≤ j → j < s.nb → EntryOK j (s.dict.getD j Entry.zero)

theorem getD_set_eq {α : Type} (a : Array α) (i : Nat) (v d : α) (h : i < a.size) :
    (a.setIfInBounds i v).getD i d = v := by
  rw [Array.getD_eq_getD_getElem?, Array.getElem?_setIfInBounds, if_pos rfl, if_pos h]; rfl

theorem getD_set_ne {α : Type} (a : Array α) (i j : Nat) (v d : α) (h : i ≠ j) :
    (a.setIfInBounds i v).getD j d = a.getD j d := by
  rw [Array.getD_eq_getD_getElem?, Array.getElem?_setIfInBounds, if_neg h, ← Array.getD_eq_getD_getElem?]

theorem CDInv.push {maxWords nb0 : Nat} {s : CD} (hs : CDInv maxWords nb0 s) (b : Nat) (hb : isText b = true) :
    CDInv maxWords nb0 { s with cur := s.cur.push b, h := hashStep s.h b } := by
  refine ⟨hs.nb_le, hs.nb0_le, hs.size, ?_, ?_, hs.entries⟩
  · show hashStep s.h b = (s.cur.push b).toList.foldl hashStep HASH1
    rw [Array.toList_push, List.foldl_append, List.foldl_cons, List.foldl_nil, hs.h_eq]
  · intro x hx
    have hx' : x ∈ (s.cur.push b).toList := hx
    rw [Array.toList_push, List.mem_append, List.mem_singleton] at hx'
    rcases hx' with hx' | hx'
    · exact hs.cur_text x hx'
    · rw [hx']; exact hb

theorem CDInv.store {maxWords nb0 : Nat} {s : CD} (hs : CDInv maxWords nb0 s) (h1 : s.nb < maxWords) (j : Nat)
    (hj0 : nb0 ≤ j) (hj : j < s.nb + 1) :
    EntryOK j ((s.dict.setIfInBounds s.nb ⟨s.h, s.cur.size, s.nb, some s.cur.toList⟩).getD j Entry.zero) := by
  by_cases hjn : j = s.nb
  · subst hjn
    rw [getD_set_eq _ _ _ _ (by rw [hs.size]; exact h1)]
    have := EntryOK_word s.nb s.h s.cur.toList hs.h_eq hs.cur_text
    rwa [Array.length_toList] at this
  · rw [getD_set_ne _ _ _ _ _ (Ne.symm hjn)]
    exact hs.entries j hj0 (by omega)

theorem cdStep_inv (maxWords nb0 : Nat) (s : CD) (c : Nat) (hc : isText c = true) (hs : CDInv maxWords nb0 s) :
    CDInv maxWords nb0 (cdStep maxWords s c) := by
  unfold cdStep
  by_cases h1 : s.nb < maxWords
  · rw [if_pos h1]
    by_cases h2 : isUpper c = true
    · rw [if_pos h2]
      have hl : isText (c ^^^ 0x20) = true := isText_of_isLower (isLower_flip_of_isUpper h2)
      by_cases h3 : s.cur.size > 0
      · rw [if_pos h3]
        refine ⟨h1, Nat.le_succ_of_le hs.nb0_le, ?_, ?_, ?_, hs.store h1⟩
        · show (s.dict.setIfInBounds s.nb _).size = maxWords
          rw [Array.size_setIfInBounds]; exact hs.size
        · show hashStep HASH1 (c ^^^ 0x20) = List.foldl hashStep HASH1 [c ^^^ 0x20]
          rw [List.foldl_cons, List.foldl_nil]
        · intro b hb
          have : b = c ^^^ 0x20 := by simpa using hb
          rw [this]; exact hl
      · rw [if_neg h3]
        exact hs.push _ hl
    · rw [if_neg h2]
      exact hs.push c hc
  · rw [if_neg h1]; exact hs

theorem cdFold_inv (maxWords nb0 : Nat) : ∀ (l : List Nat) (s : CD), (∀ c ∈ l, isText c = true) →
    CDInv maxWords nb0 s → CDInv maxWords nb0 (l.foldl (cdStep maxWords) s)
  | [], _, _, hs => hs
  | c :: l, s, hl, hs =>
    cdFold_inv maxWords nb0 l _ (fun x hx => hl x (List.mem_cons_of_mem _ hx))
      (cdStep_inv maxWords nb0 s c (hl c (List.mem_cons_self ..)) hs)

theorem createDictionary_spec (raw : List Nat) (dict : Array Entry) (maxWords startWord : Nat)
    (hsz : dict.size = maxWords) (hst : startWord ≤ maxWords) :
    (createDictionary raw dict maxWords startWord).1 ≤ maxWords ∧
    (createDictionary raw dict maxWords startWord).2.size = maxWords ∧
    ∀ j, startWord ≤ j → j < (createDictionary raw dict maxWords startWord).1 →
      EntryOK j ((createDictionary raw dict maxWords startWord).2.getD j Entry.zero) := by
  have h0 : CDInv maxWords startWord ⟨#[], HASH1, startWord, dict⟩ :=
    ⟨hst, Nat.le_refl _, hsz, rfl, by simp, fun j h1 h2 => by simp at h2; omega⟩
  have hs := cdFold_inv maxWords startWord (raw.filter isText) _ (fun c hc => (List.mem_filter.mp hc).2) h0
  unfold createDictionary
  simp only []
  generalize (raw.filter isText).foldl (cdStep maxWords) ⟨#[], HASH1, startWord, dict⟩ = s at hs ⊢
  by_cases h1 : s.nb < maxWords
  · rw [if_pos h1]
    refine ⟨by simp; omega, by simp [hs.size], ?_⟩
    exact hs.store h1
  · rw [if_neg h1]
    exact ⟨hs.nb_le, hs.size, hs.entries⟩

theorem staticInit_spec :
    staticInit.1 ≤ 1024 ∧ staticInit.2.size = 1024 ∧
      ∀ j, 0 ≤ j → j < staticInit.1 → EntryOK j (staticInit.2.getD j Entry.zero) := by
  unfold staticInit
  exact createDictionary_spec _ _ 1024 0 Array.size_replicate (by decide)

/-- a well-formed static dictionary: at most 1024 words in an array of 1024 entries, every word well formed -/
structure StaticOK (sw : Nat) (sd : Array Entry) : Prop where
  le : sw ≤ 1024
  size : sd.size = 1024
  entry : ∀ j, j < sw → EntryOK j (sd.getD j Entry.zero)

theorem staticOK : StaticOK staticInit.1 staticInit.2 :=
  ⟨staticInit_spec.1, staticInit_spec.2.1, fun j h => staticInit_spec.2.2 j (Nat.zero_le _) h⟩

/-! ## arrays -/

theorem getD_set {α : Type} (a : Array α) (i j : Nat) (v d : α) :
    (a.setIfInBounds i v).getD j d = if i = j ∧ i < a.size then v else a.getD j d := by
  by_cases h : i = j
  · subst h
    by_cases h2 : i < a.size
    · rw [getD_set_eq _ _ _ _ h2, if_pos ⟨rfl, h2⟩]
    · rw [if_neg (fun h => h2 h.2)]
      rw [Array.getD_eq_getD_getElem?, Array.getElem?_setIfInBounds, if_pos rfl, if_neg h2,
        Array.getD_eq_getD_getElem?, Array.getElem?_eq_none (by omega)]
  · rw [getD_set_ne _ _ _ _ _ h, if_neg (fun h2 => h h2.1)]

theorem getD_of_ge {α : Type} (a : Array α) (j : Nat) (d : α) (h : a.size ≤ j) : a.getD j d = d := by
  rw [Array.getD_eq_getD_getElem?, Array.getElem?_eq_none h]; rfl

/-- Go: `for i := lo; i < lo+n; i++ { a[i] = f(i) }` -/
theorem foldl_set_range {α : Type} (f : Nat → α) (off : Nat) (z : α) :
    ∀ (n : Nat) (base : Array α),
      ((List.range n).foldl (fun l k => l.setIfInBounds (off + k) (f (off + k))) base).size = base.size ∧
      ∀ j, ((List.range n).foldl (fun l k => l.setIfInBounds (off + k) (f (off + k))) base).getD j z =
        if off ≤ j ∧ j < off + n ∧ j < base.size then f j else base.getD j z
  | 0, base => ⟨rfl, fun j => by rw [if_neg (by omega)]; rfl⟩
  | n + 1, base => by
    obtain ⟨ih1, ih2⟩ := foldl_set_range f off z n base
    rw [List.range_succ, List.foldl_append]
    refine ⟨by simp only [List.foldl_cons, List.foldl_nil, Array.size_setIfInBounds]; exact ih1, fun j => ?_⟩
    simp only [List.foldl_cons, List.foldl_nil]
    rw [getD_set, ih2 j, ih1]
    by_cases hj : off + n = j
    · subst hj
      by_cases hb : off + n < base.size
      · rw [if_pos ⟨rfl, hb⟩, if_pos ⟨by omega, by omega, hb⟩]
      · rw [if_neg (fun h => hb h.2), if_neg (by omega), if_neg (by omega)]
    · rw [if_neg (fun h => hj h.1)]
      by_cases hc : off ≤ j ∧ j < off + n ∧ j < base.size
      · rw [if_pos hc, if_pos ⟨hc.1, by omega, hc.2.2⟩]
      · rw [if_neg hc, if_neg (by omega)]

/-! ## the dictionary invariant -/

/-- well-formed dictionary state (`words` = the ring index of the codec loop): `len(dictList) = dictSize`, a power
    of two up to 2^19; the ring index lies behind the static entries; every entry is well formed; a map slot `s`
    that holds `p + 1` points at an entry `p` of `dictList` whose hash falls into `s` (0 = empty slot) -/
structure DictOK (d : Dict) (words : Nat) : Prop where
  size_eq : d.list.size = d.size
  ssz_le : d.ssz ≤ words
  words_lt : words < d.size
  size_le : d.size ≤ MAX_DICT_SIZE
  size_pow : ∃ a, d.size = 2 ^ a
  entry : ∀ k, k < d.list.size → EntryOK k (entryAt d k)
  map_size : d.map.size = d.hsz
  hsz_pos : 0 < d.hsz
  map : ∀ s p, d.map.getD s 0 = p + 1 → p < d.list.size ∧ (entryAt d p).hash % d.hsz = s

/-- `DictOK` for a `dictList` with `x` entries beyond `dictSize`, which no clause constrains.  `expand` and `learn`
    keep `x`; it is 0 on a fresh object and whatever earlier expansions left on a used one (`resetReuse`). -/
structure DictOKx (x : Nat) (d : Dict) (words : Nat) : Prop where
  size_eq : d.list.size = d.size + x
  ssz_le : d.ssz ≤ words
  words_lt : words < d.size
  size_le : d.size ≤ MAX_DICT_SIZE
  size_pow : ∃ a, d.size = 2 ^ a
  entry : ∀ k, k < d.size → EntryOK k (entryAt d k)
  map_size : d.map.size = d.hsz
  hsz_pos : 0 < d.hsz
  map : ∀ s p, d.map.getD s 0 = p + 1 → p < d.size ∧ (entryAt d p).hash % d.hsz = s

theorem DictOK_iff {d : Dict} {w : Nat} : DictOK d w ↔ DictOKx 0 d w := by
  constructor
  · intro h
    have e := h.size_eq
    exact ⟨e, h.ssz_le, h.words_lt, h.size_le, h.size_pow, fun k hk => h.entry k (by rw [e]; exact hk),
      h.map_size, h.hsz_pos, fun s p hp => by rw [← e]; exact h.map s p hp⟩
  · intro h
    have e : d.list.size = d.size := h.size_eq
    exact ⟨e, h.ssz_le, h.words_lt, h.size_le, h.size_pow, fun k hk => h.entry k (by rw [← e]; exact hk),
      h.map_size, h.hsz_pos, fun s p hp => by rw [e]; exact h.map s p hp⟩

theorem DictOKx.lt_list {x : Nat} {d : Dict} {w k : Nat} (h : DictOKx x d w) (hk : k < d.size) : k < d.list.size := by
  rw [h.size_eq]; omega

theorem dictSizeFor_spec (count : Nat) : ∃ a, 13 ≤ a ∧ a ≤ 18 ∧ dictSizeFor count = 2 ^ a := by
  unfold dictSizeFor
  by_cases h : count ≥ 1024
  · rw [if_pos h]
    exact ⟨max (min (log2u32 (count / 128)) 18) 13, by omega, by omega, Nat.one_shiftLeft _⟩
  · rw [if_neg h]
    exact ⟨13, by omega, by omega, Nat.one_shiftLeft _⟩

theorem dictSizeFor_ge (count : Nat) : 8192 ≤ dictSizeFor count := by
  obtain ⟨a, h1, _, e⟩ := dictSizeFor_spec count
  rw [e]
  calc 8192 = 2 ^ 13 := by decide
    _ ≤ 2 ^ a := Nat.pow_le_pow_right (by decide) h1

theorem dictSizeFor_le (count : Nat) : dictSizeFor count ≤ 2 ^ 18 := by
  obtain ⟨a, _, h2, e⟩ := dictSizeFor_spec count
  rw [e]
  exact Nat.pow_le_pow_right (by decide) h2

/-! ## reset -/

theorem resetList_size (sw : Nat) (sd : Array Entry) (tc2 : Bool) (size : Nat) :
    (resetList sw sd tc2 size).size = size := by
  unfold resetList; exact Array.size_ofFn

theorem resetList_getD (sw : Nat) (sd : Array Entry) (tc2 : Bool) (size k : Nat) (hk : k < size) :
    (resetList sw sd tc2 size).getD k Entry.zero =
      if k < sw then sd.getD k Entry.zero
      else if tc2 then Entry.fresh k
      else if k = sw then ⟨0, 1, sw, some [ESCAPE_TOKEN2]⟩
      else if k = sw + 1 then ⟨0, 1, sw + 1, some [ESCAPE_TOKEN1]⟩
      else Entry.fresh k := by
  unfold resetList
  rw [Array.getD_eq_getD_getElem?, Array.getElem?_ofFn, dif_pos hk]
  rfl

theorem resetList_entry (sw : Nat) (sd : Array Entry) (tc2 : Bool) (size k : Nat) (hs : StaticOK sw sd)
    (hk : k < size) : EntryOK k ((resetList sw sd tc2 size).getD k Entry.zero) := by
  rw [resetList_getD _ _ _ _ _ hk]
  by_cases h1 : k < sw
  · rw [if_pos h1]; exact hs.entry k h1
  · rw [if_neg h1]
    cases tc2
    · simp only [Bool.false_eq_true, if_false]
      by_cases h2 : k = sw
      · rw [if_pos h2]; subst h2
        exact ⟨rfl, rfl, fun h => absurd (show 2 ≤ 1 from h) (by decide)⟩
      · rw [if_neg h2]
        by_cases h3 : k = sw + 1
        · rw [if_pos h3]; subst h3
          exact ⟨rfl, rfl, fun h => absurd (show 2 ≤ 1 from h) (by decide)⟩
        · rw [if_neg h3]; exact EntryOK_fresh k
    · simp only [if_true]; exact EntryOK_fresh k

theorem resetMap_spec (hsz : Nat) (list : Array Entry) : ∀ n,
    (resetMap hsz n list).size = hsz ∧
    ∀ s p, (resetMap hsz n list).getD s 0 = p + 1 → p < n ∧ (list.getD p Entry.zero).hash % hsz = s
  | 0 => by
    unfold resetMap
    refine ⟨by simp, fun s p h => ?_⟩
    simp only [List.range_zero, List.foldl_nil] at h
    by_cases hs : s < hsz
    · rw [Array.getD_eq_getD_getElem?, Array.getElem?_replicate, if_pos hs] at h
      simp at h
    · rw [getD_of_ge _ _ _ (by simp; omega)] at h
      omega
  | n + 1 => by
    obtain ⟨ih1, ih2⟩ := resetMap_spec hsz list n
    unfold resetMap at ih1 ih2 ⊢
    rw [List.range_succ, List.foldl_append]
    simp only [List.foldl_cons, List.foldl_nil]
    refine ⟨by rw [Array.size_setIfInBounds]; exact ih1, fun s p h => ?_⟩
    rw [getD_set] at h
    by_cases hc : (list.getD n Entry.zero).hash % hsz = s ∧
        (list.getD n Entry.zero).hash % hsz <
          ((List.range n).foldl (fun m i => m.setIfInBounds ((list.getD i Entry.zero).hash % hsz) (i + 1))
            (Array.replicate hsz 0)).size
    · rw [if_pos hc] at h
      have : p = n := by omega
      subst this
      exact ⟨by omega, hc.1⟩
    · rw [if_neg hc] at h
      obtain ⟨h1, h2⟩ := ih2 s p h
      exact ⟨by omega, h2⟩

theorem staticSize_le (sw : Nat) (tc2 : Bool) (h : sw ≤ 1024) : staticSize sw tc2 ≤ 1026 := by
  unfold staticSize; split <;> omega

theorem reset_ok (sw : Nat) (sd : Array Entry) (tc2 : Bool) (hsz count : Nat) (hs : StaticOK sw sd)
    (hpos : 0 < hsz) : DictOK (reset sw sd tc2 hsz count) (staticSize sw tc2) := by
  have hge := dictSizeFor_ge count
  have hle := dictSizeFor_le count
  have hss := staticSize_le sw tc2 hs.le
  obtain ⟨a, _, _, ea⟩ := dictSizeFor_spec count
  have hm := resetMap_spec hsz (resetList sw sd tc2 (dictSizeFor count)) (staticSize sw tc2)
  unfold reset
  refine ⟨resetList_size .., Nat.le_refl _, by simp only; omega, ?_, ⟨a, ea⟩, ?_, hm.1, hpos, ?_⟩
  · show dictSizeFor count ≤ MAX_DICT_SIZE
    have : MAX_DICT_SIZE = 2 ^ 19 := by decide
    have : (2 : Nat) ^ 18 ≤ 2 ^ 19 := by decide
    omega
  · intro k hk
    have hk' : k < dictSizeFor count := by rw [resetList_size] at hk; exact hk
    exact resetList_entry sw sd tc2 _ k hs hk'
  · intro s p h
    obtain ⟨h1, h2⟩ := hm.2 s p h
    refine ⟨?_, h2⟩
    show p < (resetList sw sd tc2 (dictSizeFor count)).size
    rw [resetList_size]; omega

/-! ## expand -/

theorem getD_append {α : Type} (a b : Array α) (j : Nat) (z : α) :
    (a ++ b).getD j z = if j < a.size then a.getD j z else b.getD (j - a.size) z := by
  rw [Array.getD_eq_getD_getElem?, Array.getElem?_append]
  by_cases h : j < a.size
  · rw [if_pos h, if_pos h, ← Array.getD_eq_getD_getElem?]
  · rw [if_neg h, if_neg h, ← Array.getD_eq_getD_getElem?]

/-- `expandDictionary` on a `dictList` that may be longer than `dictSize` (see `resetReuse`) -/
theorem expand_list (d : Dict) (hl : d.size ≤ d.list.size) :
    (expand d).list.size = d.list.size + d.size ∧
    ∀ k, k < 2 * d.size → entryAt (expand d) k = if k < d.size then entryAt d k else Entry.fresh k := by
  obtain ⟨h1, h2⟩ := foldl_set_range Entry.fresh d.size Entry.zero d.size
    (d.list ++ Array.replicate d.size Entry.zero)
  unfold entryAt expand
  simp only
  refine ⟨by rw [h1, Array.size_append, Array.size_replicate], fun k hk => ?_⟩
  rw [h2 k, Array.size_append, Array.size_replicate]
  by_cases c : k < d.size
  · rw [if_neg (by omega), if_pos c, getD_append, if_pos (by omega)]
  · rw [if_pos ⟨by omega, by omega, by omega⟩, if_neg c]

theorem expand_size (d : Dict) : (expand d).size = d.size * 2 := rfl
theorem expand_map (d : Dict) : (expand d).map = d.map := rfl
theorem expand_ssz (d : Dict) : (expand d).ssz = d.ssz := rfl
theorem expand_hsz (d : Dict) : (expand d).hsz = d.hsz := rfl

theorem expand_ok {x : Nat} (d : Dict) (words : Nat) (h : DictOKx x d words) (hlt : d.size < MAX_DICT_SIZE) :
    DictOKx x (expand d) (words + 1) := by
  obtain ⟨hl1, hl2⟩ := expand_list d (by rw [h.size_eq]; omega)
  obtain ⟨a, ea⟩ := h.size_pow
  have hw := h.words_lt
  have hM : MAX_DICT_SIZE = 2 ^ 19 := by decide
  have ha : a < 19 := by
    rw [ea, hM] at hlt
    exact (Nat.pow_lt_pow_iff_right (by decide)).mp hlt
  have hsz2 := expand_size d
  refine ⟨by rw [hl1, hsz2, h.size_eq]; omega, Nat.le_succ_of_le h.ssz_le, by rw [hsz2]; omega, ?_, ⟨a + 1, ?_⟩, ?_,
    h.map_size, h.hsz_pos, ?_⟩
  · rw [hsz2, ea, hM]
    calc 2 ^ a * 2 = 2 ^ (a + 1) := (Nat.pow_succ ..).symm
      _ ≤ 2 ^ 19 := Nat.pow_le_pow_right (by decide) ha
  · rw [hsz2, ea]; exact (Nat.pow_succ ..).symm
  · intro k hk
    rw [hsz2] at hk
    rw [hl2 k (by omega)]
    by_cases hk1 : k < d.size
    · rw [if_pos hk1]; exact h.entry k hk1
    · rw [if_neg hk1]; exact EntryOK_fresh k
  · intro s p hp
    obtain ⟨h1, h2⟩ := h.map s p hp
    refine ⟨by rw [hsz2]; omega, ?_⟩
    show (entryAt (expand d) p).hash % d.hsz = s
    rw [hl2 p (by omega), if_pos h1]; exact h2

/-! ## learn -/

/-- the dictionary after the word was stored in `dictList[words]` (before the ring index advances) -/
def learnCore (d : Dict) (words : Nat) (word : List Nat) (h1 : Nat) : Dict :=
  { d with
    map := (d.map.setIfInBounds ((entryAt d words).hash % d.hsz) 0).setIfInBounds (h1 % d.hsz) (words + 1)
    list := d.list.setIfInBounds words ⟨h1, word.length, words, some word⟩ }

theorem learnCore_map (d : Dict) (words : Nat) (word : List Nat) (h1 : Nat) : (learnCore d words word h1).map =
    (d.map.setIfInBounds ((entryAt d words).hash % d.hsz) 0).setIfInBounds (h1 % d.hsz) (words + 1) := rfl

theorem learnCore_list (d : Dict) (words : Nat) (word : List Nat) (h1 : Nat) :
    (learnCore d words word h1).list = d.list.setIfInBounds words ⟨h1, word.length, words, some word⟩ := rfl

theorem learnCore_size (d : Dict) (words : Nat) (word : List Nat) (h1 : Nat) :
    (learnCore d words word h1).size = d.size := rfl
theorem learnCore_ssz (d : Dict) (words : Nat) (word : List Nat) (h1 : Nat) :
    (learnCore d words word h1).ssz = d.ssz := rfl

def learnNext (d2 : Dict) (words : Nat) : Dict × Nat :=
  if words + 1 ≥ d2.size then
    if d2.size ≥ MAX_DICT_SIZE then (d2, d2.ssz) else (expand d2, words + 1)
  else (d2, words + 1)

theorem learn_eq_of (d : Dict) (words : Nat) (word : List Nat) (h1 : Nat) (hw : words < d.list.size)
    (hidx : (entryAt d words).idx = words) (hlt : words < MAX_DICT_SIZE) (hs : d.ssz ≤ words) :
    learn d words word h1 = .ok (learnNext (learnCore d words word h1) words) := by
  have hM : MASK_LENGTH + 1 = MAX_DICT_SIZE := by decide
  have hmod : words % (MASK_LENGTH + 1) = words := Nat.mod_eq_of_lt (by rw [hM]; exact hlt)
  unfold learn
  rw [if_neg (by omega)]
  simp only [hidx, hmod]
  rw [if_pos hs]
  unfold learnNext learnCore
  simp only
  by_cases c1 : words + 1 ≥ d.size
  · rw [if_pos c1, if_pos c1]
    by_cases c2 : d.size ≥ MAX_DICT_SIZE
    · rw [if_pos c2, if_pos c2]
    · rw [if_neg c2, if_neg c2]
  · rw [if_neg c1, if_neg c1]

theorem learn_eq {x : Nat} (d : Dict) (words : Nat) (word : List Nat) (h1 : Nat) (h : DictOKx x d words) :
    learn d words word h1 = .ok (learnNext (learnCore d words word h1) words) :=
  learn_eq_of d words word h1 (h.lt_list h.words_lt) (h.entry words h.words_lt).1
    (Nat.lt_of_lt_of_le h.words_lt h.size_le) h.ssz_le

theorem learnCore_entry {x : Nat} (d : Dict) (w : Nat) (word : List Nat) (h1 k : Nat) (hd : DictOKx x d w) :
    entryAt (learnCore d w word h1) k = if k = w then ⟨h1, word.length, w, some word⟩ else entryAt d k := by
  have hw := hd.lt_list hd.words_lt
  unfold entryAt
  rw [learnCore_list, getD_set]
  by_cases c : k = w
  · rw [if_pos ⟨c.symm, hw⟩, if_pos c]
  · rw [if_neg (fun h => c h.1.symm), if_neg c]

theorem learnCore_okx {x : Nat} (d : Dict) (words : Nat) (word : List Nat) (h : DictOKx x d words)
    (ht : ∀ b ∈ word, isText b = true) : DictOKx x (learnCore d words word (hashWord word)) words := by
  have hsize : (learnCore d words word (hashWord word)).list.size = d.list.size := by
    rw [learnCore_list, Array.size_setIfInBounds]
  refine ⟨hsize.trans h.size_eq, h.ssz_le, h.words_lt, h.size_le, h.size_pow, ?_, ?_, h.hsz_pos, ?_⟩
  · intro k hk
    rw [learnCore_entry d words word _ k h]
    by_cases hc : k = words
    · rw [if_pos hc, hc]
      exact EntryOK_word words _ word rfl ht
    · rw [if_neg hc]; exact h.entry k hk
  · rw [learnCore_map, Array.size_setIfInBounds, Array.size_setIfInBounds]; exact h.map_size
  · intro s p hp
    show p < d.size ∧ (entryAt (learnCore d words word (hashWord word)) p).hash % d.hsz = s
    rw [learnCore_map, getD_set] at hp
    rw [learnCore_entry d words word _ p h]
    by_cases hc : hashWord word % d.hsz = s ∧
        hashWord word % d.hsz < (d.map.setIfInBounds ((entryAt d words).hash % d.hsz) 0).size
    · rw [if_pos hc] at hp
      have hpw : p = words := by omega
      rw [if_pos hpw, hpw]
      exact ⟨h.words_lt, hc.1⟩
    · rw [if_neg hc, getD_set] at hp
      by_cases hc2 : (entryAt d words).hash % d.hsz = s ∧ (entryAt d words).hash % d.hsz < d.map.size
      · rw [if_pos hc2] at hp; omega
      · rw [if_neg hc2] at hp
        obtain ⟨h1, h2⟩ := h.map s p hp
        have hne : p ≠ words := by
          intro e
          subst e
          exact hc2 ⟨h2, by rw [h.map_size]; exact Nat.mod_lt _ h.hsz_pos⟩
        rw [if_neg hne]
        exact ⟨h1, h2⟩

theorem learnNext_okx {x : Nat} (d2 : Dict) (words : Nat) (h : DictOKx x d2 words) :
    DictOKx x (learnNext d2 words).1 (learnNext d2 words).2 := by
  unfold learnNext
  by_cases c1 : words + 1 ≥ d2.size
  · rw [if_pos c1]
    by_cases c2 : d2.size ≥ MAX_DICT_SIZE
    · rw [if_pos c2]
      exact { h with ssz_le := Nat.le_refl _, words_lt := Nat.lt_of_le_of_lt h.ssz_le h.words_lt }
    · rw [if_neg c2]
      exact expand_ok d2 words h (by omega)
  · rw [if_neg c1]
    exact { h with ssz_le := Nat.le_succ_of_le h.ssz_le, words_lt := show words + 1 < d2.size by omega }

theorem learnCore_ok (d : Dict) (words : Nat) (word : List Nat) (h : DictOK d words)
    (ht : ∀ b ∈ word, isText b = true) : DictOK (learnCore d words word (hashWord word)) words :=
  DictOK_iff.mpr (learnCore_okx d words word (DictOK_iff.mp h) ht)

theorem learnNext_ok (d2 : Dict) (words : Nat) (h : DictOK d2 words) :
    DictOK (learnNext d2 words).1 (learnNext d2 words).2 :=
  DictOK_iff.mpr (learnNext_okx d2 words (DictOK_iff.mp h))

theorem learnNext_fst (d2 : Dict) (words : Nat) :
    (learnNext d2 words).1 = d2 ∨ (learnNext d2 words).1 = expand d2 := by
  unfold learnNext
  by_cases c1 : words + 1 ≥ d2.size
  · rw [if_pos c1]
    by_cases c2 : d2.size ≥ MAX_DICT_SIZE
    · rw [if_pos c2]; exact Or.inl rfl
    · rw [if_neg c2]; exact Or.inr rfl
  · rw [if_neg c1]; exact Or.inl rfl

theorem learnNext_ssz (d2 : Dict) (words : Nat) : (learnNext d2 words).1.ssz = d2.ssz := by
  rcases learnNext_fst d2 words with h | h
  · rw [h]
  · rw [h]; rfl

theorem learnNext_hsz (d2 : Dict) (words : Nat) : (learnNext d2 words).1.hsz = d2.hsz := by
  rcases learnNext_fst d2 words with h | h
  · rw [h]
  · rw [h]; rfl

theorem learn_ok (d : Dict) (words : Nat) (word : List Nat) (h : DictOK d words)
    (ht : ∀ b ∈ word, isText b = true) :
    ∃ d' w', learn d words word (hashWord word) = .ok (d', w') ∧ DictOK d' w' ∧ d'.ssz = d.ssz ∧ d'.hsz = d.hsz := by
  exact ⟨_, _, learn_eq d words word _ (DictOK_iff.mp h), learnNext_ok _ _ (learnCore_ok d words word h ht),
    learnNext_ssz _ _, learnNext_hsz _ _⟩

end Kanzi.Text
