/-
Proofs for the generic binary arithmetic coder: bytes, chunks, whole blocks (`Write` + `Dispose`
against `Read`: `block_rt`, `block_reject`), on top of the encoder of `Kanzi/Proofs/BinEnt.lean` and the
decoder of `Kanzi/Proofs/BinEntDec.lean` (sections 1 to 5; the numbering runs on here).  The chunk loops
are proved once, parametrised (`loop_rt`), for this coder and for FPAQ (`Kanzi/Proofs/Fpaq.lean`).
After the blocks: the empty block, the bit-level round trip `bits_rt`, the adversarial predictor
that exceeds the buffer estimate and the decoder's acceptance test, and the one error of an encoder
that does not grow its buffer.
-/
import Kanzi.Proofs.BinEntDec

namespace Kanzi.BinEnt
open Kanzi.Bits Kanzi.EntSmall

/-! ## 6. bytes -/

theorem encodeBits_append (P : Pred σ) (a b : List Bool) : ∀ e : Enc σ,
    e.encodeBits P (a ++ b) =
      match e.encodeBits P a with
      | .ok e1 => e1.encodeBits P b
      | .error x => .error x := by
  induction a with
  | nil => intro e; rfl
  | cons x xs ih =>
    intro e
    simp only [List.cons_append, Enc.encodeBits]
    cases e.encodeBit P x with
    | error err => rfl
    | ok e1 => exact ih e1

/-- `for i := range buf { EncodeByte(buf[i]) }` codes the bits of the bytes, MSB first -/
theorem encodeBytes_eq (P : Pred σ) (blk : List Nat) : ∀ e : Enc σ,
    e.encodeBytes P blk = e.encodeBits P (ofBytes blk) := by
  induction blk with
  | nil => intro e; rfl
  | cons v vs ih =>
    intro e
    rw [ofBytes_cons, encodeBits_append]
    simp only [Enc.encodeBytes, Enc.encodeByte]
    cases e.encodeBits P (natBits v 8) with
    | error err => rfl
    | ok e1 => exact ih e1

/-- `for i := range buf { buf[i] = DecodeByte() }`: `dec_bits`, eight bits at a time -/
theorem dec_bytes (P : Pred σ) {R : σ → Prop} (hP : P.Safe R) (blk : List Nat) :
    ∀ (more : List Bool) (s : σ) (l h : Nat) (d : Dec σ) (J : List Nat) (acc : List Nat),
    (∀ v ∈ blk, v < 256) → R s → Inv l h → DRel d s l h → View d (pOut P s l h (ofBytes blk ++ more)) J →
    ∃ d', d.decodeBytes P blk.length acc = .ok (acc.reverse ++ blk, d') ∧
      DRel d' (pFin P s l h (ofBytes blk)).1 (pFin P s l h (ofBytes blk)).2.1 (pFin P s l h (ofBytes blk)).2.2 ∧
      View d' (pOut P (pFin P s l h (ofBytes blk)).1 (pFin P s l h (ofBytes blk)).2.1
        (pFin P s l h (ofBytes blk)).2.2 more) J ∧
      d'.buffer = d.buffer := by
  induction blk with
  | nil =>
    intro more s l h d J acc _ _ _ hr hv
    exact ⟨d, by simp [Dec.decodeBytes], hr, hv, rfl⟩
  | cons v vs ih =>
    intro more s l h d J acc hb hs hi hr hv
    have hv8 : v < 256 := hb v (by simp)
    rw [ofBytes_cons, List.append_assoc] at hv
    obtain ⟨d1, hd1, hr1, hv1, hb1⟩ := dec_bits P hP (natBits v 8) (ofBytes vs ++ more) s l h d J 0 hs hi hr hv
    rw [natBits_length, bitsNat_natBits, Nat.mod_eq_of_lt (by simpa using hv8), Nat.zero_mul, Nat.zero_add] at hd1
    obtain ⟨hs1, hi1⟩ := pFin_inv P hP (natBits v 8) s l h hs hi
    obtain ⟨d', hd', hr', hv', hb'⟩ := ih more _ _ _ d1 J (v :: acc) (fun x hx => hb x (by simp [hx])) hs1 hi1 hr1 hv1
    rw [ofBytes_cons, pFin_append]
    refine ⟨d', ?_, hr', hv', by rw [hb', hb1]⟩
    simp only [List.length_cons, Dec.decodeBytes, Dec.decodeByte]
    rw [hd1]
    show Dec.decodeBytes P vs.length d1 (v :: acc) = _
    rw [hd', List.reverse_cons, List.append_assoc]
    rfl

/-! ## 7. one chunk -/

/-- `ofBytes (bytesOf n bs)` = the first `8n` bits (what `ReadArray` delivers) -/
theorem bytesOf_spec : ∀ (n : Nat) (bs : Bits), 8 * n ≤ bs.length →
    ofBytes (bytesOf n bs) = bs.take (8 * n) ∧ (∀ x ∈ bytesOf n bs, x < 256) ∧ (bytesOf n bs).length = n := by
  intro n
  induction n with
  | zero => intro bs _; simp [bytesOf, Bits.ofBytes_nil]
  | succ n ih =>
    intro bs hl
    obtain ⟨i1, i2, i3⟩ := ih (bs.drop 8) (by rw [List.length_drop]; omega)
    have h8 : (bs.take 8).length = 8 := by rw [List.length_take]; omega
    refine ⟨?_, ?_, ?_⟩
    · rw [bytesOf, ofBytes_cons, i1]
      have := natBits_bitsNat (bs.take 8)
      rw [h8] at this
      rw [this, show 8 * (n + 1) = 8 + 8 * n by omega, List.take_add]
    · intro x hx
      rw [bytesOf] at hx
      rcases List.mem_cons.mp hx with rfl | hx
      · have := bitsNat_lt (bs.take 8)
        rw [h8] at this
        exact this
      · exact i2 x hx
    · rw [bytesOf, List.length_cons, i3]

/-- the trailer `WriteBits(low | MASK_0_24, 56)` in terms of the pure interval -/
theorem trailer_eq (e : Enc σ) (l h : Nat) (hr : ERel e l h) (hl : l < 2 ^ 56) :
    e.trailer = natBits (trailerVal l) 56 := by
  obtain ⟨g, hg, h1, _⟩ := hr
  have e1 : (e.low ||| MASK_0_24) % 2 ^ 56 = trailerVal l := by
    rw [show MASK_0_24 = 2 ^ 24 - 1 from rfl, or_mask, h1]
    unfold trailerVal
    omega
  unfold Enc.trailer
  rw [← natBits_mod (e.low ||| MASK_0_24) 56, e1]

theorem readBits_prefix (k : Nat) (O tail : Bits) (h : k ≤ O.length) :
    readBits k (O ++ tail) = some (bitsNat (O.take k), O.drop k ++ tail) := by
  unfold readBits
  rw [if_pos (by rw [List.length_append]; omega), List.take_append_of_le_length h,
    List.drop_append_of_le_length h]

theorem bytesOf_prefix : ∀ (k : Nat) (A B : Bits), 8 * k ≤ A.length → bytesOf k (A ++ B) = bytesOf k A := by
  intro k
  induction k with
  | zero => intro A B _; rfl
  | succ k ih =>
    intro A B hA
    rw [bytesOf, bytesOf, List.take_append_of_le_length (by omega),
      List.drop_append_of_le_length (by omega), ih _ _ (by rw [List.length_drop]; omega)]

theorem readBytes_prefix (n : Nat) (A tail : Bits) (hA : A.length = 8 * n) :
    readBytes n (A ++ tail) = some (bytesOf n A, tail) := by
  unfold readBytes
  rw [if_pos (by rw [List.length_append]; omega), bytesOf_prefix n A tail (by omega), ← hA, List.drop_left]

/-- a chunk whose code string is `O`, of an accepted size: the decoder is loaded with the window and
    the payload, and what it then decodes is the result -/
theorem readChunk_prefix (P : Pred σ) (bufSize length chunkSize n : Nat) (d : Dec σ) (O tail : Bits)
    (hn : n < 2 ^ 32) (hnb : n ≤ bufSize ∨ n < 2 * length) (hO : O.length = 8 * n + 56)
    (res : List Nat × Dec σ)
    (hres : Dec.decodeBytes P chunkSize
          { d with current := bitsNat (O.take 56),
                   buffer := bytesOf n (O.drop 56) ++ (decBufFor d.buffer bufSize n).drop n,
                   rem := bytesOf n (O.drop 56) ++ (decBufFor d.buffer bufSize n).drop n } [] = .ok res) :
    Dec.readChunk P bufSize length chunkSize d (writeVarInt n ++ O ++ tail) = .ok (res.1, res.2, tail) := by
  unfold Dec.readChunk
  rw [List.append_assoc, varint_roundtrip n hn]
  simp only
  rw [if_neg (by omega)]
  rw [readBits_prefix 56 O tail (by omega)]
  simp only
  have hdl : (O.drop 56).length = 8 * n := by rw [List.length_drop]; omega
  have hby : (if n ≠ 0 then readBytes n (O.drop 56 ++ tail) else some ([], O.drop 56 ++ tail))
      = some (bytesOf n (O.drop 56), tail) := by
    by_cases h0 : n = 0
    · subst h0
      have : O.drop 56 = [] := List.eq_nil_of_length_eq_zero (by omega)
      simp [this, bytesOf]
    · rw [if_pos h0, readBytes_prefix n _ tail hdl]
  rw [hby]
  simp only
  rw [hres]

theorem readChunk_reject (P : Pred σ) (bufSize length chunkSize n : Nat) (d : Dec σ) (X : Bits)
    (hn : n < 2 ^ 32) (h1 : bufSize < n) (h2 : 2 * length ≤ n) :
    Dec.readChunk P bufSize length chunkSize d (writeVarInt n ++ X) = .error .invalid := by
  unfold Dec.readChunk
  rw [varint_roundtrip n hn]
  simp only
  rw [if_pos ⟨h1, h2⟩]

/-- **`fits2`**: every chunk of the block flushes fewer than `2·length` bytes (`length` = the chunk
    length chosen by `Write` / `Read`).  This is exactly the acceptance test of the repaired `Read`
    (`szBytes > bufSize && szBytes >= 2*length` ⇒ "Invalid bitstream"; `bufSize < 2·length`).
    Computed with the pure coder: `s, l, h` = predictor state and interval at the start of the chunk. -/
def fits2Chunks (P : Pred σ) (length : Nat) : Nat → σ → Nat → Nat → List Nat → Bool
  | 0, _, _, _, _ => true
  | fuel + 1, s, l, h, blk =>
    if blk.length = 0 then true
    else
      decide ((pBytes P s l h (ofBytes (blk.take (min length blk.length)))).length < 2 * length) &&
        fits2Chunks P length fuel (pFin P s l h (ofBytes (blk.take (min length blk.length)))).1
          (pFin P s l h (ofBytes (blk.take (min length blk.length)))).2.1
          (pFin P s l h (ofBytes (blk.take (min length blk.length)))).2.2
          (blk.drop (min length blk.length))

def fits2 (P : Pred σ) (M : Nat) (s0 : σ) (blk : List Nat) : Bool :=
  fits2Chunks P (chunkLenOf M blk.length) blk.length s0 0 TOP blk

theorem fits2Chunks_nil (P : Pred σ) (length fuel : Nat) (s : σ) (l h : Nat) :
    fits2Chunks P length fuel s l h [] = true := by
  cases fuel <;> simp [fits2Chunks]

/-- the decoder state right after `ReadVarInt`, `ReadBits(56)`, `ReadArray` on the code string `O` -/
theorem view_of_out (d : Dec σ) (O : Bits) (n : Nat) (J : List Nat) (hO : O.length = 8 * n + 56) :
    View { d with current := bitsNat (O.take 56), rem := bytesOf n (O.drop 56) ++ J } O J := by
  have hOd : 8 * n ≤ (O.drop 56).length := by rw [List.length_drop]; omega
  obtain ⟨bo1, bo2, _⟩ := bytesOf_spec n _ hOd
  have ht56 : (O.take 56).length = 56 := by rw [List.length_take]; omega
  refine ⟨_, rfl, bo2, ?_, ?_⟩
  · have := bitsNat_lt (O.take 56)
    rw [ht56] at this
    exact this
  · show natBits (bitsNat _) 56 ++ _ = _
    have := natBits_bitsNat (O.take 56)
    rw [ht56] at this
    have e2 : (O.drop 56).take (8 * n) = O.drop 56 :=
      List.take_of_length_le (by rw [List.length_drop]; omega)
    rw [this, bo1, e2, List.take_append_drop]

/-- decoder side of one chunk: loaded with the code string of `chunk` (its window in `current`, its
    `n` payload bytes in front of `rem`), the decoder returns `chunk` and ends in the pure coder's
    final state -/
theorem dec_chunk (P : Pred σ) {R : σ → Prop} (hP : P.Safe R) (chunk : List Nat) (s : σ) (l h n : Nat)
    (d : Dec σ) (buf J : List Nat) (hb : ∀ v ∈ chunk, v < 256) (hs : R s) (hi : Inv l h)
    (hdr : DRel d s l h) (hO : (pOut P s l h (ofBytes chunk)).length = 8 * n + 56) :
    ∃ d1, Dec.decodeBytes P chunk.length
        { d with current := bitsNat ((pOut P s l h (ofBytes chunk)).take 56), buffer := buf,
                 rem := bytesOf n ((pOut P s l h (ofBytes chunk)).drop 56) ++ J } [] = .ok (chunk, d1) ∧
      DRel d1 (pFin P s l h (ofBytes chunk)).1 (pFin P s l h (ofBytes chunk)).2.1
        (pFin P s l h (ofBytes chunk)).2.2 := by
  obtain ⟨d1, hd1, hdr1, _, _⟩ := dec_bytes P hP chunk [] s l h
    { d with current := bitsNat ((pOut P s l h (ofBytes chunk)).take 56), buffer := buf,
             rem := bytesOf n ((pOut P s l h (ofBytes chunk)).drop 56) ++ J } J [] hb hs hi
    ⟨hdr.1, hdr.2.1, hdr.2.2⟩
    (by rw [List.append_nil]; exact view_of_out { d with buffer := buf } _ n J hO)
  exact ⟨d1, hd1, hdr1⟩

/-- encoder side of one chunk, for a growing encoder at `index = 0`: the bytes of the chunk are coded
    without error, and (for a chunk shorter than 2^27 bytes, whose at most `32·len` flushed bytes
    fit the `uint32` VarInt) what `Write` appends for it is the size and the pure code string -/
theorem enc_chunk (P : Pred σ) {R : σ → Prop} (hP : P.Safe R) (e : Enc σ) (l h : Nat) (chunk : List Nat)
    (hrev : e.rev = []) (hidx : e.index = 0) (hs : R e.ps) (hr : ERel e l h) (hi : Inv l h)
    (hg : e.grow = true) :
    ∃ e1, Enc.encodeBytes P e chunk = .ok e1 ∧
      ERel e1 (pFin P e.ps l h (ofBytes chunk)).2.1 (pFin P e.ps l h (ofBytes chunk)).2.2 ∧
      e1.ps = (pFin P e.ps l h (ofBytes chunk)).1 ∧
      e1.index = (pBytes P e.ps l h (ofBytes chunk)).length ∧
      e1.disposed = e.disposed ∧ e1.grow = true ∧
      (chunk.length < 2 ^ 27 →
        writeVarInt (e1.index % 2 ^ 32) ++ arrayBits e1.rev.reverse (8 * e1.index) ++ e1.trailer
          = writeVarInt e1.index ++ pOut P e.ps l h (ofBytes chunk)) := by
  obtain ⟨e1, he1, hr1, hps1, hs1⟩ :=
    (enc_bits P hP (ofBytes chunk) e l h hs hr hi (by rw [hidx]; exact Nat.zero_le _)).1 (Or.inl hg)
  have hrev1 : e1.rev.reverse = pBytes P e.ps l h (ofBytes chunk) := by
    rw [hs1.rev, hrev, List.append_nil, List.reverse_reverse]
  have hidx1 : e1.index = (pBytes P e.ps l h (ofBytes chunk)).length := by
    rw [hs1.index, hidx, Nat.zero_add]
  refine ⟨e1, by rw [encodeBytes_eq]; exact he1, hr1, hps1, hidx1, hs1.disposed, by rw [hs1.grow, hg], ?_⟩
  intro hlen
  have hle := pBytes_length_le P (ofBytes chunk) e.ps l h
  rw [ofBytes_length] at hle
  obtain ⟨_, hi1⟩ := pFin_inv P hP (ofBytes chunk) e.ps l h hs hi
  rw [Nat.mod_eq_of_lt (by omega), arrayBits_eq, hrev1, hidx1, List.take_length,
    trailer_eq e1 _ _ hr1 (by have := hi1.lt; have := hi1.hi; omega), List.append_assoc]
  rfl

/-! ## 8. the chunk loops of `Write` and `Read`

`BinaryEntropyEncoder` / `Decoder` and `FPAQEncoder` / `Decoder` run the same two loops.  They differ in
how a chunk is started (`prep e k`, the encoder as it starts a chunk of `k` bytes: FPAQ selects table 0,
`pre` on the predictor state, and sizes its buffer per chunk), in the function `rc` that reads one chunk,
and in the size `T` from which a chunk is refused.  The loops are written once with these as
parameters; `writeChunks_eq`, `readChunks_eq`, `fits2Chunks_eq` (for FPAQ: `fWriteChunks_eq`,
`fReadChunks_eq`, `fFits2Chunks_eq` in `Kanzi/Proofs/Fpaq.lean`) say that the loops of the models are instances. -/

def writeLoop (P : Pred σ) (prep : Enc σ → Nat → Enc σ) (L : Nat) :
    Nat → Enc σ → List Nat → Except Err (Bits × Enc σ)
  | 0, e, _ => .ok ([], e)
  | fuel + 1, e, blk =>
    if blk.length = 0 then .ok ([], e)
    else
      match Enc.encodeBytes P (prep e (min L blk.length)) (blk.take (min L blk.length)) with
      | .error x => .error x
      | .ok e1 =>
        match writeLoop P prep L fuel e1 (blk.drop (min L blk.length)) with
        | .error x => .error x
        | .ok r =>
          .ok (writeVarInt (e1.index % 2 ^ 32) ++ arrayBits e1.rev.reverse (8 * e1.index)
                ++ (if (blk.drop (min L blk.length)).length = 0 then [] else e1.trailer) ++ r.1, r.2)

def readLoop (rc : Nat → Dec σ → Bits → Except Err (List Nat × Dec σ × Bits)) (L : Nat) :
    Nat → Dec σ → Nat → Bits → Except Err (List Nat × Dec σ × Bits)
  | 0, d, _, bs => .ok ([], d, bs)
  | fuel + 1, d, count, bs =>
    if count = 0 then .ok ([], d, bs)
    else
      match rc (min L count) d bs with
      | .error x => .error x
      | .ok c =>
        match readLoop rc L fuel c.2.1 (count - min L count) c.2.2 with
        | .error x => .error x
        | .ok t => .ok (c.1 ++ t.1, t.2)

/-- every chunk flushes fewer than `T` bytes -/
def fitsLoop (P : Pred σ) (pre : σ → σ) (L T : Nat) : Nat → σ → Nat → Nat → List Nat → Bool
  | 0, _, _, _, _ => true
  | fuel + 1, s, l, h, blk =>
    if blk.length = 0 then true
    else
      decide ((pBytes P (pre s) l h (ofBytes (blk.take (min L blk.length)))).length < T) &&
        fitsLoop P pre L T fuel (pFin P (pre s) l h (ofBytes (blk.take (min L blk.length)))).1
          (pFin P (pre s) l h (ofBytes (blk.take (min L blk.length)))).2.1
          (pFin P (pre s) l h (ofBytes (blk.take (min L blk.length)))).2.2
          (blk.drop (min L blk.length))

theorem writeChunks_eq (P : Pred σ) (length : Nat) : ∀ (fuel : Nat) (e : Enc σ) (blk : List Nat),
    Enc.writeChunks P fuel length e blk
      = writeLoop P (fun e _ => { e with rev := [], index := 0 }) length fuel e blk := by
  intro fuel
  induction fuel with
  | zero => intro e blk; rfl
  | succ fuel ih =>
    intro e blk
    simp only [Enc.writeChunks, writeLoop, ih]
    rfl

theorem readChunks_eq (P : Pred σ) (length bufSize : Nat) : ∀ (fuel : Nat) (d : Dec σ) (count : Nat) (bs : Bits),
    Dec.readChunks P fuel length bufSize d count bs
      = readLoop (Dec.readChunk P bufSize length) length fuel d count bs := by
  intro fuel
  induction fuel with
  | zero => intro d count bs; rfl
  | succ fuel ih =>
    intro d count bs
    simp only [Dec.readChunks, readLoop, ih]
    rfl

theorem fits2Chunks_eq (P : Pred σ) (length : Nat) : ∀ (fuel : Nat) (s : σ) (l h : Nat) (blk : List Nat),
    fits2Chunks P length fuel s l h blk = fitsLoop P id length (2 * length) fuel s l h blk := by
  intro fuel
  induction fuel with
  | zero => intro s l h blk; rfl
  | succ fuel ih => intro s l h blk; simp only [fits2Chunks, fitsLoop, ih, id]

theorem writeChunks_nil (P : Pred σ) (fuel length : Nat) (e : Enc σ) :
    Enc.writeChunks P fuel length e [] = .ok ([], e) := by
  cases fuel <;> simp [Enc.writeChunks]

theorem readChunks_zero (P : Pred σ) (fuel length bufSize : Nat) (d : Dec σ) (bs : Bits) :
    Dec.readChunks P fuel length bufSize d 0 bs = .ok ([], d, bs) := by
  cases fuel <;> simp [Dec.readChunks]

theorem writeLoop_nil (P : Pred σ) (prep : Enc σ → Nat → Enc σ) (L fuel : Nat) (e : Enc σ) :
    writeLoop P prep L fuel e [] = .ok ([], e) := by
  cases fuel <;> simp [writeLoop]

theorem readLoop_zero (rc : Nat → Dec σ → Bits → Except Err (List Nat × Dec σ × Bits)) (L fuel : Nat)
    (d : Dec σ) (bs : Bits) : readLoop rc L fuel d 0 bs = .ok ([], d, bs) := by
  cases fuel <;> simp [readLoop]

theorem fitsLoop_nil (P : Pred σ) (pre : σ → σ) (L T fuel : Nat) (s : σ) (l h : Nat) :
    fitsLoop P pre L T fuel s l h [] = true := by
  cases fuel <;> simp [fitsLoop]

/-- the start of a chunk resets the output, moves the predictor state by `pre` and may enlarge the buffer -/
def Prepares (prep : Enc σ → Nat → Enc σ) (pre : σ → σ) : Prop :=
  ∀ e k, ∃ B, prep e k = { e with ps := pre e.ps, rev := [], index := 0, bufLen := B }

theorem writeLoop_total (P : Pred σ) {R : σ → Prop} (hP : P.Safe R) {pre : σ → σ} {prep : Enc σ → Nat → Enc σ}
    (L : Nat) (hpre : ∀ s, R s → R (pre s)) (hprep : Prepares prep pre) :
    ∀ (fuel : Nat) (blk : List Nat) (e : Enc σ) (l h : Nat), R e.ps → ERel e l h → Inv l h →
    e.grow = true → ∃ r, writeLoop P prep L fuel e blk = .ok r ∧ r.2.disposed = e.disposed := by
  intro fuel
  induction fuel with
  | zero => intro blk e l h _ _ _ _; exact ⟨_, rfl, rfl⟩
  | succ fuel ih =>
    intro blk e l h hs hr hi hg
    unfold writeLoop
    split
    · exact ⟨_, rfl, rfl⟩
    · obtain ⟨B, hB⟩ := hprep e (min L blk.length)
      generalize prep e (min L blk.length) = E at hB
      have hEs : R E.ps := by rw [hB]; exact hpre _ hs
      obtain ⟨e1, he1, hr1, hps1, _, hd1, hg1, _⟩ := enc_chunk P hP E l h (blk.take (min L blk.length))
        (by rw [hB]) (by rw [hB]) hEs (by rw [hB]; exact hr) hi (by rw [hB]; exact hg)
      obtain ⟨hs1, hi1⟩ := pFin_inv P hP (ofBytes (blk.take (min L blk.length))) E.ps l h hEs hi
      obtain ⟨r, hr', hdr⟩ := ih (blk.drop (min L blk.length)) e1 _ _ (by rw [hps1]; exact hs1) hr1 hi1 hg1
      rw [he1]
      simp only
      rw [hr']
      exact ⟨_, rfl, by rw [hdr, hd1, hB]⟩

/-- `rc` reads one chunk the way both `Read`s do: a size of `T` bytes or more is refused; below, the
    decoder is loaded with the window and the payload (in front of whatever its buffer held), the
    predictor state moved by `pre`, and decodes the bytes of the chunk -/
structure ReadsChunk (P : Pred σ) (pre : σ → σ) (T : Nat)
    (rc : Nat → Dec σ → Bits → Except Err (List Nat × Dec σ × Bits)) : Prop where
  accept : ∀ (k n : Nat) (d : Dec σ) (O tail : Bits), n < 2 ^ 32 → n < T → O.length = 8 * n + 56 →
    ∃ buf J, ∀ res,
      Dec.decodeBytes P k { d with ps := pre d.ps, current := bitsNat (O.take 56), buffer := buf,
                                   rem := bytesOf n (O.drop 56) ++ J } [] = .ok res →
      rc k d (writeVarInt n ++ O ++ tail) = .ok (res.1, res.2, tail)
  reject : ∀ (k n : Nat) (d : Dec σ) (X : Bits), n < 2 ^ 32 → T ≤ n →
    rc k d (writeVarInt n ++ X) = .error .invalid

/-- **chunk loops.**  Whatever `Write` appended for a non-empty `blk` (all chunks), followed by
    the trailer of `Dispose` and by ANY bits `tail`: if every chunk flushed fewer than `T` bytes
    (`fitsLoop`), the chunk loop of `Read` decodes it into `blk`, leaving exactly `tail`, and
    ends in the encoder's final state; otherwise it reports "Invalid bitstream".
    (`L < 2^27`: a chunk flushes at most `32·L < 2^32` bytes, so its size fits the `uint32` VarInt.) -/
theorem loop_rt (P : Pred σ) {R : σ → Prop} (hP : P.Safe R) {pre : σ → σ} {prep : Enc σ → Nat → Enc σ}
    {rc : Nat → Dec σ → Bits → Except Err (List Nat × Dec σ × Bits)} (L T : Nat) (hL : 0 < L)
    (hL27 : L < 2 ^ 27) (hpre : ∀ s, R s → R (pre s)) (hprep : Prepares prep pre)
    (hrc : ReadsChunk P pre T rc) :
    ∀ (fuel : Nat) (blk : List Nat) (e : Enc σ) (d : Dec σ) (l h : Nat) (bits : Bits) (e' : Enc σ)
      (tail : Bits),
    blk ≠ [] → blk.length ≤ fuel → (∀ v ∈ blk, v < 256) → R e.ps → ERel e l h → Inv l h →
    DRel d e.ps l h → e.grow = true →
    writeLoop P prep L fuel e blk = .ok (bits, e') →
    (fitsLoop P pre L T fuel e.ps l h blk = true →
      ∃ d' lf hf, readLoop rc L fuel d blk.length (bits ++ e'.trailer ++ tail) = .ok (blk, d', tail) ∧
        ERel e' lf hf ∧ Inv lf hf ∧ R e'.ps ∧ DRel d' e'.ps lf hf) ∧
    (fitsLoop P pre L T fuel e.ps l h blk = false →
      readLoop rc L fuel d blk.length (bits ++ e'.trailer ++ tail) = .error .invalid) := by
  intro fuel
  induction fuel with
  | zero =>
    intro blk e d l h bits e' tail hne hfuel
    exact absurd (List.eq_nil_of_length_eq_zero (by omega)) hne
  | succ fuel ih =>
    intro blk e d l h bits e' tail hne hfuel hb hs hr hi hdr hg hw
    have hblk : blk.length ≠ 0 := fun hc => hne (List.eq_nil_of_length_eq_zero hc)
    unfold writeLoop at hw
    unfold fitsLoop readLoop
    rw [if_neg hblk] at hw
    rw [if_neg hblk, if_neg hblk]
    -- `c` = this chunk (`k` bytes), `rest` = the others
    obtain ⟨k, hk⟩ : ∃ k, k = min L blk.length := ⟨_, rfl⟩
    rw [← hk] at hw ⊢
    have hclen : (blk.take k).length = k := by rw [List.length_take]; omega
    have hrlen : (blk.drop k).length = blk.length - k := List.length_drop
    have hsplit := List.take_append_drop k blk
    generalize blk.take k = c at hw hclen hsplit ⊢
    generalize blk.drop k = rest at hw hrlen hsplit ⊢
    have hbc : ∀ v ∈ c, v < 256 := fun v hv => hb v (hsplit ▸ List.mem_append_left _ hv)
    have hbr : ∀ v ∈ rest, v < 256 := fun v hv => hb v (hsplit ▸ List.mem_append_right _ hv)
    obtain ⟨B, hB⟩ := hprep e k
    generalize prep e k = E at hB hw
    have hEps : E.ps = pre e.ps := by rw [hB]
    have hEs : R E.ps := by rw [hEps]; exact hpre _ hs
    obtain ⟨e1, he1, hr1, hps1, hidx1, _, hg1, hO⟩ := enc_chunk P hP E l h c (by rw [hB]) (by rw [hB]) hEs
      (by rw [hB]; exact hr) hi (by rw [hB]; exact hg)
    replace hO := hO (by omega)
    obtain ⟨hs1, hi1⟩ := pFin_inv P hP (ofBytes c) E.ps l h hEs hi
    rw [← hps1] at hs1
    have hn32 : e1.index < 2 ^ 32 := by
      have := pBytes_length_le P (ofBytes c) E.ps l h
      rw [ofBytes_length] at this
      omega
    have hOlen := pOut_length P E.ps l h (ofBytes c)
    rw [← hidx1] at hOlen
    rw [he1] at hw
    simp only at hw
    rw [← hEps]
    have hdec : e1.index < T → ∀ tail' : Bits, ∃ d1,
        rc k d (writeVarInt e1.index ++ pOut P E.ps l h (ofBytes c) ++ tail') = .ok (c, d1, tail') ∧
        DRel d1 (pFin P E.ps l h (ofBytes c)).1 (pFin P E.ps l h (ofBytes c)).2.1
          (pFin P E.ps l h (ofBytes c)).2.2 := by
      intro hnt tail'
      obtain ⟨buf, J, hrcv⟩ := hrc.accept k e1.index d _ tail' hn32 hnt hOlen
      obtain ⟨d1, hd1, hdr1⟩ := dec_chunk P hP c E.ps l h e1.index { d with ps := pre d.ps } buf J hbc hEs hi
        ⟨by rw [hEps, ← hdr.1], hdr.2.1, hdr.2.2⟩ hOlen
      rw [hclen] at hd1
      exact ⟨d1, hrcv _ hd1, hdr1⟩
    cases hrest : writeLoop P prep L fuel e1 rest with
    | error x => rw [hrest] at hw; cases hw
    | ok r =>
      rw [hrest] at hw
      simp only [Except.ok.injEq, Prod.mk.injEq] at hw
      obtain ⟨hbits, he'⟩ := hw
      have hih := fun d1 (hdr1 : DRel d1 (pFin P E.ps l h (ofBytes c)).1 _ _) hrn => ih rest e1 d1 _ _ r.1 r.2 tail hrn (by omega) hbr
        hs1 hr1 hi1 (by rw [hps1]; exact hdr1) hg1 (by rw [hrest])
      rw [hps1, he'] at hih
      have hassoc : writeVarInt (e1.index % 2 ^ 32) ++ arrayBits e1.rev.reverse (8 * e1.index) ++ e1.trailer ++ r.1
          ++ e'.trailer ++ tail
          = writeVarInt e1.index ++ pOut P E.ps l h (ofBytes c) ++ (r.1 ++ e'.trailer ++ tail) := by
        rw [← hO]; simp only [List.append_assoc]
      refine ⟨?_, ?_⟩
      · intro hfits
        simp only [Bool.and_eq_true, decide_eq_true_eq] at hfits
        obtain ⟨hfit1, hfitr⟩ := hfits
        rw [← hidx1] at hfit1
        by_cases hrn : rest = []
        · -- last chunk
          rw [hrn, writeLoop_nil] at hrest
          simp only [Except.ok.injEq] at hrest
          have hr1e : r.1 = [] := by rw [← hrest]
          have hr2e : r.2 = e1 := by rw [← hrest]
          rw [hrn, List.append_nil] at hsplit
          have hcnt : blk.length - k = 0 := by rw [← hrlen, hrn]; rfl
          obtain ⟨d1, hrc1, hdr1⟩ := hdec hfit1 tail
          refine ⟨d1, _, _, ?_, by rw [← he', hr2e]; exact hr1, hi1, by rw [← he', hr2e]; exact hs1,
            by rw [← he', hr2e, hps1]; exact hdr1⟩
          rw [← hbits, ← he', hr2e, hr1e, hrn]
          simp only [List.length_nil, if_true, List.append_nil]
          rw [hO, hrc1]
          simp only
          rw [hcnt, readLoop_zero]
          simp only [List.append_nil]
          rw [hsplit]
        · -- more chunks follow
          have hrl : rest.length ≠ 0 := fun hc => hrn (List.eq_nil_of_length_eq_zero hc)
          obtain ⟨d1, hrc1, hdr1⟩ := hdec hfit1 (r.1 ++ e'.trailer ++ tail)
          obtain ⟨d', lf, hf, hrd, hre, hie, hse, hde⟩ := (hih d1 hdr1 hrn).1 hfitr
          refine ⟨d', lf, hf, ?_, hre, hie, hse, hde⟩
          rw [← hbits, if_neg hrl, hassoc, hrc1]
          simp only
          rw [hrlen] at hrd
          rw [hrd]
          simp only [hsplit]
      · intro hfits
        by_cases hfit1 : (pBytes P E.ps l h (ofBytes c)).length < T
        · -- this chunk is accepted, a later one is not
          simp only [hfit1, decide_true, Bool.true_and] at hfits
          have hrn : rest ≠ [] := by
            intro hc
            rw [hc, fitsLoop_nil] at hfits
            cases hfits
          have hrl : rest.length ≠ 0 := fun hc => hrn (List.eq_nil_of_length_eq_zero hc)
          obtain ⟨d1, hrc1, hdr1⟩ := hdec (by rw [hidx1]; exact hfit1) (r.1 ++ e'.trailer ++ tail)
          have hrd := (hih d1 hdr1 hrn).2 hfits
          rw [← hbits, if_neg hrl, hassoc, hrc1]
          simp only
          rw [hrlen] at hrd
          rw [hrd]
        · -- this chunk is rejected
          have hge : T ≤ e1.index := by rw [hidx1]; exact Nat.le_of_not_lt hfit1
          have hstream : bits ++ e'.trailer ++ tail = writeVarInt e1.index ++
              (arrayBits e1.rev.reverse (8 * e1.index)
                ++ (if rest.length = 0 then [] else e1.trailer) ++ r.1 ++ e'.trailer ++ tail) := by
            rw [← hbits, Nat.mod_eq_of_lt hn32]; simp only [List.append_assoc]
          rw [hstream, hrc.reject k e1.index d _ hn32 hge]

theorem readChunk_reads (P : Pred σ) (bufSize length : Nat) (hbs : bufSize < 2 * length) :
    ReadsChunk P id (2 * length) (Dec.readChunk P bufSize length) :=
  ⟨fun k n d O tail hn hnt hO => ⟨_, _, readChunk_prefix P bufSize length k n d O tail hn (Or.inr hnt) hO⟩,
   fun k n d X hn hge => readChunk_reject P bufSize length k n d X hn (by omega) hge⟩

theorem prepares_reset : Prepares (fun (e : Enc σ) (_ : Nat) => { e with rev := [], index := 0 }) id :=
  fun e _ => ⟨e.bufLen, rfl⟩

/-! ## 9. whole blocks -/

theorem chunkLenOf_cases (M n : Nat) :
    (M ≤ n ∧ n < 8 * M ∧ chunkLenOf M n = n / 8) ∨ (8 * M ≤ n ∧ chunkLenOf M n = n / 16) ∨
    (n < M ∧ n < 64 ∧ chunkLenOf M n = 64) ∨ (n < M ∧ 64 ≤ n ∧ chunkLenOf M n = n) := by
  unfold chunkLenOf
  simp only [Nat.shiftRight_eq_div_pow]
  by_cases h1 : n ≥ M
  · rw [if_pos h1]
    by_cases h2 : n < 8 * M
    · rw [if_pos h2]; exact Or.inl ⟨h1, h2, rfl⟩
    · rw [if_neg h2]; exact Or.inr (Or.inl ⟨Nat.le_of_not_lt h2, rfl⟩)
  · rw [if_neg h1]
    by_cases h3 : n < 64
    · rw [if_pos h3]; exact Or.inr (Or.inr (Or.inl ⟨Nat.lt_of_not_le h1, h3, rfl⟩))
    · rw [if_neg h3]; exact Or.inr (Or.inr (Or.inr ⟨Nat.lt_of_not_le h1, Nat.le_of_not_lt h3, rfl⟩))

theorem chunkLenOf_pos (M n : Nat) (hM : 8 ≤ M) : 0 < chunkLenOf M n := by
  have := chunkLenOf_cases M n
  omega

theorem chunkLenOf_le (M n : Nat) : chunkLenOf M n ≤ max n 64 := by
  have := chunkLenOf_cases M n
  omega

theorem chunkLenOf_lt (M n : Nat) (hM : M ≤ 2 ^ 27) (hn : n ≤ MAX_BLOCK) : chunkLenOf M n < 2 ^ 27 := by
  have := chunkLenOf_cases M n
  unfold MAX_BLOCK at hn
  omega

theorem bufSizeOf_eq (L : Nat) : bufSizeOf L = L + L / 8 := by
  unfold bufSizeOf; rw [Nat.shiftRight_eq_div_pow]

/-- the encoder state at the start of the chunk loop of `Write` on a fresh encoder -/
theorem write_fresh (P : Pred σ) (M : Nat) (s0 : σ) (blk : List Nat) (hlen : blk.length ≤ MAX_BLOCK) :
    ∃ e0 : Enc σ, (Enc.init s0).write P M blk
        = Enc.writeChunks P blk.length (chunkLenOf M blk.length) e0 blk ∧
      e0.ps = s0 ∧ ERel e0 0 TOP ∧ e0.grow = true ∧ e0.disposed = false := by
  unfold Enc.write
  rw [if_neg (by omega)]
  split
  · exact ⟨_, rfl, rfl, ⟨0, by decide, rfl, by simp [Enc.init]⟩, rfl, rfl⟩
  · exact ⟨_, rfl, rfl, erel_init s0, rfl, rfl⟩

/-- **the encoder never fails** (after the repair d8b7b56: `flush` grows the buffer) -/
theorem write_total (P : Pred σ) {R : σ → Prop} (hP : P.Safe R) (M : Nat) (s0 : σ) (hs : R s0)
    (blk : List Nat) (hlen : blk.length ≤ MAX_BLOCK) :
    ∃ r, (Enc.init s0).write P M blk = .ok r := by
  obtain ⟨e0, hw, hps, hr, hg, _⟩ := write_fresh P M s0 blk hlen
  rw [hw, writeChunks_eq]
  obtain ⟨r, hr', _⟩ := writeLoop_total P hP _ (fun _ h => h) prepares_reset blk.length blk e0 0 TOP
    (by rw [hps]; exact hs) hr inv_init hg
  exact ⟨r, hr'⟩

theorem encodeBlock_total (P : Pred σ) {R : σ → Prop} (hP : P.Safe R) (M : Nat) (s0 : σ) (hs : R s0)
    (blk : List Nat) (hlen : blk.length ≤ MAX_BLOCK) :
    ∃ out, encodeBlock P M s0 blk = .ok out := by
  obtain ⟨r, hr⟩ := write_total P hP M s0 hs blk hlen
  unfold encodeBlock
  rw [hr]
  exact ⟨_, rfl⟩

/-- **Write + Dispose against Read**: accepted (with the final states) iff `fits2`, otherwise
    "Invalid bitstream" -/
theorem block_rt_full (P : Pred σ) {R : σ → Prop} (hP : P.Safe R) (M : Nat) (hM : 8 ≤ M) (hM27 : M ≤ 2 ^ 27)
    (s0 : σ) (hs : R s0)
    (blk : List Nat) (hne : blk ≠ []) (hb : ∀ v ∈ blk, v < 256) (hlen : blk.length ≤ MAX_BLOCK)
    (bits : Bits) (e' : Enc σ) (hw : (Enc.init s0).write P M blk = .ok (bits, e')) (rest : Bits) :
    e'.dispose.1 = e'.trailer ∧
    (fits2 P M s0 blk = true →
      ∃ d' lf hf, (Dec.init s0).readBlock P M (bits ++ e'.dispose.1 ++ rest) blk.length = .ok (blk, d', rest) ∧
        d'.ps = e'.ps ∧ ERel e' lf hf ∧ Inv lf hf ∧ d'.low = lf ∧ d'.high = hf) ∧
    (fits2 P M s0 blk = false →
      (Dec.init s0).readBlock P M (bits ++ e'.dispose.1 ++ rest) blk.length = .error .invalid) := by
  have hpos : 0 < blk.length := by
    rcases Nat.eq_zero_or_pos blk.length with h0 | h0
    · exact absurd (List.eq_nil_of_length_eq_zero h0) hne
    · exact h0
  have hL := chunkLenOf_pos M blk.length hM
  have hL27 := chunkLenOf_lt M blk.length hM27 hlen
  have hBS := bufSizeOf_eq (chunkLenOf M blk.length)
  have hbs2 : bufSizeOf (chunkLenOf M blk.length) < 2 * chunkLenOf M blk.length := by omega
  have hmb : MAX_BLOCK = 1073741824 := rfl
  obtain ⟨e0, hw0, hps0, hr0, hg0, hd0⟩ := write_fresh P M s0 blk hlen
  rw [hw0, writeChunks_eq] at hw
  obtain ⟨D0, hD0, hDr⟩ : ∃ D0 : Dec σ,
      (if (Dec.init s0).buffer.length < bufSizeOf (chunkLenOf M blk.length)
        then { Dec.init s0 with buffer := List.replicate (bufSizeOf (chunkLenOf M blk.length)) 0 } else Dec.init s0)
      = D0 ∧ DRel D0 s0 0 TOP := by
    split
    · exact ⟨_, rfl, rfl, rfl, rfl⟩
    · exact ⟨_, rfl, rfl, rfl, rfl⟩
  have hs0 : R e0.ps := by rw [hps0]; exact hs
  have hc := loop_rt P hP (pre := id) (chunkLenOf M blk.length) (2 * chunkLenOf M blk.length) hL hL27 (fun _ h => h)
      prepares_reset (readChunk_reads P _ _ hbs2) blk.length blk e0 D0 0 TOP bits e' rest hne (Nat.le_refl _) hb
      hs0 hr0 inv_init (by rw [hps0]; exact hDr) hg0 hw
  rw [hps0, ← fits2Chunks_eq, ← readChunks_eq] at hc
  obtain ⟨r, hr, hdis⟩ := writeLoop_total P hP _ (fun _ h => h) prepares_reset blk.length blk e0 0 TOP hs0 hr0
    inv_init hg0
  rw [hw] at hr
  cases hr
  have hdisp : e'.dispose.1 = e'.trailer := by
    unfold Enc.dispose
    have : e'.disposed = false := by rw [← hd0]; exact hdis
    rw [this]
    rfl
  refine ⟨hdisp, ?_, ?_⟩
  · intro hf
    obtain ⟨d', lf, hf', hrd, hre, hie, _, hde⟩ := hc.1 hf
    refine ⟨d', lf, hf', ?_, hde.1, hre, hie, hde.2.1, hde.2.2⟩
    unfold Dec.readBlock
    rw [if_neg (by omega), hD0, hdisp]
    exact hrd
  · intro hf
    unfold Dec.readBlock
    rw [if_neg (by omega), hD0, hdisp]
    exact hc.2 hf

/-- **C12 for the generic binary coder, block level**: the encoder never fails; if every chunk
    flushes fewer than `2·length` bytes the decoder returns the block, consuming exactly the written bits -/
theorem block_rt (P : Pred σ) {R : σ → Prop} (hP : P.Safe R) (M : Nat) (hM : 8 ≤ M) (hM27 : M ≤ 2 ^ 27)
    (s0 : σ) (hs : R s0)
    (blk : List Nat) (hne : blk ≠ []) (hb : ∀ v ∈ blk, v < 256) (hlen : blk.length ≤ MAX_BLOCK)
    (hfit : fits2 P M s0 blk = true) :
    ∃ out, encodeBlock P M s0 blk = .ok out ∧
      ∀ rest : Bits, decodeBlock P M s0 (out ++ rest) blk.length = .ok (blk, rest) := by
  obtain ⟨r, hw⟩ := write_total P hP M s0 hs blk hlen
  refine ⟨r.1 ++ r.2.dispose.1, by unfold encodeBlock; rw [hw], ?_⟩
  intro rest
  obtain ⟨d', lf, hf, hrd, _⟩ := (block_rt_full P hP M hM hM27 s0 hs blk hne hb hlen r.1 r.2 hw rest).2.1 hfit
  unfold decodeBlock
  rw [hrd]

/-- … and otherwise the decoder reports "Invalid bitstream": `fits2` is exactly its acceptance test -/
theorem block_reject (P : Pred σ) {R : σ → Prop} (hP : P.Safe R) (M : Nat) (hM : 8 ≤ M) (hM27 : M ≤ 2 ^ 27)
    (s0 : σ) (hs : R s0)
    (blk : List Nat) (hne : blk ≠ []) (hb : ∀ v ∈ blk, v < 256) (hlen : blk.length ≤ MAX_BLOCK)
    (hfit : fits2 P M s0 blk = false) :
    ∃ out, encodeBlock P M s0 blk = .ok out ∧
      ∀ rest : Bits, decodeBlock P M s0 (out ++ rest) blk.length = .error .invalid := by
  obtain ⟨r, hw⟩ := write_total P hP M s0 hs blk hlen
  refine ⟨r.1 ++ r.2.dispose.1, by unfold encodeBlock; rw [hw], ?_⟩
  intro rest
  have hrd := (block_rt_full P hP M hM hM27 s0 hs blk hne hb hlen r.1 r.2 hw rest).2.2 hfit
  unfold decodeBlock
  rw [hrd]

/-! ### the empty block (known finding F11): `Write` + `Dispose` emit the 56-bit trailer, `Read` of 0 bytes
consumes nothing -/

theorem encodeBlock_nil (P : Pred σ) (M : Nat) (s0 : σ) :
    encodeBlock P M s0 [] = .ok (natBits MASK_0_24 56) := by
  unfold encodeBlock Enc.write
  rw [if_neg (by simp)]
  simp only [List.length_nil, Enc.writeChunks, List.nil_append]
  unfold Enc.dispose
  split <;> simp [Enc.init, Enc.trailer]

theorem decodeBlock_zero (P : Pred σ) (M : Nat) (s0 : σ) (bs : Bits) :
    decodeBlock P M s0 bs 0 = .ok ([], bs) := by
  unfold decodeBlock Dec.readBlock
  rw [if_neg (by simp)]
  simp [Dec.readChunks]

/-! ### bit level -/

def Enc.fresh (s0 : σ) (n : Nat) : Enc σ :=
  { ps := s0, low := 0, high := TOP, rev := [], index := 0, bufLen := n, disposed := false, grow := true }

/-- a fresh decoder right after `current = ReadBits(56)` and `ReadArray(buffer, …)` -/
def Dec.fresh (s0 : σ) (cur : Nat) (buf : List Nat) : Dec σ :=
  { ps := s0, low := 0, high := TOP, current := cur, buffer := buf, rem := buf }

/-- **C12 for the generic binary coder, bit level.**  `bits` coded from the initial state into a
    buffer of `bufLen` bytes (it grows when needed: the encoder never fails); `S` = the flushed bytes
    followed by the 56-bit trailer.  A decoder in the initial state holding the first 56 bits of `S`
    in `current` and the rest of `S` (followed by ANY stale bytes) in its buffer decodes exactly
    `bits`; it ends with the encoder's predictor state and interval, and has read exactly the bytes
    of `S`. -/
theorem bits_rt (P : Pred σ) {R : σ → Prop} (hP : P.Safe R) (s0 : σ) (hs : R s0) (bits : List Bool)
    (bufLen : Nat) :
    ∃ e', Enc.encodeBits P (Enc.fresh s0 bufLen) bits = .ok e' ∧
      e'.index = e'.rev.length ∧ e'.index ≤ 4 * bits.length ∧ e'.index ≤ e'.bufLen ∧ bufLen ≤ e'.bufLen ∧
      ∀ (stale : List Nat) (acc : Nat), ∃ d', Dec.decodeBitsAcc P bits.length
        (Dec.fresh s0 (bitsNat ((ofBytes e'.rev.reverse ++ e'.trailer).take 56))
          (bytesOf e'.index ((ofBytes e'.rev.reverse ++ e'.trailer).drop 56) ++ stale)) acc
        = .ok (acc * 2 ^ bits.length + bitsNat bits, d') ∧
      d'.ps = e'.ps ∧ d'.low = e'.low % 2 ^ 56 ∧ d'.high = e'.high % 2 ^ 56 ∧ d'.rem = stale := by
  have hb := enc_bits P hP bits (Enc.fresh s0 bufLen) 0 TOP hs
    ⟨0, by decide, rfl, by simp [Enc.fresh]⟩ inv_init (Nat.zero_le _)
  obtain ⟨e1, he1, hr1, hps1, hs1⟩ := hb.1 (Or.inl rfl)
  change e1.ps = (pFin P s0 0 TOP bits).1 at hps1
  change ERel e1 (pFin P s0 0 TOP bits).2.1 (pFin P s0 0 TOP bits).2.2 at hr1
  have hrev1 : e1.rev = (pBytes P s0 0 TOP bits).reverse := by
    have := hs1.rev
    change e1.rev = (pBytes P s0 0 TOP bits).reverse ++ [] at this
    rw [List.append_nil] at this
    exact this
  have hidx1 : e1.index = (pBytes P s0 0 TOP bits).length := by
    have := hs1.index
    change e1.index = 0 + (pBytes P s0 0 TOP bits).length at this
    rw [Nat.zero_add] at this
    exact this
  obtain ⟨_, hi1⟩ := pFin_inv P hP bits s0 0 TOP hs inv_init
  refine ⟨e1, he1, by rw [hidx1, hrev1, List.length_reverse],
    by rw [hidx1]; exact pBytes_length_le P bits s0 0 TOP, hs1.fits, hs1.mono, ?_⟩
  intro stale acc
  have hS : ofBytes e1.rev.reverse ++ e1.trailer = pOut P s0 0 TOP bits := by
    rw [hrev1, List.reverse_reverse, trailer_eq e1 _ _ hr1 (by have := hi1.lt; have := hi1.hi; omega)]
    rfl
  rw [hS]
  have hOlen := pOut_length P s0 0 TOP bits
  rw [← hidx1] at hOlen
  have hview : View (Dec.fresh s0 (bitsNat ((pOut P s0 0 TOP bits).take 56))
      (bytesOf e1.index ((pOut P s0 0 TOP bits).drop 56) ++ stale)) (pOut P s0 0 TOP (bits ++ [])) stale := by
    rw [List.append_nil]
    exact view_of_out (Dec.fresh s0 0 (bytesOf e1.index ((pOut P s0 0 TOP bits).drop 56) ++ stale))
      (pOut P s0 0 TOP bits) e1.index stale hOlen
  obtain ⟨d', hd', hdr, hv', _⟩ := dec_bits P hP bits [] s0 0 TOP _ stale acc hs inv_init ⟨rfl, rfl, rfl⟩ hview
  refine ⟨d', hd', ?_, ?_, ?_, ?_⟩
  · rw [hdr.1, hps1]
  · obtain ⟨g, hg, h1, _⟩ := hr1
    rw [hdr.2.1, h1]
    have := hi1.lt; have := hi1.hi
    omega
  · obtain ⟨g, hg, _, h2⟩ := hr1
    rw [hdr.2.2, h2]
    have := hi1.hi
    omega
  · obtain ⟨X, hX1, _, _, hX4⟩ := hv'
    rw [pOut_nil] at hX4
    have := congrArg List.length hX4
    rw [List.length_append, natBits_length, natBits_length, ofBytes_length] at this
    have hX0 : X = [] := List.eq_nil_of_length_eq_zero (by omega)
    rw [hX1, hX0, List.nil_append]

/-! ### the buffer estimate `length + length>>3` -/

theorem chunkLenOf_small (M n : Nat) (h : n < M) : chunkLenOf M n = max n 64 := by
  have := chunkLenOf_cases M n
  omega

theorem writeChunks_single (P : Pred σ) (length : Nat) (e : Enc σ) (blk : List Nat)
    (hne : blk ≠ []) (hl : blk.length ≤ length) :
    Enc.writeChunks P blk.length length e blk =
      match Enc.encodeBytes P { e with rev := [], index := 0 } blk with
      | .error x => .error x
      | .ok e1 => .ok (writeVarInt (e1.index % 2 ^ 32) ++ arrayBits e1.rev.reverse (8 * e1.index), e1) := by
  have hblk : blk.length ≠ 0 := fun hc => hne (List.eq_nil_of_length_eq_zero hc)
  obtain ⟨k, hk⟩ : ∃ k, blk.length = k + 1 := ⟨blk.length - 1, by omega⟩
  rw [hk, writeChunks_eq]
  unfold writeLoop
  rw [if_neg hblk, Nat.min_eq_right hl, List.take_length, List.drop_length]
  cases Enc.encodeBytes P { e with rev := [], index := 0 } blk with
  | error x => rfl
  | ok e1 => simp [writeLoop_nil]

theorem fitsLoop_single (P : Pred σ) (pre : σ → σ) (L T : Nat) (s : σ) (l h : Nat) (blk : List Nat)
    (hne : blk ≠ []) (hl : blk.length ≤ L) :
    fitsLoop P pre L T blk.length s l h blk = decide ((pBytes P (pre s) l h (ofBytes blk)).length < T) := by
  have hblk : blk.length ≠ 0 := fun hc => hne (List.eq_nil_of_length_eq_zero hc)
  obtain ⟨k, hk⟩ : ∃ k, blk.length = k + 1 := ⟨blk.length - 1, by omega⟩
  rw [hk]
  unfold fitsLoop
  rw [if_neg hblk, Nat.min_eq_right hl, List.take_length, List.drop_length, fitsLoop_nil, Bool.and_true]

/-- number of bytes `flush` writes into the buffer for a block coded from the initial state -/
def flushedLen (P : Pred σ) (s0 : σ) (blk : List Nat) : Nat := (pBytes P s0 0 TOP (ofBytes blk)).length

theorem flushedLen_le (P : Pred σ) (s0 : σ) (blk : List Nat) : flushedLen P s0 blk ≤ 32 * blk.length := by
  unfold flushedLen
  have := pBytes_length_le P (ofBytes blk) s0 0 TOP
  rw [ofBytes_length] at this
  omega

/-- **single-chunk blocks: what the encoder writes** — the VarInt of the number of flushed bytes,
    the bytes, the trailer — whether or not that number exceeds the estimate `length + length>>3` -/
theorem encodeBlock_single (P : Pred σ) {R : σ → Prop} (hP : P.Safe R) (M : Nat) (s0 : σ) (hs : R s0)
    (blk : List Nat) (hne : blk ≠ []) (hM : blk.length < M) (hlen : blk.length < 2 ^ 27) :
    encodeBlock P M s0 blk = .ok (writeVarInt (flushedLen P s0 blk) ++ pOut P s0 0 TOP (ofBytes blk)) := by
  have hmb : MAX_BLOCK = 1073741824 := rfl
  obtain ⟨e0, hw0, hps0, hr0, hg0, hd0⟩ := write_fresh P M s0 blk (by omega)
  have hps : ({ e0 with rev := [], index := 0 } : Enc σ).ps = s0 := hps0
  obtain ⟨e1, he1, _, _, hidx1, hd1, _, hO⟩ := enc_chunk P hP { e0 with rev := [], index := 0 } 0 TOP blk rfl rfl
    (by rw [hps]; exact hs) hr0 inv_init hg0
  rw [hps] at hidx1 hO
  have hdisp : e1.dispose.1 = e1.trailer := by
    unfold Enc.dispose
    rw [hd1.trans hd0]
    rfl
  unfold encodeBlock
  rw [hw0, chunkLenOf_small M _ hM, writeChunks_single P _ _ blk hne (Nat.le_max_left _ _), he1]
  simp only
  rw [hdisp, hO hlen, hidx1]
  rfl

/-- a predictor that always answers 0 ("a one is impossible") coding ones flushes on every bit -/
theorem pBytes_zero_ones (P : Pred σ) (h0 : ∀ s, P.get s = 0) (bits : List Bool) :
    ∀ (s : σ) (l h : Nat), (∀ b ∈ bits, b = true) → (pBytes P s l h bits).length = 4 * bits.length := by
  induction bits with
  | nil => intro s l h _; rfl
  | cons b bs ih =>
    intro s l h hb
    have hbt : b = true := hb b (by simp)
    subst hbt
    have hf : pflush P.shift l h (P.get s) true = true := by
      simp [pflush, pl1, ph1, psplit, h0 s]
    simp only [pBytes, hf, if_true, List.length_append, be32_length, List.length_cons]
    rw [ih _ _ _ (fun x hx => hb x (by simp [hx]))]
    omega

theorem ofBytes_replicate_ff (n : Nat) : ofBytes (List.replicate n 255) = List.replicate (8 * n) true := by
  induction n with
  | zero => rfl
  | succ n ih =>
    rw [List.replicate_succ, ofBytes_cons, ih, show 8 * (n + 1) = 8 * n + 8 by omega]
    rfl

/-- **the estimate `length + length>>3` is exceeded by an adversarial predictor**: with
    `Get() = 0` always, a block of `n ≥ 3` bytes `0xFF` flushes `32·n` bytes, the maximum, which is
    more than the buffer allocated by `Write` (before the repair d8b7b56: index out of range) -/
theorem estimate_exceeded (P : Pred σ) (h0 : ∀ s, P.get s = 0) (s0 : σ) (n : Nat) (hn : 3 ≤ n) :
    flushedLen P s0 (List.replicate n 255) = 32 * n ∧
    bufSizeOf (max n 64) < flushedLen P s0 (List.replicate n 255) := by
  have hfl : flushedLen P s0 (List.replicate n 255) = 32 * n := by
    unfold flushedLen
    rw [ofBytes_replicate_ff, pBytes_zero_ones P h0 _ _ _ _ (fun b hb => (List.mem_replicate.mp hb).2),
      List.length_replicate]
    omega
  refine ⟨hfl, ?_⟩
  rw [hfl, bufSizeOf_eq]
  omega

theorem fits2_single (P : Pred σ) (M : Nat) (s0 : σ) (blk : List Nat) (hne : blk ≠ []) (hM : blk.length < M) :
    fits2 P M s0 blk = decide (flushedLen P s0 blk < 2 * max blk.length 64) := by
  unfold fits2 flushedLen
  rw [chunkLenOf_small M _ hM, fits2Chunks_eq, fitsLoop_single P id _ _ s0 0 TOP blk hne (Nat.le_max_left _ _)]
  rfl

/-- … and from 4 bytes on it is beyond what the decoder accepts (`32·n ≥ 2·max(n, 64)`) -/
theorem fits2_false_adversarial (P : Pred σ) (h0 : ∀ s, P.get s = 0) (M : Nat) (s0 : σ) (n : Nat)
    (hn : 4 ≤ n) (hM : n < M) : fits2 P M s0 (List.replicate n 255) = false := by
  have hne : List.replicate n 255 ≠ [] := fun hc => by
    have := congrArg List.length hc
    rw [List.length_replicate, List.length_nil] at this
    omega
  rw [fits2_single P M s0 _ hne (by rw [List.length_replicate]; exact hM),
    (estimate_exceeded P h0 s0 n (by omega)).1, List.length_replicate]
  exact decide_eq_false (by omega)

/-! ### encoders that do not grow their buffer (both encoders before the repairs): their only error is the
index panic of `flush` -/

theorem flush_err (e : Enc σ) (x : Err) (h : e.flush = .error x) : x = .index := by
  unfold Enc.flush at h
  split at h
  · cases h
  · split at h
    · cases h
    · cases h; rfl

theorem encodeBits_err (P : Pred σ) (bits : List Bool) : ∀ (e : Enc σ) (x : Err),
    e.encodeBits P bits = .error x → x = .index := by
  induction bits with
  | nil => intro e x h; cases h
  | cons b bs ih =>
    intro e x h
    simp only [Enc.encodeBits] at h
    cases hb : e.encodeBit P b with
    | error y =>
      rw [hb] at h
      simp only [Except.error.injEq] at h
      subst h
      unfold Enc.encodeBit at hb
      split at hb
      · exact flush_err _ _ hb
      · cases hb
    | ok e1 =>
      rw [hb] at h
      exact ih e1 x h

end Kanzi.BinEnt
