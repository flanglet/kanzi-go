/-
Lemmas behind `Kanzi/Properties/C15.lean` (codec names).  Three independent parts: the packing of up to
eight 6-bit tokens into the type word and back (`chainType` / `chainTokens`, stated with `|||`, `<<<`, `>>>`,
`&&&` as the Go loops have them); facts about the regenerated name tables, each a `decide +kernel` of a literal
equation or of a Boolean check whose meaning a `…_spec` lemma unfolds; and the string-level round trip
`GetName (GetType s)`, proved for ANY pair of tables that passes `inverseOk`.
-/
import Kanzi.Model.Names
import Kanzi.Generated.Names
import Kanzi.Proofs.Base

namespace Kanzi.Names

/-! ## The chain law: `chainTokens (chainType l)` is `l` without its NONE tokens, for any token list -/

/-- the loop of `GetType` as it is written: the non-NONE tokens OR-ed in at positions `p`, `p-1`, … -/
def orAt : List Nat → Nat → Nat
  | [], _ => 0
  | t :: ts, p => t <<< (6 * p) ||| orAt ts (p - 1)

/-- no hypothesis on `l`, `res` or `p`: the subtraction is truncated on both sides alike -/
theorem chainTypeAux_orAt (l : List Nat) (res p : Nat) :
    chainTypeAux l res (6 * p) = res ||| orAt (l.filter (· ≠ 0)) p := by
  induction l generalizing res p with
  | nil => simp [chainTypeAux, orAt]
  | cons t ts ih =>
    by_cases h0 : t = 0
    · simpa [chainTypeAux, noneType, h0] using ih res p
    · have hf : (t :: ts).filter (· ≠ 0) = t :: ts.filter (· ≠ 0) := by simp [h0]
      rw [hf, orAt, chainTypeAux, if_pos (show t ≠ noneType from h0),
        show 6 * p - oneShift = 6 * (p - 1) by simp only [oneShift]; omega, ih, Nat.or_assoc]

/-- what the loop of `GetType` computes, for every token list (more than 8 tokens included) -/
theorem chainType_eq_orAt (l : List Nat) : chainType l = orAt (l.filter (· ≠ 0)) 7 := by
  rw [chainType, maxShift, show 42 = 6 * 7 from rfl, chainTypeAux_orAt, Nat.zero_or]

theorem shl_lt {t n : Nat} (ht : t < 2 ^ n) (k : Nat) : t <<< k < 2 ^ (n + k) := by
  rw [Nat.shiftLeft_eq, Nat.pow_add]
  exact Nat.mul_lt_mul_of_lt_of_le ht (Nat.le_refl _) (Nat.two_pow_pos k)

theorem orAt_lt (m : List Nat) (p : Nat) (hlen : m.length ≤ p + 1) (hb : ∀ t ∈ m, t < 64) :
    orAt m p < 2 ^ (6 * (p + 1)) := by
  induction m generalizing p with
  | nil => exact Nat.two_pow_pos _
  | cons t ts ih =>
    refine Nat.or_lt_two_pow ?_ ?_
    · rw [show 6 * (p + 1) = 6 + 6 * p by omega]
      exact shl_lt (n := 6) (hb t (by simp)) _
    · cases p with
      | zero =>
        obtain rfl : ts = [] := List.eq_nil_of_length_eq_zero (by simpa using hlen)
        exact Nat.two_pow_pos _
      | succ q =>
        exact Nat.lt_of_lt_of_le (ih q (by simpa using hlen) fun x hx => hb x (by simp [hx]))
          (Nat.pow_le_pow_right (by decide) (by omega))

theorem shl_and_mask (x : Nat) {k : Nat} (hk : 6 ≤ k) : (x <<< k) &&& 63 = 0 := by
  obtain ⟨j, rfl⟩ := Nat.exists_eq_add_of_le hk
  rw [(and_mask 6 _ : _ &&& 63 = _ % 2 ^ 6), Nat.shiftLeft_eq, Nat.pow_add, Nat.mul_left_comm]
  exact Nat.mul_mod_right _ _

/-- field `q` (counted from the low end) of tokens placed from position `p` down -/
theorem field_orAt (m : List Nat) (p q : Nat) (hlen : m.length ≤ p + 1) (hb : ∀ t ∈ m, t < 64)
    (hq : q ≤ p) : (orAt m p >>> (6 * q)) &&& 63 = m.getD (p - q) 0 := by
  induction m generalizing p with
  | nil => simp [orAt]
  | cons t ts ih =>
    have ht : t < 64 := hb t (by simp)
    have hts : ∀ x ∈ ts, x < 64 := fun x hx => hb x (by simp [hx])
    rw [orAt, Nat.shiftRight_or_distrib, Nat.and_or_distrib_right]
    rcases Nat.eq_or_lt_of_le hq with rfl | hlt
    · -- the token's own field; what follows lies below it
      have hlow : orAt ts (q - 1) >>> (6 * q) = 0 := by
        cases q with
        | zero =>
          obtain rfl : ts = [] := List.eq_nil_of_length_eq_zero (by simpa using hlen)
          rfl
        | succ r => exact Nat.shiftRight_eq_zero _ _ (orAt_lt ts r (by simpa using hlen) hts)
      rw [Nat.shiftLeft_shiftRight, hlow, Nat.sub_self, List.getD_cons_zero, Nat.zero_and, Nat.or_zero,
        (and_mask 6 t : t &&& 63 = t % 64), Nat.mod_eq_of_lt ht]
    · -- a field below the token's: the token contributes nothing to it
      obtain ⟨r, rfl⟩ : ∃ r, p = r + 1 := ⟨p - 1, by omega⟩
      have hsh : t <<< (6 * (r + 1)) >>> (6 * q) = t <<< (6 * (r + 1 - q)) := by
        rw [show 6 * (r + 1) = 6 * (r + 1 - q) + 6 * q by omega, Nat.shiftLeft_add,
          Nat.shiftLeft_shiftRight]
      rw [hsh, shl_and_mask t (by omega), Nat.zero_or, Nat.add_sub_cancel,
        ih r (by simpa using hlen) hts (by omega), show r + 1 - q = (r - q) + 1 by omega,
        List.getD_cons_succ]

theorem chainFields_orAt (m : List Nat) (hlen : m.length ≤ 8) (hb : ∀ t ∈ m, t < 64) :
    chainFields (orAt m 7) = m ++ List.replicate (8 - m.length) 0 := by
  apply List.ext_getElem
  · simp [chainFields]
    omega
  · intro i h1 h2
    have hi : i < 8 := by simpa [chainFields] using h1
    simp only [chainFields, List.getElem_map, List.getElem_range, maxShift, oneShift, mask]
    rw [show 42 - 6 * i = 6 * (7 - i) by omega, field_orAt m 7 (7 - i) hlen hb (by omega),
      show 7 - (7 - i) = i by omega, List.getElem_append]
    split
    · rw [List.getD_eq_getElem?_getD, List.getElem?_eq_getElem ‹_›]
      rfl
    · rw [List.getD_eq_getElem?_getD, List.getElem?_eq_none (by omega)]
      simp

/-- **chain law**, strong form: only the number of non-NONE tokens is bounded -/
theorem chain_canonical_strong (l : List Nat) (hb : ∀ t ∈ l, t < 64)
    (hlen : (l.filter (· ≠ 0)).length ≤ 8) :
    chainTokens (chainType l) = l.filter (· ≠ 0) := by
  have hb' : ∀ t ∈ l.filter (· ≠ 0), t < 64 := fun t ht => hb t (List.mem_filter.mp ht).1
  rw [chainTokens, chainType_eq_orAt, chainFields_orAt _ hlen hb']
  show (l.filter (· ≠ 0) ++ List.replicate _ 0).filter (· ≠ 0) = _
  rw [List.filter_append, List.filter_filter]
  simp

theorem chain_canonical (l : List Nat) (hlen : l.length ≤ 8) (hb : ∀ t ∈ l, t < 64) :
    chainTokens (chainType l) = l.filter (· ≠ 0) :=
  chain_canonical_strong l hb (Nat.le_trans (List.length_filter_le _ _) hlen)

/-- the type word of at most 8 six-bit tokens fits the 48-bit header field -/
theorem chainType_lt (l : List Nat) (hb : ∀ t ∈ l, t < 64)
    (hlen : (l.filter (· ≠ 0)).length ≤ 8) : chainType l < 2 ^ 48 :=
  chainType_eq_orAt l ▸ orAt_lt _ 7 hlen fun t ht => hb t (List.mem_filter.mp ht).1

/-! ## Case variants and upper-casing -/

theorem upperChar_ascii :
    ∀ n, n < 128 → isAsciiLetter (Char.ofNat n) = true →
      upperChar (upperChar (Char.ofNat n)) = upperChar (Char.ofNat n) ∧
      upperChar (lowerChar (Char.ofNat n)) = upperChar (Char.ofNat n) := by decide +kernel

theorem isAsciiLetter_lt {c : Char} (h : isAsciiLetter c = true) : c.toNat < 128 := by
  simp only [isAsciiLetter, Bool.or_eq_true, Bool.and_eq_true, decide_eq_true_eq] at h
  omega

theorem upperChar_upperChar {c : Char} (h : isAsciiLetter c = true) :
    upperChar (upperChar c) = upperChar c := by
  have := (upperChar_ascii c.toNat (isAsciiLetter_lt h) (by rw [Char.ofNat_toNat]; exact h)).1
  rwa [Char.ofNat_toNat] at this

theorem upperChar_lowerChar {c : Char} (h : isAsciiLetter c = true) :
    upperChar (lowerChar c) = upperChar c := by
  have := (upperChar_ascii c.toNat (isAsciiLetter_lt h) (by rw [Char.ofNat_toNat]; exact h)).2
  rwa [Char.ofNat_toNat] at this

theorem caseVariantsL_upper (cs : List Char) : ∀ v ∈ caseVariantsL cs, upperL v = upperL cs := by
  induction cs with
  | nil => intro v hv; simp [caseVariantsL] at hv; subst hv; rfl
  | cons c cs ih =>
    intro v hv
    by_cases hl : isAsciiLetter c = true
    · simp only [caseVariantsL, hl, if_true, List.mem_append, List.mem_map] at hv
      rcases hv with ⟨w, hw, rfl⟩ | ⟨w, hw, rfl⟩
      · simp only [upperL, List.map_cons] at ih ⊢
        rw [ih w hw, upperChar_upperChar hl]
      · simp only [upperL, List.map_cons] at ih ⊢
        rw [ih w hw, upperChar_lowerChar hl]
    · rw [caseVariantsL, if_neg hl, List.mem_map] at hv
      obtain ⟨w, hw, rfl⟩ := hv
      simp only [upperL, List.map_cons] at ih ⊢
      rw [ih w hw]

theorem caseVariants_upper (n v : String) (hv : v ∈ caseVariants n) : upper v = upper n := by
  simp only [caseVariants, List.mem_map] at hv
  obtain ⟨w, hw, rfl⟩ := hv
  simp only [upper, String.toList_ofList]
  rw [caseVariantsL_upper _ w hw]

/-! ## Facts about the regenerated tables `Kanzi.Generated.Names` (finite, by kernel evaluation)

`String.toList` of a literal is slow in the kernel (~50 ms), so the big tables are only compared
with literal-to-literal string equality (`…_eq` below: the table IS "all case variants of the
canonical names with the canonical result"); statements that involve `upper` are derived from that
by the general lemma `caseVariants_upper`. -/

section Tables
open Kanzi.Generated.Names

/-- label recorded for (site, canonical context string) -/
def variantOf (tbl : List (String × String × String)) (site name : String) : Option String :=
  (tbl.find? (fun r => r.1 == site && r.2.1 == name)).map (·.2.2)

/-- the case tables are exactly: every ASCII case variant of every canonical name, in order, each
accepted with the token of its canonical name (completeness of the table + case-insensitivity) -/
theorem transformCase_eq :
    transformCase = transformTokens.flatMap (fun r => (caseVariants r.1).map (fun v => (v, some r.2))) := by
  decide +kernel
theorem entropyCase_eq :
    entropyCase = entropyTokens.flatMap (fun r => (caseVariants r.1).map (fun v => (v, some r.2))) := by
  decide +kernel

/-- Boolean form of "the two tables are inverse of each other, names are canonical (upper-case
fixed points, no '+', not empty), keys are unique, codes fit `bound`, NONE is code 0 and nothing else is" -/
def inverseOk (tokens : List (String × Nat)) (nameOf : List (Nat × Option String)) (bound : Nat) : Bool :=
  tokens.all (fun r => nameOfTable nameOf r.2 == some r.1 && upper r.1 == r.1 && decide (r.2 < bound)
      && !(r.1.toList.contains '+') && !r.1.toList.isEmpty && ((r.2 == 0) == (r.1 == "NONE"))
      && tokens.lookup r.1 == some r.2)
  && nameOf.all (fun r => match r.2 with
      | none => true
      | some n => tokens.lookup n == some r.1)
  && (nameOf.map (·.1) == List.range bound)

theorem inverseOk_spec {tokens nameOf bound} (h : inverseOk tokens nameOf bound = true) :
    (∀ r ∈ tokens, nameOfTable nameOf r.2 = some r.1 ∧ upper r.1 = r.1 ∧ r.2 < bound ∧
        r.1.toList.contains '+' = false ∧ r.1.toList ≠ [] ∧ (r.2 = 0 ↔ r.1 = "NONE") ∧
        tokens.lookup r.1 = some r.2) ∧
    (∀ r ∈ nameOf, ∀ n, r.2 = some n → tokens.lookup n = some r.1) ∧
    nameOf.map (·.1) = List.range bound := by
  simp only [inverseOk, Bool.and_eq_true, List.all_eq_true, beq_iff_eq, decide_eq_true_eq,
    Bool.not_eq_true'] at h
  obtain ⟨⟨h1, h2⟩, h3⟩ := h
  refine ⟨fun r hr => ?_, fun r hr n hn => ?_, h3⟩
  · obtain ⟨⟨⟨⟨⟨⟨a, b⟩, c⟩, d⟩, e⟩, f⟩, g⟩ := h1 r hr
    refine ⟨a, b, c, d, ?_, ?_, g⟩
    · intro hnil; rw [hnil] at e; simp at e
    · constructor
      · intro hz
        have : (r.2 == 0) = true := by simp [hz]
        rw [this] at f
        exact of_decide_eq_true f.symm
      · intro hn
        have : (r.1 == "NONE") = true := by simp [hn]
        rw [this] at f
        simpa using f
  · have := h2 r hr
    rw [hn] at this
    simpa using this

theorem transformInverse_ok : inverseOk transformTokens transformNameOf 64 = true := by decide +kernel
theorem entropyInverse_ok : inverseOk entropyTokens entropyNameOf 32 = true := by decide +kernel

theorem mem_of_lookup {α β} [BEq α] [LawfulBEq α] {k : α} {v : β} {l : List (α × β)}
    (h : l.lookup k = some v) : (k, v) ∈ l := by
  obtain ⟨l₁, l₂, rfl, _⟩ := List.lookup_eq_some_iff.mp h
  simp

theorem tables_inverse_of_ok {tokens : List (String × Nat)} {nameOf bound}
    (h : inverseOk tokens nameOf bound = true) :
    (∀ n k, (n, k) ∈ tokens → nameOfTable nameOf k = some n ∧ tokens.lookup n = some k) ∧
    (∀ c n, nameOfTable nameOf c = some n → tokens.lookup n = some c) := by
  obtain ⟨h1, h2, _⟩ := inverseOk_spec h
  refine ⟨fun n k hm => ⟨(h1 (n, k) hm).1, (h1 (n, k) hm).2.2.2.2.2.2⟩, fun c n hn => ?_⟩
  simp only [nameOfTable] at hn
  cases hl : nameOf.lookup c with
  | none => rw [hl] at hn; simp at hn
  | some o =>
    rw [hl] at hn
    have ho : o = some n := by simpa using hn
    subst ho
    exact h2 (c, some n) (mem_of_lookup hl) n rfl

/-- case-insensitivity, derived: a table that is "all case variants with the canonical result" maps
every row to the token of its upper-cased name -/
theorem case_insensitive_of_eq {tokens : List (String × Nat)} {nameOf bound}
    {rows : List (String × Option Nat)}
    (hinv : inverseOk tokens nameOf bound = true)
    (heq : rows = tokens.flatMap (fun r => (caseVariants r.1).map (fun v => (v, some r.2)))) :
    ∀ r ∈ rows, ∃ k, r.2 = some k ∧ tokens.lookup (upper r.1) = some k ∧
      ∃ n, (n, k) ∈ tokens ∧ r.1 ∈ caseVariants n := by
  intro r hr
  rw [heq, List.mem_flatMap] at hr
  obtain ⟨t, ht, hr⟩ := hr
  obtain ⟨v, hv, rfl⟩ := List.mem_map.mp hr
  obtain ⟨_, hup, _, _, _, _, hlk⟩ := (inverseOk_spec hinv).1 t ht
  refine ⟨t.2, rfl, ?_, t.1, ht, hv⟩
  show tokens.lookup (upper v) = some t.2
  rw [caseVariants_upper t.1 v hv, hup, hlk]

/-- Go's `unicode.ToUpper` maps exactly these non-ASCII code points into ASCII, and the model's
`upperChar` maps them the same way -/
theorem upperIntoAscii_ok :
    upperIntoAscii = [(305, 73), (383, 83)] ∧
    upperIntoAscii.all (fun r => (upperChar (Char.ofNat r.1)).toNat == r.2) = true := by decide +kernel

/-- the variant table is exactly: for every (site, canonical string, label) every ASCII case variant
of the string, in order, each with the label of the canonical string -/
theorem variantTable_eq :
    variantTable
      = variantCanon.flatMap (fun r => (caseVariants r.2.1).map (fun v => (r.1, v, r.2.2))) := by
  decide +kernel

/-- canonical strings are the first of their own case variants, are upper-case fixed points, and
(site, string) is a key of the canonical table -/
theorem variantCanon_ok :
    variantCanon.all (fun r => (caseVariants r.2.1).head? == some r.2.1 && upper r.2.1 == r.2.1 &&
      variantOf variantCanon r.1 r.2.1 == some r.2.2) = true := by decide +kernel

theorem variantCanon_spec {c : String × String × String} (hc : c ∈ variantCanon) :
    (caseVariants c.2.1).head? = some c.2.1 ∧ upper c.2.1 = c.2.1 ∧
      variantOf variantCanon c.1 c.2.1 = some c.2.2 := by
  have h := List.all_eq_true.mp variantCanon_ok c hc
  simp only [Bool.and_eq_true, beq_iff_eq] at h
  exact ⟨h.1.1, h.1.2, h.2⟩

/-- the canonical rows are themselves observed behaviour (rows of the variant table) -/
theorem variantCanon_observed : ∀ c ∈ variantCanon, c ∈ variantTable := by
  intro c hc
  rw [variantTable_eq, List.mem_flatMap]
  exact ⟨c, hc, List.mem_map.mpr ⟨c.2.1, List.mem_of_mem_head? (variantCanon_spec hc).1, rfl⟩⟩

/-- every spelling selects what its canonical upper-case spelling selects -/
theorem variant_consistent :
    ∀ r ∈ variantTable, variantOf variantCanon r.1 (upper r.2.1) = some r.2.2 := by
  intro r hr
  rw [variantTable_eq, List.mem_flatMap] at hr
  obtain ⟨c, hc, hr⟩ := hr
  obtain ⟨v, hv, rfl⟩ := List.mem_map.mp hr
  obtain ⟨_, h1, h2⟩ := variantCanon_spec hc
  show variantOf variantCanon c.1 (upper v) = some c.2.2
  rw [caseVariants_upper c.2.1 v hv, h1, h2]

/-- the probes tell the variants apart (the table is not vacuous) -/
theorem variant_discriminates :
    variantOf variantCanon "ROLZ" "ROLZX" = some "ROLZX" ∧ variantOf variantCanon "ROLZ" "ROLZ" = some "ROLZ" ∧
    variantOf variantCanon "TPAQ" "TPAQX" = some "TPAQX" ∧ variantOf variantCanon "TPAQ" "TPAQ" = some "TPAQ" ∧
    variantOf variantCanon "TEXT1" "TPAQX" = some "TPAQX" ∧ variantOf variantCanon "TEXT1" "TPAQ" = some "TPAQ" ∧
    variantOf variantCanon "TEXT2" "TPAQX" = some "TPAQX" ∧ variantOf variantCanon "TEXT2" "TPAQ" = some "TPAQ" ∧
    variantOf variantCanon "DICT" "HUFFMAN" ≠ variantOf variantCanon "DICT" "TPAQ" ∧
    variantOf variantCanon "RLT" "HUFFMAN" ≠ variantOf variantCanon "RLT" "TPAQ" := by decide +kernel

end Tables

/-! ## String level: split/join on '+', round trip through `GetType`/`GetName` for any tables with `inverseOk` -/

theorem splitPlus_noplus (t : List Char) (h : '+' ∉ t) : splitPlus t = [t] := by
  induction t with
  | nil => rfl
  | cons c t ih =>
    have hc : c ≠ '+' := fun e => h (by simp [e])
    have ht : '+' ∉ t := fun e => h (by simp [e])
    simp [splitPlus, hc, ih ht]

theorem splitPlus_append (t rest : List Char) (h : '+' ∉ t) :
    splitPlus (t ++ '+' :: rest) = t :: splitPlus rest := by
  induction t with
  | nil => simp [splitPlus]
  | cons c t ih =>
    have hc : c ≠ '+' := fun e => h (by simp [e])
    have ht : '+' ∉ t := fun e => h (by simp [e])
    simp [splitPlus, hc, ih ht]

theorem plusJoin_cons2 (t u : List Char) (us : List (List Char)) :
    plusJoin (t :: u :: us) = t ++ '+' :: plusJoin (u :: us) := by
  simp [plusJoin]

theorem splitPlus_plusJoin (toks : List (List Char)) (hne : toks ≠ [])
    (hp : ∀ t ∈ toks, '+' ∉ t) : splitPlus (plusJoin toks) = toks := by
  induction toks with
  | nil => exact absurd rfl hne
  | cons t ts ih =>
    cases ts with
    | nil => simpa [plusJoin] using splitPlus_noplus t (hp t (by simp))
    | cons u us =>
      rw [plusJoin_cons2, splitPlus_append _ _ (hp t (by simp)), ih (by simp) (fun x hx => hp x (by simp [hx]))]

theorem plusJoin_contains (toks : List (List Char)) (hp : ∀ t ∈ toks, '+' ∉ t) :
    (plusJoin toks).contains '+' = decide (2 ≤ toks.length) := by
  cases toks with
  | nil => simp [plusJoin]
  | cons t ts =>
    cases ts with
    | nil =>
      have := hp t (by simp)
      simp [plusJoin, this]
    | cons u us => simp [plusJoin_cons2]

theorem mapM_cons_some {α β} (f : α → Option β) (a : α) (l : List α) (r : List β)
    (h : (a :: l).mapM f = some r) : ∃ b bs, f a = some b ∧ l.mapM f = some bs ∧ r = b :: bs := by
  rw [List.mapM_cons] at h
  cases hb : f a with
  | none => simp [hb] at h
  | some b =>
    cases hbs : l.mapM f with
    | none => simp [hb, hbs] at h
    | some bs =>
      simp [hb, hbs] at h
      exact ⟨b, bs, rfl, rfl, h.symm⟩

theorem mapM_cons_of_some {α β} (f : α → Option β) (a : α) (l : List α) (b : β) (bs : List β)
    (h1 : f a = some b) (h2 : l.mapM f = some bs) : (a :: l).mapM f = some (b :: bs) := by
  rw [List.mapM_cons]; simp [h1, h2]

theorem mapM_isSome {α β} (f : α → Option β) (l : List α) (h : ∀ a ∈ l, (f a).isSome) :
    ∃ r, l.mapM f = some r := by
  induction l with
  | nil => exact ⟨[], by simp⟩
  | cons a l ih =>
    obtain ⟨bs, hbs⟩ := ih (fun x hx => h x (by simp [hx]))
    obtain ⟨b, hb⟩ := Option.isSome_iff_exists.mp (h a (by simp))
    exact ⟨b :: bs, mapM_cons_of_some f a l b bs hb hbs⟩

theorem foldl_join_acc (acc : List Char) (ns : List (List Char)) (ha : acc ≠ [])
    (hn : ∀ n ∈ ns, n ≠ []) :
    ns.foldl (fun s n => if s.isEmpty then n else s ++ '+' :: n) acc = acc ++ ns.flatMap ('+' :: ·) := by
  induction ns generalizing acc with
  | nil => simp
  | cons n ns ih =>
    have he : acc.isEmpty = false := by cases acc <;> simp_all
    simp only [List.foldl_cons, he]
    rw [ih _ (by simp) (fun x hx => hn x (by simp [hx]))]
    simp

theorem plusJoin_flatMap (n : List Char) (ns : List (List Char)) :
    plusJoin (n :: ns) = n ++ ns.flatMap ('+' :: ·) := by
  induction ns generalizing n with
  | nil => simp [plusJoin]
  | cons m ms ih => rw [plusJoin_cons2, ih]; simp

theorem joinPlus_eq_plusJoin (ns : List (List Char)) (hn : ∀ n ∈ ns, n ≠ []) :
    joinPlus ns = plusJoin ns := by
  cases ns with
  | nil => rfl
  | cons n ns =>
    have h1 : n ≠ [] := hn n (by simp)
    rw [plusJoin_flatMap, joinPlus, List.foldl_cons]
    simp only [List.isEmpty_nil, if_true]
    exact foldl_join_acc n ns h1 (fun x hx => hn x (by simp [hx]))

theorem plusJoin_isEmpty (ns : List (List Char)) (hn : ∀ n ∈ ns, n ≠ []) :
    (plusJoin ns).isEmpty = ns.isEmpty := by
  cases ns with
  | nil => rfl
  | cons n ns =>
    have h1 : n ≠ [] := hn n (by simp)
    rw [plusJoin_flatMap]
    cases n with
    | nil => exact absurd rfl h1
    | cons c cs => simp


def noneL : List Char := ['N', 'O', 'N', 'E']

theorem ofList_eq_none_iff (l : List Char) : String.ofList l = "NONE" ↔ l = noneL := by
  constructor
  · intro h
    have := congrArg String.toList h
    rw [String.toList_ofList] at this
    rw [this]; decide
  · intro h; rw [h]; decide

section Roundtrip
variable {tokens : List (String × Nat)} {nameOf : List (Nat × Option String)}

theorem tokenOf_facts {bound : Nat} (hinv : inverseOk tokens nameOf bound = true) {tok : List Char} {k : Nat}
    (h : tokenOf tokens tok = some k) :
    nameOfTable nameOf k = some (String.ofList (upperL tok)) ∧ k < bound ∧
      (k = 0 ↔ upperL tok = noneL) ∧ upperL tok ≠ [] := by
  have hm := mem_of_lookup h
  obtain ⟨a, _, c, _, e, f, _⟩ := (inverseOk_spec hinv).1 _ hm
  refine ⟨a, c, ?_, ?_⟩
  · rw [← ofList_eq_none_iff]; exact f
  · simpa [String.toList_ofList] using e

theorem names_of_tokens (hinv : inverseOk tokens nameOf 64 = true) (toks : List (List Char)) :
    ∀ ks, toks.mapM (tokenOf tokens) = some ks →
      (∀ k ∈ ks, k < 64) ∧ ks.length = toks.length ∧
      (ks.filter (· ≠ 0)).mapM (nameOfTable nameOf)
        = some (((toks.map upperL).filter (· ≠ noneL)).map String.ofList) := by
  induction toks with
  | nil =>
    intro ks h
    have : ks = [] := by simpa using h.symm
    subst this; simp
  | cons t ts ih =>
    intro ks h
    obtain ⟨k, ks', hk, hks', rfl⟩ := mapM_cons_some _ _ _ _ h
    obtain ⟨i1, i2, i3⟩ := ih ks' hks'
    obtain ⟨f1, f2, f3, _⟩ := tokenOf_facts hinv hk
    refine ⟨?_, by simp [i2], ?_⟩
    · intro x hx
      rcases List.mem_cons.mp hx with rfl | hx
      · exact f2
      · exact i1 x hx
    · by_cases hz : k = 0
      · have hn : upperL t = noneL := f3.mp hz
        simp only [List.map_cons, hz, hn]
        simpa using i3
      · have hn : upperL t ≠ noneL := fun e => hz (f3.mpr e)
        have e1 : (k :: ks').filter (· ≠ 0) = k :: ks'.filter (· ≠ 0) := by simp [hz]
        have e2 : ((t :: ts).map upperL).filter (· ≠ noneL)
            = upperL t :: (ts.map upperL).filter (· ≠ noneL) := by simp [hn]
        rw [e1, e2, List.map_cons]
        exact mapM_cons_of_some _ _ _ _ _ f1 i3

theorem chainType_single (k : Nat) : chainType [k] = k <<< maxShift := by
  by_cases h : k = 0
  · subst h; simp [chainType, chainTypeAux, noneType]
  · simp [chainType, chainTypeAux, noneType, h]

/-- `GetType` on a chain written as `strings.Join(toks, "+")`: the path for a single name and the
path for a chain give the same answer -/
theorem getTypeL_plusJoin_eq (toks : List (List Char)) (hne : toks ≠ []) (hp : ∀ t ∈ toks, '+' ∉ t) :
    getTypeL tokens (plusJoin toks) =
      if toks.length > 8 then .error .tooMany
      else match toks.mapM (tokenOf tokens) with
        | none => .error .unknown
        | some ks => .ok (chainType ks) := by
  unfold getTypeL
  rw [plusJoin_contains toks hp]
  by_cases h2 : 2 ≤ toks.length
  · simp only [h2, decide_true, not_true_eq_false, if_false]
    rw [splitPlus_plusJoin toks hne hp]
    rfl
  · obtain ⟨t, rfl⟩ : ∃ t, toks = [t] := by
      match toks, hne, h2 with
      | [t], _, _ => exact ⟨t, rfl⟩
      | _ :: _ :: _, _, h2 => exact absurd (by simp) h2
    cases hk : tokenOf tokens t <;> simp [plusJoin, hk, chainType_single]

theorem getTypeL_plusJoin (toks : List (List Char)) (hne : toks ≠ []) (hlen : toks.length ≤ 8)
    (hp : ∀ t ∈ toks, '+' ∉ t) (ks : List Nat) (hks : toks.mapM (tokenOf tokens) = some ks) :
    getTypeL tokens (plusJoin toks) = .ok (chainType ks) := by
  rw [getTypeL_plusJoin_eq toks hne hp, if_neg (Nat.not_lt.mpr hlen), hks]

theorem getTypeL_tooMany (toks : List (List Char)) (hlen : 9 ≤ toks.length)
    (hp : ∀ t ∈ toks, '+' ∉ t) : getTypeL tokens (plusJoin toks) = .error .tooMany := by
  have hne : toks ≠ [] := by intro e; rw [e] at hlen; simp at hlen
  rw [getTypeL_plusJoin_eq toks hne hp, if_pos (show toks.length > 8 from hlen)]

/-- **string-level round trip**: a chain of at most 8 known names in any spelling is accepted, its
type fits 48 bits and prints as the canonical chain -/
theorem roundtrip (hinv : inverseOk tokens nameOf 64 = true)
    (h0 : nameOfTable nameOf 0 = some "NONE")
    (toks : List (List Char)) (hne : toks ≠ []) (hlen : toks.length ≤ 8)
    (hp : ∀ t ∈ toks, '+' ∉ t) (hv : ∀ t ∈ toks, (tokenOf tokens t).isSome) :
    ∃ ty, getTypeL tokens (plusJoin toks) = .ok ty ∧ ty < 2 ^ 48 ∧
      getNameL (nameOfTable nameOf) ty = .ok (canonChain toks) := by
  obtain ⟨ks, hks⟩ := mapM_isSome _ toks hv
  obtain ⟨hb, hl, hn⟩ := names_of_tokens hinv toks ks hks
  have hl8 : ks.length ≤ 8 := by omega
  refine ⟨chainType ks, getTypeL_plusJoin toks hne hlen hp ks hks,
    chainType_lt ks hb (Nat.le_trans (List.length_filter_le _ _) hl8), ?_⟩
  unfold getNameL
  rw [chain_canonical ks hl8 hb, hn]
  simp only [List.map_map]
  have hid : (String.toList ∘ String.ofList) = (id : List Char → List Char) := by
    funext l; simp [String.toList_ofList]
  rw [hid, List.map_id]
  -- every printed name is non-empty
  have hne' : ∀ n ∈ (toks.map upperL).filter (· ≠ noneL), n ≠ [] := by
    intro n hn'
    obtain ⟨t, ht, rfl⟩ := List.mem_map.mp (List.mem_filter.mp hn').1
    obtain ⟨k, hk⟩ := Option.isSome_iff_exists.mp (hv t ht)
    exact (tokenOf_facts hinv hk).2.2.2
  rw [joinPlus_eq_plusJoin _ hne', plusJoin_isEmpty _ hne']
  unfold canonChain
  show _ = Except.ok (if ((toks.map upperL).filter (· ≠ noneL)).isEmpty then noneL else _)
  by_cases he : ((toks.map upperL).filter (· ≠ noneL)).isEmpty = true
  · simp only [he, if_true, noneType, h0]
    exact congrArg Except.ok (by decide)
  · simp only [he]
    rfl

theorem mapM_none_of_mem {α β} (f : α → Option β) (l : List α) (a : α) (ha : a ∈ l)
    (hf : f a = none) : l.mapM f = none := by
  induction l with
  | nil => simp at ha
  | cons x xs ih =>
    rw [List.mapM_cons]
    rcases List.mem_cons.mp ha with rfl | h
    · simp [hf]
    · cases hx : f x with
      | none => simp
      | some b => simp [ih h]

theorem getTypeL_unknown (toks : List (List Char)) (hne : toks ≠ []) (hlen : toks.length ≤ 8)
    (hp : ∀ t ∈ toks, '+' ∉ t) (t : List Char) (ht : t ∈ toks) (hu : tokenOf tokens t = none) :
    getTypeL tokens (plusJoin toks) = .error .unknown := by
  rw [getTypeL_plusJoin_eq toks hne hp, if_neg (Nat.not_lt.mpr hlen), mapM_none_of_mem _ toks t ht hu]

theorem entropy_roundtrip {bound : Nat} (hinv : inverseOk tokens nameOf bound = true) (name : String) (k : Nat)
    (h : entropyType tokens name = .ok k) :
    k < bound ∧ entropyName (nameOfTable nameOf) k = .ok (upper name) := by
  unfold entropyType at h
  cases hk : tokenOf tokens name.toList with
  | none => rw [hk] at h; cases h
  | some k' =>
    rw [hk] at h
    have : k' = k := by injection h
    subst this
    obtain ⟨f1, f2, _, _⟩ := tokenOf_facts hinv hk
    refine ⟨f2, ?_⟩
    unfold entropyName
    rw [f1]; rfl

end Roundtrip

theorem transformNameOf_zero :
    nameOfTable Kanzi.Generated.Names.transformNameOf 0 = some "NONE" := by decide +kernel

end Kanzi.Names
