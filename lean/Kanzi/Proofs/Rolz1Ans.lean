/-
ROLZ (`rolzCodec1`): the ANS coded side buffers survive the trip.  The decoder of `Kanzi/Model/ROLZ1.lean`
reads them with the chunk loops `ans0ChunksB` / `ans1ChunksB`, which are the loops of `Kanzi/Model/EntSmall.lean`
/ `Kanzi/Model/Ans1.lean` plus the test on the payload buffer of `decodeChunkV2` (`ansGuard`).  For what an
encoder wrote the test never fires (the payload of a chunk is at most twice its length: `final_facts`,
`final1_facts`), so the block round trips `C12_ans0_block` / `C12_ans1_block` carry over (the same
instances of `chunkLoop_rt`, with the extra test).
-/
import Kanzi.Model.ROLZ1
import Kanzi.Proofs.Ans0
import Kanzi.Proofs.Ans1Block

namespace Kanzi.ROLZ
open Kanzi.Bits Kanzi.EntSmall

/-- the guard passes on a frame whose payload is at most twice the chunk length, which is what
    `encodeChunk` writes in either order (`final_facts`, `final1_facts`) -/
theorem ansGuard_frame (buf len : Nat) (S : EncSt) (hp : S.out.length ≤ 2 * len) (hsz : len < 2 ^ 26)
    (rest : Bits) : ansGuard buf len (frameBits S ++ rest) = true := by
  unfold ansGuard
  rw [frameBits_append, varint_roundtrip _ (by omega)]
  simp only [decide_eq_true_eq]
  right
  unfold ansBuf
  split
  · omega
  · omega

theorem chunksB_rt (chunkSize lr : Nat) (hlr : 8 ≤ lr ∧ lr ≤ 15) (hcs0 : 0 < chunkSize)
    (hcs : chunkSize < 2 ^ 26) : ∀ (fuel : Nat) (blk : List Nat), blk.length ≤ fuel →
    (∀ b ∈ blk, b < 256) →
    ∃ enc, ans0EncodeChunks fuel chunkSize lr blk = some enc ∧
      ∀ (rest : Bits) (buf : Nat), ∃ buf', ans0ChunksB fuel chunkSize blk.length buf (enc ++ rest) = some (blk, rest, buf') := by
  refine chunkLoop_rt chunkSize hcs0 (fun fuel blk => ans0EncodeChunks fuel chunkSize lr blk)
    (fun fuel bs blk rest => ∀ buf, ∃ buf', ans0ChunksB fuel chunkSize blk.length buf bs = some (blk, rest, buf'))
    (fun fuel => by cases fuel <;> exact ⟨rfl, fun _ buf => ⟨buf, rfl⟩⟩) ?_
  intro fuel blk h0 hb hclen hcne hdl
  have hbc : ∀ b ∈ blk.take chunkSize, b < 256 := fun b h => hb b (List.mem_of_mem_take h)
  obtain ⟨o, ho, hasz, hneA, hhdr, hone, hchunk⟩ := oneChunk_facts (blk.take chunkSize) lr hlr hcne hbc (by omega)
  have hA0 : ¬ o.alphabet.length = 0 := length_ne_zero_of_ne_nil _ hneA
  refine ⟨ansEncodeHeader o.alphabet o.freqs lr
      ++ (if o.size > 1 then ans0EncodeChunk (blk.take chunkSize) (mkEncSyms o.freqs lr) else []), ?_, ?_⟩
  · intro tl htl
    simp only [ans0EncodeChunks, if_neg h0, ans0EncodeOneChunk, ho, htl]
  · intro tl rest hdec buf
    simp only [ans0ChunksB, if_neg h0, List.append_assoc]
    rw [hhdr]
    simp only [if_neg hA0]
    by_cases h1 : o.alphabet.length = 1
    · have hs : ¬ o.size > 1 := by omega
      simp only [if_pos h1, if_neg hs, List.nil_append]
      obtain ⟨b2, hb2⟩ := hdec buf
      rw [hdl, hb2]
      refine ⟨b2, ?_⟩
      simp only
      rw [← hclen, ← hone h1]
      simp only [List.take_append_drop]
    · have hs : o.size > 1 := by omega
      simp only [if_neg h1, if_pos hs]
      have hg := ansGuard_frame buf _ (ans0Final (blk.take chunkSize) (mkEncSyms o.freqs lr))
        (oneChunk_payload _ lr hlr hcne hbc o ho) (by omega) (tl ++ rest)
      rw [← hclen, ans0EncodeChunk_frame, hg, ← ans0EncodeChunk_frame]
      simp only [Bool.not_true, Bool.false_eq_true, if_false]
      rw [hchunk]
      simp only
      obtain ⟨b2, hb2⟩ := hdec (ansBuf buf (blk.take chunkSize).length)
      rw [hclen] at hb2 ⊢
      rw [hdl, hb2]
      refine ⟨b2, ?_⟩
      simp only [List.take_append_drop]

theorem ans0B_rt (blk : List Nat) (chunkSize lr : Nat) (hlr : 8 ≤ lr ∧ lr ≤ 15) (hcs0 : 0 < chunkSize)
    (hcs : chunkSize < 2 ^ 26) (hb : ∀ b ∈ blk, b < 256) :
    ∃ enc, ans0Encode blk chunkSize lr = some enc ∧
      ∀ (buf : Nat) (rest : Bits), ∃ buf', ans0DecodeB (enc ++ rest) blk.length chunkSize buf = some (blk, rest, buf') := by
  unfold ans0Encode ans0DecodeB
  by_cases h32 : blk.length ≤ 32
  · simp only [if_pos h32]
    refine ⟨_, rfl, fun buf rest => ⟨buf, ?_⟩⟩
    rw [raw_rt blk rest hb]
    rfl
  · simp only [if_neg h32]
    obtain ⟨enc, he, hd⟩ := chunksB_rt chunkSize lr hlr hcs0 hcs blk.length blk (Nat.le_refl _) hb
    exact ⟨enc, he, fun buf rest => hd rest buf⟩

/-! ## order 1 -/

open Kanzi.Ans1 in
theorem chunks1B_rt (chunkSize lr : Nat) (hlr : 8 ≤ lr ∧ lr ≤ 15) (hcs0 : 0 < chunkSize)
    (hcs : chunkSize < 2 ^ 26) : ∀ (fuel : Nat) (blk : List Nat), blk.length ≤ fuel →
    (∀ b ∈ blk, b < 256) →
    ∃ enc, ans1EncodeChunks fuel chunkSize lr blk = some enc ∧
      ∀ (rest : Bits) (prev : List (List Nat)), prev.length = 256 → ∀ (buf : Nat),
        ans1ChunksB fuel chunkSize blk.length prev buf (enc ++ rest) = some (blk, rest) := by
  refine chunkLoop_rt chunkSize hcs0 (fun fuel blk => ans1EncodeChunks fuel chunkSize lr blk)
    (fun fuel bs blk rest => ∀ prev : List (List Nat), prev.length = 256 → ∀ buf : Nat,
      ans1ChunksB fuel chunkSize blk.length prev buf bs = some (blk, rest))
    (fun fuel => by cases fuel <;> exact ⟨rfl, fun _ _ _ _ => rfl⟩) ?_
  intro fuel blk h0 hb hclen hcne hdl
  obtain ⟨ts, hts, htl, hhdr, hsum, hchunk, _⟩ := oneChunk1_facts (blk.take chunkSize) lr hlr hcne
    (fun b h => hb b (List.mem_of_mem_take h))
  refine ⟨ans1EncodeHeader ts lr ++ ans1EncodeChunk (blk.take chunkSize) (mkEncTabs (ts.map (·.2)) lr), ?_, ?_⟩
  · intro tl htlenc
    simp only [ans1EncodeChunks, if_neg h0, ans1EncodeOneChunk, hts, htlenc]
  · intro tl rest hdec prev hpl buf
    simp only [ans1ChunksB, if_neg h0, List.append_assoc]
    rw [header1_rt lr hlr ts prev (by omega) hhdr]
    simp only
    have hlt : (blk.take chunkSize).length < 2 ^ 26 := by omega
    have hpay := (final1_facts (blk.take chunkSize) (ts.map (·.2)) _ lr hlr (hchunk prev hpl)).2.2
    unfold ans1PayloadLen at hpay
    have hg := ansGuard_frame buf _ _ hpay hlt (tl ++ rest)
    -- `omega` would compare the payload length with every other atom up to unfolding
    clear hpay
    rw [alph_sum_merge ts prev (by omega), if_neg hsum, ← hclen, ans1EncodeChunk_eq, hg, ← ans1EncodeChunk_eq]
    simp only [Bool.not_true, Bool.false_eq_true, if_false]
    rw [chunk1_rt (blk.take chunkSize) _ _ lr hlr (hchunk prev hpl) (by omega)]
    simp only
    rw [hclen, hdl, hdec _ (by rw [List.length_map, mergeTabs_length ts prev (by omega)]; exact htl)]
    simp only [List.take_append_drop]

/-- the literal decoder of ROLZ (bitstream version 4 or later: `old = false`) inverts the literal encoder, in either
    order (Forward takes order 0 for a block below `2^17` bytes, order 1 from there on) -/
theorem ansLit_rt (litOrder : Nat) (blk : List Nat) (hb : ∀ b ∈ blk, b < 256) :
    ∃ enc, ansLitEncode litOrder blk = some enc ∧
      ∀ rest : Bits, ansLitDecode litOrder false (enc ++ rest) blk.length = some (blk, rest) := by
  unfold ansLitEncode ansLitDecode
  by_cases h0 : litOrder = 0
  · simp only [if_pos h0, Bool.false_eq_true, if_false]
    obtain ⟨enc, he, hd⟩ := ans0B_rt blk 16384 12 (by omega) (by omega) (by omega) hb
    refine ⟨enc, he, fun rest => ?_⟩
    obtain ⟨b', hb'⟩ := hd 0 rest
    rw [hb']
    rfl
  · simp only [if_neg h0, Bool.false_eq_true, if_false]
    unfold Kanzi.Ans1.ans1Encode
    by_cases h32 : blk.length ≤ 32
    · simp only [if_pos h32]
      exact ⟨_, rfl, fun rest => raw_rt blk rest hb⟩
    · simp only [if_neg h32]
      obtain ⟨enc, he, hd⟩ := chunks1B_rt 4194304 11 (by omega) (by omega) (by omega) blk.length blk (Nat.le_refl _) hb
      exact ⟨enc, he, fun rest => hd rest _ (by unfold Kanzi.Ans1.freshTables; exact List.length_replicate) 0⟩

end Kanzi.ROLZ
