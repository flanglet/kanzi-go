/-
LZP: which faults are possible.
  * Forward never faults and never runs out of fuel, for every block and every destination length
    (`lzpForward_ne_fault`);
  * Inverse on an arbitrary input either returns at most `len(dst)` bytes, or a clean error, or faults
    in one of exactly two ways (`lzpInverse_cases`): a store at `dst[len(dst)]` (literal or escaped
    literal when the destination is full, or a destination shorter than 4 bytes) or a read at
    `src[len(src)]` (the input ends with a match flag for which a prediction exists).  The model's
    `"fuel"` and `"stale-read"` faults are never reached: neither is among the two.
  * Both faults of Inverse do occur, on forged inputs (`lzpInverse_fault_src`, `lzpInverse_fault_esc`).
-/
import Kanzi.Proofs.LZPRound

namespace Kanzi.LZP

/-- C13_lzp_total, Forward part: no fault (and no exhausted fuel) on any block into any destination -/
theorem lzpForward_ne_fault (b : List Nat) (dstLen : Nat) (k : String) (x l : Nat) :
    lzpForward b dstLen ≠ .fault k x l := by
  by_cases h0 : b.length = 0 ∨ dstLen = 0
  · rw [lzpForward, if_pos h0]; simp
  by_cases hdst : dstLen < lzpMaxEncodedLen b.length
  · rw [lzpForward, if_neg h0, if_pos hdst]; simp
  by_cases h128 : b.length < MIN_BLOCK_LENGTH
  · rw [lzpForward, if_neg h0, if_neg hdst, if_pos h128]; simp
  have h128 : 128 ≤ b.length := Nat.not_lt.1 h128
  obtain ⟨b0, b1, b2, b3, rest, hb, e⟩ := lzpForward_eq b dstLen h128 (by omega)
  obtain ⟨r, hr, _⟩ := sim_main b.toArray dstLen _ (dstEnd_le b.length dstLen h128 (by omega)) b.length 4
    (b0 + 256 * b1 + 65536 * b2 + 16777216 * b3) tbl0 #[b0, b1, b2, b3] (by simp; omega) (by simp)
    (fun k => by rw [tbl0_get]; omega)
  rw [e, hr, fwdFinish, Out.bind_ok]
  split <;> simp

/-! ## Inverse on arbitrary input -/

/-- the only two ways Inverse can fault -/
def KnownFault (asize n : Nat) {α : Type} (r : Out α) : Prop :=
  r = .fault "dst-index" n n ∨ r = .fault "src-index" asize asize

/-- a value with `P`, a clean error, or one of the two known faults -/
def Cases (asize n : Nat) {α : Type} (r : Out α) (P : α → Prop) : Prop :=
  (∃ a, r = .ok a ∧ P a) ∨ (∃ e, r = .err e) ∨ KnownFault asize n r

theorem Cases.bind {asize n : Nat} {α β : Type} {r : Out α} {f : α → Out β} {P : α → Prop} {Q : β → Prop}
    (h : Cases asize n r P) (hf : ∀ a, P a → Cases asize n (f a) Q) : Cases asize n (r.bind f) Q := by
  rcases h with ⟨a, rfl, hp⟩ | ⟨e, rfl⟩ | rfl | rfl
  · exact hf a hp
  · exact Or.inr (Or.inl ⟨e, rfl⟩)
  · exact Or.inr (Or.inr (Or.inl rfl))
  · exact Or.inr (Or.inr (Or.inr rfl))

theorem invLoop_succ (a : Array Nat) (n mm F i ctx : Nat) (tbl out : Array Nat) :
    invLoop a n mm (F + 1) i ctx tbl out =
      if i < a.size then (decStep a n mm i ctx tbl out).bind fun s => invLoop a n mm F s.i s.ctx s.tbl s.out
      else .ok (i, out) := by
  rw [invLoop]
  cases decStep a n mm i ctx tbl out <;> rfl

/-- a literal iteration: one byte more, or the store at `dst[len(dst)]` -/
theorem wr1_cases (asize n : Nat) (out : Array Nat) {v i i' c : Nat} {t : Array Nat} (hlt : i < i')
    (hle : i' ≤ asize) :
    Cases asize n ((wr n out [v]).bind fun o => Out.ok (St.mk i' c t o)) fun s =>
      i < s.i ∧ s.i ≤ asize ∧ out.size < s.out.size ∧ s.out.size ≤ n ∧ s.tbl = t := by
  by_cases hw : out.size + 1 ≤ n
  · rw [wr_ok _ _ _ hw, Out.bind_ok]
    exact Or.inl ⟨_, rfl, hlt, hle, by simp, by simpa using hw, rfl⟩
  · rw [wr_fault _ _ _ hw, Out.bind_fault]
    exact Or.inr (Or.inr (Or.inl rfl))

theorem decStep_cases (a : Array Nat) (n mm i ctx : Nat) (tbl out : Array Nat) (hmm : 0 < mm)
    (hi : i < a.size) (h4 : 4 ≤ out.size) (hinv : ∀ k, tbl.getD k 0 < out.size) :
    Cases a.size n (decStep a n mm i ctx tbl out) fun s => i < s.i ∧ s.i ≤ a.size ∧ out.size < s.out.size ∧
      s.out.size ≤ n ∧ s.tbl = tbl.setIfInBounds (hash ctx) out.size := by
  have hx : a[i]? = some a[i] := Array.getElem?_eq_getElem hi
  by_cases hc : a[i] ≠ MATCH_FLAG ∨ tbl.getD (hash ctx) 0 = 0
  · rw [decStep_lit hx hc]
    exact wr1_cases a.size n out (by omega) (by omega)
  · have hflag : a[i] = MATCH_FLAG := Decidable.not_not.1 fun h => hc (Or.inl h)
    have hr : tbl.getD (hash ctx) 0 ≠ 0 := fun h => hc (Or.inr h)
    rw [hflag] at hx
    by_cases hi1 : i + 1 < a.size
    · have hy : a[i + 1]? = some a[i + 1] := Array.getElem?_eq_getElem hi1
      by_cases hyF : a[i + 1] = 0xFF
      · rw [hyF] at hy
        rw [decStep_esc hx hr hy]
        exact wr1_cases a.size n out (by omega) (by omega)
      · cases hp : skipFE a (a.size - (i + 1)) (i + 1) mm with
        | mk q m =>
          have hq := skipFE_bounds a (a.size - (i + 1)) (i + 1) mm (by omega)
          rw [hp] at hq
          by_cases hlt : q < a.size
          · have hz : a[q]? = some a[q] := Array.getElem?_eq_getElem hlt
            by_cases hfit : out.size + (m + a[q]) ≤ n
            · obtain ⟨o, hcopy, hosz⟩ := copySeq_total (m + a[q]) _ out (hinv (hash ctx))
              obtain ⟨c, hc⟩ := le32_some o (o.size - 4) (by omega)
              rw [decStep_match hx hr hy hyF hp hz hfit hcopy hc]
              exact Or.inl ⟨_, rfl, by simp only []; omega, by simp only []; omega, by simp only []; omega,
                by simp only []; omega, rfl⟩
            · rw [decStep_fail hx hr hy hyF hp (Or.inr ⟨_, hz, by omega⟩)]
              exact Or.inr (Or.inl ⟨_, rfl⟩)
          · rw [decStep_fail hx hr hy hyF hp (Or.inl (by omega))]
            exact Or.inr (Or.inl ⟨_, rfl⟩)
    · rw [decStep_flag_end hx hr (Array.getElem?_eq_none (by omega)),
        show i + 1 = a.size by omega]
      exact Or.inr (Or.inr (Or.inr rfl))

theorem invLoop_cases (a : Array Nat) (n mm : Nat) (hmm : 0 < mm) :
    ∀ (F i ctx : Nat) (tbl out : Array Nat), i ≤ a.size → a.size < F + i → 4 ≤ out.size → out.size ≤ n →
      (∀ k, tbl.getD k 0 < out.size) →
      Cases a.size n (invLoop a n mm F i ctx tbl out) fun r => r.1 = a.size ∧ r.2.size ≤ n := by
  intro F
  induction F with
  | zero => intro i ctx tbl out h1 h2; omega
  | succ F ih =>
    intro i ctx tbl out h1 h2 h4 hn hinv
    rw [invLoop_succ]
    by_cases hc : i < a.size
    · rw [if_pos hc]
      refine (decStep_cases a n mm i ctx tbl out hmm hc h4 hinv).bind fun s ⟨s1, s2, s3, s4, s5⟩ => ?_
      refine ih _ _ _ _ s2 (by omega) (by omega) s4 ?_
      rw [s5]
      exact tbl_inv_step tbl _ _ _ hinv s3
    · rw [if_neg hc]
      exact Or.inl ⟨_, rfl, by simp only []; omega, hn⟩

/-- C13_lzp_total, Inverse part: on ANY input and ANY destination length Inverse returns at most
    `len(dst)` bytes, or a clean error, or panics with `index out of range [len(dst)]` on `dst` or
    `index out of range [len(src)]` on `src` -/
theorem lzpInverse_cases (v3 : Bool) (src : List Nat) (n : Nat) :
    Cases src.length n (lzpInverse v3 src n) fun o => o.length ≤ n := by
  by_cases h0 : src.length = 0 ∨ n = 0
  · rw [lzpInverse, if_pos h0]
    exact Or.inl ⟨[], rfl, by simp⟩
  by_cases h4 : src.length < 4
  · rw [lzpInverse, if_neg h0, if_pos h4]
    exact Or.inr (Or.inl ⟨_, rfl⟩)
  have h4 : 4 ≤ src.length := Nat.not_lt.1 h4
  match src, h4 with
  | b0 :: b1 :: b2 :: b3 :: rest, _ =>
    by_cases hw : 4 ≤ n
    · rw [lzpInverse_eq v3 b0 b1 b2 b3 rest n hw]
      have hmm : 0 < minMatch v3 := by cases v3 <;> decide
      rw [invFinish]
      refine (invLoop_cases (b0 :: b1 :: b2 :: b3 :: rest).toArray n (minMatch v3) hmm (rest.length + 4) 4
        (b0 + 256 * b1 + 65536 * b2 + 16777216 * b3) tbl0 #[b0, b1, b2, b3] (by simp) (by simp) (by simp)
        (by simpa using hw) (fun k => by rw [tbl0_get]; simp)).bind fun r ⟨r1, r2⟩ => ?_
      rw [if_neg (by simpa using r1)]
      exact Or.inl ⟨_, rfl, by simpa using r2⟩
    · rw [lzpInverse, if_neg h0, if_neg (by simp)]
      simp only [List.getElem?_toArray, List.getElem?_cons_zero, List.getElem?_cons_succ]
      rw [wr_fault _ _ _ (by simpa using hw), Out.bind_fault]
      exact Or.inr (Or.inr (Or.inl rfl))

/-! ## the faults of Inverse are reachable (forged inputs) -/

theorem tbl0_size : tbl0.size = 65536 := by
  unfold tbl0; rw [Array.size_replicate]; rfl

/-- Inverse on an input that starts with five zero bytes, after the first loop iteration: context 0,
    position 4 stored in slot `hash 0 = 0` -/
theorem lzpInverse_zeros (rest : List Nat) (n : Nat) (h5 : 5 ≤ n) :
    lzpInverse false (0 :: 0 :: 0 :: 0 :: 0 :: rest) n =
      invFinish (rest.length + 5) (invLoop (0 :: 0 :: 0 :: 0 :: 0 :: rest).toArray n 64 (rest.length + 4) 5 0
        (tbl0.setIfInBounds 0 4) #[0, 0, 0, 0, 0]) := by
  rw [lzpInverse_eq false 0 0 0 0 (0 :: rest) n (by omega), invLoop_succ, if_pos (by simp),
    decStep_lit (x := 0) (by simp) (Or.inl (by decide)),
    wr_ok _ _ _ (by simp; omega), Out.bind_ok, Out.bind_ok]
  have hctx : 0 + 256 * 0 + 65536 * 0 + 16777216 * 0 = 0 := rfl
  have h1 : hash 0 = 0 := by decide
  have h2 : shiftCtx 0 0 = 0 := by decide
  simp only []
  rw [hctx, h1, h2]
  rfl

theorem ref_zeros : (tbl0.setIfInBounds 0 4).getD (hash 0) 0 ≠ 0 := by
  have h1 : hash 0 = 0 := by decide
  rw [h1, getD_setIfInBounds, if_pos ⟨rfl, by rw [tbl0_size]; omega⟩]
  omega

/-- forged input: the block ends with a match flag for which a prediction exists -/
theorem lzpInverse_fault_src (n : Nat) (h5 : 5 ≤ n) :
    lzpInverse false [0, 0, 0, 0, 0, 0xFC] n = .fault "src-index" 6 6 := by
  rw [lzpInverse_zeros [0xFC] n h5]
  rw [invLoop_succ]
  rw [if_pos (by simp)]
  rw [decStep_flag_end (by rfl) ref_zeros (by rfl)]
  rfl

/-- forged input: an escaped flag after the destination has been filled -/
theorem lzpInverse_fault_esc : lzpInverse false [0, 0, 0, 0, 0, 0xFC, 0xFF] 5 = .fault "dst-index" 5 5 := by
  rw [lzpInverse_zeros [0xFC, 0xFF] 5 (by omega)]
  rw [invLoop_succ]
  rw [if_pos (by simp)]
  rw [decStep_esc (by rfl) ref_zeros (by rfl), wr_fault _ _ _ (by simp)]
  rfl

end Kanzi.LZP
