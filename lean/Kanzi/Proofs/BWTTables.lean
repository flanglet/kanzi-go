/-
Model-level lemmas shared by the inverse BWT proofs: `histogram`, `exclSums` (bucket starts),
`fillRange` as `putList`, `ensureBuf`; and what `inverseMergeTPSI` computes, in the form both its
correctness and its totality proof start from: the three scatter loops are one `putList` over
`rawEntries` (`mergeTPSI_eq`), `mergeDecode` branch by branch, and the loop over the lanes as the loop
of each lane (`lanesRun_eq`).
-/
import Kanzi.Proofs.BWTSort

namespace Kanzi.BWT

/-! ### histogram -/

theorem histogram_size (src : Array Nat) : (histogram src).size = 256 := by
  unfold histogram
  rw [← Array.foldl_toList, hist_fold_size]; simp

theorem histogram_rd (src : Array Nat) (c : Nat) (hc : c < 256) :
    rd (histogram src) c = src.toList.count c := by
  unfold histogram
  rw [← Array.foldl_toList]
  exact (hist_fold_getD _ _ _ (by simpa using hc)).trans (by rw [← rd, rd_replicate]; simp [hc])

/-! ### exclusive prefix sums -/

/-- `f 0 + ... + f (c-1)` -/
def psum (f : Nat → Nat) : Nat → Nat
  | 0 => 0
  | c + 1 => psum f c + f c

/-- the fold of `exclSums` over the first `n` symbols -/
def exclFold (h : Array Nat) (start n : Nat) : Nat × Array Nat :=
  (List.range n).foldl (fun (st : Nat × Array Nat) c => (st.1 + h.getD c 0, st.2.push st.1))
    (start, Array.emptyWithCapacity 256)

theorem exclFold_succ (h : Array Nat) (start n : Nat) :
    exclFold h start (n + 1)
      = ((exclFold h start n).1 + rd h n, (exclFold h start n).2.push (exclFold h start n).1) := by
  unfold exclFold
  rw [List.range_succ, List.foldl_append]
  rfl

theorem exclSums_fold (h : Array Nat) (start n : Nat) :
    (exclFold h start n).1 = start + psum (fun c => rd h c) n ∧
    (exclFold h start n).2.size = n ∧
    ∀ c, c < n → rd (exclFold h start n).2 c = start + psum (fun c => rd h c) c := by
  induction n with
  | zero => simp [psum, exclFold]
  | succ n ih =>
    obtain ⟨h1, h2, h3⟩ := ih
    rw [exclFold_succ]
    refine ⟨?_, ?_, ?_⟩
    · simp only [h1, psum]; omega
    · simp only [Array.size_push, h2]
    · intro c hc
      simp only [rd_push, h2]
      by_cases hcn : c = n
      · subst hcn; simp only [ite_true, h1]
      · simp only [hcn, ite_false]; exact h3 c (by omega)

theorem exclSums_size (h : Array Nat) (start : Nat) : (exclSums h start).size = 256 :=
  (exclSums_fold h start 256).2.1

theorem exclSums_rd (h : Array Nat) (start c : Nat) (hc : c < 256) :
    rd (exclSums h start) c = start + psum (fun c => rd h c) c :=
  (exclSums_fold h start 256).2.2 c hc

theorem psum_count (l : List Nat) (c : Nat) :
    psum (fun c => l.count c) c = (l.filter (fun x => x < c)).length := by
  induction c with
  | zero =>
    have : l.filter (fun x => decide (x < 0)) = [] := List.filter_eq_nil_iff.2 (by simp)
    rw [this]; rfl
  | succ c ih => rw [psum, ih, filter_lt_succ_length]

/-- bucket starts of the counting sort of the bytes `src` -/
theorem starts_rd (src : Array Nat) (start c : Nat) (hc : c < 256) :
    rd (exclSums (histogram src) start) c = start + (src.toList.filter (fun x => x < c)).length := by
  rw [exclSums_rd _ _ _ hc, ← psum_count]
  congr 1
  have : ∀ n, n ≤ 256 → psum (fun c => rd (histogram src) c) n = psum (fun c => src.toList.count c) n := by
    intro n hn
    induction n with
    | zero => rfl
    | succ n ih => rw [psum, psum, ih (by omega), histogram_rd _ _ (by omega)]
  exact this c (by omega)

theorem below_map {α : Type} (key : α → Nat) (L : List α) (c : Nat) :
    below key L c = ((L.map key).filter (fun x => x < c)).length := by
  simp only [below, List.filter_map, List.length_map]
  rfl

/-! ### ensureBuf -/

theorem ensureBuf_size_ge (buf : Array Nat) (m : Nat) : m ≤ (ensureBuf buf m).size := by
  unfold ensureBuf; split
  · simp
  · omega

/-! ### fillRange is putList -/

theorem putList_cons_some {e : Nat × Nat} {es : List (Nat × Nat)} {bk data : Array Nat}
    {r : Array Nat × Array Nat} (h : putList (e :: es) bk data = some r) :
    ∃ m, put bk data e.1 e.2 = some m ∧ putList es m.1 m.2 = some r := by
  rw [putList] at h
  cases hp : put bk data e.1 e.2 with
  | none => rw [hp] at h; cases h
  | some m => rw [hp] at h; exact ⟨m, rfl, h⟩

theorem putList_append_some {A B : List (Nat × Nat)} {bk data : Array Nat} {r : Array Nat × Array Nat}
    (h : putList (A ++ B) bk data = some r) :
    ∃ m, putList A bk data = some m ∧ putList B m.1 m.2 = some r := by
  rw [putList_append] at h
  exact Option.bind_eq_some_iff.1 h

theorem fillRange_eq (src : Array Nat) (off : Nat) (k i : Nat) (bk data : Array Nat) (h : i + k ≤ src.size) :
    fillRange src off k i bk data
      = putList ((List.range' i k).map (fun i => (rd src i, (i - off) * 256 + rd src i))) bk data := by
  induction k generalizing i bk data with
  | zero => simp [fillRange, putList]
  | succ k ih =>
    have hi : i < src.size := by omega
    simp only [fillRange, hi, dite_true, List.range'_succ, List.map_cons, putList, rd_eq_getElem hi]
    cases put bk data (rd src i) ((i - off) * 256 + rd src i) with
    | none => rfl
    | some r => exact ih (i + 1) r.1 r.2 (by omega)

/-! ### the scatter phase of `mergeTPSI` -/

/-- The scatter loop started from the bucket starts computed from the histogram of the keys: bucket
`c` of the entries lands, in input order, at `below c ..`; nothing else moves. -/
theorem putList_histogram (src : Array Nat) (hb : ∀ b ∈ src.toList, b < 256) (E : List (Nat × Nat))
    (hk : E.map (·.1) = src.toList) (data : Array Nat) (hsz : src.size ≤ data.size) :
    ∃ bk' data', putList E (exclSums (histogram src) 0) data = some (bk', data') ∧
      data'.size = data.size ∧
      (∀ c, c < 256 → ∀ k, k < (ebucket E c).length →
        rd data' (below (·.1) E c + k) = ((ebucket E c).getD k (0, 0)).2) ∧
      (∀ a, src.size ≤ a → rd data' a = rd data a) := by
  have hlen : E.length = src.size := by
    have := congrArg List.length hk
    simpa using this
  have hfit : ∀ c, below (·.1) E c + (ebucket E c).length ≤ src.size := fun c =>
    hlen ▸ below_bucket_le_length _ E c
  have h256 := exclSums_size (histogram src) 0
  obtain ⟨bk', data', hrun, hsize, _, _, hD, hU⟩ :=
    putList_spec E (below (·.1) E) (exclSums (histogram src) 0) data
      (fun e he => h256 ▸ hb _ (hk ▸ List.mem_map.2 ⟨e, he, rfl⟩))
      (fun c hc => by rw [starts_rd _ _ _ (h256 ▸ hc), below_map, hk, Nat.zero_add])
      (fun c c2 _ _ hne => (Nat.lt_or_gt_of_ne hne).imp (below_mono _ _) (below_mono _ _))
      (fun c _ => Nat.le_trans (hfit c) hsz)
  rw [h256] at hD hU
  refine ⟨bk', data', hrun, hsize, hD, fun a ha => hU a ?_⟩
  intro c _ ⟨_, h2⟩
  have := hfit c
  omega

theorem range_pieces (n p0 : Nat) (h : 1 ≤ p0 ∧ p0 ≤ n) :
    0 :: (List.range' 1 (p0 - 1) ++ List.range' p0 (n - p0)) = List.range n := by
  have e1 : List.range' 1 (p0 - 1) ++ List.range' p0 (n - p0) = List.range' 1 (n - 1) := by
    have : p0 = 1 + (p0 - 1) := by omega
    conv => lhs; rhs; rw [this]
    rw [List.range'_append_1]
    congr 1; omega
  rw [e1, List.range_eq_range']
  have : n = (n - 1) + 1 := by omega
  conv => rhs; rw [this, List.range'_succ]

/-- the entries the three loops of `inverseMergeTPSI` scatter for ANY source and any accepted first
index: the marker row, the rows before the primary index, the rows after it (`j - 1`, `j - 0`: the
`off` of the two `fillRange` calls, kept in that shape so that `fillRange_eq` rewrites to it) -/
def rawEntries (src : Array Nat) (p0 : Nat) : List (Nat × Nat) :=
  (rd src 0, 0xFF00 + rd src 0) ::
    ((List.range' 1 (p0 - 1)).map (fun j => (rd src j, (j - 1) * 256 + rd src j)) ++
     (List.range' p0 (src.size - p0)).map (fun j => (rd src j, (j - 0) * 256 + rd src j)))

theorem rawEntries_keys (src : Array Nat) (p0 : Nat) (h : 1 ≤ p0 ∧ p0 ≤ src.size) :
    (rawEntries src p0).map (·.1) = src.toList := by
  have : (rawEntries src p0).map (·.1)
      = (0 :: (List.range' 1 (p0 - 1) ++ List.range' p0 (src.size - p0))).map (fun j => rd src j) := by
    simp [rawEntries, List.map_map, Function.comp_def]
  rw [this, range_pieces _ _ h]
  apply List.ext_getElem
  · simp
  · intro i h1 h2
    simp only [List.getElem_map, List.getElem_range, Array.getElem_toList]
    rw [rd_eq_getElem]

/-- `inverseMergeTPSI` with an accepted first index is one scatter over `rawEntries` followed by the
decoding -/
theorem mergeTPSI_eq (buf : Array Nat) (pidx : List Nat) (src : Array Nat)
    (h : 1 ≤ pidx.getD 0 0 ∧ pidx.getD 0 0 ≤ src.size) (h63 : pidx.getD 0 0 < 2 ^ 63)
    {r : Array Nat × Array Nat}
    (hr : putList (rawEntries src (pidx.getD 0 0)) (exclSums (histogram src) 0)
      (ensureBuf buf (max src.size 256)) = some r) :
    mergeTPSI buf pidx src = (mergeDecode r.2 pidx src.size (pidx.getD 0 0), r.2) := by
  have hc : ¬ (pidx.getD 0 0 = 0 ∨ pidx.getD 0 0 ≥ 2 ^ 63 ∨ pidx.getD 0 0 > src.size) := by omega
  obtain ⟨r1, h1, hr⟩ := putList_cons_some hr
  obtain ⟨r2, h2, h3⟩ := putList_append_some hr
  rw [← fillRange_eq src 1 _ 1 _ _ (by omega)] at h2
  rw [← fillRange_eq src 0 _ _ _ _ (by omega)] at h3
  -- stated in the very form the model has: a rewrite that matches only up to unfolding makes the kernel
  -- compare the two `match` cascades, which is slow
  have h1 : put (exclSums (histogram src) 0) (ensureBuf buf (max src.size 256)) (src.getD 0 0)
      (0xFF00 + src.getD 0 0) = some r1 := h1
  unfold mergeTPSI
  rw [if_neg hc]
  dsimp only
  rw [h1]
  dsimp only
  rw [h2]
  dsimp only
  rw [h3]

/-! ### the two branches of `mergeDecode` -/

theorem getBWTChunks_eq_eight {n : Nat} : getBWTChunks n = 8 ↔ 256 ≤ n := by
  unfold getBWTChunks THRESHOLD1
  split <;> omega

theorem mergeDecode_one {count : Nat} (data : Array Nat) (pidx : List Nat) (p0 : Nat)
    (hc : getBWTChunks count ≠ 8) :
    mergeDecode data pidx count p0 =
      match lanesRun data count [(p0 - 1, #[])] with
      | none => .fault
      | some ls => .ok (concatLanes ls) := by
  unfold mergeDecode
  rw [if_pos hc]
  rfl

theorem ck8 (n : Nat) : (if (n >>> 3) * 8 ≠ n then (n >>> 3) + 1 else n >>> 3) = chunkSize n 8 := by
  simp [chunkSize, Nat.shiftRight_eq_div_pow]

theorem chunkSize8_bounds (n : Nat) (h : 256 ≤ n) :
    7 * chunkSize n 8 < n ∧ n ≤ 8 * chunkSize n 8 ∧ 0 < chunkSize n 8 := by
  unfold chunkSize
  split <;> omega

theorem mergeDecode_eight_err {count : Nat} (data : Array Nat) (pidx : List Nat) (p0 : Nat)
    (hc : getBWTChunks count = 8) {k : Nat} (hk : k < 8)
    (h : toInt32 (usub1 (pidx.getD k 0)) < 0 ∨ toInt32 data.size ≤ toInt32 (usub1 (pidx.getD k 0))) :
    mergeDecode data pidx count p0 = .err "pidx" := by
  have hmem : toInt32 (usub1 (pidx.getD k 0)) ∈ (List.range 8).map (fun k => toInt32 (usub1 (pidx.getD k 0))) :=
    List.mem_map.2 ⟨k, List.mem_range.2 hk, rfl⟩
  unfold mergeDecode
  rw [if_neg (fun h => h hc)]
  dsimp only
  rcases h with h | h
  · have : ((List.range 8).map fun k => toInt32 (usub1 (pidx.getD k 0))).any (fun t => decide (t < 0)) = true :=
      List.any_eq_true.2 ⟨_, hmem, decide_eq_true_iff.2 h⟩
    rw [if_pos this]
  · have : ((List.range 8).map fun k => toInt32 (usub1 (pidx.getD k 0))).any
        (fun t => decide (t ≥ toInt32 data.size)) = true :=
      List.any_eq_true.2 ⟨_, hmem, decide_eq_true_iff.2 h⟩
    rw [if_pos this, ite_self]

theorem mergeDecode_eight_ok {count : Nat} (data : Array Nat) (pidx : List Nat) (p0 : Nat)
    (hc : getBWTChunks count = 8)
    (h : ∀ k, k < 8 → 0 ≤ toInt32 (usub1 (pidx.getD k 0)) ∧
      toInt32 (usub1 (pidx.getD k 0)) < toInt32 data.size)
    {ls1 ls2 : List (Nat × Array Nat)}
    (h1 : lanesRun data (count - chunkSize count 8 * 7)
      ((List.range 8).map fun k => ((toInt32 (usub1 (pidx.getD k 0))).toNat, #[])) = some ls1)
    (h2 : lanesRun data (chunkSize count 8 - (count - chunkSize count 8 * 7)) (ls1.take 7) = some ls2) :
    mergeDecode data pidx count p0 = .ok (concatLanes (ls2 ++ ls1.drop 7)) := by
  have hb := (chunkSize8_bounds count (getBWTChunks_eq_eight.1 hc)).1
  have hneg : ((List.range 8).map fun k => toInt32 (usub1 (pidx.getD k 0))).any (· < 0) = false := by
    rw [List.any_eq_false]
    intro t ht
    obtain ⟨k, hk, rfl⟩ := List.mem_map.1 ht
    have := (h k (List.mem_range.1 hk)).1
    simpa using this
  have hbig : ((List.range 8).map fun k => toInt32 (usub1 (pidx.getD k 0))).any
      (fun t => t ≥ toInt32 data.size) = false := by
    rw [List.any_eq_false]
    intro t ht
    obtain ⟨k, hk, rfl⟩ := List.mem_map.1 ht
    have := (h k (List.mem_range.1 hk)).2
    simpa using this
  unfold mergeDecode
  rw [if_neg (fun h => h hc)]
  simp only [ck8, hneg, hbig, Bool.false_eq_true, if_false, if_neg (Nat.not_lt.2 (Nat.le_of_lt hb)),
    List.map_map, Function.comp_def, Array.emptyWithCapacity_eq, h1, h2]

/-! ### the decoding lanes -/

/-- a lane after one step, as long as it points inside the table -/
def laneNext (data : Array Nat) (l : Nat × Array Nat) : Nat × Array Nat :=
  (rd data l.1 / 256, l.2.push (rd data l.1 % 256))

def laneIter (data : Array Nat) : Nat → Nat × Array Nat → Nat × Array Nat
  | 0, l => l
  | k + 1, l => laneIter data k (laneNext data l)

theorem laneStep_eq {data : Array Nat} {l : Nat × Array Nat} (h : l.1 < data.size) :
    laneStep data l = some (laneNext data l) := by
  obtain ⟨t, d⟩ := l
  have h : t < data.size := h
  simp only [laneStep, laneNext, h, dite_true, rd_eq_getElem h]

theorem mapM_eq_map {α β : Type} (f : α → Option β) (g : α → β) (l : List α)
    (h : ∀ a ∈ l, f a = some (g a)) : l.mapM f = some (l.map g) := by
  induction l with
  | nil => rfl
  | cons a as ih =>
    rw [List.mapM_cons, h a List.mem_cons_self, ih fun b hb => h b (List.mem_cons_of_mem _ hb)]
    rfl

theorem lanesRun_eq (data : Array Nat) (k : Nat) (ls : List (Nat × Array Nat))
    (h : ∀ l ∈ ls, ∀ j, j < k → (laneIter data j l).1 < data.size) :
    lanesRun data k ls = some (ls.map (laneIter data k)) := by
  induction k generalizing ls with
  | zero =>
    have : ls.map (laneIter data 0) = ls.map id := List.map_congr_left fun _ _ => rfl
    rw [lanesRun, this, List.map_id]
  | succ k ih =>
    have h0 : ls.mapM (laneStep data) = some (ls.map (laneNext data)) :=
      mapM_eq_map _ _ _ fun l hl => laneStep_eq (h l hl 0 (Nat.succ_pos k))
    rw [lanesRun, h0]
    dsimp only
    rw [ih, List.map_map]
    · exact congrArg some (List.map_congr_left fun _ _ => rfl)
    · intro l hl j hj
      obtain ⟨l0, hl0, rfl⟩ := List.mem_map.1 hl
      exact h l0 hl0 (j + 1) (Nat.succ_lt_succ hj)

end Kanzi.BWT
