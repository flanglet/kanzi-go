/-
The acceptor of file-system effect traces (`Kanzi.Model.Cli`).  Two predicates on its phases,
`srcIntact` and `outDone`, are carried along an accepted trace; from them: in every prefix the
source is intact or the destination is complete and closed (`acc_prefix_safe`), the source keeps
its content until a final `unlink` (`acc_src_untouched`), and the trace of a `Task` is accepted and
leaves all chunks in the destination (`trace_accepted`, `trace_output`).
-/
import Kanzi.Model.Cli

namespace Kanzi.Cli

/-- acceptance from a phase, without the position counter -/
def acc : Ph → List Effect → Bool
  | _, [] => true
  | ph, e :: es => match accStep ph e with
    | some ph' => acc ph' es
    | none => false

theorem accRun_isNone (es : List Effect) : ∀ ph k, (accRun ph k es).isNone = acc ph es := by
  induction es with
  | nil => intros; rfl
  | cons e es ih =>
    intro ph k
    cases h : accStep ph e <;> simp [accRun, acc, h, ih]

theorem cliAccepts_eq (es : List Effect) : cliAccepts es = acc .start es := accRun_isNone es _ _

def Ph.srcIntact : Ph → Bool
  | .removed => false
  | _ => true

def Ph.outDone : Ph → Bool
  | .closed | .removed => true
  | _ => false

variable {i o : Path}

theorem step_src {ph ph' : Ph} {e : Effect} {s : St} {orig : Option Content} (hio : i ≠ o)
    (h : accStep ph e = some ph') (h1 : ph.srcIntact = true → s.fs i = orig) :
    ph'.srcIntact = true → (step i o s e).fs i = orig := by
  fun_cases accStep ph e <;> simp [accStep, *] at h <;> subst h <;> simp_all [step, upd, tpath, Ph.srcIntact]

theorem step_out {ph ph' : Ph} {e : Effect} {s : St}
    (h : accStep ph e = some ph') (h2 : ph.outDone = true → s.outOpen = false) :
    ph'.outDone = true → (step i o s e).outOpen = false := by
  fun_cases accStep ph e <;> simp [accStep, *] at h <;> subst h <;> simp_all [step, Ph.outDone]

theorem acc_cons {ph : Ph} {e : Effect} {es : List Effect} (h : acc ph (e :: es) = true) :
    ∃ ph', accStep ph e = some ph' ∧ acc ph' es = true := by
  cases hst : accStep ph e with
  | none => simp [acc, hst] at h
  | some ph' => exact ⟨ph', rfl, by simpa [acc, hst] using h⟩

theorem accStep_srcIntact {ph ph' : Ph} {e : Effect} (h : accStep ph e = some ph') :
    ph.srcIntact = true := by
  cases ph <;> first | rfl | simp [accStep] at h

theorem accStep_removed {ph : Ph} {e : Effect} (h : accStep ph e = some .removed) :
    e = .unlink .inp := by
  fun_cases accStep ph e <;> first | rfl | simp [accStep, *] at h

theorem Ph.outDone_of_removed {ph : Ph} (h : ph.srcIntact = false) : ph.outDone = true := by
  cases ph <;> first | rfl | cases h

theorem acc_prefix_safe (hio : i ≠ o) (orig : Option Content) :
    ∀ (r : List Effect) (ph : Ph) (s : St), acc ph r = true →
      (ph.srcIntact = true → s.fs i = orig) → (ph.outDone = true → s.outOpen = false) →
      ∀ k, (exec i o s (r.take k)).fs i = orig ∨
        ((exec i o s (r.take k)).fs o = (exec i o s r).fs o ∧ (exec i o s (r.take k)).outOpen = false) := by
  intro r
  induction r with
  | nil =>
    intro ph s _ h1 h2 k
    rw [List.take_nil]
    cases hp : ph.srcIntact
    · exact Or.inr ⟨rfl, h2 (Ph.outDone_of_removed hp)⟩
    · exact Or.inl (h1 hp)
  | cons e r ih =>
    intro ph s ha h1 h2 k
    obtain ⟨ph', hst, ha'⟩ := acc_cons ha
    cases k with
    | zero => exact Or.inl (h1 (accStep_srcIntact hst))
    | succ k => exact ih ph' (step i o s e) ha' (step_src hio hst h1) (step_out hst h2) k

theorem acc_src_untouched (hio : i ≠ o) (orig : Option Content) :
    ∀ (r : List Effect) (ph : Ph) (s : St), acc ph r = true → ph.srcIntact = true → s.fs i = orig →
      ∀ k, (k < r.length ∨ Effect.unlink .inp ∉ r) → (exec i o s (r.take k)).fs i = orig := by
  intro r
  induction r with
  | nil => intro ph s _ _ h _ _; rw [List.take_nil]; exact h
  | cons e r ih =>
    intro ph s ha hp h1 k hk
    obtain ⟨ph', hst, ha'⟩ := acc_cons ha
    cases k with
    | zero => exact h1
    | succ k =>
      cases hp' : ph'.srcIntact with
      | false =>
        -- `e` is the `unlink`, and it is the last effect
        have hr : ph' = .removed := by cases ph' <;> first | rfl | cases hp'
        subst hr
        cases r with
        | nil =>
          rcases hk with hk | hk
          · simp at hk
          · exact absurd (List.mem_singleton.mpr (accStep_removed hst).symm) hk
        | cons e' r' =>
          obtain ⟨_, hst', _⟩ := acc_cons ha'
          exact absurd (accStep_srcIntact hst') (by decide)
      | true =>
        refine ih ph' (step i o s e) ha' hp' (step_src hio hst (fun _ => h1) hp') k ?_
        rcases hk with hk | hk
        · exact Or.inl (Nat.lt_of_succ_lt_succ hk)
        · exact Or.inr (fun hm => hk (List.mem_cons_of_mem _ hm))

theorem acc_writes (ws : List Nat) (rest : List Effect) :
    acc .opened (ws.map (Effect.write .out) ++ rest) = acc .opened rest := by
  induction ws with
  | nil => rfl
  | cons w ws ih => simpa [acc, accStep] using ih

theorem trace_accepted (t : Task) (fs : FS) : cliAccepts (t.trace fs) = true := by
  rw [cliAccepts_eq]
  unfold Task.trace
  split
  · rfl
  · cases t.remove <;> simp [acc, accStep, acc_writes, List.append_assoc]

theorem exec_writes (s : St) (ws : List Nat) :
    (exec i o s (ws.map (Effect.write .out))).fs o = some (((s.fs o).getD []) ++ ws) ∨ ws = [] := by
  induction ws generalizing s with
  | nil => exact Or.inr rfl
  | cons w ws ih =>
    left
    rcases ih (step i o s (.write .out w)) with h | h
    · simpa [exec, step, upd, tpath] using h
    · subst h; simp [exec, step, upd, tpath]

theorem exec_append (s : St) (a b : List Effect) : exec i o s (a ++ b) = exec i o (exec i o s a) b := by
  simp [exec, List.foldl_append]

theorem trace_output (t : Task) (fs : FS) (hio : t.inp ≠ t.out) (hne : t.trace fs ≠ []) :
    (exec t.inp t.out ⟨fs, false⟩ (t.trace fs)).fs t.out = some t.chunks := by
  unfold Task.trace at hne ⊢
  split at hne
  · exact absurd rfl hne
  · rename_i hc
    simp only [hc]
    have hoi : ¬ t.out = t.inp := fun h => hio h.symm
    rw [if_neg (by simp), exec_append, exec_append]
    rcases exec_writes (i := t.inp) (o := t.out)
        (exec t.inp t.out ⟨fs, false⟩ [.openWr .out (!t.force), .openRd .inp]) t.chunks with h | h
    · cases hr : t.remove <;> simp [exec, step, upd, tpath, hoi] at h ⊢ <;> exact h
    · cases hr : t.remove <;> simp [h, exec, step, upd, tpath, hoi]

end Kanzi.Cli
