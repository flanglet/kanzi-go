/-
Text codecs: the pieces of Forward never fault (no index / slice out of range, no nil slice, model fuel sufficient):
an accepted block has a byte that is not a space, so the leading spaces end inside it; `emitSymbols` stays within
its bound; the dictionary look-up finds no nil `ptr`; the token and the pending literals fit.  Also what
`emitSymbols` stores (`encLits`), which the round trip builds on.  The loop and the call (`textForwardS_total`) follow
in TextRefine.lean, from the refinement of the list specification `encL`.
-/
import Kanzi.Proofs.TextDict
import Kanzi.Proofs.AliasBase

namespace Kanzi.Text
open Kanzi.RLT (Out Res wr fq histogram detectSimpleType)

/-! ## the block analysis: an accepted block contains a byte that is not a space -/

theorem or80_and80 (x : Nat) : (MASK_NOT_TEXT ||| x) &&& MASK_NOT_TEXT ≠ 0 := by
  rw [Nat.and_or_distrib_right]
  have : MASK_NOT_TEXT &&& MASK_NOT_TEXT = 0x80 := by decide
  rw [this]
  have := @Nat.left_le_or 0x80 (x &&& MASK_NOT_TEXT)
  omega

theorem ite_and80 {c : Prop} [Decidable c] {x y : Nat} (hx : x &&& MASK_NOT_TEXT ≠ 0) (hy : y &&& MASK_NOT_TEXT ≠ 0) :
    (if c then x else y) &&& MASK_NOT_TEXT ≠ 0 := by
  split
  · exact hx
  · exact hy

theorem detectTextType_bit (f0 f1 : Array Nat) (count : Nat) : detectTextType f0 f1 count &&& MASK_NOT_TEXT ≠ 0 := by
  have h0 : MASK_NOT_TEXT &&& MASK_NOT_TEXT ≠ 0 := by decide
  unfold detectTextType
  exact ite_and80 (or80_and80 _) (ite_and80 h0 (ite_and80 h0 (ite_and80 (or80_and80 _) h0)))

theorem computeStats_accepted (strict : Bool) (src : List Nat) (h : computeStats strict src &&& MASK_NOT_TEXT = 0) :
    notText strict (histogram src) src.length = false ∧
    computeStats strict src =
      xmlFlag (histogram src) (order1Go src 0 (Array.replicate 65536 0)) src.length
        (src.length - sumIf (histogram src) (fun _ => true) 128) |||
      crlfFlag (histogram src) (order1Go src 0 (Array.replicate 65536 0)) := by
  unfold computeStats at h ⊢
  by_cases hm : strict = false ∧ Kanzi.FSD.getMagicType src ≠ 0
  · rw [if_pos hm] at h
    exact absurd h (by decide)
  rw [if_neg hm] at h ⊢
  simp only at h ⊢
  by_cases hnt : notText strict (histogram src) src.length = true
  · rw [if_pos hnt] at h
    exact absurd h (detectTextType_bit _ _ _)
  rw [if_neg hnt]
  exact ⟨Bool.eq_false_iff.mpr hnt, rfl⟩

theorem foldl_add_pos (f : Nat → Nat) : ∀ (l : List Nat) (s0 : Nat),
    l.foldl (fun s i => s + f i) s0 > s0 → ∃ i ∈ l, f i > 0
  | [], s0, h => by simp at h
  | i :: l, s0, h => by
    rw [List.foldl_cons] at h
    by_cases hi : f i > 0
    · exact ⟨i, List.mem_cons_self .., hi⟩
    · have : s0 + f i = s0 := by omega
      rw [this] at h
      obtain ⟨j, hj, hf⟩ := foldl_add_pos f l s0 h
      exact ⟨j, List.mem_cons_of_mem _ hj, hf⟩

/-- a block that `computeTextStats` accepts as text contains a byte other than a space (a letter, a CR or a LF:
    `notText` wants them to make up a quarter of the block), so the scan over the leading spaces stops inside it -/
theorem accepted_nonspace (strict : Bool) (src : List Nat) (h4 : 4 ≤ src.length)
    (h : computeStats strict src &&& MASK_NOT_TEXT = 0) : ∃ c ∈ src, c ≠ 32 := by
  have hnt' := (computeStats_accepted strict src h).1
  unfold notText at hnt'
  simp only at hnt'
  split at hnt'
  · exact absurd hnt' (by decide)
  · have h1 : ¬ (fq (histogram src) CR + fq (histogram src) LF + sumIf (histogram src) isText 128 <
        src.length / 4) := of_decide_eq_false (Bool.or_eq_false_iff.mp hnt').1
    have hpos : fq (histogram src) CR + fq (histogram src) LF + sumIf (histogram src) isText 128 > 0 := by
      omega
    have key : ∃ c, c < 256 ∧ c ≠ 32 ∧ fq (histogram src) c > 0 := by
      by_cases hcr : fq (histogram src) CR > 0
      · exact ⟨CR, by decide, by decide, hcr⟩
      · by_cases hlf : fq (histogram src) LF > 0
        · exact ⟨LF, by decide, by decide, hlf⟩
        · have hs : sumIf (histogram src) isText 128 > 0 := by omega
          unfold sumIf at hs
          obtain ⟨i, hi, hf⟩ := foldl_add_pos (fq (histogram src)) _ 0 hs
          rw [List.mem_filter, List.mem_range] at hi
          refine ⟨i, by omega, ?_, hf⟩
          intro e
          rw [e] at hi
          exact absurd hi.2 (by decide)
    obtain ⟨c, hc, hne, hf⟩ := key
    refine ⟨c, ?_, hne⟩
    rw [Kanzi.Alias.fq_histogram src c hc] at hf
    exact List.count_pos_iff.mp hf

/-! ## emitSymbols: what it stores, and that it stays within the bound -/

/-- the bytes codec 1 stores for one source byte -/
def sym1 (crlf : Bool) (ssz c : Nat) : List Nat :=
  if c = ESCAPE_TOKEN1 ∨ c = ESCAPE_TOKEN2 then
    ESCAPE_TOKEN1 :: wordIndex1 (if c = ESCAPE_TOKEN1 then ssz - 1 else ssz - 2)
  else if c = CR ∧ crlf = true then []
  else [c]

def symE (tc2 crlf : Bool) (ssz c : Nat) : List Nat := if tc2 then sym2 crlf c else sym1 crlf ssz c

/-- the bytes `emitSymbols` stores for the literals `X` when nothing overflows -/
def encLits (tc2 crlf : Bool) (ssz : Nat) (X : List Nat) : List Nat := X.flatMap (symE tc2 crlf ssz)

theorem lenIdx_eq (idx : Nat) :
    (if idx ≥ THRESHOLD2 then 3 else if idx < THRESHOLD1 then 1 else 2) = (wordIndex1 idx).length := by
  rw [wordIndex1_length]
  have h1 : THRESHOLD1 = 128 := rfl
  have h2 : THRESHOLD2 = 16384 := rfl
  rw [h1, h2]
  by_cases c1 : idx < 128
  · rw [if_neg (by omega), if_pos c1, if_pos c1]
  · by_cases c2 : idx < 16384
    · rw [if_neg (by omega), if_neg c1, if_neg c1, if_pos c2]
    · rw [if_pos (by omega), if_neg c1, if_neg c2]

theorem emitSymbols1_spec (crlf : Bool) (ssz dstEnd : Nat) : ∀ (bs : List Nat) (out o : Array Nat),
    emitSymbols1 crlf ssz dstEnd bs out = some o →
      o = out ++ bs.flatMap (sym1 crlf ssz) ∧ (out.size ≤ dstEnd → o.size ≤ dstEnd)
  | [], out, o, h => by
    unfold emitSymbols1 at h
    cases h
    exact ⟨by simp, id⟩
  | cur :: rest, out, o, h => by
    unfold emitSymbols1 at h
    rw [List.flatMap_cons]
    unfold sym1
    by_cases c0 : out.size ≥ dstEnd
    · rw [if_pos c0] at h; cases h
    · rw [if_neg c0] at h
      by_cases c1 : cur = ESCAPE_TOKEN1 ∨ cur = ESCAPE_TOKEN2
      · rw [if_pos c1] at h
        rw [if_pos c1]
        simp only at h
        generalize (if cur = ESCAPE_TOKEN1 then ssz - 1 else ssz - 2) = idx at h ⊢
        rw [lenIdx_eq] at h
        by_cases c2 : out.size + 1 + (wordIndex1 idx).length ≥ dstEnd
        · rw [if_pos c2] at h; cases h
        · rw [if_neg c2] at h
          obtain ⟨e, hs⟩ := emitSymbols1_spec crlf ssz dstEnd rest _ o h
          refine ⟨?_, fun _ => hs ?_⟩
          · rw [e, push_eq_appendList, appendList_assoc, appendList_assoc]; rfl
          · rw [size_appendList, Array.size_push]; omega
      · rw [if_neg c1] at h
        rw [if_neg c1]
        by_cases c3 : cur = CR ∧ crlf = true
        · rw [if_pos c3] at h
          rw [if_pos c3]
          exact emitSymbols1_spec crlf ssz dstEnd rest _ o h
        · rw [if_neg c3] at h
          rw [if_neg c3]
          obtain ⟨e, hs⟩ := emitSymbols1_spec crlf ssz dstEnd rest _ o h
          refine ⟨?_, fun _ => hs ?_⟩
          · rw [e, push_eq_appendList, appendList_assoc]; rfl
          · rw [Array.size_push]; omega

theorem sym2_length (crlf : Bool) (c : Nat) : (sym2 crlf c).length ≤ 2 := by
  unfold sym2
  by_cases c1 : c = ESCAPE_TOKEN1
  · rw [if_pos c1]; exact Nat.le_refl _
  · rw [if_neg c1]
    by_cases c2 : c = CR
    · rw [if_pos c2]; cases crlf <;> simp
    · rw [if_neg c2]
      by_cases c3 : c ≥ 0x80
      · rw [if_pos c3]; exact Nat.le_refl _
      · rw [if_neg c3]; simp

theorem flatMap_sym2_length (crlf : Bool) : ∀ bs : List Nat, (bs.flatMap (sym2 crlf)).length ≤ 2 * bs.length
  | [] => by simp
  | c :: bs => by
    rw [List.flatMap_cons, List.length_append, List.length_cons]
    have := sym2_length crlf c
    have := flatMap_sym2_length crlf bs
    omega

theorem emitSymbols2Slow_spec (crlf : Bool) (dstEnd : Nat) : ∀ (bs : List Nat) (out o : Array Nat),
    emitSymbols2Slow crlf dstEnd bs out = some o →
      o = out ++ bs.flatMap (sym2 crlf) ∧ (out.size ≤ dstEnd → o.size ≤ dstEnd)
  | [], out, o, h => by
    unfold emitSymbols2Slow at h
    cases h
    exact ⟨by simp, id⟩
  | cur :: rest, out, o, h => by
    unfold emitSymbols2Slow at h
    rw [List.flatMap_cons]
    unfold sym2
    by_cases c1 : cur = ESCAPE_TOKEN1
    · rw [if_pos c1] at h
      rw [if_pos c1]
      by_cases c2 : out.size + 1 ≥ dstEnd
      · rw [if_pos c2] at h; cases h
      · rw [if_neg c2] at h
        obtain ⟨e, hs⟩ := emitSymbols2Slow_spec crlf dstEnd rest _ o h
        refine ⟨?_, fun _ => hs ?_⟩
        · rw [e, push_eq_appendList, push_eq_appendList, appendList_assoc, appendList_assoc]; rfl
        · rw [Array.size_push, Array.size_push]; omega
    · rw [if_neg c1] at h
      rw [if_neg c1]
      by_cases c2 : cur = CR
      · rw [if_pos c2] at h
        rw [if_pos c2]
        by_cases c3 : crlf = true
        · rw [if_pos c3] at h
          rw [if_pos c3]
          exact emitSymbols2Slow_spec crlf dstEnd rest _ o h
        · rw [if_neg c3] at h
          rw [if_neg c3]
          by_cases c4 : out.size ≥ dstEnd
          · rw [if_pos c4] at h; cases h
          · rw [if_neg c4] at h
            obtain ⟨e, hs⟩ := emitSymbols2Slow_spec crlf dstEnd rest _ o h
            refine ⟨?_, fun _ => hs ?_⟩
            · rw [e, push_eq_appendList, appendList_assoc]; rfl
            · rw [Array.size_push]; omega
      · rw [if_neg c2] at h
        rw [if_neg c2]
        by_cases c3 : cur ≥ 0x80
        · rw [if_pos c3] at h
          rw [if_pos c3]
          by_cases c4 : out.size ≥ dstEnd
          · rw [if_pos c4] at h; cases h
          · rw [if_neg c4] at h
            by_cases c5 : out.size + 1 ≥ dstEnd
            · rw [if_pos c5] at h; cases h
            · rw [if_neg c5] at h
              obtain ⟨e, hs⟩ := emitSymbols2Slow_spec crlf dstEnd rest _ o h
              refine ⟨?_, fun _ => hs ?_⟩
              · rw [e, push_eq_appendList, push_eq_appendList, appendList_assoc, appendList_assoc]; rfl
              · rw [Array.size_push, Array.size_push]; omega
        · rw [if_neg c3] at h
          rw [if_neg c3]
          by_cases c4 : out.size ≥ dstEnd
          · rw [if_pos c4] at h; cases h
          · rw [if_neg c4] at h
            obtain ⟨e, hs⟩ := emitSymbols2Slow_spec crlf dstEnd rest _ o h
            refine ⟨?_, fun _ => hs ?_⟩
            · rw [e, push_eq_appendList, appendList_assoc]; rfl
            · rw [Array.size_push]; omega

theorem emitSymbols_spec (tc2 crlf : Bool) (ssz dstEnd : Nat) (bs : List Nat) (out o : Array Nat)
    (h : emitSymbols tc2 crlf ssz dstEnd bs out = some o) :
    o = out ++ encLits tc2 crlf ssz bs ∧ (out.size ≤ dstEnd → o.size ≤ dstEnd) := by
  unfold emitSymbols at h
  unfold encLits symE
  cases tc2
  · simp only [Bool.false_eq_true, if_false] at h ⊢
    exact emitSymbols1_spec crlf ssz dstEnd bs out o h
  · simp only [if_true] at h ⊢
    unfold emitSymbols2 at h
    by_cases hfast : 2 * bs.length < dstEnd - out.size
    · rw [if_pos hfast] at h
      cases h
      refine ⟨rfl, fun _ => ?_⟩
      rw [size_appendList]
      have := flatMap_sym2_length crlf bs
      omega
    · rw [if_neg hfast] at h
      exact emitSymbols2Slow_spec crlf dstEnd bs out o h

theorem emitSymbols_pure (tc2 crlf : Bool) (ssz dstEnd : Nat) (bs : List Nat) (out o : Array Nat)
    (h : emitSymbols tc2 crlf ssz dstEnd bs out = some o) : o = out ++ encLits tc2 crlf ssz bs :=
  (emitSymbols_spec tc2 crlf ssz dstEnd bs out o h).1

theorem emitSymbols_size (tc2 crlf : Bool) (ssz dstEnd : Nat) (bs : List Nat) (out o : Array Nat)
    (h : emitSymbols tc2 crlf ssz dstEnd bs out = some o) (hb : out.size ≤ dstEnd) : o.size ≤ dstEnd :=
  (emitSymbols_spec tc2 crlf ssz dstEnd bs out o h).2 hb

/-! ## the leading spaces -/

theorem wr_ok (dstLen : Nat) (out : Array Nat) (bs : List Nat) (h : out.size + bs.length ≤ dstLen) :
    wr dstLen out bs = .ok (out ++ bs) := by
  unfold Kanzi.RLT.wr
  rw [if_pos (Or.inr h)]

/-- the leading spaces of a block that has another byte at `k`: copied up to the first other byte `p` -/
theorem leadSpaces_spec (a : Array Nat) (dstLen k : Nat) (hk : k < a.size) (hks : a.getD k 0 ≠ 32)
    (hd : a.size ≤ dstLen) : ∀ (f i : Nat) (out : Array Nat), i ≤ k → a.size < f + i → out.size = i + 1 →
      ∃ p, leadSpaces a dstLen f i out = .ok (p, out ++ List.replicate (p - i) 32) ∧ i ≤ p ∧ p ≤ k ∧
        a.getD p 0 ≠ 32 ∧ ∀ j, i ≤ j → j < p → a.getD j 0 = 32
  | 0, i, out, hik, hf, _ => by omega
  | f + 1, i, out, hik, hf, ho => by
    unfold leadSpaces
    by_cases c : i < a.size ∧ a.getD i 0 = 32
    · rw [if_pos c]
      have hne : i ≠ k := fun e => hks (e ▸ c.2)
      rw [wr_ok dstLen out [32] (by simp only [List.length_cons, List.length_nil]; omega)]
      simp only [Kanzi.RLT.Out.bind]
      obtain ⟨p, h1, h2, h3, h4, h5⟩ := leadSpaces_spec a dstLen k hk hks hd f (i + 1) (out ++ [32])
        (by omega) (by omega) (by rw [size_appendList]; simp only [List.length_cons, List.length_nil]; omega)
      refine ⟨p, ?_, by omega, h3, h4, fun j hj1 hj2 => ?_⟩
      · rw [h1, appendList_assoc, show p - i = (p - (i + 1)) + 1 by omega, List.replicate_succ]
        rfl
      · by_cases cj : j = i
        · rw [cj]; exact c.2
        · exact h5 j (by omega) hj2
    · rw [if_neg c]
      exact ⟨i, by simp, Nat.le_refl _, hik, fun e => c ⟨by omega, e⟩, fun j h1 h2 => by omega⟩

/-! ## dictionary look-up -/

theorem findEntry_some (d : Dict) (h k : Nat) (e : findEntry d h = some k) : d.map.getD (h % d.hsz) 0 = k + 1 := by
  unfold findEntry at e
  simp only at e
  by_cases c : d.map.getD (h % d.hsz) 0 = 0
  · rw [if_pos c] at e; cases e
  · rw [if_neg c] at e
    cases e; omega

theorem hit_some (d : Dict) (k h n : Nat) (e : hit d (some k) h n = true) :
    (entryAt d k).hash = h ∧ (entryAt d k).len = n := by
  unfold hit at e
  simpa using e

theorem hit_none (d : Dict) (h n : Nat) : hit d none h n = false := rfl

theorem entry_ptr_of_map {x : Nat} (d : Dict) (words h k n : Nat) (hd : DictOKx x d words)
    (e : findEntry d h = some k) (hl : (entryAt d k).len = n) (hn : 2 ≤ n) :
    ∃ w, (entryAt d k).ptr = some w ∧ w.length = n ∧ (entryAt d k).hash = hashWord w ∧ ∀ b ∈ w, isText b = true := by
  have hm := findEntry_some d h k e
  obtain ⟨hk, _⟩ := hd.map _ _ hm
  have he := hd.entry k hk
  unfold EntryOK at he
  cases hp : (entryAt d k).ptr with
  | none => rw [hp] at he; simp only at he; omega
  | some w =>
    rw [hp] at he
    simp only at he
    exact ⟨w, rfl, by omega, (he.2.2 (by omega)).1, (he.2.2 (by omega)).2⟩

theorem fwdLookup_ok (d : Dict) (words : Nat) (word : List Nat) (hd : DictOK d words) (hl : 2 ≤ word.length) :
    ∃ r, fwdLookup d word = .ok r ∧ ∀ k, r.1 = some k → (entryAt d k).len = word.length := by
  unfold fwdLookup
  simp only
  generalize hc : (if hit d (findEntry d (hashWord word)) (hashWord word) word.length = true then
      findEntry d (hashWord word)
    else if hit d (findEntry d (hashWord (flipFirst word))) (hashWord (flipFirst word)) word.length = true then
      findEntry d (hashWord (flipFirst word)) else none) = cand
  cases cand with
  | none => exact ⟨_, rfl, fun k hk => by simp at hk⟩
  | some k =>
    have hk : ∃ h, findEntry d h = some k ∧ hit d (some k) h word.length = true := by
      by_cases c1 : hit d (findEntry d (hashWord word)) (hashWord word) word.length = true
      · rw [if_pos c1] at hc
        exact ⟨_, hc, by rw [← hc]; exact c1⟩
      · rw [if_neg c1] at hc
        by_cases c2 : hit d (findEntry d (hashWord (flipFirst word))) (hashWord (flipFirst word)) word.length = true
        · rw [if_pos c2] at hc
          exact ⟨_, hc, by rw [← hc]; exact c2⟩
        · rw [if_neg c2] at hc; cases hc
    obtain ⟨h, hf, hh⟩ := hk
    have hlen := (hit_some d k h _ hh).2
    obtain ⟨w, hw, _, _, _⟩ := entry_ptr_of_map d words h k _ (DictOK_iff.mp hd) hf hlen hl
    simp only [hw]
    by_cases cs : sameTail w word = true
    · rw [if_pos cs]; exact ⟨_, rfl, fun k' hk' => by cases hk'; exact hlen⟩
    · rw [if_neg cs]; exact ⟨_, rfl, fun k' hk' => by simp at hk'⟩

/-! ## pieces of the main loop of Forward -/

theorem extract_length (src : Array Nat) (ws i : Nat) (hi : i ≤ src.size) :
    (src.extract ws i).toList.length = i - ws := by
  rw [Array.length_toList, Array.size_extract]; omega

theorem extract_mem (src : Array Nat) (ws i b : Nat) (hi : i ≤ src.size) (hb : b ∈ (src.extract ws i).toList) :
    ∃ k, ws ≤ k ∧ k < i ∧ b = src.getD k 0 := by
  rw [List.mem_iff_getElem] at hb
  obtain ⟨n, hn, e⟩ := hb
  have hn' : n < i - ws := by rw [extract_length src ws i hi] at hn; exact hn
  refine ⟨ws + n, by omega, by omega, ?_⟩
  rw [← e, Array.getElem_toList, Array.getElem_extract]
  rw [Array.getD_eq_getD_getElem?, Array.getElem?_eq_getElem (by omega)]
  rfl

theorem wordIndex1_length_le (idx : Nat) : (wordIndex1 idx).length ≤ 3 := by
  rw [wordIndex1_length]
  split
  · omega
  · split <;> omega

theorem wordIndex2_length_le (idx : Nat) : (wordIndex2 idx).length ≤ 3 := by
  rw [wordIndex2_length]
  split
  · omega
  · split <;> omega

theorem fwdToken_ok (tc2 : Bool) (dstLen : Nat) (o : Array Nat) (via : Bool) (idx : Nat)
    (h : o.size + 4 ≤ dstLen) :
    ∃ o2, fwdToken tc2 dstLen o via idx = .ok o2 ∧ o2.size ≤ o.size + 4 := by
  unfold fwdToken
  cases tc2
  · simp only [Bool.false_eq_true, if_false]
    have hl := wordIndex1_length_le idx
    rw [wr_ok _ _ _ (by rw [List.length_cons]; omega)]
    exact ⟨_, rfl, by rw [size_appendList, List.length_cons]; omega⟩
  · simp only [if_true]
    have hl := wordIndex2_length_le idx
    have h1 : (if via = true then ([] : List Nat) else [MASK_FLIP_CASE]).length ≤ 1 := by
      cases via <;> simp
    rw [wr_ok _ _ _ (by rw [List.length_append]; omega)]
    exact ⟨_, rfl, by rw [size_appendList, List.length_append]; omega⟩

theorem emitPending_total (tc2 crlf : Bool) (ssz dstEnd : Nat) (src : Array Nat) (ea ws : Nat) (out : Array Nat)
    (h1 : ea ≤ ws) (h2 : out.size ≤ dstEnd) :
    (∃ e, emitPending tc2 crlf ssz dstEnd src ea ws out = .err e) ∨
    (∃ o, emitPending tc2 crlf ssz dstEnd src ea ws out = .ok o ∧ o.size ≤ dstEnd) := by
  unfold emitPending
  by_cases c2 : ea + 1 ≠ ws ∨ src.getD (ws - 1) 0 ≠ 32
  · rw [if_pos c2, if_neg (by omega), if_neg (by omega)]
    cases he : emitSymbols tc2 crlf ssz dstEnd (src.extract ea ws).toList out with
    | none => exact Or.inl ⟨_, rfl⟩
    | some o => exact Or.inr ⟨o, rfl, emitSymbols_size _ _ _ _ _ _ _ he h2⟩
  · rw [if_neg c2]; exact Or.inr ⟨_, rfl, h2⟩

end Kanzi.Text
