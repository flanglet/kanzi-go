/-
Facts about the SPEC of the forward BWT (`Kanzi.BWT.sa`, `bwtData`, `rowOf`): the suffix array is a
permutation of the positions, strictly sorted; and the "LF" fact every inverse algorithm rests on:
among the rows whose BWT symbol is `c`, taken in row order, the preceding suffixes appear in exactly
the order of the suffixes starting with `c`.  `lf_steps` states it for `k` symbols at once: one step
(`lf_bucket`) is what `inverseMergeTPSI` rests on (BWTMerge), two steps what `inverseBiPSIv2` rests on
(BWTBiLF).
-/
import Kanzi.Model.BWT

namespace Kanzi.BWT

abbrev suf (s : List Nat) (i : Nat) : List Nat := s.drop i

theorem sa_perm (s : List Nat) : (sa s).Perm (List.range s.length) :=
  List.mergeSort_perm _ _

theorem sa_length (s : List Nat) : (sa s).length = s.length := by
  simpa using (sa_perm s).length_eq

theorem mem_sa {s : List Nat} {i : Nat} : i ∈ sa s ↔ i < s.length := by
  rw [(sa_perm s).mem_iff]; simp

theorem sa_nodup (s : List Nat) : (sa s).Nodup :=
  ((sa_perm s).nodup_iff).2 List.nodup_range

theorem suf_ne {s : List Nat} {i j : Nat} (hi : i < s.length) (hj : j < s.length) (h : i ≠ j) :
    suf s i ≠ suf s j := by
  intro e
  have := congrArg List.length e
  simp at this
  omega

theorem sa_sorted (s : List Nat) : (sa s).Pairwise (fun i j => suf s i < suf s j) := by
  have h1 : (sa s).Pairwise (fun i j => sufLe s i j = true) := by
    apply List.pairwise_mergeSort
    · intro a b c hab hbc
      simp only [sufLe, decide_eq_true_eq] at *
      exact List.le_trans hab hbc
    · intro a b
      simp only [sufLe, Bool.or_eq_true, decide_eq_true_eq]
      exact List.le_total _ _
  have h2 := List.nodup_iff_pairwise_ne.1 (sa_nodup s)
  have h3 := List.Pairwise.and_mem.1 (h1.and h2)
  refine h3.imp ?_
  intro a b ⟨ha, hb, hle, hne⟩
  simp only [sufLe, decide_eq_true_eq] at hle
  exact Std.lt_of_le_of_ne hle (suf_ne (mem_sa.1 ha) (mem_sa.1 hb) hne)

theorem suf_cons {s : List Nat} {i : Nat} (h : i < s.length) : suf s i = s[i] :: suf s (i + 1) :=
  List.drop_eq_getElem_cons h

theorem suf_getD_cons {s : List Nat} {i : Nat} (h : i < s.length) : suf s i = s.getD i 0 :: suf s (i + 1) := by
  rw [suf_cons h]; simp [List.getD_eq_getElem?_getD, h]

/-- the rows of `SA' = n :: sa s` (Model/BWT.lean) that carry a real symbol, each named by the suffix it
holds: `n` (the empty suffix, first row) then the suffix array without `0` (the row of the end
marker).  `bwtData s` is `s[q - 1]` over this list. -/
def rowsQ (s : List Nat) : List Nat := s.length :: (sa s).filter (· ≠ 0)

theorem rowsQ_sorted (s : List Nat) : (rowsQ s).Pairwise (fun i j => suf s i < suf s j) := by
  unfold rowsQ
  rw [List.pairwise_cons]
  constructor
  · intro j hj
    have hj' := mem_sa.1 (List.mem_filter.1 hj).1
    rw [suf_cons hj']
    have e : suf s s.length = [] := by simp [suf]
    rw [e]
    exact List.nil_lt_cons (α := Nat) _ _
  · exact (sa_sorted s).filter _

theorem mem_rowsQ {s : List Nat} (hs : 1 ≤ s.length) {q : Nat} : q ∈ rowsQ s ↔ 1 ≤ q ∧ q ≤ s.length := by
  unfold rowsQ
  simp only [List.mem_cons, List.mem_filter, mem_sa, decide_eq_true_eq, ne_eq]
  constructor
  · rintro (h | ⟨h1, h2⟩)
    · subst h; omega
    · omega
  · intro h
    by_cases hq : q = s.length
    · exact Or.inl hq
    · exact Or.inr ⟨by omega, by omega⟩

theorem rowsQ_nodup (s : List Nat) : (rowsQ s).Nodup :=
  List.nodup_iff_pairwise_ne.2 ((rowsQ_sorted s).imp fun h e => by subst e; exact List.lt_irrefl _ h)

/-- `P` selects rows by what stands `k` positions before their suffix, `Q` selects the suffixes
themselves: as multisets the selected rows hold the selected suffixes shifted by `k`. -/
theorem rowsQ_sub_perm (s : List Nat) (hs : 1 ≤ s.length) (k : Nat) (hk : 1 ≤ k) (P Q : Nat → Bool)
    (hPQ : ∀ q, 1 ≤ q → q ≤ s.length → (P q = true ↔ k ≤ q ∧ Q (q - k) = true))
    (hQ : ∀ j, j < s.length → Q j = true → j + k ≤ s.length) :
    (((rowsQ s).filter P).map (· - k)).Perm ((sa s).filter Q) := by
  have hmem : ∀ q, q ∈ (rowsQ s).filter P → k ≤ q := fun q hq =>
    have h := (mem_rowsQ hs).1 (List.mem_filter.1 hq).1
    ((hPQ q h.1 h.2).1 (List.mem_filter.1 hq).2).1
  rw [List.perm_ext_iff_of_nodup ?_ ((sa_nodup s).filter _)]
  · intro x
    simp only [List.mem_map, List.mem_filter, mem_rowsQ hs, mem_sa]
    constructor
    · rintro ⟨q, ⟨⟨h1, h2⟩, hp⟩, rfl⟩
      obtain ⟨h3, h4⟩ := (hPQ q h1 h2).1 hp
      exact ⟨by omega, h4⟩
    · rintro ⟨h1, h2⟩
      have h3 := hQ x h1 h2
      exact ⟨x + k, ⟨⟨by omega, h3⟩, (hPQ _ (by omega) h3).2 ⟨by omega, by rw [Nat.add_sub_cancel]; exact h2⟩⟩,
        by omega⟩
  · rw [List.nodup_iff_pairwise_ne, List.pairwise_map]
    refine (List.Pairwise.and_mem.1 ((rowsQ_nodup s).filter P)).imp ?_
    intro a b ⟨ha, hb, hne⟩
    have := hmem a ha
    have := hmem b hb
    omega

theorem rowsQ_pred_perm (s : List Nat) (hs : 1 ≤ s.length) : ((rowsQ s).map (· - 1)).Perm (sa s) := by
  have := rowsQ_sub_perm s hs 1 (Nat.le_refl _) (fun _ => true) (fun _ => true)
    (fun q h _ => ⟨fun _ => ⟨h, rfl⟩, fun _ => rfl⟩) (fun j h _ => h)
  rwa [List.filter_eq_self.2 fun _ _ => rfl, List.filter_eq_self.2 fun _ _ => rfl] at this

/-- THE LF FACT, for `k` steps.  `P`, `Q` as in `rowsQ_sub_perm`; if moreover `Q` fixes the first `k`
symbols of a suffix, the selected rows, in row order, hold the selected suffixes shifted by `k`, in
suffix array order: putting the same `k` symbols in front of two suffixes keeps their order, so both
sides are strictly sorted by suffix, and two strictly sorted permutations of each other are equal. -/
theorem lf_steps (s : List Nat) (hs : 1 ≤ s.length) (k : Nat) (hk : 1 ≤ k) (P Q : Nat → Bool)
    (hPQ : ∀ q, 1 ≤ q → q ≤ s.length → (P q = true ↔ k ≤ q ∧ Q (q - k) = true))
    (hQ : ∀ j, j < s.length → Q j = true → j + k ≤ s.length)
    (hpre : ∀ a b, a + k ≤ s.length → b + k ≤ s.length → Q a = true → Q b = true →
      (suf s a).take k = (suf s b).take k) :
    ((rowsQ s).filter P).map (· - k) = (sa s).filter Q := by
  refine List.Perm.eq_of_pairwise (le := fun i j => suf s i < suf s j) ?_ ?_ ?_
    (rowsQ_sub_perm s hs k hk P Q hPQ hQ)
  · intro a b _ _ hab hba
    exact absurd hba (List.lt_asymm hab)
  · rw [List.pairwise_map]
    refine (List.Pairwise.and_mem.1 ((rowsQ_sorted s).filter P)).imp ?_
    intro a b ⟨ha, hb, hlt⟩
    have hsplit : ∀ q, q ∈ (rowsQ s).filter P →
        (q - k + k ≤ s.length ∧ Q (q - k) = true) ∧ suf s (q - k) = (suf s (q - k)).take k ++ suf s q := by
      intro q hq
      have h := (mem_rowsQ hs).1 (List.mem_filter.1 hq).1
      obtain ⟨h1, h2⟩ := (hPQ q h.1 h.2).1 (List.mem_filter.1 hq).2
      refine ⟨⟨by omega, h2⟩, ?_⟩
      have e : suf s q = (suf s (q - k)).drop k := by
        rw [suf, suf, List.drop_drop, Nat.sub_add_cancel h1]
      rw [e, List.take_append_drop]
    obtain ⟨qa, ea⟩ := hsplit a ha
    obtain ⟨qb, eb⟩ := hsplit b hb
    rw [ea, eb, hpre _ _ qa.1 qb.1 qa.2 qb.2]
    exact List.append_left_lt hlt
  · exact (sa_sorted s).filter _

/-- THE LF FACT.  Among the rows whose BWT symbol (`s[q-1]` for the row holding suffix `q`) is `c`, in
row order, the suffixes `q - 1` are exactly the suffixes starting with `c`, in suffix array order. -/
theorem lf_bucket (s : List Nat) (hs : 1 ≤ s.length) (c : Nat) :
    ((rowsQ s).filter (fun q => s.getD (q - 1) 0 = c)).map (· - 1)
      = (sa s).filter (fun j => s.getD j 0 = c) := by
  apply lf_steps s hs 1 (Nat.le_refl _)
  · intro q h _
    exact ⟨fun h' => ⟨h, h'⟩, fun h' => h'.2⟩
  · intro j h _
    exact h
  · intro a b ha hb hac hbc
    rw [suf_getD_cons ha, suf_getD_cons hb, of_decide_eq_true hac, of_decide_eq_true hbc]
    rfl

theorem sa_sorted_key (s : List Nat) :
    (sa s).Pairwise (fun i j => s.getD i 0 ≤ s.getD j 0) := by
  have h := List.Pairwise.and_mem.1 (sa_sorted s)
  refine h.imp ?_
  intro a b ⟨ha, hb, hlt⟩
  rw [suf_getD_cons (mem_sa.1 ha), suf_getD_cons (mem_sa.1 hb)] at hlt
  rcases List.cons_lt_cons_iff.1 hlt with h | ⟨h, _⟩
  · exact Nat.le_of_lt h
  · exact Nat.le_of_eq h

end Kanzi.BWT
