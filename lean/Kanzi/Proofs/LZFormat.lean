/-
The LZ block format: the abstract token stream (`Seq`), what it denotes (`denote`), its serialisation into
the header + four sections (`frame`, `stream`), and the correctness of the `inverseV6` model `lzInverse` on every
VALID token stream (`lzInverse_stream`; property statement `C13_lz_format`).  Nothing here mentions the
encoder: `LZFwd` and `LZTotal` show that `Forward` emits such a stream (`Encodes`, the relation both halves are
stated with).
-/
import Kanzi.Proofs.LZLen

namespace Kanzi.LZ

theorem At_get {a : Array Nat} {out : List Nat} (h : At a 0 out) {j : Nat} (hj : j < out.length) :
    a[j]? = some out[j] := by
  have := h j hj
  rw [Nat.zero_add, List.getElem?_eq_getElem hj] at this
  exact this

theorem At_getD {a : Array Nat} {out : List Nat} (h : At a 0 out) {j : Nat} (hj : j < out.length) :
    a.getD j 0 = out[j] := by
  rw [Array.getD_eq_getD_getElem?, At_get h hj]; rfl

theorem At_zero_size {a : Array Nat} {out : List Nat} (h : At a 0 out) : out.length ≤ a.size := by
  by_cases hne : out = []
  · subst hne; simp
  · simpa using At_size h hne

theorem blit_size (src : Array Nat) : ∀ (k f a : Nat) (dst : Array Nat), (blit src k f a dst).size = dst.size := by
  intro k
  induction k with
  | zero => intro f a dst; rfl
  | succ k ih => intro f a dst; simp [blit, ih]

theorem At_set_end {dst : Array Nat} {out : List Nat} (h : At dst 0 out) (v : Nat) (hsz : out.length < dst.size) :
    At (dst.setIfInBounds out.length v) 0 (out ++ [v]) := by
  intro j hj
  rw [Nat.zero_add, Array.getElem?_setIfInBounds]
  simp only [List.length_append, List.length_cons, List.length_nil] at hj
  by_cases hjo : out.length = j
  · subst hjo
    rw [if_pos rfl, if_pos hsz, List.getElem?_append_right (Nat.le_refl _)]
    simp
  · rw [if_neg hjo, List.getElem?_append_left (by omega)]
    have := h j (by omega)
    rwa [Nat.zero_add] at this

theorem blit_At (src : Array Nat) : ∀ (lits : List Nat) (f : Nat) (dst : Array Nat) (out : List Nat),
    At src f lits → At dst 0 out → out.length + lits.length ≤ dst.size →
    At (blit src lits.length f out.length dst) 0 (out ++ lits) := by
  intro lits
  induction lits with
  | nil => intro f dst out _ h _; simpa [blit] using h
  | cons x xs ih =>
    intro f dst out hs hd hsz
    rw [At_cons] at hs
    simp only [List.length_cons] at hsz
    simp only [List.length_cons, blit]
    have hx : src.getD f 0 = x := by rw [Array.getD_eq_getD_getElem?, hs.1]; rfl
    have := ih (f + 1) (dst.setIfInBounds out.length (src.getD f 0)) (out ++ [x]) hs.2
      (hx ▸ At_set_end hd _ (by omega))
      (by simp only [List.length_append, List.length_cons, List.length_nil, Array.size_setIfInBounds]; omega)
    simpa [List.append_assoc] using this

/-- what a match denotes: `len` bytes copied one by one from `dist` back -/
def copyMatch (out : List Nat) (dist : Nat) : Nat → List Nat
  | 0 => out
  | k + 1 => copyMatch (out ++ [out.getD (out.length - dist) 0]) dist k

theorem copyMatch_length (dist : Nat) : ∀ (k : Nat) (out : List Nat), (copyMatch out dist k).length = out.length + k := by
  intro k
  induction k with
  | zero => intro out; rfl
  | succ k ih => intro out; simp [copyMatch, ih]; omega

theorem copyMatch_add (dist : Nat) : ∀ (a b : Nat) (out : List Nat),
    copyMatch out dist (a + b) = copyMatch (copyMatch out dist a) dist b := by
  intro a
  induction a with
  | zero => intro b out; simp [copyMatch]
  | succ a ih => intro b out; rw [Nat.add_right_comm]; simp only [copyMatch]; exact ih b _

theorem copyMatch_prefix (dist : Nat) : ∀ (e : Nat) (out : List Nat),
    (copyMatch out dist e).take out.length = out := by
  intro e
  induction e with
  | zero => intro out; simp [copyMatch]
  | succ e ih =>
    intro out
    simp only [copyMatch]
    have := ih (out ++ [out.getD (out.length - dist) 0])
    have h2 : List.take out.length (copyMatch (out ++ [out.getD (out.length - dist) 0]) dist e)
        = List.take out.length (List.take (out ++ [out.getD (out.length - dist) 0]).length
            (copyMatch (out ++ [out.getD (out.length - dist) 0]) dist e)) := by
      rw [List.take_take]; congr 1; simp
    rw [h2, this]; simp

theorem copyMatch_take (dist : Nat) : ∀ (j e : Nat) (out : List Nat),
    (copyMatch out dist (j + e)).take (out.length + j) = copyMatch out dist j := by
  intro j e out
  rw [copyMatch_add]
  have := copyMatch_prefix dist e (copyMatch out dist j)
  rwa [copyMatch_length] at this

theorem selfCopy_size : ∀ (k r a : Nat) (dst : Array Nat), (selfCopy k r a dst).size = dst.size := by
  intro k
  induction k with
  | zero => intro r a dst; rfl
  | succ k ih => intro r a dst; simp [selfCopy, ih]

theorem selfCopy_add : ∀ (a b r p : Nat) (dst : Array Nat),
    selfCopy (a + b) r p dst = selfCopy b (r + a) (p + a) (selfCopy a r p dst) := by
  intro a
  induction a with
  | zero => intro b r p dst; simp [selfCopy]
  | succ a ih =>
    intro b r p dst
    rw [Nat.add_right_comm]
    simp only [selfCopy]
    rw [ih]
    congr 1 <;> omega

theorem selfCopy_At (dist : Nat) (hd : 1 ≤ dist) : ∀ (k : Nat) (dst : Array Nat) (out : List Nat),
    At dst 0 out → dist ≤ out.length → out.length + k ≤ dst.size →
    At (selfCopy k (out.length - dist) out.length dst) 0 (copyMatch out dist k) := by
  intro k
  induction k with
  | zero => intro dst out h _ _; simpa [selfCopy, copyMatch] using h
  | succ k ih =>
    intro dst out h hdl hsz
    simp only [selfCopy, copyMatch]
    have hx : dst.getD (out.length - dist) 0 = out.getD (out.length - dist) 0 := by
      rw [At_getD h (by omega), List.getD_eq_getElem?_getD, List.getElem?_eq_getElem (by omega)]; rfl
    have := ih (dst.setIfInBounds out.length (dst.getD (out.length - dist) 0))
      (out ++ [out.getD (out.length - dist) 0]) (hx ▸ At_set_end h _ (by omega))
      (by simp only [List.length_append, List.length_cons, List.length_nil]; omega)
      (by simp only [List.length_append, List.length_cons, List.length_nil, Array.size_setIfInBounds]; omega)
    simp only [List.length_append, List.length_cons, List.length_nil] at this
    have e : out.length + 1 - dist = out.length - dist + 1 := by omega
    rwa [e] at this

theorem At_take {a : Array Nat} {l : List Nat} (h : At a 0 l) (n : Nat) : At a 0 (l.take n) := by
  intro j hj
  simp only [List.length_take] at hj
  rw [List.getElem?_take, if_pos (by omega)]
  exact h j (by omega)

/-- the no-overlap 16-byte chunk loop writes (at least) what the match denotes -/
theorem copy16_spec (mEnd : Nat) : ∀ (f r p : Nat) (dst : Array Nat), p < mEnd → mEnd ≤ p + 16 * f →
    ∃ j, copy16 mEnd f r p dst = .ok (selfCopy (16 * j) r p dst) ∧ mEnd ≤ p + 16 * j ∧ p + 16 * j < mEnd + 16 := by
  intro f
  induction f with
  | zero => intro r p dst h1 h2; omega
  | succ f ih =>
    intro r p dst h1 h2
    unfold copy16
    split
    · exact ⟨1, by simp, by omega, by omega⟩
    · rename_i hlt
      obtain ⟨j, hj, hj1, hj2⟩ := ih (r + 16) (p + 16) (selfCopy 16 r p dst) (by omega) (by omega)
      refine ⟨j + 1, ?_, by omega, by omega⟩
      rw [hj, Nat.mul_add, Nat.mul_one, Nat.add_comm (16 * j) 16, selfCopy_add]

/-- both copy loops of the decoder append what the match denotes to the decoded prefix; the 16 bytes of slack
    in `hsz` (the decoder tests for them before every match) are what the chunk loop may overrun -/
theorem matchCopy_At {dst : Array Nat} {out : List Nat} {dist mLen : Nat} (h : At dst 0 out) (hd : 1 ≤ dist)
    (hdl : dist ≤ out.length) (hm : 1 ≤ mLen) (hsz : out.length + mLen + 16 ≤ dst.size) :
    ∃ dst', (if dist ≥ 16 then copy16 (out.length + mLen) (mLen / 16 + 1) (out.length - dist) out.length dst
              else Out.ok (selfCopy mLen (out.length - dist) out.length dst)) = .ok dst' ∧
      dst'.size = dst.size ∧ At dst' 0 (copyMatch out dist mLen) := by
  split
  · obtain ⟨j, hj, hj1, hj2⟩ := copy16_spec (out.length + mLen) (mLen / 16 + 1) (out.length - dist) out.length dst
      (by omega) (by omega)
    refine ⟨_, hj, selfCopy_size _ _ _ _, ?_⟩
    have h1 := selfCopy_At dist hd (16 * j) dst out h hdl (by omega)
    have h2 := At_take h1 (out.length + mLen)
    have e : 16 * j = mLen + (16 * j - mLen) := by omega
    rw [e, copyMatch_take] at h2
    rw [e]
    exact h2
  · exact ⟨_, rfl, selfCopy_size _ _ _ _, selfCopy_At dist hd mLen dst out h hdl (by omega)⟩

/-- one LZ sequence: literals, then a match of `len` bytes at `dist` back -/
structure Seq where
  lits : List Nat
  dist : Nat
  len : Nat

def denote : List Nat → List Seq → List Nat
  | out, [] => out
  | out, q :: qs => denote (copyMatch (out ++ q.lits) q.dist q.len) qs

/-- the bytes a literal run adds to the literal section -/
def litBytes (lits : List Nat) : List Nat :=
  (if lits.length ≥ 7 then emitLength (lits.length - 7) else []) ++ lits

/-- the low five bits of the token of a sequence: the distance code plus the match length above `mm`, capped
    at the threshold (`distCode` returns (distance code, threshold, distance bytes); a length that reaches the
    threshold continues in the length section, `seqMl`) -/
def matchTok (mm r0 r1 : Nat) (q : Seq) : Nat :=
  if q.len - mm ≥ (distCode q.dist r0 r1).2.1 then (distCode q.dist r0 r1).1 + (distCode q.dist r0 r1).2.1
  else (distCode q.dist r0 r1).1 + (q.len - mm)

def seqTok (mm r0 r1 : Nat) (q : Seq) : Nat := (min q.lits.length 7 * 32 + matchTok mm r0 r1 q) % 256

def seqM (r0 r1 : Nat) (q : Seq) : List Nat := (distCode q.dist r0 r1).2.2

def seqMl (mm r0 r1 : Nat) (q : Seq) : List Nat :=
  if q.len - mm ≥ (distCode q.dist r0 r1).2.1 then emitLength (q.len - mm - (distCode q.dist r0 r1).2.1) else []

/-- the four sections of an encoded block: literals (each run behind its length bytes), tokens, explicit
    distances, match length bytes -/
structure Secs where
  lit : List Nat
  tk : List Nat
  m : List Nat
  ml : List Nat

/-- serialisation of a token stream, `r0 r1` = the repeat distances before it -/
def serSeqs (mm : Nat) : Nat → Nat → List Seq → Secs
  | _, _, [] => ⟨[], [], [], []⟩
  | r0, r1, q :: qs =>
    ⟨litBytes q.lits ++ (serSeqs mm q.dist r0 qs).lit, seqTok mm r0 r1 q :: (serSeqs mm q.dist r0 qs).tk,
     seqM r0 r1 q ++ (serSeqs mm q.dist r0 qs).m, seqMl mm r0 r1 q ++ (serSeqs mm q.dist r0 qs).ml⟩

/-- validity of a token stream decoded from position `pos`: literal counts and lengths the coding can
    represent, distances that stay inside the decoded data and inside the window, `N` = the value the
    repeat distances start with (never a real distance) -/
def ValidSeqs (mm maxDist N : Nat) : Nat → List Seq → Prop
  | _, [] => True
  | pos, q :: qs =>
    q.lits.length < LIT_LIMIT ∧ 1 ≤ q.dist ∧ q.dist ≤ pos + q.lits.length ∧ q.dist ≤ maxDist ∧ q.dist < N ∧
    mm ≤ q.len ∧ q.len ≤ MAX_MATCH ∧ ValidSeqs mm maxDist N (pos + q.lits.length + q.len) qs

theorem denote_length : ∀ (qs : List Seq) (out : List Nat),
    out.length ≤ (denote out qs).length := by
  intro qs
  induction qs with
  | nil => intro out; exact Nat.le_refl _
  | cons q qs ih =>
    intro out
    have := ih (copyMatch (out ++ q.lits) q.dist q.len)
    simp only [copyMatch_length, List.length_append] at this
    simp only [denote]; omega

theorem litBytes_length (lits : List Nat) :
    (litBytes lits).length = (if lits.length ≥ 7 then (emitLength (lits.length - 7)).length else 0) + lits.length := by
  unfold litBytes; split <;> simp

/-- the literal count of a token: up to 6 in the token, from 7 on continued in the literal section -/
theorem litLen_read {src : Array Nat} {i token n : Nat} (htok : token / 32 = min n 7) (htk : token < 256)
    (hl : n < LIT_LIMIT) (hsrc : At src i (if n ≥ 7 then emitLength (n - 7) else [])) :
    (if token ≥ 0xE0 then (readLength src i).bind fun r => Out.ok (7 + r.1, i + r.2) else Out.ok (token >>> 5, i))
      = .ok (n, i + (if n ≥ 7 then emitLength (n - 7) else []).length) := by
  by_cases h7 : n ≥ 7
  · rw [if_pos h7] at hsrc ⊢
    have hr := readLength_emitLength hsrc
    rw [lengthValue_eq (by simp only [LIT_LIMIT] at hl; omega)] at hr
    rw [if_pos (by omega), hr, Out.bind_ok, show 7 + (n - 7) = n by omega]
  · rw [if_neg h7, if_neg (by omega), Nat.shiftRight_eq_div_pow, show token / 2 ^ 5 = n by omega]
    rfl

theorem litStage_spec {src dst : Array Nat} {out lits : List Nat} {s : ISt} {tk0 token : Nat}
    (htok : token / 32 = min lits.length 7) (htk : token < 256) (hl : lits.length < LIT_LIMIT)
    (hsrc : At src s.srcIdx (litBytes lits)) (hdst : At dst 0 out) (hdi : s.dstIdx = out.length)
    (hsz : out.length + lits.length ≤ dst.size) :
    ∃ dst', litStage src tk0 token s dst =
        .ok (⟨s.srcIdx + (litBytes lits).length, s.dstIdx + lits.length,
              decide (lits ≠ [] ∧ s.srcIdx + (litBytes lits).length + 13 ≥ tk0)⟩, dst') ∧
      dst'.size = dst.size ∧ At dst' 0 (out ++ lits) := by
  unfold litStage
  by_cases h0 : lits = []
  · subst h0
    rw [if_neg (by simp at htok; omega)]
    exact ⟨dst, by simp [litBytes], rfl, by simpa using hdst⟩
  · have hpos : 0 < lits.length := List.length_pos_iff.mpr h0
    unfold litBytes at hsrc ⊢
    rw [At_append] at hsrc
    have hsz2 := At_size hsrc.2 h0
    rw [if_pos (by omega), litLen_read htok htk hl hsrc.1, Out.bind_ok]
    simp only []
    rw [if_neg (by omega), if_neg (by omega), List.length_append, Nat.add_assoc]
    refine ⟨_, by simp only [h0, ne_eq, not_false_eq_true, true_and]; rfl, blit_size _ _ _ _ _, ?_⟩
    rw [hdi]
    exact blit_At src lits _ dst out hsrc.2 hdst hsz

/-- relation between the encoder's and the decoder's repeat distance: equal, or the encoder's is still its
    initial value `N` (which no real distance equals) -/
def RR (N re rd : Nat) : Prop := re = rd ∨ re = N

theorem RR.eq {N re rd : Nat} (h : RR N re rd) (hN : re < N) : rd = re := by
  rcases h with h | h
  · exact h.symm
  · omega

theorem be16_read (d : Nat) (h : d < 65536) : ((d >>> 8) % 256) <<< 8 ||| d % 256 = d := by
  rw [shl8_or _ _ (Nat.mod_lt _ (by decide)), Nat.shiftRight_eq_div_pow]
  omega

theorem be24_read (d : Nat) (h : d < 16777216) :
    (((d >>> 16) % 256) <<< 8 ||| (d >>> 8) % 256) <<< 8 ||| d % 256 = d := by
  rw [shl8_or _ _ (Nat.mod_lt _ (by decide)), shl8_or _ _ (Nat.mod_lt _ (by decide)), Nat.shiftRight_eq_div_pow,
    Nat.shiftRight_eq_div_pow]
  omega

/-- the match length part of a token: `m0` in the token, the remainder (if any) in the length section -/
theorem mlen_read {src : Array Nat} {i mm len th m0 : Nat} (hmm : mm ≤ len) (hlen : len ≤ MAX_MATCH)
    (hm0 : m0 = min (len - mm) th)
    (hml : At src i (if len - mm ≥ th then emitLength (len - mm - th) else [])) :
    (if m0 = th then (readLength src i).bind fun r => Out.ok (m0 + (mm + r.1), i + r.2) else Out.ok (m0 + mm, i))
      = .ok (len, i + (if len - mm ≥ th then emitLength (len - mm - th) else []).length) := by
  by_cases h : len - mm ≥ th
  · rw [if_pos h] at hml ⊢
    have hr := readLength_emitLength hml
    rw [lengthValue_eq (by simp only [MAX_MATCH] at hlen; omega)] at hr
    rw [if_pos (by omega), hr, Out.bind_ok, hm0, show min (len - mm) th + (mm + (len - mm - th)) = len by omega]
  · rw [if_neg h, if_neg (by omega), hm0, show min (len - mm) th + mm = len by omega]
    rfl

theorem distCode_cases (d r0 r1 : Nat) :
    (d = r0 ∧ distCode d r0 r1 = (0x00, 3, [])) ∨
    (d ≠ r0 ∧ d = r1 ∧ distCode d r0 r1 = (0x04, 3, [])) ∨
    (d ≠ r0 ∧ d ≠ r1 ∧ d < 256 ∧ distCode d r0 r1 = (0x08, 7, [d % 256])) ∨
    (d ≠ r0 ∧ d ≠ r1 ∧ 256 ≤ d ∧ d < 65536 ∧ distCode d r0 r1 = (0x10, 7, [(d >>> 8) % 256, d % 256])) ∨
    (d ≠ r0 ∧ d ≠ r1 ∧ 65536 ≤ d ∧
      distCode d r0 r1 = (0x18, 7, [(d >>> 16) % 256, (d >>> 8) % 256, d % 256])) := by
  unfold distCode
  by_cases c0 : d = r0
  · exact .inl ⟨c0, if_pos c0⟩
  · rw [if_neg c0]
    by_cases c1 : d = r1
    · exact .inr (.inl ⟨c0, c1, if_pos c1⟩)
    · rw [if_neg c1]
      by_cases c2 : d ≥ 256
      · rw [if_pos c2]
        by_cases c3 : d ≥ 65536
        · exact .inr (.inr (.inr (.inr ⟨c0, c1, c3, if_pos c3⟩)))
        · exact .inr (.inr (.inr (.inl ⟨c0, c1, c2, by omega, if_neg c3⟩)))
      · exact .inr (.inr (.inl ⟨c0, c1, by omega, if_neg c2⟩))

theorem distCode_th (d r0 r1 : Nat) : (distCode d r0 r1).2.1 = if d = r0 ∨ d = r1 then 3 else 7 := by
  rcases distCode_cases d r0 r1 with ⟨c0, h⟩ | ⟨c0, c1, h⟩ | ⟨c0, c1, _, h⟩ | ⟨c0, c1, _, _, h⟩ | ⟨c0, c1, _, h⟩
  · rw [h, if_pos (.inl c0)]
  · rw [h, if_pos (.inr c1)]
  · rw [h, if_neg (by omega)]
  · rw [h, if_neg (by omega)]
  · rw [h, if_neg (by omega)]

theorem matchTok_eq (mm r0 r1 : Nat) (q : Seq) :
    matchTok mm r0 r1 q = (distCode q.dist r0 r1).1 + min (q.len - mm) (distCode q.dist r0 r1).2.1 := by
  unfold matchTok
  split <;> omega

/-- the fields of a token with a repeat distance code (`sel` = which of the two) -/
theorem tok_rep {t c m sel : Nat} (ht : t % 32 = c + min m 3) (hc : c = 4 * sel) (hsel : sel ≤ 1) :
    t / 8 % 4 = 0 ∧ t % 4 = min m 3 ∧ t / 4 % 2 = sel := by omega

/-- the fields of a token with an explicit distance of `k` bytes -/
theorem tok_far {t c m k : Nat} (ht : t % 32 = c + min m 7) (hc : c = 8 * k) :
    t / 8 % 4 = k ∧ t % 8 = min m 7 := by omega

theorem matStage_spec {src : Array Nat} {s : ISt} {mm N re0 re1 token : Nat} {q : Seq}
    (htok : token % 32 = matchTok mm re0 re1 q)
    (h0 : RR N re0 s.repd0) (h1 : RR N re1 s.repd1) (hN : q.dist < N)
    (hmm : mm ≤ q.len) (hlen : q.len ≤ MAX_MATCH) (hd : q.dist < 16777216)
    (hm : At src s.mIdx (seqM re0 re1 q)) (hml : At src s.mLenIdx (seqMl mm re0 re1 q)) :
    matStage src mm token s =
      .ok ⟨q.len, q.dist, s.mIdx + (seqM re0 re1 q).length, s.mLenIdx + (seqMl mm re0 re1 q).length⟩ := by
  rw [matchTok_eq] at htok
  unfold seqM at hm ⊢
  unfold seqMl at hml ⊢
  unfold matStage
  rcases distCode_cases q.dist re0 re1 with ⟨c0, hdc⟩ | ⟨c0, c1, hdc⟩ | ⟨c0, c1, c2, hdc⟩ | ⟨c0, c1, c2, c3, hdc⟩ |
      ⟨c0, c1, c2, hdc⟩
  · rw [hdc] at htok hm hml ⊢
    obtain ⟨hff, hm0, hsel⟩ := tok_rep (sel := 0) htok rfl (by decide)
    simp only [hff, if_true, mlen_read hmm hlen hm0 hml, Out.bind_ok, hsel, h0.eq (c0 ▸ hN), c0, List.length_nil,
      Nat.add_zero]
  · rw [hdc] at htok hm hml ⊢
    obtain ⟨hff, hm0, hsel⟩ := tok_rep (sel := 1) htok rfl (by decide)
    simp only [hff, if_true, mlen_read hmm hlen hm0 hml, Out.bind_ok, hsel, Nat.one_ne_zero, if_false,
      h1.eq (c1 ▸ hN), c1, List.length_nil, Nat.add_zero]
  · rw [hdc] at htok hm hml ⊢
    obtain ⟨hff, hm0⟩ := tok_far (k := 1) htok rfl
    simp only [At_cons] at hm
    simp only [hff, mlen_read hmm hlen hm0 hml, Out.bind_ok, hm.1]
    simp only [Nat.reduceEqDiff, if_false, ge_iff_le, Nat.reduceLeDiff, List.length_cons, List.length_nil,
      Nat.mod_eq_of_lt c2]
  · rw [hdc] at htok hm hml ⊢
    obtain ⟨hff, hm0⟩ := tok_far (k := 2) htok rfl
    simp only [At_cons] at hm
    simp only [hff, mlen_read hmm hlen hm0 hml, Out.bind_ok, hm.1, hm.2.1]
    simp only [Nat.reduceEqDiff, if_false, ge_iff_le, Nat.le_refl, if_true, List.length_cons, List.length_nil]
    rw [be16_read _ c3]
  · rw [hdc] at htok hm hml ⊢
    obtain ⟨hff, hm0⟩ := tok_far (k := 3) htok rfl
    simp only [At_cons] at hm
    simp only [hff, mlen_read hmm hlen hm0 hml, Out.bind_ok, hm.1, hm.2.1, hm.2.2.1]
    simp only [Nat.reduceEqDiff, if_false, ge_iff_le, Nat.reduceLeDiff, if_true, List.length_cons, List.length_nil]
    rw [be24_read _ hd]

theorem distCode_tok_le (d r0 r1 : Nat) : (distCode d r0 r1).1 + (distCode d r0 r1).2.1 ≤ 31 := by
  rcases distCode_cases d r0 r1 with ⟨_, h⟩ | ⟨_, _, h⟩ | ⟨_, _, _, h⟩ | ⟨_, _, _, _, h⟩ | ⟨_, _, _, h⟩
  all_goals rw [h]; exact Nat.le_of_ble_eq_true rfl

theorem distCode_len (d r0 r1 : Nat) : (distCode d r0 r1).2.2.length ≤ 3 := by
  rcases distCode_cases d r0 r1 with ⟨_, h⟩ | ⟨_, _, h⟩ | ⟨_, _, _, h⟩ | ⟨_, _, _, _, h⟩ | ⟨_, _, _, h⟩
  all_goals rw [h]; exact Nat.le_of_ble_eq_true rfl

theorem matchTok_lt (mm r0 r1 : Nat) (q : Seq) : matchTok mm r0 r1 q < 32 := by
  rw [matchTok_eq]
  have := distCode_tok_le q.dist r0 r1
  omega

/-- the token of the final literal run -/
def finTok (fl : List Nat) : Nat := (min fl.length 7 * 32) % 256

theorem finTok_div (fl : List Nat) : finTok fl / 32 = min fl.length 7 := by unfold finTok; omega

theorem finTok_lt (fl : List Nat) : finTok fl < 256 := by unfold finTok; omega

theorem seqTok_div (mm r0 r1 : Nat) (q : Seq) : seqTok mm r0 r1 q / 32 = min q.lits.length 7 := by
  unfold seqTok; have := matchTok_lt mm r0 r1 q; omega

theorem seqTok_mod (mm r0 r1 : Nat) (q : Seq) : seqTok mm r0 r1 q % 32 = matchTok mm r0 r1 q := by
  unfold seqTok; have := matchTok_lt mm r0 r1 q; omega

theorem seqTok_lt (mm r0 r1 : Nat) (q : Seq) : seqTok mm r0 r1 q < 256 := by unfold seqTok; omega

/-- the decoding loop on a valid token stream followed by the final literal run.  The run must have at least
    16 bytes: they are the slack the decoder demands behind every match, and (coded in at least 17 bytes) they
    keep the end test `srcIdx + 13 ≥ tk0` after a literal copy false until the last token. -/
theorem invLoop_seqs {src : Array Nat} {tk0 maxDist mm N n : Nat} (hmd : maxDist < 16777216) (hmm : 1 ≤ mm) :
    ∀ (qs : List Seq) (fuel : Nat) (s : ISt) (dst : Array Nat) (out : List Nat) (re0 re1 : Nat) (fl : List Nat),
      qs.length < fuel →
      At dst 0 out → s.dstIdx = out.length → dst.size = n →
      At src s.srcIdx ((serSeqs mm re0 re1 qs).lit ++ litBytes fl) →
      At src s.tkIdx ((serSeqs mm re0 re1 qs).tk ++ [finTok fl]) →
      At src s.mIdx (serSeqs mm re0 re1 qs).m →
      At src s.mLenIdx (serSeqs mm re0 re1 qs).ml →
      RR N re0 s.repd0 → RR N re1 s.repd1 →
      ValidSeqs mm maxDist N out.length qs →
      s.srcIdx + ((serSeqs mm re0 re1 qs).lit ++ litBytes fl).length = tk0 →
      16 ≤ fl.length → fl.length < LIT_LIMIT →
      (denote out qs).length + fl.length ≤ n →
      ∃ s' dst', invLoop src tk0 maxDist mm fuel s dst = .ok (s', dst') ∧ s'.srcIdx = tk0 ∧
        s'.dstIdx = (denote out qs).length + fl.length ∧ dst'.size = n ∧ At dst' 0 (denote out qs ++ fl) := by
  intro qs
  induction qs with
  | nil =>
    intro fuel s dst out re0 re1 fl hf hdst hdi hn hL hT _ _ _ _ _ hend hfl hfl2 hfit
    cases fuel with
    | zero => simp at hf
    | succ f =>
      simp only [serSeqs, List.nil_append] at hL hT hend
      rw [At_cons] at hT
      simp only [denote] at hfit ⊢
      obtain ⟨dst', h1, h2, h3⟩ := litStage_spec (src := src) (dst := dst) (out := out) (lits := fl) (s := s)
        (tk0 := tk0) (token := finTok fl) (finTok_div fl) (finTok_lt fl) hfl2 hL hdst hdi (by omega)
      have hne : fl ≠ [] := by intro h; simp [h] at hfl
      unfold invLoop
      simp only [hT.1, h1, Out.bind_ok]
      have hd : decide (fl ≠ [] ∧ s.srcIdx + (litBytes fl).length + 13 ≥ tk0) = true := by
        simp only [decide_eq_true_eq]; exact ⟨hne, by omega⟩
      simp only [hd, if_true]
      exact ⟨_, _, rfl, hend, by simp [hdi], by omega, h3⟩
  | cons q qs ih =>
    intro fuel s dst out re0 re1 fl hf hdst hdi hn hL hT hM hML hr0 hr1 hv hend hfl hfl2 hfit
    cases fuel with
    | zero => simp at hf
    | succ f =>
      simp only [serSeqs, List.append_assoc, List.cons_append] at hL hT hM hML hend
      rw [At_cons] at hT
      rw [At_append] at hL hM hML
      simp only [ValidSeqs] at hv
      obtain ⟨v1, v2, v3, v4, v5, v6, v7, v8⟩ := hv
      simp only [denote] at hfit ⊢
      have hdl := denote_length qs (copyMatch (out ++ q.lits) q.dist q.len)
      simp only [copyMatch_length, List.length_append] at hdl hend
      obtain ⟨dst1, h1, h2, h3⟩ := litStage_spec (src := src) (dst := dst) (out := out) (lits := q.lits) (s := s)
        (tk0 := tk0) (token := seqTok mm re0 re1 q) (seqTok_div mm re0 re1 q) (seqTok_lt mm re0 re1 q) v1 hL.1 hdst hdi
        (by omega)
      have hlb : 17 ≤ (litBytes fl).length := by
        rw [litBytes_length]
        have := (emitLength_length_le (fl.length - 7)).1
        split <;> omega
      have hd : decide (q.lits ≠ [] ∧ s.srcIdx + (litBytes q.lits).length + 13 ≥ tk0) = false := by
        simp only [decide_eq_false_iff_not, not_and]; intro _; omega
      have hms := matStage_spec (src := src) (s := s) (mm := mm) (N := N) (re0 := re0) (re1 := re1)
        (token := seqTok mm re0 re1 q) (q := q) (seqTok_mod mm re0 re1 q) hr0 hr1 v5 v6 v7 (by omega) hM.1 hML.1
      unfold invLoop
      simp only [hT.1, h1, Out.bind_ok, hd, hms]
      have hc : ¬ (q.dist > s.dstIdx + q.lits.length ∨ q.dist > maxDist ∨
          s.dstIdx + q.lits.length + q.len + 16 > dst1.size) := by
        rw [h2, hn, hdi]; omega
      simp only [Bool.false_eq_true, if_false, hc]
      have h3' := h3
      obtain ⟨dst2, h4, h5, h6⟩ := matchCopy_At (dst := dst1) (out := out ++ q.lits) (dist := q.dist) (mLen := q.len)
        h3 v2 (by simp only [List.length_append]; omega) (by omega)
        (by simp only [List.length_append]; rw [h2, hn]; omega)
      simp only [List.length_append] at h4
      rw [hdi, h4, Out.bind_ok]
      have := ih f ⟨s.tkIdx + 1, s.mIdx + (seqM re0 re1 q).length, s.mLenIdx + (seqMl mm re0 re1 q).length,
          s.srcIdx + (litBytes q.lits).length, out.length + q.lits.length + q.len, q.dist, s.repd0⟩ dst2
        (copyMatch (out ++ q.lits) q.dist q.len) q.dist re0 fl (by simpa using hf) h6
        (by simp [copyMatch_length]) (by rw [h5, h2, hn]) hL.2 hT.2 hM.2 hML.2 (Or.inl rfl) hr0
        (by simpa [copyMatch_length] using v8)
        (by simp only [List.length_append]; omega) hfl hfl2 hfit
      exact this

theorem serSeqs_tk_length (mm : Nat) : ∀ (qs : List Seq) (r0 r1 : Nat), (serSeqs mm r0 r1 qs).tk.length = qs.length := by
  intro qs
  induction qs with
  | nil => intro r0 r1; rfl
  | cons q qs ih => intro r0 r1; simp [serSeqs, ih]

/-- the header byte: distance limit flag and `minMatch - 2` -/
def flagByte (mm far : Nat) : Nat := far + ((mm - 2) % 8) * 2

/-- the encoded block of a token stream `qs` followed by the final literals `fl`; `N` = the initial value of
    the repeat distances in the encoder (the block length) -/
def stream (mm far N : Nat) (qs : List Seq) (fl : List Nat) : List Nat :=
  (put32 (13 + ((serSeqs mm N N qs).lit ++ litBytes fl).length) ++ put32 ((serSeqs mm N N qs).tk ++ [finTok fl]).length
      ++ put32 (serSeqs mm N N qs).m.length ++ [flagByte mm far]) ++
    (((serSeqs mm N N qs).lit ++ litBytes fl) ++ (((serSeqs mm N N qs).tk ++ [finTok fl]) ++
      ((serSeqs mm N N qs).m ++ (serSeqs mm N N qs).ml)))

theorem put32_length (v : Nat) : (put32 v).length = 4 := rfl

theorem get32_put32 {src : Array Nat} {i v : Nat} (h : At src i (put32 v)) (hv : v < 4294967296) :
    get32 src i = v := by
  unfold put32 at h
  simp only [At_cons] at h
  obtain ⟨h0, h1, h2, h3, _⟩ := h
  unfold get32
  simp only [Array.getD_eq_getD_getElem?, h0, h1, h2, h3, Option.getD_some, Nat.shiftLeft_eq,
    Nat.shiftRight_eq_div_pow]
  omega

theorem At_of_eq {src : Array Nat} {i j : Nat} {l : List Nat} (h : At src i l) (e : i = j) : At src j l := e ▸ h

theorem extract_of_At {a : Array Nat} {l : List Nat} (h : At a 0 l) : a.extract 0 l.length = l.toArray := by
  apply Array.ext'
  simp only [Array.toList_extract, List.extract_eq_take_drop, List.drop_zero, Nat.sub_zero]
  apply List.ext_getElem?
  intro j
  rw [List.getElem?_take]
  split
  · rename_i hj
    have := h j hj
    rw [Nat.zero_add] at this
    rw [Array.getElem?_toList, this]
  · rename_i hj
    rw [List.getElem?_eq_none (by omega)]

/-- the 13-byte header followed by the four sections; `stream` is the `frame` of a serialised token stream -/
def frame (flag : Nat) (L T M ML : List Nat) : List Nat :=
  (put32 (13 + L.length) ++ put32 T.length ++ put32 M.length ++ [flag]) ++ (L ++ (T ++ (M ++ ML)))

theorem stream_eq_frame (mm far N : Nat) (qs : List Seq) (fl : List Nat) :
    stream mm far N qs fl = frame (flagByte mm far) ((serSeqs mm N N qs).lit ++ litBytes fl)
      ((serSeqs mm N N qs).tk ++ [finTok fl]) (serSeqs mm N N qs).m (serSeqs mm N N qs).ml := rfl

theorem frame_length (flag : Nat) (L T M ML : List Nat) :
    (frame flag L T M ML).length = 13 + L.length + T.length + M.length + ML.length := by
  simp only [frame, List.length_append, put32_length, List.length_cons, List.length_nil]
  omega

theorem frame_size (flag : Nat) (L T M ML : List Nat) :
    (frame flag L T M ML).toArray.size = 13 + L.length + T.length + M.length + ML.length := by
  rw [List.size_toArray, frame_length]

/-- what `Forward` assembles from its four buffers is a `frame` -/
theorem frame_ofArrays (flag : Nat) (lit tk m ml : Array Nat) :
    (put32 (13 + lit.size) ++ put32 tk.size ++ put32 m.size ++ [flag]).toArray ++ lit ++ tk ++ m ++ ml =
      (frame flag lit.toList tk.toList m.toList ml.toList).toArray := by
  apply Array.ext'
  simp [frame, List.append_assoc]

theorem frame_At (flag : Nat) (L T M ML : List Nat) {src : Array Nat} (h : src = (frame flag L T M ML).toArray) :
    At src 0 (put32 (13 + L.length)) ∧ At src 4 (put32 T.length) ∧ At src 8 (put32 M.length) ∧
      src[12]? = some flag ∧ At src 13 L ∧ At src (13 + L.length) T ∧ At src (T.length + (13 + L.length)) M ∧
      At src (M.length + (T.length + (13 + L.length))) ML := by
  have hs := At_self (frame flag L T M ML)
  rw [← h] at hs
  simp only [frame, At_append, At_cons, List.length_append, put32_length, List.length_cons, List.length_nil,
    Nat.zero_add] at hs
  obtain ⟨⟨⟨⟨h0, h4⟩, h8⟩, h12, _⟩, hL, hT, hM, hML⟩ := hs
  exact ⟨h0, h4, h8, h12, hL, hT, At_of_eq hM (by omega), At_of_eq hML (by omega)⟩

/-- `Inverse` on a frame of fewer than `2^32` bytes: the header is read back and the loop starts at the four
    sections -/
theorem lzInverse_frame {flag : Nat} {L T M ML : List Nat} {src dst0 : Array Nat}
    (h : src = (frame flag L T M ML).toArray) (hd : dst0.size ≠ 0) (hsz : src.size < 4294967296) :
    lzInverse src dst0 =
      (invLoop src (13 + L.length) (if flag % 2 = 0 then MAX_DISTANCE1 else MAX_DISTANCE2) ((flag >>> 1) % 8 + 2)
        (src.size + 1) ⟨13 + L.length, T.length + (13 + L.length), M.length + (T.length + (13 + L.length)), 13, 0,
          src.size, src.size⟩ dst0).bind fun r =>
        if r.1.srcIdx ≠ 13 + L.length then .err "end"
        else if r.1.dstIdx > r.2.size then .fault "overrun" else .ok (r.2.extract 0 r.1.dstIdx) := by
  obtain ⟨h0, h4, h8, h12, _⟩ := frame_At flag L T M ML h
  have hlen : src.size = 13 + L.length + T.length + M.length + ML.length := by
    rw [h, List.size_toArray, frame_length]
  have g0 := get32_put32 h0 (by omega)
  have g4 := get32_put32 h4 (by omega)
  have g8 := get32_put32 h8 (by omega)
  have g12 : src.getD 12 0 = flag := by rw [Array.getD_eq_getD_getElem?, h12]; rfl
  unfold lzInverse
  simp only []
  rw [if_neg (by omega), if_neg (by omega), g0, g4, g8, g12, if_neg (by omega)]

theorem flagByte_far {mm far : Nat} (hfar : far ≤ 1) : flagByte mm far % 2 = far := by unfold flagByte; omega

theorem flagByte_mm {mm far : Nat} (hmm : 2 ≤ mm ∧ mm ≤ 9) (hfar : far ≤ 1) : (flagByte mm far >>> 1) % 8 + 2 = mm := by
  unfold flagByte; rw [Nat.shiftRight_eq_div_pow]; omega

/-- C13_lz_format: the decoder model restores what a valid token stream denotes, followed by its final literal
    run - of at least 16 bytes, as in every block Forward emits - when the encoded block is shorter than `2^32`
    bytes (the header fields are 32 bits wide) and the destination holds the result -/
theorem lzInverse_stream (mm far N : Nat) (qs : List Seq) (fl : List Nat) (dst0 : Array Nat)
    (hmm : 2 ≤ mm ∧ mm ≤ 9) (hfar : far ≤ 1)
    (hv : ValidSeqs mm (if far = 0 then MAX_DISTANCE1 else MAX_DISTANCE2) N 0 qs)
    (hfl : 16 ≤ fl.length) (hfl2 : fl.length < LIT_LIMIT)
    (hsz : (stream mm far N qs fl).length < 4294967296)
    (hn : (denote [] qs).length + fl.length ≤ dst0.size) :
    lzInverse (stream mm far N qs fl).toArray dst0 = .ok (denote [] qs ++ fl).toArray := by
  generalize hsrc : (stream mm far N qs fl).toArray = src
  have hss : src.size < 4294967296 := by rw [← hsrc, List.size_toArray]; exact hsz
  rw [stream_eq_frame] at hsrc
  obtain ⟨_, _, _, _, hL, hT, hM, hML⟩ := frame_At _ _ _ _ _ hsrc.symm
  have hlen := congrArg Array.size hsrc
  rw [frame_size] at hlen
  rw [lzInverse_frame hsrc.symm (by omega) hss, flagByte_far hfar, flagByte_mm hmm hfar]
  have htl := serSeqs_tk_length mm qs N N
  simp only [List.length_append, List.length_cons, List.length_nil] at hlen
  obtain ⟨s', dst', h1, h2, h3, h4, h5⟩ := invLoop_seqs (src := src)
    (tk0 := 13 + ((serSeqs mm N N qs).lit ++ litBytes fl).length) (N := N) (n := dst0.size) (by split <;> decide)
    (by omega : 1 ≤ mm) qs (src.size + 1) ⟨_, _, _, 13, 0, src.size, src.size⟩ dst0 [] N N fl (by omega) (At_nil _ _)
    rfl rfl hL hT hM hML (Or.inr rfl) (Or.inr rfl) hv rfl hfl hfl2 hn
  rw [h1, Out.bind_ok, if_neg (fun h => h h2), if_neg (show ¬ s'.dstIdx > dst'.size by omega), h3,
    ← List.length_append, extract_of_At h5]

/-- the relation the two halves of the proof meet at: `t` is the serialisation of a valid token stream which, with
    its final literals, denotes `src` -/
def Encodes (src : List Nat) (t : Array Nat) : Prop :=
  ∃ (mm far : Nat) (qs : List Seq) (fl : List Nat),
    t = (stream mm far src.length qs fl).toArray ∧ 2 ≤ mm ∧ mm ≤ 9 ∧ far ≤ 1 ∧
    ValidSeqs mm (if far = 0 then MAX_DISTANCE1 else MAX_DISTANCE2) src.length 0 qs ∧
    16 ≤ fl.length ∧ fl.length < LIT_LIMIT ∧ denote [] qs ++ fl = src

theorem Encodes.inverse {src : List Nat} {t : Array Nat} (h : Encodes src t) (dst0 : Array Nat)
    (hsz : t.size < 4294967296) (hn : src.length ≤ dst0.size) : lzInverse t dst0 = .ok src.toArray := by
  obtain ⟨mm, far, qs, fl, e1, e2, e3, e4, e5, e6, e7, e8⟩ := h
  have hlen : (denote [] qs).length + fl.length = src.length := by rw [← List.length_append, e8]
  rw [e1, lzInverse_stream mm far src.length qs fl dst0 ⟨e2, e3⟩ e4 e5 e6 e7
    (by rw [e1, List.size_toArray] at hsz; exact hsz) (by omega), e8]

end Kanzi.LZ
