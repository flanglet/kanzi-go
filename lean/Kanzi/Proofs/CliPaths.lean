/-
First layer of the proofs about the path model `Kanzi.CliPaths` (lean/Kanzi/Model/CliPaths.lean):
`splitSep` / `joinSep` are inverse on components without separator, the component stack of
`filepath.Clean` grows by one when a directory entry name (`ValidName`) is appended, the `.knz` name
maps, and the vocabulary in which the theorems of `CliPathsPlan` / `CliPathsThm` are stated
(`rootOf`, `pathOf`, `foutEff`, `DirInput`, `FileInput`, `TreeOK`, `KnzTree`, `Under`).
-/
import Kanzi.Model.CliPaths

namespace Kanzi.CliPaths

theorem splitSep_ne_nil (s : Str) : splitSep s ≠ [] := by
  cases s with
  | nil => simp [splitSep]
  | cons c cs =>
    unfold splitSep
    split
    · simp
    · cases splitSep cs <;> simp [consHead]

theorem splitSep_append_sep (a b : Str) : splitSep (a ++ SEP :: b) = splitSep a ++ splitSep b := by
  induction a with
  | nil => simp [splitSep]
  | cons c cs ih =>
    by_cases hc : c = SEP
    · simp [splitSep, hc, ih]
    · simp only [List.cons_append, splitSep, hc, if_false, ih]
      cases hs : splitSep cs with
      | nil => exact absurd hs (splitSep_ne_nil cs)
      | cons w ws => simp [consHead]

theorem splitSep_noSep (n : Str) (h : SEP ∉ n) : splitSep n = [n] := by
  induction n with
  | nil => simp [splitSep]
  | cons c cs ih =>
    have hc : c ≠ SEP := fun e => h (by simp [e])
    have hcs : SEP ∉ cs := fun e => h (by simp [e])
    simp [splitSep, hc, ih hcs, consHead]

theorem joinSep_cons_cons (w v : Str) (ws : List Str) :
    joinSep (w :: v :: ws) = w ++ SEP :: joinSep (v :: ws) := rfl

theorem joinSep_append_single (l : List Str) (hl : l ≠ []) (n : Str) :
    joinSep (l ++ [n]) = joinSep l ++ SEP :: n := by
  induction l with
  | nil => exact absurd rfl hl
  | cons w ws ih =>
    cases ws with
    | nil => simp [joinSep]
    | cons v vs =>
      have := ih (by simp)
      simp only [List.cons_append] at this ⊢
      rw [joinSep_cons_cons, this, joinSep_cons_cons]
      simp

theorem splitSep_joinSep (l : List Str) (hl : l ≠ []) (h : ∀ c ∈ l, SEP ∉ c) :
    splitSep (joinSep l) = l := by
  induction l with
  | nil => exact absurd rfl hl
  | cons w ws ih =>
    cases ws with
    | nil => simpa [joinSep] using splitSep_noSep w (h w (by simp))
    | cons v vs =>
      rw [joinSep_cons_cons, splitSep_append_sep, splitSep_noSep w (h w (by simp)),
        ih (by simp) (fun c hc => h c (by simp [hc]))]
      simp

theorem joinSep_inj (l m : List Str) (hl : l ≠ []) (hm : m ≠ []) (h1 : ∀ c ∈ l, SEP ∉ c)
    (h2 : ∀ c ∈ m, SEP ∉ c) (h : joinSep l = joinSep m) : l = m := by
  rw [← splitSep_joinSep l hl h1, ← splitSep_joinSep m hm h2, h]

/-- a directory entry name: not empty, not `.`, not `..`, no separator -/
def ValidName (n : Str) : Prop := n ≠ [] ∧ n ≠ [DOT] ∧ n ≠ DOTDOT ∧ SEP ∉ n

instance (n : Str) : Decidable (ValidName n) := by unfold ValidName; infer_instance

theorem cleanStep_valid (r : Bool) (st : List Str) (n : Str) (h : ValidName n) :
    cleanStep r st n = n :: st := by
  simp [cleanStep, h.1, h.2.1, h.2.2.1]

theorem cleanStep_empty (r : Bool) (st : List Str) : cleanStep r st [] = st := by
  simp [cleanStep]

theorem isRooted_append (p q : Str) (hp : p ≠ []) : isRooted (p ++ q) = isRooted p := by
  cases p with
  | nil => exact absurd rfl hp
  | cons c cs => simp [isRooted]

theorem stackOf_nil : stackOf [] = [] := by
  simp [stackOf, splitSep, cleanStep]

theorem stackOf_append_name (p n : Str) (hp : p ≠ []) (hn : ValidName n) :
    stackOf (p ++ SEP :: n) = n :: stackOf p := by
  unfold stackOf
  rw [isRooted_append p _ hp, splitSep_append_sep, splitSep_noSep n hn.2.2.2, List.foldl_append]
  simp [cleanStep_valid _ _ _ hn]

theorem stackOf_append_sep_name (p n : Str) (hp : p ≠ []) (hn : ValidName n) :
    stackOf (p ++ SEP :: SEP :: n) = n :: stackOf p := by
  unfold stackOf
  rw [isRooted_append p _ hp, splitSep_append_sep]
  have : splitSep (SEP :: n) = [[], n] := by
    simp [splitSep, splitSep_noSep n hn.2.2.2]
  rw [this, List.foldl_append]
  simp [cleanStep_valid _ _ _ hn, cleanStep_empty]

theorem render_cons (r : Bool) (st : List Str) (n : Str) :
    render r (n :: st) =
      if st = [] then (if r then SEP :: n else n) else render r st ++ SEP :: n := by
  by_cases hst : st = []
  · subst hst
    cases r <;> simp [render, joinSep]
  · have hrev : st.reverse ≠ [] := by simpa using hst
    cases r <;> simp [render, hst, joinSep_append_single _ hrev]

theorem SEP_ne_DOT : SEP ≠ DOT := by decide

theorem dropLast_snoc_of_getLast? {α : Type} (l : List α) (a : α) (h : l.getLast? = some a) :
    l.dropLast ++ [a] = l := by
  obtain ⟨ys, rfl⟩ := List.getLast?_eq_some_iff.mp h
  simp

/-- for the non-recursive form `-i X/.` the listed directory and `formattedInName` are both `X/` -/
theorem nonRec_shape (inp : Str) (h : isNonRec inp = true) :
    targetOf inp = inp.dropLast ∧ finOf inp = inp.dropLast ∧ ∃ x, inp = x ++ [SEP, DOT] := by
  unfold isNonRec at h
  have h' : inp.length > 2 ∧ inp.drop (inp.length - 2) = [SEP, DOT] := by simpa using h
  have hx : inp = inp.take (inp.length - 2) ++ [SEP, DOT] := by
    rw [← h'.2, List.take_append_drop]
  refine ⟨by simp [targetOf, isNonRec, h'.1, h'.2], ?_, _, hx⟩
  rw [hx]
  have e : (inp.take (inp.length - 2) ++ [SEP, DOT]).dropLast = inp.take (inp.length - 2) ++ [SEP] := by
    rw [show [SEP, DOT] = [SEP] ++ [DOT] from rfl, ← List.append_assoc, List.dropLast_concat]
  rw [e]
  unfold finOf
  have h1 : (inp.take (inp.length - 2) ++ [SEP, DOT]).getLast? = some DOT := by simp
  have h2 : (inp.take (inp.length - 2) ++ [SEP, DOT]).length > 1 := by simp
  simp [h1, e]

/-- the directory the entries of which are listed -/
def rootOf (inp : Str) : Str := if isNonRec inp then targetOf inp else addSep inp

/-- the input name of the entry `rel` below the root -/
def pathOf (inp : Str) (rel : List Str) : Str :=
  if isNonRec inp then targetOf inp ++ joinSep rel else walkPath (addSep inp) rel

/-- `formattedOutName` of a directory run: `-o` with a trailing separator, or `-o` as given when it
is empty or names the none / stdout output -/
def foutEff (a : Args) : Str := if a.out ≠ [] ∧ ¬ isSpecial a.out then foutOf a.out else a.out

/-- the input is a directory, for both `Stat` calls the tool makes on it -/
def DirInput (fs : FS) (a : Args) : Prop :=
  (∃ n, fs.stat a.inp = some (.dir, n)) ∧
  (∃ m, (if a.noLinks then fs.lstat (targetOf a.inp) else fs.stat (targetOf a.inp)) = some (.dir, m))

theorem targetOf_rec (inp : Str) (h : isNonRec inp = false) : targetOf inp = inp := by
  simp [targetOf, h]

theorem KNZ_length : KNZ.length = 4 := rfl

theorem dName_knz (p : Str) : dName (p ++ KNZ) = p := by
  unfold dName
  have h1 : (p ++ KNZ).length - 4 = p.length := by simp [KNZ_length]
  have h2 : eqFold KNZ KNZU = true := by decide
  rw [h1]
  simp [KNZ_length, h2]

theorem dName_cName (p : Str) : dName (cName p) = p := dName_knz p

def unKnz (s : Str) : Str := s.take (s.length - 4)

theorem unKnz_knz (q : Str) : unKnz (q ++ KNZ) = q := by
  simp [unKnz, KNZ_length]

theorem joinSep_snoc_append (init : List Str) (x y : Str) :
    joinSep (init ++ [x ++ y]) = joinSep (init ++ [x]) ++ y := by
  by_cases h : init = []
  · subst h; simp [joinSep]
  · rw [joinSep_append_single _ h, joinSep_append_single _ h]; simp

theorem valid_append_knz (n : Str) (h : ValidName n) : ValidName (n ++ KNZ) := by
  have hl : (n ++ KNZ).length ≥ 5 := by
    have : n.length ≥ 1 := by
      cases n with
      | nil => exact absurd rfl h.1
      | cons _ _ => simp
    simp [KNZ_length]; omega
  refine ⟨?_, ?_, ?_, ?_⟩
  · intro e; rw [e] at hl; simp at hl
  · intro e; rw [e] at hl; simp at hl
  · intro e; rw [e] at hl; simp [DOTDOT] at hl
  · intro hm
    rcases List.mem_append.mp hm with hm | hm
    · exact h.2.2.2 hm
    · revert hm; decide

/-- what the directory walk is assumed to report below the root: every entry once, under names
that are directory entry names -/
def TreeOK (l : List (List Str × Kind)) : Prop :=
  (l.map (·.1)).Nodup ∧ ∀ e ∈ l, e.1 ≠ [] ∧ ∀ n ∈ e.1, ValidName n

/-- every entry name ends with `.knz` after a directory entry name (what a compression run produces) -/
def KnzTree (l : List (List Str × Kind)) : Prop :=
  ∀ e ∈ l, ∃ init stem, e.1 = init ++ [stem ++ KNZ] ∧ ValidName stem ∧ ∀ n ∈ init, ValidName n

theorem foutOf_ne_nil (o : Str) (h : o ≠ []) : foutOf o ≠ [] := by
  unfold foutOf
  split <;> simp [h]

theorem nodup_map_on {α β : Type} (f : α → β) (l : List α) (hl : l.Nodup)
    (hf : ∀ x ∈ l, ∀ y ∈ l, f x = f y → x = y) : (l.map f).Nodup :=
  List.pairwise_map.mpr (hl.imp_of_mem fun hx hy hne e => hne (hf _ hx _ hy e))

theorem noSep_of_valid {r : List Str} (h : ∀ n ∈ r, ValidName n) : ∀ c ∈ r, SEP ∉ c :=
  fun c hc => (h c hc).2.2.2

/-- `o` is `dir` followed by a relative path made of directory entry names -/
def Under (dir o : Str) : Prop :=
  ∃ comps : List Str, comps ≠ [] ∧ (∀ c ∈ comps, ValidName c) ∧ o = dir ++ joinSep comps

theorem rel_split (r : List Str) (h : r ≠ []) : ∃ init last, r = init ++ [last] := by
  refine ⟨r.dropLast, r.getLast h, ?_⟩
  exact (List.dropLast_concat_getLast h).symm

def FileInput (fs : FS) (a : Args) : Prop :=
  (∃ n, fs.stat a.inp = some (.file, n)) ∧
  (∃ m, (if a.noLinks then fs.lstat (targetOf a.inp) else fs.stat (targetOf a.inp)) = some (.file, m))

end Kanzi.CliPaths
