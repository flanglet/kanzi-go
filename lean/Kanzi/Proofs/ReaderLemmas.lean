import Kanzi.Model.Reader
import Kanzi.Spec.Stream
/-!
Lemmas for `Kanzi/Proofs/Reader.lean`.  `readLoop` is reasoned about through one case principle
(`readLoop_cases`), `runTasks` as an iteration of `taskStep`.  What one round of `processBlock`
(`runTasks`, then `scan`) leaves, the ids handed to the codec apart, is a function `batch` of the frames
(`batch_post`), and `processBlock` is a loop over it (`processBlock_step`); what a round does to
decodable blocks (`batch_blocks`) and to frames without end marker (`batch_fok`) is an induction over
`batch`.
A reader in front of decodable blocks followed by `tail` (the end marker, or a failing frame) is
described by `Src c tail s all`, `all` being the bytes it will still deliver; `readLoop_blocks` is the
induction over it, `readSeq_valid` / `readSeq_prefix` its consequences for a sequence of `Read` calls.
The last section is independent of `Src`: over frames without end marker (`FOK`) a `Read` never
returns EOF before it has returned an error (`readSeq_fok`).
-/
namespace Kanzi.Reader
open Kanzi.Spec

/-- number of bytes copied by one iteration -/
def rlLen (c : Cfg) (s : St) (rem : Nat) : Nat := min rem (min s.available (c.B - s.consumed % c.B))

def adv (s : St) (len : Nat) : St := { s with available := s.available - len, consumed := s.consumed + len }

/-- the bytes copied by one iteration -/
def chunkOf (c : Cfg) (s : St) (len : Nat) : List Nat :=
  ((s.bufs.getD (s.consumed / c.B) []).drop (s.consumed % c.B)).take len

/-- the state `readLoop` leaves behind when `processBlock` reports an error: it satisfies `Dead` -/
def kill (s : St) : St := { s with available := 0, consumed := 0, blockID := none }

def setAvail (s : St) (a : Nat) : St := { s with available := a }

theorem readLoop_zero (c : Cfg) (rem : Nat) (out : List Nat) (s : St) :
    readLoop c 0 rem out s = (s, .data out none) := rfl

theorem readLoop_succ (c : Cfg) (fuel rem : Nat) (out : List Nat) (s : St) :
    readLoop c (fuel + 1) rem out s =
      let len := rlLen c s rem
      let out1 := out ++ chunkOf c s len
      let pb := processBlock c (s.frames.length + 2) (adv s len)
      if rem = 0 then (s, .data out none)
      else if len > 0 ∧ s.consumed % c.B + len > (s.bufs.getD (s.consumed / c.B) []).length then (s, .stale)
      else if len > 0 ∧ (adv s len).available > 0 ∧ s.consumed % c.B + len ≥ c.B then
        readLoop c fuel (rem - len) out1 (adv s len)
      else if len > 0 ∧ rem - len = 0 then (adv s len, .data out1 none)
      else if (adv s len).available = 0 then
        if pb.2.2 then (kill pb.1, .data out1 (some .block))
        else if (setAvail pb.1 pb.2.1).available = 0 then
          if out1.length = 0 then (setAvail pb.1 pb.2.1, .eof) else (setAvail pb.1 pb.2.1, .data out1 none)
        else readLoop c fuel (rem - len) out1 (setAvail pb.1 pb.2.1)
      else readLoop c fuel (rem - len) out1 (adv s len) := by
  rfl

/-- `readLoop` by cases of one iteration: `len` bytes are copied to `out`; then the loop stops, goes
on, or, with nothing decoded left, calls `processBlock` (result `pb`). -/
theorem readLoop_cases (c : Cfg) {P : Nat → Nat → List Nat → St → St × ReadRes → Prop}
    (stop : ∀ fuel rem out s, fuel = 0 ∨ rem = 0 → P fuel rem out s (s, .data out none))
    (stale : ∀ fuel rem out s len, len = rlLen c s rem →
      (s.bufs.getD (s.consumed / c.B) []).length < s.consumed % c.B + len →
      P (fuel + 1) rem out s (s, .stale))
    (next : ∀ fuel rem out s len r, rem ≠ 0 → len = rlLen c s rem → (adv s len).available ≠ 0 →
      P fuel (rem - len) (out ++ chunkOf c s len) (adv s len) r → P (fuel + 1) rem out s r)
    (full : ∀ fuel rem out s len, rem ≠ 0 → len = rlLen c s rem → rem ≤ len →
      P (fuel + 1) rem out s (adv s len, .data (out ++ chunkOf c s len) none))
    (refill : ∀ fuel rem out s len pb, len = rlLen c s rem → len < rem → (adv s len).available = 0 →
      pb = processBlock c (s.frames.length + 2) (adv s len) →
      (pb.2.2 = true → P (fuel + 1) rem out s (kill pb.1, .data (out ++ chunkOf c s len) (some .block))) ∧
      (pb.2.2 = false → pb.2.1 = 0 → P (fuel + 1) rem out s (setAvail pb.1 pb.2.1,
        if (out ++ chunkOf c s len).length = 0 then .eof else .data (out ++ chunkOf c s len) none)) ∧
      (∀ r, pb.2.2 = false → pb.2.1 ≠ 0 →
        P fuel (rem - len) (out ++ chunkOf c s len) (setAvail pb.1 pb.2.1) r → P (fuel + 1) rem out s r))
    (fuel rem : Nat) (out : List Nat) (s : St) : P fuel rem out s (readLoop c fuel rem out s) := by
  induction fuel generalizing rem out s with
  | zero => exact stop 0 rem out s (Or.inl rfl)
  | succ fuel ih =>
    have hlen : rlLen c s rem ≤ rem := Nat.min_le_left _ _
    rw [readLoop_succ]
    dsimp only
    by_cases h0 : rem = 0
    · rw [if_pos h0]
      exact stop _ _ _ _ (Or.inr h0)
    rw [if_neg h0]
    by_cases hst : rlLen c s rem > 0 ∧
        s.consumed % c.B + rlLen c s rem > (s.bufs.getD (s.consumed / c.B) []).length
    · rw [if_pos hst]
      exact stale fuel rem out s _ rfl hst.2
    rw [if_neg hst]
    by_cases hgo : rlLen c s rem > 0 ∧ (adv s (rlLen c s rem)).available > 0 ∧
        s.consumed % c.B + rlLen c s rem ≥ c.B
    · rw [if_pos hgo]
      exact next fuel rem out s _ _ h0 rfl (Nat.ne_of_gt hgo.2.1) (ih _ _ _)
    rw [if_neg hgo]
    by_cases hfull : rlLen c s rem > 0 ∧ rem - rlLen c s rem = 0
    · rw [if_pos hfull]
      exact full fuel rem out s _ h0 rfl (Nat.le_of_sub_eq_zero hfull.2)
    rw [if_neg hfull]
    by_cases hav : (adv s (rlLen c s rem)).available = 0
    · have hlt : rlLen c s rem < rem := by omega
      obtain ⟨err, dry, more⟩ := refill fuel rem out s _ _ rfl hlt hav rfl
      rw [if_pos hav]
      cases hok : (processBlock c (s.frames.length + 2) (adv s (rlLen c s rem))).2.2
      · rw [if_neg Bool.false_ne_true]
        by_cases hdry : (setAvail (processBlock c (s.frames.length + 2) (adv s (rlLen c s rem))).1
            (processBlock c (s.frames.length + 2) (adv s (rlLen c s rem))).2.1).available = 0
        · rw [if_pos hdry]
          have := dry hok hdry
          split
          · rwa [if_pos ‹_›] at this
          · rwa [if_neg ‹_›] at this
        · rw [if_neg hdry]
          exact more _ hok hdry (ih _ _ _)
      · rw [if_pos rfl]
        exact err hok
    · rw [if_neg hav]
      exact next fuel rem out s _ _ h0 rfl hav (ih _ _ _)

/-- the batch of `nbTasks c` tasks that one round of `processBlock` runs when the last block id handed
    out is `first`: (new counter, remaining frames, ids given to the codec, results in task order) -/
def pbRun (c : Cfg) (s : St) (first : Nat) : Option Nat × List Frame × List Nat × List TaskRes :=
  runTasks c (nbTasks c) (first + 1) (some first) s.frames s.decodedIds []

def afterRun (s : St) (r : Option Nat × List Frame × List Nat × List TaskRes) : St :=
  { s with blockID := r.1, frames := r.2.1, decodedIds := r.2.2.1 }

def withBufs (s : St) (b : List (List Nat)) : St := { s with bufs := b, consumed := 0 }

theorem processBlock_zero (c : Cfg) (s : St) : processBlock c 0 s = (s, 0, false) := rfl

theorem processBlock_none (c : Cfg) (fuel : Nat) (s : St) (h : s.blockID = none) :
    processBlock c fuel s = (s, 0, false) := by
  cases fuel with
  | zero => rfl
  | succ f => rw [processBlock, h]

theorem processBlock_succ (c : Cfg) (fuel : Nat) (s : St) (first : Nat) (h : s.blockID = some first) :
    processBlock c (fuel + 1) s =
      if (scan c.B (pbRun c s first).2.2.2 [] 0).2.2 then
        (afterRun s (pbRun c s first), (scan c.B (pbRun c s first).2.2.2 [] 0).2.1, true)
      else if ((pbRun c s first).2.2.2.all (·.skipped)) ∧ (pbRun c s first).2.2.2.length = nbTasks c ∧
          nbTasks c > 0 then
        processBlock c fuel (afterRun s (pbRun c s first))
      else (withBufs (afterRun s (pbRun c s first)) (scan c.B (pbRun c s first).2.2.2 [] 0).1,
            (scan c.B (pbRun c s first).2.2.2 [] 0).2.1, false) := by
  rw [processBlock]
  simp only [h]
  rfl

def emptyRes : TaskRes := { err := false, skipped := false, data := [] }
def errRes : TaskRes := { err := true, skipped := false, data := [] }
def keepRes (d : List Nat) : TaskRes := { err := false, skipped := false, data := d }
def skipRes : TaskRes := { err := false, skipped := true, data := [] }
def overRes (k : Nat) : TaskRes := { err := false, skipped := false, data := List.replicate k 0, oversize := true }

/-- one task: (new counter, remaining frames, ids handed to the codec, result) -/
def taskStep (c : Cfg) (id : Nat) (cur : Option Nat) (fs : List Frame) :
    Option Nat × List Frame × List Nat × TaskRes :=
  match cur with
  | none => (none, fs, [], emptyRes)
  | some _ =>
    match fs with
    | [] => (none, [], [], errRes)
    | .endMarker :: rest => (none, rest, [], emptyRes)
    | .badCrit :: rest => (none, rest, [], errRes)
    | .block d :: rest => if inRange c id then (some id, rest, [id], keepRes d) else (some id, rest, [], skipRes)
    | .oversize k :: rest => if inRange c id then (some id, rest, [id], overRes k) else (some id, rest, [], skipRes)
    | .badPost :: rest => if inRange c id then (some id, rest, [id], errRes) else (some id, rest, [], skipRes)

theorem runTasks_zero (c : Cfg) (id : Nat) (cur : Option Nat) (fs : List Frame) (dec : List Nat)
    (acc : List TaskRes) : runTasks c 0 id cur fs dec acc = (cur, fs, dec, acc) := by
  rw [runTasks]

theorem runTasks_succ (c : Cfg) (n id : Nat) (cur : Option Nat) (fs : List Frame) (dec : List Nat)
    (acc : List TaskRes) :
    runTasks c (n + 1) id cur fs dec acc =
      runTasks c n (id + 1) (taskStep c id cur fs).1 (taskStep c id cur fs).2.1
        (dec ++ (taskStep c id cur fs).2.2.1) (acc ++ [(taskStep c id cur fs).2.2.2]) := by
  cases cur with
  | none => simp [runTasks, taskStep, emptyRes]
  | some k =>
    cases fs with
    | nil => simp [runTasks, taskStep, errRes]
    | cons f rest =>
      cases f <;> simp only [runTasks, taskStep] <;> (try split) <;>
        simp [emptyRes, errRes, keepRes, skipRes, overRes]


theorem runTasks_none (c : Cfg) (n id : Nat) (fs : List Frame) (dec : List Nat) (acc : List TaskRes) :
    runTasks c n id none fs dec acc = (none, fs, dec, acc ++ List.replicate n emptyRes) := by
  induction n generalizing id acc with
  | zero => simp [runTasks_zero]
  | succ n ih =>
    rw [runTasks_succ]
    simp only [taskStep, List.append_nil]
    rw [ih]
    simp [List.replicate_succ]

theorem runTasks_acc (c : Cfg) (n id : Nat) (cur : Option Nat) (fs : List Frame) (dec : List Nat)
    (acc : List TaskRes) :
    runTasks c n id cur fs dec acc =
      ((runTasks c n id cur fs dec []).1, (runTasks c n id cur fs dec []).2.1,
       (runTasks c n id cur fs dec []).2.2.1, acc ++ (runTasks c n id cur fs dec []).2.2.2) := by
  induction n generalizing id cur fs dec acc with
  | zero => simp [runTasks_zero]
  | succ n ih =>
    rw [runTasks_succ, ih]
    conv => rhs; rw [runTasks_succ, ih]
    simp

theorem runTasks_length (c : Cfg) (n id : Nat) (cur : Option Nat) (fs : List Frame) (dec : List Nat) :
    (runTasks c n id cur fs dec []).2.2.2.length = n := by
  induction n generalizing id cur fs dec with
  | zero => simp [runTasks_zero]
  | succ n ih =>
    rw [runTasks_succ, runTasks_acc]
    simp [ih]

/-- from `s` to `s'` the flag `closed` is unchanged and the codec was given ids in range only -/
def Keeps (c : Cfg) (s s' : St) : Prop :=
  s'.closed = s.closed ∧
    ((∀ i ∈ s.decodedIds, inRange c i = true) → ∀ i ∈ s'.decodedIds, inRange c i = true)

theorem Keeps.refl (c : Cfg) (s : St) : Keeps c s s := ⟨rfl, id⟩

theorem Keeps.trans {c : Cfg} {s s' s'' : St} (h : Keeps c s s') (h' : Keeps c s' s'') : Keeps c s s'' :=
  ⟨h'.1.trans h.1, fun hd => h'.2 (h.2 hd)⟩

theorem taskStep_dec (c : Cfg) (id : Nat) (cur : Option Nat) (fs : List Frame) :
    (taskStep c id cur fs).2.2.1 = [] ∨ ((taskStep c id cur fs).2.2.1 = [id] ∧ inRange c id = true) := by
  unfold taskStep
  split
  · exact Or.inl rfl
  · split
    · exact Or.inl rfl
    · exact Or.inl rfl
    · exact Or.inl rfl
    all_goals
      by_cases h : inRange c id = true
      · rw [if_pos h]
        exact Or.inr ⟨rfl, h⟩
      · rw [if_neg h]
        exact Or.inl rfl

theorem runTasks_dec (c : Cfg) (n id : Nat) (cur : Option Nat) (fs : List Frame) (dec : List Nat)
    (acc : List TaskRes) (h : ∀ i ∈ dec, inRange c i = true) :
    ∀ i ∈ (runTasks c n id cur fs dec acc).2.2.1, inRange c i = true := by
  induction n generalizing id cur fs dec acc with
  | zero => exact h
  | succ n ih =>
    rw [runTasks_succ]
    apply ih
    intro i hi
    rcases List.mem_append.1 hi with hi | hi
    · exact h i hi
    · rcases taskStep_dec c id cur fs with h0 | ⟨h1, hr⟩
      · rw [h0] at hi
        cases hi
      · rw [h1, List.mem_singleton] at hi
        exact hi ▸ hr

theorem processBlock_keeps (c : Cfg) (fuel : Nat) (s : St) : Keeps c s (processBlock c fuel s).1 := by
  induction fuel generalizing s with
  | zero => exact Keeps.refl c s
  | succ fuel ih =>
    cases hb : s.blockID with
    | none =>
      rw [processBlock_none c _ s hb]
      exact Keeps.refl c s
    | some first =>
      have hr : Keeps c s (afterRun s (pbRun c s first)) := ⟨rfl, runTasks_dec c _ _ _ _ _ _⟩
      rw [processBlock_succ c fuel s first hb]
      split
      · exact hr
      · split
        · exact hr.trans (ih _)
        · exact hr

theorem readLoop_keeps (c : Cfg) (fuel rem : Nat) (out : List Nat) (s : St) :
    Keeps c s (readLoop c fuel rem out s).1 := by
  refine readLoop_cases c (P := fun _ _ _ s r => Keeps c s r.1) ?_ ?_ ?_ ?_ ?_ fuel rem out s
  · intro _ _ _ s _
    exact Keeps.refl c s
  · intro _ _ _ s _ _ _
    exact Keeps.refl c s
  · intro _ _ _ s _ r _ _ _ ih
    exact ih
  · intro _ _ _ s _ _ _ _
    exact Keeps.refl c s
  · intro _ _ _ s len pb _ _ _ h
    have hpb : Keeps c s pb.1 := h ▸ processBlock_keeps c _ (adv s len)
    exact ⟨fun _ => hpb, fun _ _ => hpb, fun r _ _ ih => hpb.trans ih⟩

theorem read_keeps (c : Cfg) (s : St) (n : Nat) : Keeps c s (read c s n).1 := by
  unfold read
  split
  · exact Keeps.refl c s
  · exact readLoop_keeps c _ _ _ s

theorem readSeq_keeps (c : Cfg) (s : St) (sizes : List Nat) : Keeps c s (readSeq c s sizes).1 := by
  induction sizes generalizing s with
  | nil => exact Keeps.refl c s
  | cons n ns ih => exact (read_keeps c s n).trans (ih _)

/-- cancelled reader with nothing buffered -/
def Dead (s : St) : Prop := s.blockID = none ∧ s.available = 0

theorem readLoop_err_dead (c : Cfg) (fuel rem : Nat) (out : List Nat) (s : St) :
    (readLoop c fuel rem out s).2.isErr = true → Dead (readLoop c fuel rem out s).1 := by
  refine readLoop_cases c (P := fun _ _ _ _ r => r.2.isErr = true → Dead r.1) ?_ ?_ ?_ ?_ ?_ fuel rem out s
  · intro _ _ _ _ _ h
    cases h
  · intro _ _ _ _ _ _ _ h
    cases h
  · intro _ _ _ _ _ _ _ _ _ ih
    exact ih
  · intro _ _ _ _ _ _ _ _ h
    cases h
  · intro _ _ _ _ _ _ _ _ _ _
    refine ⟨fun _ _ => ⟨rfl, rfl⟩, fun _ _ h => ?_, fun _ _ _ ih => ih⟩
    split at h <;> cases h

theorem readLoop_dead (c : Cfg) (fuel rem : Nat) (s : St) (h : Dead s) :
    Dead (readLoop c fuel rem [] s).1 ∧ (readLoop c fuel rem [] s).2.bytes = [] ∧
      (readLoop c fuel rem [] s).2 ≠ .stale := by
  cases fuel with
  | zero => simp [readLoop, ReadRes.bytes, h]
  | succ fuel =>
    obtain ⟨h1, h2⟩ := h
    have hl : rlLen c s rem = 0 := by simp [rlLen, h2]
    have ha : adv s 0 = s := by simp [adv]
    rw [readLoop_succ]
    simp only [hl, ha, h2, Nat.lt_irrefl, false_and, if_false, if_true, processBlock_none c _ _ h1]
    split
    · simp [Dead, h1, h2, ReadRes.bytes]
    · simp [Dead, h1, ReadRes.bytes, setAvail, chunkOf]
theorem read_dead (c : Cfg) (s : St) (n : Nat) (h : Dead s) :
    Dead (read c s n).1 ∧ (read c s n).2.bytes = [] ∧ (read c s n).2 ≠ .stale := by
  unfold read
  split
  · simp [h, ReadRes.bytes]
  · exact readLoop_dead c _ _ s h

theorem readSeq_dead (c : Cfg) (s : St) (sizes : List Nat) (h : Dead s) :
    ∀ r ∈ (readSeq c s sizes).2, r.bytes = [] ∧ r ≠ .stale := by
  induction sizes generalizing s with
  | nil => simp [readSeq]
  | cons n ns ih =>
    simp only [readSeq, List.mem_cons]
    intro r hr
    rcases hr with hr | hr
    · subst hr; exact (read_dead c s n h).2
    · exact ih _ (read_dead c s n h).1 r hr

/-- the blocks in range, ids starting at `id`: `selectRange` with a start index.  Irreducible, because
    the `rfl`s of `processBlock_blocks` are slow to check when unification may unfold it. -/
@[irreducible] def keptOf (c : Cfg) (id : Nat) (bl : List (List Nat)) : List (List Nat) :=
  ((bl.zipIdx id).filter (fun p => inRange c p.2)).map (·.1)

theorem keptOf_cons (c : Cfg) (id : Nat) (b : List Nat) (bs : List (List Nat)) :
    keptOf c id (b :: bs) = if inRange c id then b :: keptOf c (id + 1) bs else keptOf c (id + 1) bs := by
  unfold keptOf
  rw [List.zipIdx_cons, List.filter_cons]
  split <;> rfl

theorem keptOf_append (c : Cfg) (id : Nat) (l1 l2 : List (List Nat)) :
    keptOf c id (l1 ++ l2) = keptOf c id l1 ++ keptOf c (id + l1.length) l2 := by
  unfold keptOf
  rw [List.zipIdx_append, List.filter_append, List.map_append]

theorem keptOf_mem (c : Cfg) (id : Nat) (bl : List (List Nat)) : ∀ b ∈ keptOf c id bl, b ∈ bl := by
  intro b hb
  unfold keptOf at hb
  obtain ⟨p, hp, rfl⟩ := List.mem_map.1 hb
  exact List.fst_mem_of_mem_zipIdx (List.mem_filter.1 hp).1

theorem selectRange_eq (c : Cfg) (blocks : List (List Nat)) :
    selectRange c.from_ c.to_ blocks = keptOf c 1 blocks := by
  rw [keptOf]
  rfl

theorem validBlocks_nil (B : Nat) : validBlocks B [] := by simp [validBlocks]

theorem validBlocks_cons (B : Nat) (b : List Nat) (bs : List (List Nat)) :
    validBlocks B (b :: bs) ↔
      (0 < b.length ∧ b.length ≤ B) ∧ (bs ≠ [] → b.length = B) ∧ validBlocks B bs := by
  cases bs with
  | nil => simp [validBlocks]
  | cons b' bs' =>
    simp only [validBlocks, List.dropLast_cons_cons, List.mem_cons, forall_eq_or_imp, ne_eq,
      reduceCtorEq, not_false_eq_true, forall_const]
    constructor
    · rintro ⟨⟨h1, h2, h3⟩, h4, h5⟩
      exact ⟨h1, h4, ⟨h2, h3⟩, h5⟩
    · rintro ⟨h1, h4, ⟨h2, h3⟩, h5⟩
      exact ⟨⟨h1, h2, h3⟩, h4, h5⟩

theorem validBlocks_le (B : Nat) (bl : List (List Nat)) (h : validBlocks B bl) : ∀ b ∈ bl, b.length ≤ B :=
  fun b hb => (h.1 b hb).2

theorem validBlocks_pos (B : Nat) (bl : List (List Nat)) (h : validBlocks B bl) : ∀ b ∈ bl, 0 < b.length :=
  fun b hb => (h.1 b hb).1

theorem validBlocks_append (B : Nat) (l1 l2 : List (List Nat)) (h : validBlocks B (l1 ++ l2)) :
    validBlocks B l1 ∧ validBlocks B l2 := by
  by_cases h2 : l2 = []
  · subst h2
    rw [List.append_nil] at h
    exact ⟨h, validBlocks_nil B⟩
  · obtain ⟨hm, hd⟩ := h
    rw [List.dropLast_append_of_ne_nil h2] at hd
    exact ⟨⟨fun b hb => hm b (List.mem_append_left _ hb),
        fun b hb => hd b (List.mem_append_left _ (List.dropLast_subset _ hb))⟩,
      ⟨fun b hb => hm b (List.mem_append_right _ hb), fun b hb => hd b (List.mem_append_right _ hb)⟩⟩

theorem validBlocks_of_full (B : Nat) (hB : 0 < B) (bl : List (List Nat)) (h : ∀ b ∈ bl, b.length = B) :
    validBlocks B bl := by
  refine ⟨fun b hb => ?_, fun b hb => h b (List.dropLast_subset _ hb)⟩
  have := h b hb; omega

/-! ### well-formed buffer lists: full blocks, then possibly one short block, then empty ones -/

def WFB (B : Nat) : List (List Nat) → Prop
  | [] => True
  | b :: rest => b.length ≤ B ∧ (b.length = B ∨ rest.flatten = []) ∧ WFB B rest

theorem WFB_empties (B m : Nat) : WFB B (List.replicate m []) := by
  induction m with
  | zero => simp [WFB]
  | succ m ih => simp [List.replicate_succ, WFB, ih]

theorem flatten_empties (m : Nat) : (List.replicate m ([] : List Nat)).flatten = [] := by
  induction m with
  | zero => rfl
  | succ m ih => simp [List.replicate_succ, ih]

theorem WFB_kept (c : Cfg) (id m : Nat) (bl : List (List Nat)) (h : validBlocks c.B bl) :
    WFB c.B (keptOf c id bl ++ List.replicate m []) := by
  induction bl generalizing id with
  | nil => simpa [keptOf] using WFB_empties c.B m
  | cons b bs ih =>
    rw [validBlocks_cons] at h
    rw [keptOf_cons]
    split
    · simp only [List.cons_append, WFB]
      refine ⟨h.1.2, ?_, ih _ h.2.2⟩
      cases bs with
      | nil => right; simp [keptOf]
      | cons b' bs' => left; exact h.2.1 (by simp)
    · exact ih _ h.2.2

theorem WFB_getD (B : Nat) (bufs : List (List Nat)) (h : WFB B bufs) (i : Nat) :
    bufs.getD i [] = (bufs.flatten.drop (i * B)).take B := by
  induction bufs generalizing i with
  | nil => simp
  | cons b rest ih =>
    obtain ⟨h1, h2, h3⟩ := h
    cases i with
    | zero =>
      simp only [List.getD_cons_zero, Nat.zero_mul, List.drop_zero, List.flatten_cons]
      rcases h2 with h2 | h2
      · rw [List.take_append_of_le_length (by omega), List.take_of_length_le (by omega)]
      · rw [h2, List.append_nil, List.take_of_length_le h1]
    | succ i =>
      simp only [List.getD_cons_succ, List.flatten_cons]
      rw [ih h3 i]
      rcases h2 with h2 | h2
      · have : (i + 1) * B = b.length + i * B := by rw [Nat.succ_mul, h2]; omega
        rw [this, ← List.drop_drop, List.drop_left]
      · have hle : b.length ≤ (i + 1) * B := by
          rw [Nat.succ_mul]; omega
        rw [h2, List.append_nil, List.drop_nil, List.drop_of_length_le hle]

/-- the unread bytes of the current batch -/
def pending (s : St) : List Nat := (s.bufs.flatten.drop s.consumed).take s.available

/-- the buffers have the shape `WFB` and the cursors do not run past the buffered bytes -/
def BInv (c : Cfg) (s : St) : Prop := WFB c.B s.bufs ∧ s.available + s.consumed ≤ s.bufs.flatten.length

theorem pending_length (c : Cfg) (s : St) (h : BInv c s) : (pending s).length = s.available := by
  have := h.2
  simp only [pending, List.length_take, List.length_drop]
  omega

theorem pending_of_avail_zero (s : St) (h : s.available = 0) : pending s = [] := by
  simp [pending, h]

theorem BInv_adv (c : Cfg) (s : St) (len : Nat) (h : BInv c s) (hl : len ≤ s.available) :
    BInv c (adv s len) := by
  refine ⟨h.1, ?_⟩
  have := h.2
  simp only [adv]
  omega

theorem pending_adv (s : St) (len : Nat) :
    pending (adv s len) = (pending s).drop len := by
  simp only [pending, adv, List.drop_take, List.drop_drop]

theorem chunkOf_eq (c : Cfg) (hB : 0 < c.B) (s : St) (len : Nat) (h : BInv c s) (h1 : len ≤ s.available)
    (h2 : len ≤ c.B - s.consumed % c.B) :
    chunkOf c s len = (pending s).take len ∧
      s.consumed % c.B + len ≤ (s.bufs.getD (s.consumed / c.B) []).length := by
  have hdm : s.consumed / c.B * c.B + s.consumed % c.B = s.consumed := by
    rw [Nat.mul_comm]; exact Nat.div_add_mod _ _
  have hmod : s.consumed % c.B < c.B := Nat.mod_lt _ hB
  have hle := h.2
  rw [chunkOf, WFB_getD c.B s.bufs h.1]
  constructor
  · rw [List.drop_take, List.drop_drop, hdm, List.take_take, pending, List.take_take]
    congr 1
    omega
  · simp only [List.length_take, List.length_drop]
    omega

theorem nbTasks_pos (c : Cfg) (hJ : 0 < c.J) : 0 < nbTasks c := by
  unfold nbTasks
  split
  · rename_i h; omega
  · exact hJ

theorem scan_empties (B m : Nat) (bufs : List (List Nat)) (total : Nat) :
    scan B (List.replicate m emptyRes) bufs total = (bufs ++ List.replicate m [], total, false) := by
  induction m generalizing bufs with
  | zero => simp [scan]
  | succ m ih =>
    rw [List.replicate_succ, scan]
    simp only [show emptyRes.skipped = false from rfl, show emptyRes.err = false from rfl,
      show emptyRes.data = [] from rfl, Bool.false_eq_true, if_false, List.length_nil,
      Nat.not_lt_zero, gt_iff_lt, Nat.add_zero]
    rw [ih]
    simp [List.replicate_succ]

theorem scan_err (B : Nat) (rs : List TaskRes) (bufs : List (List Nat)) (total : Nat) :
    (scan B (errRes :: rs) bufs total).2.2 = true := by
  rw [scan]
  simp [errRes]

theorem scan_data (B : Nat) (r : TaskRes) (rs : List TaskRes) (bufs : List (List Nat)) (total : Nat)
    (hs : r.skipped = false) (he : r.err = false) :
    scan B (r :: rs) bufs total =
      if r.data.length > B then (bufs, total, true) else scan B rs (bufs ++ [r.data]) (total + r.data.length) := by
  rw [scan]
  simp [hs, he]

theorem scan_skip (B : Nat) (rs : List TaskRes) (bufs : List (List Nat)) (total : Nat) :
    scan B (skipRes :: rs) bufs total = scan B rs bufs total := by
  rw [scan]
  simp [skipRes]

/-- what a batch without error leaves: the buffers, the counter, the frames, "every task skipped" -/
structure Batch where
  bufs : List (List Nat)
  ctr : Option Nat
  frames : List Frame
  allSk : Bool

/-- in front of the outcome `r` of the later tasks, a task that decoded `d`: skipped when `id` is out of
    range, an error of the scan when `d` is longer than a block -/
def Batch.push (c : Cfg) (id : Nat) (d : List Nat) (r : Option Batch) : Option Batch :=
  if inRange c id then
    if d.length > c.B then none else r.map fun b => { b with bufs := d :: b.bufs, allSk := false }
  else r

/-- `n` tasks, ids from `id`, counter `some k`, over `fs`; `none` = the result scan reports an error -/
def batch (c : Cfg) : Nat → Nat → Nat → List Frame → Option Batch
  | 0, _, k, fs => some ⟨[], some k, fs, true⟩
  | _ + 1, _, _, [] => none
  | n + 1, _, _, .endMarker :: rest => some ⟨List.replicate (n + 1) [], none, rest, false⟩
  | _ + 1, _, _, .badCrit :: _ => none
  | n + 1, id, _, .block d :: rest => Batch.push c id d (batch c n (id + 1) id rest)
  | n + 1, id, _, .oversize m :: rest => Batch.push c id (List.replicate m 0) (batch c n (id + 1) id rest)
  | n + 1, id, _, .badPost :: rest => if inRange c id then none else batch c n (id + 1) id rest

/-- `r` is what `scan`, entered with `bufs` and `total`, makes of the run `R` of the tasks -/
def BatchPost (c : Cfg) (r : Option Batch) (R : Option Nat × List Frame × List Nat × List TaskRes)
    (bufs : List (List Nat)) (total : Nat) : Prop :=
  (r = none → (scan c.B R.2.2.2 bufs total).2.2 = true) ∧
  ∀ b, r = some b →
    scan c.B R.2.2.2 bufs total = (bufs ++ b.bufs, total + b.bufs.flatten.length, false) ∧
      R.1 = b.ctr ∧ R.2.1 = b.frames ∧ R.2.2.2.all (·.skipped) = b.allSk

theorem BatchPost.skip {c : Cfg} {r : Option Batch}
    {R : Option Nat × List Frame × List Nat × List TaskRes} {bufs : List (List Nat)} {total : Nat}
    (h : BatchPost c r R bufs total) : BatchPost c r (R.1, R.2.1, R.2.2.1, skipRes :: R.2.2.2) bufs total := by
  refine ⟨fun hn => ?_, fun b hb => ?_⟩
  · dsimp only
    rw [scan_skip]
    exact h.1 hn
  · obtain ⟨h1, h2, h3, h4⟩ := h.2 b hb
    dsimp only
    rw [scan_skip]
    exact ⟨h1, h2, h3, by simpa [skipRes] using h4⟩

theorem BatchPost.keep {c : Cfg} {r : Option Batch} {res : TaskRes}
    {R : Option Nat × List Frame × List Nat × List TaskRes} {bufs : List (List Nat)} {total : Nat}
    (hsk : res.skipped = false) (he : res.err = false)
    (h : BatchPost c r R (bufs ++ [res.data]) (total + res.data.length)) :
    BatchPost c (if res.data.length > c.B then none
        else r.map fun b => { b with bufs := res.data :: b.bufs, allSk := false })
      (R.1, R.2.1, R.2.2.1, res :: R.2.2.2) bufs total := by
  dsimp only [BatchPost]
  rw [scan_data _ _ _ _ _ hsk he]
  by_cases hd : res.data.length > c.B
  · simp [hd]
  · rw [if_neg hd, if_neg hd]
    refine ⟨fun hn => h.1 (by simpa using hn), fun b hb => ?_⟩
    obtain ⟨b', hb', rfl⟩ := Option.map_eq_some_iff.1 hb
    obtain ⟨h1, h2, h3, _⟩ := h.2 b' hb'
    exact ⟨by rw [h1]; simp [Nat.add_assoc], h2, h3, by simp [hsk]⟩

theorem BatchPost.none_ctr {c : Cfg} (n id : Nat) (rest : List Frame) (dec : List Nat) (bufs : List (List Nat))
    (total : Nat) :
    BatchPost c (some ⟨List.replicate (n + 1) [], none, rest, false⟩)
      ((runTasks c n id none rest dec []).1, (runTasks c n id none rest dec []).2.1,
        (runTasks c n id none rest dec []).2.2.1, emptyRes :: (runTasks c n id none rest dec []).2.2.2)
      bufs total := by
  rw [runTasks_none]
  refine ⟨nofun, fun b hb => ?_⟩
  cases hb
  dsimp only
  rw [List.nil_append, ← List.replicate_succ, scan_empties]
  exact ⟨by simp, rfl, rfl, by simp [List.replicate_succ, emptyRes]⟩

theorem batch_post (c : Cfg) (n id k : Nat) (fs : List Frame) (dec : List Nat) (bufs : List (List Nat))
    (total : Nat) : BatchPost c (batch c n id k fs) (runTasks c n id (some k) fs dec []) bufs total := by
  induction n generalizing id k fs dec bufs total with
  | zero =>
    rw [runTasks_zero, batch]
    exact ⟨nofun, fun b hb => by cases hb; simp [scan]⟩
  | succ n ih =>
    rw [runTasks_succ, runTasks_acc]
    simp only [List.nil_append, List.singleton_append]
    cases fs with
    | nil =>
      rw [batch]
      exact ⟨fun _ => scan_err _ _ _ _, nofun⟩
    | cons f rest =>
      cases f with
      | endMarker =>
        rw [batch]
        exact BatchPost.none_ctr n _ rest _ bufs total
      | badCrit =>
        rw [batch]
        exact ⟨fun _ => scan_err _ _ _ _, nofun⟩
      | block d =>
        rw [batch, Batch.push]
        by_cases hin : inRange c id = true
        · simp only [taskStep, hin, if_true]
          exact BatchPost.keep (res := keepRes d) rfl rfl (ih ..)
        · simp only [taskStep, hin]
          exact (ih ..).skip
      | oversize m =>
        rw [batch, Batch.push]
        by_cases hin : inRange c id = true
        · simp only [taskStep, hin, if_true]
          exact BatchPost.keep (res := overRes m) rfl rfl (ih ..)
        · simp only [taskStep, hin]
          exact (ih ..).skip
      | badPost =>
        rw [batch]
        by_cases hin : inRange c id = true
        · simp only [taskStep, hin, if_true]
          exact ⟨fun _ => scan_err _ _ _ _, nofun⟩
        · simp only [taskStep, hin]
          exact (ih ..).skip

/-- one round of `processBlock` through `batch` (`dec` = the ids handed to the codec, see `Keeps`) -/
theorem processBlock_step (c : Cfg) (fuel : Nat) (s : St) (k : Nat) (h : s.blockID = some k) :
    (batch c (nbTasks c) (k + 1) k s.frames = none → (processBlock c (fuel + 1) s).2.2 = true) ∧
    ∀ b, batch c (nbTasks c) (k + 1) k s.frames = some b → ∃ dec,
      processBlock c (fuel + 1) s =
        if b.allSk = true ∧ 0 < nbTasks c then
          processBlock c fuel { s with blockID := b.ctr, frames := b.frames, decodedIds := dec }
        else (withBufs { s with blockID := b.ctr, frames := b.frames, decodedIds := dec } b.bufs,
          b.bufs.flatten.length, false) := by
  have hp : BatchPost c _ (pbRun c s k) [] 0 := batch_post c (nbTasks c) (k + 1) k s.frames s.decodedIds [] 0
  have hlen : (pbRun c s k).2.2.2.length = nbTasks c := runTasks_length c _ _ _ _ _
  rw [processBlock_succ c fuel s k h]
  refine ⟨fun hn => ?_, fun b hb => ?_⟩
  · rw [if_pos (hp.1 hn)]
  · obtain ⟨h1, h2, h3, h4⟩ := hp.2 b hb
    refine ⟨(pbRun c s k).2.2.1, ?_⟩
    rw [h1, h4, hlen, afterRun, h2, h3]
    simp

/-- the buffers `K` of tasks that ran before those of `b` -/
def Batch.after (K : List (List Nat)) (b : Batch) : Batch :=
  { b with bufs := K ++ b.bufs, allSk := K.isEmpty && b.allSk }

theorem batch_blocks (c : Cfg) (n k : Nat) (bl : List (List Nat)) (tail : List Frame)
    (hle : ∀ b ∈ bl, b.length ≤ c.B) (h : bl.length ≤ n) :
    batch c n (k + 1) k (bl.map Frame.block ++ tail) =
      (batch c (n - bl.length) (k + bl.length + 1) (k + bl.length) tail).map
        (Batch.after (keptOf c (k + 1) bl)) := by
  induction bl generalizing n k with
  | nil => cases hb : batch c n (k + 1) k tail <;> simp [hb, keptOf, Batch.after]
  | cons b bs ih =>
    cases n with
    | zero => simp at h
    | succ n =>
      have hb : ¬ b.length > c.B := Nat.not_lt.2 (hle b (by simp))
      rw [List.map_cons, List.cons_append, batch, ih n (k + 1) (fun x hx => hle x (by simp [hx])) (by simpa using h),
        Batch.push, keptOf_cons, if_neg hb]
      have e1 : n + 1 - (b :: bs).length = n - bs.length := by simp
      have e2 : k + (b :: bs).length = k + 1 + bs.length := by simp only [List.length_cons]; omega
      rw [e1, e2]
      cases batch c (n - bs.length) (k + 1 + bs.length + 1) (k + 1 + bs.length) tail <;>
        split <;> simp [Batch.after]

/-- tails considered: the end marker (valid stream), or a failing frame whose id is in range -/
def TailOK (c : Cfg) (id : Nat) (tail : List Frame) : Prop :=
  tail = [Frame.endMarker] ∨
  ∃ bad rest, tail = bad :: rest ∧ (bad = .badCrit ∨ bad = .badPost) ∧ inRange c id = true

/-- `rest` = the bytes that the remaining frames will still deliver -/
def RInv (c : Cfg) (tail : List Frame) (s : St) (rest : List Nat) : Prop :=
  (s.blockID = none ∧ rest = []) ∨
  ∃ k bl, s.blockID = some k ∧ s.frames = bl.map Frame.block ++ tail ∧ validBlocks c.B bl ∧
     rest = (keptOf c (k + 1) bl).flatten ∧ TailOK c (k + bl.length + 1) tail

/-- what `processBlock` returns (state, bytes decoded, error flag) when `rest` is still to come: an
    error, possible only when `tail` is a failing frame; or fresh well-formed buffers holding exactly
    the returned number of bytes, a prefix of `rest`, the state standing in front of the remainder
    `rest'`, and zero bytes only if nothing at all was left -/
def PBPost (c : Cfg) (tail : List Frame) (rest : List Nat) (r : St × Nat × Bool) : Prop :=
  (r.2.2 = true ∧ tail ≠ [Frame.endMarker]) ∨
  (r.2.2 = false ∧ r.2.1 = r.1.bufs.flatten.length ∧ r.1.consumed = 0 ∧ WFB c.B r.1.bufs ∧
    ∃ rest', RInv c tail r.1 rest' ∧ rest = r.1.bufs.flatten ++ rest' ∧ (r.2.1 = 0 → rest' = []))

theorem flatten_pos_of_ne_nil (l : List (List Nat)) (hne : l ≠ []) (hp : ∀ b ∈ l, 0 < b.length) :
    0 < l.flatten.length := by
  cases l with
  | nil => exact absurd rfl hne
  | cons b bs =>
    have := hp b (by simp)
    simp only [List.flatten_cons, List.length_append]
    omega

theorem processBlock_blocks (c : Cfg) (hJ : 0 < c.J) (tail : List Frame) (fuel : Nat) (s : St) (k : Nat)
    (bl : List (List Nat)) (hb : s.blockID = some k) (hf : s.frames = bl.map Frame.block ++ tail)
    (hv : validBlocks c.B bl) (ht : TailOK c (k + bl.length + 1) tail) (hfuel : bl.length + 1 ≤ fuel) :
    PBPost c tail (keptOf c (k + 1) bl).flatten (processBlock c fuel s) := by
  induction fuel generalizing s k bl with
  | zero => omega
  | succ fuel ih =>
    have hn := nbTasks_pos c hJ
    obtain ⟨herr, hok⟩ := processBlock_step c fuel s k hb
    rw [hf] at herr hok
    by_cases hle : nbTasks c ≤ bl.length
    · -- the batch lies inside the blocks
      have hsplit : bl = bl.take (nbTasks c) ++ bl.drop (nbTasks c) := (List.take_append_drop _ _).symm
      obtain ⟨hvt, hvd⟩ := validBlocks_append c.B _ _ (hsplit ▸ hv)
      have hlt : (bl.take (nbTasks c)).length = nbTasks c := by simp [hle]
      have hkept : keptOf c (k + 1) bl =
          keptOf c (k + 1) (bl.take (nbTasks c)) ++ keptOf c (k + nbTasks c + 1) (bl.drop (nbTasks c)) := by
        conv => lhs; rw [hsplit]
        rw [keptOf_append, hlt]
        congr 2; omega
      have ht' : TailOK c (k + nbTasks c + (bl.drop (nbTasks c)).length + 1) tail := by
        have : k + nbTasks c + (bl.drop (nbTasks c)).length + 1 = k + bl.length + 1 := by
          simp only [List.length_drop]; omega
        rw [this]; exact ht
      have hbt := batch_blocks c (nbTasks c) k (bl.take (nbTasks c)) ((bl.drop (nbTasks c)).map Frame.block ++ tail)
        (validBlocks_le _ _ hvt) (Nat.le_of_eq hlt)
      rw [← List.append_assoc, ← List.map_append, ← hsplit, hlt, Nat.sub_self, batch] at hbt
      obtain ⟨dec, hpb⟩ := hok _ hbt
      rw [hpb]
      simp only [Batch.after, List.append_nil, Bool.and_true, List.isEmpty_iff, hn, and_true]
      split
      · rename_i hall
        rw [hkept, hall, List.nil_append]
        exact ih _ _ _ rfl rfl hvd ht' (by simp only [List.length_drop]; omega)
      · rename_i hall
        right
        refine ⟨rfl, rfl, rfl, ?_, _, Or.inr ⟨k + nbTasks c, bl.drop (nbTasks c), rfl, rfl, hvd, rfl, ht'⟩, ?_, ?_⟩
        · have := WFB_kept c (k + 1) 0 _ hvt
          simpa [withBufs] using this
        · rw [hkept]; simp [withBufs]
        · intro h0
          have hpos := flatten_pos_of_ne_nil _ hall
            (fun b hb => validBlocks_pos _ _ hvt b (keptOf_mem c _ _ b hb))
          simp only [] at h0
          omega
    · -- the batch reaches the tail
      have hlt : bl.length < nbTasks c := by omega
      obtain ⟨m, hm⟩ : ∃ m, nbTasks c - bl.length = m + 1 := ⟨nbTasks c - bl.length - 1, by omega⟩
      have hbt := batch_blocks c (nbTasks c) k bl tail (validBlocks_le _ _ hv) (Nat.le_of_lt hlt)
      rw [hm] at hbt
      rcases ht with ht | ⟨bad, rest, ht, hbad, hin⟩
      · subst ht
        rw [batch] at hbt
        obtain ⟨dec, hpb⟩ := hok _ hbt
        rw [hpb]
        simp only [Batch.after, Bool.and_false, Bool.false_eq_true, false_and, if_false]
        right
        refine ⟨rfl, ?_, rfl, ?_, [], Or.inl ⟨rfl, rfl⟩, ?_, fun _ => rfl⟩
        · simp [withBufs]
        · exact WFB_kept c (k + 1) _ bl hv
        · simp [withBufs]
      · subst ht
        have : batch c (m + 1) (k + bl.length + 1) (k + bl.length) (bad :: rest) = none := by
          rcases hbad with hb | hb <;> subst hb <;> simp [batch, hin]
        rw [this] at hbt
        left
        refine ⟨herr hbt, ?_⟩
        rcases hbad with hb | hb <;> subst hb <;> simp

theorem RInv_frames_eq (c : Cfg) (tail : List Frame) (s s' : St) (rest : List Nat)
    (h1 : s'.blockID = s.blockID) (h2 : s'.frames = s.frames) (h : RInv c tail s rest) :
    RInv c tail s' rest := by
  unfold RInv at h ⊢
  rw [h1, h2]; exact h

/-- `s` stands in decodable blocks followed by `tail`, and `all` are the bytes it will still deliver -/
def Src (c : Cfg) (tail : List Frame) (s : St) (all : List Nat) : Prop :=
  BInv c s ∧ ∃ rest, RInv c tail s rest ∧ all = pending s ++ rest

theorem Src_init (c : Cfg) (tail : List Frame) (blocks : List (List Nat)) (hv : validBlocks c.B blocks)
    (ht : TailOK c (blocks.length + 1) tail) :
    Src c tail (init (blocks.map Frame.block ++ tail)) (selectRange c.from_ c.to_ blocks).flatten :=
  ⟨by simp [BInv, init, WFB], _,
    Or.inr ⟨0, blocks, rfl, rfl, hv, rfl, by simpa using ht⟩, by simp [pending, init, selectRange_eq]⟩

theorem Src.copy {c : Cfg} {tail : List Frame} {s : St} {all : List Nat} {len : Nat} (hB : 0 < c.B)
    (h : Src c tail s all) (h1 : len ≤ s.available) (h2 : len ≤ c.B - s.consumed % c.B) :
    len ≤ all.length ∧ chunkOf c s len = all.take len ∧
      s.consumed % c.B + len ≤ (s.bufs.getD (s.consumed / c.B) []).length ∧
      Src c tail (adv s len) (all.drop len) := by
  obtain ⟨hI, rest, hR, rfl⟩ := h
  obtain ⟨hchunk, hnst⟩ := chunkOf_eq c hB s len hI h1 h2
  have hplen := pending_length c s hI
  refine ⟨?_, ?_, hnst, BInv_adv c s len hI h1, rest, RInv_frames_eq c tail _ _ rest rfl rfl hR, ?_⟩
  · rw [List.length_append]
    omega
  · rw [hchunk, List.take_append_of_le_length (by omega)]
  · rw [pending_adv, List.drop_append_of_le_length (by omega)]

theorem Src.refill {c : Cfg} {tail : List Frame} {s : St} {all : List Nat} (hJ : 0 < c.J)
    (h : Src c tail s all) (ha : s.available = 0) (pb : St × Nat × Bool)
    (hpb : pb = processBlock c (s.frames.length + 2) s) :
    (pb.2.2 = true ∧ tail ≠ [Frame.endMarker]) ∨
    (pb.2.2 = false ∧ Src c tail (setAvail pb.1 pb.2.1) all ∧ (pb.2.1 = 0 → all = [])) := by
  obtain ⟨hI, rest, hR, rfl⟩ := h
  rw [pending_of_avail_zero s ha, List.nil_append]
  rcases hR with ⟨hb, rfl⟩ | ⟨k, bl, hb, hf, hv, hrest, ht⟩
  · rw [processBlock_none c _ s hb] at hpb
    subst hpb
    refine Or.inr ⟨rfl, ⟨⟨hI.1, ?_⟩, [], Or.inl ⟨hb, rfl⟩, by simp [pending, setAvail]⟩, fun _ => rfl⟩
    have := hI.2
    simp only [setAvail]
    omega
  · have hp := processBlock_blocks c hJ tail (s.frames.length + 2) s k bl hb hf hv ht
      (by rw [hf]; simp only [List.length_append, List.length_map]; omega)
    rw [← hrest, ← hpb] at hp
    rcases hp with ⟨he, htl⟩ | ⟨he, htot, hcons, hw, rest', hR', hre, hz⟩
    · exact Or.inl ⟨he, htl⟩
    · refine Or.inr ⟨he, ⟨⟨hw, ?_⟩, rest', RInv_frames_eq c tail _ _ rest' rfl rfl hR', ?_⟩, fun h0 => ?_⟩
      · simp only [setAvail, hcons, htot]
        omega
      · rw [hre]
        simp only [pending, setAvail, hcons, List.drop_zero, htot, List.take_length]
      · have hb : pb.1.bufs.flatten = [] := List.eq_nil_of_length_eq_zero (by omega)
        rw [hre, hz h0, hb]
        rfl

/-- expected outcome of `readLoop` when `all` are the bytes still to come -/
def resFor (n : Nat) (out all : List Nat) : ReadRes :=
  if 0 < n ∧ out ++ all.take n = [] then .eof else .data (out ++ all.take n) none

theorem resFor_nil (n : Nat) (out : List Nat) (hn : 0 < n) :
    (if out.length = 0 then ReadRes.eof else ReadRes.data out none) = resFor n out [] := by
  unfold resFor
  cases out <;> simp [hn]

theorem resFor_full (n : Nat) (out all : List Nat) (hn : 0 < n) (hle : n ≤ all.length) :
    resFor n out all = .data (out ++ all.take n) none := by
  have hne : all ≠ [] := List.ne_nil_of_length_pos (by omega)
  simp [resFor, List.take_eq_nil_iff, Nat.ne_of_gt hn, hne]

/-- outcome of `readLoop` asked for `n` bytes with `out` already copied and `all` still to come: the
    expected result, the reader standing in front of `all.drop n`; or, only when `tail` is a failing
    frame, a block error carrying a prefix of `all`, the reader `Dead` -/
def RLPost (c : Cfg) (tail : List Frame) (n : Nat) (out all : List Nat) (r : St × ReadRes) : Prop :=
  (r.2 = resFor n out all ∧ Src c tail r.1 (all.drop n)) ∨
  (tail ≠ [Frame.endMarker] ∧ Dead r.1 ∧ ∃ X, X <+: all ∧ r.2 = .data (out ++ X) (some .block))

theorem RLPost_shift (c : Cfg) (tail : List Frame) (n len : Nat) (out all : List Nat) (r : St × ReadRes)
    (h1 : len ≤ n) (h2 : len ≤ all.length)
    (h : RLPost c tail (n - len) (out ++ all.take len) (all.drop len) r) : RLPost c tail n out all r := by
  have htake : all.take len ++ (all.drop len).take (n - len) = all.take n := by
    have := List.take_add (l := all) (i := len) (j := n - len)
    rw [← this]; congr 1; omega
  have hdrop : (all.drop len).drop (n - len) = all.drop n := by
    rw [List.drop_drop]; congr 1; omega
  rcases h with ⟨hr, hS⟩ | ⟨ht, hd, X, hX, hr⟩
  · left
    refine ⟨?_, hdrop ▸ hS⟩
    rw [hr, resFor, resFor, List.append_assoc, htake]
    by_cases he : out ++ all.take n = []
    · have hl : len = 0 := by
        rcases List.take_eq_nil_iff.1 (List.append_eq_nil_iff.1 he).2 with h | h
        · omega
        · subst h
          simpa using h2
      simp [hl]
    · simp [he]
  · right
    refine ⟨ht, hd, all.take len ++ X, ?_, by rw [hr, List.append_assoc]⟩
    conv => rhs; rw [← List.take_append_drop len all]
    exact (List.prefix_append_right_inj _).2 hX

theorem rlLen_spec (c : Cfg) (hB : 0 < c.B) (s : St) (n : Nat) :
    rlLen c s n ≤ n ∧ rlLen c s n ≤ s.available ∧ rlLen c s n ≤ c.B - s.consumed % c.B ∧
      (rlLen c s n = 0 → n = 0 ∨ s.available = 0) := by
  have := Nat.mod_lt s.consumed hB
  unfold rlLen
  omega

/-- The fuel bounds: every iteration copies at least one byte, except one that starts with nothing
    available and only refills; after a refill that does not end the loop something is available, so
    two such iterations never follow each other. -/
theorem readLoop_blocks (c : Cfg) (hB : 0 < c.B) (hJ : 0 < c.J) (tail : List Frame) (fuel : Nat)
    (n : Nat) (out : List Nat) (s : St) (all : List Nat) (hS : Src c tail s all)
    (hf1 : n ≤ fuel) (hf2 : s.available = 0 → n + 1 ≤ fuel) :
    RLPost c tail n out all (readLoop c fuel n out s) := by
  have hava : ∀ (s : St) len, (adv s len).available = s.available - len := fun _ _ => rfl
  refine readLoop_cases c (P := fun fuel n out s r => ∀ all, Src c tail s all → n ≤ fuel →
    (s.available = 0 → n + 1 ≤ fuel) → RLPost c tail n out all r) ?_ ?_ ?_ ?_ ?_ fuel n out s all hS hf1 hf2
  · intro fuel n out s h all hS hf1 _
    have hn : n = 0 := by omega
    subst hn
    exact Or.inl ⟨by simp [resFor], hS⟩
  · intro fuel n out s len hlen hst all hS _ _
    obtain ⟨_, l2, l3, _⟩ := hlen ▸ rlLen_spec c hB s n
    exact absurd (hS.copy hB l2 l3).2.2.1 (Nat.not_le_of_gt hst)
  · intro fuel n out s len r hn hlen hav ih all hS hf1 hf2
    obtain ⟨l1, l2, l3, l4⟩ := hlen ▸ rlLen_spec c hB s n
    obtain ⟨hle, hck, _, hS'⟩ := hS.copy hB l2 l3
    rw [hava] at hav
    apply RLPost_shift c tail n len out all r l1 hle
    rw [← hck]
    exact ih _ hS' (by omega) (fun h => absurd h hav)
  · intro fuel n out s len hn hlen hfull all hS _ _
    obtain ⟨l1, l2, l3, _⟩ := hlen ▸ rlLen_spec c hB s n
    obtain rfl : len = n := Nat.le_antisymm l1 hfull
    obtain ⟨hle, hck, _, hS'⟩ := hS.copy hB l2 l3
    exact Or.inl ⟨by rw [resFor_full len out all (Nat.pos_of_ne_zero hn) hle, hck], hS'⟩
  · intro fuel n out s len pb hlen hlt hav hpb
    obtain ⟨_, l2, l3, l4⟩ := hlen ▸ rlLen_spec c hB s n
    have hcopy := fun all (hS : Src c tail s all) => hS.copy hB l2 l3
    refine ⟨fun herr all hS _ _ => ?_, fun hok h0 all hS _ _ => ?_, fun r hok hne ih all hS hf1 hf2 => ?_⟩
    · obtain ⟨_, hck, _, hS'⟩ := hcopy all hS
      rcases hS'.refill hJ hav pb hpb with ⟨_, htl⟩ | ⟨hok, _⟩
      · exact Or.inr ⟨htl, ⟨rfl, rfl⟩, all.take len, List.take_prefix _ _, by rw [hck]⟩
      · rw [herr] at hok
        cases hok
    · obtain ⟨hle, hck, _, hS'⟩ := hcopy all hS
      rcases hS'.refill hJ hav pb hpb with ⟨he, _⟩ | ⟨_, hS2, hz⟩
      · rw [hok] at he
        cases he
      · apply RLPost_shift c tail n len out all _ (Nat.le_of_lt hlt) hle
        rw [hz h0] at hS2 ⊢
        rw [hck, resFor_nil (n - len) _ (Nat.sub_pos_of_lt hlt)]
        exact Or.inl ⟨rfl, by rwa [List.drop_nil]⟩
    · obtain ⟨hle, hck, _, hS'⟩ := hcopy all hS
      rcases hS'.refill hJ hav pb hpb with ⟨he, _⟩ | ⟨_, hS2, _⟩
      · rw [hok] at he
        cases he
      · rw [hava] at hav
        apply RLPost_shift c tail n len out all r (Nat.le_of_lt hlt) hle
        rw [← hck]
        exact ih _ hS2 (by omega) (fun h => absurd h hne)

theorem read_blocks (c : Cfg) (hB : 0 < c.B) (hJ : 0 < c.J) (tail : List Frame) (n : Nat) (s : St)
    (all : List Nat) (hS : Src c tail s all) (hcl : s.closed = false) :
    RLPost c tail n [] all (read c s n) := by
  unfold read
  simp only [hcl, Bool.false_eq_true, if_false]
  exact readLoop_blocks c hB hJ tail _ n [] s all hS (by omega) (by omega)

theorem readSeq_valid (c : Cfg) (hB : 0 < c.B) (hJ : 0 < c.J) (sizes : List Nat) (s : St) (all : List Nat)
    (hS : Src c [Frame.endMarker] s all) (hcl : s.closed = false) :
    ∀ k, (hk : k < sizes.length) →
      ((readSeq c s sizes).2)[k]? =
        some (if sizes[k] = 0 then ReadRes.data [] none
              else if (sizes.take k).sum ≥ all.length then ReadRes.eof
              else ReadRes.data (specRead all (sizes.take k).sum sizes[k]) none) := by
  induction sizes generalizing s all with
  | nil => intro k hk; simp at hk
  | cons n ns ih =>
    intro k hk
    rcases read_blocks c hB hJ [Frame.endMarker] n s all hS hcl with ⟨hr, hS'⟩ | ⟨ht, _⟩
    · cases k with
      | zero =>
        simp only [readSeq, List.getElem?_cons_zero, List.getElem_cons_zero, List.take_zero,
          List.sum_nil, hr, resFor, List.nil_append, specRead, List.drop_zero]
        by_cases hn : n = 0
        · simp [hn]
        · have hn' : 0 < n := Nat.pos_of_ne_zero hn
          by_cases he : all = []
          · simp [hn, hn', he]
          · simp [hn, hn', he, List.take_eq_nil_iff]
      | succ k =>
        have hk' : k < ns.length := by simpa using hk
        have := ih (read c s n).1 (all.drop n) hS' ((read_keeps c s n).1.trans hcl) k hk'
        simp only [readSeq, List.getElem?_cons_succ, List.getElem_cons_succ, List.take_succ_cons,
          List.sum_cons]
        rw [this]
        simp only [specRead, List.length_drop, List.drop_drop, ge_iff_le, Nat.sub_le_iff_le_add']
    · exact absurd rfl ht

theorem resFor_bytes (n : Nat) (all : List Nat) :
    (resFor n [] all).bytes = all.take n ∧ resFor n [] all ≠ .stale := by
  unfold resFor
  split
  · rename_i h
    simp only [List.nil_append] at h
    simp [ReadRes.bytes, h.2]
  · simp [ReadRes.bytes]

theorem flatten_bytes_nil (l : List ReadRes) (h : ∀ r ∈ l, r.bytes = []) :
    (l.map ReadRes.bytes).flatten = [] := by
  induction l with
  | nil => rfl
  | cons a l ih =>
    simp only [List.map_cons, List.flatten_cons, h a (by simp), List.nil_append]
    exact ih (fun r hr => h r (by simp [hr]))

theorem readSeq_prefix (c : Cfg) (hB : 0 < c.B) (hJ : 0 < c.J) (tail : List Frame) (sizes : List Nat)
    (s : St) (all : List Nat) (hS : Src c tail s all) (hcl : s.closed = false) :
    ((readSeq c s sizes).2.map ReadRes.bytes).flatten <+: all ∧
      ReadRes.stale ∉ (readSeq c s sizes).2 := by
  induction sizes generalizing s all with
  | nil => simp [readSeq]
  | cons n ns ih =>
    simp only [readSeq, List.map_cons, List.flatten_cons, List.mem_cons, not_or]
    rcases read_blocks c hB hJ tail n s all hS hcl with ⟨hr, hS'⟩ | ⟨_, hd, X, hX, hr⟩
    · obtain ⟨h1, h2⟩ := ih (read c s n).1 (all.drop n) hS' ((read_keeps c s n).1.trans hcl)
      obtain ⟨hb, hns⟩ := resFor_bytes n all
      rw [hr, hb]
      refine ⟨?_, fun h => hns h.symm, h2⟩
      conv => rhs; rw [← List.take_append_drop n all]
      exact (List.prefix_append_right_inj _).2 h1
    · have hdead := readSeq_dead c (read c s n).1 ns hd
      rw [flatten_bytes_nil _ (fun r hr => (hdead r hr).1), hr]
      refine ⟨by simpa [ReadRes.bytes] using hX, by simp, fun h => (hdead _ h).2 rfl⟩
/-! ### streams without end marker (and without frames that decode to zero bytes) -/

/-- no end marker, and no frame that decodes to zero bytes -/
def FOK (fs : List Frame) : Prop :=
  Frame.endMarker ∉ fs ∧ ∀ f ∈ fs, f ≠ .block [] ∧ f ≠ .oversize 0

theorem FOK_tail (f : Frame) (fs : List Frame) (h : FOK (f :: fs)) : FOK fs :=
  ⟨fun hm => h.1 (List.mem_cons_of_mem _ hm), fun g hg => h.2 g (List.mem_cons_of_mem _ hg)⟩

theorem batch_fok (c : Cfg) (n id k : Nat) (fs : List Frame) (h : FOK fs) :
    ∀ b, batch c n id k fs = some b →
      (∃ k', b.ctr = some k') ∧ FOK b.frames ∧ b.frames.length + n = fs.length ∧
        (b.allSk = true ∨ 0 < b.bufs.flatten.length) := by
  induction n generalizing id k fs with
  | zero =>
    intro b hb
    cases hb
    exact ⟨⟨k, rfl⟩, h, rfl, .inl rfl⟩
  | succ n ih =>
    have push : ∀ (d : List Nat) (rest : List Frame), d ≠ [] → FOK rest → ∀ b,
        Batch.push c id d (batch c n (id + 1) id rest) = some b →
        (∃ k', b.ctr = some k') ∧ FOK b.frames ∧ b.frames.length + (n + 1) = rest.length + 1 ∧
          (b.allSk = true ∨ 0 < b.bufs.flatten.length) := by
      intro d rest hd hr b hb
      unfold Batch.push at hb
      split at hb
      · split at hb
        · cases hb
        · obtain ⟨b', hb', rfl⟩ := Option.map_eq_some_iff.1 hb
          obtain ⟨h1, h2, h3, _⟩ := ih _ _ _ hr b' hb'
          have := List.length_pos_iff.2 hd
          exact ⟨h1, h2, by dsimp only; omega, .inr (by simp only [List.flatten_cons, List.length_append]; omega)⟩
      · obtain ⟨h1, h2, h3, h4⟩ := ih _ _ _ hr b hb
        exact ⟨h1, h2, by omega, h4⟩
    cases fs with
    | nil => rw [batch]; nofun
    | cons f rest =>
      have ht := FOK_tail f rest h
      have hf := h.2 f (by simp)
      cases f with
      | endMarker => exact absurd (by simp) h.1
      | badCrit => rw [batch]; nofun
      | block d =>
        rw [batch]
        exact push d rest (fun hd => hf.1 (congrArg Frame.block hd)) ht
      | oversize m =>
        rw [batch]
        exact push _ rest (fun hd => hf.2 (congrArg Frame.oversize ((List.replicate_eq_nil_iff _).1 hd))) ht
      | badPost =>
        rw [batch]
        split
        · nofun
        · intro b hb
          obtain ⟨h1, h2, h3, h4⟩ := ih _ _ _ ht b hb
          exact ⟨h1, h2, by simp only [List.length_cons]; omega, h4⟩

theorem processBlock_fok (c : Cfg) (hJ : 0 < c.J) (fuel : Nat) (s : St) (k : Nat)
    (hb : s.blockID = some k) (hf : FOK s.frames) (hfuel : s.frames.length + 1 ≤ fuel) :
    (processBlock c fuel s).2.2 = true ∨
    ((processBlock c fuel s).2.2 = false ∧ 0 < (processBlock c fuel s).2.1 ∧
      (∃ k', (processBlock c fuel s).1.blockID = some k') ∧ FOK (processBlock c fuel s).1.frames) := by
  induction fuel generalizing s k with
  | zero => omega
  | succ fuel ih =>
    have hn := nbTasks_pos c hJ
    obtain ⟨herr, hok⟩ := processBlock_step c fuel s k hb
    cases hbt : batch c (nbTasks c) (k + 1) k s.frames with
    | none => exact .inl (herr hbt)
    | some b =>
      obtain ⟨dec, hpb⟩ := hok b hbt
      obtain ⟨⟨k', hk'⟩, h2, h3, h4⟩ := batch_fok c _ _ _ _ hf b hbt
      rw [hpb]
      split
      · exact ih _ k' hk' h2 (by dsimp only; omega)
      · rename_i hall
        exact .inr ⟨rfl, h4.resolve_left fun h => hall ⟨h, hn⟩, ⟨k', hk'⟩, h2⟩

/-- not cancelled, and the frames still to come satisfy `FOK` -/
def Live (s : St) : Prop := s.blockID ≠ none ∧ FOK s.frames

/-- a `Read` of a live reader never returns EOF, and the reader stays live unless an error is returned -/
def FokPost (r : St × ReadRes) : Prop := r.2 ≠ .eof ∧ (Live r.1 ∨ r.2.isErr = true)

theorem readLoop_fok (c : Cfg) (hJ : 0 < c.J) (fuel n : Nat) (out : List Nat) (s : St) (h : Live s) :
    FokPost (readLoop c fuel n out s) := by
  refine readLoop_cases c (P := fun _ _ _ s r => Live s → FokPost r) ?_ ?_ ?_ ?_ ?_ fuel n out s h
  · intro _ _ _ s _ h
    exact ⟨nofun, Or.inl h⟩
  · intro _ _ _ s _ _ _ h
    exact ⟨nofun, Or.inl h⟩
  · intro _ _ _ s _ _ _ _ _ ih h
    exact ih h
  · intro _ _ _ s _ _ _ _ h
    exact ⟨nofun, Or.inl h⟩
  · intro _ _ _ s len pb _ _ _ hpb
    -- a live reader that runs dry gets an error or at least one byte from `processBlock`
    have hlive : Live s → pb.2.2 = false → pb.2.1 ≠ 0 ∧ Live (setAvail pb.1 pb.2.1) := by
      intro h hok
      obtain ⟨k, hk⟩ := Option.ne_none_iff_exists'.1 h.1
      rcases processBlock_fok c hJ (s.frames.length + 2) (adv s len) k hk h.2 (Nat.le_succ _) with
        he | ⟨_, hpos, ⟨k', hk'⟩, hf⟩
      · rw [← hpb, hok] at he
        cases he
      · rw [← hpb] at hpos hk' hf
        exact ⟨by omega, by simp [setAvail, hk'], hf⟩
    exact ⟨fun _ _ => ⟨nofun, Or.inr rfl⟩, fun hok h0 h => absurd h0 (hlive h hok).1,
      fun _ hok _ ih h => ih (hlive h hok).2⟩

theorem read_fok (c : Cfg) (hJ : 0 < c.J) (s : St) (n : Nat) (h : Live s) : FokPost (read c s n) := by
  unfold read
  split
  · exact ⟨by simp, Or.inr rfl⟩
  · exact readLoop_fok c hJ _ _ _ s h

theorem readSeq_fok (c : Cfg) (hJ : 0 < c.J) (sizes : List Nat) (s : St) (h : Live s) :
    ∀ k : Nat, ((readSeq c s sizes).2)[k]? = some ReadRes.eof →
      ∃ j : Nat, j < k ∧ (((readSeq c s sizes).2)[j]?.map ReadRes.isErr) = some true := by
  induction sizes generalizing s with
  | nil => intro k hk; simp [readSeq] at hk
  | cons n ns ih =>
    intro k hk
    obtain ⟨h1, h2⟩ := read_fok c hJ s n h
    cases k with
    | zero =>
      simp only [readSeq, List.getElem?_cons_zero, Option.some.injEq] at hk
      exact absurd hk h1
    | succ k =>
      rcases h2 with h2 | h2
      · simp only [readSeq, List.getElem?_cons_succ] at hk
        obtain ⟨j, hj, hje⟩ := ih _ h2 k hk
        exact ⟨j + 1, by omega, by simpa [readSeq] using hje⟩
      · exact ⟨0, by omega, by simp [readSeq, h2]⟩

end Kanzi.Reader
