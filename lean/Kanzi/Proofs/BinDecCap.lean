/-
Proofs about `BinaryEntropyDecoder.Read` on ARBITRARY input (property C03, model
`Kanzi/Model/BinDecCap.lean`): the interval registers keep their invariant whatever `current` holds (no
wrap-around, the predictor is only ever asked in states of its invariant; `decodeBit_any`), `read()` is
the only faulting site and cannot fault while 32 bytes per remaining output byte are left in the buffer
(`decodeBytes_any`, `decodeBytes_no_fault`), the chunk loop terminates within `ceil(count / length)`
rounds (`readLoop_fuel`), and `len(this.buffer)` is bounded by the declared sizes on every path
(`readBlockCap_bound`).  Sections A, B and the loop results `readLoopCap_bound`, `readLoop_fuel` are
stated for any predictor and any chunk function: `Kanzi/Proofs/FpaqDecCap.lean` instantiates them for
`FPAQDecoder.Read`.  The property theorems are in `Kanzi/Properties/C03_rangebin.lean`.
-/
import Kanzi.Model.BinDecCap
import Kanzi.Proofs.BinEntDec
import Kanzi.Proofs.Fpaq

namespace Kanzi.BinEnt
open Kanzi.Bits Kanzi.EntSmall

/-! ### A. one bit -/

theorem read_ok_of_len (d : Dec σ) (h : 4 ≤ d.rem.length) : ∃ d', d.read = .ok d' := by
  unfold Dec.read
  match hr : d.rem with
  | [] => rw [hr] at h; simp at h
  | [_] => rw [hr] at h; simp at h
  | [_, _] => rw [hr] at h; simp at h
  | [_, _, _] => rw [hr] at h; simp at h
  | b0 :: b1 :: b2 :: b3 :: t => exact ⟨_, rfl⟩

theorem read_err (d : Dec σ) (x : Err) (h : d.read = .error x) : x = .index ∧ d.rem.length < 4 := by
  refine ⟨?_, Nat.lt_of_not_le fun hl => ?_⟩
  · unfold Dec.read at h
    split at h
    · cases h
    · cases h
      rfl
  · obtain ⟨d', hd'⟩ := read_ok_of_len d hl
    rw [hd'] at h
    cases h

/-- **one `DecodeBit` on arbitrary input** (`Inv low high`: top 32 of the 56 bits differ,
    `high < 2^56`): whatever `current` and the buffer hold, it either panics in `read()` — exactly when
    fewer than 4 bytes are left behind `index` — or keeps `R` and `Inv`. -/
theorem decodeBit_any (P : Pred σ) {R : σ → Prop} (hP : P.Safe R) (d : Dec σ) (hr : R d.ps)
    (hi : Inv d.low d.high) :
    (∀ x, d.decodeBit P = .error x → x = .index ∧ d.rem.length < 4) ∧
    (∀ b d', d.decodeBit P = .ok (b, d') →
        R d'.ps ∧ Inv d'.low d'.high ∧ d'.buffer = d.buffer ∧
        d'.rem.length ≤ d.rem.length ∧ d.rem.length ≤ d'.rem.length + 4) := by
  have hp := hP.range d.ps hr
  obtain ⟨e1, e2⟩ := step_any P d hi hp
  obtain ⟨_, _, _, f4⟩ := step_facts P.shift d.low d.high (P.get d.ps) (d.bit P) hi hp
  have hps : R (d.step P).ps := hP.step d.ps (d.bit P) hr
  rw [decodeBit_eq P d hi hp]
  cases hf : pflush P.shift d.low d.high (P.get d.ps) (d.bit P)
  · obtain ⟨_, q2, q3⟩ := p2_noflush _ _ _ _ _ hf
    rw [if_neg Bool.false_ne_true]
    refine ⟨fun x' h => (by cases h), fun b d' h => ?_⟩
    cases h
    rw [q2, q3, ← e1, ← e2] at f4
    exact ⟨hps, f4, rfl, Nat.le_refl _, Nat.le_add_right _ _⟩
  · obtain ⟨_, q2, q3⟩ := p2_flush _ _ _ _ _ hf
    rw [if_pos rfl]
    cases hrd : (d.step P).read with
    | error x =>
      refine ⟨fun x' h => ?_, fun _ _ h => (by cases h)⟩
      cases h
      exact read_err (d.step P) x hrd
    | ok d2 =>
      refine ⟨fun x' h => (by cases h), fun b d' h => ?_⟩
      cases h
      obtain ⟨g1, g2, g3, g4, g5⟩ := read_facts (d.step P) d2 hrd
      rw [q2, q3, ← e1, ← e2, ← g4, ← g5] at f4
      have hrem : (d.step P).rem = d.rem := rfl
      rw [hrem] at g3
      exact ⟨by rw [g2]; exact hps, f4, by rw [g1]; rfl, by omega, by omega⟩

/-! ### B. bits, bytes -/

/-- the state of a decoder between two `DecodeBit` calls -/
def Good (R : σ → Prop) (d : Dec σ) : Prop := R d.ps ∧ Inv d.low d.high

theorem decodeBitsAcc_any (P : Pred σ) {R : σ → Prop} (hP : P.Safe R) (k : Nat) (d : Dec σ) (acc : Nat)
    (hg : Good R d) :
    (∀ x, d.decodeBitsAcc P k acc = .error x → x = .index ∧ d.rem.length < 4 * k) ∧
    (∀ v d', d.decodeBitsAcc P k acc = .ok (v, d') →
        Good R d' ∧ d'.buffer = d.buffer ∧ d'.rem.length ≤ d.rem.length ∧ d.rem.length ≤ d'.rem.length + 4 * k) := by
  fun_induction Dec.decodeBitsAcc P k d acc with
  | case1 =>
    refine ⟨fun x h => (by cases h), fun v d' h => ?_⟩
    cases h
    exact ⟨hg, rfl, Nat.le_refl _, Nat.le_refl _⟩
  | case2 _ d _ x hb =>
    refine ⟨fun x' h => ?_, fun _ _ h => (by cases h)⟩
    cases h
    obtain ⟨q1, q2⟩ := (decodeBit_any P hP d hg.1 hg.2).1 x hb
    exact ⟨q1, by omega⟩
  | case3 _ d _ r hb ih =>
    obtain ⟨g1, g2, g3, g4, g5⟩ := (decodeBit_any P hP d hg.1 hg.2).2 r.1 r.2 hb
    obtain ⟨i1, i2⟩ := ih ⟨g1, g2⟩
    refine ⟨fun x h => ?_, fun v d' h => ?_⟩
    · obtain ⟨q1, q2⟩ := i1 x h
      exact ⟨q1, by omega⟩
    · obtain ⟨q1, q2, q3, q4⟩ := i2 v d' h
      exact ⟨q1, by rw [q2, g3], by omega, by omega⟩

theorem decodeBytes_any (P : Pred σ) {R : σ → Prop} (hP : P.Safe R) (n : Nat) (d : Dec σ) (acc : List Nat)
    (hg : Good R d) :
    (∀ x, d.decodeBytes P n acc = .error x → x = .index ∧ d.rem.length < 32 * n) ∧
    (∀ out d', d.decodeBytes P n acc = .ok (out, d') →
        Good R d' ∧ d'.buffer = d.buffer ∧ out.length = acc.length + n ∧
        d.rem.length ≤ d'.rem.length + 32 * n) := by
  fun_induction Dec.decodeBytes P n d acc with
  | case1 =>
    refine ⟨fun x h => (by cases h), fun out d' h => ?_⟩
    cases h
    exact ⟨hg, rfl, List.length_reverse, Nat.le_refl _⟩
  | case2 _ d _ x hb =>
    refine ⟨fun x' h => ?_, fun _ _ h => (by cases h)⟩
    cases h
    obtain ⟨q1, q2⟩ := (decodeBitsAcc_any P hP 8 d 0 hg).1 x hb
    exact ⟨q1, by omega⟩
  | case3 _ d acc r hb ih =>
    obtain ⟨g1, g2, g3, g4⟩ := (decodeBitsAcc_any P hP 8 d 0 hg).2 r.1 r.2 hb
    obtain ⟨i1, i2⟩ := ih g1
    refine ⟨fun x h => ?_, fun out d' h => ?_⟩
    · obtain ⟨q1, q2⟩ := i1 x h
      exact ⟨q1, by omega⟩
    · obtain ⟨q1, q2, q3, q4⟩ := i2 out d' h
      refine ⟨q1, by rw [q2, g2], ?_, by omega⟩
      rw [q3, List.length_cons]
      omega

/-- `read()` cannot fault while 32 bytes per remaining output byte are left in the buffer -/
theorem decodeBytes_no_fault (P : Pred σ) {R : σ → Prop} (hP : P.Safe R) (n : Nat) (d : Dec σ) (acc : List Nat)
    (hg : Good R d) (hlen : 32 * n ≤ d.rem.length) : ∃ r, d.decodeBytes P n acc = .ok r := by
  cases h : d.decodeBytes P n acc with
  | ok r => exact ⟨r, rfl⟩
  | error x =>
    have := ((decodeBytes_any P hP n d acc hg).1 x h).2
    omega

/-! ### C. one chunk, the chunk loop of `BinaryEntropyDecoder.Read` -/

theorem bytesOf_len : ∀ (n : Nat) (bs : Bits), (bytesOf n bs).length = n := by
  intro n
  induction n with
  | zero => intro bs; rfl
  | succ n ih => intro bs; simp [bytesOf, ih]

theorem readBytes_len (n : Nat) (bs : Bits) (x : List Nat) (r : Bits) (h : readBytes n bs = some (x, r)) :
    x.length = n := by
  unfold readBytes at h
  split at h
  · simp only [Option.some.injEq, Prod.mk.injEq] at h
    obtain ⟨rfl, _⟩ := h
    exact bytesOf_len n bs
  · cases h

theorem decBufFor_len (buffer : List Nat) (bufSize sz : Nat) :
    (decBufFor buffer bufSize sz).length = if sz > bufSize ∧ buffer.length < sz then sz else buffer.length := by
  unfold decBufFor
  by_cases h1 : sz > bufSize
  · by_cases h2 : buffer.length < sz
    · simp [h1, h2]
    · simp [h1, h2]
  · simp [h1]

/-- the chunk loop of the two `Read`s with `len(this.buffer)` at the end; `cap d bs` is that length
    when the chunk function fails on `d`, `bs` (`readChunksCap_eq`, `fReadChunksCap_eq`) -/
def readLoopCap (rc : Nat → Dec σ → Bits → Except Err (List Nat × Dec σ × Bits)) (cap : Dec σ → Bits → Nat)
    (L : Nat) : Nat → Dec σ → Nat → Bits → Except Err (List Nat × Dec σ × Bits) × Nat
  | 0, d, _, bs => (.ok ([], d, bs), d.buffer.length)
  | fuel + 1, d, count, bs =>
    if count = 0 then (.ok ([], d, bs), d.buffer.length)
    else
      match rc (min L count) d bs with
      | .error x => (.error x, cap d bs)
      | .ok c =>
        match readLoopCap rc cap L fuel c.2.1 (count - min L count) c.2.2 with
        | (.error x, n) => (.error x, n)
        | (.ok t, n) => (.ok (c.1 ++ t.1, t.2), n)

theorem readChunksCap_eq (P : Pred σ) (length bufSize : Nat) :
    ∀ (fuel : Nat) (d : Dec σ) (count : Nat) (bs : Bits),
    Dec.readChunksCap P fuel length bufSize d count bs
      = readLoopCap (Dec.readChunk P bufSize length) (chunkCap bufSize length) length fuel d count bs := by
  intro fuel
  induction fuel with
  | zero => intro d count bs; rfl
  | succ fuel ih =>
    intro d count bs
    simp only [Dec.readChunksCap, readLoopCap, ih]
    rfl

theorem readLoopCap_fst (rc : Nat → Dec σ → Bits → Except Err (List Nat × Dec σ × Bits))
    (cap : Dec σ → Bits → Nat) (L : Nat) : ∀ (fuel : Nat) (d : Dec σ) (count : Nat) (bs : Bits),
    (readLoopCap rc cap L fuel d count bs).1 = readLoop rc L fuel d count bs := by
  intro fuel
  induction fuel with
  | zero => intro _ _ _; rfl
  | succ fuel ih =>
    intro d count bs
    simp only [readLoopCap, readLoop]
    by_cases h0 : count = 0
    · rw [if_pos h0, if_pos h0]
    · rw [if_neg h0, if_neg h0]
      cases rc (min L count) d bs with
      | error x => rfl
      | ok c =>
        simp only []
        rw [← ih c.2.1 (count - min L count) c.2.2]
        cases readLoopCap rc cap L fuel c.2.1 (count - min L count) c.2.2 with
        | mk res n => cases res <;> rfl

/-- what is claimed of `r` = (result, `len(this.buffer)` at the end) of a read started on `d`: the
    buffer never shrinks, never exceeds `max(len before, m)`, and after success the decoder satisfies
    `G` and its buffer has exactly that length -/
def CapOk (G : Dec σ → Prop) (m : Nat) (d : Dec σ) (r : Except Err (List Nat × Dec σ × Bits) × Nat) : Prop :=
  d.buffer.length ≤ r.2 ∧ r.2 ≤ max d.buffer.length m ∧
  ∀ t, r.1 = .ok t → G t.2.1 ∧ t.2.1.buffer.length = r.2

theorem CapOk.error {G : Dec σ → Prop} {m n : Nat} {d : Dec σ} (x : Err) (h1 : d.buffer.length ≤ n)
    (h2 : n ≤ max d.buffer.length m) : CapOk G m d (.error x, n) :=
  ⟨h1, h2, fun _ h => by cases h⟩

theorem CapOk.same {G : Dec σ → Prop} {d : Dec σ} (m : Nat) (hg : G d) (out : List Nat) (bs : Bits) :
    CapOk G m d (.ok (out, d, bs), d.buffer.length) :=
  ⟨Nat.le_refl _, Nat.le_max_left _ _, fun _ h => by cases h; exact ⟨hg, rfl⟩⟩

/-- **allocation bound of the chunk loop, every path**, from the same claim about one chunk -/
theorem readLoopCap_bound {rc : Nat → Dec σ → Bits → Except Err (List Nat × Dec σ × Bits)}
    {cap : Dec σ → Bits → Nat} {G : Dec σ → Prop} (m L : Nat)
    (hrc : ∀ n d bs, G d → CapOk G m d (rc n d bs, cap d bs)) :
    ∀ (fuel : Nat) (d : Dec σ) (count : Nat) (bs : Bits), G d →
    CapOk G m d (readLoopCap rc cap L fuel d count bs) := by
  intro fuel
  induction fuel with
  | zero => intro d count bs hg; exact CapOk.same m hg [] bs
  | succ fuel ih =>
    intro d count bs hg
    simp only [readLoopCap]
    by_cases h0 : count = 0
    · rw [if_pos h0]; exact CapOk.same m hg [] bs
    · rw [if_neg h0]
      obtain ⟨c1, c2, c3⟩ := hrc (min L count) d bs hg
      cases hc : rc (min L count) d bs with
      | error x => exact CapOk.error x c1 c2
      | ok c =>
        simp only []
        obtain ⟨g1, g2⟩ := c3 c hc
        obtain ⟨i1, i2, i3⟩ := ih c.2.1 (count - min L count) c.2.2 g1
        rw [g2] at i1 i2
        cases hrec : readLoopCap rc cap L fuel c.2.1 (count - min L count) c.2.2 with
        | mk res n =>
          rw [hrec] at i1 i2 i3
          have k1 : d.buffer.length ≤ n := Nat.le_trans c1 i1
          have k2 : n ≤ max d.buffer.length m := by omega
          cases res with
          | error x => exact CapOk.error x k1 k2
          | ok t =>
            refine ⟨k1, k2, fun r h => ?_⟩
            cases h
            exact i3 t rfl

/-- one iteration of the chunk loop of `BinaryEntropyDecoder.Read`; `len(this.buffer)` stays at least
    `bufSize`.  The bound `2·length - 1`: a size that passes the test is `≤ bufSize` (no
    reallocation) or `< 2·length`. -/
theorem readChunk_any (P : Pred σ) {R : σ → Prop} (hP : P.Safe R) (bufSize length chunkSize : Nat) (d : Dec σ)
    (bs : Bits) (hg : Good R d) (hbuf : bufSize ≤ d.buffer.length) :
    CapOk (fun d => Good R d ∧ bufSize ≤ d.buffer.length) (2 * length - 1) d
      (Dec.readChunk P bufSize length chunkSize d bs, chunkCap bufSize length d bs) := by
  unfold chunkCap Dec.readChunk
  cases hv : readVarInt bs with
  | none => exact CapOk.error _ (Nat.le_refl _) (Nat.le_max_left _ _)
  | some p =>
    obtain ⟨sz, r⟩ := p
    simp only []
    by_cases hrej : sz > bufSize ∧ sz ≥ 2 * length
    · rw [if_pos hrej, if_pos hrej]
      exact CapOk.error _ (Nat.le_refl _) (Nat.le_max_left _ _)
    · rw [if_neg hrej, if_neg hrej]
      have hlen := decBufFor_len d.buffer bufSize sz
      have hcap1 : d.buffer.length ≤ (decBufFor d.buffer bufSize sz).length := by
        rw [hlen]; split <;> omega
      have hcap2 : (decBufFor d.buffer bufSize sz).length ≤ max d.buffer.length (2 * length - 1) := by
        rw [hlen]; split <;> omega
      have hsz : sz ≤ (decBufFor d.buffer bufSize sz).length := by
        rw [hlen]; split <;> omega
      refine ⟨hcap1, hcap2, fun c h => ?_⟩
      cases hc : readBits 56 r with
      | none => simp only [hc] at h; cases h
      | some q =>
        obtain ⟨cur, r1⟩ := q
        simp only [hc] at h
        cases hb : (if sz ≠ 0 then readBytes sz r1 else some ([], r1)) with
        | none => simp only [hb] at h; cases h
        | some q2 =>
          obtain ⟨bytes, r2⟩ := q2
          simp only [hb] at h
          have hbl : bytes.length = sz := by
            by_cases h0 : sz ≠ 0
            · rw [if_pos h0] at hb; exact readBytes_len sz r1 bytes r2 hb
            · rw [if_neg h0] at hb
              simp only [Option.some.injEq, Prod.mk.injEq] at hb
              obtain ⟨rfl, _⟩ := hb
              simp at h0; simp [h0]
          generalize hd0 : (Dec.mk d.ps d.low d.high cur (bytes ++ (decBufFor d.buffer bufSize sz).drop sz) (bytes ++ (decBufFor d.buffer bufSize sz).drop sz) : Dec σ) = d0 at h
          have hg0 : Good R d0 := by subst hd0; exact hg
          have hb0 : d0.buffer.length = (decBufFor d.buffer bufSize sz).length := by
            subst hd0
            simp only [List.length_append, List.length_drop, hbl]
            omega
          cases hdec : Dec.decodeBytes P chunkSize d0 [] with
          | error x => simp only [hdec] at h; cases h
          | ok res =>
            simp only [hdec] at h
            cases h
            obtain ⟨q1, q2, _, _⟩ := (decodeBytes_any P hP chunkSize d0 [] hg0).2 res.1 res.2 hdec
            rw [← hb0, ← q2] at hcap1
            exact ⟨⟨q1, Nat.le_trans hbuf hcap1⟩, by rw [q2, hb0]⟩

/-- **termination of the chunk loop**: `ceil(count / L)` rounds are enough, more fuel changes nothing -/
theorem readLoop_fuel (rc : Nat → Dec σ → Bits → Except Err (List Nat × Dec σ × Bits)) (L : Nat) :
    ∀ (fuel k : Nat) (d : Dec σ) (count : Nat) (bs : Bits), count ≤ fuel * L →
    readLoop rc L (fuel + k) d count bs = readLoop rc L fuel d count bs := by
  intro fuel
  induction fuel with
  | zero =>
    intro k d count bs hc
    have h0 : count = 0 := by omega
    subst h0
    rw [readLoop_zero, readLoop_zero]
  | succ fuel ih =>
    intro k d count bs hc
    have hk : fuel + 1 + k = (fuel + k) + 1 := by omega
    rw [hk]
    simp only [readLoop]
    by_cases h0 : count = 0
    · rw [if_pos h0, if_pos h0]
    · rw [if_neg h0, if_neg h0]
      cases hch : rc (min L count) d bs with
      | error x => rfl
      | ok c =>
        simp only []
        have hle : count - min L count ≤ fuel * L := by
          rw [Nat.add_mul, Nat.one_mul] at hc
          omega
        rw [ih k c.2.1 (count - min L count) c.2.2 hle]

theorem readLoop_fuel_eq (rc : Nat → Dec σ → Bits → Except Err (List Nat × Dec σ × Bits)) (L f1 f2 : Nat)
    (d : Dec σ) (count : Nat) (bs : Bits) (h1 : count ≤ f1 * L) (h2 : count ≤ f2 * L) :
    readLoop rc L f1 d count bs = readLoop rc L f2 d count bs := by
  rcases Nat.le_total f1 f2 with hle | hle
  · obtain ⟨k, rfl⟩ := Nat.exists_eq_add_of_le hle
    exact (readLoop_fuel rc L f1 k d count bs h1).symm
  · obtain ⟨k, rfl⟩ := Nat.exists_eq_add_of_le hle
    exact readLoop_fuel rc L f2 k d count bs h2

/-- with the real constant: a chunk never exceeds 2^26 bytes for a block of at most 2^30 -/
theorem chunkLenOf_real (count : Nat) (h : count ≤ MAX_BLOCK) : chunkLenOf MAX_CHUNK count ≤ 2 ^ 26 := by
  have := chunkLenOf_cases MAX_CHUNK count
  unfold MAX_BLOCK at h
  have hm : MAX_CHUNK = 2 ^ 26 := rfl
  omega

theorem bufSizeOf_le (length : Nat) : bufSizeOf length ≤ 2 * length - 1 ∨ length = 0 := by
  unfold bufSizeOf
  rw [Nat.shiftRight_eq_div_pow]
  omega

theorem readBlockCap_fst (P : Pred σ) (M : Nat) (d : Dec σ) (bs : Bits) (count : Nat) :
    (Dec.readBlockCap P M d bs count).1 = Dec.readBlock P M d bs count := by
  unfold Dec.readBlockCap Dec.readBlock
  split
  · rfl
  · rw [readChunksCap_eq, readChunks_eq]
    exact readLoopCap_fst _ _ _ _ _ _ _

/-- **allocation bound of `Read`, every path** (with `L` = the chunk length chosen for `count`) -/
theorem readBlockCap_bound (P : Pred σ) {R : σ → Prop} (hP : P.Safe R) (M : Nat) (d : Dec σ) (bs : Bits)
    (count : Nat) (hg : Good R d) :
    CapOk (Good R) (max (bufSizeOf (chunkLenOf M count)) (2 * chunkLenOf M count - 1)) d
      (Dec.readBlockCap P M d bs count) := by
  unfold Dec.readBlockCap
  split
  · exact CapOk.error _ (Nat.le_refl _) (Nat.le_max_left _ _)
  · rw [readChunksCap_eq]
    have hloop := readLoopCap_bound (2 * chunkLenOf M count - 1) (chunkLenOf M count)
      (fun n d bs hg => readChunk_any P hP (bufSizeOf (chunkLenOf M count)) (chunkLenOf M count) n d bs hg.1 hg.2)
      count
    by_cases hlt : d.buffer.length < bufSizeOf (chunkLenOf M count)
    · rw [if_pos hlt]
      obtain ⟨a1, a2, a3⟩ := hloop { d with buffer := List.replicate (bufSizeOf (chunkLenOf M count)) 0 }
        count bs ⟨hg, by simp⟩
      simp only [List.length_replicate] at a1 a2
      exact ⟨by omega, by omega, fun t h => ⟨(a3 t h).1.1, (a3 t h).2⟩⟩
    · rw [if_neg hlt]
      obtain ⟨a1, a2, a3⟩ := hloop d count bs ⟨hg, by omega⟩
      exact ⟨a1, by omega, fun t h => ⟨(a3 t h).1.1, (a3 t h).2⟩⟩

theorem good_init {R : σ → Prop} (s0 : σ) (hs : R s0) : Good R (Dec.init s0) := ⟨hs, inv_init⟩

end Kanzi.BinEnt
