/-
ByteTransformSequence, for every generation of the block codec.  The forward loop is `seqFwdGo2` of
`Kanzi/Model/Seq2.lean` (stages that see the data type hint and the size of their destination), the inverse loop
`seqInvGo` of `Kanzi/Model/TrSmall.lean`.

`Steps req l0 n A ts D E` says what a chain of stages does to a class of blocks: from `D` to `E` through classes
that only grow when a stage declines, an accepting stage being undone by its Inverse.  `seq_steps` compares the two
loops under `Steps`, whatever subset of stages declined.  The abstract stages of `TrSmall` are stages that ignore hint
and destination (`Stage.lift`): `seq_roundtrip` (C13_sequence) and `seq_flags_shape` are the instance "all classes
equal" (`steps_of_good`).  Then `MaxEncodedLen` of a sequence, in its two forms `seqMaxEncodedLen` and `runMax`, and
the sequences of the three small transforms.
-/
import Kanzi.Model.Seq2
import Kanzi.Proofs.TrSmall

namespace Kanzi.TrSmall

theorem seqInvGo_all_skipped :
    ∀ (stages : List Stage) (i f : Nat) (y : List Nat),
      i + stages.length ≤ 8 → (∀ k, k < 8 → flagSet f k = true) → seqInvGo stages i f y = .ok y := by
  intro stages
  induction stages with
  | nil => intro i f y _ _; rfl
  | cons st rest ih =>
    intro i f y hlen h
    simp only [List.length_cons] at hlen
    rw [seqInvGo, ih (i + 1) f y (by omega) h]
    simp only
    rw [h i (by omega)]
    rfl

end Kanzi.TrSmall

namespace Kanzi.BlockGen2
open Kanzi.Bits Kanzi.TrSmall Kanzi.Block Kanzi.BlockGen

theorem stagesOf_length (trs : List Tr) (a b : Nat) : (stagesOf trs a b).length = trs.length := by
  simp [stagesOf]

theorem stagesOf_cons (t : Tr2) (ts : List Tr2) (a n : Nat) :
    stagesOf (trsOf (t :: ts)) a n =
      ⟨fun x => t.fwd 0 x a, fun y => t.inv y n, t.maxLen⟩ :: stagesOf (trsOf ts) a n := rfl

/-! ### the skip flags written by the forward loop -/

theorem seqFwdGo2_flag_preserved (req l0 : Nat) :
    ∀ (trs : List Tr2) (j : Nat) (even : Bool) (dt : Nat) (cur : List Nat) (f i : Nat),
      i < j → j + trs.length ≤ 8 →
      flagSet (seqFwdGo2 req l0 trs j even dt cur f).2 i = flagSet f i := by
  intro trs
  induction trs with
  | nil => intro j even dt cur f i _ _; rfl
  | cons t rest ih =>
    intro j even dt cur f i hij hlen
    simp only [List.length_cons] at hlen
    rw [seqFwdGo2]
    cases t.fwd dt cur (if even then l0 else req) with
    | error e => exact ih (j + 1) _ _ cur f i (by omega) (by omega)
    | ok y =>
      simp only
      rw [ih (j + 1) _ _ y _ i (by omega) (by omega)]
      exact flagSet_clear_other f i j (by omega) (by omega) (by omega)

theorem seqFwdGo2_flags_low (req l0 : Nat) :
    ∀ (trs : List Tr2) (i : Nat) (even : Bool) (dt : Nat) (cur : List Nat) (f : Nat),
      f < 256 → i + trs.length ≤ 8 → f % 2 ^ (8 - i) = 2 ^ (8 - i) - 1 →
      (seqFwdGo2 req l0 trs i even dt cur f).2 < 256 ∧
      (seqFwdGo2 req l0 trs i even dt cur f).2 % 2 ^ (8 - (i + trs.length))
        = 2 ^ (8 - (i + trs.length)) - 1 := by
  intro trs
  induction trs with
  | nil => intro i even dt cur f hf _ h; exact ⟨hf, h⟩
  | cons t rest ih =>
    intro i even dt cur f hf hlen h
    simp only [List.length_cons] at hlen ⊢
    obtain ⟨h1, h2, h3⟩ := flags_low_step f hf i (by omega) h
    have e : 8 - (i + (rest.length + 1)) = 8 - (i + 1 + rest.length) := by omega
    have e7 : 7 - i = 8 - (i + 1) := by omega
    rw [seqFwdGo2, e]
    cases t.fwd dt cur (if even then l0 else req) with
    | error _ => exact ih (i + 1) _ _ cur f hf (by omega) (by rw [← e7]; exact h1)
    | ok y => exact ih (i + 1) _ _ y _ h2 (by omega) (by rw [← e7]; exact h3)

theorem seqForward2_flags_shape (trs : List Tr2) (req l0 dt : Nat) (x : List Nat) (hn : trs.length ≤ 8) :
    (seqForward2 trs req l0 dt x).2 < 256 ∧
    (seqForward2 trs req l0 dt x).2 % 2 ^ (8 - trs.length) = 2 ^ (8 - trs.length) - 1 := by
  unfold seqForward2
  by_cases hx : x.length = 0
  · rw [if_pos hx]
    exact ⟨by decide, ones_mod_le (f := 255) 8 (Nat.sub_le _ _) rfl⟩
  · rw [if_neg hx]
    have := seqFwdGo2_flags_low req l0 trs 0 true dt x 0xFF (by decide) (by omega) (by decide)
    simpa using this

/-! ### the forward loop against the inverse loop -/

/-- Run into destinations of `l0` or `req` bytes, the stages `ts` lead from the class `D` to the class `E` through
classes that only grow when a stage declines; a stage that accepts keeps a non-empty block non-empty, and (under `A`)
its Inverse into `n` bytes undoes it. -/
def Steps (req l0 n : Nat) (A : Prop) : List Tr2 → (List Nat → Prop) → (List Nat → Prop) → Prop
  | [], D, E => ∀ x, D x → E x
  | t :: ts, D, E => ∃ D' : List Nat → Prop, (∀ x, D x → D' x) ∧
      (∀ dt d x y, d = l0 ∨ d = req → D x → t.fwd dt x d = .ok y →
        D' y ∧ (x ≠ [] → y ≠ []) ∧ (A → t.inv y n = .ok x)) ∧
      Steps req l0 n A ts D' E

theorem Steps.sub {req l0 n : Nat} {A : Prop} : ∀ {ts : List Tr2} {D E : List Nat → Prop},
    Steps req l0 n A ts D E → ∀ x, D x → E x
  | [], _, _, h, x, hx => h x hx
  | _ :: _, _, _, ⟨_, h1, _, h3⟩, x, hx => h3.sub x (h1 x hx)

/-- the inverse loop driven by the flags of the forward loop undoes it, whatever subset of stages declined; the
output is in the last class, and empty only for an empty block (which the `len(src) == 0` shortcut of `Inverse`
would "decode" to nothing) -/
theorem seqGo_steps (req l0 n : Nat) (A : Prop) :
    ∀ (ts : List Tr2) (D E : List Nat → Prop) (i : Nat) (even : Bool) (dt : Nat) (cur : List Nat) (f : Nat),
      Steps req l0 n A ts D E → i + ts.length ≤ 8 → (∀ k, i ≤ k → k < 8 → flagSet f k = true) → D cur →
      (A → seqInvGo (stagesOf (trsOf ts) 0 n) i (seqFwdGo2 req l0 ts i even dt cur f).2
          (seqFwdGo2 req l0 ts i even dt cur f).1 = .ok cur) ∧
        E (seqFwdGo2 req l0 ts i even dt cur f).1 ∧
        (cur ≠ [] → (seqFwdGo2 req l0 ts i even dt cur f).1 ≠ []) := by
  intro ts
  induction ts with
  | nil => intro D E i even dt cur f h _ _ hD; exact ⟨fun _ => rfl, h cur hD, id⟩
  | cons t rest ih =>
    intro D E i even dt cur f ⟨D', hsub, hst, hrest⟩ hlen hset hD
    simp only [List.length_cons] at hlen
    rw [stagesOf_cons, seqFwdGo2]
    cases hfw : t.fwd dt cur (if even then l0 else req) with
    | error e =>
      simp only
      obtain ⟨h1, h2, h3⟩ := ih D' E (i + 1) even ((t.ctxw dt cur (if even then l0 else req)).getD dt) cur f hrest
        (by omega) (fun k hk hk8 => hset k (by omega) hk8) (hsub cur hD)
      refine ⟨fun hA => ?_, h2, h3⟩
      rw [seqInvGo, h1 hA]
      simp only
      rw [seqFwdGo2_flag_preserved req l0 rest (i + 1) _ _ cur f i (by omega) (by omega),
        hset i (Nat.le_refl _) (by omega)]
      rfl
    | ok y =>
      simp only
      obtain ⟨hDy, hyne, hyinv⟩ := hst dt _ cur y (by cases even <;> simp) hD hfw
      have hset' : ∀ k, i + 1 ≤ k → k < 8 → flagSet (clearFlag f i) k = true := fun k hk hk8 => by
        rw [flagSet_clear_other f k i hk8 (by omega) (by omega)]
        exact hset k (by omega) hk8
      obtain ⟨h1, h2, h3⟩ := ih D' E (i + 1) (!even) ((t.ctxw dt cur (if even then l0 else req)).getD dt) y
        (clearFlag f i) hrest (by omega) hset' hDy
      refine ⟨fun hA => ?_, h2, fun hc => h3 (hyne hc)⟩
      rw [seqInvGo, h1 hA]
      simp only
      rw [seqFwdGo2_flag_preserved req l0 rest (i + 1) _ _ y _ i (by omega) (by omega),
        flagSet_clear_self f i (by omega)]
      exact hyinv hA

/-- the sequence, with the shortcuts of `Forward` and `Inverse` for an empty block and for flags 0xFF -/
theorem seq_steps (req l0 n dt : Nat) (A : Prop) (ts : List Tr2) (D E : List Nat → Prop) (x : List Nat)
    (h : Steps req l0 n A ts D E) (hlen : ts.length ≤ 8) (hD : D x) :
    (A → seqInverse (stagesOf (trsOf ts) 0 n) (seqForward2 ts req l0 dt x).2 (seqForward2 ts req l0 dt x).1 = .ok x) ∧
      E (seqForward2 ts req l0 dt x).1 ∧ (x ≠ [] → (seqForward2 ts req l0 dt x).1 ≠ []) := by
  unfold seqForward2
  by_cases hx : x.length = 0
  · rw [if_pos hx]
    cases List.eq_nil_of_length_eq_zero hx
    exact ⟨fun _ => rfl, h.sub [] hD, id⟩
  · rw [if_neg hx]
    obtain ⟨h1, h2, h3⟩ := seqGo_steps req l0 n A ts D E 0 true dt x 0xFF h (by omega) (fun k _ hk => flagSet_ff k hk) hD
    refine ⟨fun hA => ?_, h2, h3⟩
    have h1 := h1 hA
    have hne := h3 fun h => hx (by rw [h]; rfl)
    unfold seqInverse
    rw [if_neg fun h => hne (List.eq_nil_of_length_eq_zero h)]
    by_cases hff : (seqFwdGo2 req l0 ts 0 true dt x 0xFF).2 = 0xFF
    · rw [if_pos hff]
      rw [hff, seqInvGo_all_skipped _ 0 0xFF _ (by rw [stagesOf_length]; simp only [trsOf, List.length_map]; omega)
        flagSet_ff] at h1
      exact h1
    · rw [if_neg hff]; exact h1

end Kanzi.BlockGen2

namespace Kanzi.TrSmall
open Kanzi.BlockGen Kanzi.BlockGen2

/-! ### the stages of `TrSmall`: stages that ignore hint and destination -/

def Stage.lift (st : Stage) : Tr2 :=
  ⟨fun _ x _ => st.fwd x, fun _ _ _ => none, fun y _ => st.inv y, st.maxLen⟩

theorem seqFwdGo_lift (req l0 : Nat) : ∀ (stages : List Stage) (i : Nat) (even : Bool) (dt : Nat) (cur : List Nat)
    (f : Nat), seqFwdGo2 req l0 (stages.map Stage.lift) i even dt cur f = seqFwdGo stages i cur f
  | [], _, _, _, _, _ => rfl
  | st :: rest, i, even, dt, cur, f => by
    rw [List.map_cons, seqFwdGo2, seqFwdGo]
    show (match st.fwd cur with
      | .error _ => seqFwdGo2 req l0 (rest.map Stage.lift) (i + 1) even dt cur f
      | .ok y => seqFwdGo2 req l0 (rest.map Stage.lift) (i + 1) (!even) dt y (clearFlag f i)) = _
    cases st.fwd cur <;> exact seqFwdGo_lift req l0 rest _ _ _ _ _

theorem seqForward_lift (req l0 dt : Nat) (stages : List Stage) (x : List Nat) :
    seqForward2 (stages.map Stage.lift) req l0 dt x = seqForward stages x := by
  unfold seqForward2 seqForward
  rw [seqFwdGo_lift]

theorem stagesOf_lift (a n : Nat) : ∀ stages : List Stage, stagesOf (trsOf (stages.map Stage.lift)) a n = stages
  | [] => rfl
  | st :: rest => congrArg (st :: ·) (stagesOf_lift a n rest)

theorem steps_of_good (req l0 n : Nat) (D : List Nat → Prop) : ∀ stages : List Stage,
    (∀ st ∈ stages, st.GoodOn D) → Steps req l0 n True (stages.map Stage.lift) D D
  | [], _ => fun _ h => h
  | st :: rest, h => ⟨D, fun _ h => h,
      fun _ _ x y _ hD hf => (h st (List.mem_cons_self ..) x y hD hf).imp id (.imp id fun h _ => h),
      steps_of_good req l0 n D rest fun s hs => h s (List.mem_cons_of_mem _ hs)⟩

/-- C13_sequence / C01_sequence -/
theorem seq_roundtrip (D : List Nat → Prop) (stages : List Stage) (x : List Nat)
    (hn : stages.length ≤ 8)
    (hrt : ∀ st ∈ stages, st.GoodOn D) (hD : D x) :
    seqInverse stages (seqForward stages x).2 (seqForward stages x).1 = .ok x := by
  have := (seq_steps 0 0 0 0 True _ D D x (steps_of_good 0 0 0 D stages hrt) (by rw [List.length_map]; exact hn) hD).1
    trivial
  rwa [seqForward_lift, stagesOf_lift] at this

theorem seq_flags_shape (stages : List Stage) (x : List Nat) (hn : stages.length ≤ 8) :
    (seqForward stages x).2 < 256 ∧
    (seqForward stages x).2 % 2 ^ (8 - stages.length) = 2 ^ (8 - stages.length) - 1 := by
  have := seqForward2_flags_shape (stages.map Stage.lift) 0 0 0 x (by rw [List.length_map]; exact hn)
  rwa [seqForward_lift, List.length_map] at this

theorem seq_all_declined (stages : List Stage) (x : List Nat)
    (h : ∀ st ∈ stages, ∀ y, ∃ e, st.fwd y = .error e) :
    seqForward stages x = (x, 0xFF) := by
  unfold seqForward
  by_cases hx : x.length = 0
  · rw [if_pos hx, List.eq_nil_of_length_eq_zero hx]
  · rw [if_neg hx]
    have : ∀ (stages : List Stage) (i f : Nat), (∀ st ∈ stages, ∀ y, ∃ e, st.fwd y = .error e) →
        seqFwdGo stages i x f = (x, f) := by
      intro stages
      induction stages with
      | nil => intro i f _; rfl
      | cons st rest ih =>
        intro i f h
        obtain ⟨e, he⟩ := h st (List.mem_cons_self ..) x
        rw [seqFwdGo, he]
        exact ih (i + 1) f (fun s hs => h s (List.mem_cons_of_mem _ hs))
    exact this stages 0 0xFF h

/-! ### `MaxEncodedLen` of a sequence -/

theorem seqMaxEncodedLen_mono :
    ∀ (stages : List Stage), (∀ st ∈ stages, ∀ a b, a ≤ b → st.maxLen a ≤ st.maxLen b) →
      ∀ a b, a ≤ b → seqMaxEncodedLen stages a ≤ seqMaxEncodedLen stages b := by
  intro stages
  induction stages with
  | nil => intro _ a b h; exact h
  | cons st rest ih =>
    intro hm a b hab
    have hst := hm st (List.mem_cons_self ..) a b hab
    rw [seqMaxEncodedLen, seqMaxEncodedLen]
    apply ih (fun s hs => hm s (List.mem_cons_of_mem _ hs))
    split <;> split <;> omega

theorem le_seqMaxEncodedLen : ∀ (stages : List Stage) (n : Nat), n ≤ seqMaxEncodedLen stages n := by
  intro stages
  induction stages with
  | nil => intro n; exact Nat.le_refl _
  | cons st rest ih =>
    intro n
    rw [seqMaxEncodedLen]
    refine Nat.le_trans ?_ (ih _)
    split <;> omega

theorem maxLen_le_seqMaxEncodedLen :
    ∀ (stages : List Stage), (∀ st ∈ stages, ∀ a b, a ≤ b → st.maxLen a ≤ st.maxLen b) →
      ∀ n, ∀ st ∈ stages, st.maxLen n ≤ seqMaxEncodedLen stages n := by
  intro stages
  induction stages with
  | nil => intro _ n st hst; cases hst
  | cons s rest ih =>
    intro hm n st hst
    rw [seqMaxEncodedLen]
    rcases List.mem_cons.1 hst with h | h
    · subst h
      refine Nat.le_trans ?_ (le_seqMaxEncodedLen rest _)
      split <;> omega
    · have hm' : ∀ s ∈ rest, ∀ a b, a ≤ b → s.maxLen a ≤ s.maxLen b :=
        fun s hs => hm s (List.mem_cons_of_mem _ hs)
      refine Nat.le_trans (hm st hst n _ ?_) (ih hm' _ st h)
      split <;> omega

theorem seqFwdGo_len_le :
    ∀ (stages : List Stage) (i : Nat) (cur : List Nat) (f m : Nat),
      (∀ st ∈ stages, ∀ a b, a ≤ b → st.maxLen a ≤ st.maxLen b) →
      (∀ st ∈ stages, ∀ x y, st.fwd x = .ok y → y.length ≤ st.maxLen x.length) →
      cur.length ≤ m →
      (seqFwdGo stages i cur f).1.length ≤ seqMaxEncodedLen stages m := by
  intro stages
  induction stages with
  | nil => intro i cur f m _ _ h; exact h
  | cons st rest ih =>
    intro i cur f m hm hb hcur
    have hm' : ∀ s ∈ rest, ∀ a b, a ≤ b → s.maxLen a ≤ s.maxLen b :=
      fun s hs => hm s (List.mem_cons_of_mem _ hs)
    have hb' : ∀ s ∈ rest, ∀ x y, s.fwd x = .ok y → y.length ≤ s.maxLen x.length :=
      fun s hs => hb s (List.mem_cons_of_mem _ hs)
    rw [seqFwdGo, seqMaxEncodedLen]
    cases hfw : st.fwd cur with
    | error _ =>
      apply ih (i + 1) cur f _ hm' hb'
      split <;> omega
    | ok y =>
      apply ih (i + 1) y _ _ hm' hb'
      have h1 := hb st (List.mem_cons_self ..) cur y hfw
      have h2 := hm st (List.mem_cons_self ..) _ _ hcur
      split <;> omega

/-- `MaxEncodedLen` of the sequence bounds the output when every stage respects its own bound and
    the bounds are monotone: the `len(dst) < length` branch of `Forward` is dead. -/
theorem seq_forward_len_le (stages : List Stage) (x : List Nat)
    (hm : ∀ st ∈ stages, ∀ a b, a ≤ b → st.maxLen a ≤ st.maxLen b)
    (hb : ∀ st ∈ stages, ∀ x y, st.fwd x = .ok y → y.length ≤ st.maxLen x.length) :
    (seqForward stages x).1.length ≤ seqMaxEncodedLen stages x.length := by
  unfold seqForward
  by_cases hx : x.length = 0
  · rw [if_pos hx]; simp
  · rw [if_neg hx]; exact seqFwdGo_len_le stages 0 x 0xFF _ hm hb (Nat.le_refl _)

end Kanzi.TrSmall

namespace Kanzi.BlockGen2
open Kanzi.Bits Kanzi.TrSmall Kanzi.Block Kanzi.BlockGen

/-- a transform together with its output bound -/
structure LTr where
  t : Tr2
  g : Nat → Nat

def ltrs (ls : List LTr) : List Tr2 := ls.map (·.t)

/-- `MaxEncodedLen` of the sequence, as a recursion -/
def runMax : List LTr → Nat → Nat
  | [], m => m
  | l :: ls, m => runMax ls (if l.t.maxLen m > m then l.t.maxLen m else m)

theorem seqMaxLen_ltrs (ls : List LTr) (m : Nat) : seqMaxLen (trsOf (ltrs ls)) m = runMax ls m := by
  unfold seqMaxLen stagesOf trsOf ltrs
  induction ls generalizing m with
  | nil => rfl
  | cons l ls ih =>
    simp only [List.map_cons, seqMaxEncodedLen, Tr.stage, Tr2.toTr, runMax]
    exact ih _

theorem le_runMax (ls : List LTr) (m : Nat) : m ≤ runMax ls m := by
  rw [← seqMaxLen_ltrs]; exact le_seqMaxEncodedLen _ m

theorem runMax_mono : ∀ (ls : List LTr), (∀ l ∈ ls, ∀ a b, a ≤ b → l.t.maxLen a ≤ l.t.maxLen b) →
    ∀ a b, a ≤ b → runMax ls a ≤ runMax ls b := by
  intro ls h a b hab
  rw [← seqMaxLen_ltrs, ← seqMaxLen_ltrs]
  refine seqMaxEncodedLen_mono _ (fun st hst => ?_) a b hab
  obtain ⟨t, ht, rfl⟩ := List.mem_map.mp hst
  obtain ⟨t2, ht2, rfl⟩ := List.mem_map.mp ht
  obtain ⟨l, hl, rfl⟩ := List.mem_map.mp ht2
  exact h l hl

end Kanzi.BlockGen2

namespace Kanzi.TrSmall

/-! ### sequences of the three small transforms -/

/-- sequences of the concrete small transforms, with the buffer sizes the Go sequence uses -/
theorem seq_small_roundtrip (stages : List Stage) (x : List Nat) (req n : Nat)
    (hn : stages.length ≤ 8) (hst : ∀ st ∈ stages, IsSmallStage req n st)
    (hreq : seqMaxEncodedLen stages x.length ≤ req) (hdst : x.length ≤ n)
    (hb : ∀ b ∈ x, b < 256) (hlen : x.length + 1 < 2 ^ 32) :
    seqInverse stages (seqForward stages x).2 (seqForward stages x).1 = .ok x := by
  apply seq_roundtrip (IsBlock x.length) stages x hn ?_ ⟨hb, Nat.le_refl _⟩
  intro st hmem
  have hmono : ∀ s ∈ stages, ∀ a b, a ≤ b → s.maxLen a ≤ s.maxLen b :=
    fun s hs => smallStage_mono req n s (hst s hs)
  have hmax := Nat.le_trans (maxLen_le_seqMaxEncodedLen stages hmono x.length st hmem) hreq
  rcases hst st hmem with h | h | ⟨m, h⟩
  · subst h; exact null_good _ req n hdst
  · subst h
    simp only [zrltStage, zrltMaxEncodedLen] at hmax
    exact zrlt_good _ req n hdst hlen hmax
  · subst h
    simp only [sbrtStage, sbrtMaxEncodedLen] at hmax
    exact sbrt_good m _ req n hdst hmax

end Kanzi.TrSmall
