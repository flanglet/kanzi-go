/-
The main loop of the LZ `Forward` (`fwdStep_sat`, one `Out.Sat` statement that yields both the round trip and
the absence of faults): every iteration keeps `FInv` - the four sections hold the serialisation of a valid
token stream that denotes `src[0:anchor]` (`C13_lz_forward_valid`, hence `lz_roundtrip`:
`lzForward b n = .ok t → lzInverse t dst = .ok b`) - and, on a block of byte values and a destination of
`MaxEncodedLen` bytes, never faults (`lzForward_nf`, the Forward half of `C13_lz_total`): no read or write
out of range, no shortened copy, enough fuel.  The only non-trivial bound is the token buffer `tkBuf`, which
is allocated once with `max(count/5, 256)` entries and never grown: it suffices because every sequence covers
at least 5 source bytes (`hash_match_ge5`).  Last section: on arbitrary input, `lzInverse` never runs out of
fuel (`lzInverse_ne_fuel`).
-/
import Kanzi.Proofs.LZFwd

namespace Kanzi.LZ

/-- the constants of a call as `lzForward` sets them up -/
structure CfgT (c : Cfg) : Prop where
  ok : CfgOK c
  bytes : Bytes c.src
  tkc : c.tkCap = max (c.src.size / 5) 256
  dst : c.src.size + 16 ≤ c.dstLen

/-- sizes of the four sections relative to the anchor, and the capacities of the side buffers.  `5`: every
    sequence covers at least 5 source bytes (`hash_match_ge5`); `7`: every byte of the match-length section
    pays for at least 7 matched bytes (`emitLength_length7`) -/
structure BInv (c : Cfg) (s : FSt) (b : Bufs) : Prop where
  lit : b.lit.size ≤ s.anchor
  tk : 5 * b.tk.size ≤ s.anchor
  m : b.m.size + 8 < b.mCap
  mc : 256 ≤ b.mCap
  ml : 7 * b.ml.size ≤ s.anchor
  mlc : c.tkCap ≤ b.mlCap

theorem distCode_th_ge (d r0 r1 : Nat) : 3 ≤ (distCode d r0 r1).2.1 := by
  rw [distCode_th]; split <;> omega

/-- what "Emit match" appends to the four sections for the literals `src[anchor:srcIdx]` and the match -/
structure Emitted (c : Cfg) (b b' : Bufs) (r0 r1 anchor srcIdx dist bestLen : Nat) : Prop where
  lit : b'.lit.toList = b.lit.toList ++ litBytes (c.src.extract anchor srcIdx).toList
  tk : b'.tk.toList = b.tk.toList ++ [seqTok c.minMatch r0 r1 ⟨(c.src.extract anchor srcIdx).toList, dist, bestLen⟩]
  m : b'.m.toList = b.m.toList ++ seqM r0 r1 ⟨(c.src.extract anchor srcIdx).toList, dist, bestLen⟩
  ml : b'.ml.toList = b.ml.toList ++ seqMl c.minMatch r0 r1 ⟨(c.src.extract anchor srcIdx).toList, dist, bestLen⟩
  lim : srcIdx - anchor < LIT_LIMIT
  mCap : b'.mCap = (if b'.m.size + 8 ≥ b.mCap then b.mCap + b.mCap / 2 else b.mCap)
  mlCap : b.mlCap ≤ b'.mlCap

theorem pushCap_sat {F : Prop} {cap : Nat} {buf : Array Nat} {bs : List Nat} {w : String}
    (h : F → buf.size + bs.length ≤ cap) : Out.Sat (fun _ => ¬ F) (pushCap cap buf bs w) (fun r => r = buf ++ bs) := by
  unfold pushCap
  by_cases hc : bs.isEmpty ∨ buf.size + bs.length ≤ cap
  · rw [if_pos hc]
    exact .ok rfl
  · rw [if_neg hc]
    exact .fault fun hF => hc (.inr (h hF))

/-- the length prefix of a literal run of `n` bytes (Forward writes it in the loop and after it) -/
theorem litLen_sat {F : Prop} {dstLen n : Nat} {lit : Array Nat} (h : F → 13 + lit.size + 4 ≤ dstLen) :
    Out.Sat (fun _ => ¬ F) (if n ≥ 7 then
          if 13 + lit.size + (emitLength (n - 7)).length ≤ dstLen then Out.ok (lit ++ emitLength (n - 7))
          else Out.fault "dst-index"
        else Out.ok lit)
      (fun r => r = lit ++ (if n ≥ 7 then emitLength (n - 7) else [])) := by
  have h4 := (emitLength_length_le (n - 7)).2
  by_cases h7 : n ≥ 7
  · rw [if_pos h7, if_pos h7]
    by_cases hd : 13 + lit.size + (emitLength (n - 7)).length ≤ dstLen
    · rw [if_pos hd]
      exact .ok rfl
    · rw [if_neg hd]
      exact .fault fun hF => hd (by have := h hF; omega)
  · rw [if_neg h7, if_neg h7]
    exact .ok (by simp)

theorem litCopy_sat {F : Prop} {dstLen n anchor : Nat} {src lit : Array Nat} (h : F → 13 + lit.size + n ≤ dstLen) :
    Out.Sat (fun _ => ¬ F) (if 13 + lit.size > dstLen then Out.fault "dst-slice"
        else if 13 + lit.size + n > dstLen then Out.fault "short-copy"
        else Out.ok (lit ++ src.extract anchor (anchor + n)))
      (fun r => r = lit ++ src.extract anchor (anchor + n)) := by
  by_cases h1 : 13 + lit.size > dstLen
  · rw [if_pos h1]
    exact .fault fun hF => by have := h hF; omega
  · rw [if_neg h1]
    by_cases h2 : 13 + lit.size + n > dstLen
    · rw [if_pos h2]
      exact .fault fun hF => by have := h hF; omega
    · rw [if_neg h2]
      exact .ok rfl

/-- "Emit match" up to the growth of the side buffers -/
theorem emitSeq_sat {c : Cfg} (hc : CfgOK c) {b : Bufs} {r0 r1 anchor srcIdx dist bestLen : Nat}
    (ha : anchor ≤ srcIdx) (hs : srcIdx ≤ c.srcEnd)
    (hB : CfgT c → b.lit.size ≤ anchor ∧ b.tk.size + 1 ≤ c.tkCap ∧ b.m.size + 3 ≤ b.mCap ∧ b.ml.size + 4 ≤ b.mlCap) :
    Out.Sat (fun _ => ¬ CfgT c) (emitSeq c b r0 r1 anchor srcIdx dist bestLen)
      (fun b' => Emitted c b b' r0 r1 anchor srcIdx dist bestLen) := by
  have hsz := hc.size
  have hlen := extract_length c.src anchor (j := srcIdx) (by omega)
  have e7 : anchor + (srcIdx - anchor) = srcIdx := by omega
  unfold emitSeq
  simp only []
  refine (pushCap_sat fun hT => ?_).bind fun m _ em => ?_
  · have := distCode_len dist r0 r1
    have := (hB hT).2.2.1
    omega
  refine Out.Sat.bind (P := fun ml => ml = b.ml ++ seqMl c.minMatch r0 r1 ⟨(c.src.extract anchor srcIdx).toList, dist, bestLen⟩)
    ?_ fun ml _ eml => ?_
  · unfold seqMl
    simp only []
    by_cases hge : bestLen - c.minMatch ≥ (distCode dist r0 r1).2.1
    · rw [if_pos hge, if_pos hge]
      refine pushCap_sat fun hT => ?_
      have := (emitLength_length_le (bestLen - c.minMatch - (distCode dist r0 r1).2.1)).2
      have := (hB hT).2.2.2
      omega
    · rw [if_neg hge, if_neg hge]
      exact .ok (by simp)
  by_cases hlim : srcIdx - anchor ≥ 7 ∧ srcIdx - anchor ≥ LIT_LIMIT
  · rw [if_pos hlim]
    exact .err
  rw [if_neg hlim]
  refine (pushCap_sat fun hT => ?_).bind fun tk _ etk => ?_
  · have := (hB hT).2.1
    simpa using this
  refine (litLen_sat fun hT => ?_).bind fun lit1 _ el1 => ?_
  · have := (hB hT).1
    have := hT.dst
    omega
  have h4 : lit1.size ≤ b.lit.size + 4 := by
    have := (emitLength_length_le (srcIdx - anchor - 7)).2
    rw [el1, size_appendList]
    split
    · omega
    · exact Nat.le_add_right _ _
  refine Out.Sat.bind (P := fun lit2 => lit2.toList = lit1.toList ++ (c.src.extract anchor srcIdx).toList)
    ?_ fun lit2 _ el2 => ?_
  · by_cases h0 : srcIdx - anchor = 0
    · rw [if_pos h0]
      refine .ok ?_
      rw [List.eq_nil_of_length_eq_zero (hlen.trans h0), List.append_nil]
    · rw [if_neg h0]
      refine (litCopy_sat fun hT => ?_).mono fun r hr => ?_
      · have := (hB hT).1
        have := hT.dst
        omega
      · rw [hr, e7, Array.toList_append]
  refine .ok ⟨?_, ?_, ?_, ?_, ?_, ?_, ?_⟩
  · simp only []
    rw [el2, el1]
    unfold litBytes
    rw [hlen]
    simp
  · simp only []
    rw [etk]
    unfold seqTok matchTok
    simp only [hlen]
    simp
  · simp only []
    rw [em]
    simp [seqM]
  · simp only []
    rw [eml]
    simp
  · simp only [LIT_LIMIT] at hlim ⊢
    omega
  · simp
  · simp only []
    split <;> omega

theorem Emitted_sizes {c : Cfg} {b b' : Bufs} {r0 r1 anchor srcIdx dist bestLen : Nat} (hmm : 4 ≤ c.minMatch)
    (hs : srcIdx ≤ c.src.size) (h : Emitted c b b' r0 r1 anchor srcIdx dist bestLen) :
    b'.lit.size ≤ b.lit.size + (srcIdx - anchor) + 4 ∧ b'.tk.size = b.tk.size + 1 ∧ b'.m.size ≤ b.m.size + 3 ∧
      7 * b'.ml.size ≤ 7 * b.ml.size + bestLen := by
  have hlen := extract_length c.src anchor hs
  have l1 := congrArg List.length h.lit
  have l2 := congrArg List.length h.tk
  have l3 := congrArg List.length h.m
  have l4 := congrArg List.length h.ml
  simp only [Array.length_toList, List.length_append, List.length_cons, List.length_nil, litBytes_length, hlen] at l1 l2 l3 l4
  refine ⟨?_, l2, ?_, ?_⟩
  · rw [l1]
    have := (emitLength_length_le (srcIdx - anchor - 7)).2
    split <;> omega
  · rw [l3]; unfold seqM; have := distCode_len dist r0 r1; simp only [] at this ⊢; omega
  · rw [l4]; unfold seqMl
    simp only []
    have hth := distCode_th_ge dist r0 r1
    split
    · have := emitLength_length7 (bestLen - c.minMatch - (distCode dist r0 r1).2.1)
      omega
    · simp

/-! ## the loop invariant with the hash table and the buffer bounds -/

theorem SInv_snoc {c : Cfg} (hc : CfgOK c) {s : FSt} {b b1 : Bufs} {qs : List Seq} {mt : Mt}
    (hi : SInv c s b qs) (hm : Cand c mt) (ha : s.anchor ≤ mt.srcIdx) (hmin : c.minMatch ≤ mt.bestLen)
    (hmax : mt.bestLen ≤ MAX_MATCH)
    (e : Emitted c b b1 s.repd0 s.repd1 s.anchor mt.srcIdx (mt.srcIdx - mt.ref) mt.bestLen) :
    SInv c ⟨mt.srcIdx + mt.bestLen, mt.srcIdx + mt.bestLen, mt.srcIdx - mt.ref, s.repd0, 1, 0⟩ b1
      (qs ++ [⟨(c.src.extract s.anchor mt.srcIdx).toList, mt.srcIdx - mt.ref, mt.bestLen⟩]) := by
  have hsz := hc.size
  have hfin := hm.fin
  have hback := hm.back
  have hmm4 := hc.mm4
  have hrep := hi.rep
  have hr0 : (repdAfter c.src.size c.src.size qs).1 = s.repd0 := by rw [hrep]
  have hr1 : (repdAfter c.src.size c.src.size qs).2 = s.repd1 := by rw [hrep]
  have hlen := extract_length c.src s.anchor (j := mt.srcIdx) (by omega)
  have hden : (denote [] qs).length = s.anchor := by
    rw [hi.den, List.length_take, Array.length_toList]; have := hi.ancEnd; omega
  refine ⟨Nat.le_refl _, hfin, ?_, hi.r0, ?_, ?_, ?_, ?_, ?_, ?_, ?_⟩
  · simp only []; omega
  · rw [serSeqs_append, e.lit, hi.lit]
  · rw [serSeqs_append, e.tk, hi.tk, hr0, hr1]
  · rw [serSeqs_append, e.m, hi.m, hr0, hr1]
  · rw [serSeqs_append, e.ml, hi.ml, hr0, hr1]
  · rw [repdAfter_append, hr0]
  · have := ValidSeqs_append (mm := c.minMatch) (md := c.maxDist) (N := c.src.size) qs []
      ⟨(c.src.extract s.anchor mt.srcIdx).toList, mt.srcIdx - mt.ref, mt.bestLen⟩ hi.valid
    apply this
    rw [hden]
    simp only [ValidSeqs, hlen, and_true]
    exact ⟨e.lim, by omega, by omega, hm.dist, by omega, hmin, hmax⟩
  · -- the match denotes the source bytes it covers because it was verified byte by byte
    rw [denote_append, hi.den]
    simp only []
    rw [take_append_extract c.src ha]
    apply copyMatch_src c.src.toList (mt.srcIdx - mt.ref) (by omega) mt.bestLen mt.srcIdx (by omega)
      (by rw [Array.length_toList]; omega)
    intro k hk
    rw [Nat.sub_sub_self (Nat.le_of_lt hback), toList_getElem?_of_lt (by omega), toList_getElem?_of_lt (by omega),
      hm.same k hk]

theorem BInv_snoc {c : Cfg} (hc : CfgOK c) {s : FSt} {b b1 : Bufs} {mt : Mt} {x r0 r1 ri si : Nat}
    (hb : BInv c s b) (hm : Cand c mt) (ha : s.anchor ≤ mt.srcIdx) (hmin : c.minMatch ≤ mt.bestLen)
    (hspan : s.anchor + 5 ≤ mt.srcIdx + mt.bestLen)
    (e : Emitted c b b1 s.repd0 s.repd1 s.anchor mt.srcIdx (mt.srcIdx - mt.ref) mt.bestLen) :
    BInv c ⟨x, mt.srcIdx + mt.bestLen, r0, r1, ri, si⟩ b1 := by
  have hsz := hc.size
  have hfin := hm.fin
  have hmm4 := hc.mm4
  obtain ⟨z1, z2, z3, z4⟩ := Emitted_sizes hmm4 (by omega) e
  have h1 := hb.lit; have h2 := hb.tk; have h3 := hb.m; have h4 := hb.mc; have h5 := hb.ml; have h6 := hb.mlc
  have e7 := e.mlCap
  refine ⟨by simp only []; omega, by simp only []; omega, ?_, ?_, by simp only []; omega, by omega⟩
  · rw [e.mCap]; split <;> omega
  · rw [e.mCap]; split <;> omega

/-- `SInv` for some token stream; the table holds earlier positions (under their own hash on a block of bytes); and,
    when the call is set up as `lzForward` does (`CfgT`), the buffer bounds hold -/
def FInv (c : Cfg) (tbl : Array Nat) (s : FSt) (b : Bufs) : Prop :=
  (∃ qs, SInv c s b qs) ∧ TblOK c tbl s.srcIdx ∧ (CfgT c → BInv c s b)

/-- from "Emit match" to the end of the loop body: one more sequence (that covers at least 5 bytes where the
    token buffer matters), the invariant holds at the new anchor -/
theorem emitMatch_sat {c : Cfg} (hc : CfgOK c) {tbl : Array Nat} {s : FSt} {b : Bufs} {qs : List Seq} {mt : Mt}
    (hi : SInv c s b qs) (hm : Cand c mt) (ha : s.anchor ≤ mt.srcIdx) (hmin : c.minMatch ≤ mt.bestLen)
    (hmax : mt.bestLen ≤ MAX_MATCH) (ht : TblOK c tbl (mt.srcIdx + mt.bestLen))
    (hT : CfgT c → BInv c s b ∧ s.anchor + 5 ≤ mt.srcIdx + mt.bestLen) :
    Out.Sat (fun _ => ¬ CfgT c) (emitMatch c tbl s b mt)
      (fun r => FInv c r.1 r.2.1 r.2.2 ∧ r.2.1.srcIdx = mt.srcIdx + mt.bestLen) := by
  have hsz := hc.size
  have hfin := hm.fin
  have hmm4 := hc.mm4
  unfold emitMatch
  simp only []
  refine (emitSeq_sat hc ha (by omega) fun hT' => ?_).bind fun b1 _ e => ?_
  · obtain ⟨hb, _⟩ := hT hT'
    have := hb.lit; have := hb.tk; have := hb.m; have := hb.ml; have := hb.mlc; have := hT'.tkc
    omega
  refine (fill4_sat hc hfin _ _ _ ht (by omega) (by omega)).bind fun r4 _ ⟨f4a, f4b, f4c⟩ => ?_
  refine (fill1_sat hc hfin _ _ _ f4a (by omega) (by omega)).bind fun r1 _ ⟨f1a, f1b⟩ => ?_
  refine .ok ⟨⟨⟨qs ++ [⟨(c.src.extract s.anchor mt.srcIdx).toList, mt.srcIdx - mt.ref, mt.bestLen⟩], ?_⟩,
    by simp only [f1b]; exact f1a, fun hT' => BInv_snoc hc (hT hT').1 hm ha hmin (hT hT').2 e⟩, f1b⟩
  show SInv c ⟨r1.1, _, _, _, _, _⟩ b1 _
  rw [f1b]
  exact SInv_snoc hc hi hm ha hmin hmax e

/-- one iteration keeps `FInv` and advances `srcIdx`; under `CfgT` it does not fault.  The three ways to a
    match (table candidate with lazy evaluation, repeat match extended backwards, plain repeat match) all end
    in `emitMatch_sat` -/
theorem fwdStep_sat {c : Cfg} (hc : CfgOK c) {tbl : Array Nat} {s : FSt} {b : Bufs} (hI : FInv c tbl s b)
    (hlt : s.srcIdx < c.srcEnd) :
    Out.Sat (fun _ => ¬ CfgT c) (fwdStep c tbl s b) (fun r => FInv c r.1 r.2.1 r.2.2 ∧ s.srcIdx < r.2.1.srcIdx) := by
  obtain ⟨⟨qs, hi⟩, ht, hT⟩ := hI
  have hsz := hc.size
  have hmm4 := hc.mm4
  have hmm9 := hc.mm9
  have hanc := hi.anc
  unfold fwdStep
  obtain ⟨p, hp⟩ := le64_some (src := c.src) (i := s.srcIdx) (by omega)
  rw [hp]
  simp only []
  have ht1 := ht.record (Nat.le_succ _) (Nat.lt_succ_self _) hp
  have hra : 1 ≤ (if s.repdIdx = 0 then s.repd0 else s.repd1) := by
    split
    · exact hi.r0
    · exact hi.r1
  have hrb : 1 ≤ (if s.repdIdx = 0 then s.repd1 else s.repd0) := by
    split
    · exact hi.r1
    · exact hi.r0
  refine (repStage_sat hc hra hrb hlt).bind fun rm _ hrep => ?_
  by_cases hrm : rm.2 < c.minMatch
  · -- no usable repeat match: hash table candidate
    rw [if_pos hrm]
    refine (hashStage_sat hc hlt (ht.lt _)).bind fun bl0 _ hhs => ?_
    by_cases hge : bl0 ≥ c.minMatch
    · rw [if_pos hge]
      obtain ⟨hcand, hpos, hfm⟩ := hhs (by omega)
      refine (lazyBlock_sat hc ht1 hcand (by omega) hlt).bind fun lz _ hlz => ?_
      obtain ⟨l1, l2, l3, l4⟩ := hlz
      have hl1f := l1.fin
      refine (backExtend_sat _ _ l1 (by omega) (by omega) (by omega)).bind fun mb _ hmb => ?_
      obtain ⟨e1, e2, e3, e4⟩ := hmb
      obtain ⟨k1, k2, k3, k4, k5⟩ := clampMatch_spec e1
      have hlen : c.minMatch ≤ (clampMatch mb).bestLen := by
        rcases k5 with k5 | k5
        · omega
        · rw [k5]; simp only [MAX_MATCH]; omega
      refine (emitMatch_sat hc hi k1 (by omega) hlen k2 (by rw [k4, e3]; exact l4.mono (by omega)) ?_).mono ?_
      · intro hT'
        -- a table match of at least 4 bytes has at least 5
        have hh := ((ht (hashOf c.extra p)).resolve_left (Nat.ne_of_gt hpos)).2 hT'.bytes
        have h5 : 5 ≤ bl0 := hash_match_ge5 hT'.bytes ((hashOf_le64 hT'.bytes hp).symm.trans hh.symm) hfm (by omega)
        exact ⟨hT hT', by omega⟩
      · intro r ⟨h1, h2⟩
        exact ⟨h1, by omega⟩
    · -- no match at all: skip ahead
      rw [if_neg hge]
      exact .ok ⟨⟨⟨qs, by simp only []; omega, hi.ancEnd, hi.r0, hi.r1, hi.lit, hi.tk, hi.m, hi.ml, hi.rep, hi.valid,
        hi.den⟩, by simp only []; exact ht1.mono (by omega), fun hT' =>
          ⟨(hT hT').lit, (hT hT').tk, (hT hT').m, (hT hT').mc, (hT hT').ml, (hT hT').mlc⟩⟩, by simp only []; omega⟩
  · -- a repeat match at srcIdx + 1
    rw [if_neg hrm]
    obtain ⟨hcand, hr1, hmaxr⟩ := hrep (by omega)
    have hcb := hcand.back
    have hcd := hcand.dist
    have hcf := hcand.fin
    simp only [] at hcb hcd hcf
    have ea : c.src[s.srcIdx]? = some (c.src[s.srcIdx]'(by omega)) := Array.getElem?_eq_getElem (by omega)
    have ex : c.src[rm.1 - 1]? = some (c.src[rm.1 - 1]'(by omega)) := Array.getElem?_eq_getElem (by omega)
    rw [ea, if_neg (by omega), ex]
    simp only []
    by_cases hax : c.src[s.srcIdx]'(by omega) = c.src[rm.1 - 1]'(by omega) ∧ rm.2 < MAX_MATCH
    · rw [if_pos hax]
      have hab : c.src.getD s.srcIdx 0 = c.src.getD (rm.1 - 1) 0 := by
        rw [Array.getD_eq_getD_getElem?, Array.getD_eq_getD_getElem?, ea, ex, hax.1]
      have hc2 : Cand c ⟨s.srcIdx, rm.1 - 1, rm.2 + 1⟩ := Cand_extend_back hcand hr1 hab
      refine (emitMatch_sat hc hi hc2 (by simp only []; exact hanc) (by simp only []; omega) (by simp only []; omega)
        (by simp only []; exact ht1.mono (by omega)) fun hT' => ⟨hT hT', by simp only []; omega⟩).mono ?_
      intro r ⟨h1, h2⟩
      simp only [] at h2
      exact ⟨h1, by omega⟩
    · rw [if_neg hax]
      obtain ⟨v, hv⟩ := le64_some (src := c.src) (i := s.srcIdx + 1) (by omega)
      rw [hv]
      simp only []
      refine (emitMatch_sat hc hi hcand (by simp only []; omega) (by simp only []; omega) (by simp only []; omega)
        (by simp only []; exact ht1.record (by omega) (by omega) hv) fun hT' => ⟨hT hT', by simp only []; omega⟩).mono ?_
      intro r ⟨h1, h2⟩
      simp only [] at h2
      exact ⟨h1, by omega⟩

theorem fwdLoop_sat {c : Cfg} (hc : CfgOK c) : ∀ (f : Nat) (tbl : Array Nat) (s : FSt) (b : Bufs),
    FInv c tbl s b → c.srcEnd ≤ s.srcIdx + f →
    Out.Sat (fun _ => ¬ CfgT c) (fwdLoop c f tbl s b) (fun r => (∃ qs, SInv c r.1 r.2 qs) ∧ (CfgT c → BInv c r.1 r.2)) := by
  intro f
  induction f with
  | zero =>
    intro tbl s b hI hf
    unfold fwdLoop
    rw [if_neg (by omega)]
    exact .ok ⟨hI.1, hI.2.2⟩
  | succ f ih =>
    intro tbl s b hI hf
    unfold fwdLoop
    by_cases hs : s.srcIdx < c.srcEnd
    · rw [if_pos hs]
      refine (fwdStep_sat hc hI hs).bind fun r _ hr => ?_
      exact ih _ _ _ hr.1 (by omega)
    · rw [if_neg hs]
      exact .ok ⟨hI.1, hI.2.2⟩

/-- `Forward` after the loop assembles the `frame` of the four sections, the final literals `src[anchor:]`
    appended to the first two; no token stream is in sight -/
theorem fwdFinish_frame {c : Cfg} (hc : CfgOK c) {flag anchor : Nat} {b : Bufs} (hae : anchor ≤ c.srcEnd)
    (hB : CfgT c → b.lit.size ≤ anchor ∧ 5 * b.tk.size ≤ anchor) :
    Out.Sat (fun _ => ¬ CfgT c) (fwdFinish c flag anchor b) (fun t =>
      t = (frame flag (b.lit.toList ++ litBytes (c.src.extract anchor c.src.size).toList)
        (b.tk.toList ++ [finTok (c.src.extract anchor c.src.size).toList]) b.m.toList b.ml.toList).toArray ∧
      c.src.size - anchor < LIT_LIMIT ∧ t.size ≤ c.src.size - c.src.size / 100) := by
  have hsz := hc.size
  have hlen := extract_length c.src anchor (Nat.le_refl c.src.size)
  have e7 : anchor + (c.src.size - anchor) = c.src.size := by omega
  have h7 : c.src.size - anchor ≥ 7 := by omega
  have h4 := (emitLength_length_le (c.src.size - anchor - 7)).2
  unfold fwdFinish
  simp only []
  by_cases g1 : 13 + b.lit.size + (c.src.size - anchor) + b.tk.size + b.m.size ≥ c.src.size
  · rw [if_pos g1]
    exact .err
  rw [if_neg g1]
  by_cases hlim : c.src.size - anchor ≥ 7 ∧ c.src.size - anchor ≥ LIT_LIMIT
  · rw [if_pos hlim]
    exact .err
  rw [if_neg hlim]
  -- under `CfgT`, the sections fit `dst` because they are shorter than the block (`g1`)
  refine (pushCap_sat fun hT => ?_).bind fun tk _ etk => ?_
  · have := (hB hT).2
    have := hT.tkc
    simp only [List.length_cons, List.length_nil]
    omega
  refine (litLen_sat fun hT => ?_).bind fun lit1 _ el1 => ?_
  · have := (hB hT).1
    have := hT.dst
    omega
  rw [if_pos h7] at el1
  have hl1 : lit1.size = b.lit.size + (emitLength (c.src.size - anchor - 7)).length := by
    rw [el1, size_appendList]
  refine (litCopy_sat fun hT => ?_).bind fun lit2 _ el2 => ?_
  · have := (hB hT).1
    have := hT.dst
    omega
  rw [frame_ofArrays, frame_size, Array.length_toList, Array.length_toList, Array.length_toList, Array.length_toList]
  have hl2 : lit2.size = lit1.size + (c.src.size - anchor) := by
    rw [el2, Array.size_append, Array.size_extract]; omega
  have htks : tk.size = b.tk.size + 1 := by rw [etk, size_appendList]; rfl
  by_cases g2 : 13 + lit2.size + tk.size + b.m.size > c.dstLen
  · rw [if_pos g2]
    exact .fault fun hT => by have := hT.dst; omega
  rw [if_neg g2]
  by_cases g3 : 13 + lit2.size + tk.size + b.m.size + b.ml.size > c.src.size - c.src.size / 100
  · rw [if_pos g3]
    exact .err
  rw [if_neg g3]
  by_cases g4 : 13 + lit2.size + tk.size + b.m.size + b.ml.size > c.dstLen
  · rw [if_pos g4]
    exact .fault fun hT => by have := hT.dst; omega
  rw [if_neg g4]
  refine .ok ⟨?_, by simp only [LIT_LIMIT] at hlim ⊢; omega, by
    rw [frame_size, Array.length_toList, Array.length_toList, Array.length_toList, Array.length_toList]; omega⟩
  rw [el2, el1, etk, e7]
  unfold litBytes finTok
  rw [hlen, if_pos h7]
  simp only [Array.toList_append, Array.toList_appendList, List.append_assoc]

theorem lzForward_empty {extra : Bool} {dt : Nat} {src : Array Nat} {dstLen : Nat} (h : src.size = 0 ∨ dstLen = 0) :
    lzForward extra dt src dstLen = .ok #[] := by
  unfold lzForward
  simp only []
  rw [if_pos h]

/-- `Forward` as a whole (C13_lz_forward_valid and the Forward half of C13_lz_total) -/
theorem lzForward_sat {extra : Bool} {dt : Nat} {src : Array Nat} {dstLen : Nat} (hne : src.size ≠ 0) (hd : dstLen ≠ 0) :
    Out.Sat (fun _ => ¬ (Bytes src ∧ maxEncodedLen src.size ≤ dstLen)) (lzForward extra dt src dstLen) (fun t =>
      Encodes src.toList t ∧ t.size ≤ src.size - src.size / 100) := by
  unfold lzForward
  simp only []
  rw [if_neg (by omega)]
  by_cases h1 : dstLen < maxEncodedLen src.size
  · rw [if_pos h1]
    exact .err
  rw [if_neg h1]
  by_cases hsmall : src.size < MIN_BLOCK_LENGTH
  · rw [if_pos hsmall]
    exact .err
  rw [if_neg hsmall]
  by_cases hdt : dt = DT_SMALL_ALPHABET
  · rw [if_pos hdt]
    exact .err
  rw [if_neg hdt]
  simp only [MIN_BLOCK_LENGTH] at hsmall
  generalize hfar : decide (¬ src.size - 16 - 2 < 4 * MAX_DISTANCE1) = far
  generalize hmm : (if dt = DT_DNA then MIN_MATCH6 else MIN_MATCH4) = mm
  have hmm' : mm = 4 ∨ mm = 6 := by
    rw [← hmm]
    split
    · right; rfl
    · left; rfl
  have hmm2 : 2 ≤ mm ∧ mm ≤ 9 := by omega
  generalize hcfg : (⟨src, extra, mm, if far = true then MAX_DISTANCE2 else MAX_DISTANCE1, src.size - 16 - 2,
    dstLen, max (src.size / 5) 256⟩ : Cfg) = c
  have hcs : c.src = src := by rw [← hcfg]
  have hcm : c.minMatch = mm := by rw [← hcfg]
  have hcd : c.maxDist = if far = true then MAX_DISTANCE2 else MAX_DISTANCE1 := by rw [← hcfg]
  have hce : c.srcEnd = src.size - 16 - 2 := by rw [← hcfg]
  have hct : c.tkCap = max (src.size / 5) 256 := by rw [← hcfg]
  have hcdl : c.dstLen = dstLen := by rw [← hcfg]
  have hc : CfgOK c := ⟨by rw [hce, hcs]; omega, by rw [hcm]; omega, by rw [hcm]; omega⟩
  have hT : Bytes src ∧ maxEncodedLen src.size ≤ dstLen → CfgT c := fun ⟨hb, hdst⟩ =>
    ⟨hc, by rw [hcs]; exact hb, by rw [hct, hcs], by
      rw [hcs, hcdl]; have := maxEncodedLen_ge src.size; omega⟩
  have hI0 : FInv c (Array.replicate (if extra = true then 524288 else 65536) 0) ⟨0, 0, src.size, src.size, 0, 0⟩
      ⟨#[], #[], #[], #[], max (src.size / 5) 256, max (src.size / 5) 256⟩ :=
    ⟨⟨[], Nat.le_refl _, Nat.zero_le _, by simp only []; omega, by simp only []; omega, rfl, rfl, rfl, rfl,
        by rw [hcs]; rfl, trivial, by simp [denote]⟩,
      TblOK_replicate _ _ _,
      fun _ => ⟨by simp, by simp, by simp only []; simp; omega, by simp only []; omega, by simp,
        by rw [hct]; exact Nat.le_refl _⟩⟩
  refine ((fwdLoop_sat hc src.size _ _ _ hI0 (by rw [hce]; simp only []; omega)).imp fun _ h hb => h (hT hb)).bind fun r _ hr => ?_
  obtain ⟨⟨qs, hi⟩, hB⟩ := hr
  have hflag : (if far = true then 1 else 0) + (mm - 2) % 8 * 2 = flagByte mm (if far = true then 1 else 0) := by
    unfold flagByte; rfl
  rw [hflag]
  refine ((fwdFinish_frame hc hi.ancEnd fun hT' => ⟨(hB hT').lit, (hB hT').tk⟩).imp fun _ h hb => h (hT hb)).mono fun t ⟨f1, f2, f3⟩ => ?_
  rw [hcs] at f2 f3
  have hae : r.1.anchor + 18 ≤ src.size := hcs ▸ hc.size ▸ Nat.add_le_add_right hi.ancEnd 18
  have hfl := extract_length src r.1.anchor (Nat.le_refl src.size)
  refine ⟨⟨mm, if far = true then 1 else 0, qs, (src.extract r.1.anchor src.size).toList, ?_, hmm2.1, hmm2.2,
    by cases far <;> decide, ?_, ?_, by rw [hfl]; exact f2, ?_⟩, f3⟩
  · rw [Array.length_toList, f1, stream_eq_frame, hi.lit, hi.tk, hi.m, hi.ml, hcm, hcs]
  · have hv := hi.valid
    rw [hcm, hcd, hcs] at hv
    have e : (if (if far = true then 1 else 0) = 0 then MAX_DISTANCE1 else MAX_DISTANCE2)
        = (if far = true then MAX_DISTANCE2 else MAX_DISTANCE1) := by
      cases far <;> simp
    rw [Array.length_toList, e]
    exact hv
  · rw [hfl]
    exact Nat.le_sub_of_add_le' (Nat.le_trans (Nat.add_le_add_left (by decide) _) hae)
  · rw [hi.den, hcs, take_append_extract src (Nat.le_trans (Nat.le_add_right _ 18) hae),
      List.take_of_length_le (by simp)]

theorem lzForward_encodes {extra : Bool} {dt : Nat} {src t : Array Nat} {dstLen : Nat}
    (hne : src.size ≠ 0) (hd : dstLen ≠ 0) (h : lzForward extra dt src dstLen = .ok t) :
    Encodes src.toList t ∧ t.size ≤ src.size - src.size / 100 :=
  (lzForward_sat hne hd).1 t h

theorem lzForward_nf {extra : Bool} {dt : Nat} {src : Array Nat} {dstLen : Nat} (hb : Bytes src)
    (hdst : maxEncodedLen src.size ≤ dstLen) : ∀ e, lzForward extra dt src dstLen ≠ .fault e := by
  by_cases h0 : src.size = 0 ∨ dstLen = 0
  · rw [lzForward_empty h0]
    exact fun e h => nomatch h
  · exact fun e he => (lzForward_sat (by omega) (by omega)).2 e he ⟨hb, hdst⟩

theorem lzForward_size {extra : Bool} {dt : Nat} {src t : Array Nat} {dstLen : Nat}
    (hdst : maxEncodedLen src.size ≤ dstLen) (h : lzForward extra dt src dstLen = .ok t) :
    t.size ≤ src.size - src.size / 100 := by
  by_cases hne : src.size = 0
  · rw [lzForward_empty (.inl hne)] at h
    rw [← Out.ok.inj h]
    exact Nat.zero_le _
  · have := maxEncodedLen_ge src.size
    exact (lzForward_encodes hne (by omega) h).2

/-- C13_lz: Inverse restores every block (of fewer than `2^32` bytes) Forward accepted, into any destination at
    least as large as the block -/
theorem lz_roundtrip {extra : Bool} {dt : Nat} {src t : Array Nat} {dstLen : Nat} (dst0 : Array Nat)
    (hsz : src.size < 4294967296) (hdst : maxEncodedLen src.size ≤ dstLen) (hn : src.size ≤ dst0.size)
    (h : lzForward extra dt src dstLen = .ok t) :
    lzInverse t dst0 = .ok src ∧ t.size ≤ maxEncodedLen src.size := by
  have hge := maxEncodedLen_ge src.size
  by_cases hne : src.size = 0
  · rw [lzForward_empty (.inl hne)] at h
    rw [← Out.ok.inj h, Array.eq_empty_of_size_eq_zero hne]
    exact ⟨by simp [lzInverse], Nat.zero_le _⟩
  · obtain ⟨he, hs⟩ := lzForward_encodes hne (by omega) h
    exact ⟨he.inverse dst0 (by omega) (by rw [Array.length_toList]; exact hn), by omega⟩

/-! ## Inverse: the fuel of the model always suffices

`lzInverse` does fault on forged input (the Go code panics there: tokens that run off the end of the block,
literal lengths beyond the block, ...).  What is proved for ARBITRARY input is that such a `.fault` is never
the model running out of fuel: the token loop and the 16-byte copy loop terminate within their fuel, so
every `.fault` of the model stands for a Go panic (or a `written` count beyond `len(dst)`). -/

theorem readLength_sat (src : Array Nat) (i : Nat) : Out.Sat (· ≠ "fuel") (readLength src i) (fun _ => True) := by
  unfold readLength
  split
  · exact .fault (by decide)
  · split
    · exact .ok trivial
    · split
      · split
        · exact .ok trivial
        · exact .fault (by decide)
      · split
        · exact .ok trivial
        · exact .fault (by decide)

theorem litStage_sat (src : Array Nat) (tk0 token : Nat) (s : ISt) (dst : Array Nat) :
    Out.Sat (· ≠ "fuel") (litStage src tk0 token s dst) (fun _ => True) := by
  unfold litStage
  split
  · refine Out.Sat.bind (P := fun _ => True) ?_ fun ll _ _ => ?_
    · split
      · exact (readLength_sat _ _).bind fun _ _ _ => .ok trivial
      · exact .ok trivial
    · split
      · exact .fault (by decide)
      · split
        · exact .fault (by decide)
        · exact .ok trivial
  · exact .ok trivial

/-- a decoded match has at least `mm` bytes -/
theorem matStage_sat (src : Array Nat) (mm token : Nat) (s : ISt) :
    Out.Sat (· ≠ "fuel") (matStage src mm token s) (fun mr => mm ≤ mr.mLen) := by
  have key : ∀ (m0 th : Nat), Out.Sat (· ≠ "fuel")
      (if m0 = th then (readLength src s.mLenIdx).bind fun r => Out.ok (m0 + (mm + r.1), s.mLenIdx + r.2)
        else Out.ok (m0 + mm, s.mLenIdx)) (fun ml => mm ≤ ml.1) := by
    intro m0 th
    split
    · exact (readLength_sat _ _).bind fun r _ _ => .ok (by simp only []; omega)
    · exact .ok (Nat.le_add_left _ _)
  unfold matStage
  simp only []
  split
  · exact (key _ _).bind fun ml _ h => .ok h
  · refine (key _ _).bind fun ml _ h => ?_
    split
    · exact .fault (by decide)
    · split
      · split
        · exact .fault (by decide)
        · split
          · split
            · exact .fault (by decide)
            · exact .ok h
          · exact .ok h
      · exact .ok h

/-- the decoding loop never runs out of fuel: every iteration reads at least one token, so `tkIdx` moves
    towards `src.size` -/
theorem invLoop_sat (src : Array Nat) (tk0 maxDist mm : Nat) (hmm : 1 ≤ mm) : ∀ (f : Nat) (s : ISt) (dst : Array Nat),
    s.tkIdx ≤ src.size → src.size + 1 ≤ s.tkIdx + f →
    Out.Sat (· ≠ "fuel") (invLoop src tk0 maxDist mm f s dst) (fun _ => True) := by
  intro f
  induction f with
  | zero => intro s dst h1 h2; omega
  | succ f ih =>
    intro s dst h1 h2
    unfold invLoop
    split
    · exact .fault (by decide)
    · rename_i token htok
      have hlt : s.tkIdx < src.size := (Array.getElem?_eq_some_iff.mp htok).1
      refine (litStage_sat _ _ _ _ _).bind fun lr _ _ => ?_
      split
      · exact .ok trivial
      · refine (matStage_sat _ _ _ _).bind fun mr _ hml => ?_
        split
        · exact .err
        · refine Out.Sat.bind (P := fun _ => True) ?_ fun dst' _ _ =>
            ih _ dst' (by simp only []; omega) (by simp only []; omega)
          split
          · obtain ⟨j, hj, _⟩ := copy16_spec (lr.1.dstIdx + mr.mLen) (mr.mLen / 16 + 1) (lr.1.dstIdx - mr.dist)
              lr.1.dstIdx lr.2 (by omega) (by omega)
            rw [hj]
            exact .ok trivial
          · exact .ok trivial

theorem lzInverse_ne_fuel (src dst0 : Array Nat) : lzInverse src dst0 ≠ .fault "fuel" := by
  refine fun h => (?_ : Out.Sat (· ≠ "fuel") (lzInverse src dst0) fun _ => True).2 _ h rfl
  unfold lzInverse
  simp only []
  by_cases h1 : src.size = 0 ∨ dst0.size = 0
  · rw [if_pos h1]
    exact .ok trivial
  rw [if_neg h1]
  by_cases h2 : src.size < 13
  · rw [if_pos h2]
    exact .err
  rw [if_neg h2]
  by_cases h3 : get32 src 0 > src.size ∨ get32 src 4 + get32 src 0 > src.size ∨
      get32 src 8 + (get32 src 4 + get32 src 0) > src.size
  · rw [if_pos h3]
    exact .err
  rw [if_neg h3]
  refine (invLoop_sat src _ _ _ (by omega) _ _ _ (by simp only []; omega) (by simp only []; omega)).bind fun r _ _ => ?_
  split
  · exact .err
  · split
    · exact .fault (by decide)
    · exact .ok trivial

end Kanzi.LZ
