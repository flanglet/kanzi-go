/-
Inverse direction of the sorted rank transform `transform.SRT`: given the header and the ranks laid
out as Forward writes them (`DataOk`), the bucket loop recovers the initial symbol list `firsts b`
(the first rank in the bucket of `c` is the index of `c` in it, `rank_first`) and the decoding loop
maintains "symbols of the rest of the block in order of next occurrence" (`GInv`): the next rank in
the bucket of the current symbol says where it is to be re-inserted (`rank_next`).
-/
import Kanzi.Proofs.SRTFwd

namespace Kanzi.SRT

/-! ## ranks seen from the decoder -/

theorem rank_first {b u v : List Nat} {c : Nat} (hb : b = u ++ c :: v) (hc : c ∉ u) :
    rank b u c = (firsts b).idxOf c := by
  unfold rank mtfList
  obtain ⟨w, hw⟩ := firsts_append_cons v hc
  rw [hb, idxOf_firsts v hc, hw]
  have h1 : u.reverse ++ (firsts u ++ c :: w) = (u.reverse ++ firsts u) ++ c :: w := by simp
  rw [h1, idxOf_firsts w (by simp [mem_firsts, hc])]
  apply firsts_length_congr
  intro a; simp [mem_firsts]

theorem rank_next {b p u v : List Nat} {c : Nat} (hc : c ∉ u) :
    rank b (p ++ c :: u) c = (firsts (u ++ c :: v)).idxOf c := by
  unfold rank mtfList
  have h1 : (p ++ c :: u).reverse ++ firsts b = u.reverse ++ c :: (p.reverse ++ firsts b) := by simp
  rw [h1, idxOf_firsts _ (by simpa using hc), idxOf_firsts v hc]
  apply firsts_length_congr
  intro a; simp

theorem head_firsts (x : Nat) (l : List Nat) : (firsts (x :: l))[0]? = some x := by simp [firsts]

/-! ## array helpers -/

theorem shiftDown_size : ∀ (k s : Nat) (a : Array Nat), (shiftDown k s a).size = a.size := by
  intro k
  induction k with
  | zero => intro s a; rfl
  | succ k ih => intro s a; simp only [shiftDown]; rw [ih, size_wr]

/-- `M` laid out in `r2s` around a free slot at rank `r` -/
def R2At (r : Nat) (r2s : Array Nat) (M : List Nat) : Prop :=
  ∀ k z, M[k]? = some z → rd r2s (slot r k) = z

theorem R2At.of_cons {r2s : Array Nat} {M : List Nat} {c : Nat}
    (h : ∀ k z, (c :: M)[k]? = some z → rd r2s k = z) : R2At 0 r2s M := by
  intro k z hk
  rw [slot_ge (Nat.not_lt_zero k)]
  exact h (k + 1) z hk

/-- `k` iterations move the free slot from rank `s` up to rank `s + k` -/
theorem R2At.shift {M : List Nat} : ∀ (k s : Nat) (a : Array Nat), s + k < a.size → R2At s a M →
    R2At (s + k) (shiftDown k s a) M
  | 0, _, _, _, h => h
  | k + 1, s, a, hs, h => by
    rw [shiftDown, ← Nat.add_assoc, Nat.add_right_comm]
    refine R2At.shift k (s + 1) _ (by rw [size_wr]; omega) fun j z hj => ?_
    have hz := h j z hj
    by_cases e : j = s
    · subst e
      rw [slot_ge (Nat.lt_irrefl j)] at hz
      rw [slot_lt (Nat.lt_succ_self j), rd_wr_eq _ (by omega), hz]
    · obtain ⟨hs', _, hne⟩ := slot_succ e
      rw [rd_wr_ne _ (Ne.symm hne), ← hs', hz]

theorem rd_toArray {l : List Nat} {k v : Nat} (h : l[k]? = some v) : rd l.toArray k = v := by
  simp [rd, Array.getD_eq_getD_getElem?, h]


/-! ## the bucket loop of Inverse -/

/-- the rank data as the decoder sees it: `D = src[headerSize:]` -/
def DataOk (fr : Array Nat) (S b : List Nat) (D : Array Nat) : Prop :=
  D.size = b.length ∧ ∀ j c, b[j]? = some c →
    rd D (startOf fr S c + (b.take j).count c) = rank b (b.take j) c

/-- state of the bucket loop once the symbols `pre` of the bucket order `S` are done: each sits in
    `r2s` at its index in `firsts b`, its bucket pointer is past the first rank, its end is set -/
structure IInv (fr : Array Nat) (S b pre : List Nat) (st : ISt) : Prop where
  rsz : st.r2s.size = 256
  bsz : st.buckets.size = 256
  esz : st.ends.size = 256
  r2s : ∀ c ∈ pre, rd st.r2s ((firsts b).idxOf c) = c
  bk : ∀ c ∈ pre, rd st.buckets c = startOf fr S c + 1 ∧ rd st.ends c = startOf fr S c + rd fr c

theorem idxOf_inj {L : List Nat} {a c : Nat} (ha : a ∈ L) (hc : c ∈ L)
    (h : L.idxOf a = L.idxOf c) : a = c := by
  have h1 := List.getElem_idxOf (List.idxOf_lt_length_of_mem ha)
  have h2 := List.getElem_idxOf (List.idxOf_lt_length_of_mem hc)
  rw [← h1, ← h2]
  simp [h]

theorem first_data {fr : Array Nat} {S b : List Nat} (ctx : Ctx fr S b) {D : Array Nat}
    (hD : DataOk fr S b D) {c : Nat} (hc : c ∈ b) :
    rd D (startOf fr S c) = (firsts b).idxOf c ∧ startOf fr S c < D.size := by
  obtain ⟨u, v, huv, hu⟩ := List.eq_append_cons_of_mem hc
  have hj : b[u.length]? = some c := by rw [huv]; simp
  have htk : b.take u.length = u := by rw [huv]; simp
  have h1 := hD.2 _ _ hj
  have h2 := ctx.pos_lt hj
  rw [htk, List.count_eq_zero.2 hu] at h1 h2
  rw [rank_first huv hu] at h1
  exact ⟨h1, by rw [hD.1]; exact h2⟩

theorem invInit_inv {fr : Array Nat} {S b : List Nat} (ctx : Ctx fr S b) {D : Array Nat}
    (hD : DataOk fr S b D) :
    ∀ (suf pre : List Nat) (st : ISt), S = pre ++ suf → IInv fr S b pre st →
      ∃ st', invInit fr D suf (total fr pre) st = .ok st' ∧ IInv fr S b S st' := by
  intro suf
  induction suf with
  | nil => intro pre st hS h; exact ⟨st, rfl, by simpa [hS] using h⟩
  | cons c suf ih =>
    intro pre st hS h
    have hnd := ctx.nodup
    rw [hS] at hnd
    have hcpre : c ∉ pre := by
      intro hm
      have := (List.nodup_append.1 hnd).2.2 c hm c (by simp)
      exact this rfl
    have hcS : c ∈ S := by rw [hS]; simp
    have hcb : c ∈ b := (ctx.mem c).1 hcS
    have hc256 := ctx.bytes c hcb
    have hstart : startOf fr S c = total fr pre := by
      rw [hS, startOf_append fr pre _ c hcpre]; simp [startOf]
    obtain ⟨hd1, hd2⟩ := first_data ctx hD hcb
    rw [hstart] at hd1 hd2
    have hcF : c ∈ firsts b := mem_firsts.2 hcb
    have hFlen := bytes_nodup_length_le (nodup_firsts b) (firsts_bytes ctx.bytes)
    have hidx : (firsts b).idxOf c < 256 := by
      have := List.idxOf_lt_length_of_mem hcF; omega
    simp only [invInit]
    have hA : ¬ (total fr pre > D.size) := by omega
    have hB : ¬ (total fr pre ≥ D.size) := by omega
    rw [if_neg hA, if_neg hB]
    have hS' : S = (pre ++ [c]) ++ suf := by rw [hS]; simp
    have htot : total fr (pre ++ [c]) = total fr pre + rd fr c := by
      rw [total_append]; simp [total]
    rw [← htot]
    apply ih (pre ++ [c]) _ hS'
    refine ⟨by simp [size_wr, h.rsz], by simp [size_wr, h.bsz], by simp [size_wr, h.esz], ?_, ?_⟩
    · intro a ha
      rw [hd1]
      rcases List.mem_append.1 ha with hp | hp
      · have haF : a ∈ firsts b := mem_firsts.2 ((ctx.mem a).1 (by rw [hS]; simp [hp]))
        rw [rd_wr_ne _ (fun e => hcpre (idxOf_inj haF hcF e.symm ▸ hp))]
        exact h.r2s a hp
      · cases List.mem_singleton.1 hp
        exact rd_wr_eq _ (by rw [h.rsz]; exact hidx)
    · intro a ha
      rcases List.mem_append.1 ha with hp | hp
      · have hne : c ≠ a := fun e => hcpre (e ▸ hp)
        rw [rd_wr_ne _ hne, rd_wr_ne _ hne]
        exact h.bk a hp
      · cases List.mem_singleton.1 hp
        rw [rd_wr_eq _ (by rw [h.bsz]; exact hc256), rd_wr_eq _ (by rw [h.esz]; exact hc256),
          hstart, htot]
        exact ⟨rfl, rfl⟩


/-! ## the decoding loop -/

/-- re-insert the current symbol at its next rank -/
theorem rotate_spec {r2s : Array Nat} {L' : List Nat} {x r : Nat} (hsz : r2s.size = 256)
    (hx : x ∈ L') (hr : L'.idxOf x = r) (hlen : L'.length ≤ 256)
    (hR : ∀ k z, (x :: L'.erase x)[k]? = some z → rd r2s k = z) :
    ∀ k z, L'[k]? = some z → rd (wr (shiftDown r 0 r2s) r x) k = z := by
  have hrl : r < L'.length := by rw [← hr]; exact List.idxOf_lt_length_of_mem hx
  have hr256 : r < 256 := Nat.lt_of_lt_of_le hrl hlen
  have h := R2At.shift r 0 r2s (by omega) (R2At.of_cons hR)
  rw [Nat.zero_add, List.erase_eq_eraseIdx_of_idxOf hr] at h
  intro k z hk
  by_cases e : k = r
  · subst e hr
    rw [List.getElem?_eq_getElem hrl, List.getElem_idxOf hrl] at hk
    cases hk
    exact rd_wr_eq _ (by rw [shiftDown_size, hsz]; exact hr256)
  · obtain ⟨k', rfl⟩ := slot_surj e
    rw [rd_wr_ne _ (Ne.symm e)]
    exact h k' z ((getElem?_eraseIdx_slot ..).trans hk)

/-- drop the current symbol, which does not occur again: the list moves down by one -/
theorem shiftDown_tail {r2s : Array Nat} {L : List Nat} {c : Nat} (hsz : r2s.size = 256)
    (hlen : L.length < 256) (hR : ∀ k x, (c :: L)[k]? = some x → rd r2s k = x) :
    ∀ k z, L[k]? = some z → rd (shiftDown L.length 0 r2s) k = z := by
  intro k z hkz
  have := R2At.shift L.length 0 r2s (by omega) (R2At.of_cons hR) k z hkz
  rwa [Nat.zero_add, slot_lt (List.getElem?_eq_some_iff.1 hkz).1] at this

/-- past the end of the block (the Go loop runs over all of `dst`): one symbol is left, its bucket
    is exhausted, and it is repeated -/
theorem invGo_tail (D ends : Array Nat) : ∀ (k c : Nat) (r2s buckets out : Array Nat),
    ¬ (rd buckets c < rd ends c) →
    ∃ res, invGo D ends k c r2s buckets 1 out = some res ∧
      res.toList = out.toList ++ List.replicate k c := by
  intro k
  induction k with
  | zero => intro c r2s buckets out _; exact ⟨out, rfl, by simp⟩
  | succ k ih =>
    intro c r2s buckets out h
    simp only [invGo, if_neg h, if_true]
    obtain ⟨res, h1, h2⟩ := ih c r2s buckets (out.push c) h
    exact ⟨res, h1, by rw [h2]; simp [List.replicate_succ]⟩

/-- state of the decoding loop before position `i`, `s` being the rest of the block: `r2s` holds the
    distinct symbols of `s` in order of next occurrence (so the current symbol is `r2s[0]`) -/
structure GInv (fr : Array Nat) (S b : List Nat) (i : Nat) (s : List Nat)
    (r2s buckets : Array Nat) (nb : Nat) : Prop where
  rsz : r2s.size = 256
  bsz : buckets.size = 256
  r2s : ∀ k x, (firsts s)[k]? = some x → rd r2s k = x
  nb : nb = (firsts s).length
  bk : ∀ x ∈ s, rd buckets x = startOf fr S x + (b.take i).count x + 1

theorem getElem?_split (p v : List Nat) (x : Nat) : (p ++ x :: v)[p.length]? = some x := by simp
theorem take_split (p v : List Nat) (x : Nat) : (p ++ x :: v).take p.length = p := by simp


/-- `k ≥ |s|` iterations from position `i` output the rest `s` of the block, then a tail `tl` that
    `srtInverse` cuts off -/
theorem invGo_main {fr : Array Nat} {S b : List Nat} (ctx : Ctx fr S b) {D ends : Array Nat}
    (hD : DataOk fr S b D) (hE : ∀ x ∈ S, rd ends x = startOf fr S x + rd fr x) :
    ∀ (s : List Nat) (i k c : Nat) (r2s buckets : Array Nat) (nb : Nat) (out : Array Nat),
      b.drop i = s → s ≠ [] → GInv fr S b i s r2s buckets nb → c = rd r2s 0 → s.length ≤ k →
      ∃ res tl, invGo D ends k c r2s buckets nb out = some res ∧
        res.toList = out.toList ++ s ++ tl := by
  intro s
  induction s with
  | nil => intro i k c r2s buckets nb out _ h; exact absurd rfl h
  | cons x s' ih =>
    intro i k c r2s buckets nb out hq _ h hc0 hk
    obtain ⟨hbi, hq'⟩ := drop_cons_getElem? hq
    have hcx : c = x := hc0.trans (h.r2s 0 x (head_firsts x s'))
    subst hcx
    obtain ⟨k', rfl⟩ := Nat.exists_eq_add_one_of_ne_zero
      (Nat.ne_of_gt (Nat.lt_of_lt_of_le (Nat.succ_pos _) hk))
    have hk' : s'.length ≤ k' := Nat.le_of_succ_le_succ hk
    have htk := take_succ_of_getElem? hbi
    have hbsplit : b = b.take i ++ c :: s' := by
      have := List.take_append_drop i b; rw [hq] at this; exact this.symm
    have hcb : c ∈ b := List.mem_of_getElem? hbi
    have hcS : c ∈ S := (ctx.mem c).2 hcb
    have hc256 := ctx.bytes c hcb
    have hbc := h.bk c (by simp)
    have hEc := hE c hcS
    rw [ctx.fr c hc256] at hEc
    have hcnt : b.count c = (b.take i).count c + 1 + s'.count c := by
      have := congrArg (List.count c) hbsplit
      simp only [List.count_append, List.count_cons_self] at this
      rw [this, Nat.add_assoc, Nat.add_comm 1]
    have hsub : ∀ z ∈ s', z ∈ b := by
      intro z hz; rw [hbsplit]; simp [hz]
    have hL'b : ∀ z ∈ firsts s', z < 256 := fun z hz => ctx.bytes z (hsub z (mem_firsts.1 hz))
    have hL'len := bytes_nodup_length_le (nodup_firsts s') hL'b
    have hfs : firsts (c :: s') = c :: (firsts s').erase c := rfl
    have hbk' : ∀ z ∈ s', rd (wr buckets c (rd buckets c + 1)) z =
        startOf fr S z + (b.take (i + 1)).count z + 1 := by
      intro z hz
      rw [rd_wr, htk, List.count_append, List.count_singleton]
      by_cases e : c = z
      · subst e; simp [h.bsz, hc256, hbc]; omega
      · rw [if_neg (fun h' => e h'.1), h.bk z (by simp [hz])]
        simp [e]
    have hbk0 : ∀ z ∈ s', c ∉ s' → rd buckets z = startOf fr S z + (b.take (i + 1)).count z + 1 := by
      intro z hz hc
      have e : c ≠ z := fun e => hc (e ▸ hz)
      rw [h.bk z (by simp [hz]), htk, List.count_append, List.count_singleton]
      simp [e]
    have hres : ∀ (res : Array Nat) (tl : List Nat), res.toList = (out.push c).toList ++ s' ++ tl →
        res.toList = out.toList ++ c :: s' ++ tl := by
      intro res tl e; rw [e]; simp
    by_cases hcs : c ∈ s'
    · -- the symbol occurs again
      obtain ⟨u, v, huv, hu⟩ := List.eq_append_cons_of_mem hcs
      have hb2 : b = (b.take i ++ c :: u) ++ c :: v := by
        rw [List.append_assoc, List.cons_append, ← huv]; exact hbsplit
      have hbj : b[(b.take i ++ c :: u).length]? = some c := by
        have := getElem?_split (b.take i ++ c :: u) v c; rwa [← hb2] at this
      have htkj : b.take (b.take i ++ c :: u).length = b.take i ++ c :: u := by
        have := take_split (b.take i ++ c :: u) v c; rwa [← hb2] at this
      have hdat := hD.2 _ _ hbj
      have hposj := ctx.pos_lt hbj
      have hcntj := count_take_lt_all hbj
      rw [htkj] at hdat hposj hcntj
      have hcu : (b.take i ++ c :: u).count c = (b.take i).count c + 1 := by
        simp [List.count_append, List.count_eq_zero.2 hu]
      rw [hcu] at hdat hposj hcntj
      rw [rank_next (p := b.take i) (v := v) hu, ← huv] at hdat
      have hcL' : c ∈ firsts s' := mem_firsts.2 hcs
      have hlt : rd buckets c < rd ends c := by
        rw [hbc, hEc, Nat.add_assoc]; exact Nat.add_lt_add_left hcntj _
      have hnf : ¬ (rd buckets c ≥ D.size) := by
        rw [hD.1, hbc, Nat.add_assoc]; exact Nat.not_le.2 hposj
      have hrd : rd D (rd buckets c) = (firsts s').idxOf c := by
        rw [hbc]; exact hdat
      simp only [invGo, if_pos hlt, if_neg hnf]
      by_cases hr0 : rd D (rd buckets c) = 0
      · rw [if_pos hr0]
        rw [hrd] at hr0
        have hsame : firsts (c :: s') = firsts s' := by
          rw [hfs]; exact cons_erase_of_idxOf_zero hcL' hr0
        obtain ⟨res, tl, h1, h2⟩ := ih (i + 1) k' c r2s _ nb
          (out.push c) hq' (by intro e; rw [e] at hcs; simp at hcs)
          ⟨h.rsz, by rw [size_wr]; exact h.bsz, by rw [← hsame]; exact h.r2s,
            by rw [← hsame]; exact h.nb, hbk'⟩ hc0 hk'
        exact ⟨res, tl, h1, hres res tl h2⟩
      · rw [if_neg hr0]
        have hne : s' ≠ [] := by intro e; rw [e] at hcs; simp at hcs
        have hrot := rotate_spec h.rsz hcL' hrd.symm hL'len (by rw [← hfs]; exact h.r2s)
        obtain ⟨res, tl, h1, h2⟩ := ih (i + 1) k' _ _ _ nb (out.push c) hq' hne
          ⟨by rw [size_wr, shiftDown_size]; exact h.rsz, by rw [size_wr]; exact h.bsz, hrot,
            by
              rw [h.nb, hfs, List.length_cons, List.length_erase, if_pos hcL']
              exact Nat.sub_add_cancel (List.length_pos_of_mem hcL'), hbk'⟩ rfl hk'
        exact ⟨res, tl, h1, hres res tl h2⟩
    · -- last occurrence of the symbol
      have hc0 : s'.count c = 0 := List.count_eq_zero.2 hcs
      have hlt : ¬ (rd buckets c < rd ends c) := by
        rw [hbc, hEc, hcnt, hc0, Nat.add_zero, Nat.add_assoc]; exact Nat.lt_irrefl _
      have hcL' : c ∉ firsts s' := fun hm => hcs (mem_firsts.1 hm)
      have hfs' : firsts (c :: s') = c :: firsts s' := by
        rw [hfs, List.erase_of_not_mem hcL']
      simp only [invGo, if_neg hlt]
      by_cases hne : s' = []
      · subst hne
        have hnb : nb = 1 := by rw [h.nb]; simp [firsts]
        rw [if_pos hnb, hnb]
        obtain ⟨res, h1, h2⟩ := invGo_tail D ends k' c r2s buckets (out.push c) hlt
        exact ⟨res, List.replicate k' c, h1, by rw [h2]; simp⟩
      · have hL'pos : 0 < (firsts s').length := by
          cases s' with
          | nil => exact absurd rfl hne
          | cons y t => exact Nat.succ_pos _
        have hnb : nb = (firsts s').length + 1 := by rw [h.nb, hfs']; simp
        have hnb1 : ¬ (nb = 1) := fun e => Nat.ne_of_gt hL'pos (Nat.succ.inj (hnb.symm.trans e))
        rw [if_neg hnb1]
        have hLlen : (firsts (c :: s')).length ≤ 256 := by
          apply bytes_nodup_length_le (nodup_firsts _)
          intro z hz
          rcases List.mem_cons.1 (mem_firsts.1 hz) with e | e
          · rw [e]; exact hc256
          · exact ctx.bytes z (hsub z e)
        rw [hfs', List.length_cons] at hLlen
        have hsd : ∀ k z, (firsts s')[k]? = some z → rd (shiftDown (nb - 1) 0 r2s) k = z := by
          rw [hnb, Nat.add_sub_cancel]
          exact shiftDown_tail h.rsz hLlen (by rw [← hfs']; exact h.r2s)
        obtain ⟨res, tl, h1, h2⟩ := ih (i + 1) k' _ _ buckets (nb - 1) (out.push c) hq' hne
          ⟨by rw [shiftDown_size]; exact h.rsz, h.bsz, hsd, by rw [hnb, Nat.add_sub_cancel],
            fun z hz => hbk0 z hz hcs⟩ rfl hk'
        exact ⟨res, tl, h1, hres res tl h2⟩


/-! ## Inverse as a whole -/

theorem srtInverse_spec (b data : List Nat) (n : Nat) (hb : ∀ x ∈ b, x < 256) (hne : b ≠ [])
    (hfreq : ∀ c, b.count c < 2 ^ 31) (hlen : data.length = b.length)
    (hdata : ∀ j c, b[j]? = some c →
      data[startOf (freqsOf b) (preprocess (freqsOf b)) c + (b.take j).count c]? =
        some (rank b (b.take j) c))
    (hn : b.length ≤ n) :
    srtInverse (encodeHeader (freqsOf b).toList ++ data) n = .ok b := by
  have ctx := ctx_of b hb
  have hlen0 : b.length ≠ 0 := fun h => hne (List.length_eq_zero_iff.1 h)
  have hfl : (freqsOf b).toList.length = 256 := by rw [Array.length_toList, freqsOf_size b hb]
  have hhl := encodeHeader_length_ge (freqsOf b).toList
  have hdec := decodeHeader_encodeHeader (freqsOf b).toList hfl (freqsOf_toList_lt b hb _ hfreq) data
  have hD : DataOk (freqsOf b) (preprocess (freqsOf b)) b data.toArray := by
    refine ⟨by simp [hlen], ?_⟩
    intro j c hj
    exact rd_toArray (hdata j c hj)
  obtain ⟨st, hst, hI⟩ := invInit_inv ctx hD (preprocess (freqsOf b)) [] ⟨zeros, zeros, zeros⟩
    (List.nil_append _).symm
    ⟨zeros_size, zeros_size, zeros_size, by intro c h; simp at h, by intro c h; simp at h⟩
  have hE : ∀ x ∈ preprocess (freqsOf b), rd st.ends x =
      startOf (freqsOf b) (preprocess (freqsOf b)) x + rd (freqsOf b) x := fun x hx => (hI.bk x hx).2
  have hr2s : ∀ k x, (firsts b)[k]? = some x → rd st.r2s k = x := by
    intro k x hk
    have hxF : x ∈ firsts b := List.mem_of_getElem? hk
    have hxS : x ∈ preprocess (freqsOf b) := (ctx.mem x).2 (mem_firsts.1 hxF)
    have h1 := hI.r2s x hxS
    obtain ⟨hkl, hke⟩ := List.getElem?_eq_some_iff.1 hk
    have : (firsts b).idxOf x = k := by
      rw [← hke]; exact (nodup_firsts b).idxOf_getElem k hkl
    rw [this] at h1; exact h1
  have hG : GInv (freqsOf b) (preprocess (freqsOf b)) b 0 b st.r2s st.buckets
      (preprocess (freqsOf b)).length := by
    refine ⟨hI.rsz, hI.bsz, hr2s, ?_, ?_⟩
    · apply length_eq_of_nodup_mem ctx.nodup (nodup_firsts b)
      intro a; rw [ctx.mem a, mem_firsts]
    · intro x hx
      rw [(hI.bk x ((ctx.mem x).2 hx)).1]; simp
  obtain ⟨res, tl, hres, hrl⟩ := invGo_main ctx hD hE b 0 n (rd st.r2s 0) st.r2s st.buckets
    (preprocess (freqsOf b)).length #[] rfl hne hG rfl hn
  unfold srtInverse
  have hA : ¬ ((encodeHeader (freqsOf b).toList ++ data).length = 0 ∨ n = 0) := by
    rw [List.length_append]; omega
  rw [if_neg hA, hdec]
  have hB : ¬ (data.length > n) := by omega
  simp only [if_neg hB, Array.toArray_toList]
  have hst' : invInit (freqsOf b) data.toArray (preprocess (freqsOf b)) 0 ⟨zeros, zeros, zeros⟩ = .ok st := hst
  rw [hst']
  simp only [hres, hrl, hlen]
  simp

end Kanzi.SRT
