/-
Proofs for `Kanzi/Model/BlockGen2.lean` and `Kanzi/Model/BlockGen3.lean`, stream level: decode ∘ encode for every
chain over `Kind3`, what a header announces (`cfgOfHeader2`, `cfgOfHeader3`), the byte image of a whole stream
(`streamImageGen2`) read back by `parseImageGen2` / `parseImageGen3`, and the TPAQ / TPAQX entropy codecs as the
block codec builds them.
-/
import Kanzi.Proofs.BlockGen3Kinds
import Kanzi.Proofs.BlockGen3
import Kanzi.Properties.C12_tpaq_codec

namespace Kanzi.BlockGen2
open Kanzi.Bits Kanzi.TrSmall Kanzi.Block Kanzi.BlockGen

/-- the entropy codes of the five codecs that read back every block (NONE 0, HUFFMAN 1, RANGE 4, ANS0 5, ANS1 8),
as opposed to FPAQ, CM, TPAQ, whose decoders reject a chunk that codes to twice its size -/
def uncondEntropy (e : Nat) : Prop := e = 0 ∨ e = 1 ∨ e = 4 ∨ e = 5 ∨ e = 8

theorem entOf2_modelled (e : Nat) (ent : Ent) (h : entOf2 e = some ent) (he : uncondEntropy e) :
    IsModelledEnt ent := by
  rcases he with rfl | rfl | rfl | rfl | rfl
  · exact .inl (Option.some.inj (h : some noneEnt = some ent)).symm
  · exact .inr (.inr (.inr (.inr (Option.some.inj (h : some hufEnt = some ent)).symm)))
  · exact .inr (.inr (.inr (.inl (Option.some.inj (h : some rangeEnt = some ent)).symm)))
  · exact .inr (.inl (Option.some.inj (h : some ans0Ent = some ent)).symm)
  · exact .inr (.inr (.inl (Option.some.inj (h : some ans1Ent = some ent)).symm))

theorem encodeTaskGen2_length_ge {c : Cfg2} {obuf : Nat} {b : List Nat} {p : Bits}
    (h : encodeTaskGen2 c obuf b = .ok p) : 8 ≤ p.length := by
  unfold encodeTaskGen2 at h
  split at h
  · exact (encodeOf_shape _ _ _ _ _ _ _ h).1
  · exact (encodeOf_shape _ _ _ _ _ _ _ h).1

/-- the encoding task succeeds whatever the length of its output buffer, the decoding task returns the
block, the payload fits a frame -/
def BlockOK2 (ce : Cfg2) (cd : Cfg) (B : Nat) (b : List Nat) : Prop :=
  ∀ obuf, ∃ p, encodeTaskGen2 ce obuf b = .ok p ∧ decodeTaskGen cd B p = ⟨b.length, .ok b⟩ ∧ FrameFit B p

theorem encodeBlocks2_ok (ce : Cfg2) (cd : Cfg) (B : Nat) :
    ∀ (blocks : List (List Nat)) (k : Nat) (obufs : List Nat),
      (∀ b ∈ blocks, BlockOK2 ce cd B b ∧ 0 < b.length ∧ b.length ≤ B) →
      ∃ ps, encodeBlocks2 ce blocks k obufs = .ok ps ∧ (∀ p ∈ ps, FrameFit B p) ∧
        BlockGen.decodeFrames cd B (ps.map Container.Item.payload ++ [Container.Item.endMark]) = (blocks, .endOfStream) := by
  intro blocks
  induction blocks with
  | nil => intro k obufs _; exact ⟨[], rfl, nofun, by simp [BlockGen.decodeFrames]⟩
  | cons b bs ih =>
    intro k obufs h
    obtain ⟨hok, h0, hB⟩ := h b (by simp)
    obtain ⟨p, hp, hd, hf⟩ := hok (obufs.getD (k % obufs.length) 0)
    obtain ⟨ps, hps, hfit, hdec⟩ := ih (k + 1)
      (obufs.set (k % obufs.length) (nextObuf ce (obufs.getD (k % obufs.length) 0) b))
      (fun q hq => h q (by simp [hq]))
    refine ⟨p :: ps, ?_, ?_, ?_⟩
    · rw [encodeBlocks2, hp]
      simp only [hps]
    · intro q hq
      rcases List.mem_cons.mp hq with hq | hq
      · subst hq; exact hf
      · exact hfit q hq
    · simp only [List.map_cons, List.cons_append]
      rw [BlockGen.decodeFrames, hd]
      simp only [hdec]
      rw [if_neg (by omega), if_neg (by omega)]

theorem streamImageGen2_read (h : Header.Header) (wf : Header.WF h) (ce : Cfg2) (cd : Cfg) (jobs : Nat)
    (blocks : List (List Nat))
    (hok : ∀ b ∈ blocks, BlockOK2 ce cd h.blockSize b ∧ 0 < b.length ∧ b.length ≤ h.blockSize) :
    ∃ img rest, streamImageGen2 h ce jobs blocks = .ok img ∧
      Header.parseHeader (ofBytes img) = .ok (h, rest) ∧
      BlockGen.decodeFrames cd h.blockSize (parseFrames h.blockSize (rest.length + 1) rest) =
        (blocks, .endOfStream) := by
  obtain ⟨ps, hps, hfit, hdec⟩ := encodeBlocks2_ok ce cd h.blockSize blocks 0 (List.replicate jobs 0) hok
  obtain ⟨rest, hh, hf⟩ := parse_streamBits h wf ps hfit
  refine ⟨_, rest, ?_, hh, by rw [hf, hdec]⟩
  unfold streamImageGen2
  rw [hps]

end Kanzi.BlockGen2

namespace Kanzi.BlockGen3
open Kanzi.Bits Kanzi.TrSmall Kanzi.Block Kanzi.BlockGen Kanzi.BlockGen2

/-- H_codec for every chain over the nineteen kinds: the BWT job counts are at least 1, and TEXT satisfies its law
if it occurs; in that case the decoding task is only claimed for a frame within the Reader's bound of 2^34 bits
(the Reader rejects longer frames before it hands them to a task: "Invalid block size") -/
theorem block_roundtrip3 (text : TextImpl) (c : Cfg2) (ks : List Kind3) (hc : c.trs = kind3Trs text ks)
    (hn : ks.length ≤ 8) (hwf : ∀ k ∈ ks, k.WF) (ht : Kind3.text ∈ ks → TextLaw text)
    (B obuf : Nat) (b : List Nat) (hbs : c.bs = some B)
    (hent : EntLawAt c.ent (maxTransformLength B) (postBlock c.trs c.bs obuf b))
    (hb : ∀ x ∈ b, x < 256) (hb0 : 0 < b.length) (hB : b.length ≤ B) (hmax : B ≤ 2 ^ 30) :
    ∃ p, encodeTaskGen2 c obuf b = .ok p ∧
      ((Kind3.text ∈ ks → p.length ≤ 2 ^ 34) → decodeTaskGen2 c B p = ⟨b.length, .ok b⟩) ∧
      (c.ent = noneEnt → FrameFit B p) := by
  have hl8 : (kind3Ltrs text ks).length ≤ 8 := by simp only [kind3Ltrs, List.length_map]; exact hn
  have hc' : c.trs = ltrs (kind3Ltrs text ks) := by rw [ltrs_kind3Ltrs]; exact hc
  obtain ⟨p, h1, h2, h3⟩ := block_roundtripL (ChainDst ks) c (kind3Ltrs text ks) hc' (kind3Ltrs_law text ks hwf ht)
    (kind3Ltrs_step text ks) hl8 B obuf b hbs hent hb hb0 hB hmax
  refine ⟨p, h1, fun hp => h2 (fun hmem => ?_), h3⟩
  rw [hc']
  exact invDst_lt (kind3Ltrs text ks) (kind3Ltrs_maxOK text ks ht) hl8 B hmax p (hp hmem)

theorem block_roundtrip3' (text : TextImpl) (c : Cfg2) (ks : List Kind3) (hc : c.trs = kind3Trs text ks)
    (hn : ks.length ≤ 8) (hwf : ∀ k ∈ ks, k.WF) (ht : Kind3.text ∈ ks → TextLaw text)
    (hcase : Kind3.text ∉ ks ∨ c.ent = noneEnt)
    (B obuf : Nat) (b : List Nat) (hbs : c.bs = some B)
    (hent : EntLawAt c.ent (maxTransformLength B) (postBlock c.trs c.bs obuf b))
    (hb : ∀ x ∈ b, x < 256) (hb0 : 0 < b.length) (hB : b.length ≤ B) (hmax : B ≤ 2 ^ 30) :
    ∃ p, encodeTaskGen2 c obuf b = .ok p ∧ decodeTaskGen2 c B p = ⟨b.length, .ok b⟩ ∧
      (c.ent = noneEnt → FrameFit B p) := by
  obtain ⟨p, h1, h2, h3⟩ := block_roundtrip3 text c ks hc hn hwf ht B obuf b hbs hent hb hb0 hB hmax
  refine ⟨p, h1, h2 (fun hmem => ?_), h3⟩
  rcases hcase with hnt | hne
  · exact absurd hmem hnt
  · exact Nat.le_of_lt (h3 hne).2.1

/-- the kinds `transform.newToken` builds, token by token -/
theorem tokenKind3_cases {fast dna rolzx : Bool} {jobs t : Nat} {k : Kind3}
    (h : tokenKind3 fast dna rolzx jobs t = some k) :
    (t = 1 ∧ k = .bwt jobs) ∨ (t = 2 ∧ k = .bwts) ∨ (t = 9 ∧ k = .exe) ∨ (t = 10 ∧ k = .text) ∨
      (t = 11 ∧ k = if rolzx then .rolzx else .rolz) ∨ (t = 12 ∧ k = .rolzx) ∨ (t = 17 ∧ k = .utf) ∨
      ∃ k', tokenKind fast dna t = some k' ∧ k = .old k' := by
  unfold tokenKind3 at h
  by_cases h1 : t = 1
  · rw [if_pos h1] at h
    exact .inl ⟨h1, (Option.some.inj h).symm⟩
  rw [if_neg h1] at h
  by_cases h2 : t = 2
  · rw [if_pos h2] at h
    exact .inr (.inl ⟨h2, (Option.some.inj h).symm⟩)
  rw [if_neg h2] at h
  by_cases h9 : t = 9
  · rw [if_pos h9] at h
    exact .inr (.inr (.inl ⟨h9, (Option.some.inj h).symm⟩))
  rw [if_neg h9] at h
  by_cases h10 : t = 10
  · rw [if_pos h10] at h
    exact .inr (.inr (.inr (.inl ⟨h10, (Option.some.inj h).symm⟩)))
  rw [if_neg h10] at h
  by_cases h11 : t = 11
  · rw [if_pos h11] at h
    exact .inr (.inr (.inr (.inr (.inl ⟨h11, (Option.some.inj h).symm⟩))))
  rw [if_neg h11] at h
  by_cases h12 : t = 12
  · rw [if_pos h12] at h
    exact .inr (.inr (.inr (.inr (.inr (.inl ⟨h12, (Option.some.inj h).symm⟩)))))
  rw [if_neg h12] at h
  by_cases h17 : t = 17
  · rw [if_pos h17] at h
    exact .inr (.inr (.inr (.inr (.inr (.inr (.inl ⟨h17, (Option.some.inj h).symm⟩))))))
  rw [if_neg h17] at h
  obtain ⟨k', hk, rfl⟩ := Option.map_eq_some_iff.mp h
  exact .inr (.inr (.inr (.inr (.inr (.inr (.inr ⟨k', hk, rfl⟩))))))

theorem tokenKind3_wf (fast dna rolzx : Bool) (jobs : Nat) (hj : 1 ≤ jobs) (t : Nat) (k : Kind3)
    (h : tokenKind3 fast dna rolzx jobs t = some k) : k.WF := by
  rcases tokenKind3_cases h with ⟨_, rfl⟩ | ⟨_, rfl⟩ | ⟨_, rfl⟩ | ⟨_, rfl⟩ | ⟨_, rfl⟩ | ⟨_, rfl⟩ | ⟨_, rfl⟩ |
    ⟨k', _, rfl⟩
  · exact hj
  all_goals first | trivial | (cases rolzx <;> trivial)

theorem tokenKind3_text (fast dna rolzx : Bool) (jobs t : Nat)
    (h : tokenKind3 fast dna rolzx jobs t = some Kind3.text) : t = 10 := by
  rcases tokenKind3_cases h with ⟨_, hk⟩ | ⟨_, hk⟩ | ⟨_, hk⟩ | ⟨ht, _⟩ | ⟨_, hk⟩ | ⟨_, hk⟩ | ⟨_, hk⟩ | ⟨k', _, hk⟩
  · cases hk
  · cases hk
  · cases hk
  · exact ht
  · cases rolzx <;> cases hk
  · cases hk
  · cases hk
  · cases hk

theorem kindsOfTokens3_spec (fast rolzx : Bool) (jobs : Nat) :
    ∀ (ts : List Nat) (dna : Bool) (ks : List Kind3),
    kindsOfTokens3 fast rolzx jobs ts dna = some ks →
      ks.length = ts.length ∧ ∀ k ∈ ks, ∃ t ∈ ts, ∃ d, tokenKind3 fast d rolzx jobs t = some k := by
  intro ts
  induction ts with
  | nil => intro dna ks h; simp [kindsOfTokens3] at h; subst h; exact ⟨rfl, nofun⟩
  | cons t ts ih =>
    intro dna ks h
    unfold kindsOfTokens3 at h
    cases h1 : tokenKind3 fast dna rolzx jobs t with
    | none => rw [h1] at h; simp at h
    | some k =>
      cases h2 : kindsOfTokens3 fast rolzx jobs ts (dna || t == 19) with
      | none => rw [h1, h2] at h; simp at h
      | some ks' =>
        rw [h1, h2] at h
        simp at h
        subst h
        obtain ⟨hl, hw⟩ := ih _ _ h2
        refine ⟨by simp [hl], fun k' hk' => ?_⟩
        rcases List.mem_cons.mp hk' with rfl | hk'
        · exact ⟨t, List.mem_cons_self .., dna, h1⟩
        · obtain ⟨t', ht', d⟩ := hw k' hk'
          exact ⟨t', List.mem_cons_of_mem _ ht', d⟩

theorem tokenKind3_old (fast dna rolzx : Bool) (jobs t : Nat) (k : Kind) (h : tokenKind fast dna t = some k) :
    tokenKind3 fast dna rolzx jobs t = some (.old k) := by
  have hne : t ≠ 1 ∧ t ≠ 2 ∧ t ≠ 9 ∧ t ≠ 10 ∧ t ≠ 11 ∧ t ≠ 12 ∧ t ≠ 17 := by
    refine ⟨?_, ?_, ?_, ?_, ?_, ?_, ?_⟩ <;> (intro ht; subst ht; simp [tokenKind] at h)
  unfold tokenKind3
  rw [if_neg hne.1, if_neg hne.2.1, if_neg hne.2.2.1, if_neg hne.2.2.2.1, if_neg hne.2.2.2.2.1,
    if_neg hne.2.2.2.2.2.1, if_neg hne.2.2.2.2.2.2, h]
  rfl

theorem kindsOfTokens3_old (fast rolzx : Bool) (jobs : Nat) :
    ∀ (ts : List Nat) (dna : Bool) (ks : List Kind),
    kindsOfTokens fast ts dna = some ks → kindsOfTokens3 fast rolzx jobs ts dna = some (ks.map Kind3.old) := by
  intro ts
  induction ts with
  | nil => intro dna ks h; simp [kindsOfTokens] at h; subst h; rfl
  | cons t ts ih =>
    intro dna ks h
    unfold kindsOfTokens at h
    cases h1 : tokenKind fast dna t with
    | none => rw [h1] at h; simp at h
    | some k =>
      cases h2 : kindsOfTokens fast ts (dna || t == 19) with
      | none => rw [h1, h2] at h; simp at h
      | some ks' =>
        rw [h1, h2] at h
        simp at h
        subst h
        unfold kindsOfTokens3
        rw [tokenKind3_old _ _ rolzx jobs _ _ h1, ih _ _ h2]
        rfl

/-- the model of `C01_blockgen2` is the restriction to transform words over the twelve names of `Kind`
(`Kind3.old`) -/
theorem newSeq3_of_newSeq2 (ft e jobs : Nat) (ks : List Kind) (h : newSeq2 ft e = some ks) :
    newSeq3 ft e jobs = some (ks.map Kind3.old) :=
  kindsOfTokens3_old _ _ _ _ _ _ h

theorem cfgOfHeader3_spec (text : TextImpl) (jobs : Nat) (hj : 1 ≤ jobs) (h : Header.Header) (sb : Bool) (c : Cfg2)
    (hc : cfgOfHeader3 text jobs h sb = some c) :
    c.ck = 32 * h.ckSize ∧ c.skipBlocks = sb ∧ c.bs = some h.blockSize ∧ entOf2 h.entropyType = some c.ent ∧
      ∃ ks, newSeq3 h.transformType h.entropyType jobs = some ks ∧ c.trs = kind3Trs text ks ∧ ks.length ≤ 8 ∧
        (∀ k ∈ ks, k.WF) ∧ (Kind3.text ∈ ks → (seqTokens h.transformType).contains 10 = true) := by
  unfold cfgOfHeader3 at hc
  cases h1 : newSeq3 h.transformType h.entropyType jobs with
  | none => rw [h1] at hc; simp at hc
  | some ks =>
    cases h2 : entOf2 h.entropyType with
    | none => rw [h1, h2] at hc; simp at hc
    | some ent =>
      rw [h1, h2] at hc
      simp at hc
      subst hc
      obtain ⟨hl, hw⟩ := kindsOfTokens3_spec _ _ jobs _ _ _ h1
      refine ⟨rfl, rfl, rfl, rfl, ks, rfl, rfl, ?_, fun k hk => ?_, fun hm => ?_⟩
      · rw [hl]
        exact seqTokens_length _
      · obtain ⟨t, _, d, ht⟩ := hw k hk
        exact tokenKind3_wf _ d _ jobs hj t k ht
      · obtain ⟨t, ht, d, hk⟩ := hw _ hm
        rw [tokenKind3_text _ _ _ _ _ hk] at ht
        simpa using ht

theorem _root_.Kanzi.BlockGen2.cfgOfHeader2_spec (h : Header.Header) (sb : Bool) (c : Cfg2) (hc : cfgOfHeader2 h sb = some c) :
    c.ck = 32 * h.ckSize ∧ c.skipBlocks = sb ∧ c.bs = some h.blockSize ∧ entOf2 h.entropyType = some c.ent ∧
      ∃ ks, newSeq2 h.transformType h.entropyType = some ks ∧ c.trs = kindTrs ks ∧ ks.length ≤ 8 := by
  unfold cfgOfHeader2 at hc
  cases h1 : newSeq2 h.transformType h.entropyType with
  | none => rw [h1] at hc; simp at hc
  | some ks =>
    cases h2 : entOf2 h.entropyType with
    | none => rw [h1, h2] at hc; simp at hc
    | some ent =>
      rw [h1, h2] at hc
      simp at hc
      subst hc
      refine ⟨rfl, rfl, rfl, rfl, ks, rfl, rfl, ?_⟩
      have := (kindsOfTokens3_spec _ _ 1 _ _ _ (newSeq3_of_newSeq2 _ _ 1 ks h1)).1
      rw [List.length_map] at this
      rw [this]
      exact seqTokens_length _

theorem _root_.Kanzi.BlockGen2.parseImageGen2_streamImageGen2 (h : Header.Header) (wf : Header.WF h) (ce cd : Cfg2) (jobs : Nat)
    (hcfg : cfgOfHeader2 h false = some cd) (blocks : List (List Nat))
    (hok : ∀ b ∈ blocks, BlockOK2 ce cd.toCfg h.blockSize b ∧ 0 < b.length ∧ b.length ≤ h.blockSize) :
    ∃ img, streamImageGen2 h ce jobs blocks = .ok img ∧
      parseImageGen2 img = (some h, blocks, .endOfStream) := by
  obtain ⟨img, rest, himg, hh, hdec⟩ := streamImageGen2_read h wf ce cd.toCfg jobs blocks hok
  refine ⟨img, himg, ?_⟩
  unfold parseImageGen2
  simp only [hh, hcfg, hdec]

theorem parseImageGen3_streamImageGen2 (text : TextImpl) (rj : Nat) (h : Header.Header) (wf : Header.WF h)
    (ce cd : Cfg2) (jobs : Nat) (hcfg : cfgOfHeader3 text rj h false = some cd) (blocks : List (List Nat))
    (hok : ∀ b ∈ blocks, BlockOK2 ce cd.toCfg h.blockSize b ∧ 0 < b.length ∧ b.length ≤ h.blockSize) :
    ∃ img, streamImageGen2 h ce jobs blocks = .ok img ∧
      parseImageGen3 text rj img = (some h, blocks, .endOfStream) := by
  obtain ⟨img, rest, himg, hh, hdec⟩ := streamImageGen2_read h wf ce cd.toCfg jobs blocks hok
  refine ⟨img, himg, ?_⟩
  unfold parseImageGen3
  simp only [hh, hcfg, hdec]

/-- the ctx entries `NewTPAQPredictor` reads in a stream of bitstream version 6 with block size `B`, for a block
of `n` bytes handed to the entropy coder (`ctx["size"]` = post-transform length on the encoder side = the
pre-transform length read from the prologue on the decoder side) -/
def tpaqArgs (extra : Bool) (B n : Nat) : Option Kanzi.TPAQ.CtxArgs :=
  some { entropy := .str (if extra then "TPAQX" else "TPAQ"), blockSize := .uint B, size := .uint n,
         bsVersion := .uint 6 }

/-- `NewBinaryEntropyEncoder/Decoder` with a new `TPAQPredictor` built from the task ctx (entropy name TPAQ or
TPAQX = `extra`, stream block size `B`, `size` = length of the block), chunks of `_BINARY_ENTROPY_MAX_CHUNK`;
`none` = the constructor or the codec failed.  No stream ties this block-level construction to the Go code (the codec
itself is tied by the stream `tpaq`). -/
def tpaqEnt (extra : Bool) (B : Nat) : Ent :=
  ⟨fun b => match Kanzi.TPAQ.tpaqNew (tpaqArgs extra B b.length) with
            | .ok s0 => (match BinEnt.encodeBlock Kanzi.C12.tpaqPred BinEnt.MAX_CHUNK s0 b with
                         | .ok o => some o
                         | .error _ => Option.none)
            | .error _ => Option.none,
   fun n bs => match Kanzi.TPAQ.tpaqNew (tpaqArgs extra B n) with
               | .ok s0 => (match BinEnt.decodeBlock Kanzi.C12.tpaqPred BinEnt.MAX_CHUNK s0 bs n with
                            | .ok r => some r
                            | .error _ => Option.none)
               | .error _ => Option.none⟩

/-- the decoder's own acceptance test ("no chunk codes to twice its size or more") for TPAQ / TPAQX on the block `y` -/
def tpaqFits (extra : Bool) (B : Nat) (y : List Nat) : Prop :=
  ∃ s0, Kanzi.TPAQ.tpaqNew (tpaqArgs extra B y.length) = .ok s0 ∧
    BinEnt.fits2 Kanzi.C12.tpaqPred BinEnt.MAX_CHUNK s0 y = true

theorem entLawAt_tpaq (extra : Bool) (B : Nat) (hB : 0 < B) (N : Nat) (hN : N ≤ 2 ^ 30) (y : List Nat)
    (hfit : tpaqFits extra B y) : EntLawAt (tpaqEnt extra B) N y := by
  intro hy hne
  obtain ⟨s0, hs, hf⟩ := hfit
  have hlen : 0 < y.length := List.length_pos_of_ne_nil hne
  have hargs : Kanzi.TPAQ.ArgsOk (tpaqArgs extra B y.length) := by
    unfold tpaqArgs Kanzi.TPAQ.ArgsOk
    exact ⟨hB, hlen⟩
  obtain ⟨out, h1, h2⟩ := Kanzi.C12.C12_tpaq_block (tpaqArgs extra B y.length) s0 hargs hs y hne hy.1
    (Nat.le_trans hy.2 hN) hf
  refine ⟨out, ?_, fun rest => ?_⟩
  · show (match Kanzi.TPAQ.tpaqNew (tpaqArgs extra B y.length) with
      | .ok s0 => (match BinEnt.encodeBlock Kanzi.C12.tpaqPred BinEnt.MAX_CHUNK s0 y with
                   | .ok o => some o | .error _ => Option.none)
      | .error _ => Option.none) = _
    rw [hs]
    simp only [h1]
  · show (match Kanzi.TPAQ.tpaqNew (tpaqArgs extra B y.length) with
      | .ok s0 => (match BinEnt.decodeBlock Kanzi.C12.tpaqPred BinEnt.MAX_CHUNK s0 (out ++ rest) y.length with
                   | .ok r => some r | .error _ => Option.none)
      | .error _ => Option.none) = _
    rw [hs]
    simp only [h2 rest]

/-- `entropy.NewEntropyEncoder/Decoder` for all nine codes in a stream of block size `B`: those of `entOf2`, TPAQ (7),
TPAQX (9) -/
def entOf3 (B e : Nat) : Option Ent :=
  if e = 7 then some (tpaqEnt false B) else if e = 9 then some (tpaqEnt true B) else entOf2 e

/-! ### the encoder does not look at the BWT job count -/

/-- two transforms the ENCODER cannot tell apart -/
def EncEq (t t' : Tr2) : Prop := t.fwd = t'.fwd ∧ t.ctxw = t'.ctxw ∧ t.maxLen = t'.maxLen

theorem seqMaxLen_encEq {ts ts' : List Tr2} (h : List.Forall₂ EncEq ts ts') :
    ∀ n, seqMaxLen (trsOf ts) n = seqMaxLen (trsOf ts') n := by
  unfold seqMaxLen stagesOf trsOf
  induction h with
  | nil => intro n; rfl
  | cons hd _ ih =>
    intro n
    simp only [List.map_cons, seqMaxEncodedLen, Tr.stage, Tr2.toTr]
    rw [hd.2.2]
    exact ih _

theorem seqFwdGo2_encEq (req l0 : Nat) {ts ts' : List Tr2} (h : List.Forall₂ EncEq ts ts') :
    ∀ (i : Nat) (even : Bool) (dt : Nat) (cur : List Nat) (f : Nat),
      seqFwdGo2 req l0 ts i even dt cur f = seqFwdGo2 req l0 ts' i even dt cur f := by
  induction h with
  | nil => intro i even dt cur f; rfl
  | cons hd _ ih =>
    intro i even dt cur f
    rw [seqFwdGo2, seqFwdGo2, hd.1, hd.2.1]
    split
    · exact ih _ _ _ _ _
    · exact ih _ _ _ _ _

theorem encodeTaskGen2_encEq (ck : Nat) (ts ts' : List Tr2) (h : List.Forall₂ EncEq ts ts') (ent : Ent) (sb : Bool)
    (bs : Option Nat) (obuf : Nat) (b : List Nat) :
    encodeTaskGen2 ⟨ck, ts, ent, sb, bs⟩ obuf b = encodeTaskGen2 ⟨ck, ts', ent, sb, bs⟩ obuf b := by
  have hlen : ts.length = ts'.length := h.length_eq
  have hm := seqMaxLen_encEq h
  unfold encodeTaskGen2
  have hcopy : isCopy (Cfg2.toCfg ⟨ck, ts, ent, sb, bs⟩) b = isCopy (Cfg2.toCfg ⟨ck, ts', ent, sb, bs⟩) b := rfl
  rw [hcopy]
  split
  · rfl
  · show encodeWith2 ts ent (ckWidth ck) (checksum ck b) bs obuf b = encodeWith2 ts' ent (ckWidth ck) (checksum ck b) bs obuf b
    unfold encodeWith2 postOf forwardOf seqForward2
    rw [hlen, hm b.length]
    split
    · rfl
    · rw [seqFwdGo2_encEq _ _ h]

def Kind3.setJobs (j : Nat) : Kind3 → Kind3
  | .bwt _ => .bwt j
  | k => k

theorem kind3Trs_setJobs (text : TextImpl) (j : Nat) (ks : List Kind3) :
    List.Forall₂ EncEq (kind3Trs text ks) (kind3Trs text (ks.map (Kind3.setJobs j))) := by
  induction ks with
  | nil => exact List.Forall₂.nil
  | cons k ks ih =>
    refine List.Forall₂.cons ?_ ih
    cases k <;> exact ⟨rfl, rfl, rfl⟩

end Kanzi.BlockGen3
