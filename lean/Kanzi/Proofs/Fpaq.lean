/-
Proofs for the FPAQ codec model (`Kanzi/Model/Fpaq.lean`, property C12): FPAQ is the generic
binary coder (`Kanzi/Proofs/BinEnt*.lean`, shift 8) with the FPAQ adaptive model as predictor and
its own chunk framing.  The property theorems are restated in `Kanzi/Properties/C12_fpaq.lean`.
-/
import Kanzi.Model.Fpaq
import Kanzi.Proofs.BinEntBlock

namespace Kanzi.Fpaq
open Kanzi.Bits Kanzi.EntSmall Kanzi.BinEnt

/-- every probability stays a 16-bit value -/
def FR (s : FState) : Prop := ∀ i, s.probs.getD i 0 < 65536

theorem getD_setIfInBounds (a : Array Nat) (k v i : Nat) :
    (a.setIfInBounds k v).getD i 0 = if i = k ∧ k < a.size then v else a.getD i 0 := by
  simp only [Array.getD_eq_getD_getElem?, Array.getElem?_setIfInBounds]
  by_cases h : k = i
  · subst h
    by_cases h2 : k < a.size
    · simp [h2]
    · simp [h2]
  · have : ¬ i = k := fun hc => h hc.symm
    simp [h, this]

theorem adapt_lt (p : Nat) (b : Bool) (hp : p < 65536) : adapt p b < 65536 := by
  unfold adapt
  cases b
  · simp only [Bool.false_eq_true, if_false]; omega
  · simp only [if_true]
    split <;> omega

theorem fr_init : FR FState.init := by
  intro i
  simp only [FState.init, Array.getD_eq_getD_getElem?, Array.getElem?_replicate]
  split <;> simp

theorem fr_chunkStart (s : FState) (h : FR s) : FR s.chunkStart := h

theorem fpaq_safe : fpaqP.Safe FR := by
  constructor
  · intro s b hs i
    show (s.probs.setIfInBounds (256 * s.t + s.ctx) (adapt s.get b)).getD i 0 < 65536
    rw [getD_setIfInBounds]
    split
    · exact adapt_lt _ _ (hs _)
    · exact hs i
  · intro s hs
    exact ⟨Or.inr rfl, hs _⟩

theorem fReadChunk_prefix (total chunkSize n : Nat) (d : Dec FState) (O tail : Bits)
    (hn : n < 2 ^ 32) (hnt : n < 2 * total) (hO : O.length = 8 * n + 56) (res : List Nat × Dec FState)
    (hres : Dec.decodeBytes fpaqP chunkSize
          { d with ps := d.ps.chunkStart, current := bitsNat (O.take 56),
                   buffer := fBufLoad (fBufAlloc d.buffer n) n (bytesOf n (O.drop 56)),
                   rem := fBufLoad (fBufAlloc d.buffer n) n (bytesOf n (O.drop 56)) } [] = .ok res) :
    fReadChunk total chunkSize d (writeVarInt n ++ O ++ tail) = .ok (res.1, res.2, tail) := by
  unfold fReadChunk
  rw [List.append_assoc, varint_roundtrip n hn]
  simp only
  rw [if_neg (by omega)]
  rw [readBits_prefix 56 O tail (by omega)]
  simp only
  rw [readBytes_prefix n _ tail (by rw [List.length_drop]; omega)]
  simp only
  rw [hres]

theorem fReadChunk_reject (total chunkSize n : Nat) (d : Dec FState) (X : Bits)
    (hn : n < 2 ^ 32) (h2 : 2 * total ≤ n) :
    fReadChunk total chunkSize d (writeVarInt n ++ X) = .error .invalid := by
  unfold fReadChunk
  rw [varint_roundtrip n hn]
  simp only
  rw [if_pos h2]

/-- **`fFits2`**: every chunk flushes fewer than `2·len(block)` bytes — exactly the acceptance test of
    `FPAQDecoder.Read` (`szBytes >= 2*len(block)` ⇒ "Invalid chunk size").  Computed with the pure
    coder; `s, l, h` = model state and interval at the start of the chunk (table 0 is selected). -/
def fFits2Chunks (C total : Nat) : Nat → FState → Nat → Nat → List Nat → Bool
  | 0, _, _, _, _ => true
  | fuel + 1, s, l, h, blk =>
    if blk.length = 0 then true
    else
      decide ((pBytes fpaqP s.chunkStart l h (ofBytes (blk.take (min C blk.length)))).length < 2 * total) &&
        fFits2Chunks C total fuel (pFin fpaqP s.chunkStart l h (ofBytes (blk.take (min C blk.length)))).1
          (pFin fpaqP s.chunkStart l h (ofBytes (blk.take (min C blk.length)))).2.1
          (pFin fpaqP s.chunkStart l h (ofBytes (blk.take (min C blk.length)))).2.2
          (blk.drop (min C blk.length))

def fFits2 (C : Nat) (blk : List Nat) : Bool := fFits2Chunks C blk.length blk.length FState.init 0 TOP blk

theorem fWriteChunks_nil (C fuel : Nat) (e : Enc FState) : fWriteChunks C fuel e [] = .ok ([], e) := by
  cases fuel <;> simp [fWriteChunks]

theorem fReadChunks_zero (C total fuel : Nat) (d : Dec FState) (bs : Bits) :
    fReadChunks C total fuel d 0 bs = .ok ([], d, bs) := by
  cases fuel <;> simp [fReadChunks]

theorem fFits2Chunks_nil (C total fuel : Nat) (s : FState) (l h : Nat) :
    fFits2Chunks C total fuel s l h [] = true := by
  cases fuel <;> simp [fFits2Chunks]

/-- the encoder as `FPAQEncoder.Write` starts a chunk of `k` bytes -/
def fPrep (e : Enc FState) (k : Nat) : Enc FState :=
  { e with ps := e.ps.chunkStart, rev := [], index := 0,
           bufLen := if e.bufLen < k + (k >>> 3) then k + (k >>> 3) else e.bufLen }

theorem fPrep_prepares : Prepares fPrep FState.chunkStart := fun _ _ => ⟨_, rfl⟩

theorem fWriteChunks_eq (C : Nat) : ∀ (fuel : Nat) (e : Enc FState) (blk : List Nat),
    fWriteChunks C fuel e blk = writeLoop fpaqP fPrep C fuel e blk := by
  intro fuel
  induction fuel with
  | zero => intro e blk; rfl
  | succ fuel ih =>
    intro e blk
    simp only [fWriteChunks, writeLoop, ih, fPrep]
    split
    · rfl
    · cases Enc.encodeBytes fpaqP _ (blk.take (min C blk.length)) with
      | error x => rfl
      | ok e1 =>
        simp only
        cases writeLoop fpaqP fPrep C fuel e1 (blk.drop (min C blk.length)) <;> rfl

theorem fReadChunks_eq (C total : Nat) : ∀ (fuel : Nat) (d : Dec FState) (count : Nat) (bs : Bits),
    fReadChunks C total fuel d count bs = readLoop (fReadChunk total) C fuel d count bs := by
  intro fuel
  induction fuel with
  | zero => intro d count bs; rfl
  | succ fuel ih =>
    intro d count bs
    simp only [fReadChunks, readLoop, ih]
    split
    · rfl
    · cases fReadChunk total (min C count) d bs with
      | error x => rfl
      | ok c =>
        simp only
        cases readLoop (fReadChunk total) C fuel c.2.1 (count - min C count) c.2.2 <;> rfl

theorem fFits2Chunks_eq (C total : Nat) : ∀ (fuel : Nat) (s : FState) (l h : Nat) (blk : List Nat),
    fFits2Chunks C total fuel s l h blk = fitsLoop fpaqP FState.chunkStart C (2 * total) fuel s l h blk := by
  intro fuel
  induction fuel with
  | zero => intro s l h blk; rfl
  | succ fuel ih => intro s l h blk; simp only [fFits2Chunks, fitsLoop, ih]

theorem fReadChunk_reads (total : Nat) : ReadsChunk fpaqP FState.chunkStart (2 * total) (fReadChunk total) :=
  ⟨fun k n d O tail hn hnt hO => ⟨_, _, fun res hres => fReadChunk_prefix total k n d O tail hn hnt hO res
      (by unfold fBufLoad; rw [List.append_assoc]; exact hres)⟩,
    fun k n d X hn hge => fReadChunk_reject total k n d X hn hge⟩

/-- the encoder never fails (it grows its buffer, repair 1e1b76f) -/
theorem fpaqEncode_total (C : Nat) (blk : List Nat) (hlen : blk.length ≤ MAX_BLOCK) :
    ∃ out, fpaqEncode C blk = .ok out := by
  unfold fpaqEncode fWrite
  obtain ⟨r, hr, _⟩ := writeLoop_total fpaqP fpaq_safe C fr_chunkStart fPrep_prepares blk.length blk
    (Enc.init FState.init) 0 TOP fr_init (erel_init _) inv_init rfl
  rw [if_neg (by omega), fWriteChunks_eq, hr]
  exact ⟨_, rfl⟩

/-- **C12 for FPAQ, block level**: `Write` + `Dispose` never fail; `Read` returns the block and
    consumes exactly the written bits iff every chunk flushed fewer than `2·len(block)` bytes,
    otherwise it reports "Invalid chunk size" -/
theorem fpaq_block_full (C : Nat) (hC : 0 < C) (hC27 : C < 2 ^ 27) (blk : List Nat) (hne : blk ≠ [])
    (hb : ∀ v ∈ blk, v < 256) (hlen : blk.length ≤ MAX_BLOCK) :
    ∃ out, fpaqEncode C blk = .ok out ∧
      (fFits2 C blk = true → ∀ rest : Bits, fpaqDecode C (out ++ rest) blk.length = .ok (blk, rest)) ∧
      (fFits2 C blk = false → ∀ rest : Bits, fpaqDecode C (out ++ rest) blk.length = .error .invalid) := by
  have hmb : MAX_BLOCK = 1073741824 := rfl
  obtain ⟨r, hw, hdis⟩ := writeLoop_total fpaqP fpaq_safe C fr_chunkStart fPrep_prepares blk.length blk
    (Enc.init FState.init) 0 TOP fr_init (erel_init _) inv_init rfl
  have hdisp : r.2.dispose.1 = r.2.trailer := by
    unfold Enc.dispose
    rw [hdis]
    rfl
  have hc := fun rest => loop_rt fpaqP fpaq_safe C (2 * blk.length) hC hC27 fr_chunkStart fPrep_prepares
    (fReadChunk_reads blk.length) blk.length blk (Enc.init FState.init) (Dec.init FState.init) 0 TOP r.1 r.2 rest
    hne (Nat.le_refl _) hb fr_init (erel_init _) inv_init ⟨rfl, rfl, rfl⟩ rfl (by rw [hw])
  refine ⟨r.1 ++ r.2.dispose.1, ?_, ?_, ?_⟩
  · unfold fpaqEncode fWrite
    rw [if_neg (by omega), fWriteChunks_eq, hw]
  · intro hf rest
    obtain ⟨d', lf, hf', hrd, _⟩ := (hc rest).1 (by rw [← fFits2Chunks_eq]; exact hf)
    unfold fpaqDecode
    rw [if_neg (by omega), hdisp, fReadChunks_eq, hrd]
  · intro hf rest
    unfold fpaqDecode
    rw [if_neg (by omega), hdisp, fReadChunks_eq, (hc rest).2 (by rw [← fFits2Chunks_eq]; exact hf)]

theorem fpaqEncode_nil (C : Nat) : fpaqEncode C [] = .ok (natBits MASK_0_24 56) := by
  unfold fpaqEncode fWrite
  rw [if_neg (by simp)]
  simp only [List.length_nil, fWriteChunks, List.nil_append]
  simp [Enc.dispose, Enc.init, Enc.trailer]

theorem fpaqDecode_zero (C : Nat) (bs : Bits) : fpaqDecode C bs 0 = .ok ([], bs) := by
  unfold fpaqDecode
  rw [if_neg (by simp)]
  simp [fReadChunks]

/-- number of bytes `flush` stores for a block coded in one chunk from the initial state -/
def fFlushedLen (blk : List Nat) : Nat := (pBytes fpaqP FState.init 0 TOP (ofBytes blk)).length

theorem fFlushedLen_le (blk : List Nat) : fFlushedLen blk ≤ 32 * blk.length := by
  unfold fFlushedLen
  have := pBytes_length_le fpaqP (ofBytes blk) FState.init 0 TOP
  rw [ofBytes_length] at this
  omega

theorem fFits2_single (C : Nat) (blk : List Nat) (hne : blk ≠ []) (hC : blk.length ≤ C) :
    fFits2 C blk = decide (fFlushedLen blk < 2 * blk.length) := by
  unfold fFits2 fFlushedLen
  rw [fFits2Chunks_eq, fitsLoop_single fpaqP FState.chunkStart C _ FState.init 0 TOP blk hne hC]
  rfl

end Kanzi.Fpaq
