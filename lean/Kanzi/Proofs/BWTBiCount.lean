/-
inverseBiPSIv2: counting facts for ARBITRARY source bytes and any `pIdx` in `0 .. n`.
* the first loop (`biHist`): `freqs[c]` becomes the first row of symbol `c` and `buckets[c<<8|d]` the
  number of rows of symbol `c` (the row `pIdx` excluded) whose BWT symbol is `d`;
* `posOf i`: the row `freqs[src[i]]++` hands to source index `i` (level-1 counting sort = LF); the
  indexes of one symbol get consecutive rows (`idxs_pos`);
* the bigram entries scattered by the third loop and their flat keys `x*256 + y`; the number of entries
  with a key equals the count the first loop left in `buckets` (`cntK_entries`);
* the grand total of the counts is `n - 1` (`total_cnt`).
-/
import Kanzi.Proofs.BWTTables

namespace Kanzi.BWT

/-! ## the first loop -/

theorem succ_mul256 (c : Nat) : (c + 1) * 256 = c * 256 + 256 := by rw [Nat.add_mul, Nat.one_mul]

theorem shl8 (c : Nat) : c <<< 8 = c * 256 := by rw [Nat.shiftLeft_eq]

def cntIf (P : Nat → Bool) (a k : Nat) : Nat := ((List.range' a k).filter P).length

theorem cntIf_eq_filter_range' (P : Nat → Bool) (a k : Nat) : cntIf P a k = ((List.range' a k).filter P).length := rfl

theorem cntIf_zero (P : Nat → Bool) (a : Nat) : cntIf P a 0 = 0 := rfl

theorem cntIf_succ (P : Nat → Bool) (a k : Nat) :
    cntIf P a (k + 1) = (if P a then 1 else 0) + cntIf P (a + 1) k := by
  simp only [cntIf, List.range'_succ, List.filter_cons]
  split <;> simp <;> omega

theorem cntIf_add (P : Nat → Bool) (a k1 k2 : Nat) :
    cntIf P a (k1 + k2) = cntIf P a k1 + cntIf P (a + k1) k2 := by
  simp only [cntIf, ← List.range'_append_1, List.filter_append, List.length_append]

theorem cntIf_congr (P Q : Nat → Bool) (a k : Nat) (h : ∀ r, a ≤ r → r < a + k → P r = Q r) :
    cntIf P a k = cntIf Q a k := by
  simp only [cntIf]
  congr 1
  apply List.filter_congr
  intro r hr
  rw [List.mem_range'_1] at hr
  exact h r hr.1 hr.2

theorem cntIf_shift (Q : Nat → Bool) (a k : Nat) :
    cntIf (fun j => Q (j + 1)) a k = cntIf Q (a + 1) k := by
  rw [cntIf, cntIf, Nat.add_comm a 1, ← List.map_add_range', List.filter_map, List.length_map]
  simp only [Function.comp_def, Nat.add_comm 1]

theorem cntIf_le (P : Nat → Bool) (a k : Nat) : cntIf P a k ≤ k := by
  have := List.length_filter_le P (List.range' a k)
  simpa [cntIf] using this

/-! ### incRange -/

theorem incRange_spec (src : Array Nat) (hb : ∀ b ∈ src.toList, b < 256) (base k i : Nat) (bk : Array Nat)
    (hi : i + k ≤ src.size) (hbase : base + 256 ≤ bk.size) :
    ∃ bk', incRange src base k i bk = some bk' ∧ bk'.size = bk.size ∧
      (∀ d, d < 256 → rd bk' (base + d) = rd bk (base + d) + cntIf (fun j => rd src j = d) i k) ∧
      (∀ x, (x < base ∨ base + 256 ≤ x) → rd bk' x = rd bk x) := by
  induction k generalizing i bk with
  | zero => exact ⟨bk, rfl, rfl, by intro d _; simp [cntIf_zero], fun _ _ => rfl⟩
  | succ k ih =>
    have hi' : i < src.size := by omega
    have hsym : src[i] < 256 := hb _ (by simp)
    have hix : base + src[i] < bk.size := by omega
    obtain ⟨bk', h1, h2, h3, h4⟩ := ih (i + 1) (bk.modify (base + src[i]) (· + 1)) (by omega)
      (by rw [Array.size_modify]; exact hbase)
    refine ⟨bk', by simp only [incRange, hi', dite_true, hix, ite_true, h1], by rw [h2, Array.size_modify], ?_, ?_⟩
    · intro d hd
      rw [h3 d hd, rd_modify _ _ _ _ hix, cntIf_succ, rd_eq_getElem hi']
      by_cases hdd : rd src i = d
      · subst hdd; simp; omega
      · simp [hdd]
    · intro x hx
      rw [h4 x hx, rd_modify _ _ _ _ hix]
      have : ¬ base + src[i] = x := by omega
      simp [this]

/-! ### first rows of the symbols -/

/-- first row (in `SA'`) of the suffixes starting with `c`: `1 +` the number of smaller symbols -/
def fC (src : Array Nat) (c : Nat) : Nat := 1 + (src.toList.filter (fun x => x < c)).length

/-- BWT symbol of row `r` (`r ≠ p0`): `src[r]` in front of the end-marker row, `src[r-1]` behind it -/
def Lrow (src : Array Nat) (p0 r : Nat) : Nat := if r < p0 then rd src r else rd src (r - 1)

/-- number of rows of symbol `y` (row `p0` excluded) with BWT symbol `x` -/
def cntRow (src : Array Nat) (p0 y x : Nat) : Nat :=
  cntIf (fun r => r ≠ p0 && Lrow src p0 r = x) (fC src y) (src.toList.count y)

theorem fC_succ (src : Array Nat) (c : Nat) : fC src (c + 1) = fC src c + src.toList.count c := by
  unfold fC; rw [filter_lt_succ_length]; omega

theorem fC_le (src : Array Nat) (c : Nat) : fC src c + src.toList.count c ≤ src.size + 1 := by
  rw [← fC_succ]; unfold fC
  have := List.length_filter_le (fun x => decide (x < c + 1)) src.toList
  simp at this; omega

theorem fC_pos (src : Array Nat) (c : Nat) : 1 ≤ fC src c := by unfold fC; omega

theorem fC_zero (src : Array Nat) : fC src 0 = 1 := by
  unfold fC
  rw [List.filter_eq_nil_iff.2 (by simp)]
  rfl

theorem cntRow_below (src : Array Nat) (p0 d a k : Nat) (h : a + k ≤ p0) :
    cntIf (fun r => r ≠ p0 && Lrow src p0 r = d) a k = cntIf (fun j => rd src j = d) a k := by
  apply cntIf_congr
  intro r _ hr
  have h1 : r < p0 := by omega
  have h2 : r ≠ p0 := by omega
  simp [Lrow, h1, h2]

theorem cntRow_above (src : Array Nat) (p0 d a k : Nat) (h : p0 < a) :
    cntIf (fun r => r ≠ p0 && Lrow src p0 r = d) a k = cntIf (fun j => rd src j = d) (a - 1) k := by
  obtain ⟨a', rfl⟩ : ∃ a', a = a' + 1 := ⟨a - 1, by omega⟩
  rw [Nat.add_sub_cancel, ← cntIf_shift]
  apply cntIf_congr
  intro r hr _
  have h1 : ¬ r + 1 < p0 := by omega
  have h2 : r + 1 ≠ p0 := by omega
  simp [Lrow, h1, h2]

/-- what the two `incRange` loops of one symbol count -/
theorem rows_count (src : Array Nat) (p0 f h d : Nat) (hf1 : 1 ≤ f) :
    cntIf (fun j => rd src j = d) f (min (f + h) p0 - f)
      + cntIf (fun j => rd src j = d) (max (f - 1) p0) (f + h - 1 - max (f - 1) p0)
      = cntIf (fun r => r ≠ p0 && Lrow src p0 r = d) f h := by
  by_cases hA : p0 < f
  · -- the end-marker row is in front of the range
    have e1 : min (f + h) p0 - f = 0 := by omega
    have e2 : max (f - 1) p0 = f - 1 := by omega
    have e3 : f + h - 1 - (f - 1) = h := by omega
    rw [e1, e2, e3, cntIf_zero, Nat.zero_add, cntRow_above src p0 d f h hA]
  · by_cases hB : p0 < f + h
    · -- inside: the rows in front, the end-marker row itself (not counted), the rows behind
      have e1 : min (f + h) p0 - f = p0 - f := by omega
      have e2 : max (f - 1) p0 = p0 := by omega
      have e3 : h = (p0 - f) + (1 + (f + h - 1 - p0)) := by omega
      have e4 : f + (p0 - f) = p0 := by omega
      rw [e1, e2]
      conv => rhs; rw [e3, cntIf_add, cntIf_add, e4, cntIf_succ, cntIf_zero]
      rw [cntRow_below src p0 d f (p0 - f) (by omega), cntRow_above src p0 d (p0 + 1) _ (by omega)]
      simp
    · -- behind
      have e1 : min (f + h) p0 - f = h := by omega
      have e2 : f + h - 1 - max (f - 1) p0 = 0 := by omega
      rw [e1, e2, cntIf_zero, Nat.add_zero, cntRow_below src p0 d f h (by omega)]

/-! ### biHist -/

/-- state of the first loop before symbol `c` -/
structure HistInv (src : Array Nat) (p0 c : Nat) (fr bk : Array Nat) : Prop where
  frsize : fr.size = c
  bksize : bk.size = 65536
  fr : ∀ y, y < c → rd fr y = fC src y
  done : ∀ y x, y < c → x < 256 → rd bk (y * 256 + x) = cntRow src p0 y x
  todo : ∀ ix, c * 256 ≤ ix → rd bk ix = 0

theorem biHist_spec (src : Array Nat) (hb : ∀ b ∈ src.toList, b < 256) (p0 : Nat) (hp0 : p0 ≤ src.size)
    (k c : Nat) (hkc : k + c = 256) (fr bk : Array Nat) (hinv : HistInv src p0 c fr bk) :
    ∃ fr' bk', biHist src (histogram src) p0 k c (fC src c) fr bk = some (fr', bk') ∧
      HistInv src p0 256 fr' bk' := by
  induction k generalizing c fr bk with
  | zero =>
    have : c = 256 := by omega
    subst this
    exact ⟨fr, bk, rfl, hinv⟩
  | succ k ih =>
    have hc : c < 256 := by omega
    have hh : (histogram src).getD c 0 = src.toList.count c := histogram_rd src c hc
    have hle := fC_le src c
    have hpos := fC_pos src c
    simp only [biHist, hh]
    have hstep : ∀ bk2 : Array Nat, bk2.size = 65536 →
        (∀ d, d < 256 → rd bk2 (c * 256 + d) = cntRow src p0 c d) →
        (∀ x, (x < c * 256 ∨ c * 256 + 256 ≤ x) → rd bk2 x = rd bk x) →
        HistInv src p0 (c + 1) (fr.push (fC src c)) bk2 := by
      intro bk2 hs2 hd2 hu2
      refine ⟨by simp [hinv.frsize], hs2, ?_, ?_, ?_⟩
      · intro y hy
        rw [rd_push, hinv.frsize]
        by_cases hyc : y = c
        · subst hyc; simp
        · simp [hyc]; exact hinv.fr y (by omega)
      · intro y x hy hx
        by_cases hyc : y = c
        · subst hyc; exact hd2 x hx
        · have hlt : y < c := by omega
          rw [hu2 _ (Or.inl (by
            have : y * 256 + 256 ≤ c * 256 := by
              have := Nat.mul_le_mul_right 256 (show y + 1 ≤ c by omega)
              omega
            omega))]
          exact hinv.done y x hlt hx
      · intro ix hix
        have h0 : c * 256 ≤ ix := Nat.le_trans (Nat.mul_le_mul_right 256 (Nat.le_succ c)) hix
        rw [succ_mul256] at hix
        rw [hu2 ix (Or.inr hix)]
        exact hinv.todo ix h0
    by_cases hz : src.toList.count c = 0
    · -- absent symbol: nothing to count
      have hne : ¬ fC src c ≠ fC src c + src.toList.count c := by omega
      rw [if_neg hne]
      have hnext : fC src c + src.toList.count c = fC src (c + 1) := (fC_succ src c).symm
      rw [hnext]
      apply ih (c + 1) (by omega)
      apply hstep bk hinv.bksize
      · intro d hd
        rw [hinv.todo _ (by omega)]
        simp [cntRow, hz, cntIf_zero]
      · intro x _; rfl
    · have hne : fC src c ≠ fC src c + src.toList.count c := by omega
      rw [if_pos hne]
      obtain ⟨bk1, r1, s1, d1, u1⟩ := incRange_spec src hb (c <<< 8)
        (min (fC src c + src.toList.count c) p0 - fC src c) (fC src c) bk
        (by omega) (by rw [shl8, hinv.bksize]; omega)
      obtain ⟨bk2, r2, s2, d2, u2⟩ := incRange_spec src hb (c <<< 8)
        (fC src c + src.toList.count c - 1 - max (fC src c - 1) p0) (max (fC src c - 1) p0) bk1
        (by omega) (by rw [shl8, s1, hinv.bksize]; omega)
      simp only [r1, r2]
      have hnext : fC src c + src.toList.count c = fC src (c + 1) := (fC_succ src c).symm
      rw [hnext]
      apply ih (c + 1) (by omega)
      apply hstep bk2 (by rw [s2, s1, hinv.bksize])
      · intro d hd
        have := d2 d hd
        rw [shl8] at this
        rw [this]
        have := d1 d hd
        rw [shl8] at this
        rw [this, hinv.todo _ (by omega), Nat.zero_add]
        exact rows_count src p0 (fC src c) (src.toList.count c) d hpos
      · intro x hx
        rw [u2 x (by rw [shl8]; exact hx), u1 x (by rw [shl8]; exact hx)]

theorem histInv_init (src : Array Nat) (p0 : Nat) :
    HistInv src p0 0 (Array.emptyWithCapacity 256) (Array.replicate 65536 0) := by
  refine ⟨by simp, by simp, by intro y hy; omega, by intro y x hy; omega, ?_⟩
  intro ix _
  rw [rd_replicate]; split <;> rfl

/-- the first loop of `inverseBiPSIv2`, for any bytes and any `pIdx <= n` -/
theorem biHist_run (src : Array Nat) (hb : ∀ b ∈ src.toList, b < 256) (p0 : Nat) (hp0 : p0 ≤ src.size) :
    ∃ fr bk, biHist src (histogram src) p0 256 0 1 (Array.emptyWithCapacity 256) (Array.replicate 65536 0)
        = some (fr, bk) ∧ HistInv src p0 256 fr bk := by
  have := biHist_spec src hb p0 hp0 256 0 rfl _ _ (histInv_init src p0)
  rw [fC_zero] at this
  exact this

/-! ## rows and bigram entries -/

theorem psum_succ (f : Nat → Nat) (c : Nat) : psum f (c + 1) = psum f c + f c := rfl

theorem psum_congr (f g : Nat → Nat) (n : Nat) (h : ∀ x, x < n → f x = g x) : psum f n = psum g n := by
  induction n with
  | zero => rfl
  | succ n ih => rw [psum_succ, psum_succ, ih (fun x hx => h x (by omega)), h n (by omega)]

/-! ### level 1: rows handed out by `freqs[c]++` -/

def seen (src : Array Nat) (i y : Nat) : Nat := ((src.toList.take i).filter (fun b => b = y)).length

/-- the value `p := freqs[c]` read at source index `i` -/
def posOf (src : Array Nat) (i : Nat) : Nat := fC src (rd src i) + seen src i (rd src i)

theorem seen_succ (src : Array Nat) (i y : Nat) (hi : i < src.size) :
    seen src (i + 1) y = seen src i y + (if rd src i = y then 1 else 0) := by
  unfold seen
  have hi' : i < src.toList.length := by simpa using hi
  rw [List.take_add_one, List.filter_append, List.length_append, List.getElem?_eq_getElem hi']
  simp only [Option.toList_some, List.filter_cons, List.filter_nil, Array.getElem_toList, rd_eq_getElem hi]
  split <;> simp_all

theorem seen_le (src : Array Nat) (i y : Nat) : seen src i y ≤ src.toList.count y := by
  unfold seen
  rw [List.count_eq_length_filter]
  exact (List.Sublist.filter _ (List.take_sublist i _)).length_le

theorem seen_lt (src : Array Nat) (i : Nat) (hi : i < src.size) :
    seen src i (rd src i) < src.toList.count (rd src i) := by
  have h1 := seen_succ src i (rd src i) hi
  have h2 := seen_le src (i + 1) (rd src i)
  simp at h1; omega

theorem posOf_bounds (src : Array Nat) (i : Nat) (hi : i < src.size) :
    1 ≤ posOf src i ∧ posOf src i ≤ src.size := by
  have h1 := seen_lt src i hi
  have h2 := fC_le src (rd src i)
  have h3 := fC_pos src (rd src i)
  unfold posOf; omega

/-- the indexes below `m` holding symbol `y` get the rows `fC y, fC y + 1, ...` in order -/
theorem idxs_pos (src : Array Nat) (y m : Nat) (hm : m ≤ src.size) :
    ((List.range m).filter (fun i => rd src i = y)).map (posOf src)
      = List.range' (fC src y) (seen src m y) := by
  induction m with
  | zero => simp [seen]
  | succ m ih =>
    rw [List.range_succ, List.filter_append, List.map_append, ih (by omega), seen_succ src m y (by omega)]
    by_cases h : rd src m = y
    · simp only [List.filter_cons, h, decide_true, ite_true, List.filter_nil, List.map_cons, List.map_nil]
      rw [← List.range'_append_1]
      simp [posOf, h]
    · simp [h]

theorem seen_full (src : Array Nat) (y : Nat) : seen src src.size y = src.toList.count y := by
  unfold seen
  rw [List.count_eq_length_filter, List.take_of_length_le (by simp)]
  congr 1

/-- the source indexes holding `y` whose row satisfies `Q`, counted on the rows of `y` -/
theorem count_rows (src : Array Nat) (y : Nat) (Q : Nat → Bool) :
    (((List.range src.size).filter (fun i => rd src i = y)).filter (fun i => Q (posOf src i))).length
      = cntIf Q (fC src y) (src.toList.count y) := by
  rw [cntIf, ← seen_full, ← idxs_pos src y src.size (Nat.le_refl _), List.filter_map, List.length_map]
  rfl

/-! ### level 2: bigram entries -/

abbrev flat (x y : Nat) : Nat := x * 256 + y

/-- flat key of the entry of source index `i` (`x` = BWT symbol of its row, `y` = its own symbol) -/
def keyOf (src : Array Nat) (p0 i : Nat) : Nat := flat (Lrow src p0 (posOf src i)) (rd src i)

/-- source indexes that produce an entry (their row is not the end-marker row) -/
def liveIdx (src : Array Nat) (p0 : Nat) : List Nat := (List.range src.size).filter (fun i => posOf src i ≠ p0)

/-- count left by the first loop for the flat key `kk` -/
def cntK (src : Array Nat) (p0 kk : Nat) : Nat := cntRow src p0 (kk % 256) (kk / 256)

theorem Lrow_lt (src : Array Nat) (hb : ∀ b ∈ src.toList, b < 256) (p0 r : Nat) : Lrow src p0 r < 256 := by
  unfold Lrow; split <;> exact rd_lt src hb _

theorem flat_inj {x y x' y' : Nat} (hy : y < 256) (hy' : y' < 256) : flat x y = flat x' y' ↔ x = x' ∧ y = y' := by
  unfold flat; omega

/-- CONSISTENCY of the two passes: the number of scattered entries with key `x y` is the count the
first loop computed for that bigram. -/
theorem cntK_entries (src : Array Nat) (hb : ∀ b ∈ src.toList, b < 256) (p0 x y : Nat) (hy : y < 256) :
    (((liveIdx src p0).map (keyOf src p0)).filter (fun k => k = flat x y)).length = cntRow src p0 y x := by
  -- entries with key (x, y) = live indexes with symbol y whose row has BWT symbol x
  have h1 : ((liveIdx src p0).map (keyOf src p0)).filter (fun k => decide (k = flat x y))
      = (((List.range src.size).filter (fun i => rd src i = y)).filter
          (fun i => posOf src i ≠ p0 && Lrow src p0 (posOf src i) = x)).map (keyOf src p0) := by
    rw [List.filter_map, liveIdx, List.filter_filter, List.filter_filter]
    congr 1
    apply List.filter_congr
    intro i _
    simp only [Function.comp, keyOf]
    have := flat_inj (x := Lrow src p0 (posOf src i)) (x' := x) (rd_lt src hb i) hy
    by_cases h2 : rd src i = y <;> by_cases h3 : Lrow src p0 (posOf src i) = x <;>
      by_cases h4 : posOf src i = p0 <;> simp only [this, h2, h3, h4] <;> simp <;> omega
  rw [h1, List.length_map]
  exact count_rows src y (fun r => r ≠ p0 && Lrow src p0 r = x)

theorem keyOf_lt (src : Array Nat) (hb : ∀ b ∈ src.toList, b < 256) (p0 i : Nat) : keyOf src p0 i < 65536 := by
  have h1 := Lrow_lt src hb p0 (posOf src i)
  have h2 := rd_lt src hb i
  unfold keyOf flat; omega

theorem cntK_eq (src : Array Nat) (hb : ∀ b ∈ src.toList, b < 256) (p0 kk : Nat) :
    cntK src p0 kk = (((liveIdx src p0).map (keyOf src p0)).filter (fun k => k = kk)).length := by
  have h := cntK_entries src hb p0 (kk / 256) (kk % 256) (Nat.mod_lt _ (by decide))
  have e : flat (kk / 256) (kk % 256) = kk := by unfold flat; omega
  rw [e] at h
  rw [cntK, ← h]

theorem psum_cntK (src : Array Nat) (hb : ∀ b ∈ src.toList, b < 256) (p0 kk : Nat) :
    psum (cntK src p0) kk = (((liveIdx src p0).map (keyOf src p0)).filter (fun k => k < kk)).length := by
  rw [← psum_count]
  apply psum_congr
  intro m _
  rw [cntK_eq src hb p0 m, List.count_eq_length_filter]
  congr 2

/-! ### the grand total -/

/-- the rows of a range that holds the end-marker row, without that row -/
theorem cntIf_ne (p0 a k : Nat) (h1 : a ≤ p0) (h2 : p0 < a + k) : cntIf (fun r => r ≠ p0) a k = k - 1 := by
  have e : (List.range' a k).filter (fun r => decide (r ≠ p0)) = (List.range' a k).erase p0 := by
    rw [(List.nodup_range' 1).erase_eq_filter]
    exact List.filter_congr (fun r _ => by simp only [ne_eq, decide_not, bne, Bool.beq_eq_decide_eq])
  rw [cntIf, e, List.length_erase_of_mem (List.mem_range'_1.2 ⟨h1, h2⟩), List.length_range']

theorem psum_cntIf_telescope (src : Array Nat) (Q : Nat → Bool) (c : Nat) :
    psum (fun y => cntIf Q (fC src y) (src.toList.count y)) c = cntIf Q (fC src 0) (fC src c - fC src 0) := by
  induction c with
  | zero => simp only [Nat.sub_self, cntIf_zero]; rfl
  | succ c ih =>
    have hmono : fC src 0 ≤ fC src c := by rw [fC_zero]; exact fC_pos src c
    rw [psum_succ, ih, fC_succ]
    have e : fC src c + src.toList.count c - fC src 0 = (fC src c - fC src 0) + src.toList.count c := by omega
    rw [e, cntIf_add]
    have e2 : fC src 0 + (fC src c - fC src 0) = fC src c := by omega
    rw [e2]

theorem fC_256 (src : Array Nat) (hb : ∀ b ∈ src.toList, b < 256) : fC src 256 = src.size + 1 := by
  unfold fC
  rw [List.filter_eq_self.2 (by intro b hb'; simpa using hb b hb')]
  simp; omega

/-- the live indexes holding `y` are the rows of `y` without the end-marker row -/
theorem live_count (src : Array Nat) (p0 y : Nat) :
    ((liveIdx src p0).map (rd src)).count y = cntIf (fun r => r ≠ p0) (fC src y) (src.toList.count y) := by
  rw [List.count_eq_length_filter, List.filter_map, List.length_map, liveIdx, List.filter_filter,
    ← count_rows, List.filter_filter]
  congr 1
  apply List.filter_congr
  intro i _
  simp [Bool.and_comm, Bool.beq_eq_decide_eq]

/-- THE TOTAL: with `1 <= pIdx <= n` the first loop counts exactly `n - 1` bigrams: one per source index
whose row is not the end-marker row. -/
theorem total_cnt (src : Array Nat) (hb : ∀ b ∈ src.toList, b < 256) (p0 : Nat) (hp : 1 ≤ p0 ∧ p0 ≤ src.size) :
    psum (cntK src p0) 65536 = src.size - 1 := by
  have hsym : ((liveIdx src p0).map (rd src)).filter (fun x => x < 256) = (liveIdx src p0).map (rd src) := by
    apply List.filter_eq_self.2
    intro x hx
    obtain ⟨i, _, rfl⟩ := List.mem_map.1 hx
    exact decide_eq_true (rd_lt src hb i)
  have hlive : (liveIdx src p0).length = src.size - 1 := by
    rw [← List.length_map (f := rd src), ← hsym, ← psum_count, psum_congr _ _ 256 (fun y _ => live_count src p0 y),
      psum_cntIf_telescope, fC_zero, fC_256 src hb, Nat.add_sub_cancel, cntIf_ne p0 1 src.size hp.1 (by omega)]
  rw [psum_cntK src hb p0 65536, List.filter_eq_self.2, List.length_map, hlive]
  intro k hk
  obtain ⟨i, _, rfl⟩ := List.mem_map.1 hk
  exact decide_eq_true (keyOf_lt src hb p0 i)

end Kanzi.BWT
