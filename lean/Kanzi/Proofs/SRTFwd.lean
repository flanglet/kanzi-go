/-
Forward direction of the sorted rank transform `transform.SRT`: the arrays `s2r` / `r2s` of the Go
code represent the move-to-front list (`Rep`, `mtfList`), the bucket table is the layout `startOf`
(the buckets in the order of `preprocess`, each as long as the frequency of its symbol), and the
encoding loop writes the rank of every position at `startOf + (number of earlier occurrences)`
(`srtForward_spec`).  That description of the output is all the inverse direction uses.
-/
import Kanzi.Proofs.SRTList
import Kanzi.Proofs.SRTSort
import Kanzi.Proofs.SRTHeader

namespace Kanzi.SRT

/-- `r2s[0:|L|] = L` and `s2r` is its inverse on the elements of `L` -/
def Rep (s2r r2s : Array Nat) (L : List Nat) : Prop :=
  s2r.size = 256 ∧ r2s.size = 256 ∧ ∀ k x, L[k]? = some x → rd r2s k = x ∧ rd s2r x = k

/-- rank of `M[k]` while rank `r` is free -/
def slot (r k : Nat) : Nat := if k < r then k else k + 1

theorem slot_lt {r k : Nat} (h : k < r) : slot r k = k := if_pos h

theorem slot_ge {r k : Nat} (h : ¬ k < r) : slot r k = k + 1 := if_neg h

theorem getElem?_eraseIdx_slot (L : List Nat) (r k : Nat) : (L.eraseIdx r)[k]? = L[slot r k]? :=
  (List.getElem?_eraseIdx ..).trans (apply_ite (L[·]?) ..).symm

theorem slot_succ {r k : Nat} (e : k ≠ r) :
    slot r k = slot (r + 1) k ∧ slot (r + 1) k ≠ r + 1 ∧ slot (r + 1) k ≠ r := by
  by_cases h : k < r
  · rw [slot_lt h, slot_lt (Nat.lt_succ_of_lt h)]
    omega
  · rw [slot_ge h, slot_ge (by omega)]
    omega

theorem slot_surj {r k : Nat} (e : k ≠ r) : ∃ k', slot r k' = k := by
  by_cases h : k < r
  · exact ⟨k, slot_lt h⟩
  · exact ⟨k - 1, by rw [slot_ge (by omega)]; omega⟩

/-- `M` laid out in `r2s` around a free slot at rank `r`, `s2r` its inverse on `M` -/
def RepAt (r : Nat) (s2r r2s : Array Nat) (M : List Nat) : Prop :=
  s2r.size = 256 ∧ r2s.size = 256 ∧ ∀ k x, M[k]? = some x → rd r2s (slot r k) = x ∧ rd s2r x = slot r k

/-- taking `c` out of its rank opens the slot there -/
theorem RepAt.open {s2r r2s : Array Nat} {L : List Nat} {c : Nat} (h : Rep s2r r2s L) :
    RepAt (L.idxOf c) s2r r2s (L.erase c) := by
  refine ⟨h.1, h.2.1, fun k x hk => h.2.2 _ x ?_⟩
  rwa [List.erase_eq_eraseIdx_of_idxOf rfl, getElem?_eraseIdx_slot] at hk

/-- one iteration of the loop: the symbol below the slot moves into it -/
theorem RepAt.step {r : Nat} {s2r r2s : Array Nat} {M : List Nat} (h : RepAt (r + 1) s2r r2s M)
    (hb : ∀ x ∈ M, x < 256) (hr : r + 1 < 256) (hrM : r < M.length) :
    RepAt r (wr s2r (rd r2s r) (r + 1)) (wr r2s (r + 1) (rd r2s r)) M := by
  obtain ⟨hs1, hs2, hR⟩ := h
  have ht := hR r M[r] (List.getElem?_eq_getElem hrM)
  rw [slot_lt (Nat.lt_succ_self r)] at ht
  refine ⟨by rw [size_wr, hs1], by rw [size_wr, hs2], fun k x hk => ?_⟩
  have hx := hR k x hk
  by_cases e : k = r
  · subst e
    rw [List.getElem?_eq_getElem hrM] at hk
    cases hk
    rw [slot_ge (Nat.lt_irrefl k), ht.1, rd_wr_eq _ (by rw [hs2]; exact hr),
      rd_wr_eq _ (by rw [hs1]; exact hb _ (List.getElem_mem hrM))]
    exact ⟨rfl, rfl⟩
  · obtain ⟨hs, hne1, hne⟩ := slot_succ e
    -- `x` is not the moved symbol `M[r]`, since their ranks `slot (r + 1) k` and `r` differ
    rw [hs, rd_wr_ne _ (Ne.symm hne1), rd_wr_ne _ (fun e' => hne (by rw [← hx.2, ← e', ht.1, ht.2]))]
    exact hx

theorem RepAt.up {M : List Nat} (hb : ∀ x ∈ M, x < 256) : ∀ (r : Nat) (s2r r2s : Array Nat),
    r < 256 → r ≤ M.length → RepAt r s2r r2s M → RepAt 0 (mtfUp r s2r r2s).1 (mtfUp r s2r r2s).2 M
  | 0, _, _, _, _, h => h
  | r + 1, _, _, hr, hrM, h =>
    RepAt.up hb r _ _ (Nat.lt_of_succ_lt hr) (Nat.le_of_succ_le hrM) (h.step hb hr hrM)

/-- putting `c` into the free slot at rank 0 -/
theorem RepAt.close {s2r r2s : Array Nat} {M : List Nat} {c : Nat} (h : RepAt 0 s2r r2s M)
    (hc : c < 256) (hcM : c ∉ M) : Rep (wr s2r c 0) (wr r2s 0 c) (c :: M) := by
  obtain ⟨hs1, hs2, hR⟩ := h
  refine ⟨by rw [size_wr, hs1], by rw [size_wr, hs2], fun k x hk => ?_⟩
  cases k with
  | zero =>
    cases (List.getElem?_cons_zero.symm.trans hk : some c = some x)
    exact ⟨rd_wr_eq _ (by rw [hs2]; decide), rd_wr_eq _ (by rw [hs1]; exact hc)⟩
  | succ k =>
    rw [List.getElem?_cons_succ] at hk
    have hxc : c ≠ x := fun e => hcM (e ▸ List.mem_of_getElem? hk)
    rw [rd_wr_ne _ (Nat.zero_ne_add_one k), rd_wr_ne _ hxc]
    exact hR k x hk

theorem rep_mtf {s2r r2s : Array Nat} {L : List Nat} (h : Rep s2r r2s L)
    (hb : ∀ x ∈ L, x < 256) (hlen : L.length ≤ 256) (hnd : L.Nodup) {c : Nat} (hc : c ∈ L) :
    rd s2r c = L.idxOf c ∧
    (rd s2r c = 0 → c :: L.erase c = L) ∧
    (0 < rd s2r c → Rep (wr (mtfUp (rd s2r c) s2r r2s).1 c 0) (wr (mtfUp (rd s2r c) s2r r2s).2 0 c)
        (c :: L.erase c)) := by
  have hr : L.idxOf c < L.length := List.idxOf_lt_length_of_mem hc
  have hidx : rd s2r c = L.idxOf c := (h.2.2 _ c (by rw [List.getElem?_eq_getElem hr]; simp)).2
  refine ⟨hidx, fun h0 => cons_erase_of_idxOf_zero hc (hidx.symm.trans h0), fun _ => ?_⟩
  rw [hidx]
  exact (RepAt.up (fun x hx => hb x (List.mem_of_mem_erase hx)) _ _ _ (Nat.lt_of_lt_of_le hr hlen)
    (by rw [List.length_erase_of_mem hc]; omega) (RepAt.open h)).close (hb c hc) hnd.not_mem_erase


/-! ## the first loop of Forward -/

theorem firsts_snoc (p : List Nat) (x : Nat) :
    firsts (p ++ [x]) = if x ∈ p then firsts p else firsts p ++ [x] := by
  rw [firsts_append]
  by_cases h : x ∈ p <;> simp [firsts, h]

theorem rep_snoc {s2r r2s : Array Nat} {L : List Nat} {x : Nat} (h : Rep s2r r2s L)
    (hx : x ∉ L) (hx256 : x < 256) (hlen : L.length < 256) :
    Rep (wr s2r x (L.length % 256)) (wr r2s L.length x) (L ++ [x]) := by
  obtain ⟨hs1, hs2, hR⟩ := h
  refine ⟨by rw [size_wr, hs1], by rw [size_wr, hs2], ?_⟩
  intro k y hk
  rw [List.getElem?_append] at hk
  by_cases hkl : k < L.length
  · simp only [hkl, if_true] at hk
    have hy := hR k y hk
    have hyx : x ≠ y := by
      intro e; subst e
      exact hx (List.mem_of_getElem? hk)
    rw [rd_wr_ne _ (Nat.ne_of_gt hkl), rd_wr_ne _ hyx]
    exact hy
  · simp only [hkl, if_false] at hk
    have hk0 : k - L.length = 0 := by
      rcases Nat.eq_zero_or_pos (k - L.length) with h0 | h0
      · exact h0
      · rw [List.getElem?_eq_none (by simp; omega)] at hk; simp at hk
    rw [hk0] at hk
    simp at hk
    subst hk
    have hkeq : k = L.length := by omega
    subst hkeq
    rw [rd_wr_eq _ (by rw [hs2]; exact hlen), rd_wr_eq _ (by rw [hs1]; exact hx256)]
    exact ⟨rfl, Nat.mod_eq_of_lt hlen⟩

/-- state of the first loop of Forward after the prefix `p`: the counts so far, and the symbols seen
    so far in order of first occurrence as the initial move-to-front list (`st.b` of them) -/
structure CInv (p : List Nat) (st : CSt) : Prop where
  fsz : st.freqs.size = 256
  freq : ∀ c, c < 256 → rd st.freqs c = p.count c
  rep : Rep st.s2r st.r2s (firsts p)
  b : st.b = (firsts p).length

theorem freq_step {freqs : Array Nat} {p : List Nat} {x : Nat} (hsz : freqs.size = 256)
    (hx : x < 256) (h : ∀ c, c < 256 → rd freqs c = p.count c) :
    ∀ c, c < 256 → rd (wr freqs x (rd freqs x + 1)) c = (p ++ [x]).count c := by
  intro c hc
  rw [rd_wr, List.count_append, List.count_singleton]
  by_cases e : x = c
  · subst e; simp [hsz, hx, h x hx]
  · rw [if_neg (fun h' => e h'.1), h c hc]
    simp [e]

theorem firsts_bytes {p : List Nat} (hb : ∀ x ∈ p, x < 256) : ∀ x ∈ firsts p, x < 256 :=
  fun x hx => hb x (mem_firsts.1 hx)

theorem fwdCount_inv : ∀ (q p : List Nat) (prev : Option Nat) (st : CSt),
    (∀ x ∈ p ++ q, x < 256) → CInv p st → (∀ x, prev = some x → x ∈ p) →
    CInv (p ++ q) (fwdCount q prev st) := by
  intro q
  induction q with
  | nil => intro p prev st _ h _; simpa [fwdCount] using h
  | cons x q ih =>
    intro p prev st hb h hprev
    have hx256 : x < 256 := hb x (by simp)
    have hb' : ∀ y ∈ (p ++ [x]) ++ q, y < 256 := by simpa using hb
    have hassoc : p ++ x :: q = (p ++ [x]) ++ q := by simp
    rw [hassoc]
    have hfreq := freq_step h.fsz hx256 h.freq
    have hmemx : ∀ y, some x = some y → y ∈ p ++ [x] := by
      intro y e; simp at e; simp [e]
    have hkeep : x ∈ p → CInv (p ++ [x]) { st with freqs := wr st.freqs x (rd st.freqs x + 1) } :=
      fun hxp => ⟨by simp [size_wr, h.fsz], hfreq, by simpa [firsts_snoc, hxp] using h.rep,
        by simpa [firsts_snoc, hxp] using h.b⟩
    simp only [fwdCount]
    by_cases h1 : prev = some x
    · rw [if_pos h1]
      exact ih (p ++ [x]) prev _ hb' (hkeep (hprev x h1))
        (by intro y hy; have := hprev y hy; simp [this])
    · rw [if_neg h1]
      by_cases h2 : rd st.freqs x = 0
      · rw [if_pos h2]
        have hxp : x ∉ p := by
          rw [h.freq x hx256] at h2
          exact List.count_eq_zero.1 h2
        have hxf : x ∉ firsts p := fun hm => hxp (mem_firsts.1 hm)
        have hlen : (firsts p).length < 256 := by
          have := bytes_nodup_length_le (nodup_firsts (p ++ [x]))
            (firsts_bytes (fun y hy => hb' y (List.mem_append_left q hy)))
          rwa [firsts_snoc, if_neg hxp, List.length_append] at this
        apply ih (p ++ [x]) (some x) _ hb'
        · refine ⟨by simp [size_wr, h.fsz], hfreq, ?_, ?_⟩
          · simp only [firsts_snoc, hxp, if_false, h.b]
            exact rep_snoc h.rep hxf hx256 hlen
          · simp [firsts_snoc, hxp, h.b]
        · exact hmemx
      · rw [if_neg h2]
        have hxp : x ∈ p := by
          rw [h.freq x hx256] at h2
          exact List.count_pos_iff.1 (Nat.pos_of_ne_zero h2)
        exact ih (p ++ [x]) (some x) _ hb' (hkeep hxp) hmemx

theorem rd_zeros (i : Nat) : rd zeros i = 0 := by
  simp [rd, zeros, Array.getD_eq_getD_getElem?, Array.getElem?_replicate]
  split <;> rfl

theorem zeros_size : zeros.size = 256 := by simp [zeros]

theorem fwdCount_spec (b : List Nat) (hb : ∀ x ∈ b, x < 256) :
    CInv b (fwdCount b none ⟨0, zeros, zeros, zeros⟩) := by
  have := fwdCount_inv b [] none ⟨0, zeros, zeros, zeros⟩ (by simpa using hb)
    ⟨zeros_size, by intro c _; simp [rd_zeros], ⟨zeros_size, zeros_size, by intro k x h; simp [firsts] at h⟩,
      by simp [firsts]⟩
    (by intro x h; simp at h)
  simpa using this


/-! ## bucket layout -/

/-- start of the bucket of `c` when the buckets are laid out in the order `S` -/
def startOf (fr : Array Nat) : List Nat → Nat → Nat
  | [], _ => 0
  | s :: rest, c => if s = c then 0 else rd fr s + startOf fr rest c

/-- joint length of the buckets of `S` -/
def total (fr : Array Nat) : List Nat → Nat
  | [] => 0
  | s :: rest => rd fr s + total fr rest

theorem total_eq_sum (fr : Array Nat) (S : List Nat) : total fr S = (S.map (rd fr)).sum := by
  induction S with
  | nil => rfl
  | cons s S ih => simp [total, ih]

theorem startOf_append (fr : Array Nat) : ∀ (pre suf : List Nat) (c : Nat), c ∉ pre →
    startOf fr (pre ++ suf) c = total fr pre + startOf fr suf c := by
  intro pre
  induction pre with
  | nil => intro suf c _; simp [total]
  | cons s pre ih =>
    intro suf c hc
    have h1 : s ≠ c := fun e => hc (by simp [e])
    have h2 : c ∉ pre := fun e => hc (by simp [e])
    simp only [List.cons_append, startOf, total, if_neg h1, ih suf c h2]
    omega

theorem total_append (fr : Array Nat) (pre suf : List Nat) :
    total fr (pre ++ suf) = total fr pre + total fr suf := by
  simp only [total_eq_sum, List.map_append, List.sum_append]

theorem startOf_le (fr : Array Nat) : ∀ (S : List Nat) (c : Nat), c ∈ S →
    startOf fr S c + rd fr c ≤ total fr S := by
  intro S
  induction S with
  | nil => intro c h; simp at h
  | cons s S ih =>
    intro c hc
    by_cases e : s = c
    · subst e; simp [startOf, total]
    · have := ih c (List.mem_of_ne_of_mem (Ne.symm e) hc)
      simp only [startOf, total, if_neg e]; omega

theorem startOf_inj (fr : Array Nat) : ∀ (S : List Nat) (c c' k k' : Nat), c ∈ S → c' ∈ S →
    k < rd fr c → k' < rd fr c' → startOf fr S c + k = startOf fr S c' + k' → c = c' := by
  intro S
  induction S with
  | nil => intro c c' k k' h; simp at h
  | cons s S ih =>
    intro c c' k k' hc hc' hk hk' he
    by_cases e : s = c <;> by_cases e' : s = c'
    · rw [← e, ← e']
    · subst e
      simp only [startOf, if_neg e', if_true] at he
      omega
    · subst e'
      simp only [startOf, if_neg e, if_true] at he
      omega
    · simp only [startOf, if_neg e, if_neg e'] at he
      exact ih c c' k k' (List.mem_of_ne_of_mem (Ne.symm e) hc) (List.mem_of_ne_of_mem (Ne.symm e') hc')
        hk hk' (by omega)

theorem fwdBuckets_miss (fr : Array Nat) : ∀ (S : List Nat) (pos : Nat) (bk : Array Nat) (c : Nat),
    c ∉ S → rd (fwdBuckets fr S pos bk) c = rd bk c := by
  intro S
  induction S with
  | nil => intro pos bk c _; rfl
  | cons s S ih =>
    intro pos bk c hc
    have h1 : s ≠ c := fun e => hc (by simp [e])
    have h2 : c ∉ S := fun e => hc (by simp [e])
    simp only [fwdBuckets]
    rw [ih _ _ c h2, rd_wr_ne _ h1]

theorem fwdBuckets_size (fr : Array Nat) : ∀ (S : List Nat) (pos : Nat) (bk : Array Nat),
    (fwdBuckets fr S pos bk).size = bk.size := by
  intro S
  induction S with
  | nil => intro pos bk; rfl
  | cons s S ih => intro pos bk; simp only [fwdBuckets]; rw [ih, size_wr]

theorem fwdBuckets_spec (fr : Array Nat) : ∀ (S : List Nat) (pos : Nat) (bk : Array Nat),
    bk.size = 256 → S.Nodup → (∀ c ∈ S, c < 256) →
    ∀ c ∈ S, rd (fwdBuckets fr S pos bk) c = pos + startOf fr S c := by
  intro S
  induction S with
  | nil => intro pos bk _ _ _ c h; simp at h
  | cons s S ih =>
    intro pos bk hsz hnd hb c hc
    rw [List.nodup_cons] at hnd
    simp only [fwdBuckets]
    by_cases e : s = c
    · subst e
      rw [fwdBuckets_miss fr S _ _ s hnd.1, rd_wr]
      simp [startOf, hsz, hb s (by simp)]
    · rw [ih _ _ (by rw [size_wr]; exact hsz) hnd.2 (fun c hc => hb c (by simp [hc])) c
        (List.mem_of_ne_of_mem (Ne.symm e) hc)]
      simp only [startOf, if_neg e]; omega

/-- the buckets tile `[0, len)` -/
theorem sum_count : ∀ (S l : List Nat), S.Nodup → (∀ x ∈ l, x ∈ S) →
    (S.map (fun c => l.count c)).sum = l.length := by
  intro S
  induction S with
  | nil =>
    intro l _ h
    cases l with
    | nil => rfl
    | cons x l => exact absurd (h x (by simp)) (by simp)
  | cons s S ih =>
    intro l hnd hm
    rw [List.nodup_cons] at hnd
    have h1 := ih (l.filter (fun y => !(y == s))) hnd.2 (by
      intro x hx
      rw [List.mem_filter] at hx
      rcases List.mem_cons.1 (hm x hx.1) with h | h
      · simp [h] at hx
      · exact h)
    have h2 : S.map (fun c => (l.filter (fun y => !(y == s))).count c) = S.map (fun c => l.count c) := by
      apply List.map_congr_left
      intro c hc
      apply List.count_filter
      have : c ≠ s := fun e => hnd.1 (e ▸ hc)
      simp [this]
    -- the occurrences of `s` are counted by the head, the other elements by the tail
    rw [List.map_cons, List.sum_cons, ← h2, h1, List.count_eq_length_filter, ← List.length_append]
    exact (List.filter_append_perm _ l).length_eq

theorem total_eq_length (fr : Array Nat) (S b : List Nat) (hnd : S.Nodup) (hm : ∀ x ∈ b, x ∈ S)
    (hfr : ∀ c ∈ S, rd fr c = b.count c) : total fr S = b.length := by
  rw [total_eq_sum, ← sum_count S b hnd hm]
  congr 1
  apply List.map_congr_left
  exact hfr


/-! ## the move-to-front list and the ranks -/

/-- the move-to-front list after the prefix `p` of the block `b` has been encoded: the symbols of `p`,
    most recent first, then the symbols not seen yet in the order the first loop left them in, that
    of their first occurrence in `b` -/
def mtfList (b p : List Nat) : List Nat := firsts (p.reverse ++ firsts b)

/-- the rank written for symbol `c` after the prefix `p` -/
def rank (b p : List Nat) (c : Nat) : Nat := (mtfList b p).idxOf c

theorem mtfList_nil (b : List Nat) : mtfList b [] = firsts b := by
  simp [mtfList, firsts_firsts]

theorem mtfList_snoc (b p : List Nat) (c : Nat) :
    mtfList b (p ++ [c]) = c :: (mtfList b p).erase c := by
  simp [mtfList, firsts]

theorem mem_mtfList {b p : List Nat} {a : Nat} : a ∈ mtfList b p ↔ a ∈ p ∨ a ∈ b := by
  simp [mtfList, mem_firsts]

theorem nodup_mtfList (b p : List Nat) : (mtfList b p).Nodup := nodup_firsts _

theorem take_succ_of_getElem? {b : List Nat} {i x : Nat} (h : b[i]? = some x) :
    b.take (i + 1) = b.take i ++ [x] := by
  rw [List.take_add_one, h]; rfl

theorem count_take_lt {b : List Nat} {i j c : Nat} (hji : j < i) (h : b[j]? = some c) :
    (b.take j).count c + 1 ≤ (b.take i).count c := by
  have h1 : b.take i = (b.take j ++ [c]) ++ (b.take i).drop (j + 1) := by
    rw [← take_succ_of_getElem? h]
    have : b.take (j + 1) = (b.take i).take (j + 1) := by
      rw [List.take_take]; congr 1; omega
    rw [this, List.take_append_drop]
  rw [h1]
  simp only [List.count_append, List.count_singleton_self]
  omega

theorem count_take_lt_all {b : List Nat} {j c : Nat} (h : b[j]? = some c) :
    (b.take j).count c + 1 ≤ b.count c := by
  have hj : j < b.length := by
    rcases List.getElem?_eq_some_iff.1 h with ⟨hj, _⟩; exact hj
  have := count_take_lt (i := b.length) hj h
  simpa using this

/-- facts shared by both directions: `fr` counts the symbols of the block `b`, and the bucket order
    `S` lists each symbol of `b` once -/
structure Ctx (fr : Array Nat) (S b : List Nat) : Prop where
  bytes : ∀ x ∈ b, x < 256
  nodup : S.Nodup
  mem : ∀ c, c ∈ S ↔ c ∈ b
  fr : ∀ c, c < 256 → rd fr c = b.count c

theorem Ctx.lt {fr : Array Nat} {S b : List Nat} (h : Ctx fr S b) : ∀ c ∈ S, c < 256 :=
  fun c hc => h.bytes c ((h.mem c).1 hc)

theorem Ctx.total {fr : Array Nat} {S b : List Nat} (h : Ctx fr S b) : total fr S = b.length :=
  total_eq_length fr S b h.nodup (fun x hx => (h.mem x).2 hx) (fun c hc => h.fr c (h.lt c hc))

/-- position of the rank of `b[j] = c` in the output -/
theorem Ctx.pos_lt {fr : Array Nat} {S b : List Nat} (h : Ctx fr S b) {j c : Nat}
    (hj : b[j]? = some c) : startOf fr S c + (b.take j).count c < b.length := by
  have hc : c ∈ b := List.mem_of_getElem? hj
  have h1 := startOf_le fr S c ((h.mem c).2 hc)
  rw [h.total, h.fr c (h.bytes c hc)] at h1
  have := count_take_lt_all hj
  omega

theorem Ctx.pos_inj {fr : Array Nat} {S b : List Nat} (h : Ctx fr S b) {i j c x : Nat}
    (hji : j < i) (hj : b[j]? = some c) (hi : b[i]? = some x) :
    startOf fr S c + (b.take j).count c ≠ startOf fr S x + (b.take i).count x := by
  intro he
  have hc : c ∈ b := List.mem_of_getElem? hj
  have hx : x ∈ b := List.mem_of_getElem? hi
  have h1 := count_take_lt_all hj
  have h2 := count_take_lt_all hi
  have e := startOf_inj fr S c x _ _ ((h.mem c).2 hc) ((h.mem x).2 hx)
    (by rw [h.fr c (h.bytes c hc)]; omega) (by rw [h.fr x (h.bytes x hx)]; omega) he
  subst e
  have := count_take_lt hji hj
  omega

/-- state of the encoding loop before position `i`: the move-to-front list, every bucket pointer
    advanced by the occurrences so far, and the ranks of the positions below `i` in place -/
structure EInv (fr : Array Nat) (S b : List Nat) (i : Nat) (st : ESt) : Prop where
  rep : Rep st.s2r st.r2s (mtfList b (b.take i))
  bsz : st.buckets.size = 256
  bk : ∀ c ∈ S, rd st.buckets c = startOf fr S c + (b.take i).count c
  data : ∀ j c, j < i → b[j]? = some c →
    rd st.data (startOf fr S c + (b.take j).count c) = rank b (b.take j) c

theorem einv_step {fr : Array Nat} {S b : List Nat} (ctx : Ctx fr S b) {i x : Nat} {st : ESt}
    (hx : b[i]? = some x) (h : EInv fr S b i st) (hm : b.length ≤ st.data.size)
    (s2r' r2s' : Array Nat) (hrep : Rep s2r' r2s' (mtfList b (b.take (i + 1))))
    (v : Nat) (hv : v = rank b (b.take i) x) :
    EInv fr S b (i + 1)
      ⟨s2r', r2s', wr st.buckets x (rd st.buckets x + 1), wr st.data (rd st.buckets x) v⟩ := by
  have hxb : x ∈ b := List.mem_of_getElem? hx
  have hxS : x ∈ S := (ctx.mem x).2 hxb
  have hpos := ctx.pos_lt hx
  have hbx := h.bk x hxS
  refine ⟨hrep, by simp [size_wr, h.bsz], ?_, ?_⟩
  · intro c hc
    rw [rd_wr, take_succ_of_getElem? hx, List.count_append, List.count_singleton]
    by_cases e : x = c
    · subst e
      simp [h.bsz, ctx.lt x hxS, hbx]; omega
    · rw [if_neg (fun h' => e h'.1), h.bk c hc]
      simp [e]
  · intro j c hj hc
    show rd (wr st.data (rd st.buckets x) v) _ = _
    rw [hbx]
    by_cases e : j = i
    · subst e
      rw [hx] at hc
      cases hc
      rw [rd_wr_eq _ (Nat.lt_of_lt_of_le hpos hm), hv]
    · have hji : j < i := by omega
      rw [rd_wr_ne _ (ctx.pos_inj hji hc hx).symm]
      exact h.data j c hji hc


theorem mtfList_bytes {b p : List Nat} (hb : ∀ x ∈ b, x < 256) (hp : ∀ x ∈ p, x ∈ b) :
    ∀ y ∈ mtfList b p, y < 256 := by
  intro y hy
  rcases mem_mtfList.1 hy with h | h
  · exact hb y (hp y h)
  · exact hb y h

theorem drop_cons_getElem? {b q : List Nat} {i x : Nat} (h : b.drop i = x :: q) :
    b[i]? = some x ∧ b.drop (i + 1) = q := by
  constructor
  · have := List.getElem?_drop (xs := b) (i := i) (j := 0)
    rw [h] at this
    simpa using this.symm
  · have := List.tail_drop (l := b) (i := i)
    rw [h] at this
    simpa using this.symm

theorem fwdEncode_inv {fr : Array Nat} {S b : List Nat} (ctx : Ctx fr S b) :
    ∀ (q : List Nat) (i : Nat) (prev : Option Nat) (st : ESt), b.drop i = q →
    EInv fr S b i st → (∀ x, prev = some x → (b.take i).getLast? = some x) →
    b.length ≤ st.data.size →
    ∃ st', fwdEncode q prev st = some st' ∧ EInv fr S b b.length st' ∧
      st'.data.size = st.data.size := by
  intro q
  induction q with
  | nil =>
    intro i prev st hq h _ _
    have hi : b.length ≤ i := by
      have := congrArg List.length hq
      simp at this; omega
    refine ⟨st, rfl, ?_, rfl⟩
    have ht : b.take i = b.take b.length := by
      rw [List.take_of_length_le hi, List.take_length]
    refine ⟨by rw [← ht]; exact h.rep, h.bsz, by rw [← ht]; exact h.bk, ?_⟩
    intro j c hj hc
    exact h.data j c (by omega) hc
  | cons x q ih =>
    intro i prev st hq h hprev hm
    obtain ⟨hx, hq'⟩ := drop_cons_getElem? hq
    have hxb : x ∈ b := List.mem_of_getElem? hx
    have hxS : x ∈ S := (ctx.mem x).2 hxb
    have hpos := ctx.pos_lt hx
    have hbx := h.bk x hxS
    have hnf : ¬ (rd st.buckets x ≥ st.data.size) := by omega
    have htk := take_succ_of_getElem? hx
    have hlast : ∀ y, some x = some y → (b.take (i + 1)).getLast? = some y := by
      intro y e; simp at e; subst e; rw [htk]; simp
    have hxL : x ∈ mtfList b (b.take i) := mem_mtfList.2 (Or.inr hxb)
    have hbL : ∀ y ∈ mtfList b (b.take i), y < 256 :=
      mtfList_bytes ctx.bytes (fun y hy => List.mem_of_mem_take hy)
    have hlenL := bytes_nodup_length_le (nodup_mtfList b (b.take i)) hbL
    obtain ⟨hidx, hzero, hposr⟩ := rep_mtf h.rep hbL hlenL (nodup_mtfList b (b.take i)) hxL
    have hL' : mtfList b (b.take (i + 1)) = x :: (mtfList b (b.take i)).erase x := by
      rw [htk, mtfList_snoc]
    simp only [fwdEncode, if_neg hnf]
    by_cases h1 : prev = some x
    · rw [if_pos h1]
      -- run continuation: the rank is 0 and the lists do not change
      have hl := hprev x h1
      obtain ⟨ys, hys⟩ := List.getLast?_eq_some_iff.1 hl
      have hM : mtfList b (b.take i) = x :: (mtfList b ys).erase x := by
        rw [hys, mtfList_snoc]
      have hr0 : rank b (b.take i) x = 0 := by
        unfold rank; rw [hM]; simp
      have hs0 : rd st.s2r x = 0 := by rw [hidx]; exact hr0
      have hstep := einv_step ctx hx h hm st.s2r st.r2s
        (by rw [hL', hzero hs0]; exact h.rep) 0 hr0.symm
      obtain ⟨st', h1', h2', h3'⟩ := ih (i + 1) prev _ hq' hstep
        (by intro y hy; rw [h1] at hy; exact hlast y hy) (by simpa [size_wr] using hm)
      exact ⟨st', h1', h2', by simpa [size_wr] using h3'⟩
    · rw [if_neg h1]
      by_cases h2 : rd st.s2r x > 0
      · rw [if_pos h2]
        have hstep := einv_step ctx hx h hm _ _ (by rw [hL']; exact hposr h2) (rd st.s2r x)
          (by rw [hidx]; rfl)
        obtain ⟨st', h1', h2', h3'⟩ := ih (i + 1) (some x) _ hq' hstep hlast
          (by simpa [size_wr] using hm)
        exact ⟨st', h1', h2', by simpa [size_wr] using h3'⟩
      · rw [if_neg h2]
        have hs0 : rd st.s2r x = 0 := by omega
        have hstep := einv_step ctx hx h hm st.s2r st.r2s
          (by rw [hL', hzero hs0]; exact h.rep) (rd st.s2r x) (by rw [hidx]; rfl)
        obtain ⟨st', h1', h2', h3'⟩ := ih (i + 1) (some x) _ hq' hstep hlast
          (by simpa [size_wr] using hm)
        exact ⟨st', h1', h2', by simpa [size_wr] using h3'⟩


/-! ## Forward as a whole -/

def freqsOf (b : List Nat) : Array Nat := (fwdCount b none ⟨0, zeros, zeros, zeros⟩).freqs

theorem rd_freqsOf (b : List Nat) (hb : ∀ x ∈ b, x < 256) (c : Nat) (hc : c < 256) :
    rd (freqsOf b) c = b.count c :=
  (fwdCount_spec b hb).freq c hc

theorem ctx_of (b : List Nat) (hb : ∀ x ∈ b, x < 256) :
    Ctx (freqsOf b) (preprocess (freqsOf b)) b := by
  refine ⟨hb, preprocess_nodup _, fun c => ?_, rd_freqsOf b hb⟩
  rw [mem_preprocess]
  constructor
  · intro ⟨h1, h2⟩
    rw [rd_freqsOf b hb c h1] at h2
    exact List.count_pos_iff.1 (Nat.pos_of_ne_zero h2)
  · intro h
    refine ⟨hb c h, ?_⟩
    rw [rd_freqsOf b hb c (hb c h)]
    exact Nat.ne_of_gt (List.count_pos_iff.2 h)

theorem freqsOf_size (b : List Nat) (hb : ∀ x ∈ b, x < 256) : (freqsOf b).size = 256 :=
  (fwdCount_spec b hb).fsz

theorem freqsOf_toList (b : List Nat) (hb : ∀ x ∈ b, x < 256) :
    (freqsOf b).toList = (List.range 256).map (fun c => b.count c) := by
  apply List.ext_getElem
  · rw [Array.length_toList, freqsOf_size b hb]; simp
  · intro i h1 h2
    have hi : i < 256 := by simpa using h2
    rw [Array.getElem_toList, ← rd_eq_getElem _ _ (by rw [freqsOf_size b hb]; exact hi)]
    rw [List.getElem_map, List.getElem_range]
    exact rd_freqsOf b hb i hi

theorem freqsOf_sum (b : List Nat) (hb : ∀ x ∈ b, x < 256) : (freqsOf b).toList.sum = b.length := by
  rw [freqsOf_toList b hb]
  exact sum_count (List.range 256) b List.nodup_range (fun x hx => List.mem_range.2 (hb x hx))

theorem freqsOf_toList_lt (b : List Nat) (hb : ∀ x ∈ b, x < 256) (N : Nat)
    (hf : ∀ c, b.count c < N) : ∀ f ∈ (freqsOf b).toList, f < N := by
  intro f hf'
  rw [Array.mem_toList_iff, Array.mem_iff_getElem] at hf'
  obtain ⟨i, hi, e⟩ := hf'
  rw [← e, ← rd_eq_getElem _ _ hi, rd_freqsOf b hb i (by rw [freqsOf_size b hb] at hi; exact hi)]
  exact hf i

/-- Forward into a large enough destination: header, then the ranks at their bucket positions -/
theorem srtForward_spec (fill : Nat) (b : List Nat) (dstLen : Nat) (hb : ∀ x ∈ b, x < 256)
    (hne : b ≠ []) (hdst : maxEncodedLen b.length ≤ dstLen) (hfreq : ∀ c, b.count c < 2 ^ 31) :
    ∃ data : List Nat,
      srtForwardFill fill b dstLen = .ok (encodeHeader (freqsOf b).toList ++ data) ∧
      data.length = b.length ∧
      ∀ j c, b[j]? = some c →
        data[startOf (freqsOf b) (preprocess (freqsOf b)) c + (b.take j).count c]? =
          some (rank b (b.take j) c) := by
  have hc := fwdCount_spec b hb
  have ctx := ctx_of b hb
  have hlen0 : b.length ≠ 0 := by
    intro h; exact hne (List.length_eq_zero_iff.1 h)
  have hhl := encodeHeader_length (freqsOf b).toList (freqsOf_toList_lt b hb _ hfreq)
  rw [Array.length_toList, freqsOf_size b hb] at hhl
  unfold maxEncodedLen at hdst
  have e0 : EInv (freqsOf b) (preprocess (freqsOf b)) b 0
      ⟨(fwdCount b none ⟨0, zeros, zeros, zeros⟩).s2r, (fwdCount b none ⟨0, zeros, zeros, zeros⟩).r2s,
        fwdBuckets (freqsOf b) (preprocess (freqsOf b)) 0 zeros,
        Array.replicate (dstLen - (encodeHeader (freqsOf b).toList).length) fill⟩ := by
    refine ⟨by simpa [mtfList_nil] using hc.rep, by rw [fwdBuckets_size, zeros_size], ?_, ?_⟩
    · intro c hcS
      rw [fwdBuckets_spec _ _ _ _ zeros_size ctx.nodup ctx.lt c hcS]
      simp
    · intro j c hj; omega
  obtain ⟨st', h1, h2, h3⟩ := fwdEncode_inv ctx b 0 none _ (by simp) e0
    (by intro x h; simp at h) (by simp; omega)
  simp only [Array.size_replicate] at h3
  refine ⟨st'.data.toList.take b.length, ?_, ?_, ?_⟩
  · unfold srtForwardFill maxEncodedLen
    have hA : ¬ (b.length = 0 ∨ dstLen = 0) := by omega
    have hB : ¬ (dstLen < b.length + 5 * 256) := by omega
    have hC : ¬ ((encodeHeader (freqsOf b).toList).length > dstLen) := by omega
    simp only [if_neg hA, if_neg hB]
    show (if (encodeHeader (freqsOf b).toList).length > dstLen then Res.fault else _) = _
    rw [if_neg hC]
    show (match fwdEncode b none _ with | none => Res.fault | some es => _) = _
    unfold freqsOf at h1
    rw [h1]
    rfl
  · have : st'.data.toList.length = st'.data.size := Array.length_toList
    simp only [List.length_take, this, h3]; omega
  · intro j c hj
    have hp := ctx.pos_lt hj
    rw [List.getElem?_take]
    have hj' : j < b.length := (List.getElem?_eq_some_iff.1 hj).1
    rw [if_pos hp]
    have hsz : startOf (freqsOf b) (preprocess (freqsOf b)) c + (b.take j).count c < st'.data.size := by
      rw [h3]; omega
    rw [Array.getElem?_toList, Array.getElem?_eq_getElem hsz, ← rd_eq_getElem _ _ hsz]
    rw [h2.data j c hj' hj]

end Kanzi.SRT
