/-
BWTS (C13): infinite periodic words `u^ω` as sequences `pw u : Nat → Nat`, the
lexicographic order on sequences, the executable comparison `omegaLt` / `omegaLe`, and Lyndon
words under that order:

  * `lyndon_lt_rot`      a Lyndon word is `<ω` each of its non-trivial rotations
  * `lyndon_seqLt`       `u < v` lexicographically, `v` Lyndon ⇒ `u^ω < v^ω`
  * `rotL_antisymm`      rotations of Lyndon words with the same `^ω` are equal
-/
import Kanzi.Proofs.BWTSLex

namespace Kanzi.BWTS

theorem exists_least (P : Nat → Prop) (h : ∃ n, P n) : ∃ n, P n ∧ ∀ m, m < n → ¬ P m := by
  obtain ⟨n, hn⟩ := h
  induction n using Nat.strongRecOn with
  | _ n ih =>
    by_cases hc : ∃ m, m < n ∧ P m
    · obtain ⟨m, hm, hp⟩ := hc
      exact ih m hm hp
    · exact ⟨n, hn, fun m hm hp => hc ⟨m, hm, hp⟩⟩

/-! ## sequences -/

/-- strict lexicographic order on infinite words -/
def SeqLt (f g : Nat → Nat) : Prop := ∃ k, (∀ i, i < k → f i = g i) ∧ f k < g k

def SeqEq (f g : Nat → Nat) : Prop := ∀ i, f i = g i

/-- the sequence without its first `k` letters -/
def sh (k : Nat) (f : Nat → Nat) : Nat → Nat := fun i => f (i + k)

theorem SeqLt.irrefl (f : Nat → Nat) : ¬ SeqLt f f := by
  rintro ⟨k, _, h⟩; omega

theorem SeqLt.trans {f g h : Nat → Nat} (h1 : SeqLt f g) (h2 : SeqLt g h) : SeqLt f h := by
  obtain ⟨k1, a1, b1⟩ := h1
  obtain ⟨k2, a2, b2⟩ := h2
  rcases Nat.lt_trichotomy k1 k2 with hk | hk | hk
  · exact ⟨k1, fun i hi => (a1 i hi).trans (a2 i (by omega)), by rw [← a2 k1 hk]; exact b1⟩
  · subst hk
    exact ⟨k1, fun i hi => (a1 i hi).trans (a2 i hi), by omega⟩
  · exact ⟨k2, fun i hi => (a1 i (by omega)).trans (a2 i hi), by rw [a1 k2 hk]; exact b2⟩

theorem SeqLt.asymm {f g : Nat → Nat} (h1 : SeqLt f g) : ¬ SeqLt g f :=
  fun h2 => SeqLt.irrefl f (h1.trans h2)

theorem seq_trichotomy (f g : Nat → Nat) : SeqLt f g ∨ SeqEq f g ∨ SeqLt g f := by
  by_cases h : ∃ n, f n ≠ g n
  · obtain ⟨n, hn, hmin⟩ := exists_least _ h
    have hm : ∀ i, i < n → f i = g i := fun i hi => by
      have := hmin i hi; simpa using this
    rcases Nat.lt_trichotomy (f n) (g n) with h1 | h1 | h1
    · exact Or.inl ⟨n, hm, h1⟩
    · exact absurd h1 hn
    · exact Or.inr (Or.inr ⟨n, fun i hi => (hm i hi).symm, h1⟩)
  · refine Or.inr (Or.inl fun i => ?_)
    exact Classical.byContradiction fun hc => h ⟨i, hc⟩

theorem SeqLt.congr_left {f f' g : Nat → Nat} (h : SeqLt f g) (e : SeqEq f f') : SeqLt f' g := by
  obtain ⟨k, a, b⟩ := h
  exact ⟨k, fun i hi => (e i).symm.trans (a i hi), by rw [← e k]; exact b⟩

theorem SeqLt.congr_right {f g g' : Nat → Nat} (h : SeqLt f g) (e : SeqEq g g') : SeqLt f g' := by
  obtain ⟨k, a, b⟩ := h
  exact ⟨k, fun i hi => (a i hi).trans (e i), by rw [← e k]; exact b⟩

theorem SeqLt.not_eq {f g : Nat → Nat} (h : SeqLt f g) : ¬ SeqEq f g :=
  fun e => SeqLt.irrefl g (h.congr_left e)

def SeqLe (f g : Nat → Nat) : Prop := ¬ SeqLt g f

theorem seqLe_iff {f g : Nat → Nat} : SeqLe f g ↔ SeqLt f g ∨ SeqEq f g := by
  unfold SeqLe
  constructor
  · intro h
    rcases seq_trichotomy f g with h1 | h1 | h1
    · exact Or.inl h1
    · exact Or.inr h1
    · exact absurd h1 h
  · rintro (h | h)
    · exact h.asymm
    · intro h2; exact h2.not_eq (fun i => (h i).symm)

theorem SeqLe.trans {f g h : Nat → Nat} (h1 : SeqLe f g) (h2 : SeqLe g h) : SeqLe f h := by
  rcases seqLe_iff.1 h1 with a | a <;> rcases seqLe_iff.1 h2 with b | b
  · exact seqLe_iff.2 (Or.inl (a.trans b))
  · exact seqLe_iff.2 (Or.inl (a.congr_right b))
  · exact seqLe_iff.2 (Or.inl (b.congr_left (fun i => (a i).symm)))
  · exact seqLe_iff.2 (Or.inr (fun i => (a i).trans (b i)))

theorem SeqLt.of_lt_of_le {f g h : Nat → Nat} (h1 : SeqLt f g) (h2 : SeqLe g h) : SeqLt f h := by
  rcases seqLe_iff.1 h2 with b | b
  · exact h1.trans b
  · exact h1.congr_right b

theorem SeqLt.of_le_of_lt {f g h : Nat → Nat} (h1 : SeqLe f g) (h2 : SeqLt g h) : SeqLt f h := by
  rcases seqLe_iff.1 h1 with b | b
  · exact b.trans h2
  · exact h2.congr_left (fun i => (b i).symm)

theorem seqEq_of_le_of_le {f g : Nat → Nat} (h1 : SeqLe f g) (h2 : SeqLe g f) : SeqEq f g := by
  rcases seqLe_iff.1 h1 with b | b
  · exact absurd b h2
  · exact b

theorem seqLt_of_sh {f g : Nat → Nat} (k : Nat) (hp : ∀ i, i < k → f i = g i)
    (h : SeqLt (sh k f) (sh k g)) : SeqLt f g := by
  obtain ⟨j, a, b⟩ := h
  refine ⟨j + k, fun i hi => ?_, b⟩
  by_cases hik : i < k
  · exact hp i hik
  · have := a (i - k) (by omega)
    simp only [sh] at this
    rwa [show i - k + k = i by omega] at this

theorem sh_seqLt {f g : Nat → Nat} (k : Nat) (hp : ∀ i, i < k → f i = g i) (h : SeqLt f g) :
    SeqLt (sh k f) (sh k g) := by
  obtain ⟨j, a, b⟩ := h
  have hkj : k ≤ j := by
    by_cases hc : k ≤ j
    · exact hc
    · have := hp j (by omega); omega
  refine ⟨j - k, fun i hi => a (i + k) (by omega), ?_⟩
  simp only [sh]
  rwa [show j - k + k = j by omega]

/-! ## `u^ω` -/

/-- the `i`-th letter of `u^ω` -/
def pw (u : List Nat) (i : Nat) : Nat := u.getD (i % u.length) 0

theorem pw_of_lt (u : List Nat) (i : Nat) (h : i < u.length) : pw u i = u.getD i 0 := by
  unfold pw; rw [Nat.mod_eq_of_lt h]

theorem pw_add_length (u : List Nat) (i : Nat) : pw u (i + u.length) = pw u i := by
  unfold pw; rw [Nat.add_mod_right]

theorem pw_add_mul_length (u : List Nat) (i q : Nat) : pw u (i + q * u.length) = pw u i := by
  unfold pw; rw [Nat.add_mul_mod_self_right]

theorem sh_pw_length (u : List Nat) : sh u.length (pw u) = pw u := by
  funext i; exact pw_add_length u i

theorem getD_eq {α : Type} (L : List α) (d : α) (i : Nat) (h : i < L.length) : L.getD i d = L[i] := by
  simp [List.getD_eq_getElem?_getD, List.getElem?_eq_getElem h]

theorem getD_append_left' (u x : List Nat) (i : Nat) (h : i < u.length) :
    (u ++ x).getD i 0 = u.getD i 0 := by
  simp [List.getD_eq_getElem?_getD, List.getElem?_append_left h]

theorem getD_append_right' (u x : List Nat) (i : Nat) (h : u.length ≤ i) :
    (u ++ x).getD i 0 = x.getD (i - u.length) 0 := by
  simp [List.getD_eq_getElem?_getD, List.getElem?_append_right h]

theorem rot_length (w : List Nat) (k : Nat) : (rot w k).length = w.length := by
  simp [rot]; omega

theorem take_append_drop_getD (x : List Nat) (k i : Nat) : (x.drop k).getD i 0 = x.getD (i + k) 0 := by
  simp [List.getD_eq_getElem?_getD, Nat.add_comm]

theorem pw_rot (w : List Nat) (k : Nat) (hk : k ≤ w.length) (i : Nat) :
    pw (rot w k) i = pw w (i + k) := by
  by_cases hw : w.length = 0
  · rw [List.eq_nil_of_length_eq_zero hw]
    simp [pw, rot]
  · have hj : i % w.length < w.length := Nat.mod_lt _ (by omega)
    unfold pw
    rw [rot_length, ← Nat.mod_add_mod, rot]
    by_cases h : i % w.length + k < w.length
    · rw [Nat.mod_eq_of_lt h, getD_append_left' _ _ _ (by rw [List.length_drop]; omega),
        take_append_drop_getD]
    · rw [Nat.mod_eq_sub_mod (a := i % w.length + k) (by omega),
        Nat.mod_eq_of_lt (a := i % w.length + k - w.length) (by omega),
        getD_append_right' _ _ _ (by rw [List.length_drop]; omega)]
      simp only [List.length_drop, List.getD_eq_getElem?_getD]
      rw [List.getElem?_take_of_lt (by omega)]
      congr 2
      omega

theorem pw_append_left (u x : List Nat) (i : Nat) (h : i < u.length) :
    pw (u ++ x) i = u.getD i 0 := by
  rw [pw_of_lt _ _ (by simp; omega), getD_append_left' _ _ _ h]

/-! ## the executable comparison -/

/-- what `omegaLtGo` reads next: the rest `x` of the current copy of `u`, or a fresh copy when `x`
    is used up -/
def norm (u x : List Nat) : List Nat := if x.isEmpty then u else x

theorem step_mod (i m : Nat) (hm : 0 < m) :
    (i + 1) % m = if i % m + 1 = m then 0 else i % m + 1 := by
  have hj : i % m < m := Nat.mod_lt _ hm
  rw [← Nat.mod_add_mod]
  split
  · rename_i h; rw [h]; exact Nat.mod_self m
  · exact Nat.mod_eq_of_lt (by omega)

theorem norm_step (u : List Nat) (hu : u ≠ []) (i : Nat) (a : Nat) (x' : List Nat)
    (h : u.drop (i % u.length) = a :: x') :
    a = pw u i ∧ norm u x' = u.drop ((i + 1) % u.length) := by
  have hm : 0 < u.length := List.length_pos_iff.2 hu
  have hj : i % u.length < u.length := Nat.mod_lt _ hm
  rw [List.drop_eq_getElem_cons hj] at h
  injection h with h1 h2
  refine ⟨?_, ?_⟩
  · unfold pw
    rw [← h1]; simp [List.getD_eq_getElem?_getD, List.getElem?_eq_getElem hj]
  · rw [step_mod i _ hm, ← h2]
    unfold norm
    by_cases hc : i % u.length + 1 = u.length
    · simp [hc]
    · have : ¬ (u.drop (i % u.length + 1)).isEmpty = true := by
        simp only [List.isEmpty_iff, List.drop_eq_nil_iff]; omega
      simp [this, hc]

/-- loop invariant: `x`, `y` are `u^ω`, `v^ω` from position `i` on; `fuel` steps find exactly the
    mismatches at distance `< fuel` -/
theorem omegaLtGo_iff (u v : List Nat) (hu : u ≠ []) (hv : v ≠ []) (fuel : Nat) :
    ∀ (x y : List Nat) (i : Nat), norm u x = u.drop (i % u.length) →
      norm v y = v.drop (i % v.length) →
      (omegaLtGo u v fuel x y = true ↔
        ∃ k, k < fuel ∧ (∀ j, j < k → pw u (i + j) = pw v (i + j)) ∧ pw u (i + k) < pw v (i + k)) := by
  induction fuel with
  | zero => intro x y i _ _; simp [omegaLtGo]
  | succ f ih =>
    intro x y i hx hy
    have hmu : 0 < u.length := List.length_pos_iff.2 hu
    have hmv : 0 < v.length := List.length_pos_iff.2 hv
    unfold omegaLtGo
    -- fold the two `if _.isEmpty` scrutinees into `norm`, so that `hx`, `hy` rewrite them
    change (match norm u x, norm v y with
      | a :: x', b :: y' => if a < b then true else if b < a then false else omegaLtGo u v f x' y'
      | _, _ => false) = true ↔ _
    rw [hx, hy]
    have hju : i % u.length < u.length := Nat.mod_lt _ hmu
    have hjv : i % v.length < v.length := Nat.mod_lt _ hmv
    have e1 := List.drop_eq_getElem_cons hju
    have e2 := List.drop_eq_getElem_cons hjv
    obtain ⟨ha, hx'⟩ := norm_step u hu i _ _ e1
    obtain ⟨hb, hy'⟩ := norm_step v hv i _ _ e2
    rw [e1, e2]
    simp only []
    rw [ha, hb]
    by_cases h1 : pw u i < pw v i
    · simp only [h1, if_true, true_iff]
      exact ⟨0, by omega, fun j hj => by omega, h1⟩
    · by_cases h2 : pw v i < pw u i
      · simp only [h1, h2, if_true, if_false, Bool.false_eq_true, false_iff]
        rintro ⟨k, _, a, b⟩
        cases k with
        | zero => exact h1 b
        | succ k => have := a 0 (by omega); simp at this; omega
      · simp only [h1, h2, if_false]
        have heq : pw u i = pw v i := by omega
        rw [ih _ _ (i + 1) hx' hy']
        constructor
        · rintro ⟨k, hk, a, b⟩
          refine ⟨k + 1, by omega, fun j hj => ?_, by rw [show i + (k + 1) = i + 1 + k by omega]; exact b⟩
          cases j with
          | zero => exact heq
          | succ j => rw [show i + (j + 1) = i + 1 + j by omega]; exact a j (by omega)
        · rintro ⟨k, hk, a, b⟩
          cases k with
          | zero => exact absurd b h1
          | succ k =>
            refine ⟨k, by omega, fun j hj => ?_, by rw [show i + 1 + k = i + (k + 1) by omega]; exact b⟩
            rw [show i + 1 + j = i + (j + 1) by omega]; exact a (j + 1) (by omega)

theorem omegaLt_iff (u v : List Nat) (hu : u ≠ []) (hv : v ≠ []) :
    omegaLt u v = true ↔ SeqLt (pw u) (pw v) := by
  unfold omegaLt
  rw [omegaLtGo_iff u v hu hv _ u v 0 (by simp [norm, hu]) (by simp [norm, hv])]
  simp only [Nat.zero_add]
  constructor
  · rintro ⟨k, _, a, b⟩; exact ⟨k, a, b⟩
  · rintro ⟨k, a, b⟩
    refine ⟨k, ?_, a, b⟩
    -- both sequences have the period `|u|·|v|`
    apply Classical.byContradiction
    intro hc
    have hk : u.length * v.length ≤ k := by omega
    have e1 : pw u (k - u.length * v.length) = pw u k := by
      have := pw_add_mul_length u (k - u.length * v.length) v.length
      rw [Nat.mul_comm v.length] at this
      rw [← this]; congr 1; omega
    have e2 : pw v (k - u.length * v.length) = pw v k := by
      have := pw_add_mul_length v (k - u.length * v.length) u.length
      rw [← this]; congr 1; omega
    have hpos : 0 < u.length * v.length :=
      Nat.mul_pos (List.length_pos_iff.2 hu) (List.length_pos_iff.2 hv)
    have := a (k - u.length * v.length) (by omega)
    omega

theorem omegaLe_iff (u v : List Nat) (hu : u ≠ []) (hv : v ≠ []) :
    omegaLe u v = true ↔ SeqLe (pw u) (pw v) := by
  unfold omegaLe SeqLe
  rw [← omegaLt_iff v u hv hu]
  simp

/-! ## Lyndon words and the order of the `u^ω` -/


theorem pw_prefix_snoc (p : List Nat) (a : Nat) (r : List Nat) :
    (∀ i, i < p.length → pw (p ++ a :: r) i = p.getD i 0) ∧ pw (p ++ a :: r) p.length = a := by
  have e : p ++ a :: r = (p ++ [a]) ++ r := by simp
  constructor
  · intro i hi
    rw [e, pw_append_left _ _ _ (by simp; omega), getD_append_left' _ _ _ hi]
  · rw [e, pw_append_left _ _ _ (by simp), getD_append_right' _ _ _ (Nat.le_refl _)]
    simp

/-- a strict mismatch decides against every sequence that starts with the larger word -/
theorem Mis.seqLt {u v : List Nat} (h : Mis u v) (g : Nat → Nat)
    (hg : ∀ i, i < v.length → g i = v.getD i 0) : SeqLt (pw u) g := by
  obtain ⟨p, a, b, u', v', rfl, rfl, hab⟩ := h
  have h1 := pw_prefix_snoc p a u'
  refine ⟨p.length, fun i hi => ?_, ?_⟩
  · rw [h1.1 i hi, hg i (by simp; omega), getD_append_left' _ _ _ hi]
  · rw [h1.2, hg _ (by simp), getD_append_right' _ _ _ (Nat.le_refl _)]
    simpa using hab

theorem lyndon_lt_rot {w : List Nat} (hw : Lyndon w) (k : Nat) (hk : 0 < k) (hkl : k < w.length) :
    SeqLt (pw w) (pw (rot w k)) :=
  (lexLt_mis_of_length (hw.2 k hk hkl) (by simp)).seqLt _ (fun i hi => pw_append_left _ _ i hi)

theorem lyndon_le_rot {w : List Nat} (hw : Lyndon w) (k : Nat) (hkl : k < w.length) :
    SeqLe (pw w) (pw (rot w k)) := by
  by_cases hk : k = 0
  · subst hk
    have : rot w 0 = w := by simp [rot]
    rw [this]; exact SeqLt.irrefl _
  · exact (lyndon_lt_rot hw k (by omega) hkl).asymm

/-- `u^ω` is its own shift by `|u|`: a common prefix `u` may be dropped -/
theorem seqLt_drop_prefix {u x : List Nat} {g : Nat → Nat}
    (hg : ∀ i, i < (u ++ x).length → g i = (u ++ x).getD i 0) :
    (∀ i, i < x.length → sh u.length g i = x.getD i 0) ∧
      (SeqLt (pw u) (sh u.length g) → SeqLt (pw u) g) := by
  simp only [List.length_append] at hg
  refine ⟨fun i hi => ?_, fun h => seqLt_of_sh u.length (fun i hi => ?_) (by rw [sh_pw_length]; exact h)⟩
  · simp only [sh]
    rw [hg _ (by omega), getD_append_right' _ _ _ (by omega)]
    congr 1
    omega
  · rw [pw_of_lt u i hi, hg i (by omega), getD_append_left' _ _ _ hi]

/-- the inductive heart of `lyndon_seqLt`: `u^ω` is below every sequence that starts with a proper
    suffix of a Lyndon word having `u` as a prefix -/
theorem lyndon_suffix_seqLt {u v : List Nat} (hv : Lyndon v) (hu : u ≠ []) (x0 : List Nat)
    (hvu : v = u ++ x0) (N : Nat) :
    ∀ (x : List Nat), x.length ≤ N → x ≠ [] → (∃ y, y ≠ [] ∧ v = y ++ x) →
      ∀ g : Nat → Nat, (∀ i, i < x.length → g i = x.getD i 0) → SeqLt (pw u) g := by
  induction N with
  | zero =>
    intro x hx hx0
    exact absurd (List.eq_nil_of_length_eq_zero (by omega)) hx0
  | succ N ih =>
    intro x hxN hx0 ⟨y, hy, hvy⟩ g hg
    have hul : 0 < u.length := List.length_pos_iff.2 hu
    have hrec : ∀ x1, x1 ≠ [] → x = u ++ x1 → SeqLt (pw u) g := by
      intro x1 hx1ne hx1
      subst hx1
      obtain ⟨h1, h2⟩ := seqLt_drop_prefix hg
      rw [List.length_append] at hxN
      exact h2 (ih x1 (by omega) hx1ne ⟨y ++ u, by simp [hu], by rw [hvy]; simp⟩ _ h1)
    -- `v < x` with a mismatch, which falls inside `u` or behind it
    have hlt : lexLt v x = true := ((lyndon_iff v).1 hv).2 y x hvy hy hx0
    obtain ⟨p, a, b, v', x'', hvp, hxp, hab⟩ := lexLt_mis_of_length hlt (by rw [hvy]; simp)
    rcases List.append_eq_append_iff.1 (hvp.symm.trans hvu) with ⟨a', hu', ha'⟩ | ⟨c', hp', _⟩
    · cases a' with
      | nil => exact hrec (b :: x'') (by simp) (by rw [hxp, hu', List.append_nil])
      | cons a0 a'' =>
        simp only [List.cons_append, List.cons.injEq] at ha'
        exact Mis.seqLt ⟨p, a, b, a'', x'', by rw [hu', ha'.1], hxp, hab⟩ g hg
    · exact hrec (c' ++ b :: x'') (by simp) (by rw [hxp, hp', List.append_assoc])

theorem lyndon_seqLt {u v : List Nat} (hv : Lyndon v) (hu : u ≠ []) (h : lexLt u v = true) :
    SeqLt (pw u) (pw v) := by
  rcases lexLt_cases h with hm | ⟨x0, hx0, hvu⟩
  · exact hm.seqLt _ (fun i hi => pw_of_lt v i hi)
  · subst hvu
    obtain ⟨h1, h2⟩ := seqLt_drop_prefix (g := pw (u ++ x0)) (fun i hi => pw_of_lt _ i hi)
    exact h2 (lyndon_suffix_seqLt hv hu x0 rfl x0.length x0 (Nat.le_refl _) hx0 ⟨u, hu, rfl⟩ _ h1)

theorem lyndon_seqLe {u v : List Nat} (hu : Lyndon u) (hv : Lyndon v) (h : lexLt u v = false) :
    SeqLe (pw v) (pw u) := by
  rcases lexLe_iff.1 (show lexLe v u from h) with h1 | h1
  · subst h1; exact SeqLt.irrefl _
  · exact (lyndon_seqLt hu hv.1 h1).asymm

theorem lyndon_eq_of_seqEq {u v : List Nat} (hu : Lyndon u) (hv : Lyndon v)
    (h : SeqEq (pw u) (pw v)) : u = v := by
  apply lexLt_total
  · cases h1 : lexLt u v with
    | false => rfl
    | true => exact absurd h (lyndon_seqLt hv hu.1 h1).not_eq
  · cases h1 : lexLt v u with
    | false => rfl
    | true => exact absurd (fun i => (h i).symm) (lyndon_seqLt hu hv.1 h1).not_eq

def RotL (x : List Nat) : Prop := ∃ w k, Lyndon w ∧ k < w.length ∧ x = rot w k

theorem RotL.ne_nil {x : List Nat} (h : RotL x) : x ≠ [] := by
  obtain ⟨w, k, hw, hk, rfl⟩ := h
  intro hc
  have := congrArg List.length hc
  rw [rot_length, List.length_nil] at this
  omega

theorem eq_of_length_of_seqEq {x y : List Nat} (hl : x.length = y.length)
    (h : SeqEq (pw x) (pw y)) : x = y := by
  apply List.ext_getElem hl
  intro i h1 h2
  have := h i
  rw [pw_of_lt x i h1, pw_of_lt y i h2] at this
  simpa [List.getD_eq_getElem?_getD, List.getElem?_eq_getElem h1, List.getElem?_eq_getElem h2]
    using this

theorem pw_shift_rot (w : List Nat) (hw : w ≠ []) (c i : Nat) :
    pw w (i + c) = pw (rot w (c % w.length)) i := by
  have hm : 0 < w.length := List.length_pos_iff.2 hw
  rw [pw_rot w _ (Nat.le_of_lt (Nat.mod_lt _ hm))]
  unfold pw
  congr 1
  rw [← Nat.add_mod_mod]

theorem rotL_le_aux {w v : List Nat} (hv : Lyndon v) (a b : Nat)
    (ha : a < w.length)
    (h : ∀ i, pw w (i + a) = pw v (i + b)) : SeqLe (pw v) (pw w) := by
  -- `w^ω` is `(rot v c)^ω`
  have hm : 0 < v.length := List.length_pos_iff.2 hv.1
  have e : SeqEq (pw w) (pw (rot v ((w.length - a + b) % v.length))) := by
    intro i
    rw [← pw_shift_rot v hv.1, ← pw_add_length w i]
    have := h (i + (w.length - a))
    rw [show i + (w.length - a) + a = i + w.length by omega] at this
    rw [this]; congr 1; omega
  have := lyndon_le_rot hv _ (Nat.mod_lt (w.length - a + b) hm)
  intro hlt
  exact this (hlt.congr_left e)

theorem rotL_antisymm {x y : List Nat} (hx : RotL x) (hy : RotL y) (h : SeqEq (pw x) (pw y)) :
    x = y := by
  obtain ⟨w, a, hw, ha, rfl⟩ := hx
  obtain ⟨v, b, hv, hb, rfl⟩ := hy
  have h' : ∀ i, pw w (i + a) = pw v (i + b) := fun i => by
    rw [← pw_rot w a (by omega), ← pw_rot v b (by omega)]; exact h i
  have h1 := rotL_le_aux (w := w) hv a b ha h'
  have h2 := rotL_le_aux (w := v) hw b a hb (fun i => (h' i).symm)
  have hwv : w = v := lyndon_eq_of_seqEq hw hv (seqEq_of_le_of_le h2 h1)
  subst hwv
  exact eq_of_length_of_seqEq (by rw [rot_length, rot_length]) h

end Kanzi.BWTS
