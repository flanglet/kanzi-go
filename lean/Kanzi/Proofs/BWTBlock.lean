/-
BWTBlockCodec level: `blockForward` (header + SPEC of the forward BWT) has the advertised length and
`blockInverse` of it hands the BWT bytes and the indexes of the block to `bwtInverse`
(`blockInverse_forward`, any block size), which restores blocks of at most 4 MiB by the
`inverseMergeTPSI` route (`block_roundtrip_small`).  The blocks above 4 MiB (`inverseBiPSIv2`) are
`block_roundtrip_big` in BWTBiDecode, on top of `blockInverse_forward`.
-/
import Kanzi.Proofs.BWTHeader
import Kanzi.Proofs.BWTMergeThm
import Kanzi.Proofs.BWTTotal

namespace Kanzi.BWT

theorem bwtIndexes_length (s : List Nat) : (bwtIndexes s).length = getBWTChunks s.length := by
  simp [bwtIndexes]

theorem rowOf_bounds (s : List Nat) (i : Nat) (hi : i < s.length) : 1 ≤ rowOf s i ∧ rowOf s i ≤ s.length := by
  have := idxOf_sa_lt hi
  unfold rowOf; omega

theorem chunk_pos_lt (n k : Nat) (h2 : 1 ≤ n) (hk : k < getBWTChunks n) : k * chunkSize n (getBWTChunks n) < n := by
  rcases getBWTChunks_cases n with h | h
  · rw [h] at hk
    have : k = 0 := by omega
    subst this; omega
  · rw [h] at hk ⊢
    have := chunkSize8_bounds n (getBWTChunks_eq_eight.1 h)
    have : k * chunkSize n 8 ≤ 7 * chunkSize n 8 := Nat.mul_le_mul_right _ (by omega)
    omega

theorem indexes_bounds (s : List Nat) (hs : 1 ≤ s.length) (rest : List Nat) (i : Nat) (hi : i < getBWTChunks s.length) :
    1 ≤ (bwtIndexes s ++ rest).getD i 0 ∧ (bwtIndexes s ++ rest).getD i 0 ≤ s.length := by
  rw [indexes_getD s rest i hi]
  have := rowOf_bounds s _ (chunk_pos_lt s.length i hs hi)
  unfold rowOf at this
  exact this

theorem range_map_getD_append (l r : List Nat) :
    (List.range l.length).map (fun i => (l ++ r).getD i 0) = l :=
  (List.map_congr_left fun i hi => by
    rw [List.getD_eq_getElem?_getD, List.getElem?_append_left (List.mem_range.1 hi),
      ← List.getD_eq_getElem?_getD]).trans (range_map_getD l 0)

/-- `BWTBlockCodec.Forward` on a block of 2 .. 2^30 bytes into a destination of at least
`MaxEncodedLen` bytes: mode byte, the indexes on `pIndexSizeOf n` bytes each, then the BWT bytes. -/
theorem blockForward_eq (s : List Nat) (h2 : 2 ≤ s.length) (hmax : s.length ≤ MAX_BLOCK_SIZE) (dstLen : Nat)
    (hd : maxEncodedLen s.length ≤ dstLen) :
    blockForward s dstLen = .ok (headerBytes (getBWTChunks s.length) (pIndexSizeOf s.length)
      (bwtIndexes s ++ (List.replicate 8 0).drop (getBWTChunks s.length)) ++ bwtData s) := by
  have hp := pIndexSize_range s.length h2 hmax
  have h1 : ¬ (s.length = 0 ∨ dstLen = 0) := by unfold maxEncodedLen at hd; omega
  have h3 : ¬ dstLen < maxEncodedLen s.length := by omega
  have h4 : ¬ (pIndexSizeOf s.length = 0 ∨ pIndexSizeOf s.length ≥ 5) := by omega
  have h5 : ¬ log2 (getBWTChunks s.length) > 7 := by
    rcases getBWTChunks_cases s.length with h | h <;> rw [h] <;> decide
  have h6 : ¬ s.length > MAX_BLOCK_SIZE := by omega
  have h7 : ¬ s.length ≤ 1 := by omega
  simp only [blockForward, h1, h3, h4, h5, h6, ite_false, bwtSpec, h7]

theorem blockForward_length (s : List Nat) (h2 : 2 ≤ s.length) (hmax : s.length ≤ MAX_BLOCK_SIZE) (dstLen : Nat)
    (hd : maxEncodedLen s.length ≤ dstLen) :
    ∃ enc, blockForward s dstLen = .ok enc ∧
      enc.length = s.length + 1 + getBWTChunks s.length * pIndexSizeOf s.length ∧
      enc.length ≤ maxEncodedLen s.length := by
  refine ⟨_, blockForward_eq s h2 hmax dstLen hd, ?_, ?_⟩
  · rw [List.length_append, headerBytes_length, bwtData_length s (by omega)]; omega
  · rw [List.length_append, headerBytes_length, bwtData_length s (by omega)]
    have hp := pIndexSize_range s.length h2 hmax
    unfold maxEncodedLen MAX_HEADER_SIZE
    rcases getBWTChunks_cases s.length with h | h <;> rw [h] <;> omega

theorem parseHeaderN_take (old src : List Nat) (len : Nat) :
    parseHeaderN old (src.take MAX_HEADER_SIZE) len = parseHeaderN old src len := by
  have hhead : (src.take MAX_HEADER_SIZE).headD 0 = src.headD 0 := by
    cases src <;> simp [MAX_HEADER_SIZE]
  simp only [parseHeaderN, hhead]
  generalize src.headD 0 = mode
  generalize hl : (mode >>> 2) &&& 7 = l
  generalize hp : (mode &&& 3) = p
  have hp3 : p ≤ 3 := by rw [← hp]; exact Nat.and_le_right
  split
  · rfl
  · split
    · rfl
    · next h1 h2 =>
      have hc18 : 1 <<< l = 1 ∨ 1 <<< l = 8 := by
        have : 1 <<< l = getBWTChunks (len - (1 <<< l * (p + 1) + 1)) := by simpa using h2
        rw [this]; exact getBWTChunks_cases _
      congr 2
      congr 1
      apply List.map_congr_left
      intro i hi
      have hi' := List.mem_range.1 hi
      congr 2
      rw [List.drop_take, List.take_take]
      congr 1
      unfold MAX_HEADER_SIZE
      have : i * (p + 1) + (p + 1) ≤ 1 <<< l * (p + 1) := by
        rw [← Nat.succ_mul]; exact Nat.mul_le_mul_right _ hi'
      rcases hc18 with h | h <;> rw [h] at this <;> omega

theorem bwtInverse_small (buf : Array Nat) (pidx : List Nat) (jobs : Nat) (src : Array Nat) (dstLen : Nat)
    (h2 : 2 ≤ src.size) (hmax : src.size ≤ THRESHOLD2) (hd : src.size ≤ dstLen) :
    bwtInverse buf pidx jobs src dstLen = mergeTPSI buf pidx src := by
  have hm : ¬ src.size > MAX_BLOCK_SIZE := by
    unfold THRESHOLD2 at hmax; unfold MAX_BLOCK_SIZE; omega
  unfold bwtInverse
  rw [if_neg (by omega), if_neg hm, if_neg (by omega), if_neg (by omega), if_pos hmax]

theorem blockInverse_ok (buf : Array Nat) (old : List Nat) (jobs : Nat) (src : Array Nat) (dstLen : Nat)
    (h2 : 2 ≤ src.size) (hd : dstLen ≠ 0) {h : Header} (hp : parseHeader old src.toList = .ok h) :
    blockInverse buf old jobs src dstLen =
      ((bwtInverse buf h.pidx jobs (src.extract h.headerSize src.size) dstLen).1,
       (bwtInverse buf h.pidx jobs (src.extract h.headerSize src.size) dstLen).2, h.pidx) := by
  have hpre : parseHeaderN old (src.extract 0 MAX_HEADER_SIZE).toList src.size = .ok h := by
    rw [Array.toList_extract, List.extract_eq_take_drop, List.drop_zero, Nat.sub_zero, parseHeaderN_take,
      ← Array.length_toList]
    exact hp
  unfold blockInverse
  rw [if_neg (by omega), if_neg (by omega), hpre]

/-- `BWTBlockCodec.Inverse` on the output of `BWTBlockCodec.Forward`: the header parses back to the
primary indexes of the block and `BWT.Inverse` runs on the BWT bytes (any block of 2 bytes .. 1 GiB). -/
theorem blockInverse_forward (s : List Nat) (h2 : 2 ≤ s.length) (hmax' : s.length ≤ MAX_BLOCK_SIZE)
    (fdst : Nat) (hfd : maxEncodedLen s.length ≤ fdst)
    (buf : Array Nat) (old : List Nat) (jobs idst : Nat) (hid : 1 ≤ idst) :
    ∃ enc, blockForward s fdst = .ok enc ∧ enc.length ≤ maxEncodedLen s.length ∧
      (blockInverse buf old jobs enc.toArray idst).1
        = (bwtInverse buf (bwtIndexes s ++ old.drop (getBWTChunks s.length)) jobs (bwtData s).toArray idst).1 := by
  obtain ⟨enc, hf, hlen, hle⟩ := blockForward_length s h2 hmax' fdst hfd
  refine ⟨enc, hf, hle, ?_⟩
  have henc := blockForward_eq s h2 hmax' fdst hfd
  rw [hf] at henc
  injection henc with henc
  have hp := pIndexSize_range s.length h2 hmax'
  have hdl := bwtData_length s (by omega)
  have hparse := parseHeader_headerBytes old
    (bwtIndexes s ++ (List.replicate 8 0).drop (getBWTChunks s.length)) (bwtData s) (pIndexSizeOf s.length) hp
    (by
      intro i hi
      rw [hdl] at hi
      have := indexes_bounds s (by omega) ((List.replicate 8 0).drop (getBWTChunks s.length)) i hi
      have hpow := le_pow_pIndexSize s.length (by omega)
      omega)
  rw [hdl, ← henc, ← bwtIndexes_length, range_map_getD_append, bwtIndexes_length] at hparse
  have hdata : enc.toArray.extract (getBWTChunks s.length * pIndexSizeOf s.length + 1) enc.toArray.size
      = (bwtData s).toArray := by
    apply Array.ext'
    rw [Array.toList_extract, List.toList_toArray, List.size_toArray, henc, List.extract_eq_take_drop,
      List.drop_left' (headerBytes_length _ _ _)]
    apply List.take_of_length_le
    rw [List.length_append, headerBytes_length]; omega
  rw [blockInverse_ok buf old jobs enc.toArray idst (by rw [List.size_toArray]; omega) (by omega) hparse]
  dsimp only
  rw [hdata]

/-- BLOCK ROUND TRIP for blocks of 2 bytes .. 4 MiB: whatever instance state (stale buffer shorter than
2^31 entries, old index slots), job count and destination size (at least the block), the inverse of
the forward output is the block. -/
theorem block_roundtrip_small (s : List Nat) (h2 : 2 ≤ s.length) (hmax : s.length ≤ THRESHOLD2)
    (hb : ∀ x ∈ s, x < 256) (fdst : Nat) (hfd : maxEncodedLen s.length ≤ fdst)
    (buf : Array Nat) (hbuf : buf.size < 2 ^ 31) (old : List Nat) (jobs idst : Nat) (hid : s.length ≤ idst) :
    ∃ enc, blockForward s fdst = .ok enc ∧ enc.length ≤ maxEncodedLen s.length ∧
      (blockInverse buf old jobs enc.toArray idst).1 = .ok s.toArray := by
  unfold THRESHOLD2 at hmax
  obtain ⟨enc, hf, hle, hinv⟩ := blockInverse_forward s h2 (by unfold MAX_BLOCK_SIZE; omega) fdst hfd buf old jobs
    idst (by omega)
  refine ⟨enc, hf, hle, ?_⟩
  have hsz := bwtData_size s (by omega)
  rw [hinv, bwtInverse_small _ _ _ _ _ (by omega) (by unfold THRESHOLD2; omega) (by omega)]
  exact mergeTPSI_spec s h2 (by omega) hb buf hbuf _

end Kanzi.BWT
