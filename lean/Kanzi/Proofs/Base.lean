/-! Facts about `Array`, `List` and the bits of a `Nat` that every codec's proofs use and that core does not
    state in this form.  They live in the namespace `Kanzi`, so that every `namespace Kanzi.X` sees them
    unqualified. -/

namespace Kanzi

variable {α : Type _}

/-- what holds of both branches holds of the conditional; walks a guard of the model on the goal -/
theorem ite_of {α : Sort _} {p : α → Prop} {c : Prop} [Decidable c] {a b : α} (ha : c → p a) (hb : ¬ c → p b) :
    p (if c then a else b) := by
  by_cases hc : c
  · rw [if_pos hc]
    exact ha hc
  · rw [if_neg hc]
    exact hb hc

/-! ## an array extended by a list (`out ++ bytes`, the shape of every encoder's output) -/

theorem size_appendList (a : Array α) (l : List α) : (a ++ l).size = a.size + l.length := by
  rw [← Array.length_toList, Array.toList_appendList, List.length_append, Array.length_toList]

theorem appendList_assoc (a : Array α) (l₁ l₂ : List α) : a ++ l₁ ++ l₂ = a ++ (l₁ ++ l₂) := by
  apply Array.ext'; simp

theorem push_eq_appendList (a : Array α) (v : α) : a.push v = a ++ [v] := by
  apply Array.ext'; simp

theorem extract_length (a : Array α) (i : Nat) {j : Nat} (h : j ≤ a.size) : (a.extract i j).toList.length = j - i := by
  simp; omega

/-! ## reading with a default -/

theorem toArray_getD (l : List α) (i : Nat) {d : α} : l.toArray.getD i d = l.getD i d := by
  simp [Array.getD_eq_getD_getElem?, List.getD_eq_getElem?_getD]

theorem toList_getD (a : Array α) (i : Nat) {d : α} : a.toList.getD i d = a.getD i d := by
  simp [Array.getD_eq_getD_getElem?, List.getD_eq_getElem?_getD]

/-- a table after one store: the new value at the stored index if that was in range, the old value elsewhere -/
theorem getD_setIfInBounds (a : Array α) (i : Nat) (v : α) (j : Nat) (d : α) :
    (a.setIfInBounds i v).getD j d = if i = j ∧ i < a.size then v else a.getD j d := by
  simp only [Array.getD_eq_getD_getElem?, Array.getElem?_setIfInBounds]
  by_cases h : i = j
  · subst h
    by_cases h2 : i < a.size
    · simp [h2]
    · simp [h2]
  · simp [h]

/-- what holds of the default and of every element holds of every read -/
theorem getD_of_forall {P : α → Prop} {l : List α} {d : α} (hd : P d) (h : ∀ x ∈ l, P x) (i : Nat) : P (l.getD i d) := by
  rw [List.getD_eq_getElem?_getD]
  cases hi : l[i]? with
  | none => exact hd
  | some v => exact h v (List.mem_of_getElem? hi)

theorem getD_lt {l : List Nat} {n : Nat} (h : ∀ x ∈ l, x < n) (hn : 0 < n) (i : Nat) : l.getD i 0 < n :=
  getD_of_forall (P := (· < n)) hn h i

/-! ## counting bytes into a table -/

theorem hist_fold_size (l : List Nat) (h : Array Nat) : (l.foldl (fun h b => h.modify b (· + 1)) h).size = h.size := by
  induction l generalizing h with
  | nil => rfl
  | cons x xs ih => simp [ih]

theorem hist_fold_getD (l : List Nat) (h : Array Nat) (c : Nat) (hc : c < h.size) :
    (l.foldl (fun h b => h.modify b (· + 1)) h).getD c 0 = h.getD c 0 + l.count c := by
  induction l generalizing h with
  | nil => simp
  | cons x xs ih =>
    rw [List.foldl_cons, ih _ (by simpa using hc), List.count_cons]
    simp only [Array.getD_eq_getD_getElem?, Array.getElem?_modify]
    by_cases hx : x = c
    · subst hx; simp [Array.getElem?_eq_getElem hc]; omega
    · simp [hx]

/-! ## fields of a word -/

theorem shl_or (a b k : Nat) (h : b < 2 ^ k) : a <<< k ||| b = a * 2 ^ k + b := by
  rw [← Nat.shiftLeft_add_eq_or_of_lt h, Nat.shiftLeft_eq]

theorem shl8_or (a b : Nat) (h : b < 256) : a <<< 8 ||| b = a * 256 + b := shl_or a b 8 h

theorem or_shl (a b k : Nat) (h : a < 2 ^ k) : a ||| b <<< k = a + b * 2 ^ k := by
  rw [Nat.or_comm, shl_or b a k h, Nat.add_comm]

/-- `|||` is `+` when the left operand has its `k` low bits clear and the right one has no others -/
theorem or_eq_add (k a b : Nat) (ha : a % 2 ^ k = 0) (hb : b < 2 ^ k) : a ||| b = a + b := by
  have h1 : a = (a / 2 ^ k) <<< k := by
    rw [Nat.shiftLeft_eq]; exact (Nat.div_mul_cancel (Nat.dvd_of_mod_eq_zero ha)).symm
  rw [h1, ← Nat.shiftLeft_add_eq_or_of_lt hb]

theorem xor_xor_cancel (a b : Nat) : a ^^^ b ^^^ b = a := by
  rw [Nat.xor_assoc, Nat.xor_self, Nat.xor_zero]

theorem xor_cancel_right {a b c : Nat} (h : a ^^^ c = b ^^^ c) : a = b := by
  rw [← xor_xor_cancel a c, h, xor_xor_cancel]

theorem xor_cancel_left {a b c : Nat} (h : c ^^^ a = c ^^^ b) : a = b := by
  rw [Nat.xor_comm c a, Nat.xor_comm c b] at h; exact xor_cancel_right h

/-- the low `k` bits by a mask, with the mask written as the literal the Go source has:
    `and_mask 7 : x &&& 0x7F = x % 128` -/
theorem and_mask (k : Nat) (x : Nat) : x &&& (2 ^ k - 1) = x % 2 ^ k := Nat.and_two_pow_sub_one_eq_mod x k

end Kanzi
