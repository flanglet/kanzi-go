/-
Huffman codec (C12): `HuffmanEncoder.updateFrequencies` as a whole.  For EVERY
histogram (256 counts) it succeeds, whatever branch it takes (single symbol, plain lengths, fast
limiting, renormalisation, last resort): the lengths of the alphabet lie in [1, 12] and satisfy
Kraft's inequality, the codes are the canonical codes of these lengths (what the decoder
rebuilds), and the header is the alphabet followed by the length deltas.
-/
import Kanzi.Model.Huffman
import Kanzi.Proofs.EntSmall
import Kanzi.Proofs.Normalize
import Kanzi.Proofs.HufHeader
import Kanzi.Proofs.HufCanon
import Kanzi.Proofs.HufLimit

namespace Kanzi.Huffman
open Kanzi.Bits Kanzi.EntSmall Kanzi.Normalize

structure AlphaOk (freqs a : List Nat) : Prop where
  sorted : a.Pairwise (· < ·)
  lt : ∀ s ∈ a, s < 256
  pos : ∀ s ∈ a, 0 < freqs.getD s 0
  len : a.length ≤ 256

theorem AlphaOk.nodup {freqs a : List Nat} (h : AlphaOk freqs a) : a.Nodup :=
  List.Pairwise.imp (fun hab => Nat.ne_of_lt hab) h.sorted

theorem support_alpha (freqs : List Nat) (hl : freqs.length = 256) : AlphaOk freqs (support freqs) := by
  refine ⟨pairwise_supportAux freqs 0, ?_, ?_, ?_⟩
  · intro s hs; have := (mem_support freqs s).mp hs; omega
  · intro s hs; have := (mem_support freqs s).mp hs; omega
  · unfold support
    rw [length_supportAux, ← hl]
    exact List.length_filter_le _ _

theorem unit12_pos : 0 < unit12 := Nat.pow_pos (by decide)

theorem pow256 : 2 ^ 256 = 4096 * unit12 := by unfold unit12; norm_num

theorem lensOk_of_kraftM (sizes symbols : List Nat) (hnd : symbols.Nodup) (h256 : ∀ s ∈ symbols, s < 256)
    (hr : ∀ s ∈ symbols, 1 ≤ sizes.getD s 0 ∧ sizes.getD s 0 ≤ 12)
    (hk : kraftM 256 sizes symbols ≤ 2 ^ 256) : LensOk sizes symbols := by
  refine ⟨hnd, h256, hr, ?_⟩
  rw [kraftM_eq_kraft12 sizes symbols (fun s hs => (hr s hs).2), pow256] at hk
  exact Nat.le_of_mul_le_mul_right hk unit12_pos

theorem LensOk.perm {sizes l1 l2 : List Nat} (h : LensOk sizes l1) (hp : l2.Perm l1) : LensOk sizes l2 :=
  ⟨hp.nodup_iff.mpr h.nodup, fun s hs => h.lt256 s (hp.mem_iff.mp hs), fun s hs => h.range s (hp.mem_iff.mp hs),
   by rw [kraft12_perm sizes hp]; exact h.kraft⟩

theorem lensOk_of_cl (sizes0 symbols : List Nat) (cl : CL) (h : CLOk sizes0 symbols cl) (hm : cl.maxLen ≤ 12)
    (hnd : symbols.Nodup) (h256 : ∀ s ∈ symbols, s < 256) : LensOk cl.sizes symbols := by
  refine lensOk_of_kraftM _ _ hnd h256 (fun s hs => by have := h.range s hs; omega) ?_
  rw [← kraftM_perm 256 cl.sizes h.perm]
  exact Nat.le_of_eq h.kraft

theorem ranks_syms (f : Nat → Nat) (symbols : List Nat) (h : ∀ s ∈ symbols, s < 256) :
    (symbols.map (fun s => (f s <<< 8) ||| s)).map (· &&& 0xFF) = symbols :=
  List.map_map.trans
    ((List.map_congr_left fun s hs => (rank_fields (f s) s (h s hs)).2).trans (List.map_id _))

theorem zip_ranks_syms (ws symbols : List Nat) (hl : ws.length = symbols.length) (h : ∀ s ∈ symbols, s < 256) :
    ((ws.zip symbols).map (fun p => (p.1 <<< 8) ||| p.2)).map (· &&& 0xFF) = symbols := by
  rw [List.map_map]
  refine Eq.trans (List.map_congr_left fun p hp => ?_) (List.map_snd_zip (Nat.le_of_eq hl.symm))
  exact (rank_fields p.1 p.2 (h p.2 (List.of_mem_zip hp).2)).2

theorem zip_ranks_pos : ∀ (ws symbols : List Nat), (∀ w ∈ ws, 0 < w) → (∀ s ∈ symbols, s < 256) →
    ∀ r ∈ (ws.zip symbols).map (fun p => (p.1 <<< 8) ||| p.2), 0 < r >>> 8 := by
  intro ws symbols hw hs r hr
  obtain ⟨p, hp, rfl⟩ := List.mem_map.mp hr
  have h1 := List.of_mem_zip hp
  rw [(rank_fields p.1 p.2 (hs p.2 h1.2)).1]
  exact hw p.1 h1.1

/-- what `updateFrequencies` needs from the lengths it is going to transmit -/
structure SizesOk (sizes0 symbols : List Nat) (cl : CL) : Prop where
  perm : cl.ranks.Perm symbols
  len : cl.sizes.length = 256
  frame : ∀ x, x ∉ symbols → cl.sizes.getD x 0 = sizes0.getD x 0
  pos : ∀ s ∈ symbols, 1 ≤ cl.sizes.getD s 0
  fit : cl.maxLen ≤ 12 → LensOk cl.sizes symbols

theorem sizesOk_of_cl (sizes0 symbols : List Nat) (cl : CL) (h : CLOk sizes0 symbols cl) (hl : sizes0.length = 256)
    (hnd : symbols.Nodup) (h256 : ∀ s ∈ symbols, s < 256) : SizesOk sizes0 symbols cl :=
  ⟨h.perm, by rw [h.len, hl], h.frame, fun s hs => (h.range s hs).1,
   fun hm => lensOk_of_cl sizes0 symbols cl h hm hnd h256⟩

theorem slowLimit_spec (symbols freqs sz : List Nat) (ha : AlphaOk freqs symbols) (hn : 2 ≤ symbols.length)
    (hl : sz.length = 256) :
    ∃ cl, slowLimit symbols freqs sz = some cl ∧ SizesOk sz symbols cl := by
  unfold slowLimit
  have hpos : ∀ w ∈ symbols.map (fun s => freqs.getD s 0), 0 < w := by
    intro w hw
    obtain ⟨s, hs, rfl⟩ := List.mem_map.mp hw
    exact ha.pos s hs
  have hsum : 0 < (symbols.map (fun s => freqs.getD s 0)).sum := by
    cases hsy : symbols with
    | nil => rw [hsy] at hn; simp at hn
    | cons s ss =>
      have := ha.pos s (by rw [hsy]; exact List.mem_cons_self)
      simp only [List.map_cons, List.sum_cons]
      omega
  obtain ⟨o, ho, hlen, _, hzp, _, _, _, _⟩ :=
    normalize_valid (symbols.map (fun s => freqs.getD s 0)) 2048
      (by rw [List.length_map]; exact ha.len) ⟨by omega, by omega⟩ hsum
  rw [ho]
  simp only
  rw [List.length_map] at hlen
  have hwpos : ∀ w ∈ o.freqs, 0 < w := by
    intro w hw
    obtain ⟨i, hi, rfl⟩ := List.getElem_of_mem hw
    have h1 := (hzp i (by rw [List.length_map]; omega)).mp
      (hpos _ (by
        rw [List.getD_eq_getElem?_getD, List.getElem?_eq_getElem (by rw [List.length_map]; omega)]
        exact List.getElem_mem _))
    rw [List.getD_eq_getElem?_getD, List.getElem?_eq_getElem hi] at h1
    exact h1
  obtain ⟨cl, hcl, hok⟩ := computeCodeLengths_spec sz _ symbols
    (zip_ranks_syms o.freqs symbols hlen ha.lt) (zip_ranks_pos o.freqs symbols hwpos ha.lt)
    ha.nodup ha.lt hn ha.len hl
  exact ⟨cl, hcl, sizesOk_of_cl sz symbols cl hok hl ha.nodup ha.lt⟩

theorem limitCodeLengths_spec (symbols freqs sizes0 : List Nat) (cl : CL) (ha : AlphaOk freqs symbols)
    (hn : 2 ≤ symbols.length) (hl : sizes0.length = 256) (hcl : CLOk sizes0 symbols cl) :
    ∃ cl2 br, limitCodeLengths symbols freqs cl.sizes cl.ranks = some (cl2, br) ∧ SizesOk sizes0 symbols cl2 := by
  have hok : RanksOk cl.sizes cl.ranks :=
    ⟨hcl.perm.nodup_iff.mpr ha.nodup,
     fun s hs => by rw [hcl.len, hl]; exact ha.lt s (hcl.perm.mem_iff.mp hs)⟩
  obtain ⟨d1, d2, sz, hf, hlen, hframe, hrange, hk⟩ := fastLimit_spec cl.sizes cl.ranks hok
    (by rw [hcl.perm.length_eq]; exact ha.len) hcl.kraft hcl.mono
    (fun s hs => (hcl.range s (hcl.perm.mem_iff.mp hs)).1)
  unfold limitCodeLengths
  rw [hf]
  simp only
  have hszlen : sz.length = 256 := by rw [hlen, hcl.len, hl]
  have hfr2 : ∀ x, x ∉ symbols → sz.getD x 0 = sizes0.getD x 0 := fun x hx => by
    rw [hframe x (fun h => hx (hcl.perm.mem_iff.mp h)), hcl.frame x hx]
  by_cases hd : d2 > 0
  · rw [if_pos hd]
    obtain ⟨cl2, hs, hok2⟩ := slowLimit_spec symbols freqs sz ha hn hszlen
    rw [hs]
    exact ⟨cl2, 5, rfl, hok2.perm, hok2.len, fun x hx => by rw [hok2.frame x hx, hfr2 x hx], hok2.pos, hok2.fit⟩
  · rw [if_neg hd]
    refine ⟨_, _, rfl, hcl.perm, hszlen, hfr2, fun s hs => (hrange s (hcl.perm.mem_iff.mpr hs)).1, fun _ => ?_⟩
    have hd0 : d2 = 0 := by omega
    rw [hd0, Nat.zero_mul, Nat.add_zero] at hk
    have : LensOk sz cl.ranks := lensOk_of_kraftM sz cl.ranks hok.nodup
      (fun s hs => ha.lt s (hcl.perm.mem_iff.mp hs)) hrange hk
    exact this.perm hcl.perm.symm

/-! ### the last resort: 8-bit codes in alphabet order are the canonical codes -/

theorem idxCodes_spec (sizes : List Nat) : ∀ (l : List Nat) (k : Nat) (codes : List Nat),
    l.Nodup → (∀ s ∈ l, s < codes.length ∧ sizes.getD s 0 = 8) →
    (((List.range' k l.length).zip l).foldl (fun c p => c.set p.2 p.1) codes).length = codes.length ∧
    (∀ x, x ∉ l → (((List.range' k l.length).zip l).foldl (fun c p => c.set p.2 p.1) codes).getD x 0 = codes.getD x 0) ∧
    CodesOk sizes (((List.range' k l.length).zip l).foldl (fun c p => c.set p.2 p.1) codes) l (16 * k) := by
  intro l
  induction l with
  | nil => intro k codes _ _; exact ⟨rfl, fun _ _ => rfl, trivial⟩
  | cons s ss ih =>
    intro k codes hnd h
    have hnd' := List.nodup_cons.mp hnd
    have hs := h s List.mem_cons_self
    simp only [List.length_cons, List.range'_succ, List.zip_cons_cons, List.foldl_cons]
    obtain ⟨h1, h2, h3⟩ := ih (k + 1) (codes.set s k) hnd'.2
      (fun y hy => by rw [List.length_set]; exact h y (List.mem_cons_of_mem _ hy))
    refine ⟨by rw [h1, List.length_set], ?_, ?_, ?_⟩
    · intro x hx
      rw [h2 x (fun hm => hx (List.mem_cons_of_mem _ hm))]
      exact getD_set_ne _ _ _ _ (fun he => hx (he ▸ List.mem_cons_self))
    · rw [h2 s hnd'.1, getD_set_self _ _ _ hs.1, slotW, hs.2]
      norm_num; omega
    · have : 16 * k + slotW sizes s = 16 * (k + 1) := by rw [slotW, hs.2]; norm_num; omega
      rw [this]; exact h3

theorem CodesOk_unique (sizes c1 c2 : List Nat) : ∀ (l : List Nat) (P : Nat),
    CodesOk sizes c1 l P → CodesOk sizes c2 l P → ∀ x ∈ l, c1.getD x 0 = c2.getD x 0 := by
  intro l
  induction l with
  | nil => intro _ _ _ x hx; cases hx
  | cons s ss ih =>
    intro P h1 h2 x hx
    rcases List.mem_cons.mp hx with rfl | hx
    · exact Nat.eq_of_mul_eq_mul_right (slotW_pos sizes x) (h1.1.trans h2.1.symm)
    · exact ih _ h1.2 h2.2 x hx

theorem lastResort_codes (sizes symbols : List Nat) (hs : symbols.Pairwise (· < ·)) (h256 : ∀ s ∈ symbols, s < 256)
    (h8 : ∀ s ∈ symbols, sizes.getD s 0 = 8) (hn : 2 ≤ symbols.length) (hlen : symbols.length ≤ 256) :
    LensOk sizes symbols ∧
    ∃ ord, generateCanonicalCodes sizes (List.replicate 256 0) symbols
      = some (((List.range symbols.length).zip symbols).foldl (fun c p => c.set p.2 p.1) (List.replicate 256 0), ord) := by
  have hnd : symbols.Nodup := List.Pairwise.imp (fun hab => Nat.ne_of_lt hab) hs
  have hk : ∀ (l : List Nat), (∀ s ∈ l, sizes.getD s 0 = 8) → kraft12 sizes l = 16 * l.length := by
    intro l
    induction l with
    | nil => intro _; rfl
    | cons s ss ih =>
      intro h
      rw [kraft12_cons, ih (fun x hx => h x (List.mem_cons_of_mem _ hx)), slotW, h s List.mem_cons_self, List.length_cons]
      norm_num; omega
  have hlo : LensOk sizes symbols :=
    ⟨hnd, h256, fun s hs' => by rw [h8 s hs']; omega, by rw [hk symbols h8]; omega⟩
  refine ⟨hlo, ?_⟩
  obtain ⟨codes, hg, hcl, hco, hz⟩ := genCodes_ok sizes symbols hlo hn
  -- with equal lengths the canonical order is the alphabet order
  have hord : canonOrder sizes symbols = symbols := by
    apply sorted_ext
    · refine List.Pairwise.imp_of_mem ?_ (canonOrder_pairwise sizes symbols)
      intro a b ha hb hab
      have h1 := h8 a ((mem_canonOrder _ _ _).mp ha).2.1
      have h2 := h8 b ((mem_canonOrder _ _ _).mp hb).2.1
      omega
    · exact hs
    · exact fun x => (canonOrder_perm sizes symbols hnd h256 hlo.range).mem_iff
  rw [hord] at hco hg
  have hidx := idxCodes_spec sizes symbols 0 (List.replicate 256 0) hnd
    (fun s hs' => ⟨by rw [List.length_replicate]; exact h256 s hs', h8 s hs'⟩)
  rw [← List.range_eq_range'] at hidx
  obtain ⟨i1, i2, i3⟩ := hidx
  refine ⟨symbols, ?_⟩
  rw [hg]
  congr 2
  apply ext_getD
  · rw [hcl, i1, List.length_replicate]
  · intro x _
    by_cases hx : x ∈ symbols
    · exact CodesOk_unique sizes _ _ symbols 0 hco i3 x hx
    · rw [hz x hx, i2 x hx, getD_replicate_zero]

/-- **what `updateFrequencies` guarantees**, for the alphabet `a` of the histogram -/
structure UFOk (a : List Nat) (u : UF) : Prop where
  count : u.count = a.length
  slen : u.sizes.length = 256
  lens : LensOk u.sizes a
  bits : u.bits = encodeAlphabetBits a ++ encodeSizes u.sizes a 2
  codes : 2 ≤ a.length → ∃ codes ord, generateCanonicalCodes u.sizes (List.replicate 256 0) a = some (codes, ord) ∧
    u.codes = packCodes u.sizes a codes

theorem codesFor_spec (symbols freqs sizes0 : List Nat) (cl : CL) (br : Nat) (ha : AlphaOk freqs symbols)
    (hn : 2 ≤ symbols.length) (h : SizesOk sizes0 symbols cl) :
    ∃ u, codesFor symbols cl br = some u ∧ UFOk symbols u := by
  unfold codesFor
  by_cases hm : cl.maxLen > 12
  · rw [if_pos hm]
    obtain ⟨hf1, hf2⟩ := foldl_set_spec (fun _ => 8) symbols cl.sizes
    have h8 : ∀ s ∈ symbols, (symbols.foldl (fun sz s => sz.set s 8) cl.sizes).getD s 0 = 8 := by
      intro s hs; rw [hf2 s (by rw [h.len]; exact ha.lt s hs), if_pos hs]
    obtain ⟨hlo, ord, hg⟩ := lastResort_codes _ symbols ha.sorted ha.lt h8 hn ha.len
    exact ⟨_, rfl, rfl, by simp only [finishUF]; rw [hf1, h.len], hlo, rfl, fun _ => ⟨_, ord, hg, rfl⟩⟩
  · rw [if_neg hm]
    have hlo := h.fit (by omega)
    obtain ⟨codes, hg, _, _, _⟩ := genCodes_ok cl.sizes cl.ranks (hlo.perm h.perm) (by rw [h.perm.length_eq]; exact hn)
    rw [hg]
    refine ⟨_, rfl, rfl, h.len, hlo, rfl, fun _ => ⟨codes, canonOrder cl.sizes cl.ranks, ?_, rfl⟩⟩
    rw [← hg]
    exact (genCodes_congr cl.sizes cl.sizes cl.ranks symbols (fun x => h.perm.mem_iff) h.perm.length_eq
      (by rw [h.perm.length_eq]; exact hn) (fun _ _ => rfl)).symm

/-- **C12_huf_lengths_kraft / canonical codes, engine.**  For every histogram of 256 counts. -/
theorem updateFrequencies_spec (freqs : List Nat) (hl : freqs.length = 256) :
    ∃ u, updateFrequencies freqs = some u ∧ UFOk (support freqs) u := by
  have ha := support_alpha freqs hl
  unfold updateFrequencies
  rw [if_neg (by omega)]
  by_cases h0 : (support freqs).length = 0
  · rw [if_pos h0]
    have hnil : support freqs = [] := List.length_eq_zero_iff.mp h0
    refine ⟨_, rfl, by rw [hnil]; rfl, List.length_replicate .., ?_, by rw [hnil]; simp [encodeSizes], fun h => by omega⟩
    rw [hnil]
    exact ⟨List.nodup_nil, fun _ h => (by cases h), fun _ h => (by cases h), by unfold kraft12; exact Nat.zero_le _⟩
  · rw [if_neg h0]
    by_cases h1 : (support freqs).length = 1
    · rw [if_pos h1]
      obtain ⟨s, hs⟩ := List.length_eq_one_iff.mp h1
      have hs256 : s < 256 := ha.lt s (by rw [hs]; exact List.mem_singleton_self s)
      rw [hs]
      simp only [List.headD_cons]
      refine ⟨_, rfl, rfl, by simp only [finishUF]; rw [List.length_set, List.length_replicate], ?_, rfl,
        fun h => by simp at h⟩
      have hsz : ((List.replicate 256 0).set s 1).getD s 0 = 1 :=
        getD_set_self _ _ _ (by rw [List.length_replicate]; exact hs256)
      refine ⟨List.nodup_singleton s, fun x hx => by rw [List.mem_singleton.mp hx]; exact hs256,
        fun x hx => ?_, ?_⟩
      · rw [List.mem_singleton.mp hx]
        simp only [finishUF]
        rw [hsz]; omega
      · simp only [finishUF, kraft12, List.map_cons, List.map_nil, List.sum_cons, List.sum_nil, slotW]
        rw [hsz]; decide
    · rw [if_neg h1]
      have hn : 2 ≤ (support freqs).length := by omega
      obtain ⟨cl, hcl, hok⟩ := computeCodeLengths_spec (List.replicate 256 0) _ (support freqs)
        (ranks_syms (fun s => freqs.getD s 0) (support freqs) ha.lt)
        (fun r hr => by
          obtain ⟨s, hs, rfl⟩ := List.mem_map.mp hr
          rw [(rank_fields (freqs.getD s 0) s (ha.lt s hs)).1]
          exact ha.pos s hs)
        ha.nodup ha.lt hn ha.len (List.length_replicate ..)
      rw [hcl]
      simp only
      by_cases hm : cl.maxLen > 12
      · rw [if_pos hm]
        obtain ⟨cl2, br, hl2, hok2⟩ := limitCodeLengths_spec (support freqs) freqs (List.replicate 256 0) cl ha hn
          (List.length_replicate ..) hok
        rw [hl2]
        exact codesFor_spec (support freqs) freqs _ cl2 br ha hn hok2
      · rw [if_neg hm]
        exact codesFor_spec (support freqs) freqs _ cl 2 ha hn
          (sizesOk_of_cl _ _ cl hok (List.length_replicate ..) ha.nodup ha.lt)

end Kanzi.Huffman
