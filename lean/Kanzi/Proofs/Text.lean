/-
Helper lemmas for the text codecs (model `Kanzi/Model/Text.lean`): bit arithmetic, the two index codings
(`wordIndex1` / `readIdx1`, `wordIndex2` / `readIdx2`), every outcome of the index readers on arbitrary input
(with the exact panic conditions), and the word hash: its two multipliers are odd, so a hash step can be undone
modulo every `2^k`, `k ≤ 32`.
-/
import Kanzi.Model.Text
import Kanzi.Proofs.Base

namespace Kanzi.Text
open Kanzi.RLT (Out Res wr)

/-! ## bit arithmetic -/

theorem or_eq_add (k a b : Nat) (ha : a % 2 ^ k = 0) (hb : b < 2 ^ k) : a ||| b = a + b := by
  have h1 : a = (a / 2 ^ k) <<< k := by
    rw [Nat.shiftLeft_eq]
    exact (Nat.div_mul_cancel (Nat.dvd_of_mod_eq_zero ha)).symm
  rw [h1, ← Nat.shiftLeft_add_eq_or_of_lt hb]

theorem shl_or (k hi lo : Nat) (h : lo < 2 ^ k) : hi <<< k ||| lo = hi * 2 ^ k + lo := by
  rw [← Nat.shiftLeft_add_eq_or_of_lt h, Nat.shiftLeft_eq]

theorem shl7_or (hi lo : Nat) (h : lo < 128) : hi <<< 7 ||| lo = hi * 128 + lo := shl_or 7 hi lo h
theorem and7F (x : Nat) : x &&& 0x7F = x % 128 := Nat.and_two_pow_sub_one_eq_mod x 7
theorem and1F (x : Nat) : x &&& 0x1F = x % 32 := Nat.and_two_pow_sub_one_eq_mod x 5
theorem and0F (x : Nat) : x &&& 0x0F = x % 16 := Nat.and_two_pow_sub_one_eq_mod x 4

theorem or80 (y : Nat) (h : y < 256) : 0x80 ||| y = 128 + y % 128 := by
  by_cases h1 : y < 128
  · rw [or_eq_add 7 128 y (by decide) h1, Nat.mod_eq_of_lt h1]
  · have h2 : y = 128 ||| (y - 128) := by
      rw [or_eq_add 7 128 _ (by decide) (show y - 128 < 128 by omega)]
      omega
    rw [h2, ← Nat.or_assoc, Nat.or_self, ← h2]
    omega

theorem or80_mod (y : Nat) : (0x80 ||| y) % 256 = 128 + y % 128 := by
  have h := or80 (y % 256) (Nat.mod_lt _ (by decide))
  rw [Nat.or_mod_two_pow (n := 8)]
  rw [Nat.mod_mod_of_dvd y (by decide : 128 ∣ 256)] at h
  exact h

/-! ## arrays -/

/-! ## codec 1: index coding -/

theorem getElem?_pre (pre l : List Nat) (k : Nat) : (pre ++ l).toArray[pre.length + k]? = l[k]? := by
  rw [List.getElem?_toArray, List.getElem?_append_right (Nat.le_add_right ..), Nat.add_sub_cancel_left]

theorem getElem?_pre0 (pre l : List Nat) : (pre ++ l).toArray[pre.length]? = l[0]? :=
  getElem?_pre pre l 0

theorem wordIndex1_eq (val : Nat) : wordIndex1 val =
    if val < 128 then [val]
    else if val < 16384 then [(0x80 ||| (val >>> 7)) % 256, val &&& 0x7F]
    else [(0xE0 ||| (val >>> 14)) % 256, (0x80 ||| (val >>> 7)) % 256, val &&& 0x7F] := rfl

theorem wordIndex1_cases (idx : Nat) (h19 : idx < 2 ^ 19) :
    (idx < 128 ∧ wordIndex1 idx = [idx]) ∨
    (128 ≤ idx ∧ idx < 16384 ∧ wordIndex1 idx = [128 + idx / 128, idx % 128]) ∨
    (16384 ≤ idx ∧ wordIndex1 idx = [224 + idx / 16384, 128 + idx / 128 % 128, idx % 128]) := by
  have e19 : 2 ^ 19 = 524288 := by decide
  rw [wordIndex1_eq, or80_mod, and7F, Nat.shiftRight_eq_div_pow idx 7]
  by_cases h1 : idx < 128
  · exact Or.inl ⟨h1, if_pos h1⟩
  · by_cases h2 : idx < 16384
    · refine Or.inr (Or.inl ⟨by omega, h2, ?_⟩)
      rw [if_neg h1, if_pos h2, Nat.mod_eq_of_lt (show idx / 2 ^ 7 < 128 by omega)]
    · refine Or.inr (Or.inr ⟨by omega, ?_⟩)
      rw [if_neg h1, if_neg h2, Nat.shiftRight_eq_div_pow, or_eq_add 5 224 _ (by decide) (by omega),
        Nat.mod_eq_of_lt (by omega)]

theorem wordIndex1_length (idx : Nat) :
    (wordIndex1 idx).length = if idx < 128 then 1 else if idx < 16384 then 2 else 3 := by
  rw [wordIndex1_eq]
  by_cases h1 : idx < 128
  · simp [h1]
  · by_cases h2 : idx < 16384 <;> simp [h1, h2]

theorem wordIndex1_bytes (idx : Nat) : ∀ b ∈ wordIndex1 idx, b < 256 := by
  rw [wordIndex1_eq]
  intro b hb
  by_cases h1 : idx < 128
  · simp [h1] at hb; omega
  · by_cases h2 : idx < 16384
    · simp only [h1, h2, if_true, if_false, List.mem_cons, List.not_mem_nil, or_false] at hb
      rcases hb with rfl | rfl
      · exact Nat.mod_lt _ (by decide)
      · rw [and7F]; omega
    · simp only [h1, h2, if_false, List.mem_cons, List.not_mem_nil, or_false] at hb
      rcases hb with rfl | rfl | rfl
      · exact Nat.mod_lt _ (by decide)
      · exact Nat.mod_lt _ (by decide)
      · rw [and7F]; omega

/-! `readIdx1` on each of the three shapes (`v` is the index the bytes denote) -/

theorem readIdx1_one (src : Array Nat) (i d v : Nat) (h0 : src[i]? = some v) (hv : v < 128) :
    readIdx1 src i d = .ok (v, i + 1) := by
  unfold readIdx1
  rw [h0]
  exact if_neg (by omega)

theorem readIdx1_two (src : Array Nat) (i d q r v : Nat) (h0 : src[i]? = some (128 + q)) (h1 : src[i + 1]? = some r)
    (hq : q < 128) (hr : r < 128) (hv : q * 128 + r = v) (hd : v < d) : readIdx1 src i d = .ok (v, i + 2) := by
  have e : ((128 + q) &&& 0x7F) <<< 7 ||| r = v := by
    rw [and7F, Nat.add_mod_left, Nat.mod_eq_of_lt hq, shl7_or _ r hr]
    exact hv
  unfold readIdx1
  rw [h0]
  simp only
  rw [if_pos (by omega), h1]
  simp only
  rw [if_neg (by omega), e, if_neg (by omega)]

theorem readIdx1_three (src : Array Nat) (i d a q r v : Nat) (h0 : src[i]? = some (224 + a))
    (h1 : src[i + 1]? = some (128 + q)) (h2 : src[i + 2]? = some r) (ha : a < 32) (hq : q < 128) (hr : r < 128)
    (hv : (a * 128 + q) * 128 + r = v) (hd : v < d) : readIdx1 src i d = .ok (v, i + 3) := by
  have e : ((((224 + a) &&& 0x7F) &&& 0x1F) <<< 7 ||| ((128 + q) &&& 0x7F)) <<< 7 ||| r = v := by
    have ea : (224 + a) % 128 % 32 = a := by omega
    rw [and7F, and7F, and1F, ea, Nat.add_mod_left, Nat.mod_eq_of_lt hq, shl7_or a q hq, shl7_or _ r hr]
    exact hv
  unfold readIdx1
  rw [h0]
  simp only
  rw [if_pos (by omega), h1]
  simp only
  rw [if_pos (by omega), h2]
  simp only
  rw [e, if_neg (by omega)]

/-- the decoder of codec 1 reads back the index the encoder stored (`emitWordIndex1`), for every index
    below the maximal dictionary size `2^19` and below the current dictionary size `dsize` -/
theorem readIdx1_wordIndex1 (pre rest : List Nat) (idx dsize : Nat) (h19 : idx < 2 ^ 19) (hd : idx < dsize) :
    readIdx1 (pre ++ (wordIndex1 idx ++ rest)).toArray pre.length dsize =
      .ok (idx, pre.length + (wordIndex1 idx).length) := by
  have e19 : 2 ^ 19 = 524288 := by decide
  rcases wordIndex1_cases idx h19 with ⟨h, e⟩ | ⟨h1, h2, e⟩ | ⟨h, e⟩
  · rw [e]
    exact readIdx1_one _ _ _ _ (getElem?_pre0 pre _) h
  · rw [e]
    exact readIdx1_two _ _ _ _ _ _ (getElem?_pre0 pre _) (getElem?_pre pre _ 1) (by omega) (by omega) (by omega) hd
  · rw [e]
    exact readIdx1_three _ _ _ _ _ _ _ (getElem?_pre0 pre _) (getElem?_pre pre _ 1) (getElem?_pre pre _ 2)
      (by omega) (by omega) (by omega) (by omega) hd

/-! ## codec 2: index coding -/

theorem wordIndex2_eq (val : Nat) : wordIndex2 val =
    if val + 1 ≥ 64 then
      if val + 1 ≥ 8192 then [(0xF0 ||| ((val + 1) >>> 16)) % 256, ((val + 1) >>> 8) % 256, (val + 1) % 256]
      else [(0xC0 ||| ((val + 1) >>> 8)) % 256, (val + 1) % 256]
    else [0x80 ||| (val + 1)] := rfl

theorem wordIndex2_cases (val : Nat) (h19 : val < 2 ^ 19) :
    (val + 1 < 64 ∧ wordIndex2 val = [128 + (val + 1)]) ∨
    (64 ≤ val + 1 ∧ val + 1 < 8192 ∧ wordIndex2 val = [192 + (val + 1) / 256, (val + 1) % 256]) ∨
    (8192 ≤ val + 1 ∧ wordIndex2 val = [240 + (val + 1) / 65536, (val + 1) / 256 % 256, (val + 1) % 256]) := by
  have h19' : 2 ^ 19 = 524288 := by decide
  rw [wordIndex2_eq, Nat.shiftRight_eq_div_pow _ 8, Nat.shiftRight_eq_div_pow _ 16]
  by_cases h1 : val + 1 ≥ 64
  · by_cases h2 : val + 1 ≥ 8192
    · refine Or.inr (Or.inr ⟨h2, ?_⟩)
      rw [if_pos h1, if_pos h2, or_eq_add 4 240 _ (by decide) (by omega), Nat.mod_eq_of_lt (by omega)]
    · refine Or.inr (Or.inl ⟨h1, by omega, ?_⟩)
      rw [if_pos h1, if_neg h2, or_eq_add 5 192 _ (by decide) (by omega), Nat.mod_eq_of_lt (by omega)]
  · refine Or.inl ⟨by omega, ?_⟩
    rw [if_neg h1, or_eq_add 7 128 _ (by decide) (by omega)]

theorem wordIndex2_length (val : Nat) :
    (wordIndex2 val).length = if val + 1 < 64 then 1 else if val + 1 < 8192 then 2 else 3 := by
  rw [wordIndex2_eq]
  by_cases h1 : val + 1 ≥ 64
  · by_cases h2 : val + 1 ≥ 8192
    · rw [if_pos h1, if_pos h2, if_neg (by omega), if_neg (by omega)]; rfl
    · rw [if_pos h1, if_neg h2, if_neg (by omega), if_pos (by omega)]; rfl
  · rw [if_neg h1, if_pos (by omega)]; rfl

theorem wordIndex2_bytes (val : Nat) (h19 : val < 2 ^ 19) : ∀ b ∈ wordIndex2 val, b < 256 := by
  have h19' : 2 ^ 19 = 524288 := by decide
  intro b hb
  rcases wordIndex2_cases val h19 with ⟨h, e⟩ | ⟨h1, h2, e⟩ | ⟨h, e⟩ <;> rw [e] at hb <;>
    simp only [List.mem_cons, List.not_mem_nil, or_false] at hb
  · omega
  · rcases hb with rfl | rfl <;> omega
  · rcases hb with rfl | rfl | rfl <;> omega

/-- the first byte of a codec-2 index is above 0x80: it is neither a literal nor the flip marker -/
theorem wordIndex2_head (val : Nat) (h19 : val < 2 ^ 19) :
    ∃ c tl, wordIndex2 val = c :: tl ∧ 128 < c ∧ c < 256 := by
  have h19' : 2 ^ 19 = 524288 := by decide
  rcases wordIndex2_cases val h19 with ⟨h, e⟩ | ⟨h1, h2, e⟩ | ⟨h, e⟩
  · exact ⟨_, _, e, by omega, by omega⟩
  · exact ⟨_, _, e, by omega, by omega⟩
  · exact ⟨_, _, e, by omega, by omega⟩

/-! `readIdx2Core` on each of the three shapes (`c`: the first index byte, `v + 1`: the number the bytes denote) -/

theorem readIdx2Core_one (src : Array Nat) (i fl d v : Nat) (hv : v + 1 < 64) :
    readIdx2Core src (128 + (v + 1)) i fl d = .ok (v, i, fl) := by
  have e : (128 + (v + 1)) &&& 0x7F = v + 1 := by
    rw [and7F, Nat.add_mod_left, Nat.mod_eq_of_lt (by omega)]
  unfold readIdx2Core
  rw [e, if_neg (by omega), if_neg (by omega)]
  rfl

theorem readIdx2Core_two (src : Array Nat) (i fl d a r v : Nat) (h0 : src[i]? = some r) (ha : a < 32)
    (hr : r < 256) (hv : a * 256 + r = v + 1) (hd : v < d) :
    readIdx2Core src (192 + a) i fl d = .ok (v, i + 1, fl) := by
  have ec : (192 + a) &&& 0x7F = 64 + a := by
    rw [and7F]
    omega
  have e : ((64 + a) &&& 0x1F) <<< 8 ||| r = v + 1 := by
    rw [and1F, show (64 + a) % 32 = a by omega, shl8_or a r hr]
    exact hv
  unfold readIdx2Core readIdx2Multi
  rw [ec, if_pos (by omega), if_neg (by omega), h0]
  simp only
  rw [e, if_neg (by omega), if_neg (by omega)]
  rfl

theorem readIdx2Core_three (src : Array Nat) (i fl d a q r v : Nat) (h0 : src[i]? = some q) (h1 : src[i + 1]? = some r)
    (ha : a < 16) (hq : q < 256) (hr : r < 256) (hv : (a * 256 + q) * 256 + r = v + 1) (hd : v < d) :
    readIdx2Core src (240 + a) i fl d = .ok (v, i + 2, fl) := by
  have e : ((112 + a) &&& 0x0F) <<< 16 ||| q <<< 8 ||| r = v + 1 := by
    rw [and0F, show (112 + a) % 16 = a by omega, Nat.shiftLeft_add a 8 8, ← Nat.shiftLeft_or_distrib,
      shl8_or a q hq, shl8_or _ r hr]
    exact hv
  have ec : (240 + a) &&& 0x7F = 112 + a := by
    rw [and7F]
    omega
  unfold readIdx2Core readIdx2Multi
  rw [ec, if_pos (by omega), if_pos (by omega), h0, h1]
  simp only
  rw [e, if_neg (by omega), if_neg (by omega)]
  rfl

/-- the decoder of codec 2 (current bitstream version) reads back the index the encoder stored
    (`emitWordIndex2`): `c :: tl` are the index bytes, `i = pre.length` the position after `c` -/
theorem readIdx2Core_wordIndex2 (pre rest tl : List Nat) (c idx dsize fl : Nat) (h19 : idx < 2 ^ 19)
    (hd : idx < dsize) (hw : wordIndex2 idx = c :: tl) :
    readIdx2Core (pre ++ (tl ++ rest)).toArray c pre.length fl dsize = .ok (idx, pre.length + tl.length, fl) := by
  have h19' : 2 ^ 19 = 524288 := by decide
  rcases wordIndex2_cases idx h19 with ⟨h, e⟩ | ⟨h1, h2, e⟩ | ⟨h, e⟩
  · rw [e] at hw
    obtain ⟨rfl, rfl⟩ := List.cons.inj hw
    exact readIdx2Core_one _ _ _ _ _ h
  · rw [e] at hw
    obtain ⟨rfl, rfl⟩ := List.cons.inj hw
    exact readIdx2Core_two _ _ _ _ _ _ _ (getElem?_pre0 pre _) (by omega) (by omega) (by omega) hd
  · rw [e] at hw
    obtain ⟨rfl, rfl⟩ := List.cons.inj hw
    exact readIdx2Core_three _ _ _ _ _ _ _ _ (getElem?_pre0 pre _) (getElem?_pre pre _ 1) (by omega) (by omega)
      (by omega) (by omega) hd

/-- ... without the flip marker: `cur = c` is the first index byte -/
theorem readIdx2_plain (pre rest tl : List Nat) (c idx dsize : Nat) (h19 : idx < 2 ^ 19)
    (hd : idx < dsize) (hw : wordIndex2 idx = c :: tl) :
    readIdx2 (pre ++ (tl ++ rest)).toArray pre.length c dsize = .ok (idx, pre.length + tl.length, 0) := by
  have h19' : 2 ^ 19 = 524288 := by decide
  unfold readIdx2
  have hc : c ≠ MASK_FLIP_CASE := by
    obtain ⟨c', tl', e, h1, _⟩ := wordIndex2_head idx h19
    rw [e] at hw
    obtain ⟨rfl, rfl⟩ := List.cons.inj hw
    simp only [MASK_FLIP_CASE]; omega
  rw [if_neg hc]
  exact readIdx2Core_wordIndex2 pre rest tl c idx dsize 0 h19 hd hw

/-- ... with the flip marker 0x80 in front: `cur = 0x80`, the index bytes follow -/
theorem readIdx2_flip (pre rest tl : List Nat) (c idx dsize : Nat) (h19 : idx < 2 ^ 19)
    (hd : idx < dsize) (hw : wordIndex2 idx = c :: tl) :
    readIdx2 (pre ++ (c :: (tl ++ rest))).toArray pre.length MASK_FLIP_CASE dsize =
      .ok (idx, pre.length + 1 + tl.length, 0x20) := by
  unfold readIdx2
  rw [if_pos rfl, getElem?_pre0]
  simp only [List.getElem?_cons_zero]
  have := readIdx2Core_wordIndex2 (pre ++ [c]) rest tl c idx dsize 0x20 h19 hd hw
  simpa using this

/-! ## the index readers: every outcome -/

theorem lt_of_getElem?_some (a : Array Nat) (i b : Nat) (h : a[i]? = some b) : i < a.size := by
  by_cases c : i < a.size
  · exact c
  · rw [Array.getElem?_eq_none (by omega)] at h; cases h

/-- the index behind an escape byte at `src[i-1]` needs a byte that lies beyond the end of the source -/
def trunc1 (a : Array Nat) (i : Nat) : Bool :=
  match a[i]? with
  | none => true
  | some b0 =>
    decide (b0 ≥ 128) &&
      (match a[i + 1]? with
       | none => true
       | some b1 => decide (b1 ≥ 0x80) && (a[i + 2]?).isNone)

/-- codec 1: the index reader panics exactly when the index is cut off by the end of the source; otherwise it
    rejects the index (`>= dictSize`, only checked in the 2 / 3 byte forms) or returns an index below `dictSize` or
    below 128 and a position inside the source -/
theorem readIdx1_cases (a : Array Nat) (i dsize : Nat) :
    (trunc1 a i = true ∧ readIdx1 a i dsize = .fault "src-index") ∨
    (trunc1 a i = false ∧ (readIdx1 a i dsize = .err "index" ∨
      ∃ idx i2, readIdx1 a i dsize = .ok (idx, i2) ∧ i < i2 ∧ i2 ≤ a.size ∧ (idx < dsize ∨ idx < 128))) := by
  unfold readIdx1 trunc1
  cases h0 : a[i]? with
  | none => exact Or.inl ⟨rfl, rfl⟩
  | some b0 =>
    have l0 := lt_of_getElem?_some a i b0 h0
    simp only
    by_cases c0 : b0 ≥ 128
    · rw [if_pos c0, decide_eq_true c0, Bool.true_and]
      cases h1 : a[i + 1]? with
      | none => exact Or.inl ⟨rfl, rfl⟩
      | some b1 =>
        have l1 := lt_of_getElem?_some a _ b1 h1
        simp only
        by_cases c1 : b1 ≥ 0x80
        · rw [if_pos c1, decide_eq_true c1, Bool.true_and]
          cases h2 : a[i + 2]? with
          | none => exact Or.inl ⟨rfl, rfl⟩
          | some b2 =>
            have l2 := lt_of_getElem?_some a _ b2 h2
            refine Or.inr ⟨rfl, ?_⟩
            simp only
            split
            · exact Or.inl rfl
            · exact Or.inr ⟨_, _, rfl, by omega, by omega, Or.inl (by omega)⟩
        · rw [if_neg c1, decide_eq_false c1, Bool.false_and]
          refine Or.inr ⟨rfl, ?_⟩
          split
          · exact Or.inl rfl
          · exact Or.inr ⟨_, _, rfl, by omega, by omega, Or.inl (by omega)⟩
    · rw [if_neg c0, decide_eq_false c0, Bool.false_and]
      exact Or.inr ⟨rfl, Or.inr ⟨_, _, rfl, by omega, by omega, Or.inr (by omega)⟩⟩

theorem readIdx1_fault_iff (a : Array Nat) (i dsize : Nat) (e : String) :
    readIdx1 a i dsize = .fault e ↔ (e = "src-index" ∧ trunc1 a i = true) := by
  rcases readIdx1_cases a i dsize with ⟨ht, h⟩ | ⟨ht, h | ⟨idx, i2, h, _⟩⟩
  · rw [h, ht]
    exact ⟨fun he => by cases he; exact ⟨rfl, rfl⟩, fun he => by rw [he.1]⟩
  · rw [h, ht]
    exact ⟨fun he => (nomatch he), fun he => (nomatch he.2)⟩
  · rw [h, ht]
    exact ⟨fun he => (nomatch he), fun he => (nomatch he.2)⟩

theorem and7F_lt (c : Nat) : c &&& 0x7F < 128 := by rw [and7F]; omega

/-- a byte of the multi-byte index lies beyond the end of the source -/
def cut2Core (a : Array Nat) (c i : Nat) : Bool :=
  if c &&& 0x7F ≥ 112 then (a[i]?).isNone || (a[i + 1]?).isNone
  else if c &&& 0x7F ≥ 64 then (a[i]?).isNone
  else false

/-- the multi-byte index is complete and its value is 0 -/
def zero2Core (a : Array Nat) (c i : Nat) : Bool :=
  if c &&& 0x7F ≥ 112 then
    match a[i]?, a[i + 1]? with
    | some b1, some b2 => ((((c &&& 0x7F) &&& 0x0F) <<< 16) ||| (b1 <<< 8) ||| b2) == 0
    | _, _ => false
  else if c &&& 0x7F ≥ 64 then
    match a[i]? with
    | some b1 => ((((c &&& 0x7F) &&& 0x1F) <<< 8) ||| b1) == 0
    | none => false
  else false

/-- the second and third byte of a codec 2 index: cut off, or a value whose being 0 is `zero2Core` -/
theorem readIdx2Multi_cases (a : Array Nat) (c i : Nat) (c0 : c &&& 0x7F ≥ 64) :
    (cut2Core a c i = true ∧ zero2Core a c i = false ∧ readIdx2Multi a (c &&& 0x7F) i = .fault "src-index") ∨
    ∃ v i2, cut2Core a c i = false ∧ zero2Core a c i = (v == 0) ∧ readIdx2Multi a (c &&& 0x7F) i = .ok (v, i2) ∧
      i ≤ i2 ∧ i2 ≤ a.size := by
  unfold readIdx2Multi cut2Core zero2Core
  by_cases c1 : c &&& 0x7F ≥ 112
  · simp only [if_pos c1]
    cases h1 : a[i]? with
    | none => exact Or.inl ⟨rfl, rfl, rfl⟩
    | some b1 =>
      cases h2 : a[i + 1]? with
      | none => exact Or.inl ⟨rfl, rfl, rfl⟩
      | some b2 =>
        have l2 := lt_of_getElem?_some a _ b2 h2
        exact Or.inr ⟨_, _, rfl, rfl, rfl, by omega, by omega⟩
  · simp only [if_neg c1, if_pos c0]
    cases h1 : a[i]? with
    | none => exact Or.inl ⟨rfl, rfl, rfl⟩
    | some b1 =>
      have l1 := lt_of_getElem?_some a _ b1 h1
      exact Or.inr ⟨_, _, rfl, rfl, rfl, by omega, by omega⟩

/-- codec 2, current format: panic (`src-index` exactly when an index byte lies beyond the source, `dict-index`
    exactly for the unchecked index 0 of the multi-byte forms: `dictList[-1]`), rejected index, or an index below
    `dictSize` or below 128 (the one-byte form, which is not checked against `dictSize`) -/
theorem readIdx2Core_cases (a : Array Nat) (c i flip dsize : Nat) :
    (cut2Core a c i = true ∧ zero2Core a c i = false ∧ readIdx2Core a c i flip dsize = .fault "src-index") ∨
    (cut2Core a c i = false ∧ zero2Core a c i = true ∧ readIdx2Core a c i flip dsize = .fault "dict-index") ∨
    (cut2Core a c i = false ∧ zero2Core a c i = false ∧ (readIdx2Core a c i flip dsize = .err "index" ∨
      ∃ idx i2 fl, readIdx2Core a c i flip dsize = .ok (idx, i2, fl) ∧ i ≤ i2 ∧ (i ≤ a.size → i2 ≤ a.size) ∧
        (idx < dsize ∨ idx < 128))) := by
  by_cases c0 : c &&& 0x7F ≥ 64
  · unfold readIdx2Core
    rw [if_pos c0]
    rcases readIdx2Multi_cases a c i c0 with ⟨hc, hz, hm⟩ | ⟨v, i2, hc, hz, hm, h1, h2⟩
    · rw [hm]; exact Or.inl ⟨hc, hz, rfl⟩
    · rw [hm, hz]
      simp only
      by_cases c2 : v > dsize
      · rw [if_pos c2]
        exact Or.inr (Or.inr ⟨hc, beq_eq_false_iff_ne.mpr (by omega), Or.inl rfl⟩)
      · rw [if_neg c2]
        by_cases c3 : v = 0
        · rw [if_pos c3]; exact Or.inr (Or.inl ⟨hc, beq_iff_eq.mpr c3, rfl⟩)
        · rw [if_neg c3]
          exact Or.inr (Or.inr ⟨hc, beq_eq_false_iff_ne.mpr c3, Or.inr ⟨_, _, _, rfl, h1, fun _ => h2, Or.inl (by omega)⟩⟩)
  · have c1 : ¬ c &&& 0x7F ≥ 112 := by omega
    have hc : cut2Core a c i = false := by unfold cut2Core; rw [if_neg c1, if_neg c0]
    have hz : zero2Core a c i = false := by unfold zero2Core; rw [if_neg c1, if_neg c0]
    unfold readIdx2Core
    rw [if_neg c0]
    by_cases c2 : c &&& 0x7F = 0
    · rw [if_pos c2]; exact Or.inr (Or.inr ⟨hc, hz, Or.inl rfl⟩)
    · rw [if_neg c2]
      exact Or.inr (Or.inr ⟨hc, hz, Or.inr ⟨_, _, _, rfl, Nat.le_refl _, id, Or.inr (by omega)⟩⟩)

theorem readIdx2Core_fault_iff (a : Array Nat) (c i flip dsize : Nat) (e : String) :
    readIdx2Core a c i flip dsize = .fault e ↔
      ((e = "src-index" ∧ cut2Core a c i = true) ∨ (e = "dict-index" ∧ zero2Core a c i = true)) := by
  rcases readIdx2Core_cases a c i flip dsize with ⟨hc, hz, h⟩ | ⟨hc, hz, h⟩ | ⟨hc, hz, h | ⟨idx, i2, fl, h, _⟩⟩
  · rw [h, hc, hz]
    exact ⟨fun he => by cases he; exact Or.inl ⟨rfl, rfl⟩, fun he => by
      rcases he with he | he
      · rw [he.1]
      · cases he.2⟩
  · rw [h, hc, hz]
    exact ⟨fun he => by cases he; exact Or.inr ⟨rfl, rfl⟩, fun he => by
      rcases he with he | he
      · cases he.2
      · rw [he.1]⟩
  · rw [h, hc, hz]
    exact ⟨fun he => (nomatch he), fun he => he.elim (fun x => nomatch x.2) (fun x => nomatch x.2)⟩
  · rw [h, hc, hz]
    exact ⟨fun he => (nomatch he), fun he => he.elim (fun x => nomatch x.2) (fun x => nomatch x.2)⟩

theorem readIdx2_cases (a : Array Nat) (i cur dsize : Nat) (hi : i ≤ a.size) :
    readIdx2 a i cur dsize = .fault "src-index" ∨ readIdx2 a i cur dsize = .fault "dict-index" ∨
    readIdx2 a i cur dsize = .err "index" ∨
    ∃ idx i2 fl, readIdx2 a i cur dsize = .ok (idx, i2, fl) ∧ i ≤ i2 ∧ i2 ≤ a.size ∧ (idx < dsize ∨ idx < 128) := by
  have core : ∀ c j flip, i ≤ j → j ≤ a.size →
      readIdx2Core a c j flip dsize = .fault "src-index" ∨ readIdx2Core a c j flip dsize = .fault "dict-index" ∨
      readIdx2Core a c j flip dsize = .err "index" ∨
      ∃ idx i2 fl, readIdx2Core a c j flip dsize = .ok (idx, i2, fl) ∧ i ≤ i2 ∧ i2 ≤ a.size ∧
        (idx < dsize ∨ idx < 128) := by
    intro c j flip hij hj
    rcases readIdx2Core_cases a c j flip dsize with ⟨_, _, h⟩ | ⟨_, _, h⟩ | ⟨_, _, h | ⟨idx, i2, fl, h, h1, h2, h3⟩⟩
    · exact Or.inl h
    · exact Or.inr (Or.inl h)
    · exact Or.inr (Or.inr (Or.inl h))
    · exact Or.inr (Or.inr (Or.inr ⟨idx, i2, fl, h, by omega, h2 hj, h3⟩))
  unfold readIdx2
  by_cases c : cur = MASK_FLIP_CASE
  · rw [if_pos c]
    cases h0 : a[i]? with
    | none => exact Or.inl rfl
    | some b =>
      have l0 := lt_of_getElem?_some a _ b h0
      exact core b (i + 1) 0x20 (by omega) (by omega)
  · rw [if_neg c]
    exact core cur i 0 (Nat.le_refl _) hi

/-- codec 2, old format (bsVersion < 6): panic only by reading beyond the source -/
theorem readIdx2Old_cases (a : Array Nat) (i cur dsize : Nat) (hi : i ≤ a.size) :
    readIdx2Old a i cur dsize = .fault "src-index" ∨ readIdx2Old a i cur dsize = .err "index" ∨
    ∃ idx i2 fl, readIdx2Old a i cur dsize = .ok (idx, i2, fl) ∧ i ≤ i2 ∧ i2 ≤ a.size ∧ (idx < dsize ∨ idx < 128) := by
  unfold readIdx2Old
  simp only
  have h1F : cur &&& 0x1F < 32 := by rw [and1F]; omega
  by_cases c : cur &&& 0x40 ≠ 0
  · rw [if_pos c]
    cases h0 : a[i]? with
    | none => exact Or.inl rfl
    | some b1 =>
      have l0 := lt_of_getElem?_some a _ b1 h0
      simp only
      by_cases c1 : b1 ≥ 128
      · rw [if_pos c1]
        cases h1 : a[i + 1]? with
        | none => exact Or.inl rfl
        | some b2 =>
          have l1 := lt_of_getElem?_some a _ b2 h1
          simp only [Out.bind]
          split
          · exact Or.inr (Or.inl rfl)
          · exact Or.inr (Or.inr ⟨_, _, _, rfl, by omega, by omega, Or.inl (by omega)⟩)
      · rw [if_neg c1]
        simp only [Out.bind]
        split
        · exact Or.inr (Or.inl rfl)
        · exact Or.inr (Or.inr ⟨_, _, _, rfl, by omega, by omega, Or.inl (by omega)⟩)
  · rw [if_neg c]
    exact Or.inr (Or.inr ⟨_, _, _, rfl, Nat.le_refl _, hi, Or.inr (by omega)⟩)

/-! ## the word hash: equal hashes and equal tails give equal first bytes, also modulo `2^k` -/

theorem mul_unit_mod (K KI m a : Nat) (h : (K * KI) % m = 1 % m) : ((a * K) % m * KI) % m = a % m := by
  rw [Nat.mod_mul_mod, Nat.mul_assoc, ← Nat.mul_mod_mod, h, Nat.mul_mod_mod, Nat.mul_one]

/-- the inverses of `HASH1`, `HASH2` modulo `2^32` (checked in `hash1_unit`, `hash2_unit`) -/
def HASH1_INV : Nat := 0x1d69e2a5
def HASH2_INV : Nat := 0x43021123

theorem hash1_unit (k : Nat) (hk : k ≤ 32) : (HASH1 * HASH1_INV) % 2 ^ k = 1 % 2 ^ k := by
  have h : (HASH1 * HASH1_INV) % 2 ^ 32 = 1 := by decide
  have hd : 2 ^ k ∣ 2 ^ 32 := Nat.pow_dvd_pow 2 hk
  rw [← Nat.mod_mod_of_dvd _ hd, h]

theorem hash2_unit (k : Nat) (hk : k ≤ 32) : (HASH2 * HASH2_INV) % 2 ^ k = 1 % 2 ^ k := by
  have h : (HASH2 * HASH2_INV) % 2 ^ 32 = 1 := by decide
  have hd : 2 ^ k ∣ 2 ^ 32 := Nat.pow_dvd_pow 2 hk
  rw [← Nat.mod_mod_of_dvd _ hd, h]

theorem hashStep_lt (h c : Nat) : hashStep h c < 2 ^ 32 := by
  unfold hashStep
  exact Nat.xor_lt_two_pow (Nat.mod_lt _ (by decide)) (Nat.mod_lt _ (by decide))

theorem hashStep_mod (h c k : Nat) (hk : k ≤ 32) :
    hashStep h c % 2 ^ k = ((h * HASH1) % 2 ^ k) ^^^ ((c * HASH2) % 2 ^ k) := by
  have hd : 2 ^ k ∣ 2 ^ 32 := Nat.pow_dvd_pow 2 hk
  unfold hashStep
  rw [Nat.xor_mod_two_pow, Nat.mod_mod_of_dvd _ hd, Nat.mod_mod_of_dvd _ hd]

theorem hashStep_inj_acc (h h' c k : Nat) (hk : k ≤ 32) (e : hashStep h c % 2 ^ k = hashStep h' c % 2 ^ k) :
    h % 2 ^ k = h' % 2 ^ k := by
  rw [hashStep_mod _ _ _ hk, hashStep_mod _ _ _ hk] at e
  have e1 := xor_cancel_right e
  rw [← mul_unit_mod HASH1 HASH1_INV (2 ^ k) h (hash1_unit k hk), e1,
    mul_unit_mod HASH1 HASH1_INV (2 ^ k) h' (hash1_unit k hk)]

theorem hashStep_inj_byte (h c c' k : Nat) (hk : k ≤ 32) (e : hashStep h c % 2 ^ k = hashStep h c' % 2 ^ k) :
    c % 2 ^ k = c' % 2 ^ k := by
  rw [hashStep_mod _ _ _ hk, hashStep_mod _ _ _ hk] at e
  have e1 := xor_cancel_left e
  rw [← mul_unit_mod HASH2 HASH2_INV (2 ^ k) c (hash2_unit k hk), e1,
    mul_unit_mod HASH2 HASH2_INV (2 ^ k) c' (hash2_unit k hk)]

theorem foldl_hashStep_inj (k : Nat) (hk : k ≤ 32) :
    ∀ (t : List Nat) (x y : Nat), t.foldl hashStep x % 2 ^ k = t.foldl hashStep y % 2 ^ k → x % 2 ^ k = y % 2 ^ k
  | [], _, _, e => e
  | c :: t, x, y, e => hashStep_inj_acc x y c k hk (foldl_hashStep_inj k hk t _ _ e)

theorem hashWord_first_mod (a b : Nat) (t : List Nat) (k : Nat) (hk : k ≤ 32)
    (e : hashWord (a :: t) % 2 ^ k = hashWord (b :: t) % 2 ^ k) : a % 2 ^ k = b % 2 ^ k :=
  hashStep_inj_byte HASH1 a b k hk (foldl_hashStep_inj k hk t _ _ e)

/-- hash equality + equal tails decide the first byte: the collision check of the codecs (which compares
    the tails only) is exact -/
theorem hashWord_first (a b : Nat) (t : List Nat) (ha : a < 256) (hb : b < 256)
    (e : hashWord (a :: t) = hashWord (b :: t)) : a = b := by
  have := hashWord_first_mod a b t 32 (Nat.le_refl _) (by rw [e])
  have h32 : 2 ^ 32 = 4294967296 := by decide
  omega

theorem foldl_hashStep_lt : ∀ (w : List Nat) (x : Nat), x < 2 ^ 32 → w.foldl hashStep x < 2 ^ 32
  | [], _, h => h
  | c :: t, x, _ => foldl_hashStep_lt t (hashStep x c) (hashStep_lt x c)

theorem hashWord_lt (w : List Nat) : hashWord w < 2 ^ 32 := foldl_hashStep_lt w HASH1 (by decide)

/-- the word and its case-flipped twin never share a slot of a hash table with at least 64 entries -/
theorem hashWord_flip_slot (a : Nat) (t : List Nat) (k : Nat) (hk6 : 6 ≤ k) (hk : k ≤ 32) :
    hashWord (a :: t) % 2 ^ k ≠ hashWord ((a ^^^ 0x20) :: t) % 2 ^ k := by
  intro e
  have h := hashWord_first_mod a (a ^^^ 0x20) t k hk e
  rw [Nat.xor_mod_two_pow] at h
  have h32 : 0x20 % 2 ^ k = 0x20 := Nat.mod_eq_of_lt (by
    calc 0x20 < 2 ^ 6 := by decide
      _ ≤ 2 ^ k := Nat.pow_le_pow_right (by decide) hk6)
  rw [h32] at h
  have : (a % 2 ^ k) ^^^ 0 = (a % 2 ^ k) ^^^ 0x20 := by rw [Nat.xor_zero]; exact h
  have := xor_cancel_left this
  omega

end Kanzi.Text
