/-
ROLZ (`rolzCodec1`): the decoder follows the encoder through the sequences of a chunk.  The encoder visits the
positions of a literal run one by one (registering each, skipping ahead as the run grows) until it finds a
match; the decoder gets the run as a whole (token, literals) and re-registers the same positions in one loop
(`regRun`).  `Cont` ties the two: the decoder's loop, resumed at the encoder's current position with the tables
the encoder's visits imply, gives what the loop started at the run start gives.
-/
import Kanzi.Proofs.Rolz1Total

namespace Kanzi.ROLZ

/-- the four side buffers of `s` are prefixes of those of `s'` -/
structure Grow (s s' : F1) : Prop where
  lit : Pre s.lit s'.lit
  len : Pre s.len s'.len
  mix : Pre s.mix s'.mix
  tk : Pre s.tk s'.tk

theorem grow_refl (s : F1) : Grow s s := ⟨pre_refl _, pre_refl _, pre_refl _, pre_refl _⟩

theorem grow_trans {s1 s2 s3 : F1} (h1 : Grow s1 s2) (h2 : Grow s2 s3) : Grow s1 s3 :=
  ⟨pre_trans h1.lit h2.lit, pre_trans h1.len h2.len, pre_trans h1.mix h2.mix, pre_trans h1.tk h2.tk⟩

theorem step_grow {a : Array Nat} {base lim mm delta lpc : Nat} {l l' : L1} (h : Step a base lim mm delta lpc l l') :
    Grow l.st l'.st := by
  cases h with
  | skip => exact ⟨pre_refl _, pre_refl _, pre_refl _, pre_refl _⟩
  | seq => exact ⟨pre_appendA _ _, pre_appendL _ _, pre_appendL _ _, pre_appendL _ _⟩

theorem fwd1Tail_grow {a : Array Nat} {cp : Caps} {lpc base lim first j : Nat} {s s' : F1} (hc : CapOk cp base lim)
    (hb : BInv s cp lpc base first j) (hfl : first ≤ lim) (hlim : lim ≤ a.size)
    (h : fwd1Tail a cp first lim s = .ok s') : Grow s s' := by
  rw [fwd1Tail_eq hc hb hfl hlim] at h
  injection h with h
  rw [← h]
  exact ⟨pre_appendA _ _, pre_appendL _ _, pre_refl _, pre_appendL _ _⟩

theorem fwd1Loop_grow {a : Array Nat} {cp : Caps} {base lim mm delta lpc f : Nat} (hpar : ParamsOk mm delta)
    (hmm : 3 ≤ mm ∧ mm ≤ 7) (hc : CapOk cp base lim) (hlim : lim + 4 ≤ a.size) {l lfin : L1}
    (h : fwd1Loop a cp base lim mm delta lpc f l = .ok lfin) (hbi : base + 8 ≤ l.i ∨ lim ≤ l.i) (hf : lim - l.i + 1 ≤ f)
    (hl : LInv l cp lpc base lim) : Grow l.st lfin.st ∧ LInv lfin cp lpc base lim :=
  have q := (fwd1Loop_sat hpar hmm hc hlim (Q := fun x => Grow l.st x.st) (fun _ _ _ hs hg => grow_trans hg (step_grow hs))
    f l hbi hf hl (grow_refl _)).ok h
  ⟨q.2.2, q.1⟩

theorem extract_getD (a : Array Nat) (i j k : Nat) (hk : k < j - i) (hj : j ≤ a.size) :
    (a.extract i j).toList.getD k 0 = a.getD (i + k) 0 := by
  rw [toList_getD]
  simp only [Array.getD_eq_getD_getElem?, Array.getElem?_extract]
  rw [if_pos (by omega)]

/-- one iteration of the loop of Inverse on a sequence (literal run `[j.i, p)`, then a match of `ml + mm` bytes at
    `p` with ring index `mi`), given what the side buffers hold at the decoder's indexes and what the
    registration loop of the run produces (`T`) -/
theorem inv1Step_seq {a : Array Nat} {sd : Side} {dstEnd base lim mm delta lpc : Nat} {j : J1} {litLen ml mi p keyP : Nat}
    {T : Tab} (hpar : ParamsOk mm delta) (hmm : 3 ≤ mm ∧ mm ≤ 7)
    (htok : sd.tk.getD j.tkIdx 0 = tokOf litLen ml) (htk1 : j.tkIdx < sd.tk.size)
    (hlen : At sd.len j.lenIdx (lenBytesOf litLen ml))
    (hlen4 : j.lenIdx + (lenBytesOf litLen ml).length + 4 ≤ sd.len.size) (hll : litLen < 2 ^ 28) (hml : ml < 2 ^ 28)
    (hlit : ∀ k, k < litLen → sd.lit.getD (j.litIdx + k) 0 = a.getD (j.i + k) 0)
    (hlitsz : j.litIdx + litLen ≤ sd.lit.size) (hlitroom : j.i + litLen ≤ base + sd.lit.size)
    (hmix : sd.mix.getD j.mIdx 0 = mi) (hmix1 : j.mIdx < sd.mix.size) (hmi : mi < 2 ^ lpc)
    (hpos : base + 8 ≤ j.i) (hp : j.i + litLen = p) (hplim : p + ml + mm ≤ lim) (hlim : lim ≤ j.st.dst.size)
    (hdend : lim ≤ base + dstEnd)
    (hagree : ∀ k, k < j.i → j.st.dst.getD k 0 = a.getD k 0)
    (hreg : ∀ dstC : Array Nat, dstC.size = j.st.dst.size → (∀ k, k < p → dstC.getD k 0 = a.getD k 0) →
      (if litLen > 0 then regRun mm delta lpc base lim j.i litLen (litLen + 1) 0 0 ⟨j.st.tab, dstC⟩ else .ok ⟨j.st.tab, dstC⟩)
        = .ok ⟨T, dstC⟩)
    (hkey : getKey mm delta a base lim p = some keyP) (hkeylt : keyP < HASH_SIZE) (hT : TabOk T lpc)
    (hsame : Same a (base + ring T lpc keyP mi) p (ml + mm)) (hreflt : base + ring T lpc keyP mi < p) :
    ∃ dst', inv1Step sd dstEnd base lim mm delta lpc j = .ok (⟨p + ml + mm, j.litIdx + litLen,
        j.lenIdx + (lenBytesOf litLen ml).length, j.mIdx + 1, j.tkIdx + 1, ⟨T.register lpc keyP (p - base), dst'⟩⟩, false) ∧
      dst'.size = j.st.dst.size ∧ ∀ k, k < p + ml + mm → dst'.getD k 0 = a.getD k 0 := by
  have hdelta := hpar.delta
  obtain ⟨lenIdx1, hd1, hd2⟩ := decode_lengths hlen hlen4 hll hml
  obtain ⟨hcs, hagC⟩ := copyFrom_agree (lim := lim) (by omega) hlim hagree hlit
  rw [hp] at hagC
  unfold inv1Step
  dsimp only
  rw [rd1_eq htk1, htok]
  simp only [hd1, hd2]
  -- the ring entry (stated before the case split on the literal run)
  have hslice : ¬ (keyP + 1) * 2 ^ lpc > T.mts.size := by
    rw [hT.mts]
    have : (keyP + 1) * 2 ^ lpc ≤ HASH_SIZE * 2 ^ lpc := Nat.mul_le_mul_right _ hkeylt
    omega
  have href := ring_add256 T lpc keyP (Nat.le_of_lt hmi)
  have hr := hreg _ hcs hagC
  obtain ⟨dst', hec, hsz', hag'⟩ := emitCopy_spec a (copyFrom j.st.dst lim j.i sd.lit j.litIdx litLen) lim p
    (base + ring T lpc keyP mi) (ml + mm) hreflt (by omega) (by rw [hcs]; exact hlim) hagC hsame
  have hpp : p + (ml + mm) = p + ml + mm := by omega
  refine ⟨dst', ?_, by rw [hsz', hcs], fun k hk => hag' k (by omega)⟩
  by_cases h0 : litLen > 0
  · rw [if_pos h0] at hr
    rw [if_pos h0, if_neg (by omega), if_neg (by omega), if_neg (by omega), hr]
    simp only
    rw [if_neg (by omega), hp]
    simp only
    rw [if_neg (by omega), rd1_eq hmix1, hmix]
    simp only
    rw [getKey_agree hpar hagC, hkey]
    simp only
    rw [if_neg hslice, href, hec]
    simp only
    rw [hpp]
  · rw [if_neg h0] at hr
    have hl0 : litLen = 0 := by omega
    subst hl0
    injection hr with hr
    injection hr with hr1 hr2
    have hpi : p = j.i := by omega
    simp only [copyFrom] at hagC hec
    rw [if_neg h0]
    simp only
    rw [hr1, ← hpi]
    rw [if_neg (by omega), rd1_eq hmix1, hmix]
    simp only
    rw [getKey_agree hpar hagC, hkey]
    simp only
    rw [if_neg hslice, href, hec]
    simp only
    rw [hpp]

/-- the last iteration of the loop of Inverse in a chunk: the literal run `[j.i, lim)` that follows the last match -/
theorem inv1Step_tail {a : Array Nat} {sd : Side} {dstEnd base lim mm delta lpc : Nat} {j : J1} {litLen : Nat}
    {T : Tab} (hpar : ParamsOk mm delta)
    (htok : sd.tk.getD j.tkIdx 0 = tokOf litLen 0) (htk1 : j.tkIdx < sd.tk.size)
    (hlen : At sd.len j.lenIdx (lenBytesOf litLen 0))
    (hlen4 : j.lenIdx + (lenBytesOf litLen 0).length + 4 ≤ sd.len.size) (hll : litLen < 2 ^ 28)
    (hlit : ∀ k, k < litLen → sd.lit.getD (j.litIdx + k) 0 = a.getD (j.i + k) 0)
    (hlitsz : j.litIdx + litLen ≤ sd.lit.size) (hlitroom : j.i + litLen ≤ base + sd.lit.size)
    (hpos : base + 8 ≤ j.i) (hp : j.i + litLen = lim) (h0 : 0 < litLen) (hlim : lim ≤ j.st.dst.size)
    (hagree : ∀ k, k < j.i → j.st.dst.getD k 0 = a.getD k 0)
    (hreg : ∀ dstC : Array Nat, dstC.size = j.st.dst.size → (∀ k, k < lim → dstC.getD k 0 = a.getD k 0) →
      regRun mm delta lpc base lim j.i litLen (litLen + 1) 0 0 ⟨j.st.tab, dstC⟩ = .ok ⟨T, dstC⟩) :
    ∃ dst', inv1Step sd dstEnd base lim mm delta lpc j = .ok (⟨lim, j.litIdx + litLen,
        j.lenIdx + (lenBytesOf litLen 0).length, j.mIdx, j.tkIdx + 1, ⟨T, dst'⟩⟩, true) ∧
      dst'.size = j.st.dst.size ∧ ∀ k, k < lim → dst'.getD k 0 = a.getD k 0 := by
  have hdelta := hpar.delta
  obtain ⟨lenIdx1, hd1, hd2⟩ := decode_lengths hlen hlen4 hll (by omega : (0 : Nat) < 2 ^ 28)
  obtain ⟨hcs, hagC⟩ := copyFrom_agree (lim := lim) (by omega) hlim hagree hlit
  rw [hp] at hagC
  unfold inv1Step
  dsimp only
  rw [rd1_eq htk1, htok]
  simp only [hd1, hd2]
  have hr := hreg _ hcs hagC
  refine ⟨copyFrom j.st.dst lim j.i sd.lit j.litIdx litLen, ?_, hcs, hagC⟩
  rw [if_pos h0, if_neg (by omega), if_neg (by omega), if_neg (by omega), hr]
  simp only
  rw [if_pos (by omega), if_pos hp, hp]

/-! ## the registration loop of the decoder, resumed at the encoder's position -/

/-- `Cont a .. l tabD0 tabD`: for every literal run length the current run can still end with, the decoder's loop
    `regRun` started at the run start with the tables `tabD0` gives what the same loop gives when resumed at the
    encoder's current position `l.i` (with `l.inc` visits done) with the tables `tabD` -/
def Cont (a : Array Nat) (mm delta lpc base lim : Nat) (l : L1) (tabD0 tabD : Tab) : Prop :=
  ∀ (litLen : Nat) (dstC : Array Nat) (r : I1),
    (l.i - l.first ≤ litLen ∨ (lim ≤ l.i ∧ litLen = lim - l.first)) →
    (∀ k, k < l.first + litLen → dstC.getD k 0 = a.getD k 0) →
    regRun mm delta lpc base lim l.first litLen (litLen + 1 - l.inc) (l.i - l.first) l.inc ⟨tabD, dstC⟩ = .ok r →
    regRun mm delta lpc base lim l.first litLen (litLen + 1) 0 0 ⟨tabD0, dstC⟩ = .ok r

theorem cont_start {a : Array Nat} {mm delta lpc base lim : Nat} {l : L1} (hi : l.i = l.first) (hinc : l.inc = 0)
    (tabD0 : Tab) : Cont a mm delta lpc base lim l tabD0 tabD0 := by
  intro litLen dstC r _ _ h
  rw [hi, hinc, Nat.sub_self, Nat.sub_zero] at h
  exact h

/-- a visit of the encoder without a match = one iteration of the decoder's loop -/
theorem cont_step {a : Array Nat} {mm delta lpc base lim : Nat} (hpar : ParamsOk mm delta) {l : L1} {tabD0 tabD : Tab}
    {key : Nat} (hc : Cont a mm delta lpc base lim l tabD0 tabD) (hfi : l.first ≤ l.i) (hil : l.i < lim)
    (hinc : l.first + l.inc ≤ l.i) (hkey : getKey mm delta a base lim l.i = some key) (hkeylt : key < HASH_SIZE)
    (hT : TabOk tabD lpc) (st' : F1) :
    Cont a mm delta lpc base lim ⟨l.i + 1 + (l.inc >>> 6), l.first, l.inc + 1, st'⟩ tabD0
      (tabD.register lpc key (l.i - base)) := by
  intro litLen dstC r hyp hag hrun
  simp only at hyp hag hrun
  have hlt : l.i - l.first < litLen := by
    rcases hyp with h | ⟨h1, h2⟩ <;> omega
  refine hc litLen dstC r (Or.inl (by omega)) hag ?_
  have hfuel : litLen + 1 - l.inc = (litLen - l.inc) + 1 := by omega
  have hpos : l.first + (l.i - l.first) = l.i := Nat.add_sub_of_le hfi
  rw [hfuel, regRun_unfold (key := key) hlt (by simp only; rw [hpos, getKey_agree hpar (fun k hk => hag k (by omega))]; exact hkey)
    (by simp only; exact tabOk_in hT hkeylt _)]
  simp only
  rw [hpos]
  have e1 : litLen + 1 - (l.inc + 1) = litLen - l.inc := by omega
  have e2 : l.i + 1 + (l.inc >>> 6) - l.first = l.i - l.first + (l.inc >>> 6) + 1 := by omega
  rw [e1, e2] at hrun
  exact hrun

/-- the decoder state `j` at the last token boundary (= start of the current literal run of the encoder state
    `l`), and the tables `tabD` the decoder's registration loop will have when it reaches the encoder's position -/
structure Mid (a : Array Nat) (lpc base lim mm delta : Nat) (l : L1) (j : J1) (tabD : Tab) : Prop where
  pos : j.i = l.first
  lit : j.litIdx = l.st.lit.size
  len : j.lenIdx = l.st.len.size
  mix : j.mIdx = l.st.mix.size
  tk : j.tkIdx = l.st.tk.size
  agree : ∀ k, k < l.first → j.st.dst.getD k 0 = a.getD k 0
  tokE : TabOk l.st.tab lpc
  tokD : TabOk tabD lpc
  tokD0 : TabOk j.st.tab lpc
  ring : RingEq l.st.tab tabD lpc
  ent : EntLt l.st.tab (l.i - base)
  cont : Cont a mm delta lpc base lim l j.st.tab tabD
  start : l.i = l.first → tabD = j.st.tab
  inc : l.first + l.inc ≤ l.i ∧ l.first + l.inc ≤ lim

/-- what the decoder knows about the side buffers: they start with the encoder's final buffers, and are large enough -/
structure SideOk (sfin : F1) (sd : Side) (base lim : Nat) : Prop where
  lit : Pre sfin.lit sd.lit
  len : Pre sfin.len sd.len
  mix : Pre sfin.mix sd.mix
  tk : Pre sfin.tk sd.tk
  litRoom : lim ≤ base + sd.lit.size
  lenRoom : ∀ x, base + 10 * x ≤ lim → x + 4 ≤ sd.len.size

theorem mid_nomatch {a : Array Nat} {lpc base lim mm delta : Nat} (hpar : ParamsOk mm delta) (hchunk : lim ≤ base + 2 ^ 24)
    {l : L1} {j : J1} {tabD : Tab} {key : Nat} (w : Nat) (hm : Mid a lpc base lim mm delta l j tabD) (hfi : l.first ≤ l.i)
    (hbl : base ≤ l.first) (hil : l.i < lim) (hkey : getKey mm delta a base lim l.i = some key) (hkeylt : key < HASH_SIZE) :
    Mid a lpc base lim mm delta ⟨l.i + 1 + (l.inc >>> 6), l.first, l.inc + 1,
      ⟨l.st.tab.register lpc key (rolzhashW w + (l.i - base)), l.st.lit, l.st.len, l.st.mix, l.st.tk⟩⟩ j
      (tabD.register lpc key (l.i - base)) := by
  refine ⟨hm.pos, hm.lit, hm.len, hm.mix, hm.tk, hm.agree, register_ok hm.tokE _ _, register_ok hm.tokD _ _, hm.tokD0,
    register_ringEq hm.tokE hm.tokD hm.ring hkeylt _ _ (tag_pos w _ (by omega)), ?_, ?_, ?_, ?_⟩
  · exact register_entLt hm.ent (by simp only; omega) _ _ _ (by rw [tag_pos w _ (by omega)]; simp only; omega)
  · exact cont_step hpar hm.cont hfi hil hm.inc.1 hkey hkeylt hm.tokD _
  · intro hc; simp only at hc; omega
  · have := hm.inc
    simp only; omega

/-- the end of a literal run with a match at `p` (the current position or the next one): what the registration
    loop of the decoder produces for the run `[first, p)` -/
theorem run_end {a : Array Nat} {lpc base lim mm delta : Nat} (hpar : ParamsOk mm delta) {l : L1} {j : J1} {tabD : Tab}
    {key : Nat} (hm : Mid a lpc base lim mm delta l j tabD) (hfi : l.first ≤ l.i)
    (hkey : getKey mm delta a base lim l.i = some key) (hkeylt : key < HASH_SIZE) (p : Nat) (T : Tab)
    (hcase : (p = l.i ∧ T = tabD) ∨ (p = l.i + 1 ∧ T = tabD.register lpc key (l.i - base))) :
    ∀ dstC : Array Nat, (∀ k, k < p → dstC.getD k 0 = a.getD k 0) →
      (if p - l.first > 0 then regRun mm delta lpc base lim l.first (p - l.first) (p - l.first + 1) 0 0 ⟨j.st.tab, dstC⟩
        else .ok ⟨j.st.tab, dstC⟩) = .ok ⟨T, dstC⟩ := by
  intro dstC hag
  rcases hcase with ⟨hp, hT⟩ | ⟨hp, hT⟩
  · subst hp; subst hT
    by_cases h0 : l.i - l.first > 0
    · rw [if_pos h0]
      refine hm.cont (l.i - l.first) dstC _ (Or.inl (Nat.le_refl _)) (fun k hk => hag k (by omega)) ?_
      have hfuel : l.i - l.first + 1 - l.inc = (l.i - l.first - l.inc) + 1 := by have := hm.inc.1; omega
      rw [hfuel, regRun_done (by omega)]
    · rw [if_neg h0, hm.start (by omega)]
  · subst hp; subst hT
    rw [if_pos (by omega)]
    refine hm.cont (l.i + 1 - l.first) dstC _ (Or.inl (by omega)) (fun k hk => hag k (by omega)) ?_
    have hfuel : l.i + 1 - l.first + 1 - l.inc = (l.i + 1 - l.first - l.inc) + 1 := by have := hm.inc.1; omega
    have hpos : l.first + (l.i - l.first) = l.i := Nat.add_sub_of_le hfi
    rw [hfuel, regRun_unfold (key := key) (by omega)
      (by simp only; rw [hpos, getKey_agree hpar (fun k hk => hag k (by omega))]; exact hkey)
      (by simp only; exact tabOk_in hm.tokD hkeylt _)]
    simp only
    rw [hpos]
    have hf2 : l.i + 1 - l.first - l.inc = (l.i - l.first - l.inc) + 1 := by have := hm.inc.1; omega
    rw [hf2, regRun_done (by omega)]

/-- the end of the chunk: the registration loop for the last literal run `[first, lim)` -/
theorem run_last {a : Array Nat} {lpc base lim mm delta : Nat} {l : L1} {j : J1} {tabD : Tab}
    (hm : Mid a lpc base lim mm delta l j tabD) (hfl : l.first ≤ lim) (hil : lim ≤ l.i) :
    ∀ dstC : Array Nat, (∀ k, k < lim → dstC.getD k 0 = a.getD k 0) →
      regRun mm delta lpc base lim l.first (lim - l.first) (lim - l.first + 1) 0 0 ⟨j.st.tab, dstC⟩ = .ok ⟨tabD, dstC⟩ := by
  intro dstC hag
  refine hm.cont (lim - l.first) dstC _ (Or.inr ⟨hil, rfl⟩) (fun k hk => hag k (by omega)) ?_
  have hfuel : lim - l.first + 1 - l.inc = (lim - l.first - l.inc) + 1 := by have := hm.inc.2; omega
  rw [hfuel, regRun_done (by omega)]

theorem at_chain {x y z : Array Nat} (h1 : Pre x y) (h2 : Pre y z) {i : Nat} {bs : List Nat} (ha : At x i bs)
    (hi : i + bs.length ≤ x.size) : At z i bs :=
  at_of_pre h2 (at_of_pre h1 ha hi) (by have := h1.1; omega)

/-- a value appended to a side buffer stands at that index in every later version of the buffer -/
theorem at_push_chain {x x' y z : Array Nat} {v : Nat} (e : x' = x ++ [v]) (h1 : Pre x' y) (h2 : Pre y z) :
    z.getD x.size 0 = v ∧ x.size < z.size := by
  have hsz : x'.size = x.size + 1 := by rw [e, size_appendList]; rfl
  have g1 := h1.1
  have g2 := h2.1
  refine ⟨?_, by omega⟩
  rw [h2.2 _ (by omega), h1.2 _ (by omega), e, getD_appendL, if_neg (by omega), Nat.sub_self]
  rfl

/-- the decoder finds the token, the length bytes and the literals that a sequence (or the last literal run)
    appended to the encoder's buffers `s` at the indexes given by the sizes of `s` -/
theorem side_view {s s' sfin : F1} {sd : Side} {base lim tok : Nat} {lens : List Nat} {lits : Array Nat}
    (e1 : s'.tk = s.tk ++ [tok]) (e3 : s'.len = s.len ++ lens) (e4 : s'.lit = s.lit ++ lits)
    (hgrow : Grow s' sfin) (hside : SideOk sfin sd base lim) (hlen : base + 10 * s'.len.size ≤ lim) :
    sd.tk.getD s.tk.size 0 = tok ∧ s.tk.size < sd.tk.size ∧ At sd.len s.len.size lens ∧
    s.len.size + lens.length + 4 ≤ sd.len.size ∧
    (∀ k, k < lits.size → sd.lit.getD (s.lit.size + k) 0 = lits.getD k 0) ∧ s.lit.size + lits.size ≤ sd.lit.size := by
  obtain ⟨t1, t2⟩ := at_push_chain e1 hgrow.tk hside.tk
  have hlensz : s'.len.size = s.len.size + lens.length := by rw [e3, size_appendList]
  have hlitsz : s'.lit.size = s.lit.size + lits.size := by rw [e4, Array.size_append]
  have g5 := hgrow.len.1
  have g6 := hside.len.1
  have g7 := hgrow.lit.1
  have g8 := hside.lit.1
  have hroom := hside.lenRoom s'.len.size hlen
  refine ⟨t1, t2, ?_, by omega, fun k hk => ?_, by omega⟩
  · exact at_chain hgrow.len hside.len (by rw [e3]; exact at_appendL _ _) (by rw [hlensz]; omega)
  · rw [hside.lit.2 _ (by omega), hgrow.lit.2 _ (by omega), e4, getD_appendA, if_neg (by omega)]
    congr 1
    omega

theorem extract_view (a : Array Nat) {i j : Nat} (hij : i ≤ j) (hj : j ≤ a.size) :
    (a.extract i j).size = j - i ∧ ∀ k, k < j - i → (a.extract i j).getD k 0 = a.getD (i + k) 0 := by
  refine ⟨by rw [Array.size_extract]; omega, fun k hk => ?_⟩
  rw [← toList_getD, extract_getD a i j k hk hj]

/-- a step of the encoder that emits a sequence is mirrored by one iteration of the loop of Inverse -/
theorem mid_match {a : Array Nat} {cp : Caps} {sd : Side} {dstEnd base lim mm delta lpc : Nat} (hpar : ParamsOk mm delta)
    (hmm : 3 ≤ mm ∧ mm ≤ 7) (hlpc : lpc ≤ 8) (ha : ∀ k, a.getD k 0 < 256) (hchunk : lim ≤ base + 2 ^ 24)
    (hlimA : lim + 4 ≤ a.size) (hdend : lim ≤ base + dstEnd)
    {l l' : L1} {j : J1} {tabD : Tab} (hm : Mid a lpc base lim mm delta l j tabD) (hl : LInv l cp lpc base lim)
    (hl' : LInv l' cp lpc base lim) (hb8 : base + 8 ≤ l.first)
    {key w key1 p mi' ml' keyP wP : Nat} {tabS : Tab} {s' : F1}
    (hkey : getKey mm delta a base lim l.i = some key) (hkey1 : getKey mm delta a base lim (l.i + 1) = some key1)
    (hcase : (p = l.i ∧ tabS = l.st.tab ∧ keyP = key ∧ wP = w) ∨
      (p = l.i + 1 ∧ tabS = l.st.tab.register lpc key (rolzhashW w + (l.i - base)) ∧ keyP = key1))
    (hmi : mi' < 2 ^ lpc) (hml17 : ml' + mm < 2 ^ 17) (hend : p + ml' + mm < lim)
    (hsameS : Same a (base + ring tabS lpc keyP mi' % 2 ^ 24) p (ml' + mm))
    (hs' : s' = ⟨tabS.register lpc keyP (rolzhashW wP + (p - base)), l.st.lit ++ a.extract l.first p,
      l.st.len ++ lenBytesOf (p - l.first) ml', l.st.mix ++ [mi' % 256], l.st.tk ++ [tokOf (p - l.first) ml']⟩)
    (hl'eq : l' = ⟨p + ml' + mm, p + ml' + mm, 0, s'⟩)
    {sfin : F1} (hgrow : Grow s' sfin) (hside : SideOk sfin sd base lim) (hdst : lim ≤ j.st.dst.size) :
    ∃ j', inv1Step sd dstEnd base lim mm delta lpc j = .ok (j', false) ∧ Mid a lpc base lim mm delta l' j' j'.st.tab ∧
      j'.st.dst.size = j.st.dst.size ∧ j.i < j'.i := by
  subst hl'eq
  have hfi := hl.fi
  have hfp : l.first ≤ p := by rcases hcase with ⟨h1, _⟩ | ⟨h1, _⟩ <;> omega
  have hpl : p < lim := by omega
  have e0 : s'.tab = tabS.register lpc keyP (rolzhashW wP + (p - base)) := by rw [hs']
  have e1 : s'.tk = l.st.tk ++ [tokOf (p - l.first) ml'] := by rw [hs']
  have e2 : s'.mix = l.st.mix ++ [mi' % 256] := by rw [hs']
  have e3 : s'.len = l.st.len ++ lenBytesOf (p - l.first) ml' := by rw [hs']
  have e4 : s'.lit = l.st.lit ++ a.extract l.first p := by rw [hs']
  have hkeylt := getKey_lt ha hkey
  -- the key of the match position, the table the decoder has there, and what the encoder searched
  have hkp : getKey mm delta a base lim p = some keyP ∧
      ∃ T, ((p = l.i ∧ T = tabD) ∨ (p = l.i + 1 ∧ T = tabD.register lpc key (l.i - base))) ∧ TabOk T lpc ∧
        TabOk tabS lpc ∧ RingEq tabS T lpc ∧ EntLt tabS (p - base) := by
    rcases hcase with ⟨h1, h2, h3, _⟩ | ⟨h1, h2, h3⟩
    · subst h1; subst h2; subst h3
      exact ⟨hkey, tabD, Or.inl ⟨rfl, rfl⟩, hm.tokD, hm.tokE, hm.ring, hm.ent⟩
    · subst h1; subst h2; subst h3
      refine ⟨hkey1, _, Or.inr ⟨rfl, rfl⟩, register_ok hm.tokD _ _, register_ok hm.tokE _ _,
        register_ringEq hm.tokE hm.tokD hm.ring hkeylt _ _ (tag_pos w _ (by omega)), ?_⟩
      exact register_entLt hm.ent (by omega) _ _ _ (by rw [tag_pos w _ (by omega)]; omega)
  obtain ⟨hkeyP, T, hTcase, hTok, hSok, hring, hent⟩ := hkp
  have hkeyPlt := getKey_lt ha hkeyP
  have hP256 : 2 ^ lpc ≤ 256 := by
    have : 2 ^ lpc ≤ 2 ^ 8 := Nat.pow_le_pow_right (by decide) hlpc
    omega
  have hmi256 : mi' % 256 = mi' := Nat.mod_eq_of_lt (by omega)
  have hreq := hring keyP hkeyPlt mi' hmi
  have hrlt := ring_lt hent lpc keyP mi'
  have hb' := hl'.b
  simp only at hb'
  obtain ⟨hxsz, hxv⟩ := extract_view a hfp (by omega : p ≤ a.size)
  obtain ⟨htokv, htk1, hlenv, hlen4, hlitv, hlitsz'⟩ := side_view e1 e3 e4 hgrow hside
    (Nat.le_trans hb'.len (by omega))
  obtain ⟨hmixv, hmix1⟩ := at_push_chain e2 hgrow.mix hside.mix
  rw [hxsz] at hlitv hlitsz'
  have hlr := hside.litRoom
  rw [← hm.tk] at htokv htk1
  rw [← hm.mix] at hmixv hmix1
  rw [← hm.len] at hlenv hlen4
  rw [← hm.lit] at hlitv hlitsz'
  obtain ⟨dst', hstep, hsz', hag'⟩ := inv1Step_seq (a := a) (sd := sd) (dstEnd := dstEnd) (j := j) (litLen := p - l.first)
    (ml := ml') (mi := mi' % 256) (p := p) (keyP := keyP) (T := T) hpar hmm htokv htk1 hlenv hlen4 (by omega) (by omega)
    (fun k hk => by rw [hlitv k hk, hxv k hk, hm.pos]) hlitsz' (by rw [hm.pos]; omega) hmixv hmix1
    (by rw [hmi256]; exact hmi) (by rw [hm.pos]; exact hb8) (by rw [hm.pos]; omega) (by omega) hdst
    hdend (by rw [hm.pos]; exact hm.agree)
    (by
      intro dstC _ hag
      rw [hm.pos]
      exact run_end hpar hm hfi hkey hkeylt p T hTcase dstC hag)
    hkeyP hkeyPlt hTok (by rw [hmi256, ← hreq]; exact hsameS) (by rw [hmi256, ← hreq]; omega)
  refine ⟨_, hstep, ?_, hsz', by simp only; rw [hm.pos]; omega⟩
  refine ⟨rfl, ?_, ?_, ?_, ?_, ?_, ?_, ?_, ?_, ?_, ?_, ?_, fun _ => rfl, by simp only; omega⟩
  · simp only; rw [hm.lit, e4, Array.size_append, hxsz]
  · simp only; rw [hm.len, e3, size_appendList]
  · simp only; rw [hm.mix, e2, size_appendList]; rfl
  · simp only; rw [hm.tk, e1, size_appendList]; rfl
  · intro k hk; exact hag' k hk
  · simp only; rw [e0]; exact register_ok hSok _ _
  · exact register_ok hTok _ _
  · exact register_ok hTok _ _
  · simp only; rw [e0]
    exact register_ringEq hSok hTok hring hkeyPlt _ _ (tag_pos wP _ (by omega))
  · simp only; rw [e0]
    exact register_entLt hent (by omega) _ _ _ (by rw [tag_pos wP _ (by omega)]; omega)
  · exact cont_start rfl rfl _

/-- **the main loop of a chunk**: when the encoder's loop and its final literals produce side buffers the decoder
    holds (with at least one token), the decoder's loop, started at the token boundary that corresponds to the
    encoder state, restores the rest of the chunk -/
theorem loop1_sim {a : Array Nat} {cp : Caps} {sd : Side} {dstEnd base lim mm delta lpc : Nat} (hpar : ParamsOk mm delta)
    (hmm : 3 ≤ mm ∧ mm ≤ 7) (hlpc : lpc ≤ 8) (ha : ∀ k, a.getD k 0 < 256) (hchunk : lim ≤ base + 2 ^ 24)
    (hlimA : lim + 4 ≤ a.size) (hdend : lim ≤ base + dstEnd) (hc : CapOk cp base lim) :
    ∀ (f : Nat) (l lfin : L1), fwd1Loop a cp base lim mm delta lpc f l = .ok lfin →
    lim - l.i + 1 ≤ f → LInv l cp lpc base lim → base + 8 ≤ l.first →
    ∀ (sfin : F1), fwd1Tail a cp lfin.first lim lfin.st = .ok sfin → sfin.tk.size ≠ 0 → SideOk sfin sd base lim →
    ∀ (j : J1) (tabD : Tab) (fD : Nat), Mid a lpc base lim mm delta l j tabD → lim ≤ j.st.dst.size → lim - j.i + 1 ≤ fD →
    ∃ jfin, inv1Loop sd dstEnd base lim mm delta lpc fD j = .ok jfin ∧ jfin.i = lim ∧
      jfin.st.dst.size = j.st.dst.size ∧ (∀ k, k < lim → jfin.st.dst.getD k 0 = a.getD k 0) ∧ TabOk jfin.st.tab lpc := by
  intro f
  induction f with
  | zero => intro l lfin h; simp [fwd1Loop] at h
  | succ f ih =>
    intro l lfin h hf hl hb8 sfin htail htk hside j tabD fD hm hdst hfD
    simp only [fwd1Loop] at h
    obtain ⟨g, rfl⟩ : ∃ g, fD = g + 1 := ⟨fD - 1, by omega⟩
    by_cases hil : l.i < lim
    · rw [if_pos hil] at h
      have hfi := hl.fi
      have hs := fwd1Step_sat hpar hmm hc (Nat.le_trans hb8 hfi) hil hlimA hl
      split at h
      · rename_i l' hl'
        obtain ⟨hlt', hinv', hstep⟩ := hs.ok hl'
        obtain ⟨grest, hfininv⟩ := fwd1Loop_grow hpar hmm hc hlimA h (Or.inl (by omega)) (by omega) hinv'
        have gtail := fwd1Tail_grow hc hfininv.b hfininv.fl (Nat.le_of_add_right_le hlimA) htail
        cases hstep with
        | skip key w hkey =>
          -- a visit without a match: the decoder does not move
          have hm' := mid_nomatch hpar hchunk w hm hl.fi (Nat.le_of_add_right_le hb8) hil hkey (getKey_lt ha hkey)
          exact ih _ lfin h (by omega) hinv' hb8 sfin htail htk hside j _ (g + 1) hm' hdst hfD
        | seq key w key1 p mi ml tabS keyP wP hkey hkey1 hcase hmi hml hend hsame =>
          have hlt2 : l.i < p + ml + mm := hlt'
          clear hlt'
          have hpos := hm.pos
          obtain ⟨j', hstep, hm', hsz', hjlt⟩ := mid_match (cp := cp) (sd := sd) (dstEnd := dstEnd) hpar hmm hlpc ha hchunk hlimA
            hdend hm hl hinv' hb8 hkey hkey1 hcase hmi hml hend hsame rfl rfl (sfin := sfin) (grow_trans grest gtail) hside hdst
          have hb8' : base + 8 ≤ p + ml + mm := by omega
          have hf' : lim - (p + ml + mm) + 1 ≤ f := by omega
          obtain ⟨jfin, hloop, q1, q2, q3, q4⟩ := ih _ lfin h hf' hinv' hb8' sfin htail htk hside j' _ g hm'
            (by rw [hsz']; exact hdst) (by omega)
          refine ⟨jfin, ?_, q1, by rw [q2, hsz'], q3, q4⟩
          simp only [inv1Loop]
          rw [if_pos (by omega), hstep]
          exact hloop
      · cases h
      · cases h
    · rw [if_neg hil] at h
      injection h with h
      subst h
      have hfl := hl.fl
      rw [fwd1Tail_eq hc hl.b hfl (by omega)] at htail
      injection htail with htail
      subst htail
      by_cases hfirst : l.first = lim
      · -- nothing after the last match
        refine ⟨j, ?_, by rw [hm.pos, hfirst], rfl, fun k hk => hm.agree k (by omega), hm.tokD0⟩
        simp only [inv1Loop]
        rw [if_neg (by rw [hm.pos]; omega)]
      · -- the last literal run
        have htk0 : l.st.tk.size ≠ 0 := by
          intro h0
          apply htk
          show (l.st.tk ++ if l.st.tk.size ≠ 0 then [tokOf (lim - l.first) 0] else []).size = 0
          rw [if_neg (by omega), Array.appendList_nil, h0]
        -- the fuel bounds are not used below; cleared because `omega` splits on every truncated subtraction in the context
        clear htk hf hfD
        have hbl := hl.b.len
        have hlb := (lenBytesOf_len (lim - l.first) 0).2 (by omega)
        obtain ⟨hxsz, hxv⟩ := extract_view a hfl (by omega : lim ≤ a.size)
        obtain ⟨htokv, htk1, hlenv, hlen4, hlitv, hlitsz'⟩ := side_view (s := l.st) (tok := tokOf (lim - l.first) 0)
          (by show l.st.tk ++ (if l.st.tk.size ≠ 0 then [tokOf (lim - l.first) 0] else []) = _; rw [if_pos htk0]) rfl rfl
          (grow_refl _) hside (by show base + 10 * (l.st.len ++ lenBytesOf (lim - l.first) 0).size ≤ lim; rw [size_appendList]; omega)
        have hlr := hside.litRoom
        rw [hxsz] at hlitv hlitsz'
        rw [← hm.tk] at htokv htk1
        rw [← hm.len] at hlenv hlen4
        rw [← hm.lit] at hlitv hlitsz'
        obtain ⟨dst', hstep, hsz', hag'⟩ := inv1Step_tail (a := a) (sd := sd) (dstEnd := dstEnd) (base := base) (lim := lim)
          (mm := mm) (delta := delta) (lpc := lpc) (j := j) (litLen := lim - l.first) (T := tabD) hpar htokv htk1 hlenv hlen4
          (by omega) (fun k hk => by rw [hlitv k hk, hxv k hk, hm.pos]) hlitsz' (by rw [hm.pos]; omega)
          (by rw [hm.pos]; exact hb8) (by rw [hm.pos]; omega) (by omega) hdst (by rw [hm.pos]; exact hm.agree)
          (by
            intro dstC _ hag
            rw [hm.pos]
            exact run_last hm hfl (by omega) dstC hag)
        refine ⟨⟨lim, j.litIdx + (lim - l.first), j.lenIdx + (lenBytesOf (lim - l.first) 0).length, j.mIdx, j.tkIdx + 1,
          ⟨tabD, dst'⟩⟩, ?_, rfl, hsz', hag', hm.tokD⟩
        simp only [inv1Loop]
        rw [if_pos (by rw [hm.pos]; omega), hstep]

end Kanzi.ROLZ
