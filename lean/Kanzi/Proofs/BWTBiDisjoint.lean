/-
inverseBiPSIv2: THE TASKS WRITE DISJOINT RANGES OF `dst` (the C18 mechanism "inverse BWT workers write
disjoint output ranges"), for ARBITRARY shared tables: the indexes written depend on the loop counters
only.  The task of the chunks `[fc, lc)` changes `dst` only inside `[fc*ckSize, lc*ckSize)`
(`[fc*ckSize, total)` for the last task), and these ranges are pairwise disjoint for the split computed
by `ComputeJobsPerTask`.  What keeps a task inside its range is the guard of the second store of a pair
(`sec` in `lanesLoop`: `i < end`, in the single-lane loop also `end == total-1`); without it the last pair
of a chunk of odd size stored into the next chunk (finding F46, fixed in commit 5aab71a).
-/
import Kanzi.Proofs.BWTBiTotal

namespace Kanzi.BWT

/-- partial correctness: whenever the step succeeds its value satisfies `P` -/
def OkP {α : Type} (P : α → Prop) (r : Res α) : Prop := ∀ a, r = .ok a → P a

theorem OkP.bind {α β : Type} {P : α → Prop} {Q : β → Prop} {r : Res α} {f : α → Res β}
    (h : OkP P r) (hf : ∀ a, r = .ok a → P a → OkP Q (f a)) : OkP Q (r.bind f) := by
  intro b hb
  cases hr : r with
  | ok a => rw [hr] at hb; exact hf a hr (h a hr) b hb
  | _ => rw [hr] at hb; cases hb

/-- `d` has the size of `dst` and differs from it only at positions satisfying `W` -/
def Within (W : Nat → Prop) (dst d : Array Nat) : Prop :=
  d.size = dst.size ∧ ∀ pos, ¬ W pos → rd d pos = rd dst pos

theorem Within.refl (W : Nat → Prop) (dst : Array Nat) : Within W dst dst := ⟨rfl, fun _ _ => rfl⟩

theorem Within.trans {W : Nat → Prop} {a b c : Array Nat} (h1 : Within W a b) (h2 : Within W b c) : Within W a c :=
  ⟨h2.1.trans h1.1, fun pos hp => (h2.2 pos hp).trans (h1.2 pos hp)⟩

theorem Within.mono {W W' : Nat → Prop} {a b : Array Nat} (h : Within W a b) (hw : ∀ pos, W pos → W' pos) : Within W' a b :=
  ⟨h.1, fun pos hp => h.2 pos (fun hh => hp (hw pos hh))⟩

theorem write1_within (W : Nat → Prop) (dst : Array Nat) (p v : Nat) (hp : W p) : OkP (Within W dst) (write1 dst p v) := by
  intro d hd
  unfold write1 at hd
  split at hd
  · cases hd
  · injection hd with hd; subst hd
    refine ⟨by simp, ?_⟩
    intro pos hpos
    rw [rd_setIfInBounds]
    have : ¬ p = pos := fun e => hpos (e ▸ hp)
    simp [this]

theorem writeAll_within (W : Nat → Prop) (ws : List (Nat × Nat)) (dst : Array Nat)
    (hw : ∀ w ∈ ws, W w.1) : OkP (Within W dst) (writeAll ws dst) := by
  induction ws generalizing dst with
  | nil => intro d hd; injection hd with hd; subst hd; exact Within.refl W dst
  | cons w ws ih =>
    intro d' hd'
    obtain ⟨d, h1, h2⟩ := Res.bind_eq_ok hd'
    have hd := write1_within W dst w.1 w.2 (hw w List.mem_cons_self) d h1
    exact hd.trans (ih d (fun w hw' => hw w (List.mem_cons_of_mem _ hw')) d' h2)

theorem mapRes_bases (sh : Shared) (lanes lanes' : List (Nat × Nat))
    (h : mapRes (fun l : Nat × Nat => (next sh l.1).bind fun p => Res.ok (p, l.2)) lanes = .ok lanes') :
    lanes'.map (·.2) = lanes.map (·.2) := by
  induction lanes generalizing lanes' with
  | nil => simp only [mapRes] at h; injection h with h; subst h; rfl
  | cons l ls ih =>
    simp only [mapRes] at h
    obtain ⟨x, h1, h2⟩ := Res.bind_eq_ok h
    obtain ⟨p, _, h3⟩ := Res.bind_eq_ok h1
    injection h3 with h3; subst h3
    obtain ⟨bs, h4, h5⟩ := Res.bind_eq_ok h2
    injection h5 with h5; subst h5
    simp [ih bs h4]

/-- one iteration writes only at `base + i - 1` and (when `second`) `base + i` of its lanes -/
theorem lanesIter_within (W : Nat → Prop) (sh : Shared) (i : Nat) (second : Bool) (lanes : List (Nat × Nat))
    (dst : Array Nat) (hw : ∀ b ∈ lanes.map (·.2), W (b + i - 1) ∧ (second = true → W (b + i))) :
    OkP (fun r => r.1.map (·.2) = lanes.map (·.2) ∧ Within W dst r.2) (lanesIter sh i second lanes dst) := by
  intro r hr
  unfold lanesIter at hr
  obtain ⟨ss0, _, hr⟩ := Res.bind_eq_ok hr
  obtain ⟨ss, _, hr⟩ := Res.bind_eq_ok hr
  obtain ⟨d1, hw1, hr⟩ := Res.bind_eq_ok hr
  obtain ⟨d2, hw2, hr⟩ := Res.bind_eq_ok hr
  obtain ⟨ls, hls, hr⟩ := Res.bind_eq_ok hr
  injection hr with hr; subst hr
  have hbases : ∀ w ∈ (lanes.map (·.2)).zip ss, w.1 ∈ lanes.map (·.2) := fun w hw' => (List.of_mem_zip hw').1
  rw [writeFirst_eq] at hw1
  have hd1 := writeAll_within W _ dst (fun w hw' => by
    obtain ⟨w0, h0, rfl⟩ := List.mem_map.1 hw'
    exact (hw w0.1 (hbases w0 h0)).1) d1 hw1
  have hd2 : Within W dst d2 := by
    cases hsec : second with
    | false =>
      rw [hsec, if_neg (by simp)] at hw2
      injection hw2 with hw2; subst hw2; exact hd1
    | true =>
      rw [hsec, if_pos rfl, writeSecond_eq] at hw2
      exact hd1.trans (writeAll_within W _ d1 (fun w hw' => by
        obtain ⟨w0, h0, rfl⟩ := List.mem_map.1 hw'
        exact (hw w0.1 (hbases w0 h0)).2 hsec) d2 hw2)
  exact ⟨mapRes_bases sh lanes ls hls, hd2⟩

/-- `k` iterations write only at the positions of their loop indexes -/
theorem lanesLoop_within (W : Nat → Prop) (sh : Shared) (sec : Nat → Bool) (k i : Nat) (lanes : List (Nat × Nat))
    (dst : Array Nat)
    (hw : ∀ t, t < k → ∀ b ∈ lanes.map (·.2), W (b + (i + 2 * t) - 1) ∧ (sec (i + 2 * t) = true → W (b + (i + 2 * t)))) :
    OkP (Within W dst) (lanesLoop sh sec k i lanes dst) := by
  induction k generalizing i lanes dst with
  | zero => intro d hd; injection hd with hd; subst hd; exact Within.refl W dst
  | succ k ih =>
    intro d hd
    simp only [lanesLoop] at hd
    obtain ⟨r, h1, h2⟩ := Res.bind_eq_ok hd
    have hr := lanesIter_within W sh i (sec i) lanes dst (by
      intro b hb
      have := hw 0 (by omega) b hb
      simpa using this) r h1
    refine hr.2.trans (ih (i + 2) r.1 r.2 ?_ d h2)
    intro t ht b hb
    rw [hr.1] at hb
    have := hw (t + 1) (by omega) b hb
    have e : i + 2 + 2 * t = i + 2 * (t + 1) := by omega
    rw [e]; exact this

/-- the loop `for i := start + 1; i <= fin; i += 2` writes, for a lane with base `b`, inside
`[b + start, b + fin)`, and at `b + fin` only if the second byte is written when `i = fin` -/
theorem pairLoop_within (W : Nat → Prop) (sh : Shared) (sec : Nat → Bool) (start fin : Nat) (lanes : List (Nat × Nat))
    (dst : Array Nat)
    (hw : ∀ b ∈ lanes.map (·.2), ∀ pos, b + start ≤ pos → (pos < b + fin ∨ (pos = b + fin ∧ sec fin = true)) → W pos) :
    OkP (Within W dst) (lanesLoop sh sec (pairCount start fin) (start + 1) lanes dst) := by
  apply lanesLoop_within
  intro t ht b hb
  have hle : start + 1 + 2 * t ≤ fin := by unfold pairCount at ht; omega
  refine ⟨hw b hb _ (by omega) (Or.inl (by omega)), fun hsec => hw b hb _ (by omega) ?_⟩
  by_cases hlast : start + 1 + 2 * t = fin
  · rw [hlast] at hsec ⊢
    exact Or.inr ⟨rfl, hsec⟩
  · exact Or.inl (by omega)

/-- end of the range of the task whose last chunk is `lc - 1` -/
def regionEnd (total ck lc : Nat) : Nat := if lc = 8 then total else lc * ck

theorem chunk_within (sh : Shared) (total ck : Nat) (hck : 7 * ck + 1 < total ∧ total ≤ 8 * ck)
    (c : Nat) (hc7 : c ≤ 7) (p : Nat) (dst : Array Nat) :
    OkP (Within (fun pos => c * ck ≤ pos ∧ pos < regionEnd total ck (c + 1)) dst)
      (lanesLoop sh (fun i => decide (i < min (c * ck + ck) (total - 1)) || decide (min (c * ck + ck) (total - 1) = total - 1))
        (pairCount (c * ck) (min (c * ck + ck) (total - 1))) (c * ck + 1) [(p, 0)] dst) := by
  have hmul : c * ck ≤ 7 * ck := Nat.mul_le_mul_right _ hc7
  apply pairLoop_within
  intro b hb pos h1 h2
  simp only [List.map_cons, List.map_nil, List.mem_singleton] at hb
  subst hb
  refine ⟨by omega, ?_⟩
  unfold regionEnd
  split
  · omega
  · have h3 : (c + 1) * ck ≤ 7 * ck := Nat.mul_le_mul_right _ (by omega)
    rw [Nat.succ_mul] at h3 ⊢
    rcases h2 with h2 | ⟨_, h2⟩
    · omega
    · -- the second byte at the chunk end is written in the last chunk only
      have hne : ¬ min (c * ck + ck) (total - 1) = total - 1 := by omega
      have hirr : ¬ min (c * ck + ck) (total - 1) < min (c * ck + ck) (total - 1) := Nat.lt_irrefl _
      simp [hne, hirr] at h2

theorem regionEnd_mono (total ck a b : Nat) (hck : 7 * ck + 1 < total ∧ total ≤ 8 * ck) (hab : a ≤ b) (hb : b ≤ 8) :
    regionEnd total ck a ≤ regionEnd total ck b := by
  unfold regionEnd
  by_cases ha8 : a = 8
  · have : b = 8 := by omega
    rw [if_pos ha8, if_pos this]; exact Nat.le_refl _
  · rw [if_neg ha8]
    have h1 : a * ck ≤ 7 * ck := Nat.mul_le_mul_right _ (by omega)
    split
    · omega
    · exact Nat.mul_le_mul_right _ hab

theorem singleLoop_within (sh : Shared) (total ck : Nat) (hck : 7 * ck + 1 < total ∧ total ≤ 8 * ck)
    (lc : Nat) (hlc : lc ≤ 8) (fuel c start : Nat) (hc : c ≤ lc) (hstart : c < lc → start = c * ck) (dst : Array Nat) :
    OkP (Within (fun pos => c * ck ≤ pos ∧ pos < regionEnd total ck lc) dst)
      (singleLoop sh total ck lc fuel c start dst) := by
  induction fuel generalizing c start dst with
  | zero => intro d hd; injection hd with hd; subst hd; exact Within.refl _ dst
  | succ f ih =>
    intro d hd
    simp only [singleLoop] at hd
    split at hd
    · next hlt =>
      have hs := hstart hlt
      subst hs
      have hc7 : c ≤ 7 := by omega
      have hsucc : (c + 1) * ck = c * ck + ck := Nat.succ_mul c ck
      cases hidx : sh.indexes[c]? with
      | none => rw [hidx] at hd; cases hd
      | some p =>
        rw [hidx] at hd
        simp only at hd
        obtain ⟨d1, h1, h2⟩ := Res.bind_eq_ok hd
        have hd1 := chunk_within sh total ck hck c hc7 p dst d1 h1
        have hnext := ih (c + 1) (min (c * ck + ck) (total - 1)) (by omega) (by
          intro hlt2
          have h1 : (c + 1) * ck ≤ 7 * ck := Nat.mul_le_mul_right _ (by omega)
          omega) d1 d h2
        have hmono := regionEnd_mono total ck (c + 1) lc hck (by omega) hlc
        refine (hd1.mono ?_).trans (hnext.mono ?_)
        · intro pos ⟨a1, a2⟩; exact ⟨a1, by omega⟩
        · intro pos ⟨a1, a2⟩; exact ⟨by omega, a2⟩
    · injection hd with hd; subst hd; exact Within.refl _ dst

/-- A TASK WRITES ONLY INSIDE ITS OWN RANGE, whatever the tables hold. -/
theorem task_within (sh : Shared) (total ck : Nat) (hck : 7 * ck + 1 < total ∧ total ≤ 8 * ck)
    (fc lc : Nat) (hfc : fc < lc) (hlc : lc ≤ 8) (dst : Array Nat) :
    OkP (Within (fun pos => fc * ck ≤ pos ∧ pos < regionEnd total ck lc) dst)
      (task sh dst total (fc * ck) ck fc lc) := by
  intro d hd
  unfold task at hd
  split at hd
  · cases hd
  · simp only [] at hd
    split at hd
    · next hun =>
      -- the unrolled loop: fc = 0, lc = 8, total = 8 * ck
      have hfc0 : fc = 0 := by omega
      have hl8 : lc = 8 := by omega
      subst hfc0; subst hl8
      have hre : regionEnd total ck 8 = total := by unfold regionEnd; rw [if_pos rfl]
      rw [hre]
      obtain ⟨x, hx, hsl⟩ := Res.bind_eq_ok hd
      cases hps : mapRes (fun k => Res.ofOpt (sh.indexes[0 + k]?)) (List.range 8) with
      | ok ps =>
        rw [hps] at hx
        simp only at hx
        obtain ⟨d1, hl, hx2⟩ := Res.bind_eq_ok hx
        injection hx2 with hx2; subst hx2
        simp only [singleLoop] at hsl
        rw [if_neg (by omega)] at hsl
        injection hsl with hsl; subst hsl
        apply pairLoop_within (fun pos => 0 * ck ≤ pos ∧ pos < total) sh _ _ _ _ dst ?_ d1 hl
        intro b hb pos h1 h2
        have hb' : b ∈ (List.range 8).map (· * ck) := by
          obtain ⟨l, hl', rfl⟩ := List.mem_map.1 hb
          exact (List.of_mem_zip hl').2
        obtain ⟨k, hk, rfl⟩ := List.mem_map.1 hb'
        have hk8 := List.mem_range.1 hk
        have hmul : k * ck ≤ 7 * ck := Nat.mul_le_mul_right _ (by omega)
        rcases h2 with h2 | ⟨_, h2⟩
        · omega
        · simp at h2
      | _ => rw [hps] at hx; cases hx
    · rw [Res.bind_ok] at hd
      exact singleLoop_within sh total ck hck lc hlc 8 fc (fc * ck) (by omega) (fun _ => rfl) dst d hd

theorem chunkRanges_ordered (l : List Nat) (c : Nat) :
    (Kanzi.Jobs.chunkRanges l c).Pairwise (fun p q => p.2 ≤ q.1) ∧ ∀ p ∈ Kanzi.Jobs.chunkRanges l c, c ≤ p.1 := by
  induction l generalizing c with
  | nil => simp [Kanzi.Jobs.chunkRanges]
  | cons k ks ih =>
    obtain ⟨h1, h2⟩ := ih (c + k)
    simp only [Kanzi.Jobs.chunkRanges, List.pairwise_cons, List.mem_cons]
    refine ⟨⟨fun q hq => h2 q hq, h1⟩, ?_⟩
    rintro p (rfl | hp)
    · exact Nat.le_refl _
    · have := h2 p hp; omega

/-- the split of the 8 chunks among `min(jobs, 8)` tasks: non-empty consecutive ranges inside `0 .. 8` -/
theorem split8 (jobs : Nat) (hj : 1 ≤ jobs) :
    ∃ rs, Kanzi.Jobs.bwtSplit jobs 8 = .ok rs ∧ (∀ r ∈ rs, r.1 < r.2 ∧ r.2 ≤ 8) ∧
      rs.Pairwise (fun p q => p.2 ≤ q.1) :=
  ⟨_, Kanzi.Jobs.bwtSplit_ok jobs 8 hj (by omega), ranges_le jobs 8 hj (by omega), (chunkRanges_ordered _ 0).1⟩

/-- TASKS WRITE DISJOINT RANGES.  For every block of at least 256 bytes (8 chunks) and every job count:
each task of the split changes `dst` only inside its range `[fc*ck, regionEnd lc)` — for ANY contents of
the shared tables, valid or forged — and the ranges of different tasks are disjoint and inside the block. -/
theorem tasks_disjoint (jobs total : Nat) (hj : 1 ≤ jobs) (ht : 256 ≤ total) :
    ∃ rs, Kanzi.Jobs.bwtSplit jobs (getBWTChunks total) = .ok rs ∧
      (∀ r ∈ rs, ∀ (sh : Shared) (dst dst' : Array Nat),
        task sh dst total (r.1 * chunkSize total 8) (chunkSize total 8) r.1 r.2 = .ok dst' →
        dst'.size = dst.size ∧
        ∀ pos, (pos < r.1 * chunkSize total 8 ∨ regionEnd total (chunkSize total 8) r.2 ≤ pos) →
          rd dst' pos = rd dst pos) ∧
      rs.Pairwise (fun p q => regionEnd total (chunkSize total 8) p.2 ≤ q.1 * chunkSize total 8) ∧
      (∀ r ∈ rs, r.1 * chunkSize total 8 < regionEnd total (chunkSize total 8) r.2 ∧
        regionEnd total (chunkSize total 8) r.2 ≤ total) := by
  have hch := getBWTChunks_eq_eight.2 ht
  obtain ⟨rs, hsplit, hr, hord⟩ := split8 jobs hj
  have hck : 7 * chunkSize total 8 + 1 < total ∧ total ≤ 8 * chunkSize total 8 := by
    unfold chunkSize; split <;> omega
  refine ⟨rs, by rw [hch]; exact hsplit, ?_, ?_, ?_⟩
  · intro r hmem sh dst dst' hok
    obtain ⟨h1, h2⟩ := hr r hmem
    have := task_within sh total (chunkSize total 8) hck r.1 r.2 h1 h2 dst dst' hok
    refine ⟨this.1, ?_⟩
    intro pos hpos
    apply this.2
    intro ⟨a1, a2⟩
    omega
  · have := List.Pairwise.and_mem.1 hord
    refine this.imp ?_
    intro p q ⟨hp, hq, hpq⟩
    obtain ⟨q1, q2⟩ := hr q hq
    have hp7 : p.2 ≤ 7 := by omega
    unfold regionEnd
    rw [if_neg (by omega)]
    exact Nat.mul_le_mul_right _ hpq
  · intro r hmem
    obtain ⟨h1, h2⟩ := hr r hmem
    have hmul : r.1 * chunkSize total 8 ≤ 7 * chunkSize total 8 := Nat.mul_le_mul_right _ (by omega)
    unfold regionEnd
    split
    · omega
    · have h3 : r.2 * chunkSize total 8 ≤ 7 * chunkSize total 8 := Nat.mul_le_mul_right _ (by omega)
      have h4 : (r.1 + 1) * chunkSize total 8 ≤ r.2 * chunkSize total 8 := Nat.mul_le_mul_right _ (by omega)
      rw [Nat.succ_mul] at h4
      have : 0 < chunkSize total 8 := by omega
      omega

end Kanzi.BWT
