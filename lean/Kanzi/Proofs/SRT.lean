/-
The sorted rank transform `transform.SRT` as a whole (property C13): `srtInverse (srtForward b) = b`
with the size bound `maxEncodedLen`, Forward never faults and emits bytes, Inverse does not fault
when the announced frequencies fit in the data, and does fault on a source too short to hold the
header.  The statements used by `Kanzi/Properties/C13_srt.lean`.
-/
import Kanzi.Proofs.SRTInv

namespace Kanzi.SRT

/-- how callers discharge the frequency hypothesis `∀ c, b.count c < 2 ^ 31` below: from a bound on
    the block length -/
theorem count_lt_of_length_lt (b : List Nat) (N : Nat) (h : b.length < N) : ∀ c, b.count c < N :=
  fun _ => Nat.lt_of_le_of_lt List.count_le_length h

theorem srtForward_empty (fill dstLen : Nat) : srtForwardFill fill [] dstLen = .ok [] := by
  simp [srtForwardFill]

theorem srtInverse_empty (n : Nat) : srtInverse [] n = .ok [] := by
  simp [srtInverse]

/-- Round trip and size bound.  `hfreq` is what the header format can carry (a varint keeps 31 bits,
    `decVar_encVar`); `fill` is the content of the destination buffer before the call, which the
    result does not depend on. -/
theorem srt_roundtrip (fill : Nat) (b : List Nat) (dstLen : Nat) (hb : ∀ x ∈ b, x < 256)
    (hfreq : ∀ c, b.count c < 2 ^ 31) (hdst : maxEncodedLen b.length ≤ dstLen) :
    ∃ t, srtForwardFill fill b dstLen = .ok t ∧ t.length ≤ maxEncodedLen b.length ∧
      ∀ n, b.length ≤ n → srtInverse t n = .ok b := by
  by_cases hne : b = []
  · subst hne
    exact ⟨[], srtForward_empty fill dstLen, by simp, fun n _ => srtInverse_empty n⟩
  · obtain ⟨data, h1, h2, h3⟩ := srtForward_spec fill b dstLen hb hne hdst hfreq
    refine ⟨_, h1, ?_, ?_⟩
    · have := encodeHeader_length (freqsOf b).toList (freqsOf_toList_lt b hb _ hfreq)
      rw [Array.length_toList, freqsOf_size b hb] at this
      rw [List.length_append, h2]; unfold maxEncodedLen; omega
    · intro n hn
      exact srtInverse_spec b data n hb hne hfreq h2 h3 hn

/-- sharper size bound: a header entry needs a fifth byte only for a symbol with at least 2^28
    occurrences, and the frequencies add up to `b.length` -/
theorem srtForward_length_sharp (fill : Nat) (b t : List Nat) (dstLen : Nat)
    (hb : ∀ x ∈ b, x < 256) (hfreq : ∀ c, b.count c < 2 ^ 31)
    (hdst : maxEncodedLen b.length ≤ dstLen) (h : srtForwardFill fill b dstLen = .ok t) :
    t.length ≤ b.length + 4 * 256 + b.length / 2 ^ 28 := by
  by_cases hne : b = []
  · subst hne
    rw [srtForward_empty] at h
    cases h; simp
  · obtain ⟨data, h1, h2, _⟩ := srtForward_spec fill b dstLen hb hne hdst hfreq
    have hs := encodeHeader_length_sum (freqsOf b).toList (freqsOf_toList_lt b hb _ hfreq)
    have hl : (freqsOf b).toList.length = 256 := by rw [Array.length_toList, freqsOf_size b hb]
    rw [hl, freqsOf_sum b hb] at hs
    rw [h1] at h
    have ht : t = encodeHeader (freqsOf b).toList ++ data := by injection h with h; exact h.symm
    rw [ht, List.length_append, h2]; omega

/-! ## Forward never faults, and its output consists of bytes -/

theorem srtForward_no_fault (fill : Nat) (b : List Nat) (dstLen : Nat) (hb : ∀ x ∈ b, x < 256)
    (hfreq : ∀ c, b.count c < 2 ^ 31) : srtForwardFill fill b dstLen ≠ .fault := by
  by_cases hdst : maxEncodedLen b.length ≤ dstLen
  · obtain ⟨t, h1, _, _⟩ := srt_roundtrip fill b dstLen hb hfreq hdst
    rw [h1]; intro h; cases h
  · unfold srtForwardFill
    by_cases hA : b.length = 0 ∨ dstLen = 0
    · rw [if_pos hA]; intro h; cases h
    · rw [if_neg hA, if_pos (by omega)]; intro h; cases h

theorem rd_wr_lt {a : Array Nat} {N v : Nat} (h : ∀ k, rd a k < N) (hv : v < N) (i : Nat) :
    ∀ k, rd (wr a i v) k < N := by
  intro k; rw [rd_wr]; split
  · exact hv
  · exact h k

theorem fwdCount_s2r_lt : ∀ (q : List Nat) (prev : Option Nat) (st : CSt),
    (∀ x, rd st.s2r x < 256) → ∀ x, rd (fwdCount q prev st).s2r x < 256 := by
  intro q
  induction q with
  | nil => intro prev st h; exact h
  | cons y q ih =>
    intro prev st h
    simp only [fwdCount]
    split
    · exact ih _ _ h
    · split
      · exact ih _ _ (rd_wr_lt h (Nat.mod_lt _ (by omega)) _)
      · exact ih _ _ h

theorem mtfUp_s2r_lt : ∀ (r : Nat) (s2r r2s : Array Nat), r < 256 → (∀ x, rd s2r x < 256) →
    ∀ x, rd (mtfUp r s2r r2s).1 x < 256 := by
  intro r
  induction r with
  | zero => intro s2r r2s _ h; exact h
  | succ r ih =>
    intro s2r r2s hr h
    simp only [mtfUp]
    exact ih _ _ (by omega) (rd_wr_lt h hr _)

theorem fwdEncode_bytes : ∀ (q : List Nat) (prev : Option Nat) (st st' : ESt),
    fwdEncode q prev st = some st' → (∀ x, rd st.s2r x < 256) → (∀ k, rd st.data k < 256) →
    ∀ k, rd st'.data k < 256 := by
  intro q
  induction q with
  | nil => intro prev st st' h _ hd; simp [fwdEncode] at h; subst h; exact hd
  | cons y q ih =>
    intro prev st st' h hs hd
    rw [fwdEncode] at h
    by_cases h0 : rd st.buckets y ≥ st.data.size
    · rw [if_pos h0] at h; cases h
    rw [if_neg h0] at h
    by_cases h1 : prev = some y
    · rw [if_pos h1] at h
      exact ih _ _ _ h hs (rd_wr_lt hd (Nat.zero_lt_succ 255) _)
    rw [if_neg h1] at h
    by_cases h2 : rd st.s2r y > 0
    · rw [if_pos h2] at h
      have hs' : ∀ x, rd (wr (mtfUp (rd st.s2r y) st.s2r st.r2s).1 y 0) x < 256 :=
        rd_wr_lt (mtfUp_s2r_lt _ _ _ (hs y) hs) (Nat.zero_lt_succ 255) y
      exact ih _ _ _ h hs' (rd_wr_lt hd (hs y) _)
    · rw [if_neg h2] at h
      exact ih _ _ _ h hs (rd_wr_lt hd (hs y) _)

theorem srtForward_bytes (fill : Nat) (b t : List Nat) (dstLen : Nat) (hfill : fill < 256)
    (h : srtForwardFill fill b dstLen = .ok t) : ∀ y ∈ t, y < 256 := by
  unfold srtForwardFill at h
  by_cases hA : b.length = 0 ∨ dstLen = 0
  · rw [if_pos hA] at h; cases h; intro y hy; cases hy
  · rw [if_neg hA] at h
    by_cases hB : dstLen < maxEncodedLen b.length
    · rw [if_pos hB] at h; cases h
    · rw [if_neg hB] at h
      simp only at h
      split at h
      · cases h
      · split at h
        · cases h
        · rename_i es hes
          cases h
          intro y hy
          rcases List.mem_append.1 hy with hy | hy
          · exact encodeHeader_bytes _ y hy
          · have hy' := List.mem_of_mem_take hy
            rw [Array.mem_toList_iff, Array.mem_iff_getElem] at hy'
            obtain ⟨i, hi, e⟩ := hy'
            rw [← e, ← rd_eq_getElem _ _ hi]
            apply fwdEncode_bytes _ _ _ _ hes
            · exact fwdCount_s2r_lt _ _ _ (by intro x; simp [rd_zeros])
            · intro k
              simp only [rd, Array.getD_eq_getD_getElem?, Array.getElem?_replicate]
              split <;> simp <;> omega

/-! ## Inverse: a sufficient condition for "no fault", and forged inputs that do fault -/

theorem invInit_no_fault (fr D : Array Nat) : ∀ (suf : List Nat) (pos : Nat) (st : ISt),
    pos + total fr suf ≤ D.size → (∀ c ∈ suf, 0 < rd fr c) → (∀ c, rd st.ends c ≤ D.size) →
    ∃ st', invInit fr D suf pos st = .ok st' ∧ ∀ c, rd st'.ends c ≤ D.size := by
  intro suf
  induction suf with
  | nil => intro pos st _ _ h; exact ⟨st, rfl, h⟩
  | cons c suf ih =>
    intro pos st hp hf he
    have hc := hf c (by simp)
    simp only [total] at hp
    simp only [invInit]
    rw [if_neg (by omega), if_neg (by omega)]
    apply ih _ _ (by omega) (fun c' hc' => hf c' (by simp [hc']))
    intro c'
    show rd (wr st.ends c (pos + rd fr c)) c' ≤ D.size
    rw [rd_wr]; split
    · omega
    · exact he c'

theorem invGo_no_fault (D ends : Array Nat) (he : ∀ c, rd ends c ≤ D.size) :
    ∀ (k c : Nat) (r2s buckets : Array Nat) (nb : Nat) (out : Array Nat),
      ∃ res, invGo D ends k c r2s buckets nb out = some res := by
  intro k
  induction k with
  | zero => intro c r2s buckets nb out; exact ⟨out, rfl⟩
  | succ k ih =>
    intro c r2s buckets nb out
    rw [invGo]
    by_cases h1 : rd buckets c < rd ends c
    · rw [if_pos h1, if_neg (Nat.not_le.2 (Nat.lt_of_lt_of_le h1 (he c)))]
      by_cases h2 : rd D (rd buckets c) = 0
      · rw [if_pos h2]; exact ih _ _ _ _ _
      · rw [if_neg h2]; exact ih _ _ _ _ _
    · rw [if_neg h1]
      by_cases h3 : nb = 1
      · rw [if_pos h3]; exact ih _ _ _ _ _
      · rw [if_neg h3]; exact ih _ _ _ _ _

/-- Inverse does not fault (it may still return an error) on arbitrary input when the header parses
    and the announced frequencies fit in the data that follows, a check the Go code does not make:
    every bucket end then lies inside the data (`invInit_no_fault`), and the decoding loop only
    reads below a bucket end (`invGo_no_fault`). -/
theorem srtInverse_no_fault (src fs data : List Nat) (n : Nat)
    (hd : decodeHeader src = some (fs, data))
    (hsum : total fs.toArray (preprocess fs.toArray) ≤ data.length) :
    srtInverse src n ≠ .fault := by
  unfold srtInverse
  by_cases hA : src.length = 0 ∨ n = 0
  · rw [if_pos hA]; intro h; cases h
  · rw [if_neg hA, hd]
    simp only
    by_cases hB : data.length > n
    · rw [if_pos hB]; intro h; cases h
    · rw [if_neg hB]
      obtain ⟨st', h1, h2⟩ := invInit_no_fault fs.toArray data.toArray (preprocess fs.toArray) 0
        ⟨zeros, zeros, zeros⟩ (by simpa using hsum)
        (fun c hc => Nat.pos_of_ne_zero ((mem_preprocess _ c).1 hc).2)
        (by intro c; simp [rd_zeros])
      rw [h1]
      simp only
      obtain ⟨res, h3⟩ := invGo_no_fault data.toArray st'.ends h2 n (rd st'.r2s 0) st'.r2s
        st'.buckets (preprocess fs.toArray).length #[]
      rw [h3]
      intro h; cases h

theorem srtInverse_short_fault (src : List Nat) (n : Nat) (h0 : src ≠ []) (hn : n ≠ 0)
    (h : src.length < 256) : srtInverse src n = .fault := by
  unfold srtInverse
  have hA : ¬ (src.length = 0 ∨ n = 0) := by
    intro h'; rcases h' with h' | h'
    · exact h0 (List.length_eq_zero_iff.1 h')
    · exact hn h'
  rw [if_neg hA, decodeHeader_short src h]

end Kanzi.SRT
