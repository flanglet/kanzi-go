import Kanzi.Model.Writer
import Kanzi.Spec.Stream
/-! Lemmas for `Kanzi/Proofs/Writer.lean`: `chunks`, `splice`, `spawn`, `processBlock`, the case
principle of `writeLoop`, `Close` cut into its two phases. -/
namespace Kanzi.Writer
open Kanzi.Spec

/-! ### chunks -/

theorem chunks_nil (B : Nat) (hB : 0 < B) : chunks B [] = [] := by
  have h : (0 + B - 1) / B = 0 := by
    apply Nat.div_eq_of_lt; omega
  simp only [chunks, List.length_nil, h, List.range_zero, List.map_nil]

theorem ceil_step (B n : Nat) (hB : 0 < B) (hn : 0 < n) :
    (n + B - 1) / B = ((n - B) + B - 1) / B + 1 := by
  by_cases h : B ≤ n
  · rw [← Nat.add_div_right _ hB]
    congr 1
    omega
  · rw [Nat.sub_eq_zero_of_le (Nat.le_of_not_le h), Nat.zero_add, Nat.div_eq_of_lt (Nat.sub_lt hB Nat.one_pos),
      show n + B - 1 = (n - 1) + B by omega, Nat.add_div_right _ hB, Nat.div_eq_of_lt (by omega)]

theorem chunks_cons (B : Nat) (hB : 0 < B) (l : List Nat) (hl : l ≠ []) :
    chunks B l = l.take B :: chunks B (l.drop B) := by
  have hn : 0 < l.length := List.length_pos_iff.mpr hl
  unfold chunks
  rw [ceil_step B l.length hB hn, List.range_succ_eq_map, List.length_drop]
  simp only [List.map_cons, List.map_map, Nat.zero_mul, List.drop_zero]
  congr 1
  apply List.map_congr_left
  intro k _
  simp only [Function.comp, List.drop_drop, Nat.succ_mul]
  congr 2
  omega

theorem chunks_append_of_dvd (B : Nat) (hB : 0 < B) (a b : List Nat) (h : B ∣ a.length) :
    chunks B (a ++ b) = chunks B a ++ chunks B b := by
  induction hn : a.length using Nat.strongRecOn generalizing a with
  | _ n ih =>
    by_cases ha : a = []
    · subst ha; simp [chunks_nil B hB]
    · have hpos : 0 < a.length := List.length_pos_iff.mpr ha
      have hle : B ≤ a.length := Nat.le_of_dvd hpos h
      have hab : a ++ b ≠ [] := by simp [ha]
      rw [chunks_cons B hB _ hab, chunks_cons B hB a ha, List.take_append_of_le_length hle,
        List.drop_append_of_le_length hle]
      have hd : B ∣ (a.drop B).length := by
        rw [List.length_drop]; exact Nat.dvd_sub h (Nat.dvd_refl B)
      rw [ih (a.drop B).length (by rw [List.length_drop]; omega) (a.drop B) hd rfl]
      rfl

theorem chunks_single (B : Nat) (hB : 0 < B) (l : List Nat) (hl : l ≠ []) (hle : l.length ≤ B) :
    chunks B l = [l] := by
  rw [chunks_cons B hB l hl, List.take_of_length_le hle, List.drop_eq_nil_of_le hle, chunks_nil B hB]

/-! ### splice -/

theorem splice_length (mem : List Nat) (pos : Nat) (src : List Nat) (h : pos + src.length ≤ mem.length) :
    (splice mem pos src).length = mem.length := by
  simp only [splice, List.length_append, List.length_take, List.length_drop]; omega

theorem splice_take (mem : List Nat) (pos : Nat) (src : List Nat) (h : pos ≤ mem.length) :
    (splice mem pos src).take (pos + src.length) = mem.take pos ++ src := by
  have hl : (mem.take pos ++ src).length = pos + src.length := by
    simp only [List.length_append, List.length_take]; omega
  unfold splice
  rw [← hl, List.take_left]

/-! ### spawn -/

theorem spawn_frame (c : Cfg) (fuel k : Nat) (s : St) :
    spawn c fuel k s = { s with available := (spawn c fuel k s).available,
                                emitted := (spawn c fuel k s).emitted,
                                bits := (spawn c fuel k s).bits } := by
  induction fuel generalizing k s with
  | zero => rfl
  | succ n ih =>
    unfold spawn
    by_cases h : min s.available c.B = 0
    · simp only [h, if_true]
    · simp only [h, if_false]
      rw [ih]

theorem spawn_bits_le (c : Cfg) (fuel k : Nat) (s : St) : s.bits ≤ (spawn c fuel k s).bits := by
  induction fuel generalizing k s with
  | zero => exact Nat.le_refl _
  | succ n ih =>
    unfold spawn
    by_cases h : min s.available c.B = 0
    · simp only [h, if_true]; exact Nat.le_refl _
    · simp only [h, if_false]
      refine Nat.le_trans ?_ (ih _ _)
      exact Nat.le_add_right _ _

theorem spawn_avail_zero (c : Cfg) (_hB : 0 < c.B) (fuel k : Nat) (s : St) (h : s.available = 0) :
    spawn c fuel k s = s := by
  cases fuel with
  | zero => rfl
  | succ n => unfold spawn; simp [h]

/-- `spawn` with enough tasks emits the buffered bytes in blocks of `B` -/
theorem spawn_fields (c : Cfg) (hB : 0 < c.B) (fuel k : Nat) (s : St)
    (hf : s.available ≤ fuel * c.B) (hm : k * c.B + s.available ≤ s.mem.length) :
    (spawn c fuel k s).available = 0 ∧
    (spawn c fuel k s).emitted = s.emitted ++ chunks c.B ((s.mem.drop (k * c.B)).take s.available) ∧
    (spawn c fuel k s).bits =
      s.bits + ((chunks c.B ((s.mem.drop (k * c.B)).take s.available)).map c.frameBits).sum := by
  induction fuel generalizing k s with
  | zero =>
    have h0 : s.available = 0 := by simpa using hf
    simp [spawn, h0, chunks_nil c.B hB]
  | succ n ih =>
    by_cases h0 : s.available = 0
    · rw [spawn_avail_zero c hB _ _ _ h0]
      simp [h0, chunks_nil c.B hB]
    · have hX : ((s.mem.drop (k * c.B)).take s.available) ≠ [] :=
        List.ne_nil_of_length_pos (by simp only [List.length_take, List.length_drop]; omega)
      have hsucc : (n + 1) * c.B = n * c.B + c.B := Nat.succ_mul _ _
      have hk : (k + 1) * c.B = k * c.B + c.B := Nat.succ_mul _ _
      have h : min s.available c.B ≠ 0 := by omega
      rw [spawn, if_neg h]
      by_cases hle : s.available ≤ c.B
      · have hmin : min s.available c.B = s.available := Nat.min_eq_left hle
        have hlen : ((s.mem.drop (k * c.B)).take s.available).length ≤ c.B := by
          rw [List.length_take]
          exact Nat.le_trans (Nat.min_le_left _ _) hle
        rw [spawn_avail_zero c hB _ _ _ (by simp only; omega), chunks_single c.B hB _ hX hlen, hmin]
        simp
      · have hmin : min s.available c.B = c.B := Nat.min_eq_right (Nat.le_of_not_le hle)
        obtain ⟨i1, i2, i3⟩ := ih (k + 1)
          { s with available := s.available - min s.available c.B,
                   emitted := s.emitted ++ [(s.mem.drop (k * c.B)).take (min s.available c.B)],
                   bits := s.bits + c.frameBits ((s.mem.drop (k * c.B)).take (min s.available c.B)) }
          (by simp only; omega) (by simp only [hk]; omega)
        rw [i1, i2, i3, chunks_cons c.B hB _ hX, List.take_take, List.drop_take, List.drop_drop, hk, hmin,
          Nat.min_eq_left (Nat.le_of_not_le hle)]
        simp [Nat.add_assoc]

theorem spawn_eq (c : Cfg) (hB : 0 < c.B) (fuel k : Nat) (s : St)
    (hf : s.available ≤ fuel * c.B) (hm : k * c.B + s.available ≤ s.mem.length) :
    spawn c fuel k s =
      { s with available := 0,
               emitted := s.emitted ++ chunks c.B ((s.mem.drop (k * c.B)).take s.available),
               bits := s.bits + ((chunks c.B ((s.mem.drop (k * c.B)).take s.available)).map c.frameBits).sum } := by
  obtain ⟨h1, h2, h3⟩ := spawn_fields c hB fuel k s hf hm
  rw [spawn_frame, h1, h2, h3]

/-! ### nbTasks -/

theorem le_ceil_mul (a B : Nat) (hB : 0 < B) : a ≤ ((a + B - 1) / B) * B := by
  have h1 := Nat.div_add_mod (a + B - 1) B
  have h2 := Nat.mod_lt (a + B - 1) hB
  rw [Nat.mul_comm] at h1
  omega

theorem ceil_le (a B J : Nat) (hB : 0 < B) (h : a ≤ J * B) : (a + B - 1) / B ≤ J := by
  have : (a + B - 1) / B < J + 1 := by
    rw [Nat.div_lt_iff_lt_mul hB, Nat.succ_mul]; omega
  omega

theorem nbTasks_ge (c : Cfg) (hB : 0 < c.B) (s : St) (h : s.available ≤ c.J * c.B) :
    s.available ≤ nbTasks c s * c.B := by
  unfold nbTasks
  split
  · have h1 := le_ceil_mul s.available c.B hB
    have h2 := ceil_le s.available c.B c.J hB h
    have h3 : (s.available + c.B - 1) / c.B ≤ min c.J (max c.nbIn ((s.available + c.B - 1) / c.B)) := by
      omega
    exact Nat.le_trans h1 (Nat.mul_le_mul_right _ h3)
  · exact h

/-! ### writeHeader / processBlock -/

theorem writeHeader_frame (c : Cfg) (s : St) :
    writeHeader c s = { s with initialized := (writeHeader c s).initialized,
                               headerOut := (writeHeader c s).headerOut,
                               bits := (writeHeader c s).bits } := by
  unfold writeHeader; split <;> rfl

theorem writeHeader_bits_le (c : Cfg) (s : St) : s.bits ≤ (writeHeader c s).bits := by
  unfold writeHeader; split
  · exact Nat.le_refl _
  · exact Nat.le_add_right _ _

theorem spawn_flags (c : Cfg) (fuel k : Nat) (s : St) :
    (spawn c fuel k s).closing = s.closing ∧ (spawn c fuel k s).finalized = s.finalized ∧
    (spawn c fuel k s).closed = s.closed ∧ (spawn c fuel k s).failed = s.failed ∧
    (spawn c fuel k s).obsClosed = s.obsClosed ∧ (spawn c fuel k s).closerClosed = s.closerClosed := by
  refine ⟨?_, ?_, ?_, ?_, ?_, ?_⟩ <;> rw [spawn_frame]

theorem writeHeader_flags (c : Cfg) (s : St) :
    (writeHeader c s).mem = s.mem ∧ (writeHeader c s).available = s.available ∧
    (writeHeader c s).closing = s.closing ∧ (writeHeader c s).finalized = s.finalized ∧
    (writeHeader c s).closed = s.closed ∧ (writeHeader c s).failed = s.failed ∧
    (writeHeader c s).obsClosed = s.obsClosed ∧ (writeHeader c s).closerClosed = s.closerClosed ∧
    (writeHeader c s).emitted = s.emitted ∧ (writeHeader c s).endOut = s.endOut := by
  refine ⟨?_, ?_, ?_, ?_, ?_, ?_, ?_, ?_, ?_, ?_⟩ <;> rw [writeHeader_frame]

theorem processBlock_frame (c : Cfg) (s : St) (fail : Bool) :
    (processBlock c s fail).1.closing = s.closing ∧
    (processBlock c s fail).1.finalized = s.finalized ∧
    (processBlock c s fail).1.closed = s.closed ∧
    (processBlock c s fail).1.obsClosed = s.obsClosed ∧
    (processBlock c s fail).1.closerClosed = s.closerClosed ∧
    s.bits ≤ (processBlock c s fail).1.bits ∧
    ((processBlock c s fail).2 ≠ none → (processBlock c s fail).1.failed = true) ∧
    ((processBlock c s fail).2 = none → (processBlock c s fail).1.failed = false) := by
  obtain ⟨_, _, w3, w4, w5, w6, w7, w8, _⟩ := writeHeader_flags c s
  obtain ⟨p3, p4, p5, p6, p7, p8⟩ := spawn_flags c (nbTasks c (writeHeader c s)) 0 (writeHeader c s)
  have hb := Nat.le_trans (writeHeader_bits_le c s)
    (spawn_bits_le c (nbTasks c (writeHeader c s)) 0 (writeHeader c s))
  have hb0 := writeHeader_bits_le c s
  unfold processBlock
  by_cases hf : s.failed = true
  · simp [hf]
  · have hf' : s.failed = false := by simpa using hf
    simp only [hf', Bool.false_eq_true, if_false]
    by_cases h0 : (writeHeader c s).available = 0
    · simp only [h0, if_true]
      simp [*]
    · simp only [h0, if_false]
      cases fail
      · simp only [Bool.false_eq_true, if_false]
        simp [*]
      · simp only [if_true]
        simp [*]

/-- the state after a successful `processBlock` -/
def pbState (c : Cfg) (s : St) : St :=
  { writeHeader c s with
    available := 0,
    emitted := s.emitted ++ chunks c.B (s.mem.take s.available),
    bits := (writeHeader c s).bits + ((chunks c.B (s.mem.take s.available)).map c.frameBits).sum }

theorem processBlock_ok (c : Cfg) (hB : 0 < c.B) (s : St) (hf : s.failed = false)
    (hm : s.mem.length = c.J * c.B) (ha : s.available ≤ c.J * c.B) :
    processBlock c s false = (pbState c s, none) := by
  obtain ⟨hwm, hwa, _, _, _, _, _, _, hwe, _⟩ := writeHeader_flags c s
  -- with nothing buffered `spawn` does nothing, so both branches are the result of `spawn`
  have hsp : processBlock c s false = (spawn c (nbTasks c (writeHeader c s)) 0 (writeHeader c s), none) := by
    unfold processBlock
    simp only [hf, Bool.false_eq_true, if_false]
    split
    · rw [spawn_avail_zero c hB _ _ _ ‹_›]
    · rfl
  rw [hsp, spawn_eq c hB, pbState]
  · simp [hwa, hwm, hwe]
  · apply nbTasks_ge c hB; rw [hwa]; exact ha
  · rw [hwa, hwm]; omega

theorem processBlock_fail (c : Cfg) (s : St) (hf : s.failed = false) (ha : s.available ≠ 0) :
    (processBlock c s true).2 = some Err.task := by
  have hwa : (writeHeader c s).available = s.available := by rw [writeHeader_frame]
  unfold processBlock
  simp [hf, hwa, ha]

theorem processBlock_none (c : Cfg) (hB : 0 < c.B) (s : St) (fail : Bool) (hf : s.failed = false)
    (hm : s.mem.length = c.J * c.B) (ha : s.available ≤ c.J * c.B)
    (hn : (processBlock c s fail).2 = none) : (processBlock c s fail).1 = pbState c s := by
  cases fail
  · rw [processBlock_ok c hB s hf hm ha]
  · by_cases h0 : s.available = 0
    · have hwa : (writeHeader c s).available = s.available := (writeHeader_flags c s).2.1
      have : processBlock c s true = processBlock c s false := by
        unfold processBlock
        simp [hf, hwa, h0]
      rw [this, processBlock_ok c hB s hf hm ha]
    · rw [processBlock_fail c s hf h0] at hn
      cases hn

theorem pbState_closing (c : Cfg) (s : St) :
    pbState c { s with closing := true } = { pbState c s with closing := true } := by
  unfold pbState writeHeader
  split <;> rfl

/-! ### writeLoop -/

/-- the state after `src` has been copied behind the buffered bytes -/
def fill (s : St) (src : List Nat) (len : Nat) : St :=
  { s with mem := splice s.mem s.available src, available := s.available + len }

theorem writeLoop_succ (c : Cfg) (flt : Fault) (fuel : Nat) (rest : List Nat) (done batch : Nat) (s : St) :
    writeLoop c flt (fuel + 1) rest done batch s =
      let len := min rest.length (c.B - s.available % c.B)
      let pb := processBlock c (fill s (rest.take len) len) (flt = .task batch)
      if rest.length = 0 then (s, done, none)
      else if s.available % c.B + len ≥ c.B then
        if s.available / c.B + 1 < c.J then
          writeLoop c flt fuel (rest.drop len) (done + len) batch (fill s (rest.take len) len)
        else
          match pb.2 with
          | some e => (pb.1, done + len, some e)
          | none => writeLoop c flt fuel (rest.drop len) (done + len) (batch + 1) pb.1
      else writeLoop c flt fuel (rest.drop len) (done + len) batch (fill s (rest.take len) len) := by
  rfl

/-- `writeLoop` by cases of one iteration: `len` bytes are copied into the buffers; when that fills the
last buffer, `processBlock` runs (result `pb`) and ends the loop if it fails. -/
theorem writeLoop_cases (c : Cfg) (flt : Fault)
    {P : Nat → List Nat → Nat → Nat → St → St × Nat × Option Err → Prop}
    (stop : ∀ fuel rest done batch s, fuel = 0 ∨ rest.length = 0 → P fuel rest done batch s (s, done, none))
    (copy : ∀ fuel rest done batch s len r, rest.length ≠ 0 → len = min rest.length (c.B - s.available % c.B) →
      s.available % c.B + len < c.B ∨ s.available / c.B + 1 < c.J →
      P fuel (rest.drop len) (done + len) batch (fill s (rest.take len) len) r → P (fuel + 1) rest done batch s r)
    (full : ∀ fuel rest done batch s len pb, rest.length ≠ 0 →
      len = min rest.length (c.B - s.available % c.B) →
      s.available % c.B + len ≥ c.B → ¬ s.available / c.B + 1 < c.J →
      pb = processBlock c (fill s (rest.take len) len) (flt = .task batch) →
      (∀ e, pb.2 = some e → P (fuel + 1) rest done batch s (pb.1, done + len, some e)) ∧
      (∀ r, pb.2 = none → P fuel (rest.drop len) (done + len) (batch + 1) pb.1 r →
        P (fuel + 1) rest done batch s r))
    (fuel : Nat) (rest : List Nat) (done batch : Nat) (s : St) :
    P fuel rest done batch s (writeLoop c flt fuel rest done batch s) := by
  induction fuel generalizing rest done batch s with
  | zero => exact stop 0 rest done batch s (Or.inl rfl)
  | succ fuel ih =>
    rw [writeLoop_succ]
    dsimp only
    by_cases h0 : rest.length = 0
    · rw [if_pos h0]
      exact stop _ _ _ _ _ (Or.inr h0)
    rw [if_neg h0]
    by_cases hfull : s.available % c.B + min rest.length (c.B - s.available % c.B) ≥ c.B
    · rw [if_pos hfull]
      by_cases hj : s.available / c.B + 1 < c.J
      · rw [if_pos hj]
        exact copy fuel rest done batch s _ _ h0 rfl (Or.inr hj) (ih _ _ _ _)
      · rw [if_neg hj]
        cases hpb : (processBlock c (fill s (rest.take (min rest.length (c.B - s.available % c.B)))
            (min rest.length (c.B - s.available % c.B))) (flt = .task batch)).2 with
        | some e => exact (full fuel rest done batch s _ _ h0 rfl hfull hj rfl).1 e hpb
        | none => exact (full fuel rest done batch s _ _ h0 rfl hfull hj rfl).2 _ hpb (ih _ _ _ _)
    · rw [if_neg hfull]
      exact copy fuel rest done batch s _ _ h0 rfl (Or.inl (Nat.lt_of_not_le hfull)) (ih _ _ _ _)

theorem writeLoop_frame (c : Cfg) (flt : Fault) (fuel : Nat) (rest : List Nat) (done batch : Nat) (s : St) :
    (writeLoop c flt fuel rest done batch s).1.finalized = s.finalized ∧
    (writeLoop c flt fuel rest done batch s).1.closed = s.closed ∧
    s.bits ≤ (writeLoop c flt fuel rest done batch s).1.bits := by
  refine writeLoop_cases c flt (P := fun _ _ _ _ s r => r.1.finalized = s.finalized ∧
    r.1.closed = s.closed ∧ s.bits ≤ r.1.bits) ?_ ?_ ?_ fuel rest done batch s
  · intro _ _ _ _ s _
    exact ⟨rfl, rfl, Nat.le_refl _⟩
  · intro _ _ _ _ s _ r _ _ _ ih
    exact ih
  · intro _ rest _ batch s len pb _ _ _ _ h
    obtain ⟨_, h1, h2, _, _, h3, _⟩ := processBlock_frame c (fill s (rest.take len) len) (flt = .task batch)
    rw [← h] at h1 h2 h3
    exact ⟨fun _ _ => ⟨h1, h2, h3⟩, fun r _ ih => ⟨ih.1.trans h1, ih.2.1.trans h2, Nat.le_trans h3 ih.2.2⟩⟩

theorem writeLoop_bits_le (c : Cfg) (flt : Fault) (fuel : Nat) (rest : List Nat) (done batch : Nat) (s : St) :
    s.bits ≤ (writeLoop c flt fuel rest done batch s).1.bits :=
  (writeLoop_frame c flt fuel rest done batch s).2.2

/-! ### Close, cut into its two phases -/

/-- phase 1 of `Close`: flush the buffered blocks, write the end marker (once) -/
def closeP1 (c : Cfg) (s : St) (flt : Fault) : St × Option Err :=
  if s.finalized then (s, none)
  else if s.closing then (s, some .closed)
  else
    let r := processBlock c { s with closing := true } (flt = .task 0)
    match r.2 with
    | some e => ({ r.1 with closing := false }, some e)
    | none =>
      if flt = .endMarker then ({ r.1 with closing := false, failed := true }, some .io)
      else ({ r.1 with finalized := true, endOut := true, bits := r.1.bits + 8 }, none)

/-- phase 2 of `Close`: obs.Close() (retryable), closer, closed -/
def closeP2 (s1 : St) (flt : Fault) : St × Option Err :=
  if ¬ s1.obsClosed ∧ flt = .finalFlush then (s1, some .io)
  else
    let s2 := { s1 with obsClosed := true }
    if ¬ s2.closerClosed ∧ flt = .closer then (s2, some .io)
    else ({ s2 with closerClosed := true, closed := true }, none)

theorem close_eq (c : Cfg) (s : St) (flt : Fault) :
    close c s flt =
      if s.closed then (s, none)
      else match (closeP1 c s flt).2 with
        | some e => ((closeP1 c s flt).1, some e)
        | none => closeP2 (closeP1 c s flt).1 flt := rfl

/-- phase 1 of `Close` by cases; `pb` is the result of flushing the buffered blocks -/
theorem closeP1_cases (c : Cfg) (flt : Fault) {P : St → St × Option Err → Prop}
    (final : ∀ s, s.finalized = true → P s (s, none))
    (closing : ∀ s, s.finalized = false → s.closing = true → P s (s, some .closed))
    (flush : ∀ s pb, s.finalized = false → s.closing = false →
      pb = processBlock c { s with closing := true } (flt = .task 0) →
      (∀ e, pb.2 = some e → P s ({ pb.1 with closing := false }, some e)) ∧
      (pb.2 = none → flt = .endMarker → P s ({ pb.1 with closing := false, failed := true }, some .io)) ∧
      (pb.2 = none → flt ≠ .endMarker →
        P s ({ pb.1 with finalized := true, endOut := true, bits := pb.1.bits + 8 }, none)))
    (s : St) : P s (closeP1 c s flt) := by
  unfold closeP1
  by_cases hfin : s.finalized = true
  · rw [if_pos hfin]
    exact final s hfin
  rw [if_neg hfin]
  by_cases hcl : s.closing = true
  · rw [if_pos hcl]
    exact closing s (Bool.eq_false_iff.2 hfin) hcl
  rw [if_neg hcl]
  dsimp only
  obtain ⟨err, marker, done⟩ := flush s _ (Bool.eq_false_iff.2 hfin) (Bool.eq_false_iff.2 hcl) rfl
  cases hpb : (processBlock c { s with closing := true } (flt = .task 0)).2 with
  | some e => exact err e hpb
  | none =>
    dsimp only
    by_cases hem : flt = .endMarker
    · rw [if_pos hem]
      exact marker hpb hem
    · rw [if_neg hem]
      exact done hpb hem

/-- what phase 1 leaves alone on arbitrary states, and what an error / a success of phase 1 says about
`finalized`, `failed` and the fault -/
theorem closeP1_frame (c : Cfg) (s : St) (flt : Fault) :
    (closeP1 c s flt).1.obsClosed = s.obsClosed ∧
    (closeP1 c s flt).1.closerClosed = s.closerClosed ∧
    (closeP1 c s flt).1.closed = s.closed ∧
    s.bits ≤ (closeP1 c s flt).1.bits ∧
    ((closeP1 c s flt).2 ≠ none → (closeP1 c s flt).1.finalized = s.finalized ∧
        (s.failed = true → (closeP1 c s flt).1.failed = true)) ∧
    ((closeP1 c s flt).2 = none → s.finalized = false → (s.failed = false ∧ flt ≠ .endMarker)) := by
  refine closeP1_cases c flt (P := fun s r => r.1.obsClosed = s.obsClosed ∧ r.1.closerClosed = s.closerClosed ∧
    r.1.closed = s.closed ∧ s.bits ≤ r.1.bits ∧
    (r.2 ≠ none → r.1.finalized = s.finalized ∧ (s.failed = true → r.1.failed = true)) ∧
    (r.2 = none → s.finalized = false → (s.failed = false ∧ flt ≠ .endMarker))) ?_ ?_ ?_ s
  · intro s hfin
    exact ⟨rfl, rfl, rfl, Nat.le_refl _, fun _ => ⟨rfl, id⟩, fun _ h => by rw [hfin] at h; cases h⟩
  · intro s _ _
    exact ⟨rfl, rfl, rfl, Nat.le_refl _, fun _ => ⟨rfl, id⟩, nofun⟩
  · intro s pb _ _ h
    obtain ⟨_, g5, g3, g1, g2, g4, g6, _⟩ := processBlock_frame c { s with closing := true } (flt = .task 0)
    rw [← h] at g1 g2 g3 g4 g5 g6
    -- the flush of a failed writer fails
    have g7 : pb.2 = none → s.failed = false := by
      intro hn
      cases hs : s.failed with
      | false => rfl
      | true =>
        have : pb.2 = some Err.failedState := by
          rw [h]; unfold processBlock; simp [hs]
        rw [this] at hn
        cases hn
    exact ⟨fun e he => ⟨g1, g2, g3, g4, fun _ => ⟨g5, fun _ => g6 (by rw [he]; nofun)⟩, nofun⟩,
      fun _ _ => ⟨g1, g2, g3, g4, fun _ => ⟨g5, fun _ => rfl⟩, nofun⟩,
      fun hn hem => ⟨g1, g2, g3, Nat.le_trans g4 (Nat.le_add_right _ _), fun h => absurd rfl h,
        fun _ _ => ⟨g7 hn, hem⟩⟩⟩

theorem closeP2_frame (s1 : St) (flt : Fault) :
    (closeP2 s1 flt).1 = { s1 with obsClosed := (closeP2 s1 flt).1.obsClosed,
                                   closerClosed := (closeP2 s1 flt).1.closerClosed,
                                   closed := (closeP2 s1 flt).1.closed } := by
  unfold closeP2
  split
  · rfl
  · simp only []; split <;> rfl

theorem closeP2_result (s1 : St) (flt : Fault) (hc : s1.closed = false) :
    ((closeP2 s1 flt).2 = none → (closeP2 s1 flt).1.closed = true ∧
        (flt = .finalFlush → s1.obsClosed = true) ∧ (flt = .closer → s1.closerClosed = true)) ∧
    ((closeP2 s1 flt).2 ≠ none → (closeP2 s1 flt).1.closed = false) ∧
    (flt = .none → (closeP2 s1 flt).2 = none) := by
  unfold closeP2
  by_cases h1 : ¬ s1.obsClosed = true ∧ flt = .finalFlush
  · simp [h1, hc]
  · simp only [h1, if_false]
    by_cases h2 : ¬ s1.closerClosed = true ∧ flt = .closer
    · simp [h2, hc]
    · simp only [h2, if_false]
      simp
      constructor
      · intro h; subst h; simpa using h1
      · intro h; subst h; simpa using h2

end Kanzi.Writer
