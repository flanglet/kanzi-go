/-
Huffman codec (C12): `computeCodeLengths` (sort + phase 1 + phase 2 + store).
Phase 1 (`computeInPlaceSizesPhase1`): whatever the weights are, the first `n-2` entries become
parent pointers of a binary tree, and one function describes them: `ρ v` is the number of internal
nodes whose parent is below `v` (the value of `r` at the head of round `v`), so node `j` has parent
`v` iff `ρ v ≤ j < ρ (v+1)`; `ρ` grows by at most 2 per step (two children per node) and
`ρ (v+1) ≤ v` (children lie below their parent).  Phase 2 (`computeInPlaceSizesPhase2`): on such
pointers (its levels are the iterates of `ρ`) it terminates without fault and the lengths it
writes satisfy Kraft's EQUALITY (`Σ 2^(M - len) = 2^M` for every `M ≥ n`), are at least 1, at most
the returned maximum, and non increasing along the array.  The whole: for every list `ranks[i] = (w_i << 8) | s_i` with distinct
symbols `s_i < 256` and positive weights it succeeds; the stored lengths satisfy Kraft's equality,
lie in `[1, maxLen]`, are non increasing along the returned `ranks`, and nothing else of `sizes`
is touched.
-/
import Kanzi.Model.Huffman
import Kanzi.Proofs.EntSmall
import Kanzi.Proofs.HufCanon
import Mathlib.Data.List.Perm.Basic
import Mathlib.Data.List.Nodup
import Mathlib.Tactic.Ring

namespace Kanzi.Huffman
open Kanzi.EntSmall

/-- the parent pointers `P` of phase 1 in closed form: `ρ v` = number of internal nodes whose parent is
    below `v` (what phase 1 guarantees, what phase 2 needs) -/
structure Thr (n : Nat) (P : List Nat) (ρ : Nat → Nat) : Prop where
  step : ∀ v, ρ v ≤ ρ (v + 1) ∧ ρ (v + 1) ≤ ρ v + 2
  lt : ∀ v, ρ (v + 1) ≤ v
  top : ρ (n - 1) = n - 2
  thr : ∀ j v, j + 2 < n → v + 1 ≤ n → (P.getD j 0 < v ↔ j < ρ v)

theorem Thr.span {ρ : Nat → Nat} (hs : ∀ v, ρ v ≤ ρ (v + 1) ∧ ρ (v + 1) ≤ ρ v + 2) (L : Nat) :
    ∀ d, ρ L ≤ ρ (L + d) ∧ ρ (L + d) ≤ ρ L + 2 * d := by
  intro d
  induction d with
  | zero => exact ⟨Nat.le_refl _, Nat.le_refl _⟩
  | succ d ih =>
    have := hs (L + d)
    rw [← Nat.add_assoc]
    omega

/-- The internal nodes with parents in `[L, U)` are `[ρ L, ρ U)`, and a node has at most two children. -/
theorem Thr.level {n : Nat} {P : List Nat} {ρ : Nat → Nat} (h : Thr n P ρ) (L U : Nat) (hLU : L ≤ U) :
    ρ U - ρ L ≤ 2 * (U - L) := by
  have := (Thr.span h.step L (U - L)).2
  rw [Nat.add_sub_cancel' hLU] at this
  omega

theorem Thr.le_pred {n : Nat} {P : List Nat} {ρ : Nat → Nat} (h : Thr n P ρ) (v : Nat) : ρ v ≤ v - 1 := by
  cases v with
  | zero => exact Nat.le_trans (h.step 0).1 (h.lt 0)
  | succ m => exact h.lt m

/-- one pick: either internal node `r` gets parent `t` (`a = 1`) or a leaf is taken (`a = 0`); nothing below `r` moves -/
theorem pick_cases (n t : Nat) (p : P1) (ht : t + 2 ≤ n) (hlen : p.data.length = n) (hr : p.r ≤ t) (hs : p.s ≤ n)
    (hc : p.s ≥ n → p.r < t) :
    ∃ a, a ≤ 1 ∧ (pick n t p).r = p.r + a ∧ (pick n t p).s + a = p.s + 1 ∧ (pick n t p).r ≤ t ∧ (pick n t p).s ≤ n ∧
      (pick n t p).data.length = n ∧ (∀ j, j < p.r → (pick n t p).data.getD j 0 = p.data.getD j 0) ∧
      ∀ j, p.r ≤ j → j < (pick n t p).r → (pick n t p).data.getD j 0 = t := by
  unfold pick
  split
  · rename_i hcond
    have hrt : p.r < t := hcond.elim hc (·.1)
    refine ⟨1, Nat.le_refl _, rfl, rfl, hrt, hs, by simp [hlen], fun j hj => getD_set_ne _ _ _ _ (by omega), fun j h1 h2 => ?_⟩
    obtain rfl : j = p.r := by simp only at h2; omega
    exact getD_set_self _ _ _ (by omega)
  · rename_i hcond
    have hsn : p.s < n := Nat.lt_of_not_le fun h => hcond (Or.inl h)
    refine ⟨0, Nat.zero_le _, rfl, rfl, hr, hsn, ?_, fun j hj => ?_, fun j h1 h2 => absurd h2 (by simp only; omega)⟩
    · simp only; split <;> simp [hlen]
    · simp only
      split
      · exact getD_set_ne _ _ _ _ (by omega)
      · rfl

/-- the state at the head of round `t`; `ρ` is constant from `t` on -/
structure Head (n t : Nat) (data : List Nat) (s r : Nat) (ρ : Nat → Nat) : Prop where
  len : data.length = n
  cnt : r + s = 2 * t
  sle : s ≤ n
  cur : ∀ v, t ≤ v → ρ v = r
  step : ∀ v, ρ v ≤ ρ (v + 1) ∧ ρ (v + 1) ≤ ρ v + 2
  lt : ∀ v, ρ (v + 1) ≤ v
  thr : ∀ j v, j < r → v ≤ t → (data.getD j 0 < v ↔ j < ρ v)

theorem round_head (n t : Nat) (data : List Nat) (s r : Nat) (ρ : Nat → Nat) (ht : t + 2 ≤ n)
    (h : Head n t data s r ρ) :
    ∃ ρ', Head n (t + 1)
      ((pick n t (pick n t ⟨data, s, r, 0⟩)).data.set t (pick n t (pick n t ⟨data, s, r, 0⟩)).sum)
      (pick n t (pick n t ⟨data, s, r, 0⟩)).s (pick n t (pick n t ⟨data, s, r, 0⟩)).r ρ' := by
  have hrt : r ≤ t := by
    have := h.cur t (Nat.le_refl _)
    cases t with
    | zero => have := h.cnt; omega
    | succ t => have := h.lt t; omega
  have hcnt := h.cnt
  obtain ⟨a, ha, r1, s1, rt1, sn1, l1, f1, g1⟩ := pick_cases n t ⟨data, s, r, 0⟩ ht h.len hrt h.sle (fun hs' => by
    have hs'' : s ≥ n := hs'
    show r < t; omega)
  generalize pick n t ⟨data, s, r, 0⟩ = p1 at r1 s1 rt1 sn1 l1 f1 g1 ⊢
  simp only at r1 s1 f1 g1
  obtain ⟨b, hb, r2, s2, rt2, sn2, l2, f2, g2⟩ := pick_cases n t p1 ht l1 rt1 sn1 (fun _ => by omega)
  generalize pick n t p1 = p2 at r2 s2 rt2 sn2 l2 f2 g2 ⊢
  have h01 : r ≤ p1.r := r1 ▸ Nat.le_add_right _ _
  have hd : ∀ j, j < p2.r → (p2.data.set t p2.sum).getD j 0 = if j < r then data.getD j 0 else t := by
    intro j hj
    rw [getD_set_ne _ _ _ _ (Nat.ne_of_gt (Nat.lt_of_lt_of_le hj rt2))]
    by_cases hjr : j < r
    · rw [if_pos hjr, f2 j (Nat.lt_of_lt_of_le hjr h01), f1 j hjr]
    · rw [if_neg hjr]
      by_cases hj1 : j < p1.r
      · rw [f2 j hj1, g1 j (Nat.le_of_not_lt hjr) hj1]
      · exact g2 j (Nat.le_of_not_lt hj1) hj
  have hρr : ∀ v, v ≤ t → ρ v ≤ r := fun v hv => by
    obtain ⟨d, rfl⟩ := Nat.exists_eq_add_of_le hv
    have := (Thr.span h.step v d).1
    rw [h.cur _ (Nat.le_refl _)] at this
    exact this
  refine ⟨fun v => if v ≤ t then ρ v else p2.r, by simp [l2], by omega, sn2, fun v hv => if_neg (by omega),
    fun v => ?_, fun v => ?_, fun j v hj hv => ?_⟩
  · by_cases hv : v + 1 ≤ t
    · rw [if_pos hv, if_pos (by omega)]; exact h.step v
    · rw [if_neg hv]
      split
      · have := h.cur v (by omega); omega
      · omega
  · split
    · exact h.lt v
    · omega
  · rw [hd j hj]
    by_cases hvt : v ≤ t
    · rw [if_pos hvt]
      have := hρr v hvt
      split
      · rename_i hjr; exact h.thr j v hjr hvt
      · exact ⟨fun h' => by omega, fun h' => by omega⟩
    · rw [if_neg hvt]
      have hv1 : v = t + 1 := by omega
      subst hv1
      refine ⟨fun _ => hj, fun _ => ?_⟩
      split
      · rename_i hjr
        have := (h.thr j t hjr (Nat.le_refl _)).mpr (by rw [h.cur t (Nat.le_refl _)]; exact hjr)
        omega
      · omega

theorem phase1Loop_head : ∀ (k n t : Nat) (data : List Nat) (s r : Nat) (ρ : Nat → Nat), t + k + 1 = n →
    Head n t data s r ρ → ∃ s' r' ρ', Head n (n - 1) (phase1Loop k n t data s r) s' r' ρ' := by
  intro k
  induction k with
  | zero =>
    intro n t data s r ρ hk h
    obtain rfl : t = n - 1 := by omega
    exact ⟨s, r, ρ, h⟩
  | succ k ih =>
    intro n t data s r ρ hk h
    obtain ⟨ρ', h'⟩ := round_head n t data s r ρ (by omega) h
    exact ih n (t + 1) _ _ _ ρ' (by omega) h'

theorem phase1_thr (data : List Nat) (hn : 2 ≤ data.length) :
    (phase1 data).length = data.length ∧ ∃ ρ, Thr data.length (phase1 data) ρ := by
  obtain ⟨s', r', ρ, h⟩ := phase1Loop_head (data.length - 1) data.length 0 data 0 0 (fun _ => 0) (by omega)
    ⟨rfl, rfl, Nat.zero_le _, fun _ _ => rfl, fun _ => ⟨Nat.le_refl _, Nat.le_add_right _ _⟩, fun _ => Nat.zero_le _,
     fun j v hj => absurd hj (Nat.not_lt_zero _)⟩
  have hr := h.cur _ (Nat.le_refl _)
  -- all `n-2` internal nodes but the root have a parent: `s ≤ n` and `r + s = 2(n-1)`
  have hr' : r' = data.length - 2 := by
    have := h.cnt; have := h.sle
    cases hd : data.length - 1 with
    | zero => omega
    | succ m => have := h.lt m; rw [← hd, hr] at this; omega
  exact ⟨h.len, ρ, h.step, h.lt, by rw [hr, hr'], fun j v hj hv => h.thr j v (by omega) (by omega)⟩

/-- Kraft sum of a list of lengths in units of `2^-M` -/
def wsum (M : Nat) (l : List Nat) : Nat := (l.map (fun x => 2 ^ (M - x))).sum

theorem wsum_append (M : Nat) (a b : List Nat) : wsum M (a ++ b) = wsum M a + wsum M b := by
  simp [wsum]

theorem wsum_replicate (M k d : Nat) : wsum M (List.replicate k d) = k * 2 ^ (M - d) := by
  simp [wsum]

theorem scanK_spec (data : List Nat) (L : Nat) : ∀ (k0 : Nat),
    (∀ j, k0 ≤ j → j < L → L ≤ data.getD j 0) →
    scanK data L k0 ≤ k0 ∧ (∀ j, scanK data L k0 ≤ j → j < L → L ≤ data.getD j 0) ∧
    (0 < scanK data L k0 → data.getD (scanK data L k0 - 1) 0 < L) := by
  intro k0
  induction k0 with
  | zero => intro h; simp only [scanK]; exact ⟨Nat.le_refl _, h, fun hh => absurd hh (Nat.lt_irrefl _)⟩
  | succ k ih =>
    intro h
    simp only [scanK]
    split
    · rename_i hge
      have := ih (fun j hj hjl => by
        by_cases hjk : j = k
        · subst hjk; exact hge
        · exact h j (by omega) hjl)
      exact ⟨by omega, this.2.1, this.2.2⟩
    · rename_i hlt
      exact ⟨Nat.le_refl _, h, fun _ => by simpa using Nat.lt_of_not_le hlt⟩

/-- the scan of phase 2 stops at `ρ L`: the internal nodes of the next level are `[ρ L, L)` -/
theorem Thr.scan {n : Nat} {P : List Nat} {ρ : Nat → Nat} (hP : Thr n P ρ) (data : List Nat) (L : Nat)
    (hLn : L + 2 ≤ n) (frame : ∀ j, j < L → data.getD j 0 = P.getD j 0) : scanK data L L = ρ L := by
  obtain ⟨hkL, hkge, hklt⟩ := scanK_spec data L L (fun j h1 h2 => by omega)
  have hthr : ∀ j, j < L → (data.getD j 0 < L ↔ j < ρ L) := fun j hj => by
    rw [frame j hj]; exact hP.thr j L (by omega) (by omega)
  have hρL := hP.le_pred L
  generalize scanK data L L = k at hkL hkge hklt
  refine Nat.le_antisymm (Nat.le_of_not_lt fun hgt => ?_) (Nat.le_of_not_lt fun hlt => ?_)
  · have := (hthr (k - 1) (by omega)).mp (hklt (by omega)); omega
  · have := (hthr k (by omega)).mpr hlt
    have := hkge k (Nat.le_refl _) (by omega); omega

/-- `data[a : i] = d, ..., d` (the inner loop of phase 2) -/
theorem fill_spec (data : List Nat) (a c i d : Nat) (hac : a + c = i) (hi : i ≤ data.length) :
    (data.take a ++ List.replicate c d ++ data.drop i).length = data.length ∧
    (data.take a ++ List.replicate c d ++ data.drop i).drop a = List.replicate c d ++ data.drop i ∧
    ∀ j, j < a → (data.take a ++ List.replicate c d ++ data.drop i).getD j 0 = data.getD j 0 := by
  have hta : (data.take a).length = a := by rw [List.length_take]; omega
  refine ⟨?_, ?_, ?_⟩
  · simp only [List.length_append, hta, List.length_replicate, List.length_drop]
    omega
  · rw [List.append_assoc]
    exact List.drop_left' hta
  · intro j hj
    rw [List.append_assoc, List.getD_eq_getElem?_getD, List.getD_eq_getElem?_getD,
      List.getElem?_append_left (by omega), List.getElem?_take_of_lt hj]

/-- the loop invariant of phase 2 (ghosts: `P` = the array as phase 1 left it, `ρ` its closed form,
    `U` = the previous `levelTop`, so `L = ρ U`).  The internal nodes `[L, U)` are those of depth
    `d - 1`, `T` counts their children (depth `d`), `data[i:]` holds the lengths written so far, and
    these together with `T` nodes of depth `d` make a full tree (`kr`). -/
structure P2Inv (n M : Nat) (P : List Nat) (ρ : Nat → Nat) (data : List Nat) (L d i T U : Nat) : Prop where
  len : data.length = n
  frame : ∀ j, j < L → data.getD j 0 = P.getD j 0
  cnt : i = T + L
  tw : T + 2 * L = 2 * U
  lev : L = ρ U
  kr : wsum M (data.drop i) + T * 2 ^ (M - d) = 2 ^ M
  dep : d + U ≤ n
  dpos : 1 ≤ d
  asg : ∀ x ∈ data.drop i, 1 ≤ x ∧ x < d
  mono : (data.drop i).Pairwise (· ≥ ·)
  ile : i ≤ n

/-- what phase 2 returns: the `n` code lengths `res` (a full tree: Kraft's equality in units of `2^-M`; non
    increasing) and their maximum `m` -/
structure P2Res (n M : Nat) (res : List Nat) (m : Nat) : Prop where
  len : res.length = n
  kraft : wsum M res = 2 ^ M
  range : ∀ x ∈ res, 1 ≤ x ∧ x ≤ m
  mono : res.Pairwise (· ≥ ·)
  mle : m + 1 ≤ n

theorem P2Inv.finish {n M : Nat} {P data : List Nat} {ρ : Nat → Nat} {L d T U : Nat}
    (h : P2Inv n M P ρ data L d 0 T U) : P2Res n M data (d - 1) := by
  have hT : T = 0 := by have := h.cnt; omega
  have hkr := h.kr
  rw [hT, Nat.zero_mul, Nat.add_zero, List.drop_zero] at hkr
  have hasg := h.asg
  rw [List.drop_zero] at hasg
  refine ⟨h.len, hkr, fun x hx => ?_, by simpa using h.mono, ?_⟩
  · have := hasg x hx
    omega
  · have := h.dep
    have := h.dpos
    omega

theorem P2Inv.pos {n M : Nat} {P data : List Nat} {ρ : Nat → Nat} {L d i T U : Nat} (hP : Thr n P ρ)
    (h : P2Inv n M P ρ data L d i T U) (hi : 0 < i) : L < U := by
  have := h.cnt
  have := h.tw
  have := h.lev
  have := hP.le_pred U
  omega

/-- one round: `k` = the new `levelTop`.  The `c` internal nodes of this level are among its `T`
    nodes, the other `e` are leaves and get the length `d`. -/
theorem P2Inv.step {n M : Nat} {P data : List Nat} {ρ : Nat → Nat} {L d i T U : Nat} (hP : Thr n P ρ) (hM : n ≤ M)
    (h : P2Inv n M P ρ data L d i T U) (hi : i ≠ 0) :
    ∃ c e, scanK data L L + c = L ∧ c + e = T ∧
      P2Inv n M P ρ (data.take (scanK data L L + 2 * c) ++ List.replicate e d ++ data.drop i)
        (scanK data L L) (d + 1) (scanK data L L + 2 * c) (c * 2) L := by
  have hLU : L < U := h.pos hP (by omega)
  have hdep := h.dep
  have hd1 : M - d = (M - (d + 1)) + 1 := by omega
  have hdpos := h.dpos
  have hk : scanK data L L = ρ L := hP.scan data L (by omega) h.frame
  have hkL := hP.le_pred L
  have hcT := hP.level L U (Nat.le_of_lt hLU)
  rw [← h.lev, ← hk] at hcT
  rw [← hk] at hkL
  generalize scanK data L L = k at hk hkL hcT ⊢
  obtain ⟨c, hc⟩ := Nat.exists_eq_add_of_le (show k ≤ L by omega)
  have htw := h.tw
  obtain ⟨e, he⟩ := Nat.exists_eq_add_of_le (show c ≤ T by omega)
  have hcnt := h.cnt
  have hile := h.ile
  obtain ⟨hlen', hdrop', hframe'⟩ := fill_spec data (k + 2 * c) e i d (by omega) (by rw [h.len]; exact hile)
  refine ⟨c, e, hc.symm, he.symm, hlen'.trans h.len, fun j hj => ?_, by omega, by omega, hk,
    ?_, by omega, by omega, ?_, ?_, by omega⟩
  · rw [hframe' j (by omega)]
    exact h.frame j (by omega)
  · rw [hdrop', wsum_append, wsum_replicate, ← h.kr, he, hd1, Nat.pow_succ]
    ring
  · rw [hdrop']
    intro x hx
    rcases List.mem_append.mp hx with hx | hx
    · have := (List.mem_replicate.mp hx).2
      omega
    · have := h.asg x hx
      omega
  · rw [hdrop', List.pairwise_append]
    refine ⟨List.pairwise_replicate.mpr (Or.inr (Nat.le_refl _)), h.mono, fun a ha b hb => ?_⟩
    have := (List.mem_replicate.mp ha).2
    have := h.asg b hb
    omega

theorem phase2Loop_spec (n M : Nat) (P : List Nat) {ρ : Nat → Nat} (hP : Thr n P ρ) (hM : n ≤ M) :
    ∀ (f : Nat) (data : List Nat) (L d i T U : Nat), (L + 1 < f ∨ i = 0 ∧ 0 < f) →
    P2Inv n M P ρ data L d i T U →
    ∃ res m, phase2Loop f data L d i T = some (res, m) ∧ P2Res n M res m := by
  intro f
  induction f with
  | zero => intro data L d i T U hf _; omega
  | succ f ih =>
    intro data L d i T U hf h
    simp only [phase2Loop]
    by_cases hi : i = 0
    · rw [if_pos hi]
      subst hi
      exact ⟨data, d - 1, rfl, h.finish⟩
    · obtain ⟨c, e, hc, he, h'⟩ := h.step hP hM hi
      have hcnt := h.cnt
      rw [if_neg hi, show L - scanK data L L = c by omega, show T - c = e by omega,
        show i - e = scanK data L L + 2 * c by omega, if_neg (by omega)]
      refine ih _ _ _ _ _ L ?_ h'
      have := h'.pos hP
      omega

theorem phase2_spec (data : List Nat) (M : Nat) (hn : 2 ≤ data.length) (hM : data.length ≤ M)
    {ρ : Nat → Nat} (hP : Thr data.length data ρ) :
    ∃ res m, phase2 data = some (res, m) ∧ P2Res data.length M res m := by
  unfold phase2
  rw [if_neg (by omega)]
  refine phase2Loop_spec data.length M data hP hM _ data (data.length - 2) 1 data.length 2 (data.length - 1)
    (by omega) ⟨rfl, fun _ _ => rfl, by omega, by omega, hP.top.symm, ?_, by omega,
      Nat.le_refl _, ?_, ?_, Nat.le_refl _⟩
  · rw [List.drop_length]
    simp only [wsum, List.map_nil, List.sum_nil, Nat.zero_add]
    rw [show M = (M - 1) + 1 by omega, Nat.pow_succ, show M - 1 + 1 - 1 = M - 1 by omega]; ring
  · rw [List.drop_length]; intro x hx; cases hx
  · rw [List.drop_length]; exact List.Pairwise.nil

theorem lengths_spec (w : List Nat) (M : Nat) (hn : 2 ≤ w.length) (hM : w.length ≤ M) :
    ∃ res m, phase2 (phase1 w) = some (res, m) ∧ P2Res w.length M res m := by
  obtain ⟨hl, ρ, hP⟩ := phase1_thr w hn
  have := phase2_spec (phase1 w) M (by omega) (by omega) (ρ := ρ) (by rw [hl]; exact hP)
  rw [hl] at this
  exact this

theorem rank_fields (w s : Nat) (hs : s < 256) :
    ((w <<< 8) ||| s) >>> 8 = w ∧ ((w <<< 8) ||| s) &&& 0xFF = s :=
  ⟨(shl_or_fields w s 8 hs).1, (Nat.and_two_pow_sub_one_eq_mod _ 8).trans (shl_or_fields w s 8 hs).2⟩

theorem setSizes_cons (sizes : List Nat) (s x : Nat) (ss xs : List Nat) :
    setSizes sizes (s :: ss) (x :: xs) = setSizes (sizes.set s (x % 256)) ss xs := by
  simp [setSizes]

theorem setSizes_frame : ∀ (syms lens sizes : List Nat), (setSizes sizes syms lens).length = sizes.length ∧
    ∀ y, y ∉ syms → (setSizes sizes syms lens).getD y 0 = sizes.getD y 0 := by
  intro syms
  induction syms with
  | nil => intro lens sizes; simp [setSizes]
  | cons s ss ih =>
    intro lens sizes
    cases lens with
    | nil => simp [setSizes]
    | cons x xs =>
      rw [setSizes_cons, (ih _ _).1, List.length_set]
      refine ⟨rfl, fun y hy => ?_⟩
      rw [(ih _ _).2 y (fun h => hy (List.mem_cons_of_mem _ h))]
      exact getD_set_ne _ _ _ _ (fun h => hy (h ▸ List.mem_cons_self))

theorem setSizes_map : ∀ (syms lens sizes : List Nat), syms.Nodup → syms.length = lens.length →
    (∀ s ∈ syms, s < sizes.length) → (∀ x ∈ lens, x < 256) →
    syms.map (fun s => (setSizes sizes syms lens).getD s 0) = lens := by
  intro syms
  induction syms with
  | nil => intro lens sizes _ hl _ _; cases lens with
    | nil => rfl
    | cons _ _ => simp at hl
  | cons s ss ih =>
    intro lens sizes hnd hl hlt hx
    cases lens with
    | nil => simp at hl
    | cons x xs =>
      have hnd' := List.nodup_cons.mp hnd
      rw [setSizes_cons, List.map_cons]
      congr 1
      · rw [(setSizes_frame _ _ _).2 _ hnd'.1, getD_set_self _ _ _ (hlt s List.mem_cons_self)]
        exact Nat.mod_eq_of_lt (hx x List.mem_cons_self)
      · exact ih xs _ hnd'.2 (by simpa using hl)
          (fun y hy => by rw [List.length_set]; exact hlt y (List.mem_cons_of_mem _ hy))
          (fun y hy => hx y (List.mem_cons_of_mem _ hy))

def lensOf (sizes l : List Nat) : List Nat := l.map (fun s => sizes.getD s 0)

structure CLOk (sizes0 symbols : List Nat) (cl : CL) : Prop where
  perm : cl.ranks.Perm symbols
  len : cl.sizes.length = sizes0.length
  frame : ∀ x, x ∉ symbols → cl.sizes.getD x 0 = sizes0.getD x 0
  kraft : wsum 256 (lensOf cl.sizes cl.ranks) = 2 ^ 256
  range : ∀ s ∈ symbols, 1 ≤ cl.sizes.getD s 0 ∧ cl.sizes.getD s 0 ≤ cl.maxLen
  mono : (lensOf cl.sizes cl.ranks).Pairwise (· ≥ ·)
  mle : cl.maxLen + 1 ≤ symbols.length

theorem computeCodeLengths_spec (sizes0 ranks symbols : List Nat)
    (hsym : ranks.map (· &&& 0xFF) = symbols) (hw : ∀ r ∈ ranks, 0 < r >>> 8)
    (hnd : symbols.Nodup) (h256 : ∀ s ∈ symbols, s < 256)
    (hn : 2 ≤ symbols.length) (hn2 : symbols.length ≤ 256) (hl : sizes0.length = 256) :
    ∃ cl, computeCodeLengths sizes0 ranks = some cl ∧ CLOk sizes0 symbols cl := by
  unfold computeCodeLengths
  have hperm := List.mergeSort_perm ranks (fun a b => decide (a ≤ b))
  generalize ranks.mergeSort (fun a b => decide (a ≤ b)) = sorted at hperm ⊢
  have hpsym : (sorted.map (· &&& 0xFF)).Perm symbols := by rw [← hsym]; exact hperm.map _
  have hslen : sorted.length = symbols.length := by
    rw [hperm.length_eq, ← hsym, List.length_map]
  have hany : (sorted.map (· >>> 8)).any (· == 0) = false := by
    rw [List.any_eq_false]
    intro x hx
    obtain ⟨r, hr, rfl⟩ := List.mem_map.mp hx
    have := hw r (hperm.mem_iff.mp hr)
    simp only [beq_iff_eq]
    omega
  rw [hany]
  simp only [Bool.false_eq_true, if_false]
  obtain ⟨res, m, hres, hok⟩ := lengths_spec (sorted.map (· >>> 8)) 256
    (by rw [List.length_map]; omega) (by rw [List.length_map]; omega)
  rw [hres]
  rw [List.length_map, hslen] at hok
  refine ⟨_, rfl, ?_⟩
  have hnd' : (sorted.map (· &&& 0xFF)).Nodup := (hpsym.nodup_iff).mpr hnd
  have hmap := setSizes_map (sorted.map (· &&& 0xFF)) res sizes0 hnd'
    (by rw [List.length_map, hslen, hok.len])
    (fun s hs => by rw [hl]; exact h256 s (hpsym.mem_iff.mp hs))
    (fun x hx => by have := hok.range x hx; have := hok.mle; omega)
  refine ⟨hpsym, (setSizes_frame _ _ _).1, ?_, ?_, ?_, ?_, hok.mle⟩
  · intro x hx
    exact (setSizes_frame _ _ _).2 _ (fun h => hx (hpsym.mem_iff.mp h))
  · simp only [lensOf]; rw [hmap]; exact hok.kraft
  · intro s hs
    have hs' : s ∈ sorted.map (· &&& 0xFF) := hpsym.mem_iff.mpr hs
    have hmem : (setSizes sizes0 (sorted.map (· &&& 0xFF)) res).getD s 0 ∈
        (sorted.map (· &&& 0xFF)).map (fun s => (setSizes sizes0 (sorted.map (· &&& 0xFF)) res).getD s 0) :=
      List.mem_map.mpr ⟨s, hs', rfl⟩
    rw [hmap] at hmem
    exact hok.range _ hmem
  · simp only [lensOf]; rw [hmap]; exact hok.mono

end Kanzi.Huffman
