/-
inverseBiPSIv2: TOTALITY on arbitrary input.
The decoding tasks never spin (`.hang`) and keep `dst` at its size, whenever the shared tables are sane:
some bucket end exceeds every reachable row, every row reachable through `data` is at most `n`, the
fast-bits entries are bucket indexes.  Index faults inside a task are allowed: the goroutine recovers
them and `Inverse` returns the "invalid data" error.
Hence, for any source bytes, any job count, any destination at least as long as the block, a first
primary index in `1 .. 2^63 - 1` (BWTBlockCodec produces `1 .. 2^32`), ANY other index slots and a work
buffer whose stale entries are at most `n` (fresh instance, or one that last inverted a block of at most
the same size): the call returns `count` bytes, "corrupted primary index" or "invalid data" — it never
panics in the calling goroutine and never spins (`biPSIv2_total`).
Together with the merge route below 4 MiB (`mergeTPSI_total`) this gives `bwtInverse_total` and, for a
fresh instance, `blockInverse_total`.
-/
import Kanzi.Proofs.BWTBiTables
import Kanzi.Proofs.Jobs
import Kanzi.Proofs.BWTBlock

namespace Kanzi.BWT

/-! ## the tasks on sane tables -/

theorem Res.bind_ok {α β : Type} (a : α) (f : α → Res β) : (Res.ok a).bind f = f a := rfl

theorem Res.bind_eq_ok {α β : Type} {r : Res α} {f : α → Res β} {b : β} (h : r.bind f = .ok b) :
    ∃ a, r = .ok a ∧ f a = .ok b := by
  cases r with
  | ok a => exact ⟨a, rfl, h⟩
  | _ => cases h

/-- a step that either panics (recovered by the task) or succeeds with a value satisfying `P` -/
def CleanP {α : Type} (P : α → Prop) (r : Res α) : Prop := r = .fault ∨ ∃ a, r = .ok a ∧ P a

theorem CleanP.bind {α β : Type} {P : α → Prop} {Q : β → Prop} {r : Res α} {f : α → Res β}
    (h : CleanP P r) (hf : ∀ a, r = .ok a → P a → CleanP Q (f a)) : CleanP Q (r.bind f) := by
  rcases h with h | ⟨a, h, hp⟩
  · subst h; exact Or.inl rfl
  · have := hf a h hp
    subst h; exact this

theorem CleanP.mono {α : Type} {P Q : α → Prop} {r : Res α} (h : CleanP P r) (hpq : ∀ a, P a → Q a) : CleanP Q r := by
  rcases h with h | ⟨a, h, hp⟩
  · exact Or.inl h
  · exact Or.inr ⟨a, h, hpq a hp⟩

theorem mapRes_clean {α β : Type} (f : α → Res β) (P : β → Prop) (l : List α)
    (h : ∀ a ∈ l, CleanP P (f a)) : CleanP (fun bs => ∀ b ∈ bs, P b) (mapRes f l) := by
  induction l with
  | nil => exact Or.inr ⟨[], rfl, fun _ hb => nomatch hb⟩
  | cons a as ih =>
    simp only [mapRes]
    apply CleanP.bind (h a List.mem_cons_self)
    intro b _ hb
    apply CleanP.bind (ih (fun x hx => h x (List.mem_cons_of_mem _ hx)))
    intro bs _ hbs
    exact Or.inr ⟨b :: bs, rfl, List.forall_mem_cons.2 ⟨hb, hbs⟩⟩

theorem mapRes_ok_all {α β : Type} {f : α → Res β} {l : List α} {bs : List β} (h : mapRes f l = .ok bs) :
    ∀ a ∈ l, ∃ b, f a = .ok b := by
  induction l generalizing bs with
  | nil => exact fun _ ha => nomatch ha
  | cons a as ih =>
    rw [mapRes] at h
    obtain ⟨b, hb, h⟩ := Res.bind_eq_ok h
    obtain ⟨bs', hbs, _⟩ := Res.bind_eq_ok h
    exact List.forall_mem_cons.2 ⟨⟨b, hb⟩, ih hbs⟩

/-! ### the scan loop -/

/-- with some bucket end above `p` the scan ends (no `.hang`): the walk from `s` reaches `t` after
`(t - s) mod 65536` steps at the latest -/
theorem scan_total (bk : Array Nat) (hs : bk.size = 65536) (p t : Nat) (ht : t < 65536) (hgt : p < rd bk t)
    (fuel s : Nat) (hs2 : s < 65536) (hfuel : (t + 65536 - s) % 65536 < fuel) :
    ∃ r, scan bk p fuel s = .ok r := by
  induction fuel generalizing s with
  | zero => omega
  | succ f ih =>
    have hs' : s < bk.size := by omega
    simp only [scan, hs', dite_true, rd_eq_getElem hs']
    by_cases hle : rd bk s ≤ p
    · have hne : s ≠ t := by intro e; subst e; omega
      rw [if_pos hle]
      exact ih ((s + 1) % 65536) (Nat.mod_lt _ (by decide)) (by omega)
    · rw [if_neg hle]; exact ⟨s, rfl⟩

/-! ### sane shared tables -/

/-- what the tasks need of the shared tables for a block of `n` bytes: `top` stops every `scan` from a
row `<= n`, `closed` keeps the walk through `data` on rows `<= n`, `fbkeys` makes every fast-bits entry a
start for `scan` inside `buckets` -/
structure ShOK (sh : Shared) (n : Nat) : Prop where
  bksize : sh.buckets.size = 65536
  top : ∃ t, t < 65536 ∧ n < rd sh.buckets t
  fbkeys : ∀ u, u < sh.fastBits.size → rd sh.fastBits u < 65536
  closed : ∀ p, p ≤ n → p < sh.data.size → rd sh.data p ≤ n

/-- a lane position the code can hold: a validated index (at most `n`, or "negative") or a row read from `data` -/
def GoodP (n p : Nat) : Prop := p ≤ n ∨ p ≥ 2 ^ 63

theorem getElem?_some_rd {a : Array Nat} {i x : Nat} (h : a[i]? = some x) : i < a.size ∧ rd a i = x := by
  obtain ⟨h1, h2⟩ := Array.getElem?_eq_some_iff.1 h
  exact ⟨h1, (rd_eq_getElem h1).symm.trans h2⟩

theorem lookup_clean (sh : Shared) (n : Nat) (hok : ShOK sh n) (p : Nat) :
    CleanP (fun s => p < 2 ^ 63 ∧ s < 65536) (lookup sh p) := by
  unfold lookup
  split
  · exact Or.inl rfl
  · next hp =>
    cases h : sh.fastBits[p >>> sh.shift]? with
    | none => exact Or.inl rfl
    | some x =>
      obtain ⟨hlt, hx⟩ := getElem?_some_rd h
      exact Or.inr ⟨x, rfl, by omega, hx ▸ hok.fbkeys _ hlt⟩

theorem write1_clean (dst : Array Nat) (pos v : Nat) : CleanP (fun d => d.size = dst.size) (write1 dst pos v) := by
  unfold write1
  split
  · exact Or.inl rfl
  · exact Or.inr ⟨_, rfl, by simp⟩

/-- the byte stores of one iteration as a list of `(position, value)` pairs, in program order -/
def writeAll : List (Nat × Nat) → Array Nat → Res (Array Nat)
  | [], dst => .ok dst
  | (pos, x) :: r, dst => (write1 dst pos x).bind (writeAll r)

theorem writeFirst_eq (i : Nat) (ws : List (Nat × Nat)) (dst : Array Nat) :
    writeFirst i ws dst = writeAll (ws.map fun w => (w.1 + i - 1, w.2 >>> 8)) dst := by
  induction ws generalizing dst with
  | nil => rfl
  | cons w ws ih =>
    simp only [writeFirst, List.map_cons, writeAll]
    exact congrArg _ (funext ih)

theorem writeSecond_eq (i : Nat) (ws : List (Nat × Nat)) (dst : Array Nat) :
    writeSecond i ws dst = writeAll (ws.map fun w => (w.1 + i, w.2)) dst := by
  induction ws generalizing dst with
  | nil => rfl
  | cons w ws ih =>
    simp only [writeSecond, List.map_cons, writeAll]
    exact congrArg _ (funext ih)

theorem writeAll_clean (ws : List (Nat × Nat)) (dst : Array Nat) :
    CleanP (fun d => d.size = dst.size) (writeAll ws dst) := by
  induction ws generalizing dst with
  | nil => exact Or.inr ⟨dst, rfl, rfl⟩
  | cons w ws ih =>
    apply CleanP.bind (write1_clean dst w.1 w.2)
    intro d _ hd
    exact (ih d).mono (fun a ha => by rw [ha, hd])

theorem next_clean (sh : Shared) (n : Nat) (hok : ShOK sh n) (p : Nat) (hp : p ≤ n) :
    CleanP (fun q => q ≤ n) (next sh p) := by
  unfold next
  cases h : sh.data[p]? with
  | none => exact Or.inl rfl
  | some x =>
    obtain ⟨hlt, hx⟩ := getElem?_some_rd h
    exact Or.inr ⟨x, rfl, hx ▸ hok.closed p hp hlt⟩

/-- one iteration of a decoding loop: a recovered panic, or new lanes all at rows `<= n` and `dst` of
the same size; never an endless scan -/
theorem lanesIter_clean (sh : Shared) (n : Nat) (hok : ShOK sh n) (i : Nat) (second : Bool) (lanes : List (Nat × Nat))
    (hl : ∀ l ∈ lanes, GoodP n l.1) (dst : Array Nat) :
    CleanP (fun r => (∀ l ∈ r.1, GoodP n l.1) ∧ r.2.size = dst.size) (lanesIter sh i second lanes dst) := by
  unfold lanesIter
  apply CleanP.bind (mapRes_clean (fun l => lookup sh l.1) (fun s => s < 65536) lanes
    (fun l _ => (lookup_clean sh n hok l.1).mono fun _ h => h.2))
  intro ss0 hss0 hlt
  have hrow : ∀ l ∈ lanes, l.1 ≤ n := by
    intro l hmem
    obtain ⟨b, hb⟩ := mapRes_ok_all hss0 l hmem
    rcases lookup_clean sh n hok l.1 with h | ⟨_, _, h, _⟩
    · rw [h] at hb; cases hb
    · rcases hl l hmem with h' | h'
      · exact h'
      · omega
  apply CleanP.bind (mapRes_clean (fun (x : (Nat × Nat) × Nat) => scan sh.buckets x.1.1 65536 x.2)
    (fun _ => True) (lanes.zip ss0) (by
      intro x hx
      obtain ⟨hmem, hs0⟩ := List.of_mem_zip hx
      have hp := hrow x.1 hmem
      obtain ⟨t, ht, hgt⟩ := hok.top
      obtain ⟨r, hr⟩ := scan_total sh.buckets hok.bksize x.1.1 t ht (by omega) 65536 x.2 (hlt x.2 hs0)
        (Nat.mod_lt _ (by decide))
      exact Or.inr ⟨r, hr, trivial⟩))
  intro ss _ _
  rw [writeFirst_eq]
  apply CleanP.bind (writeAll_clean _ dst)
  intro d0 _ hd0
  have hsec : CleanP (fun d : Array Nat => d.size = dst.size)
      (if second = true then writeSecond i ((lanes.map (·.2)).zip ss) d0 else Res.ok d0) := by
    cases second
    · exact Or.inr ⟨d0, rfl, hd0⟩
    · rw [if_pos rfl, writeSecond_eq]
      exact (writeAll_clean _ d0).mono (fun a ha => ha.trans hd0)
  apply CleanP.bind hsec
  intro d _ hd
  apply CleanP.bind (mapRes_clean (fun l => (next sh l.1).bind fun p => Res.ok (p, l.2))
    (fun (l' : Nat × Nat) => l'.1 ≤ n) lanes (by
      intro l hmem
      apply CleanP.bind (next_clean sh n hok l.1 (hrow l hmem))
      intro q _ hq
      exact Or.inr ⟨(q, l.2), rfl, hq⟩))
  intro lanes' _ hl'
  exact Or.inr ⟨(lanes', d), rfl, fun l' hmem => Or.inl (hl' l' hmem), hd⟩

theorem lanesLoop_clean (sh : Shared) (n : Nat) (hok : ShOK sh n) (sec : Nat → Bool) (k i : Nat) (lanes : List (Nat × Nat))
    (hl : ∀ l ∈ lanes, GoodP n l.1) (dst : Array Nat) :
    CleanP (fun d => d.size = dst.size) (lanesLoop sh sec k i lanes dst) := by
  induction k generalizing i lanes dst with
  | zero => exact Or.inr ⟨dst, rfl, rfl⟩
  | succ k ih =>
    simp only [lanesLoop]
    apply CleanP.bind (lanesIter_clean sh n hok i (sec i) lanes hl dst)
    intro r _ hr
    exact (ih (i + 2) r.1 hr.1 r.2).mono (fun a ha => by rw [ha, hr.2])

theorem singleLoop_clean (sh : Shared) (n m : Nat) (hok : ShOK sh n)
    (hidx : ∀ c p, c < m → sh.indexes[c]? = some p → GoodP n p)
    (total ckSize lastChunk : Nat) (hlc : lastChunk ≤ m) (fuel c start : Nat) (dst : Array Nat) :
    CleanP (fun d => d.size = dst.size) (singleLoop sh total ckSize lastChunk fuel c start dst) := by
  induction fuel generalizing c start dst with
  | zero => exact Or.inr ⟨dst, rfl, rfl⟩
  | succ f ih =>
    simp only [singleLoop]
    split
    · next hcl =>
      cases h : sh.indexes[c]? with
      | none => exact Or.inl rfl
      | some p =>
        simp only
        have hp : GoodP n p := hidx c p (by omega) h
        apply CleanP.bind (lanesLoop_clean sh n hok _ _ _ [(p, 0)] (by
          intro l hl; simp at hl; subst hl; exact hp) dst)
        intro d _ hd
        exact (ih (c + 1) _ d).mono (fun a ha => by rw [ha, hd])
    · exact Or.inr ⟨dst, rfl, rfl⟩

theorem task_clean (sh : Shared) (n m : Nat) (hok : ShOK sh n)
    (hidx : ∀ c p, c < m → sh.indexes[c]? = some p → GoodP n p)
    (dst : Array Nat) (total start ckSize fc lc : Nat) (hlc : lc ≤ m) :
    CleanP (fun d => d.size = dst.size) (task sh dst total start ckSize fc lc) := by
  unfold task
  split
  · exact Or.inl rfl
  · simp only []
    split
    · -- the unrolled loop
      next hun =>
      rcases mapRes_clean (fun k => Res.ofOpt (sh.indexes[fc + k]?)) (GoodP n) (List.range 8) (by
            intro k hk
            cases h : sh.indexes[fc + k]? with
            | none => exact Or.inl rfl
            | some p => exact Or.inr ⟨p, rfl, hidx (fc + k) p (by have := List.mem_range.1 hk; omega) h⟩)
          with h | ⟨ps, h, hps⟩
      · rw [h]; exact Or.inl rfl
      · rw [h]
        simp only
        apply CleanP.bind (P := fun x : Nat × Nat × Array Nat => x.2.2.size = dst.size)
        · apply CleanP.bind (lanesLoop_clean sh n hok _ _ _ (ps.zip ((List.range 8).map (· * ckSize))) (by
            intro l hl
            exact hps l.1 (List.of_mem_zip hl).1) dst)
          intro d _ hd
          exact Or.inr ⟨(fc + 8, start + 8 * ckSize, d), rfl, hd⟩
        · intro x _ hx
          exact (singleLoop_clean sh n m hok hidx total ckSize lc hlc 8 x.1 x.2.1 x.2.2).mono
            (fun a ha => by rw [ha, hx])
    · simp only [Res.bind]
      exact singleLoop_clean sh n m hok hidx total ckSize lc hlc 8 fc start dst

/-- the goroutines together: never `.hang`, `dst` keeps its size -/
theorem runTasks_clean (sh : Shared) (n m : Nat) (hok : ShOK sh n)
    (hidx : ∀ c p, c < m → sh.indexes[c]? = some p → GoodP n p)
    (total ckSize : Nat) (ranges : List (Nat × Nat)) (hr : ∀ r ∈ ranges, r.2 ≤ m) (dst : Array Nat) (failed : Bool) :
    ∃ d f, runTasks sh total ckSize ranges dst failed = .ok (d, f) ∧ d.size = dst.size := by
  induction ranges generalizing dst failed with
  | nil => exact ⟨dst, failed, rfl, rfl⟩
  | cons r rs ih =>
    obtain ⟨fc, lc⟩ := r
    simp only [runTasks]
    have hrs : ∀ r ∈ rs, r.2 ≤ m := fun r h => hr r (List.mem_cons_of_mem _ h)
    rcases task_clean sh n m hok hidx dst total (fc * ckSize) ckSize fc lc (hr (fc, lc) List.mem_cons_self)
      with h | ⟨d, h, hd⟩
    · rw [h]; exact ih hrs dst true
    · rw [h]
      obtain ⟨d', f', h1, h2⟩ := ih hrs d failed
      exact ⟨d', f', h1, by rw [h2, hd]⟩

/-! ## totality -/

theorem endK_last (src : Array Nat) (hb : ∀ b ∈ src.toList, b < 256) (p0 : Nat) (hp : 1 ≤ p0 ∧ p0 ≤ src.size) :
    endK src p0 65535 = src.size + 1 := by
  have h1 := total_cnt src hb p0 hp
  have e : (65536 : Nat) = 65535 + 1 := rfl
  rw [e, psum_succ] at h1
  have h2 : rd src 0 ≤ 65535 / 256 := by
    have := rd_lt src hb 0
    have : (65535 : Nat) / 256 = 255 := by decide
    omega
  unfold endK startK sumAt
  rw [if_pos h2]
  omega

theorem entries2_words (src : Array Nat) (p0 : Nat) : ∀ e ∈ entries2 src p0, e.2 ≤ src.size := by
  intro e he
  obtain ⟨j, hj, rfl⟩ := List.mem_map.1 he
  have := (List.mem_filter.1 hj).1
  have hj' : j < src.size := List.mem_range.1 this
  simp only [rowOfIdx]
  split <;> omega

theorem tables_closed (src : Array Nat) (hb : ∀ b ∈ src.toList, b < 256) (p0 : Nat)
    (data0 bk data : Array Nat) (ht : Tables src p0 data0 bk data) (h0 : ∀ a, rd data0 a ≤ src.size) :
    ∀ r, rd data r ≤ src.size := by
  intro r
  by_cases hin : ∃ kk, kk < 65536 ∧ startK src p0 kk ≤ r ∧ r < endK src p0 kk
  · obtain ⟨kk, hk, h1, h2⟩ := hin
    obtain ⟨j, rfl⟩ : ∃ j, r = startK src p0 kk + j := ⟨r - startK src p0 kk, by omega⟩
    have hj : j < cntK src p0 kk := by unfold endK at h2; omega
    rw [ht.rows kk hk j hj]
    have hlen : j < (ebucket (entries2 src p0) (Tix kk)).length := by
      rw [ebucket_entries2 src hb p0 _ (Tix_lt kk hk), Tix_Tix kk hk]; exact hj
    rw [List.getD_eq_getElem?_getD, List.getElem?_eq_getElem hlen]
    simp only [Option.getD_some]
    exact entries2_words src p0 _ (List.mem_filter.1 (List.getElem_mem hlen)).1
  · rw [ht.rest r (fun kk hk h => hin ⟨kk, hk, h⟩)]
    exact h0 r

theorem expected_pos (jobs chunks : Nat) (hj : 1 ≤ jobs) (hc : 1 ≤ chunks) :
    (∀ x ∈ Kanzi.Jobs.expected chunks (min jobs chunks), 1 ≤ x) ∧
      (Kanzi.Jobs.expected chunks (min jobs chunks)).sum = chunks := by
  have hm : 0 < min jobs chunks := by omega
  have hle : min jobs chunks ≤ chunks := by omega
  refine ⟨fun x hx => ?_, Kanzi.Jobs.expected_sum_ge chunks (min jobs chunks) hm hle⟩
  have := (Kanzi.Jobs.expected_bounds chunks (min jobs chunks) hm hle x hx).1
  have := Kanzi.Jobs.div_pos_of_le chunks (min jobs chunks) hm hle
  omega

theorem ranges_le (jobs chunks : Nat) (hj : 1 ≤ jobs) (hc : 1 ≤ chunks) :
    ∀ r ∈ Kanzi.Jobs.chunkRanges (Kanzi.Jobs.expected chunks (min jobs chunks)) 0, r.1 < r.2 ∧ r.2 ≤ chunks := by
  obtain ⟨hpos, hsum⟩ := expected_pos jobs chunks hj hc
  intro r hr
  have hne := Kanzi.Jobs.chunkRanges_nonempty _ 0 hpos r hr
  -- the last chunk of the range is one of 0 .. chunks-1
  have hmem : r.2 - 1 ∈ (Kanzi.Jobs.chunkRanges (Kanzi.Jobs.expected chunks (min jobs chunks)) 0).flatMap Kanzi.Jobs.chunksOf := by
    rw [List.mem_flatMap]
    refine ⟨r, hr, ?_⟩
    simp only [Kanzi.Jobs.chunksOf, List.mem_range'_1]
    omega
  rw [Kanzi.Jobs.chunkRanges_cover, hsum, List.mem_range'_1] at hmem
  omega

/-- `inverseBiPSIv2` behind the table construction: the tasks and the last byte -/
def biDecode (sh : Shared) (count ckSize : Nat) (ranges : List (Nat × Nat)) (dstLen lastc : Nat) : Res (Array Nat) :=
  match runTasks sh count ckSize ranges (Array.replicate dstLen 0) false with
  | .hang => .hang
  | .ok (dst, failed) =>
    if failed then .err "data"
    else if count - 1 < dst.size then .ok ((dst.setIfInBounds (count - 1) lastc).extract 0 count)
    else .fault
  | _ => .fault

/-- `inverseBiPSIv2` with a first primary index in `1 .. 2^63 - 1`: an index slot above the block
length ("corrupted primary index"), or the tables (`tables_spec`) followed by the decoding tasks. -/
theorem biPSIv2_eq (buf : Array Nat) (pidx : List Nat) (jobs : Nat) (src : Array Nat) (dstLen : Nat)
    (hb : ∀ b ∈ src.toList, b < 256) (hn : src.size < 2 ^ 63)
    (hp0 : 1 ≤ pidx.getD 0 0 ∧ pidx.getD 0 0 < 2 ^ 63) (hjobs : 1 ≤ jobs) :
    ((∃ i, i < getBWTChunks src.size ∧ ¬ GoodP src.size (pidx.getD i 0)) ∧
      (biPSIv2 buf pidx jobs src dstLen).1 = .err "pidx") ∨
    ((∀ i, i < getBWTChunks src.size → GoodP src.size (pidx.getD i 0)) ∧
      ∃ bk2 fbs v bk data,
        StInv src (pidx.getD 0 0) (shiftOf src.size) 65536 v bk2 fbs ∧
        Tables src (pidx.getD 0 0) (ensureBuf buf (max (src.size + 1) 256)) bk data ∧
        (biPSIv2 buf pidx jobs src dstLen).1
          = biDecode ⟨bk, fbs, data, pidx, shiftOf src.size⟩ src.size (chunkSize src.size (getBWTChunks src.size))
              (Kanzi.Jobs.chunkRanges
                (Kanzi.Jobs.expected (getBWTChunks src.size) (min jobs (getBWTChunks src.size))) 0)
              dstLen (rd src 0)) := by
  have hchunks := getBWTChunks_pos src.size
  unfold biPSIv2
  simp only []
  by_cases htb : pidx.getD 0 0 < 2 ^ 63 ∧ pidx.getD 0 0 > src.size
  · rw [if_pos htb]
    exact Or.inl ⟨⟨0, hchunks, by unfold GoodP; omega⟩, rfl⟩
  rw [if_neg htb]
  by_cases hval : (List.range' 1 (getBWTChunks src.size - 1)).any
      (fun i => decide (pidx.getD i 0 < 2 ^ 63 ∧ pidx.getD i 0 > src.size)) = true
  · rw [if_pos hval]
    obtain ⟨i, hi, hbad⟩ := List.any_eq_true.1 hval
    rw [List.mem_range'_1] at hi
    exact Or.inl ⟨⟨i, by omega, by unfold GoodP; have := of_decide_eq_true hbad; omega⟩, rfl⟩
  rw [if_neg hval, if_neg (show ¬ pidx.getD 0 0 ≥ 2 ^ 63 by omega)]
  refine Or.inr ⟨?_, ?_⟩
  · intro i hi
    by_cases hi0 : i = 0
    · subst hi0; unfold GoodP; omega
    · have hnot : ¬ (pidx.getD i 0 < 2 ^ 63 ∧ pidx.getD i 0 > src.size) := fun hh =>
        hval (List.any_eq_true.2 ⟨i, List.mem_range'_1.2 (by omega), decide_eq_true hh⟩)
      unfold GoodP; omega
  · obtain ⟨fr, bk1, bk2, fbs, v, fr3, bk3, d3, fr4, bk4, d4, r1, r2, f1, f2, hst, htab⟩ :=
      tables_spec src hb (pidx.getD 0 0) ⟨hp0.1, by omega⟩ (by omega) (ensureBuf buf (max (src.size + 1) 256))
        (Nat.le_trans (Nat.le_max_left _ _) (ensureBuf_size_ge _ _))
    have hrd0 : src.getD 0 0 = rd src 0 := rfl
    refine ⟨bk2, fbs, v, transpose bk4, d4, hst, htab, ?_⟩
    simp only [r1, hrd0, r2, f1, f2, Kanzi.Jobs.bwtSplit_ok jobs _ hjobs hchunks]
    unfold biDecode
    generalize runTasks _ _ _ _ _ _ = r
    rcases r with ⟨dst, failed⟩ | e | _ | _
    · simp only [apply_ite Prod.fst]
    · rfl
    · rfl
    · rfl

/-- TOTALITY of `inverseBiPSIv2` under the hypotheses of the file header (at least 2 bytes, first index in
`1 .. 2^63 - 1`, destination at least as long, buffer entries at most `n`): `count` bytes, "corrupted
primary index" or "invalid data". -/
theorem biPSIv2_total (buf : Array Nat) (pidx : List Nat) (jobs : Nat) (src : Array Nat) (dstLen : Nat)
    (hb : ∀ b ∈ src.toList, b < 256) (h2 : 2 ≤ src.size) (hn : src.size < 2 ^ 63)
    (hp0 : 1 ≤ pidx.getD 0 0 ∧ pidx.getD 0 0 < 2 ^ 63) (hjobs : 1 ≤ jobs) (hd : src.size ≤ dstLen)
    (hbuf : ∀ a, rd buf a ≤ src.size) :
    (∃ out, (biPSIv2 buf pidx jobs src dstLen).1 = .ok out ∧ out.size = src.size) ∨
      (biPSIv2 buf pidx jobs src dstLen).1 = .err "pidx" ∨
      (biPSIv2 buf pidx jobs src dstLen).1 = .err "data" := by
  rcases biPSIv2_eq buf pidx jobs src dstLen hb hn hp0 hjobs with ⟨_, herr⟩ | ⟨hgood, bk2, fbs, v, bk, data, hst, htab, heq⟩
  · exact Or.inr (Or.inl herr)
  rw [heq]
  have hp0n : pidx.getD 0 0 ≤ src.size := by
    have := hgood 0 (getBWTChunks_pos _)
    unfold GoodP at this; omega
  have h0 : ∀ a, rd (ensureBuf buf (max (src.size + 1) 256)) a ≤ src.size := by
    intro a
    unfold ensureBuf
    split
    · rw [rd_replicate]; split <;> omega
    · exact hbuf a
  have hok : ShOK (Shared.mk bk fbs data pidx (shiftOf src.size)) src.size := by
    have hlast : (65535 : Nat) < 65536 := Nat.lt_succ_self _
    refine ⟨htab.bksize, ⟨65535, hlast, ?_⟩, fun u _ => hst.fblt u, fun p _ _ => tables_closed src hb _ _ _ _ htab h0 p⟩
    show src.size < rd bk 65535
    rw [htab.ends 65535 hlast, endK_last src hb _ ⟨hp0.1, hp0n⟩]; omega
  have hidx : ∀ c p, c < getBWTChunks src.size → pidx[c]? = some p → GoodP src.size p := by
    intro c p hc hcp
    have hget : pidx.getD c 0 = p := by simp [List.getD_eq_getElem?_getD, hcp]
    rw [← hget]; exact hgood c hc
  obtain ⟨d, f, hrun, hdsz⟩ := runTasks_clean _ src.size (getBWTChunks src.size) hok hidx src.size
    (chunkSize src.size (getBWTChunks src.size)) _
    (fun r hr => (ranges_le jobs _ hjobs (getBWTChunks_pos _) r hr).2)
    (Array.replicate dstLen 0) false
  simp only [biDecode, hrun]
  cases f with
  | true => exact Or.inr (Or.inr rfl)
  | false =>
    have hlt : src.size - 1 < d.size := by rw [hdsz, Array.size_replicate]; omega
    rw [if_neg (by simp), if_pos hlt]
    refine Or.inl ⟨_, rfl, ?_⟩
    simp only [Array.size_extract, Array.size_setIfInBounds, hdsz, Array.size_replicate]
    omega

/-- a result that is a value or a returned error: no panic in the calling goroutine, no endless loop -/
def Returns {α : Type} (r : Res α) : Prop := (∃ a, r = .ok a) ∨ ∃ e, r = .err e

theorem bwtInverse_big (buf : Array Nat) (pidx : List Nat) (jobs : Nat) (src : Array Nat) (dstLen : Nat)
    (hbig : THRESHOLD2 < src.size) (hmax : src.size ≤ MAX_BLOCK_SIZE) (hd : src.size ≤ dstLen) :
    bwtInverse buf pidx jobs src dstLen = biPSIv2 buf pidx jobs src dstLen := by
  unfold THRESHOLD2 at hbig
  unfold bwtInverse
  rw [if_neg (by omega), if_neg (by omega), if_neg (by omega), if_neg (by omega), if_neg (by unfold THRESHOLD2; omega)]

/-- TOTALITY of `BWT.Inverse` behind the validation of `BWTBlockCodec` (first index in `1 .. 2^63 - 1`):
any bytes, any other index slots, any job count >= 1, any destination size; work buffer closed under
its pointers and with entries at most `n` (both true of a fresh instance). -/
theorem bwtInverse_total (buf : Array Nat) (pidx : List Nat) (jobs : Nat) (src : Array Nat) (dstLen : Nat)
    (hb : ∀ b ∈ src.toList, b < 256) (hjobs : 1 ≤ jobs)
    (hp0 : 1 ≤ pidx.getD 0 0 ∧ pidx.getD 0 0 < 2 ^ 63)
    (hc : Closed buf) (hbuf : ∀ a, rd buf a ≤ src.size) :
    Returns (bwtInverse buf pidx jobs src dstLen).1 := by
  unfold bwtInverse
  by_cases h0 : src.size = 0 ∨ dstLen = 0
  · rw [if_pos h0]; exact Or.inl ⟨_, rfl⟩
  rw [if_neg h0]
  by_cases hmax : src.size > MAX_BLOCK_SIZE
  · rw [if_pos hmax]; exact Or.inr ⟨_, rfl⟩
  rw [if_neg hmax]
  by_cases hdst : src.size > dstLen
  · rw [if_pos hdst]; exact Or.inr ⟨_, rfl⟩
  rw [if_neg hdst]
  by_cases h1 : src.size = 1
  · rw [if_pos h1]; exact Or.inl ⟨_, rfl⟩
  rw [if_neg h1]
  by_cases hsmall : src.size ≤ THRESHOLD2
  · rw [if_pos hsmall]
    rcases (mergeTPSI_total buf pidx src hb (by omega) hc).1 with ⟨out, h, _⟩ | h
    · exact Or.inl ⟨out, h⟩
    · exact Or.inr ⟨_, h⟩
  · rw [if_neg hsmall]
    have hmax' : src.size < 2 ^ 63 := by unfold MAX_BLOCK_SIZE at hmax; omega
    rcases biPSIv2_total buf pidx jobs src dstLen hb (by omega) hmax' hp0 hjobs (by omega) hbuf
      with ⟨out, h, _⟩ | h | h
    · exact Or.inl ⟨out, h⟩
    · exact Or.inr ⟨_, h⟩
    · exact Or.inr ⟨_, h⟩

theorem parseHeaderN_returns (old pre : List Nat) (len : Nat) : Returns (parseHeaderN old pre len) := by
  unfold parseHeaderN
  simp only []
  split
  · exact Or.inr ⟨_, rfl⟩
  · split
    · exact Or.inr ⟨_, rfl⟩
    · exact Or.inl ⟨_, rfl⟩

/-- TOTALITY of `BWTBlockCodec.Inverse` on a fresh instance: ANY input bytes (forged header, forged
indexes, truncated or random data), any job count >= 1, any destination size: a block or an error. -/
theorem blockInverse_total (old : List Nat) (jobs : Nat) (src : Array Nat) (dstLen : Nat)
    (hb : ∀ b ∈ src.toList, b < 256) (hjobs : 1 ≤ jobs) :
    Returns (blockInverse #[] old jobs src dstLen).1 := by
  unfold blockInverse
  by_cases h0 : src.size = 0 ∨ dstLen = 0
  · rw [if_pos h0]; exact Or.inl ⟨_, rfl⟩
  rw [if_neg h0]
  by_cases h1 : src.size = 1
  · rw [if_pos h1]; exact Or.inr ⟨_, rfl⟩
  rw [if_neg h1]
  have hpre : (src.extract 0 MAX_HEADER_SIZE).toList = src.toList.take MAX_HEADER_SIZE := by simp
  have hlen : src.size = src.toList.length := by simp
  rw [hpre, parseHeaderN_take, hlen]
  rcases parseHeaderN_returns old src.toList src.toList.length with ⟨h, hph⟩ | ⟨e, hph⟩
  · rw [hph]
    simp only
    obtain ⟨h1, h2, h3, h4, _⟩ := parseHeader_ok old src.toList hb h hph
    have hp0 := h4 0 (getBWTChunks_pos _)
    apply bwtInverse_total
    · intro b hb'
      apply hb
      simp only [Array.toList_extract] at hb'
      exact List.mem_of_mem_drop (List.mem_of_mem_take hb')
    · exact hjobs
    · exact ⟨hp0.1, by omega⟩
    · exact closed_empty
    · intro a; simp [rd]
  · rw [hph]; exact Or.inr ⟨_, rfl⟩

end Kanzi.BWT
