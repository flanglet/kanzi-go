/-
Proofs about `Kanzi.Jobs.computeJobsPerTask` (model of `internal.ComputeJobsPerTask`) and the
chunk ranges derived from it in `BWT.inverseBiPSIv2`.  Core Lean only.
-/
import Kanzi.Model.Jobs

namespace Kanzi.Jobs

theorem bump_cons_succ (x : Nat) (l : List Nat) (n : Nat) :
    bump (x :: l) (n + 1) = x :: bump l n := by
  simp [bump]

theorem bump_cons_zero (x : Nat) (l : List Nat) : bump (x :: l) 0 = (x + 1) :: l := by
  simp [bump]

theorem bump_block (q a b : Nat) :
    bump (List.replicate a (q + 1) ++ List.replicate (b + 1) q) a
      = List.replicate (a + 1) (q + 1) ++ List.replicate b q := by
  induction a with
  | zero => simp [List.replicate_succ, bump_cons_zero]
  | succ a ih =>
    rw [List.replicate_succ, List.cons_append, bump_cons_succ, ih]
    simp [List.replicate_succ]

/-- the loop started at index `a` with the first `a` entries already incremented and `r ≤ b`
increments left never reaches the wrap-around with work left: it increments entries
`a .. a+r-1`. -/
theorem spread_block (tasks q : Nat) :
    ∀ (r a b : Nat), a + b = tasks → r ≤ b →
      spread tasks r a (List.replicate a (q + 1) ++ List.replicate b q)
        = List.replicate (a + r) (q + 1) ++ List.replicate (b - r) q := by
  intro r
  induction r with
  | zero => intro a b _ _; simp [spread]
  | succ r ih =>
    intro a b hab hr
    obtain ⟨b', rfl⟩ : ∃ b', b = b' + 1 := ⟨b - 1, by omega⟩
    rw [spread, bump_block]
    by_cases hw : a + 1 = tasks
    · -- wrap-around: then no increment is left
      have hr0 : r = 0 := by omega
      subst hr0
      simp [spread]
    · rw [if_neg hw, ih (a + 1) b' (by omega) (by omega)]
      have e1 : a + 1 + r = a + (r + 1) := by omega
      have e2 : b' + 1 - (r + 1) = b' - r := by omega
      rw [e1, e2]

theorem spread_zero (tasks n : Nat) (l : List Nat) : spread tasks 0 n l = l := by
  simp [spread]

/-- the distribution the Go code is meant to compute: `jobs % tasks` tasks get one job more -/
def expected (jobs tasks : Nat) : List Nat :=
  if jobs ≤ tasks then List.replicate tasks 1
  else List.replicate (jobs % tasks) (jobs / tasks + 1)
        ++ List.replicate (tasks - jobs % tasks) (jobs / tasks)

theorem computeJobsPerTask_eq (jobs tasks : Nat) (ht : 0 < tasks) (hj : 0 < jobs) :
    computeJobsPerTask jobs tasks = .ok (expected jobs tasks) := by
  unfold computeJobsPerTask expected
  rw [if_neg (by omega), if_neg (by omega)]
  by_cases hle : jobs ≤ tasks
  · simp only [if_pos hle, spread_zero]
  · simp only [if_neg hle]
    have hr : jobs - jobs / tasks * tasks = jobs % tasks := by
      have h1 := Nat.div_add_mod jobs tasks
      have h2 : jobs / tasks * tasks = tasks * (jobs / tasks) := Nat.mul_comm _ _
      omega
    rw [hr]
    have hlt : jobs % tasks < tasks := Nat.mod_lt _ ht
    have h := spread_block tasks (jobs / tasks) (jobs % tasks) 0 tasks (by omega) (by omega)
    simp only [List.replicate_zero, List.nil_append, Nat.zero_add] at h
    rw [h]

theorem computeJobsPerTask_err_iff (jobs tasks : Nat) :
    (∃ e, computeJobsPerTask jobs tasks = .error e) ↔ (tasks = 0 ∨ jobs = 0) := by
  constructor
  · rintro ⟨e, he⟩
    by_cases ht : tasks = 0
    · exact Or.inl ht
    · by_cases hj : jobs = 0
      · exact Or.inr hj
      · rw [computeJobsPerTask_eq jobs tasks (by omega) (by omega)] at he
        cases he
  · intro h
    unfold computeJobsPerTask
    by_cases ht : tasks = 0
    · exact ⟨_, by rw [if_pos ht]⟩
    · have hj : jobs = 0 := by omega
      exact ⟨_, by rw [if_neg ht, if_pos hj]⟩

theorem expected_length (jobs tasks : Nat) (ht : 0 < tasks) :
    (expected jobs tasks).length = tasks := by
  unfold expected
  have hlt : jobs % tasks < tasks := Nat.mod_lt _ ht
  split
  · simp
  · simp only [List.length_append, List.length_replicate]; omega

theorem expected_sum_ge (jobs tasks : Nat) (ht : 0 < tasks) (hle : tasks ≤ jobs) :
    (expected jobs tasks).sum = jobs := by
  unfold expected
  have hlt : jobs % tasks < tasks := Nat.mod_lt _ ht
  have hdm := Nat.div_add_mod jobs tasks
  split
  · have : jobs = tasks := by omega
    simp [List.sum_replicate_nat, this]
  · simp only [List.sum_append, List.sum_replicate_nat]
    generalize jobs / tasks = q at *
    generalize jobs % tasks = r at *
    have e1 : r * (q + 1) = r * q + r := by rw [Nat.mul_add, Nat.mul_one]
    have e2 : (tasks - r) * q + r * q = tasks * q := by
      rw [← Nat.add_mul]; congr 1; omega
    omega

theorem expected_sum_lt (jobs tasks : Nat) (hlt : jobs ≤ tasks) :
    expected jobs tasks = List.replicate tasks 1 := by
  unfold expected; rw [if_pos hlt]

theorem expected_bounds (jobs tasks : Nat) (ht : 0 < tasks) (hle : tasks ≤ jobs) :
    ∀ x ∈ expected jobs tasks, jobs / tasks ≤ x ∧ x ≤ jobs / tasks + 1 := by
  intro x hx
  unfold expected at hx
  split at hx
  · have : jobs = tasks := by omega
    subst this
    rw [List.mem_replicate] at hx
    have : jobs / jobs = 1 := Nat.div_self ht
    omega
  · rw [List.mem_append, List.mem_replicate, List.mem_replicate] at hx
    omega

theorem div_pos_of_le (jobs tasks : Nat) (ht : 0 < tasks) (hle : tasks ≤ jobs) :
    1 ≤ jobs / tasks := by
  exact (Nat.le_div_iff_mul_le ht).2 (by omega)

theorem expected_sorted (jobs tasks : Nat) : (expected jobs tasks).Pairwise (· ≥ ·) := by
  unfold expected
  split
  · exact List.pairwise_replicate.2 (Or.inr (Nat.le_refl _))
  · rw [List.pairwise_append]
    refine ⟨List.pairwise_replicate.2 (Or.inr (Nat.le_refl _)),
            List.pairwise_replicate.2 (Or.inr (Nat.le_refl _)), ?_⟩
    intro a ha b hb
    rw [List.mem_replicate] at ha hb
    omega

theorem chunkRanges_length (l : List Nat) (c : Nat) : (chunkRanges l c).length = l.length := by
  induction l generalizing c with
  | nil => rfl
  | cons k ks ih => simp [chunkRanges, ih]

/-- the chunks of the consecutive ranges, concatenated in task order, are `c, c+1, …, c+sum-1`:
every chunk exactly once -/
theorem chunkRanges_cover (l : List Nat) (c : Nat) :
    (chunkRanges l c).flatMap chunksOf = List.range' c l.sum := by
  induction l generalizing c with
  | nil => simp [chunkRanges]
  | cons k ks ih =>
    simp only [chunkRanges, List.flatMap_cons, ih, List.sum_cons, chunksOf]
    have e : c + k - c = k := by omega
    rw [e]
    simp

/-- a range is `[first, first + k)` with `k` the task's entry, so no range is empty when every task
has at least one chunk -/
theorem chunkRanges_nonempty (l : List Nat) (c : Nat) (h : ∀ x ∈ l, 1 ≤ x) :
    ∀ p ∈ chunkRanges l c, p.1 < p.2 := by
  induction l generalizing c with
  | nil => intro p hp; simp [chunkRanges] at hp
  | cons k ks ih =>
    intro p hp
    simp only [chunkRanges, List.mem_cons] at hp
    rcases hp with rfl | hp
    · have := h k (List.mem_cons_self); simp; omega
    · exact ih (c + k) (fun x hx => h x (List.mem_cons_of_mem _ hx)) p hp

theorem bwtSplit_ok (jobs chunks : Nat) (hj : 1 ≤ jobs) (hc : 1 ≤ chunks) :
    bwtSplit jobs chunks = .ok (chunkRanges (expected chunks (min jobs chunks)) 0) := by
  unfold bwtSplit
  rw [computeJobsPerTask_eq chunks (min jobs chunks) (by omega) (by omega)]

end Kanzi.Jobs
