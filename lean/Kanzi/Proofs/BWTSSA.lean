/-
BWTS (C13): the specification `suffixArray` handed to the forward model in place of
DivSufSort is what its name says: the start positions of all suffixes, in strictly increasing
lexicographic order of the suffixes.  It is the suffix array `Kanzi.BWT.sa` of the BWT specification
(`suffixArray_eq_sa`), which is a strictly sorted permutation (BWTSpec).
-/
import Kanzi.Proofs.BWTSLex
import Kanzi.Proofs.BWTSpec

namespace Kanzi.BWTS

theorem suffixes_length (s : List Nat) : (suffixes s).length = s.length := by
  induction s with
  | nil => rfl
  | cons a s ih => simp [suffixes, ih]

theorem suffixes_getElem (s : List Nat) (i : Nat) (h : i < (suffixes s).length) :
    (suffixes s)[i] = s.drop i := by
  induction s generalizing i with
  | nil => simp [suffixes] at h
  | cons a s ih =>
    cases i with
    | zero => simp [suffixes]
    | succ i =>
      simp only [suffixes, List.getElem_cons_succ, List.drop_succ_cons]
      exact ih i (by simpa [suffixes] using h)

theorem mem_zip_suffixes {s : List Nat} {p : Nat × List Nat}
    (h : p ∈ (List.range s.length).zip (suffixes s)) : p.1 < s.length ∧ p.2 = s.drop p.1 := by
  obtain ⟨i, h1, h2⟩ := List.mem_iff_getElem.1 h
  have hl : i < s.length := by simpa [suffixes_length] using h1
  rw [List.getElem_zip] at h2
  subst h2
  simp only [List.getElem_range]
  exact ⟨hl, suffixes_getElem s i (by rw [suffixes_length]; exact hl)⟩

/-- sorting the pairs (position, suffix) by suffix and sorting the positions by their suffix is the same -/
theorem suffixArray_eq_sa (s : List Nat) : suffixArray s = Kanzi.BWT.sa s := by
  unfold suffixArray Kanzi.BWT.sa
  rw [List.map_mergeSort (s := Kanzi.BWT.sufLe s),
    List.map_fst_zip (by rw [suffixes_length, List.length_range]; exact Nat.le_refl _)]
  intro a ha b hb
  rw [(mem_zip_suffixes ha).2, (mem_zip_suffixes hb).2, Kanzi.BWT.sufLe, Bool.eq_iff_iff, decide_eq_true_iff,
    ← lexLe_iff_le, lexLe, Bool.not_eq_true']

theorem suffixArray_perm (s : List Nat) : (suffixArray s).Perm (List.range s.length) :=
  suffixArray_eq_sa s ▸ Kanzi.BWT.sa_perm s

theorem suffixArray_sorted (s : List Nat) :
    (suffixArray s).Pairwise (fun i j => lexLt (s.drop i) (s.drop j) = true) :=
  suffixArray_eq_sa s ▸ (Kanzi.BWT.sa_sorted s).imp fun h => (lexLt_iff_lt _ _).2 h

end Kanzi.BWTS
