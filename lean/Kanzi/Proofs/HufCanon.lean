/-
Huffman codec (C12): canonical codes.  For a length table that satisfies
Kraft's inequality (in units of 2^-12) the codes produced by `generateCanonicalCodes` tile the
interval [0, K) of the 12-bit index space, the decoding table maps every index of the tile of a
symbol to (symbol, length), and decoding a concatenation of codes by table look-up returns the
symbols.  Restated in `Kanzi/Properties/C12_huffman.lean`.
-/
import Kanzi.Model.Huffman
import Kanzi.Proofs.EntSmall
import Mathlib.Data.List.Perm.Basic
import Mathlib.Data.List.Nodup

namespace Kanzi.Huffman
open Kanzi.Bits Kanzi.EntSmall

/-- number of 12-bit indexes that start with the code of `s` -/
def slotW (sizes : List Nat) (s : Nat) : Nat := 2 ^ (12 - sizes.getD s 0)

/-- Kraft sum of the symbols `l` in units of 2^-12 -/
def kraft12 (sizes : List Nat) (l : List Nat) : Nat := (l.map (slotW sizes)).sum

/-- lengths non decreasing along the list (starting at `cur`) and at most 12 -/
def Chain (sizes : List Nat) : List Nat → Nat → Prop
  | [], _ => True
  | s :: ss, cur => cur ≤ sizes.getD s 0 ∧ sizes.getD s 0 ≤ 12 ∧ Chain sizes ss (sizes.getD s 0)

/-- the code of each symbol of the list, left aligned on 12 bits, is the sum of the widths of
    the symbols before it (starting at `P`) -/
def CodesOk (sizes codes : List Nat) : List Nat → Nat → Prop
  | [], _ => True
  | s :: ss, P => codes.getD s 0 * slotW sizes s = P ∧ CodesOk sizes codes ss (P + slotW sizes s)

/-- the symbol whose tile contains index `w` -/
def findSlot (sizes : List Nat) : List Nat → Nat → Nat → Option Nat
  | [], _, _ => none
  | s :: ss, P, w =>
    if w < P + slotW sizes s then (if P ≤ w then some s else none)
    else findSlot sizes ss (P + slotW sizes s) w

theorem slotW_pos (sizes : List Nat) (s : Nat) : 0 < slotW sizes s := Nat.pow_pos (by decide)

theorem kraft12_cons (sizes : List Nat) (s : Nat) (l : List Nat) :
    kraft12 sizes (s :: l) = slotW sizes s + kraft12 sizes l := by
  simp [kraft12]

theorem kraft12_perm (sizes : List Nat) {l1 l2 : List Nat} (h : l1.Perm l2) :
    kraft12 sizes l1 = kraft12 sizes l2 := (h.map _).sum_nat

theorem slotW_le_kraft12 (sizes : List Nat) (s : Nat) : ∀ (l : List Nat), s ∈ l →
    slotW sizes s ≤ kraft12 sizes l := by
  intro l
  induction l with
  | nil => intro h; cases h
  | cons x xs ih =>
    intro h
    rw [kraft12_cons]
    rcases List.mem_cons.mp h with rfl | h
    · omega
    · have := ih h; omega

theorem assignCodes_length (sizes : List Nat) : ∀ (ord : List Nat) (code cur : Nat) (codes : List Nat),
    (assignCodes sizes ord code cur codes).length = codes.length := by
  intro ord
  induction ord with
  | nil => intros; rfl
  | cons s ss ih => intro code cur codes; simp only [assignCodes]; rw [ih]; simp

theorem assignCodes_frame (sizes : List Nat) : ∀ (ord : List Nat) (code cur : Nat) (codes : List Nat) (x : Nat),
    x ∉ ord → (assignCodes sizes ord code cur codes).getD x 0 = codes.getD x 0 := by
  intro ord
  induction ord with
  | nil => intros; rfl
  | cons s ss ih =>
    intro code cur codes x hx
    simp only [assignCodes]
    rw [ih _ _ _ x (fun h => hx (List.mem_cons_of_mem _ h))]
    exact getD_set_ne _ _ _ _ (fun h => hx (h ▸ List.mem_cons_self))

theorem CodesOk_congr (sizes c1 c2 : List Nat) : ∀ (ord : List Nat) (P : Nat),
    (∀ s ∈ ord, c1.getD s 0 = c2.getD s 0) → CodesOk sizes c1 ord P → CodesOk sizes c2 ord P := by
  intro ord
  induction ord with
  | nil => intros; trivial
  | cons s ss ih =>
    intro P h hc
    exact ⟨by rw [← h s List.mem_cons_self]; exact hc.1,
           ih _ (fun x hx => h x (List.mem_cons_of_mem _ hx)) hc.2⟩

/-- as `CodesOk`, but only as far as the tiles stay within the 4096 indexes: no Kraft hypothesis
    (lengths read from a forged header) -/
def CodesOkP (sizes codes : List Nat) : List Nat → Nat → Prop
  | [], _ => True
  | s :: ss, P => P ≤ 4096 → (codes.getD s 0 * slotW sizes s = P ∧ CodesOkP sizes codes ss (P + slotW sizes s))

theorem CodesOkP.codesOk {sizes codes : List Nat} : ∀ {ord : List Nat} {P : Nat},
    CodesOkP sizes codes ord P → P + kraft12 sizes ord ≤ 4096 → CodesOk sizes codes ord P := by
  intro ord
  induction ord with
  | nil => intros; trivial
  | cons s ss ih =>
    intro P h hK
    rw [kraft12_cons] at hK
    obtain ⟨h1, h2⟩ := h (by omega)
    exact ⟨h1, ih h2 (by omega)⟩

/-- the `uint16` code and the `uint8` length difference of `generateCanonicalCodes` do not wrap as long
    as the tile of the symbol starts inside the 4096 indexes -/
theorem assignCodes_okP (sizes : List Nat) : ∀ (ord : List Nat) (code cur P : Nat) (codes : List Nat),
    Chain sizes ord cur → (P ≤ 4096 → code * 2 ^ (12 - cur) = P) →
    ord.Nodup → (∀ s ∈ ord, s < codes.length) →
    CodesOkP sizes (assignCodes sizes ord code cur codes) ord P := by
  intro ord
  induction ord with
  | nil => intros; trivial
  | cons s ss ih =>
    intro code cur P codes hch hPi hnd hlen
    obtain ⟨h1, h2, h3⟩ := hch
    have hs : s < codes.length := hlen s List.mem_cons_self
    have hnd' := List.nodup_cons.mp hnd
    simp only [assignCodes, CodesOkP]
    intro hP4
    have hP := hPi hP4
    have hk : (sizes.getD s 0 + 256 - cur) % 256 = sizes.getD s 0 - cur := by omega
    rw [hk]
    have hc0 : (code <<< (sizes.getD s 0 - cur)) * slotW sizes s = P := by
      rw [Nat.shiftLeft_eq, slotW, Nat.mul_assoc, ← Nat.pow_add,
        show sizes.getD s 0 - cur + (12 - sizes.getD s 0) = 12 - cur by omega]
      exact hP
    have hpos := slotW_pos sizes s
    have hlt : code <<< (sizes.getD s 0 - cur) ≤ 4096 := by
      have : code <<< (sizes.getD s 0 - cur) ≤ (code <<< (sizes.getD s 0 - cur)) * slotW sizes s :=
        Nat.le_mul_of_pos_right _ hpos
      omega
    rw [Nat.mod_eq_of_lt (show code <<< (sizes.getD s 0 - cur) < 65536 by omega),
        Nat.mod_eq_of_lt (show code <<< (sizes.getD s 0 - cur) + 1 < 65536 by omega)]
    have ihh := ih (code <<< (sizes.getD s 0 - cur) + 1) (sizes.getD s 0) (P + slotW sizes s)
      (codes.set s (code <<< (sizes.getD s 0 - cur))) h3
      (fun _ => by rw [Nat.add_mul, Nat.one_mul]; rw [slotW] at hc0; rw [hc0, slotW]) hnd'.2
      (fun x hx => by rw [List.length_set]; exact hlen x (List.mem_cons_of_mem _ hx))
    refine ⟨?_, ihh⟩
    rw [assignCodes_frame _ _ _ _ _ _ hnd'.1, getD_set_self _ _ _ hs]
    exact hc0

theorem assignCodes_ok (sizes : List Nat) (ord : List Nat) (code cur P : Nat) (codes : List Nat)
    (hch : Chain sizes ord cur) (hP : code * 2 ^ (12 - cur) = P) (hK : P + kraft12 sizes ord ≤ 4096)
    (hnd : ord.Nodup) (hlen : ∀ s ∈ ord, s < codes.length) :
    CodesOk sizes (assignCodes sizes ord code cur codes) ord P :=
  (assignCodes_okP sizes ord code cur P codes hch (fun _ => hP) hnd hlen).codesOk hK

theorem CodesOk_tile (sizes codes : List Nat) (s : Nat) : ∀ (ord : List Nat) (P : Nat),
    CodesOk sizes codes ord P → s ∈ ord →
    P ≤ codes.getD s 0 * slotW sizes s ∧
    codes.getD s 0 * slotW sizes s + slotW sizes s ≤ P + kraft12 sizes ord := by
  intro ord
  induction ord with
  | nil => intro _ _ h; cases h
  | cons x xs ih =>
    intro P hc hs
    rw [kraft12_cons]
    rcases List.mem_cons.mp hs with rfl | hs
    · have := hc.1; omega
    · have := ih _ hc.2 hs; omega

theorem findSlot_none_lt (sizes : List Nat) : ∀ (ord : List Nat) (P w : Nat), w < P →
    findSlot sizes ord P w = none := by
  intro ord
  induction ord with
  | nil => intros; rfl
  | cons s ss ih =>
    intro P w h
    simp only [findSlot]
    have := slotW_pos sizes s
    rw [if_pos (by omega), if_neg (by omega)]

theorem findSlot_hit (sizes codes : List Nat) (s w : Nat) : ∀ (ord : List Nat) (P : Nat),
    CodesOk sizes codes ord P → s ∈ ord →
    codes.getD s 0 * slotW sizes s ≤ w → w < codes.getD s 0 * slotW sizes s + slotW sizes s →
    findSlot sizes ord P w = some s := by
  intro ord
  induction ord with
  | nil => intro _ _ h; cases h
  | cons x xs ih =>
    intro P hc hs h1 h2
    simp only [findSlot]
    by_cases hx : s = x
    · subst hx
      have := hc.1
      rw [if_pos (by omega), if_pos (by omega)]
    · have hs' : s ∈ xs := (List.mem_cons.mp hs).resolve_left hx
      have := (CodesOk_tile sizes codes s xs _ hc.2 hs').1
      rw [if_neg (by omega)]
      exact ih _ hc.2 hs' h1 h2

theorem code_lt_of_tile (c l : Nat) (hl : l ≤ 12) (h : c * 2 ^ (12 - l) + 2 ^ (12 - l) ≤ 4096) :
    c < 2 ^ l := by
  have h4096 : (4096 : Nat) = 2 ^ l * 2 ^ (12 - l) := by
    rw [← Nat.pow_add, show l + (12 - l) = 12 by omega]
  rw [h4096, ← Nat.succ_mul] at h
  have := Nat.le_of_mul_le_mul_right h (Nat.pow_pos (by decide))
  omega

theorem fillTable_length (tbl : List Nat) (i e v : Nat) (hie : i ≤ e) (he : e ≤ tbl.length) :
    (fillTable tbl i e v).length = tbl.length := by
  simp only [fillTable, List.length_append, List.length_take, List.length_replicate, List.length_drop]
  omega

theorem fillTable_getD (tbl : List Nat) (i e v w : Nat) (hie : i ≤ e) (he : e ≤ tbl.length) :
    (fillTable tbl i e v).getD w 0 = if i ≤ w ∧ w < e then v else tbl.getD w 0 := by
  have hti : (tbl.take i).length = i := by rw [List.length_take]; omega
  have hmid : (tbl.take i ++ List.replicate (e - i) v).length = e := by
    rw [List.length_append, hti, List.length_replicate]; omega
  simp only [fillTable, List.getD_eq_getElem?_getD]
  by_cases h1 : w < i
  · rw [List.getElem?_append_left (by rw [hmid]; omega), List.getElem?_append_left (by rw [hti]; exact h1),
      List.getElem?_take_of_lt h1, if_neg (by omega)]
  · by_cases h2 : w < e
    · rw [List.getElem?_append_left (by rw [hmid]; exact h2), List.getElem?_append_right (by rw [hti]; omega),
        hti, List.getElem?_replicate, if_pos (by omega), if_pos (by omega)]
      rfl
    · rw [List.getElem?_append_right (by rw [hmid]; omega), hmid, List.getElem?_drop, if_neg (by omega)]
      congr 2
      omega

/-- the `uint16` arithmetic of `buildDecodingTable` for the tile of `s`: nothing wraps as long as the
    tile starts inside the 4096 indexes -/
theorem tile_bounds (sizes codes : List Nat) (s len P : Nat) (h1 : len ≤ sizes.getD s 0) (hP : P ≤ 4096)
    (hc : codes.getD s 0 * slotW sizes s = P) :
    max len (sizes.getD s 0) = sizes.getD s 0 ∧
    (codes.getD s 0 <<< (12 - sizes.getD s 0)) % 65536 = P ∧
    (P + 2 ^ (12 - sizes.getD s 0)) % 65536 = P + slotW sizes s := by
  have hw : slotW sizes s ≤ 4096 := Nat.pow_le_pow_right (by decide) (Nat.sub_le 12 _)
  refine ⟨Nat.max_eq_right h1, ?_, Nat.mod_eq_of_lt (Nat.lt_of_le_of_lt (Nat.add_le_add hP hw) (by decide))⟩
  rw [Nat.shiftLeft_eq, ← slotW, hc]
  exact Nat.mod_eq_of_lt (Nat.lt_of_le_of_lt hP (by decide))

theorem buildTableLoop_spec (sizes codes : List Nat) : ∀ (ord : List Nat) (len P : Nat) (tbl : List Nat),
    Chain sizes ord len → tbl.length = 4096 → P + kraft12 sizes ord ≤ 4096 →
    CodesOk sizes codes ord P →
    ∃ t, buildTableLoop sizes codes ord len tbl = some t ∧ t.length = 4096 ∧
      ∀ w, t.getD w 0 = match findSlot sizes ord P w with
                        | some s => (s <<< 8) ||| sizes.getD s 0
                        | none => tbl.getD w 0 := by
  intro ord
  induction ord with
  | nil =>
    intro len P tbl _ hl _ _
    exact ⟨tbl, rfl, hl, fun w => rfl⟩
  | cons s ss ih =>
    intro len P tbl hch hl hK hc
    obtain ⟨h1, h2, h3⟩ := hch
    rw [kraft12_cons] at hK
    obtain ⟨hmax, hidx, hend⟩ := tile_bounds sizes codes s len P h1 (by omega) hc.1
    simp only [buildTableLoop, hmax, hidx, hend]
    have hPe : P ≤ P + slotW sizes s := Nat.le_add_right _ _
    have hel : P + slotW sizes s ≤ tbl.length := by omega
    rw [if_neg (Nat.not_lt.mpr h2), if_neg (by omega), if_neg (Nat.not_lt.mpr hPe)]
    obtain ⟨t, ht, htl, htw⟩ := ih (sizes.getD s 0) (P + slotW sizes s)
      (fillTable tbl P (P + slotW sizes s) ((s <<< 8) ||| sizes.getD s 0)) h3
      (by rw [fillTable_length _ _ _ _ hPe hel]; exact hl) (by omega) hc.2
    refine ⟨t, ht, htl, fun w => ?_⟩
    rw [htw w]
    simp only [findSlot]
    by_cases hw1 : w < P + slotW sizes s
    · rw [findSlot_none_lt _ _ _ _ hw1, if_pos hw1]
      simp only
      rw [fillTable_getD _ _ _ _ _ hPe hel]
      by_cases hw2 : P ≤ w
      · rw [if_pos ⟨hw2, hw1⟩, if_pos hw2]
      · rw [if_neg (by omega), if_neg hw2]
    · rw [if_neg hw1]
      cases findSlot sizes ss (P + slotW sizes s) w with
      | some x => rfl
      | none =>
        simp only
        rw [fillTable_getD _ _ _ _ _ hPe hel, if_neg (fun h => hw1 h.2)]

/-- the next `n` bits of a bit string, zero padded (Go: what `(state >> bs) & mask` sees) -/
def peek (n : Nat) (sb : Bits) : Nat := bitsNat ((sb ++ List.replicate n false).take n)

/-- `n` symbols decoded by look-up in `tbl` from the bit string `sb`, each look-up consuming
    the number of bits stored in the low byte of the entry -/
def specDec (tbl : List Nat) : Nat → Bits → List Nat
  | 0, _ => []
  | n + 1, sb =>
    ((tbl.getD (peek 12 sb) 0 >>> 8) % 256) :: specDec tbl n (sb.drop (tbl.getD (peek 12 sb) 0 % 256))

/-- number of bits consumed by the first `n` look-ups of `specDec` -/
def specLen (tbl : List Nat) : Nat → Bits → Nat
  | 0, _ => 0
  | n + 1, sb =>
    tbl.getD (peek 12 sb) 0 % 256 + specLen tbl n (sb.drop (tbl.getD (peek 12 sb) 0 % 256))

theorem peek_code (c l : Nat) (hl : l ≤ 12) (hc : c < 2 ^ l) (rest : Bits) :
    c * 2 ^ (12 - l) ≤ peek 12 (natBits c l ++ rest) ∧
    peek 12 (natBits c l ++ rest) < c * 2 ^ (12 - l) + 2 ^ (12 - l) := by
  unfold peek
  rw [List.append_assoc, List.take_append, natBits_length, List.take_of_length_le (by rw [natBits_length]; exact hl),
    bitsNat_append, bitsNat_natBits, Nat.mod_eq_of_lt hc]
  have hlen : ((rest ++ List.replicate 12 false).take (12 - l)).length = 12 - l := by
    rw [List.length_take, List.length_append, List.length_replicate]; omega
  rw [hlen]
  have := bitsNat_lt ((rest ++ List.replicate 12 false).take (12 - l))
  rw [hlen] at this
  omega

theorem shl_or_fields (a b k : Nat) (hb : b < 2 ^ k) :
    ((a <<< k) ||| b) >>> k = a ∧ ((a <<< k) ||| b) % 2 ^ k = b := by
  rw [Nat.or_comm, or_shl b a k hb, Nat.shiftRight_eq_div_pow]
  exact ⟨by rw [Nat.add_mul_div_right _ _ (Nat.pow_pos (by decide)), Nat.div_eq_of_lt hb, Nat.zero_add],
    by rw [Nat.add_mul_mod_self_right, Nat.mod_eq_of_lt hb]⟩

theorem entry_sym (s l : Nat) (hl : l < 256) : (((s <<< 8) ||| l) >>> 8) = s ∧ ((s <<< 8) ||| l) % 256 = l :=
  shl_or_fields s l 8 hl

/-- the bits the encoder emits for symbol `b` -/
def codeBits (sizes codes : List Nat) (b : Nat) : Bits := natBits (codes.getD b 0) (sizes.getD b 0)

/-- a table is good for the symbols `ord` when every index of the tile of a symbol holds
    (symbol, length) -/
def TableFor (sizes codes ord tbl : List Nat) : Prop :=
  ∀ s ∈ ord, ∀ w, codes.getD s 0 * slotW sizes s ≤ w → w < codes.getD s 0 * slotW sizes s + slotW sizes s →
    tbl.getD w 0 = (s <<< 8) ||| sizes.getD s 0

theorem spec_codes (sizes codes ord tbl : List Nat) (ht : TableFor sizes codes ord tbl)
    (h256 : ∀ s ∈ ord, s < 256) (hsz : ∀ s ∈ ord, sizes.getD s 0 ≤ 12)
    (hcode : ∀ s ∈ ord, codes.getD s 0 < 2 ^ sizes.getD s 0) :
    ∀ (syms : List Nat) (rest : Bits), (∀ b ∈ syms, b ∈ ord) →
      specDec tbl syms.length (syms.flatMap (codeBits sizes codes) ++ rest) = syms ∧
      specLen tbl syms.length (syms.flatMap (codeBits sizes codes) ++ rest)
        = (syms.flatMap (codeBits sizes codes)).length := by
  intro syms
  induction syms with
  | nil => intros; exact ⟨rfl, rfl⟩
  | cons b bs ih =>
    intro rest hb
    have hbo := hb b List.mem_cons_self
    simp only [List.flatMap_cons, List.length_cons, specDec, specLen, List.append_assoc, List.length_append]
    have hp := peek_code (codes.getD b 0) (sizes.getD b 0) (hsz b hbo) (hcode b hbo)
      (bs.flatMap (codeBits sizes codes) ++ rest)
    have he := ht b hbo _ (by rw [slotW]; exact hp.1) (by rw [slotW]; exact hp.2)
    have hes := entry_sym b (sizes.getD b 0) (by have := hsz b hbo; omega)
    have hcb : (codeBits sizes codes b).length = sizes.getD b 0 := natBits_length _ _
    simp only [codeBits] at he hp hcb ⊢
    rw [he, hes.1, hes.2, hcb, Nat.mod_eq_of_lt (h256 b hbo),
      List.drop_append_of_le_length (by simp [natBits_length]), List.drop_of_length_le (by simp [natBits_length]),
      List.nil_append]
    obtain ⟨i1, i2⟩ := ih rest (fun x hx => hb x (List.mem_cons_of_mem _ hx))
    rw [i1, i2]
    exact ⟨rfl, rfl⟩

theorem specDec_codes (sizes codes ord tbl : List Nat) (ht : TableFor sizes codes ord tbl)
    (h256 : ∀ s ∈ ord, s < 256) (hsz : ∀ s ∈ ord, sizes.getD s 0 ≤ 12)
    (hcode : ∀ s ∈ ord, codes.getD s 0 < 2 ^ sizes.getD s 0) :
    ∀ (syms : List Nat) (rest : Bits), (∀ b ∈ syms, b ∈ ord) →
      specDec tbl syms.length (syms.flatMap (codeBits sizes codes) ++ rest) = syms :=
  fun syms rest hb => (spec_codes sizes codes ord tbl ht h256 hsz hcode syms rest hb).1

theorem mem_canonOrder (sizes symbols : List Nat) (x : Nat) :
    x ∈ canonOrder sizes symbols ↔
      x < 256 ∧ x ∈ symbols ∧ 1 ≤ sizes.getD x 0 ∧ sizes.getD x 0 ≤ 13 := by
  simp only [canonOrder, List.mem_flatMap, List.mem_range, List.mem_filter, List.contains_iff_mem,
    beq_iff_eq]
  constructor
  · rintro ⟨l, hl, ⟨hx, hm⟩, he⟩
    exact ⟨hx, hm, by omega, by omega⟩
  · rintro ⟨hx, hm, h1, h13⟩
    exact ⟨sizes.getD x 0 - 1, by omega, ⟨hx, hm⟩, by omega⟩

theorem canonOrder_pairwise (sizes symbols : List Nat) :
    (canonOrder sizes symbols).Pairwise
      (fun a b => sizes.getD a 0 < sizes.getD b 0 ∨ (sizes.getD a 0 = sizes.getD b 0 ∧ a < b)) := by
  unfold canonOrder
  rw [List.pairwise_flatMap]
  constructor
  · intro l _
    have h : ((List.range 256).filter (fun s => symbols.contains s)).Pairwise (· < ·) :=
      List.Pairwise.filter _ List.pairwise_lt_range
    have h2 := List.Pairwise.filter (fun s => sizes.getD s 0 == l + 1) h
    refine List.Pairwise.imp_of_mem ?_ h2
    intro a b ha hb hab
    simp only [List.mem_filter, beq_iff_eq] at ha hb
    exact Or.inr ⟨by omega, hab⟩
  · refine List.Pairwise.imp ?_ (List.pairwise_lt_range (n := 13))
    intro l1 l2 hl x hx y hy
    simp only [List.mem_filter, beq_iff_eq] at hx hy
    exact Or.inl (by omega)

theorem canonOrder_nodup (sizes symbols : List Nat) : (canonOrder sizes symbols).Nodup := by
  refine List.Pairwise.imp ?_ (canonOrder_pairwise sizes symbols)
  intro a b h hab
  subst hab
  omega

theorem canonOrder_perm (sizes symbols : List Nat) (hn : symbols.Nodup) (h256 : ∀ s ∈ symbols, s < 256)
    (hsz : ∀ s ∈ symbols, 1 ≤ sizes.getD s 0 ∧ sizes.getD s 0 ≤ 12) :
    (canonOrder sizes symbols).Perm symbols := by
  rw [List.perm_ext_iff_of_nodup (canonOrder_nodup sizes symbols) hn]
  intro x
  rw [mem_canonOrder]
  constructor
  · exact fun h => h.2.1
  · intro h
    have := hsz x h
    exact ⟨h256 x h, h, this.1, by omega⟩

theorem chain_of_pairwise (sizes : List Nat) : ∀ (l : List Nat) (cur : Nat),
    l.Pairwise (fun a b => sizes.getD a 0 ≤ sizes.getD b 0) → (∀ s ∈ l, cur ≤ sizes.getD s 0 ∧ sizes.getD s 0 ≤ 12) →
    Chain sizes l cur := by
  intro l
  induction l with
  | nil => intros; trivial
  | cons s ss ih =>
    intro cur hp hb
    rw [List.pairwise_cons] at hp
    have := hb s List.mem_cons_self
    exact ⟨this.1, this.2, ih _ hp.2 (fun x hx =>
      ⟨hp.1 x hx, (hb x (List.mem_cons_of_mem _ hx)).2⟩)⟩

theorem canonOrder_chain (sizes symbols : List Nat)
    (hsz : ∀ s ∈ symbols, 1 ≤ sizes.getD s 0 ∧ sizes.getD s 0 ≤ 12) :
    Chain sizes (canonOrder sizes symbols) (sizes.getD ((canonOrder sizes symbols).headD 0) 0) := by
  have hp : (canonOrder sizes symbols).Pairwise (fun a b => sizes.getD a 0 ≤ sizes.getD b 0) :=
    List.Pairwise.imp (fun h => by omega) (canonOrder_pairwise sizes symbols)
  have hm : ∀ s ∈ canonOrder sizes symbols, sizes.getD s 0 ≤ 12 := fun s hs =>
    (hsz s ((mem_canonOrder sizes symbols s).mp hs).2.1).2
  cases hc : canonOrder sizes symbols with
  | nil => trivial
  | cons x xs =>
    rw [hc] at hp hm
    simp only [List.headD_cons]
    rw [List.pairwise_cons] at hp
    exact ⟨Nat.le_refl _, hm x List.mem_cons_self,
      chain_of_pairwise sizes xs _ hp.2 (fun s hs => ⟨hp.1 s hs, hm s (List.mem_cons_of_mem _ hs)⟩)⟩

/-- what both sides need to know about a code table: lengths in 1..12 on the alphabet, Kraft -/
structure LensOk (sizes symbols : List Nat) : Prop where
  nodup : symbols.Nodup
  lt256 : ∀ s ∈ symbols, s < 256
  range : ∀ s ∈ symbols, 1 ≤ sizes.getD s 0 ∧ sizes.getD s 0 ≤ 12
  kraft : kraft12 sizes symbols ≤ 4096

theorem genCodes_eq (sizes codes a : List Nat) (hnd : a.Nodup) (h256 : ∀ s ∈ a, s < 256)
    (hsz : ∀ s ∈ a, 1 ≤ sizes.getD s 0 ∧ sizes.getD s 0 ≤ 12) (h2 : 2 ≤ a.length) :
    generateCanonicalCodes sizes codes a = some (assignCodes sizes (canonOrder sizes a) 0
      (sizes.getD ((canonOrder sizes a).headD 0) 0) codes, canonOrder sizes a) := by
  unfold generateCanonicalCodes
  rw [if_neg (by omega), if_neg (by omega), if_neg, if_neg]
  · exact fun hne => hne (canonOrder_perm sizes a hnd h256 hsz).length_eq
  · intro hany
    obtain ⟨s, hm, hb⟩ := List.any_eq_true.mp hany
    have := hsz s hm
    have := h256 s hm
    simp only [Bool.or_eq_true, decide_eq_true_eq] at hb
    omega

theorem genCodes_ok (sizes symbols : List Nat) (h : LensOk sizes symbols) (h2 : 2 ≤ symbols.length) :
    ∃ codes, generateCanonicalCodes sizes (List.replicate 256 0) symbols
        = some (codes, canonOrder sizes symbols) ∧
      codes.length = 256 ∧ CodesOk sizes codes (canonOrder sizes symbols) 0 ∧
      (∀ x, x ∉ symbols → codes.getD x 0 = 0) := by
  have hperm := canonOrder_perm sizes symbols h.nodup h.lt256 h.range
  rw [genCodes_eq sizes _ symbols h.nodup h.lt256 h.range h2]
  refine ⟨_, rfl, ?_, ?_, ?_⟩
  · rw [assignCodes_length, List.length_replicate]
  · refine assignCodes_ok sizes _ 0 _ 0 _ (canonOrder_chain sizes symbols h.range) (Nat.zero_mul _)
      (by rw [Nat.zero_add, kraft12_perm sizes hperm]; exact h.kraft) (canonOrder_nodup _ _) ?_
    intro s hs
    simp only [List.length_replicate]
    exact ((mem_canonOrder _ _ _).mp hs).1
  · intro x hx
    rw [assignCodes_frame _ _ _ _ _ _ (fun hm => hx (hperm.mem_iff.mp hm))]
    exact getD_replicate_zero 256 x

theorem genCodes_inv (sizes a : List Nat) (hlo : LensOk sizes a) (h2 : 2 ≤ a.length) (codes ord : List Nat)
    (hg : generateCanonicalCodes sizes (List.replicate 256 0) a = some (codes, ord)) :
    codes.length = 256 ∧ CodesOk sizes codes (canonOrder sizes a) 0 := by
  obtain ⟨codes', hg', hcl, hco, _⟩ := genCodes_ok sizes a hlo h2
  rw [hg] at hg'
  obtain ⟨rfl, _⟩ := Prod.mk.inj (Option.some.inj hg')
  exact ⟨hcl, hco⟩

/-- the tile of a symbol ends inside the Kraft sum -/
theorem code_lt_of_codesOk (sizes codes a : List Nat) (hlo : LensOk sizes a)
    (hco : CodesOk sizes codes (canonOrder sizes a) 0) : ∀ x ∈ a, codes.getD x 0 < 2 ^ sizes.getD x 0 := by
  intro x hx
  have hperm := canonOrder_perm sizes a hlo.nodup hlo.lt256 hlo.range
  have := (CodesOk_tile sizes codes x (canonOrder sizes a) 0 hco (hperm.mem_iff.mpr hx)).2
  rw [Nat.zero_add, kraft12_perm _ hperm] at this
  have hk := hlo.kraft
  exact code_lt_of_tile _ _ (hlo.range x hx).2 (by rw [slotW] at this; omega)

theorem canonOrder_congr (s1 s2 a1 a2 : List Nat) (hm : ∀ x, x ∈ a1 ↔ x ∈ a2)
    (hs : ∀ x ∈ a1, s1.getD x 0 = s2.getD x 0) : canonOrder s1 a1 = canonOrder s2 a2 := by
  unfold canonOrder
  have h1 : (List.range 256).filter (fun s => a1.contains s) = (List.range 256).filter (fun s => a2.contains s) := by
    apply List.filter_congr
    intro x _
    rw [Bool.eq_iff_iff]
    simp only [List.contains_iff_mem]
    exact hm x
  rw [h1]
  congr 1
  funext l
  apply List.filter_congr
  intro x hx
  simp only [List.mem_filter, List.contains_iff_mem] at hx
  rw [hs x ((hm x).mpr hx.2)]

theorem assignCodes_congr (s1 s2 : List Nat) : ∀ (ord : List Nat) (code cur : Nat) (codes : List Nat),
    (∀ x ∈ ord, s1.getD x 0 = s2.getD x 0) →
    assignCodes s1 ord code cur codes = assignCodes s2 ord code cur codes := by
  intro ord
  induction ord with
  | nil => intros; rfl
  | cons s ss ih =>
    intro code cur codes h
    simp only [assignCodes]
    rw [h s List.mem_cons_self]
    exact ih _ _ _ (fun x hx => h x (List.mem_cons_of_mem _ hx))

theorem genCodes_congr (s1 s2 a1 a2 : List Nat) (hm : ∀ x, x ∈ a1 ↔ x ∈ a2) (hl : a1.length = a2.length)
    (h2 : 2 ≤ a1.length) (hs : ∀ x ∈ a1, s1.getD x 0 = s2.getD x 0) :
    generateCanonicalCodes s1 (List.replicate 256 0) a1 = generateCanonicalCodes s2 (List.replicate 256 0) a2 := by
  have hco := canonOrder_congr s1 s2 a1 a2 hm hs
  have hany : (a1.any fun s => decide (s > 255) || decide (s1.getD s 0 > 12) || decide (s1.getD s 0 = 0))
      = (a2.any fun s => decide (s > 255) || decide (s2.getD s 0 > 12) || decide (s2.getD s 0 = 0)) := by
    rw [Bool.eq_iff_iff, List.any_eq_true, List.any_eq_true]
    constructor
    · rintro ⟨x, hx, hp⟩
      exact ⟨x, (hm x).mp hx, by rw [← hs x hx]; exact hp⟩
    · rintro ⟨x, hx, hp⟩
      exact ⟨x, (hm x).mpr hx, by rw [hs x ((hm x).mpr hx)]; exact hp⟩
  unfold generateCanonicalCodes
  rw [if_neg (show ¬ a1.length = 0 by omega), if_neg (show ¬ a1.length = 1 by omega),
    if_neg (show ¬ a2.length = 0 by omega), if_neg (show ¬ a2.length = 1 by omega), hany, hco, hl]
  have hmem : ∀ x ∈ canonOrder s2 a2, s1.getD x 0 = s2.getD x 0 := fun x hx =>
    hs x ((hm x).mpr ((mem_canonOrder _ _ _).mp hx).2.1)
  rw [assignCodes_congr s1 s2 _ _ _ _ hmem]
  cases hc : canonOrder s2 a2 with
  | nil => rfl
  | cons y ys =>
    have : y ∈ canonOrder s2 a2 := by rw [hc]; exact List.mem_cons_self
    simp only [List.headD_cons]
    rw [hmem y this]

end Kanzi.Huffman
