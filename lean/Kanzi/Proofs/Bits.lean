/-
Lemmas about the bit strings of `Kanzi.Spec.Bits` (`natBits`, `bitsNat`, `ofBytes`, `packBytes`), shared by every
layer that reads or writes bits; the only definitions added are the proof-side helpers `mk` and `bvBits`.  Two
normal forms are used: `mk n f` = `[f 0, …, f (n-1)]` with extensionality `mk_congr` (the word-level proofs of the
bitstreams, `OBSCore` / `OBS`, and `HufDec`), and "a bit string is determined by its length and its big-endian
value" (`eq_of_len_val`), which reduces the field layouts of this file (`natBits_append`, `natBits_split`) to
arithmetic on `/ 2^k` and `% 2^k`.
-/
import Kanzi.Spec.Bits
import Kanzi.Proofs.Base

namespace Kanzi.Bits

/-- `[f 0, …, f (n-1)]` -/
def mk (n : Nat) (f : Nat → Bool) : Bits := (List.range n).map f

@[simp] theorem mk_length (n f) : (mk n f).length = n := by simp [mk]

theorem mk_getElem? (n f i) : (mk n f)[i]? = if i < n then some (f i) else none := by
  unfold mk
  by_cases h : i < n
  · simp [h]
  · simp [h]

theorem mk_getD (n f i) : (mk n f).getD i false = (decide (i < n) && f i) := by
  rw [List.getD_eq_getElem?_getD, mk_getElem?]
  by_cases h : i < n <;> simp [h]

theorem mk_congr {n : Nat} {f g : Nat → Bool} (h : ∀ i, i < n → f i = g i) : mk n f = mk n g := by
  unfold mk
  apply List.map_congr_left
  intro a ha
  exact h a (List.mem_range.mp ha)

theorem mk_zero (f) : mk 0 f = [] := by simp [mk]

theorem mk_append (a b : Nat) (f g : Nat → Bool) :
    mk a f ++ mk b g = mk (a + b) (fun i => if i < a then f i else g (i - a)) := by
  apply List.ext_getElem?
  intro i
  rw [List.getElem?_append]
  simp only [mk_length, mk_getElem?]
  by_cases h1 : i < a
  · have : i < a + b := by omega
    simp [h1, this]
  · by_cases h2 : i - a < b
    · have : i < a + b := by omega
      simp [h1, h2, this]
    · have : ¬ i < a + b := by omega
      simp [h1, h2, this]

theorem mk_split (a b : Nat) (f : Nat → Bool) :
    mk (a + b) f = mk a f ++ mk b (fun i => f (a + i)) := by
  rw [mk_append]
  apply mk_congr
  intro i hi
  by_cases h : i < a
  · simp [h]
  · simp [h]; congr 1; omega

theorem mk_take (k n : Nat) (f) (h : k ≤ n) : (mk n f).take k = mk k f := by
  unfold mk
  rw [← List.map_take, List.take_range, Nat.min_eq_left h]

theorem mk_drop (k n : Nat) (f) : (mk n f).drop k = mk (n - k) (fun i => f (k + i)) := by
  apply List.ext_getElem?
  intro i
  rw [List.getElem?_drop]
  simp only [mk_getElem?]
  by_cases h : i < n - k
  · have : k + i < n := by omega
    simp [h, this]
  · have : ¬ k + i < n := by omega
    simp [h, this]

theorem natBits_eq_mk (v n : Nat) : natBits v n = mk n (fun i => v.testBit (n - 1 - i)) := rfl

@[simp] theorem natBits_length (v n : Nat) : (natBits v n).length = n := by simp [natBits]

theorem natBits_zero (v : Nat) : natBits v 0 = [] := by simp [natBits]

theorem natBits_succ (v n : Nat) : natBits v (n + 1) = v.testBit n :: natBits v n := by
  unfold natBits
  rw [List.range_succ_eq_map, List.map_cons, List.map_map]
  congr 1
  apply List.map_congr_left
  intro i _
  simp only [Function.comp, Nat.succ_eq_add_one]
  congr 1; omega

theorem bitsNat_foldl (bs : Bits) (a : Nat) :
    bs.foldl (fun a b => 2 * a + b.toNat) a = a * 2 ^ bs.length + bitsNat bs := by
  induction bs generalizing a with
  | nil => simp [bitsNat]
  | cons b bs ih =>
    unfold bitsNat
    simp only [List.foldl_cons, List.length_cons]
    rw [ih, ih (2 * 0 + b.toNat)]
    rw [Nat.pow_succ]
    simp only [Nat.mul_zero, Nat.zero_add]
    rw [Nat.add_mul, ← Nat.add_assoc]
    congr 2
    rw [Nat.mul_comm 2 a, Nat.mul_assoc, Nat.mul_comm 2]

theorem bitsNat_nil : bitsNat [] = 0 := rfl

theorem bitsNat_cons (b : Bool) (bs : Bits) :
    bitsNat (b :: bs) = b.toNat * 2 ^ bs.length + bitsNat bs := by
  unfold bitsNat
  simp only [List.foldl_cons]
  rw [bitsNat_foldl]
  simp [bitsNat]

theorem bitsNat_append (xs ys : Bits) :
    bitsNat (xs ++ ys) = bitsNat xs * 2 ^ ys.length + bitsNat ys := by
  simp only [bitsNat, List.foldl_append]
  exact bitsNat_foldl ys _

theorem bitsNat_lt (bs : Bits) : bitsNat bs < 2 ^ bs.length := by
  induction bs with
  | nil => simp [bitsNat]
  | cons b bs ih =>
    rw [bitsNat_cons, List.length_cons, Nat.pow_succ]
    have : b.toNat ≤ 1 := by cases b <;> simp
    have h2 : b.toNat * 2 ^ bs.length ≤ 1 * 2 ^ bs.length := Nat.mul_le_mul_right _ this
    omega

theorem mod_two_pow_succ' (x i : Nat) :
    x % 2 ^ (i + 1) = (x.testBit i).toNat * 2 ^ i + x % 2 ^ i := by
  rw [Nat.pow_succ, Nat.mod_mul, Nat.toNat_testBit, Nat.mul_comm, Nat.add_comm]

theorem bitsNat_natBits (v n : Nat) : bitsNat (natBits v n) = v % 2 ^ n := by
  induction n with
  | zero => simp [natBits, bitsNat, Nat.mod_one]
  | succ n ih =>
    rw [natBits_succ, bitsNat_cons, ih, natBits_length, mod_two_pow_succ']

theorem bitsNat_natBits_of_lt (v n : Nat) (h : v < 2 ^ n) : bitsNat (natBits v n) = v := by
  rw [bitsNat_natBits, Nat.mod_eq_of_lt h]

theorem eq_of_len_val : ∀ (x y : Bits), x.length = y.length → bitsNat x = bitsNat y → x = y := by
  intro x
  induction x with
  | nil => intro y hl _; cases y with | nil => rfl | cons _ _ => simp at hl
  | cons a x ih =>
    intro y hl hv
    cases y with
    | nil => simp at hl
    | cons b y =>
      simp only [List.length_cons, Nat.add_right_cancel_iff] at hl
      rw [bitsNat_cons, bitsNat_cons, hl] at hv
      have hx := bitsNat_lt x
      have hy := bitsNat_lt y
      rw [hl] at hx
      have hab : a = b := by
        cases a <;> cases b <;> simp at hv ⊢ <;> omega
      subst hab
      have : bitsNat x = bitsNat y := by omega
      rw [ih y hl this]

theorem natBits_bitsNat (bs : Bits) : natBits (bitsNat bs) bs.length = bs := by
  apply eq_of_len_val
  · rw [natBits_length]
  · rw [bitsNat_natBits, Nat.mod_eq_of_lt (bitsNat_lt bs)]

theorem natBits_mod (v n : Nat) : natBits (v % 2 ^ n) n = natBits v n := by
  apply eq_of_len_val
  · rw [natBits_length, natBits_length]
  · rw [bitsNat_natBits, bitsNat_natBits, Nat.mod_mod]

theorem natBits_append (hi lo k m : Nat) (h : lo < 2 ^ m) :
    natBits (hi * 2 ^ m + lo) (k + m) = natBits hi k ++ natBits lo m := by
  apply eq_of_len_val
  · simp [natBits_length]
  · rw [bitsNat_append, bitsNat_natBits, bitsNat_natBits, bitsNat_natBits, natBits_length,
      Nat.add_comm k m, Nat.pow_add, Nat.mod_mul]
    have h1 : (hi * 2 ^ m + lo) % 2 ^ m = lo := by
      rw [Nat.add_comm, Nat.add_mul_mod_self_right, Nat.mod_eq_of_lt h]
    have h2 : (hi * 2 ^ m + lo) / 2 ^ m = hi := by
      rw [Nat.add_comm, Nat.add_mul_div_right _ _ (Nat.two_pow_pos m), Nat.div_eq_of_lt h,
        Nat.zero_add]
    rw [h1, h2, Nat.mod_eq_of_lt h, Nat.mul_comm, Nat.add_comm]

theorem natBits_split (v a n : Nat) (h : n ≤ a) :
    natBits v a = natBits (v / 2 ^ (a - n)) n ++ natBits v (a - n) := by
  apply eq_of_len_val
  · simp only [natBits_length, List.length_append]; omega
  · rw [bitsNat_append, bitsNat_natBits, bitsNat_natBits, bitsNat_natBits, natBits_length]
    have : 2 ^ a = 2 ^ (a - n) * 2 ^ n := by rw [← Nat.pow_add]; congr 1; omega
    rw [this, Nat.mod_mul, Nat.mul_comm, Nat.add_comm]

theorem natBits_take (v a n : Nat) (h : n ≤ a) :
    (natBits v a).take n = natBits (v / 2 ^ (a - n)) n := by
  rw [natBits_split v a n h, List.take_left' (natBits_length _ _)]

theorem natBits_drop (v a n : Nat) (h : n ≤ a) :
    (natBits v a).drop n = natBits v (a - n) := by
  rw [natBits_split v a n h, List.drop_left' (natBits_length _ _)]

theorem take_append_len {α} (xs ys : List α) (n : Nat) (h : xs.length = n) :
    (xs ++ ys).take n = xs := by
  subst h; simp

theorem drop_append_len {α} (xs ys : List α) (n : Nat) (h : xs.length = n) :
    (xs ++ ys).drop n = ys := by
  subst h; simp

/-- reading back a field `natBits v n` at the front of a bit string: its value, and (`drop_natBits`) what follows -/
theorem bitsNat_take_natBits (v n : Nat) (rest : Bits) :
    bitsNat ((natBits v n ++ rest).take n) = v % 2 ^ n := by
  rw [take_append_len _ _ _ (natBits_length v n), bitsNat_natBits]

theorem drop_natBits (v n : Nat) (rest : Bits) : (natBits v n ++ rest).drop n = rest :=
  drop_append_len _ _ _ (natBits_length v n)

theorem ofBytes_nil : ofBytes [] = [] := rfl

theorem ofBytes_cons (b : Nat) (l : List Nat) : ofBytes (b :: l) = natBits b 8 ++ ofBytes l := by
  simp [ofBytes]

theorem ofBytes_append (l₁ l₂ : List Nat) : ofBytes (l₁ ++ l₂) = ofBytes l₁ ++ ofBytes l₂ := by
  simp [ofBytes]

@[simp] theorem ofBytes_length (l : List Nat) : (ofBytes l).length = 8 * l.length := by
  induction l with
  | nil => rfl
  | cons b tl ih => rw [ofBytes_cons, List.length_append, natBits_length, ih, List.length_cons]; omega

theorem ofBytes_take (l : List Nat) (k : Nat) : (ofBytes l).take (8 * k) = ofBytes (l.take k) := by
  induction l generalizing k with
  | nil => simp [ofBytes_nil]
  | cons b tl ih =>
    cases k with
    | zero => simp [ofBytes_nil]
    | succ k =>
      rw [ofBytes_cons, List.take_succ_cons, ofBytes_cons, ← ih k]
      have : 8 * (k + 1) = (natBits b 8).length + 8 * k := by simp; omega
      rw [this, List.take_length_add_append]

theorem ofBytes_drop (l : List Nat) (k : Nat) : (ofBytes l).drop (8 * k) = ofBytes (l.drop k) := by
  induction l generalizing k with
  | nil => simp [ofBytes_nil]
  | cons b tl ih =>
    cases k with
    | zero => simp
    | succ k =>
      rw [ofBytes_cons, List.drop_succ_cons, ← ih k]
      have : 8 * (k + 1) = (natBits b 8).length + 8 * k := by simp; omega
      rw [this, List.drop_length_add_append]

theorem ofBytes_getD (l : List Nat) (i j : Nat) (hj : j < 8) :
    (ofBytes l).getD (8 * i + j) false = (decide (i < l.length) && (l.getD i 0).testBit (7 - j)) := by
  induction l generalizing i with
  | nil => simp [ofBytes_nil]
  | cons b tl ih =>
    rw [ofBytes_cons, List.getD_eq_getElem?_getD, List.getElem?_append]
    cases i with
    | zero =>
      have : 8 * 0 + j < (natBits b 8).length := by simp; omega
      rw [if_pos this, ← List.getD_eq_getElem?_getD, natBits_eq_mk, mk_getD]
      simp [hj]
    | succ i =>
      have : ¬ 8 * (i + 1) + j < (natBits b 8).length := by simp; omega
      rw [if_neg this, ← List.getD_eq_getElem?_getD]
      have e : 8 * (i + 1) + j - (natBits b 8).length = 8 * i + j := by simp; omega
      rw [e, ih]
      simp

def bvBits {n : Nat} (x : BitVec n) : Bits := mk n (fun i => x.getMsbD i)

theorem natBits_word {w : Nat} (v : BitVec w) (n : Nat) (hn : n ≤ w) :
    natBits v.toNat n = mk n (fun j => v.getMsbD (w - n + j)) := by
  rw [natBits_eq_mk]
  apply mk_congr
  intro i hi
  rw [BitVec.testBit_toNat, BitVec.getMsbD_eq_getLsbD]
  have : w - n + i < w := by omega
  simp only [this, decide_true, Bool.true_and]
  congr 1; omega

theorem natBits_toNat {n : Nat} (x : BitVec n) : natBits x.toNat n = bvBits x :=
  (natBits_word x n (Nat.le_refl n)).trans (mk_congr fun i _ => by rw [Nat.sub_self, Nat.zero_add])

theorem natBits_bvAppend {n m : Nat} (x : BitVec n) (y : BitVec m) :
    natBits (x ++ y).toNat (n + m) = natBits x.toNat n ++ natBits y.toNat m := by
  rw [BitVec.toNat_append, Nat.shiftLeft_eq, Nat.mul_comm, ← Nat.two_pow_add_eq_or_of_lt y.isLt,
    Nat.mul_comm]
  exact natBits_append _ _ _ _ y.isLt

theorem toNat_setWidth64 (b : BitVec 8) : (b.setWidth 64).toNat = b.toNat := by
  rw [BitVec.toNat_setWidth]
  exact Nat.mod_eq_of_lt (Nat.lt_trans b.isLt (by decide))

theorem setWidth8_toNat (w : BitVec 64) (k : Nat) :
    ((w >>> k).setWidth 8).toNat = w.toNat / 2 ^ k % 2 ^ 8 := by
  rw [BitVec.toNat_setWidth, BitVec.toNat_ushiftRight, Nat.shiftRight_eq_div_pow]

/-- the eight bytes stored by `PutUint64`, most significant first, are the 64 bits of the word
    (`Kanzi.OBS.wordBytes` and `Kanzi.IBS.wordBytes` unfold to this list) -/
theorem ofBytes_word (w : BitVec 64) :
    ofBytes ([(w >>> 56).setWidth 8, (w >>> 48).setWidth 8, (w >>> 40).setWidth 8,
      (w >>> 32).setWidth 8, (w >>> 24).setWidth 8, (w >>> 16).setWidth 8, (w >>> 8).setWidth 8,
      w.setWidth 8].map BitVec.toNat) = natBits w.toNat 64 := by
  have e0 : (w.setWidth 8).toNat = w.toNat / 2 ^ 0 % 2 ^ 8 := by
    rw [BitVec.toNat_setWidth, Nat.pow_zero, Nat.div_one]
  simp only [List.map_cons, List.map_nil, ofBytes_cons, ofBytes_nil,
    List.append_nil, setWidth8_toNat, e0, natBits_mod]
  have s1 := natBits_split w.toNat 64 8 (by omega)
  have s2 := natBits_split w.toNat 56 8 (by omega)
  have s3 := natBits_split w.toNat 48 8 (by omega)
  have s4 := natBits_split w.toNat 40 8 (by omega)
  have s5 := natBits_split w.toNat 32 8 (by omega)
  have s6 := natBits_split w.toNat 24 8 (by omega)
  have s7 := natBits_split w.toNat 16 8 (by omega)
  have s8 := natBits_split w.toNat 8 8 (by omega)
  simp only [Nat.reduceSub] at s1 s2 s3 s4 s5 s6 s7 s8
  rw [s1, s2, s3, s4, s5, s6, s7, s8, natBits_zero, List.append_nil]

theorem bitsNat_replicate_false (k : Nat) : bitsNat (List.replicate k false) = 0 := by
  induction k with
  | zero => rfl
  | succ k ih => rw [List.replicate_succ, bitsNat_cons, ih]; simp

theorem packBytes_nil : packBytes [] = [] := by simp [packBytes]

theorem packBytes_short (t : Bits) (h0 : t ≠ []) (h8 : t.length < 8) :
    packBytes t = [bitsNat (t ++ List.replicate (8 - t.length) false)] := by
  have hpos : 0 < t.length := List.length_pos_iff.mpr h0
  have : (t.length + 7) / 8 = 1 := by omega
  unfold packBytes
  rw [this]
  simp only [List.range_one, List.map_cons, List.map_nil, packByte, Nat.mul_zero, List.drop_zero]
  rw [List.take_of_length_le (by omega)]

theorem packBytes_cons8 (x rest : Bits) (hx : x.length = 8) :
    packBytes (x ++ rest) = bitsNat x :: packBytes rest := by
  unfold packBytes
  have : ((x ++ rest).length + 7) / 8 = (rest.length + 7) / 8 + 1 := by
    rw [List.length_append, hx]; omega
  rw [this, List.range_succ_eq_map, List.map_cons, List.map_map]
  congr 1
  · unfold packByte
    simp only [Nat.mul_zero, List.drop_zero]
    rw [List.take_left' hx]
    simp [hx]
  · apply List.map_congr_left
    intro i _
    simp only [Function.comp, Nat.succ_eq_add_one]
    unfold packByte
    have : 8 * (i + 1) = x.length + 8 * i := by omega
    rw [this, List.drop_append, List.drop_of_length_le (by omega), Nat.add_sub_cancel_left,
      List.nil_append]

theorem packBytes_length (bs : Bits) : (packBytes bs).length = (bs.length + 7) / 8 := by
  simp [packBytes]

theorem packBytes_lt (bs : Bits) : ∀ b ∈ packBytes bs, b < 256 := by
  intro b hb
  obtain ⟨i, _, rfl⟩ := List.mem_map.mp hb
  unfold packByte
  have := bitsNat_lt ((bs.drop (8 * i)).take 8 ++
    List.replicate (8 - ((bs.drop (8 * i)).take 8).length) false)
  rw [List.length_append, List.length_replicate,
    Nat.add_sub_of_le (by rw [List.length_take]; exact Nat.min_le_left _ _)] at this
  exact this

theorem ofBytes_packBytes (w : Bits) :
    ofBytes (packBytes w) = w ++ List.replicate ((8 - w.length % 8) % 8) false := by
  induction hn : w.length using Nat.strongRecOn generalizing w with
  | _ n ih =>
    subst hn
    by_cases h8 : 8 ≤ w.length
    · have hsplit : w = w.take 8 ++ w.drop 8 := (List.take_append_drop 8 w).symm
      have hx : (w.take 8).length = 8 := by rw [List.length_take]; omega
      have hr : (w.drop 8).length = w.length - 8 := List.length_drop
      have := ih (w.drop 8).length (by rw [hr]; omega) (w.drop 8) rfl
      rw [hsplit, packBytes_cons8 _ _ hx, ofBytes_cons, this]
      have hnb := natBits_bitsNat (w.take 8)
      rw [hx] at hnb
      rw [hnb, List.append_assoc]
      congr 2
      rw [List.length_append, hx, hr]
      congr 2
      omega
    · by_cases h0 : w = []
      · subst h0; simp [packBytes_nil, ofBytes_nil]
      · have hlt : w.length < 8 := by omega
        have hpos : 0 < w.length := List.length_pos_iff.mpr h0
        rw [packBytes_short w h0 hlt, ofBytes_cons, ofBytes_nil, List.append_nil]
        have hl : (w ++ List.replicate (8 - w.length) false).length = 8 := by
          rw [List.length_append, List.length_replicate]; omega
        have hnb := natBits_bitsNat (w ++ List.replicate (8 - w.length) false)
        rw [hl] at hnb
        rw [hnb]
        congr 2
        rw [Nat.mod_eq_of_lt hlt, Nat.mod_eq_of_lt (by omega)]

theorem bytes_lt (l : List (BitVec 8)) : ∀ b, b ∈ l.map BitVec.toNat → b < 256 := by
  intro b hb
  obtain ⟨x, _, rfl⟩ := List.mem_map.mp hb
  exact x.isLt

/-- a byte list whose bits are `bits`, zero padded to a byte boundary, is the packed image of `bits` (the
    converse of `ofBytes_packBytes`); the image left by the writer's `Close` and the array stored by the
    reader's `ReadArray` are both recognised by it -/
theorem packBytes_of_padded (bits : Bits) (z : Nat) (l : List Nat) (hz : z < 8)
    (hl : ∀ b, b ∈ l → b < 256) (h : bits ++ List.replicate z false = ofBytes l) :
    packBytes bits = l := by
  induction l generalizing bits with
  | nil =>
    rw [ofBytes_nil, List.append_eq_nil_iff] at h
    rw [h.1, packBytes_nil]
  | cons b l ih =>
    have hlen : bits.length + z = 8 * (l.length + 1) := by
      have := congrArg List.length h
      simpa using this
    have hb : bitsNat (natBits b 8) = b := bitsNat_natBits_of_lt b 8 (hl b List.mem_cons_self)
    rw [ofBytes_cons] at h
    by_cases h8 : 8 ≤ bits.length
    · -- a whole byte of `bits` is the first byte
      rw [← List.take_append_drop 8 bits, List.append_assoc] at h
      obtain ⟨e1, e2⟩ := List.append_inj h (by rw [List.length_take, natBits_length]; omega)
      rw [← List.take_append_drop 8 bits, packBytes_cons8 _ _ (by rw [List.length_take]; omega), e1, hb,
        ih _ (fun x hx => hl x (List.mem_cons_of_mem _ hx)) e2]
    · -- fewer than 8 bits: they are the last, padded byte
      have hl0 : l = [] := List.eq_nil_of_length_eq_zero (by omega)
      have hne : bits ≠ [] := List.ne_nil_of_length_pos (by omega)
      have hz8 : z = 8 - bits.length := by omega
      rw [hl0, ofBytes_nil, List.append_nil] at h
      rw [packBytes_short bits hne (by omega), ← hz8, h, hb, hl0]

theorem bitsNat_take_lt (n : Nat) (bs : Bits) : bitsNat (bs.take n) < 2 ^ n :=
  Nat.lt_of_lt_of_le (bitsNat_lt _) (Nat.pow_le_pow_right (by decide) (by rw [List.length_take]; exact Nat.min_le_left _ _))

end Kanzi.Bits
