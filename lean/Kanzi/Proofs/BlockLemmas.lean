/-
Bit-string lemmas for the block codec proofs (`Kanzi/Proofs/Block.lean`): bytes <-> bits, the 8-at-a-time
functions `toBytes` / `packFast` of `Kanzi/Model/Block.lean`, `packFast = packBytes`.
-/
import Kanzi.Model.Block
import Kanzi.Proofs.Bits

namespace Kanzi.Block
open Kanzi.Bits

theorem natBits_bitsNat_len (l : Bits) (n : Nat) (h : l.length = n) : natBits (bitsNat l) n = l := by
  subst h; exact natBits_bitsNat l

theorem natBits_eight (v : Nat) :
    natBits v 8 = [v.testBit 7, v.testBit 6, v.testBit 5, v.testBit 4, v.testBit 3, v.testBit 2,
      v.testBit 1, v.testBit 0] := by
  unfold natBits; rfl

theorem ofBytes_append (l₁ l₂ : List Nat) : ofBytes (l₁ ++ l₂) = ofBytes l₁ ++ ofBytes l₂ :=
  Kanzi.Bits.ofBytes_append l₁ l₂

theorem toBytes_cons8 (b0 b1 b2 b3 b4 b5 b6 b7 : Bool) (rest : Bits) :
    toBytes (b0 :: b1 :: b2 :: b3 :: b4 :: b5 :: b6 :: b7 :: rest) =
      bitsNat [b0, b1, b2, b3, b4, b5, b6, b7] :: toBytes rest := by
  rw [toBytes]

theorem toBytes_natBits_append (v : Nat) (rest : Bits) :
    toBytes (natBits v 8 ++ rest) = v % 256 :: toBytes rest := by
  rw [natBits_eight]
  simp only [List.cons_append, List.nil_append, toBytes_cons8]
  rw [← natBits_eight, bitsNat_natBits]

theorem toBytes_ofBytes (l : List Nat) (h : ∀ b ∈ l, b < 256) : toBytes (ofBytes l) = l := by
  induction l with
  | nil => simp [ofBytes, toBytes]
  | cons b l ih =>
    rw [ofBytes_cons, toBytes_natBits_append, ih (fun x hx => h x (by simp [hx]))]
    rw [Nat.mod_eq_of_lt (h b (by simp))]

theorem packFast_cons8 (b0 b1 b2 b3 b4 b5 b6 b7 : Bool) (rest : Bits) :
    packFast (b0 :: b1 :: b2 :: b3 :: b4 :: b5 :: b6 :: b7 :: rest) =
      bitsNat [b0, b1, b2, b3, b4, b5, b6, b7] :: packFast rest := by
  rw [packFast]

theorem packFast_nil : packFast [] = [] := by rw [packFast]

theorem packFast_short (l : Bits) (h0 : l ≠ []) (h : l.length < 8) :
    packFast l = [bitsNat (l ++ List.replicate (8 - l.length) false)] := by
  rcases l with _ | ⟨b0, _ | ⟨b1, _ | ⟨b2, _ | ⟨b3, _ | ⟨b4, _ | ⟨b5, _ | ⟨b6, _ | ⟨b7, rest⟩⟩⟩⟩⟩⟩⟩⟩
  · exact absurd rfl h0
  all_goals first
    | (simp only [List.length_cons] at h; omega)
    | (rw [packFast] <;> simp)

theorem cons8_of_length (l : Bits) (h : 8 ≤ l.length) :
    ∃ b0 b1 b2 b3 b4 b5 b6 b7 rest, l = b0 :: b1 :: b2 :: b3 :: b4 :: b5 :: b6 :: b7 :: rest :=
  match l, h with
  | b0 :: b1 :: b2 :: b3 :: b4 :: b5 :: b6 :: b7 :: rest, _ => ⟨b0, b1, b2, b3, b4, b5, b6, b7, rest, rfl⟩
  | [], h | [_], h | [_, _], h | [_, _, _], h | [_, _, _, _], h | [_, _, _, _, _], h
  | [_, _, _, _, _, _], h | [_, _, _, _, _, _, _], h => by simp at h

/-- the zero padding `Close` adds -/
def padLen (n : Nat) : Nat := (8 - n % 8) % 8

theorem padLen_lt (n : Nat) : padLen n < 8 := by unfold padLen; omega

theorem bits_induction8 {P : Bits → Prop} (nil : P []) (short : ∀ l : Bits, l ≠ [] → l.length < 8 → P l)
    (step : ∀ b0 b1 b2 b3 b4 b5 b6 b7 rest, P rest → P (b0 :: b1 :: b2 :: b3 :: b4 :: b5 :: b6 :: b7 :: rest))
    (bs : Bits) : P bs := by
  induction hn : bs.length using Nat.strongRecOn generalizing bs with
  | _ n ih =>
    subst hn
    by_cases h8 : 8 ≤ bs.length
    · obtain ⟨b0, b1, b2, b3, b4, b5, b6, b7, rest, rfl⟩ := cons8_of_length bs h8
      exact step _ _ _ _ _ _ _ _ _ (ih rest.length (by simp only [List.length_cons]; omega) rest rfl)
    · by_cases h0 : bs = []
      · exact h0 ▸ nil
      · exact short bs h0 (by omega)

theorem packFast_eq (bs : Bits) : packFast bs = packBytes bs := by
  induction bs using bits_induction8 with
  | nil => rw [packFast_nil, packBytes_nil]
  | short l h0 h => rw [packFast_short l h0 h, packBytes_short l h0 h]
  | step b0 b1 b2 b3 b4 b5 b6 b7 rest ih =>
    rw [packFast_cons8, ih]
    exact (packBytes_cons8 [b0, b1, b2, b3, b4, b5, b6, b7] rest rfl).symm

theorem ofBytes_packFast (bs : Bits) :
    ofBytes (packFast bs) = bs ++ List.replicate (padLen bs.length) false := by
  rw [packFast_eq]
  exact ofBytes_packBytes bs

theorem packFast_lt (bs : Bits) : ∀ b ∈ packFast bs, b < 256 := by
  rw [packFast_eq]
  exact packBytes_lt bs

theorem packFast_length (bs : Bits) : (packFast bs).length = (bs.length + 7) / 8 := by
  rw [packFast_eq, packBytes_length]

end Kanzi.Block
