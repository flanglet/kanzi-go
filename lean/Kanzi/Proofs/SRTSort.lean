/-
`SRT.preprocess` (the present symbols, Shell-sorted by decreasing frequency, then by value): the
result is a permutation of the present symbols, it depends on the first 256 frequencies only, and it
is sorted.  Sortedness needs no fact about the gapped passes beyond "they permute": `h` starts at a
member of 4, 13, 40, ... (`Gap`) and each round divides it by 3, which gives the previous member, so
the loop ends with a pass of gap 1; that pass is a plain insertion sort, which sorts whatever it is
given.
-/
import Kanzi.Model.SRT
import Kanzi.Proofs.Base

namespace Kanzi.SRT

/-! ## `rd` / `wr` basics -/

theorem size_wr (a : Array Nat) (i v : Nat) : (wr a i v).size = a.size := by
  simp [wr]

theorem rd_eq_getElem (a : Array Nat) (i : Nat) (h : i < a.size) : rd a i = a[i] := by
  simp [rd, Array.getD, h]

theorem rd_wr (a : Array Nat) (i v j : Nat) :
    rd (wr a i v) j = if i = j ∧ i < a.size then v else rd a j :=
  getD_setIfInBounds a i v j 0

theorem rd_wr_eq {a : Array Nat} {i : Nat} (v : Nat) (h : i < a.size) : rd (wr a i v) i = v := by
  rw [rd_wr, if_pos ⟨rfl, h⟩]

theorem rd_wr_ne {a : Array Nat} {i j : Nat} (v : Nat) (h : i ≠ j) : rd (wr a i v) j = rd a j := by
  rw [rd_wr, if_neg (fun hh => h hh.1)]

theorem wr_rd_self (a : Array Nat) (i : Nat) : wr a i (rd a i) = a := by
  simp only [wr, rd, Array.setIfInBounds_def]
  split
  · simp
  · rfl

theorem wr_wr_self (a : Array Nat) (i v w : Nat) : wr (wr a i v) i w = wr a i w := by
  simp [wr]

theorem wr_wr_perm (a : Array Nat) (i j t : Nat) (hi : i < a.size) (hj : j < a.size) :
    (wr (wr a i (rd a j)) j t).Perm (wr a i t) := by
  by_cases hij : i = j
  · subst hij
    rw [wr_wr_self]
  · have hi' : i < (wr a i t).size := by rw [size_wr]; exact hi
    have hj' : j < (wr a i t).size := by rw [size_wr]; exact hj
    have : wr (wr a i (rd a j)) j t = (wr a i t).swap i j hi' hj' := by
      simp [wr, rd, Array.swap_def, hi, hj, hij, Array.setIfInBounds_def, Array.set_set]
    rw [this]
    exact Array.swap_perm hi' hj'

/-! ## the sort only permutes -/

theorem ppInsert_perm (freqs : Array Nat) (h t : Nat) :
    ∀ (fuel pos : Nat) (sym : Array Nat), pos < sym.size →
      (ppInsert freqs h t fuel pos sym).Perm (wr sym pos t) := by
  intro fuel
  induction fuel with
  | zero => intro pos sym _; exact Array.Perm.refl _
  | succ k ih =>
    intro pos sym hp
    unfold ppInsert
    split
    · have hlt : pos - h < sym.size := by omega
      have h1 := ih (pos - h) (wr sym pos (rd sym (pos - h))) (by rw [size_wr]; exact hlt)
      exact h1.trans (wr_wr_perm sym pos (pos - h) t hp hlt)
    · exact Array.Perm.refl _

theorem ppInsert_perm_self (freqs : Array Nat) (h fuel i : Nat) (sym : Array Nat)
    (hi : i < sym.size) : (ppInsert freqs h (rd sym i) fuel i sym).Perm sym := by
  have := ppInsert_perm freqs h (rd sym i) fuel i sym hi
  rwa [wr_rd_self] at this

theorem ppPass_perm (freqs : Array Nat) (h : Nat) :
    ∀ (k i : Nat) (sym : Array Nat), i + k ≤ sym.size → (ppPass freqs h k i sym).Perm sym := by
  intro k
  induction k with
  | zero => intro i sym _; exact Array.Perm.refl _
  | succ k ih =>
    intro i sym hb
    unfold ppPass
    have h1 := ppInsert_perm_self freqs h (i + 1) i sym (by omega)
    have h2 := ih (i + 1) (ppInsert freqs h (rd sym i) (i + 1) i sym) (by rw [h1.size_eq]; omega)
    exact h2.trans h1

/-- the pass as `ppOuter` runs it -/
theorem ppPass_perm' (freqs : Array Nat) (h : Nat) (sym : Array Nat) :
    (ppPass freqs h (sym.size - h) h sym).Perm sym := by
  by_cases hh : h ≤ sym.size
  · exact ppPass_perm freqs h _ _ _ (by omega)
  · have : sym.size - h = 0 := by omega
    rw [this]; exact Array.Perm.refl _

theorem ppOuter_perm (freqs : Array Nat) :
    ∀ (k h : Nat) (sym : Array Nat), (ppOuter freqs sym.size k h sym).Perm sym := by
  intro k
  induction k with
  | zero => intro h sym; exact Array.Perm.refl _
  | succ k ih =>
    intro h sym
    unfold ppOuter
    have h1 := ppPass_perm' freqs (h / 3) sym
    split
    · exact h1
    · have h2 := ih (h / 3) (ppPass freqs (h / 3) (sym.size - h / 3) (h / 3) sym)
      rw [h1.size_eq] at h2
      exact h2.trans h1

theorem preprocess_perm (freqs : Array Nat) : (preprocess freqs).Perm (ppCollect freqs) := by
  have := ppOuter_perm freqs
    (ppGap (ppCollect freqs).length (ppCollect freqs).length 4)
    (ppGap (ppCollect freqs).length (ppCollect freqs).length 4) (ppCollect freqs).toArray
  rw [Array.perm_iff_toList_perm] at this
  simpa [preprocess] using this

theorem ppCollect_nodup (freqs : Array Nat) : (ppCollect freqs).Nodup :=
  List.Nodup.sublist List.filter_sublist List.nodup_range

theorem mem_ppCollect (freqs : Array Nat) (c : Nat) :
    c ∈ ppCollect freqs ↔ c < 256 ∧ rd freqs c ≠ 0 := by
  simp [ppCollect, List.mem_filter, List.mem_range]

theorem filter_range'_getD (fs : List Nat) : ∀ (n k : Nat),
    (List.range' k n).filter (fun i => fs.getD (i - k) 0 != 0) =
      (((fs.take n).zipIdx k).filter (fun p => p.1 != 0)).map Prod.snd := by
  induction fs with
  | nil => intro n k; simp
  | cons f fs ih =>
    intro n k
    cases n with
    | zero => rfl
    | succ n =>
      have h : (List.range' (k + 1) n).filter (fun i => (f :: fs).getD (i - k) 0 != 0) =
          (List.range' (k + 1) n).filter (fun i => fs.getD (i - (k + 1)) 0 != 0) := by
        apply List.filter_congr
        intro i hi
        have := (List.mem_range'_1.mp hi).1
        rw [show i - k = i - (k + 1) + 1 by omega, List.getD_cons_succ]
      rw [List.range'_succ, List.filter_cons, h, ih n (k + 1), List.take_succ_cons,
        List.zipIdx_cons, List.filter_cons, Nat.sub_self, List.getD_cons_zero]
      split <;> rfl

/-- One pass over the table.  Evaluating `ppCollect` as defined costs the kernel a traversal of the
table per index (256 of them); a concrete table is evaluated through this form. -/
theorem ppCollect_toArray (fs : List Nat) :
    ppCollect fs.toArray = (((fs.take 256).zipIdx.filter (fun p => p.1 != 0)).map Prod.snd) := by
  rw [← filter_range'_getD, ← List.range_eq_range']
  simp [ppCollect, rd]

theorem preprocess_nodup (freqs : Array Nat) : (preprocess freqs).Nodup :=
  (preprocess_perm freqs).nodup_iff.mpr (ppCollect_nodup freqs)

theorem mem_preprocess (freqs : Array Nat) (c : Nat) :
    c ∈ preprocess freqs ↔ c < 256 ∧ rd freqs c ≠ 0 := by
  rw [(preprocess_perm freqs).mem_iff, mem_ppCollect]

theorem ppCollect_length_le (freqs : Array Nat) : (ppCollect freqs).length ≤ 256 := by
  have := List.length_filter_le (fun i => rd freqs i != 0) (List.range 256)
  simpa [ppCollect] using this

theorem preprocess_length (freqs : Array Nat) :
    (preprocess freqs).length = (ppCollect freqs).length := (preprocess_perm freqs).length_eq

theorem preprocess_length_le (freqs : Array Nat) : (preprocess freqs).length ≤ 256 := by
  rw [preprocess_length]; exact ppCollect_length_le freqs

/-! ## the sort reads `freqs` below 256 only -/

/-- all entries are bytes -/
def Bnd (sym : Array Nat) : Prop := ∀ j, rd sym j < 256

theorem Bnd_wr (sym : Array Nat) (i v : Nat) (hs : Bnd sym) (hv : v < 256) : Bnd (wr sym i v) := by
  intro j
  rw [rd_wr]
  split
  · exact hv
  · exact hs j

theorem ppInsert_Bnd (freqs : Array Nat) (h t : Nat) (ht : t < 256) :
    ∀ (fuel pos : Nat) (sym : Array Nat), Bnd sym → Bnd (ppInsert freqs h t fuel pos sym) := by
  intro fuel
  induction fuel with
  | zero => intro pos sym hs; exact Bnd_wr _ _ _ hs ht
  | succ k ih =>
    intro pos sym hs
    unfold ppInsert
    split
    · exact ih _ _ (Bnd_wr _ _ _ hs (hs _))
    · exact Bnd_wr _ _ _ hs ht

theorem ppPass_Bnd (freqs : Array Nat) (h : Nat) :
    ∀ (k i : Nat) (sym : Array Nat), Bnd sym → Bnd (ppPass freqs h k i sym) := by
  intro k
  induction k with
  | zero => intro i sym hs; exact hs
  | succ k ih =>
    intro i sym hs
    unfold ppPass
    exact ih _ _ (ppInsert_Bnd freqs h _ (hs i) _ _ _ hs)

section congr
variable (f g : Array Nat) (hfg : ∀ i, i < 256 → rd f i = rd g i)
include hfg

theorem ppCond_congr (t sb : Nat) (ht : t < 256) (hsb : sb < 256) :
    ppCond f t sb = ppCond g t sb := by
  simp only [ppCond, hfg t ht, hfg sb hsb]

theorem ppInsert_congr (h t : Nat) (ht : t < 256) :
    ∀ (fuel pos : Nat) (sym : Array Nat), Bnd sym →
      ppInsert f h t fuel pos sym = ppInsert g h t fuel pos sym := by
  intro fuel
  induction fuel with
  | zero => intro pos sym _; rfl
  | succ k ih =>
    intro pos sym hs
    unfold ppInsert
    rw [ppCond_congr f g hfg t _ ht (hs _), ih _ _ (Bnd_wr _ _ _ hs (hs _))]

theorem ppPass_congr (h : Nat) :
    ∀ (k i : Nat) (sym : Array Nat), Bnd sym → ppPass f h k i sym = ppPass g h k i sym := by
  intro k
  induction k with
  | zero => intro i sym _; rfl
  | succ k ih =>
    intro i sym hs
    unfold ppPass
    rw [ppInsert_congr f g hfg h _ (hs i) _ _ _ hs]
    exact ih _ _ (ppInsert_Bnd g h _ (hs i) _ _ _ hs)

theorem ppOuter_congr (nb : Nat) :
    ∀ (k h : Nat) (sym : Array Nat), Bnd sym → ppOuter f nb k h sym = ppOuter g nb k h sym := by
  intro k
  induction k with
  | zero => intro h sym _; rfl
  | succ k ih =>
    intro h sym hs
    unfold ppOuter
    rw [ppPass_congr f g hfg _ _ _ _ hs, ih _ _ (ppPass_Bnd g _ _ _ _ hs)]

theorem ppCollect_congr : ppCollect f = ppCollect g := by
  unfold ppCollect
  apply List.filter_congr
  intro x hx
  rw [hfg x (List.mem_range.mp hx)]

end congr

theorem ppCollect_Bnd (freqs : Array Nat) : Bnd (ppCollect freqs).toArray := by
  intro j
  by_cases hj : j < (ppCollect freqs).toArray.size
  · rw [rd_eq_getElem _ _ hj]
    have : (ppCollect freqs).toArray[j] ∈ ppCollect freqs := by simp
    exact ((mem_ppCollect freqs _).mp this).1
  · simp only [rd, Array.getD, hj, dite_false]
    omega

/-- `preprocess` reads its argument below 256 only: the symbols being sorted are bytes (`Bnd`), and
    the comparison reads `freqs` at two of them -/
theorem preprocess_congr (f g : Array Nat) (h : ∀ i, i < 256 → rd f i = rd g i) :
    preprocess f = preprocess g := by
  unfold preprocess
  rw [ppCollect_congr f g h, ppOuter_congr f g h _ _ _ _ (ppCollect_Bnd g)]

/-! ## the result is sorted -/

/-- `a` may stand before `b`: the insertion loop would not move `b` in front of `a` -/
def ppLe (freqs : Array Nat) (a b : Nat) : Prop := ppCond freqs b a = false

theorem ppLe_iff (freqs : Array Nat) (a b : Nat) :
    ppLe freqs a b ↔ rd freqs b ≤ rd freqs a ∧ (rd freqs a = rd freqs b → a ≤ b) := by
  simp only [ppLe, ppCond, Bool.or_eq_false_iff, Bool.and_eq_false_imp, decide_eq_false_iff_not,
    decide_eq_true_eq, beq_eq_false_iff_ne, ne_eq]
  constructor
  · intro h; constructor
    · omega
    · intro e; have := h.2; omega
  · intro h; constructor
    · omega
    · intro h1 e; have := h.2; omega

theorem ppLe_trans (freqs : Array Nat) (a b c : Nat) (h1 : ppLe freqs a b) (h2 : ppLe freqs b c) :
    ppLe freqs a c := by
  rw [ppLe_iff] at *
  constructor
  · omega
  · intro e; have := h1.2; have := h2.2; omega

theorem ppLe_of_cond (freqs : Array Nat) (t sb : Nat) (h : ppCond freqs t sb = true) :
    ppLe freqs t sb := by
  rw [ppLe_iff]
  simp only [ppCond, Bool.or_eq_true, Bool.and_eq_true, decide_eq_true_eq, beq_iff_eq] at h
  omega

/-- the first `n` entries are in order (stated for all pairs, not for neighbours only) -/
def SortedTo (freqs : Array Nat) (sym : Array Nat) (n : Nat) : Prop :=
  ∀ a b, a < b → b < n → ppLe freqs (rd sym a) (rd sym b)

/-- Inserting `t` with gap 1 while the hole is at `pos`: the entries of `[0, i]` other than the hole
    are in order, and `t` may stand before every entry above the hole. -/
theorem ppInsert_sorted (freqs : Array Nat) (t i : Nat) :
    ∀ (fuel pos : Nat) (sym : Array Nat), pos ≤ i → i < sym.size → pos < fuel →
      (∀ a b, a < b → b ≤ i → a ≠ pos → b ≠ pos → ppLe freqs (rd sym a) (rd sym b)) →
      (∀ b, pos < b → b ≤ i → ppLe freqs t (rd sym b)) →
      SortedTo freqs (ppInsert freqs 1 t fuel pos sym) (i + 1) := by
  intro fuel
  induction fuel with
  | zero => intro pos sym _ _ hf; omega
  | succ k ih =>
    intro pos sym hpi his hf H1 H2
    have hps : pos < sym.size := by omega
    unfold ppInsert
    split
    · rename_i hc
      obtain ⟨p, rfl⟩ := Nat.exists_eq_add_one_of_ne_zero (Nat.ne_of_gt hc.1)
      simp only [Nat.add_sub_cancel] at hc ⊢
      apply ih p _ (by omega) (by rw [size_wr]; exact his) (by omega)
      · intro a b hab hbi ha hb
        simp only [rd_wr, hps, and_true]
        by_cases e1 : p + 1 = a
        · have e2 : ¬ p + 1 = b := by omega
          rw [if_pos e1, if_neg e2]
          exact H1 _ _ (by omega) hbi (by omega) (by omega)
        · by_cases e2 : p + 1 = b
          · rw [if_neg e1, if_pos e2]
            exact H1 _ _ (by omega) (by omega) (by omega) (by omega)
          · rw [if_neg e1, if_neg e2]
            exact H1 _ _ hab hbi (by omega) (by omega)
      · intro b hb hbi
        simp only [rd_wr, hps, and_true]
        by_cases e2 : p + 1 = b
        · rw [if_pos e2]
          exact ppLe_of_cond _ _ _ hc.2
        · rw [if_neg e2]
          exact H2 _ (by omega) hbi
    · rename_i hc
      intro a b hab hbi
      simp only [rd_wr, hps, and_true]
      by_cases e1 : pos = a
      · have e2 : ¬ pos = b := by omega
        rw [if_pos e1, if_neg e2]
        exact H2 _ (by omega) (by omega)
      · by_cases e2 : pos = b
        · rw [if_neg e1, if_pos e2]
          have hp1 : pos ≥ 1 := by omega
          have hnc : ppLe freqs (rd sym (pos - 1)) t := by
            unfold ppLe
            cases hcc : ppCond freqs t (rd sym (pos - 1))
            · rfl
            · exact absurd ⟨hp1, hcc⟩ hc
          by_cases e3 : a = pos - 1
          · rw [e3]; exact hnc
          · exact ppLe_trans _ _ _ _
              (H1 a (pos - 1) (by omega) (by omega) (by omega) (by omega)) hnc
        · rw [if_neg e1, if_neg e2]
          exact H1 _ _ hab (by omega) (by omega) (by omega)

theorem ppPass_sorted (freqs : Array Nat) :
    ∀ (k i : Nat) (sym : Array Nat), i + k ≤ sym.size → SortedTo freqs sym i →
      SortedTo freqs (ppPass freqs 1 k i sym) (i + k) := by
  intro k
  induction k with
  | zero => intro i sym _ hs; exact hs
  | succ k ih =>
    intro i sym hb hs
    unfold ppPass
    have h1 := ppInsert_perm_self freqs 1 (i + 1) i sym (by omega)
    have h2 := ppInsert_sorted freqs (rd sym i) i (i + 1) i sym (Nat.le_refl _) (by omega)
      (by omega) (fun a b hab hbi _ hb' => hs a b hab (by omega)) (fun b h1 h2 => by omega)
    have := ih (i + 1) _ (by rw [h1.size_eq]; omega) h2
    rw [show i + (k + 1) = i + 1 + k by omega]
    exact this

/-- the values `h` takes in `ppGap` and at the head of each round of `ppOuter`: 4, 13, 40, ...
    (`(h * 3 + 1) / 3 = h`, and `4 / 3 = 1` ends the loop) -/
inductive Gap : Nat → Prop
  | base : Gap 4
  | step {h : Nat} : Gap h → Gap (h * 3 + 1)

theorem Gap.ge {h : Nat} (g : Gap h) : 4 ≤ h := by
  induction g with
  | base => omega
  | step _ ih => omega

theorem ppGap_Gap (nb : Nat) : ∀ (k h : Nat), Gap h → Gap (ppGap nb k h) := by
  intro k
  induction k with
  | zero => intro h g; exact g
  | succ k ih =>
    intro h g
    unfold ppGap
    split
    · exact ih _ g.step
    · exact g

theorem ppOuter_sorted (freqs : Array Nat) :
    ∀ (k h : Nat) (sym : Array Nat), Gap h → h ≤ k →
      SortedTo freqs (ppOuter freqs sym.size k h sym) sym.size := by
  intro k
  induction k with
  | zero => intro h sym g hk; have := g.ge; omega
  | succ k ih =>
    intro h sym g hk
    by_cases hn : 1 ≤ sym.size
    case neg => intro a b _ hb; omega
    unfold ppOuter
    split
    · rename_i h1
      rw [h1]
      have := ppPass_sorted freqs (sym.size - 1) 1 sym (by omega) (fun a b _ _ => by omega)
      rw [show 1 + (sym.size - 1) = sym.size by omega] at this
      exact this
    · rename_i h1
      have hp := ppPass_perm' freqs (h / 3) sym
      have g3 : Gap (h / 3) := by
        cases g with
        | base => exact absurd (by decide) h1
        | step g' =>
          rename_i h'
          rw [show (h' * 3 + 1) / 3 = h' by omega]
          exact g'
      have := ih (h / 3) (ppPass freqs (h / 3) (sym.size - h / 3) (h / 3) sym) g3
        (by have := g.ge; omega)
      rw [hp.size_eq] at this
      exact this

theorem pairwise_of_sortedTo {freqs A : Array Nat} (hs : SortedTo freqs A A.size)
    (hnd : A.toList.Nodup) :
    A.toList.Pairwise (fun a b => rd freqs b < rd freqs a ∨ (rd freqs a = rd freqs b ∧ a < b)) := by
  rw [List.pairwise_iff_getElem]
  intro i j hi hj hij
  rw [Array.length_toList] at hi hj
  have hle := hs i j hij hj
  rw [rd_eq_getElem _ _ hi, rd_eq_getElem _ _ hj, ppLe_iff] at hle
  have hne : A.toList[i] ≠ A.toList[j] := fun e => Nat.ne_of_lt hij ((List.getElem_inj hnd).mp e)
  simp only [Array.getElem_toList] at hne ⊢
  omega

theorem preprocess_sorted (freqs : Array Nat) :
    (preprocess freqs).Pairwise
      (fun a b => rd freqs b < rd freqs a ∨ (rd freqs a = rd freqs b ∧ a < b)) := by
  refine pairwise_of_sortedTo ?_ (preprocess_nodup freqs)
  have hs := ppOuter_sorted freqs
    (ppGap (ppCollect freqs).length (ppCollect freqs).length 4)
    (ppGap (ppCollect freqs).length (ppCollect freqs).length 4) (ppCollect freqs).toArray
    (ppGap_Gap _ _ _ Gap.base) (Nat.le_refl _)
  intro a b hab hb
  exact hs a b hab (Nat.lt_of_lt_of_eq hb (ppOuter_perm freqs _ _ _).size_eq)

end Kanzi.SRT
