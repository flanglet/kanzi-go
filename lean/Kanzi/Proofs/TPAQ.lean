/-
Proofs about the TPAQ / TPAQX predictor model (`Kanzi/Model/TPAQ.lean`): the invariant `Inv` / `R`,
its preservation by every phase of `Update`, the range of `Get()`, absence of index faults (the
model accumulates failed bound checks in `fault` through `chk`; the invariant keeps it `false`);
the constructor (`R_new`: the state it returns satisfies the invariant; `tpaqNew_errOf`: which
error it returns); whole runs over a list of bits.
-/
import Kanzi.Model.TPAQ
import Kanzi.Proofs.TPAQBits
import Kanzi.Proofs.TPAQTables

namespace Kanzi.TPAQ

/- the computed tables are opaque to the elaborator in this file (nothing below evaluates them) -/
attribute [local irreducible] squashTab stretchTab stretchList

/-! ### small facts -/

theorem chk_true (s : TPAQ) {ok : Bool} (h : ok = true) : chk s ok = s := by simp [chk, h]

theorem inb_of {x : Int} {n : Nat} (h0 : 0 ≤ x) (h1 : x < n) : inb x n = true := by
  simp [inb]; omega

theorem inb_toNat {x : Int} {n : Nat} (h : inb x n = true) : x.toNat < n := by
  simp only [inb, Bool.and_eq_true, decide_eq_true_eq] at h
  exact h.2

theorem inb_mask (x : Int32) {m : Int32} {n : Nat} (hm : 0 ≤ m.toInt ∧ m.toInt < n) :
    inb (x &&& m).toInt n = true := by
  have := and_mask x m hm.1
  exact inb_of this.1 (by omega)

theorem lit_ff : (0xFF : Int32).toInt = 255 := by decide
theorem lit_ffff : (0xFFFF : Int32).toInt = 65535 := by decide
theorem lit_1 : (1 : Int32).toInt = 1 := by decide
theorem lit_2 : (2 : Int32).toInt = 2 := by decide
theorem lit_0 : (0 : Int32).toInt = 0 := by decide
theorem lit_88 : (88 : Int32).toInt = 88 := by decide

/-- upper bound (exclusive) of `c0` when `bpos` bits of the current byte are still to come -/
def c0cap (bpos : Nat) : Int := 2 ^ (9 - bpos)

theorem c0cap_8 : c0cap 8 = 2 := by decide
theorem c0cap_step (b : Nat) (h1 : 1 ≤ b) (h8 : b ≤ 8) : c0cap (b - 1) = 2 * c0cap b := by
  unfold c0cap
  rw [show 9 - (b - 1) = (9 - b) + 1 by omega, Int.pow_succ, Int.mul_comm]

theorem pow2_le {i j : Nat} (h : i ≤ j) : (2 : Int) ^ i ≤ 2 ^ j := by
  have := Int.ofNat_le.2 (Nat.pow_le_pow_right (by decide : 2 > 0) h)
  rwa [Int.natCast_pow, Int.natCast_pow] at this

theorem c0cap_le (b : Nat) : c0cap b ≤ 512 ∧ (1 ≤ b → c0cap b ≤ 256) :=
  ⟨pow2_le (j := 9) (by omega), fun h => pow2_le (j := 8) (by omega)⟩

/-! ### the adaptive probability map -/

/-- an APM with `n` contexts: `33 n` cells, and the two cells of the last call are inside -/
def ApmOk (a : APM) (n : Nat) : Prop := a.data.size = 33 * n ∧ 0 ≤ a.index ∧ a.index + 1 < 33 * n

theorem apmIndex_bounds (pr ctx : Int) : 33 * ctx ≤ apmIndex pr ctx ∧ apmIndex pr ctx ≤ 33 * ctx + 31 := by
  unfold apmIndex
  have := stretchAt_range pr
  rw [Int.shiftRight_eq_div_pow]
  omega

theorem apmInterp_range (d : Tab UInt16) (idx pr : Int) : 0 ≤ apmInterp d idx pr ∧ apmInterp d idx pr ≤ 4095 := by
  have hw0 := Int.emod_nonneg (stretchAt pr) (show (128 : Int) ≠ 0 by decide)
  have hw1 := Int.emod_lt_of_pos (stretchAt pr) (show (0 : Int) < 128 by decide)
  have ha := UInt16.toNat_lt (d.get (idx + 1).toNat)
  have hb := UInt16.toNat_lt (d.get idx.toNat)
  have hm := blend_bounds (a := (d.get idx.toNat).toNat) (b := (d.get (idx + 1).toNat).toNat) (A := 65535) (B := 65535)
    (w := stretchAt pr % 128) (by omega) (by omega) (by omega)
  unfold apmInterp
  rw [Int.shiftRight_eq_div_pow]
  omega

theorem Tab.size_set {α : Type} (t : Tab α) (i : Nat) (v : α) : (t.set i v).size = t.size := rfl

theorem apmTrain_size (a : APM) (bit : Bool) : (apmTrain a bit).1.data.size = a.data.size := by
  unfold apmTrain
  dsimp only
  rw [Tab.size_set, Tab.size_set]

theorem apmTrain_index (a : APM) (bit : Bool) : (apmTrain a bit).1.index = a.index := by
  unfold apmTrain
  dsimp only

theorem apmTrain_ok {a : APM} {n : Nat} (h : ApmOk a n) (bit : Bool) : (apmTrain a bit).2 = true := by
  obtain ⟨h1, h2, h3⟩ := h
  show (inb (a.index + 1) a.data.size && inb a.index a.data.size) = true
  rw [inb_of (by omega) (by omega), inb_of h2 (by omega)]
  rfl

theorem apmGet_val (a : APM) (bit : Bool) (pr ctx : Int) :
    (apmGet a bit pr ctx).1 = apmInterp (apmTrain a bit).1.data (apmIndex pr ctx) pr := rfl
theorem apmGet_index (a : APM) (bit : Bool) (pr ctx : Int) :
    (apmGet a bit pr ctx).2.1.index = apmIndex pr ctx := rfl
theorem apmGet_size (a : APM) (bit : Bool) (pr ctx : Int) :
    (apmGet a bit pr ctx).2.1.data.size = a.data.size := apmTrain_size a bit
theorem apmGet_flag (a : APM) (bit : Bool) (pr ctx : Int) :
    (apmGet a bit pr ctx).2.2 = ((apmTrain a bit).2 && inb pr 4096 && inb (apmIndex pr ctx + 1) a.data.size &&
      inb (apmIndex pr ctx) a.data.size) := by
  rw [← apmTrain_size a bit]
  rfl

theorem apmGet_ok {a : APM} {n : Nat} (h : ApmOk a n) (bit : Bool) {pr ctx : Int}
    (hp : 0 ≤ pr ∧ pr ≤ 4095) (hc : 0 ≤ ctx ∧ ctx < n) :
    (apmGet a bit pr ctx).2.2 = true ∧ ApmOk (apmGet a bit pr ctx).2.1 n ∧
    0 ≤ (apmGet a bit pr ctx).1 ∧ (apmGet a bit pr ctx).1 ≤ 4095 := by
  have hi := apmIndex_bounds pr ctx
  have hs := h.1
  refine ⟨?_, ⟨?_, ?_, ?_⟩, ?_⟩
  · rw [apmGet_flag, apmTrain_ok h bit, hs, inb_of hp.1 (by omega), inb_of (by omega) (by omega),
      inb_of (by omega) (by omega)]
    rfl
  · rw [apmGet_size]; exact hs
  · rw [apmGet_index]; omega
  · rw [apmGet_index]; omega
  · rw [apmGet_val]; exact apmInterp_range _ _ _

theorem apmNew_ok (n rate : Nat) (hn : 1 ≤ n) : ApmOk (apmNew n rate) n := by
  refine ⟨?_, Int.le_refl 0, ?_⟩
  · show (if n * 33 = 0 then 33 else n * 33) = 33 * n
    split <;> omega
  · show (0 : Int) + 1 < 33 * n
    omega

/-! ### the mixer -/

theorem mixerGet_pr (m : Mixer) (p0 p1 p2 p3 p4 p5 p6 p7 : Int32) :
    (mixerGet m p0 p1 p2 p3 p4 p5 p6 p7).pr = squash (mixerDot m p0 p1 p2 p3 p4 p5 p6 p7) := by
  simp only [mixerGet]

theorem mixed_mix_range (s : TPAQ) (p0 p1 p2 p3 p4 p5 p6 p7 : Int32) :
    0 ≤ mixed (mix s p0 p1 p2 p3 p4 p5 p6 p7) ∧ mixed (mix s p0 p1 p2 p3 p4 p5 p6 p7) ≤ 4095 := by
  unfold mixed mix
  simp only [Array.getD_eq_getD_getElem?, Array.getElem?_modify, if_true]
  cases s.mixers[s.mixer]? with
  | none =>
    show (0 : Int) ≤ 2048 ∧ (2048 : Int) ≤ 4095
    omega
  | some m =>
    simp only [Option.map_some, Option.getD_some, mixerGet_pr]
    exact squash_range _

theorem finalPr_range {p : Int} (h0 : 0 ≤ p) (h1 : p ≤ 4095) : 1 ≤ finalPr p ∧ finalPr p ≤ 4095 := by
  unfold finalPr; omega

/-- `p + int(uint32(p-2048)>>31)` adds 1 exactly below 2048 -/
theorem finalPr_eq {p : Int} (h0 : 0 ≤ p) (h1 : p ≤ 4095) : finalPr p = if p < 2048 then p + 1 else p := by
  unfold finalPr; split <;> omega

/-! ### the invariant -/

/-- The invariant of the predictor.  `lo = 1`: between two calls of `Update` (`R`); `lo = 0`: inside
`Update`, after `bpos--` (then `bpos = 0` means "a whole byte has been read").  Apart from `fault` and
`pr`, every field is a bound some index expression of `Update` needs; `mixersMask + 1 < len(mixers)` because the mixer
selected is `(c4 & mixersMask) + 1` while a match is running (and `< 2^31 - 1` so that this sum
does not wrap), the limits of `ctx0` / `ctx1` are `0xFF << 8` and `0xFFFF << 8`. -/
structure Inv (lo : Nat) (s : TPAQ) : Prop where
  fault : s.fault = false
  pr : 1 ≤ s.pr ∧ s.pr ≤ 4095
  bpos : lo ≤ s.bpos ∧ s.bpos ≤ 8
  c0 : 1 ≤ s.c0.toInt ∧ s.c0.toInt < c0cap s.bpos
  matchLen : 0 ≤ s.matchLen.toInt ∧ s.matchLen.toInt ≤ 88
  hash : 0 ≤ s.hash.toInt ∧ s.hash.toInt < s.hashes.size
  statesMask : 0 ≤ s.statesMask.toInt ∧ s.statesMask.toInt < s.bigStatesMap.size
  mixersMask : 0 ≤ s.mixersMask.toInt ∧ s.mixersMask.toInt + 1 < s.mixers.size ∧ s.mixersMask.toInt < 2147483647
  hashMask : 0 ≤ s.hashMask.toInt ∧ s.hashMask.toInt < s.hashes.size
  bufferMask : 0 ≤ s.bufferMask.toInt ∧ s.bufferMask.toInt < s.buffer.size
  small0 : s.smallStatesMap0.size = 65536
  small1 : s.smallStatesMap1.size = 16777216
  mixer : s.mixer < s.mixers.size
  ctx0 : 0 ≤ s.ctx0.toInt ∧ s.ctx0.toInt ≤ 65280
  ctx1 : 0 ≤ s.ctx1.toInt ∧ s.ctx1.toInt ≤ 16776960
  sse0 : ApmOk s.sse0 256
  sse1 : s.extra = true → ApmOk s.sse1 65536
  cp0 : s.cp0 < s.smallStatesMap0.size
  cp1 : s.cp1 < s.smallStatesMap1.size
  cp2 : s.cp2 < s.bigStatesMap.size
  cp3 : s.cp3 < s.bigStatesMap.size
  cp4 : s.cp4 < s.bigStatesMap.size
  cp5 : s.cp5 < s.bigStatesMap.size
  cp6 : s.cp6 < s.bigStatesMap.size

abbrev R (s : TPAQ) : Prop := Inv 1 s

theorem Inv.c0_byte {s : TPAQ} (h : Inv 1 s) : 1 ≤ s.c0.toInt ∧ s.c0.toInt ≤ 255 := by
  have := (c0cap_le s.bpos).2 h.bpos.1
  have := h.c0
  omega

/-- Of the mixers and of the five slices the invariant only reads the lengths: it survives any change
of their contents. -/
theorem Inv.frame {lo : Nat} {s : TPAQ} (h : Inv lo s) {mx : Array Mixer} {bf : Tab UInt8} {hs : Tab Int32}
    {big s0 s1 : Tab UInt8} (hmx : mx.size = s.mixers.size) (hbf : bf.size = s.buffer.size)
    (hhs : hs.size = s.hashes.size) (hbig : big.size = s.bigStatesMap.size)
    (h0 : s0.size = s.smallStatesMap0.size) (h1 : s1.size = s.smallStatesMap1.size) :
    Inv lo { s with mixers := mx, buffer := bf, hashes := hs, bigStatesMap := big, smallStatesMap0 := s0,
                    smallStatesMap1 := s1 } :=
  ⟨h.fault, h.pr, h.bpos, h.c0, h.matchLen, hhs ▸ h.hash, hbig ▸ h.statesMask, hmx ▸ h.mixersMask, hhs ▸ h.hashMask,
    hbf ▸ h.bufferMask, h0 ▸ h.small0, h1 ▸ h.small1, hmx ▸ h.mixer, h.ctx0, h.ctx1, h.sse0, h.sse1, h0 ▸ h.cp0,
    h1 ▸ h.cp1, hbig ▸ h.cp2, hbig ▸ h.cp3, hbig ▸ h.cp4, hbig ▸ h.cp5, hbig ▸ h.cp6⟩

/-! ### Update, phase by phase -/

theorem inv_trainMixer {lo : Nat} {s : TPAQ} (h : Inv lo s) (bit : Bool) : Inv lo (trainMixer s bit) :=
  h.frame (Array.size_modify ..) rfl rfl rfl rfl rfl

theorem inv_shiftBit {s : TPAQ} (h : Inv 1 s) (bit : Bool) : Inv 0 (shiftBit s bit) := by
  have hb := h.bpos
  have hc := h.c0_byte
  have hc0 := h.c0
  have hcap := c0cap_step s.bpos hb.1 hb.2
  have eb : (s.bpos + 18446744073709551615) % 18446744073709551616 = s.bpos - 1 := by omega
  have hy : 0 ≤ (if bit = true then (1 : Int32) else 0).toInt ∧ (if bit = true then (1 : Int32) else 0).toInt ≤ 1 := by
    cases bit <;> decide
  unfold shiftBit
  generalize (if bit = true then (1 : Int32) else 0) = y at hy ⊢
  have e1 := toInt_add_of (a := s.c0) (b := y) rfl rfl (by omega)
  have e2 := toInt_add_of (a := s.c0) rfl e1 (by omega)
  exact { h with
    bpos := by
      show 0 ≤ (s.bpos + 18446744073709551615) % 18446744073709551616 ∧
        (s.bpos + 18446744073709551615) % 18446744073709551616 ≤ 8
      rw [eb]; omega
    c0 := by
      show 1 ≤ (s.c0 + (s.c0 + y)).toInt ∧
        (s.c0 + (s.c0 + y)).toInt < c0cap ((s.bpos + 18446744073709551615) % 18446744073709551616)
      rw [e2, eb, hcap]; omega }

/-! #### the byte boundary block -/

theorem inv_storeByte {lo : Nat} {s : TPAQ} (h : Inv lo s) : Inv lo (storeByte s) := by
  unfold storeByte
  rw [chk_true _ (inb_mask s.pos h.bufferMask)]
  exact h.frame rfl rfl rfl rfl rfl rfl

theorem inv_rollBytes {s : TPAQ} (h : Inv 0 s) : Inv 1 (rollBytes s) := by
  have hm := and_mask (((s.hash * hashK) <<< 4) + ((s.c4 <<< 8) ||| (s.c0 &&& 0xFF))) s.hashMask h.hashMask.1
  unfold rollBytes
  dsimp only
  exact { h with
    bpos := by show 1 ≤ 8 ∧ 8 ≤ 8; omega
    c0 := by show 1 ≤ (1 : Int32).toInt ∧ (1 : Int32).toInt < c0cap 8; rw [lit_1, c0cap_8]; omega
    hash := ⟨hm.1, Int.lt_of_le_of_lt hm.2 h.hashMask.2⟩ }

theorem inv_selectMixer {lo : Nat} {s : TPAQ} (h : Inv lo s) : Inv lo (selectMixer s) := by
  have hm := and_mask s.c4 s.mixersMask h.mixersMask.1
  have hmm := h.mixersMask
  have e1 := toInt_add_of (a := s.c4 &&& s.mixersMask) rfl lit_1 (by omega)
  have k : inb (if (s.matchLen != 0) = true then ((s.c4 &&& s.mixersMask) + 1).toInt
      else (s.c4 &&& s.mixersMask).toInt) s.mixers.size = true := by
    split
    · exact inb_of (by omega) (by omega)
    · exact inb_of hm.1 (by omega)
  unfold selectMixer
  rw [chk_true _ k]
  exact { h with mixer := inb_toNat k }

/-- `(c4 & m) << 8` for a mask `m` of at most 16 bits -/
theorem ctx_range (c4 m : Int32) {n : Int} (hm : m.toInt = n) (h0 : 0 ≤ n) (h1 : n ≤ 65535) :
    0 ≤ ((c4 &&& m) <<< (8 : Int32)).toInt ∧ ((c4 &&& m) <<< (8 : Int32)).toInt ≤ n * 256 := by
  have a0 := and_mask c4 m (by omega)
  rw [shl8_small _ a0.1 (by omega)]
  omega

theorem inv_setContexts {lo : Nat} {s : TPAQ} (h : Inv lo s) : Inv lo (setContexts s) := by
  have h0 := ctx_range s.c4 0xFF lit_ff (by decide) (by decide)
  have h1 := ctx_range s.c4 0xFFFF lit_ffff (by decide) (by decide)
  unfold setContexts
  dsimp only
  split
  · exact { h with ctx0 := h0, ctx1 := h1 }
  · exact { h with ctx0 := h0, ctx1 := h1 }

theorem findLoop_ok (buf : Tab UInt8) (mask : Int32) (hm : 0 ≤ mask.toInt ∧ mask.toInt < buf.size) :
    ∀ (fuel : Nat) (r s t : Int32) (ok : Bool), 2 ≤ r.toInt → r.toInt ≤ 90 →
      2 ≤ (findLoop buf mask fuel r s t ok).1.toInt ∧ (findLoop buf mask fuel r s t ok).1.toInt ≤ 90 ∧
      (findLoop buf mask fuel r s t ok).2 = ok := by
  intro fuel
  induction fuel with
  | zero => intro r s t ok h1 h2; exact ⟨h1, h2, rfl⟩
  | succ n ih =>
    intro r s t ok h1 h2
    unfold findLoop
    simp only [inb_mask _ hm, Bool.and_true]
    split
    · rename_i hr
      rw [Int32.le_iff_toInt_le, lit_88] at hr
      split
      · exact ⟨h1, h2, rfl⟩
      · split
        · exact ⟨h1, h2, rfl⟩
        · have e := toInt_add_of (a := r) rfl lit_2 (by omega)
          exact ih (r + 2) (s - 2) (t - 2) ok (by omega) (by omega)
    · exact ⟨h1, h2, rfl⟩

theorem inv_findMatch {lo : Nat} {s : TPAQ} (h : Inv lo s) : Inv lo (findMatch s) := by
  have hml := h.matchLen
  unfold findMatch
  split
  · rename_i hpos
    exact { h with
      matchLen := by
        show 0 ≤ (if s.matchLen < 88 then s.matchLen + 1 else s.matchLen).toInt ∧
          (if s.matchLen < 88 then s.matchLen + 1 else s.matchLen).toInt ≤ 88
        split
        · rename_i h88
          rw [Int32.lt_iff_toInt_lt, lit_88] at h88
          rw [toInt_add_of rfl lit_1 (by omega)]; omega
        · exact hml }
  · rename_i hpos
    have hz : ¬ (0 : Int32).toInt < s.matchLen.toInt := fun c => hpos (Int32.lt_iff_toInt_lt.2 c)
    rw [lit_0] at hz
    rw [chk_true _ (inb_of h.hash.1 h.hash.2)]
    dsimp only
    split
    · have er := toInt_add_of (a := s.matchLen) rfl lit_2 (by omega)
      have fl := findLoop_ok s.buffer s.bufferMask h.bufferMask (findFuel (s.matchLen + 2)) (s.matchLen + 2)
        (s.pos - (s.matchLen + 2)) (s.hashes.get s.hash.toInt.toNat - (s.matchLen + 2)) true (by omega) (by omega)
      rw [chk_true _ fl.2.2]
      have e := toInt_sub_of (b := 2) rfl lit_2 (by omega : _ ∧ (findLoop s.buffer s.bufferMask
        (findFuel (s.matchLen + 2)) (s.matchLen + 2) (s.pos - (s.matchLen + 2))
        (s.hashes.get s.hash.toInt.toNat - (s.matchLen + 2)) true).1.toInt - 2 < 2147483648)
      exact { h with matchLen := by rw [e]; omega }
    · exact { h with matchLen := hml }

theorem inv_loadMatchVal {lo : Nat} {s : TPAQ} (h : Inv lo s) : Inv lo (loadMatchVal s) := by
  unfold loadMatchVal
  rw [chk_true _ (inb_mask s.matchPos h.bufferMask)]
  exact { h with matchLen := h.matchLen }

theorem inv_storeHash {lo : Nat} {s : TPAQ} (h : Inv lo s) : Inv lo (storeHash s) := by
  unfold storeHash
  rw [chk_true _ (inb_of h.hash.1 h.hash.2)]
  exact h.frame rfl rfl rfl rfl rfl rfl

theorem inv_byteBoundary {s : TPAQ} (h : Inv 0 s) : Inv 1 (byteBoundary s) :=
  inv_storeHash (inv_loadMatchVal (inv_findMatch (inv_setContexts (inv_selectMixer (inv_rollBytes (inv_storeByte h))))))

/-! #### the prediction part -/

theorem bump_size (t : Tab UInt8) (bit : Bool) (cp : Nat) : (bump t bit cp).size = t.size := rfl

theorem inv_bumpStates {lo : Nat} {s : TPAQ} (h : Inv lo s) (bit : Bool) : Inv lo (bumpStates s bit) :=
  h.frame rfl rfl rfl (by simp only [bump_size]) (bump_size ..) (bump_size ..)

theorem inv_movePtrs {s : TPAQ} (h : Inv 1 s) : Inv 1 (movePtrs s) := by
  have hc := h.c0_byte
  have h0 := h.ctx0
  have h1 := h.ctx1
  have e0 := toInt_add_of (a := s.ctx0) (b := s.c0) rfl rfl (by omega)
  have e1 := toInt_add_of (a := s.ctx1) (b := s.c0) rfl rfl (by omega)
  have k0 : inb (s.ctx0 + s.c0).toInt s.smallStatesMap0.size = true := inb_of (by omega) (by rw [h.small0]; omega)
  have k1 : inb (s.ctx1 + s.c0).toInt s.smallStatesMap1.size = true := inb_of (by omega) (by rw [h.small1]; omega)
  have k2 := inb_mask (s.ctx2 + s.c0) h.statesMask
  have k3 := inb_mask (s.ctx3 + s.c0) h.statesMask
  have k4 := inb_mask (s.ctx4 + s.c0) h.statesMask
  have k5 := inb_mask (s.ctx5 ^^^ s.c0) h.statesMask
  unfold movePtrs
  dsimp only
  rw [chk_true _ (by rw [k0, k1, k2, k3, k4, k5]; rfl)]
  exact { h with cp0 := inb_toNat k0, cp1 := inb_toNat k1, cp2 := inb_toNat k2, cp3 := inb_toNat k3,
                 cp4 := inb_toNat k4, cp5 := inb_toNat k5 }

theorem inv_matchContextPred {s : TPAQ} (h : Inv 1 s) (hne : (s.matchLen != 0) = true) :
    Inv 1 (matchContextPred s).2 := by
  have hml := h.matchLen
  have hnz := (ne_zero_iff _).1 hne
  have e := toInt_sub_of (a := s.matchLen) rfl lit_1 (by omega)
  unfold matchContextPred
  dsimp only
  split
  · show Inv 1 (chk s (inb (s.matchLen - 1).toInt maxLength))
    rw [chk_true _ (inb_of (by omega) (by show (s.matchLen - 1).toInt < ((88 : Nat) : Int); omega))]
    exact h
  · exact { h with matchLen := by show 0 ≤ (0 : Int32).toInt ∧ (0 : Int32).toInt ≤ 88; rw [lit_0]; omega }

/-- the state after `p7 := 0; if this.matchLen != 0 { p7 = this.getMatchContextPred() }` -/
theorem inv_match {s : TPAQ} (h : Inv 1 s) :
    Inv 1 (if (s.matchLen != 0) = true then matchContextPred s else ((0 : Int32), s)).2 := by
  split
  · rename_i hne; exact inv_matchContextPred h hne
  · exact h

theorem inv_stepPtr6 {s : TPAQ} (h : Inv 1 s) (bit : Bool) : Inv 1 (stepPtr6 s bit) := by
  have k := inb_mask (s.ctx6 + s.c0) h.statesMask
  unfold stepPtr6
  dsimp only
  rw [chk_true _ k]
  exact { h.frame rfl rfl rfl (bump_size s.bigStatesMap bit s.cp6) rfl rfl with cp6 := inb_toNat k }

theorem inv_mix {lo : Nat} {s : TPAQ} (h : Inv lo s) (p0 p1 p2 p3 p4 p5 p6 p7 : Int32) :
    Inv lo (mix s p0 p1 p2 p3 p4 p5 p6 p7) :=
  h.frame (Array.size_modify ..) rfl rfl rfl rfl rfl

/-- What the SSE stages hand on: a probability in `[0, 4095]` and a state satisfying the invariant
(`x`: the variant, which no stage changes). -/
def Stage (x : Bool) (r : Int × TPAQ) : Prop := Inv 1 r.2 ∧ r.2.extra = x ∧ 0 ≤ r.1 ∧ r.1 ≤ 4095

theorem Stage.sse0 {x : Bool} {s : TPAQ} {p : Int} (h : Stage x (p, s)) (bit : Bool) :
    Stage x (sse0Get s bit p) := by
  have hi : Inv 1 s := h.1
  have hc := hi.c0_byte
  have g := apmGet_ok hi.sse0 bit h.2.2 (ctx := s.c0.toInt) ⟨by omega, by omega⟩
  unfold sse0Get
  dsimp only
  rw [chk_true _ g.1]
  exact ⟨{ hi with sse0 := g.2.1 }, h.2.1, g.2.2⟩

theorem Stage.sse1 {s : TPAQ} {p : Int} (h : Stage true (p, s)) (bit : Bool) : Stage true (sse1Get s bit p) := by
  have hi : Inv 1 s := h.1
  have hc := hi.c0_byte
  have h0 := hi.ctx0
  have e0 := toInt_add_of (a := s.ctx0) (b := s.c0) rfl rfl (by omega)
  have g := apmGet_ok (hi.sse1 h.2.1) bit h.2.2 (ctx := (s.ctx0 + s.c0).toInt) ⟨by omega, by omega⟩
  unfold sse1Get
  dsimp only
  rw [chk_true _ g.1]
  exact ⟨{ hi with sse1 := fun _ => g.2.1 }, h.2.1, g.2.2⟩

theorem Stage.avg {x : Bool} {r : Int × TPAQ} (h : Stage x r) {q : Int} (hq : 0 ≤ q ∧ q ≤ 4095) :
    0 ≤ (3 * r.1 + q) >>> 2 ∧ (3 * r.1 + q) >>> 2 ≤ 4095 := by
  have := h.2.2
  rw [Int.shiftRight_eq_div_pow]; omega

/-- the last statement of `Update`: `this.pr = p + int(uint32(p-2048)>>31)` -/
theorem Stage.setPr {x : Bool} {r : Int × TPAQ} (h : Stage x r) {q : Int} (hq : 0 ≤ q ∧ q ≤ 4095) :
    Inv 1 { r.2 with pr := finalPr q } :=
  { h.1 with pr := finalPr_range hq.1 hq.2 }

theorem inv_sseStage {s : TPAQ} (hi : Inv 1 s) (bit : Bool) {p : Int} (hp : 0 ≤ p ∧ p ≤ 4095) :
    Inv 1 (sseStage s bit p) := by
  have h : Stage s.extra (p, s) := ⟨hi, rfl, hp⟩
  rw [sseStage]
  by_cases c3 : s.binCount < s.pos >>> (3 : Int32)
  · rw [if_pos c3]
    exact (h.sse0 bit).setPr ((h.sse0 bit).avg h.2.2)
  · rw [if_neg c3]
    exact h.setPr h.2.2

theorem inv_sseStageX {s : TPAQ} (hi : Inv 1 s) (hx : s.extra = true) (bit : Bool) {p : Int}
    (hp : 0 ≤ p ∧ p ≤ 4095) : Inv 1 (sseStageX s bit p) := by
  have h : Stage true (p, s) := ⟨hi, hx, hp⟩
  rw [sseStageX]
  by_cases c3 : s.binCount < s.pos >>> (3 : Int32)
  · rw [if_pos c3]
    exact (h.sse1 bit).setPr (h.sse1 bit).2.2
  · rw [if_neg c3]
    -- the pair handed to `sse1` is named, so that it occurs once in what follows
    generalize hr : (if s.binCount ≥ s.pos >>> (2 : Int32) then
        ((3 * (sse0Get s bit p).1 + p) >>> 2, (sse0Get s bit p).2) else (p, s)) = r0
    have h0 : Stage true r0 := by
      subst hr
      split
      · exact ⟨(h.sse0 bit).1, (h.sse0 bit).2.1, (h.sse0 bit).avg h.2.2⟩
      · exact h
    exact (h0.sse1 bit).setPr ((h0.sse1 bit).avg h0.2.2)

theorem chk_extra (s : TPAQ) (ok : Bool) : (chk s ok).extra = s.extra := by
  unfold chk; split <;> rfl

theorem stepPtr6_extra (s : TPAQ) (bit : Bool) : (stepPtr6 s bit).extra = s.extra := by
  unfold stepPtr6; dsimp only; rw [chk_extra]

theorem mix_extra (s : TPAQ) (p0 p1 p2 p3 p4 p5 p6 p7 : Int32) : (mix s p0 p1 p2 p3 p4 p5 p6 p7).extra = s.extra := rfl

theorem inv_predict {s : TPAQ} (h : Inv 1 s) (bit : Bool) : Inv 1 (predict s bit) := by
  have h1 := inv_match (inv_movePtrs (inv_bumpStates h bit))
  unfold predict
  dsimp only
  generalize movePtrs (bumpStates s bit) = s1 at *
  generalize (if (s1.matchLen != 0) = true then matchContextPred s1 else ((0 : Int32), s1)) = r7 at *
  split
  · exact inv_sseStage (inv_mix h1 _ _ _ _ _ _ _ _) bit (mixed_mix_range _ _ _ _ _ _ _ _ _)
  · rename_i hx
    refine inv_sseStageX (inv_mix (inv_stepPtr6 h1 bit) _ _ _ _ _ _ _ _) ?_ bit (mixed_mix_range _ _ _ _ _ _ _ _ _)
    rw [mix_extra, stepPtr6_extra]
    cases hh : r7.2.extra
    · exact absurd (by rw [hh]; rfl) hx
    · rfl

theorem inv_of_bpos_ne {s : TPAQ} (h : Inv 0 s) (hb : ¬ s.bpos = 0) : Inv 1 s :=
  { h with bpos := ⟨by omega, h.bpos.2⟩ }

theorem R_update {s : TPAQ} (h : R s) (bit : Bool) : R (tpaqUpdate s bit) := by
  have h1 := inv_shiftBit (inv_trainMixer h bit) bit
  unfold tpaqUpdate
  dsimp only
  split
  · exact inv_predict (inv_byteBoundary h1) bit
  · rename_i hb
    exact inv_predict (inv_of_bpos_ne h1 hb) bit

theorem R_get {s : TPAQ} (h : R s) : R (tpaqGet s).2 := h

theorem R_step {s : TPAQ} (h : R s) (bit : Bool) : R (tpaqUpdate (tpaqGet s).2 bit) := R_update h bit

theorem getZ_range {s : TPAQ} (h : R s) : 1 ≤ tpaqGetZ s ∧ tpaqGetZ s ≤ 4095 := h.pr

theorem get_range {s : TPAQ} (h : R s) : 1 ≤ (tpaqGet s).1 ∧ (tpaqGet s).1 ≤ 4095 := by
  have := h.pr
  show 1 ≤ s.pr.toNat ∧ s.pr.toNat ≤ 4095
  omega

theorem get_cast {s : TPAQ} (h : R s) : ((tpaqGet s).1 : Int) = tpaqGetZ s := by
  have := h.pr
  show (s.pr.toNat : Int) = s.pr
  omega

theorem updateF_some {s : TPAQ} (h : R s) (bit : Bool) : tpaqUpdateF s bit = some (tpaqUpdate s bit) := by
  unfold tpaqUpdateF
  dsimp only
  rw [(R_update h bit).fault]
  rfl

/-! ### the constructor -/

theorem maskOf_toInt (n : Nat) (h1 : 1 ≤ n) (h2 : n ≤ 2147483648) : (maskOf n).toInt = (n : Int) - 1 := by
  unfold maskOf
  have e : (n + 18446744073709551615) % 18446744073709551616 = n - 1 := by omega
  rw [e, toInt_ofNat_small _ (by omega)]
  omega

/-- what `mixersMask = int32(mixersSize-1) & ^1` must satisfy (checked for every size the constructor can choose) -/
def MixOk (n : Nat) : Prop :=
  0 ≤ (maskOf n &&& (-2)).toInt ∧ (maskOf n &&& (-2)).toInt + 1 < n ∧ (maskOf n &&& (-2)).toInt < 2147483647

/-- the table sizes for which the initial state satisfies the invariant -/
structure SizesOk (z : Sizes) : Prop where
  states : 1 ≤ z.statesSize ∧ z.statesSize ≤ 2147483648
  mixers : MixOk z.mixersSize
  hash : 1 ≤ z.hashSize ∧ z.hashSize ≤ 2147483648
  buffer : 1 ≤ z.bufferSize ∧ z.bufferSize ≤ 2147483648

theorem R_ofSizes {z : Sizes} (h : SizesOk z) : R (tpaqOfSizes z) := by
  have es := maskOf_toInt _ h.states.1 h.states.2
  have eh := maskOf_toInt _ h.hash.1 h.hash.2
  have eb := maskOf_toInt _ h.buffer.1 h.buffer.2
  have hm := h.mixers
  have hs := h.states
  have hh := h.hash
  have hb := h.buffer
  unfold tpaqOfSizes
  exact {
    fault := rfl
    pr := by show (1 : Int) ≤ 2048 ∧ (2048 : Int) ≤ 4095; decide
    bpos := by show 1 ≤ 8 ∧ 8 ≤ 8; decide
    c0 := by show 1 ≤ (1 : Int32).toInt ∧ (1 : Int32).toInt < c0cap 8; decide
    matchLen := by show 0 ≤ (0 : Int32).toInt ∧ (0 : Int32).toInt ≤ 88; decide
    hash := by show 0 ≤ (0 : Int32).toInt ∧ (0 : Int32).toInt < (z.hashSize : Int); rw [lit_0]; omega
    statesMask := by show 0 ≤ (maskOf z.statesSize).toInt ∧ (maskOf z.statesSize).toInt < (z.statesSize : Int); omega
    mixersMask := by
      show 0 ≤ (maskOf z.mixersSize &&& (-2)).toInt ∧ (maskOf z.mixersSize &&& (-2)).toInt + 1 < ((Array.replicate z.mixersSize mixerInit).size : Int) ∧ (maskOf z.mixersSize &&& (-2)).toInt < 2147483647
      rw [Array.size_replicate]; exact hm
    hashMask := by show 0 ≤ (maskOf z.hashSize).toInt ∧ (maskOf z.hashSize).toInt < (z.hashSize : Int); omega
    bufferMask := by show 0 ≤ (maskOf z.bufferSize).toInt ∧ (maskOf z.bufferSize).toInt < (z.bufferSize : Int); omega
    small0 := by show (1 <<< 16 : Nat) = 65536; decide
    small1 := by show (1 <<< 24 : Nat) = 16777216; decide
    mixer := by show 0 < (Array.replicate z.mixersSize mixerInit).size; rw [Array.size_replicate]; have := hm.2.1; have := hm.1; omega
    ctx0 := by show 0 ≤ (0 : Int32).toInt ∧ (0 : Int32).toInt ≤ 65280; decide
    ctx1 := by show 0 ≤ (0 : Int32).toInt ∧ (0 : Int32).toInt ≤ 16776960; decide
    sse0 := by
      show ApmOk (if z.extra = true then apmNew 256 6 else apmNew 256 7) 256
      split <;> exact apmNew_ok _ _ (by decide)
    sse1 := by
      intro hx
      have hx : z.extra = true := hx
      show ApmOk (if z.extra = true then apmNew 65536 7 else apmNil) 65536
      rw [if_pos hx]; exact apmNew_ok _ _ (by decide)
    cp0 := by show 0 < (1 <<< 16 : Nat); decide
    cp1 := by show 0 < (1 <<< 24 : Nat); decide
    cp2 := hs.1
    cp3 := hs.1
    cp4 := hs.1
    cp5 := hs.1
    cp6 := hs.1 }

/-- an entry read with `val.(uint)` is absent or at least 1 -/
def UArg.pos : UArg → Prop
  | .uint v => 1 ≤ v
  | _ => True

/-- the constructor parameters the stream layer can pass: `blockSize >= 1` (in fact 1024 .. 2^30) and
`size >= 1` (a block handed to the entropy stage is never empty); both may be absent -/
def ArgsOk : Option CtxArgs → Prop
  | none => True
  | some c => c.blockSize.pos ∧ c.size.pos

theorem ite_ind {α : Type} (P : α → Prop) {c : Prop} [Decidable c] {a b : α} (ha : P a) (hb : P b) :
    P (if c then a else b) := by
  split <;> assumption

theorem statesSizeOf_mem (r : Nat) : statesSizeOf r ∈ [1 <<< 28, 1 <<< 27, 1 <<< 26, 1 <<< 24, 1 <<< 22] :=
  ite_ind (· ∈ _) (by decide) <| ite_ind (· ∈ _) (by decide) <| ite_ind (· ∈ _) (by decide) <|
    ite_ind (· ∈ _) (by decide) (by decide)

theorem mixersSizeOf_mem (a : Nat) :
    mixersSizeOf a ∈ [1 <<< 16, 1 <<< 15, 1 <<< 14, 1 <<< 13, 1 <<< 11, 1 <<< 8] :=
  ite_ind (· ∈ _) (by decide) <| ite_ind (· ∈ _) (by decide) <| ite_ind (· ∈ _) (by decide) <|
    ite_ind (· ∈ _) (by decide) <| ite_ind (· ∈ _) (by decide) (by decide)

/-- every size the constructor can choose for `mixers` (the extra variant takes four times as many) and the
size of a nil context -/
theorem mixOk_sizes : (∀ n ∈ [1 <<< 16, 1 <<< 15, 1 <<< 14, 1 <<< 13, 1 <<< 11, 1 <<< 8], MixOk n ∧ MixOk (n <<< 2)) ∧
    MixOk (1 <<< 12) := by
  unfold MixOk; decide

theorem statesSizes_range : ∀ n ∈ [1 <<< 28, 1 <<< 27, 1 <<< 26, 1 <<< 24, 1 <<< 22], 1 ≤ n ∧ 4 * n ≤ 2147483648 := by
  decide

/-- the extra variant shifts a size by `2 * 1` bits, the plain one by `2 * 0` -/
theorem shl_extra_range {n e : Nat} (he : e = 0 ∨ e = 1) (h : 1 ≤ n ∧ 4 * n ≤ 2147483648) :
    1 ≤ n <<< (2 * e) ∧ n <<< (2 * e) ≤ 2147483648 := by
  rcases he with rfl | rfl <;> simp only [Nat.shiftLeft_eq] <;> omega

theorem uarg_ok {a : UArg} {d : Nat} {e : NewErr} {v : Nat} (h : uarg a d e = .ok v) (hp : a.pos) (hd : 1 ≤ d) : 1 ≤ v := by
  cases a with
  | absent => simp [uarg] at h; omega
  | uint w => simp [uarg] at h; subst h; exact hp
  | other => simp [uarg] at h

theorem sizesOf_ok {c : Option CtxArgs} {z : Sizes} (hc : ArgsOk c) (h : sizesOf c = .ok z) : SizesOk z := by
  cases c with
  | none =>
    simp only [sizesOf, Except.ok.injEq] at h
    subst h
    exact ⟨by decide, mixOk_sizes.2, by decide, by decide⟩
  | some c =>
    obtain ⟨hb, hsz⟩ := hc
    simp only [sizesOf] at h
    split at h
    · cases h
    · rename_i extra _
      split at h
      · cases h
      · rename_i rbsz hr
        have hr1 := uarg_ok hr hb (by decide)
        split at h
        · cases h
        · rename_i absz ha
          have ha1 := uarg_ok ha hsz hr1
          split at h
          · cases h
          · rename_i bsv _
            simp only [Except.ok.injEq] at h
            subst h
            have he : (if extra = true then 1 else 0) = 0 ∨ (if extra = true then 1 else 0) = 1 := by
              split
              · exact Or.inr rfl
              · exact Or.inl rfl
            generalize (if extra = true then 1 else 0) = e at he
            have hh := shl_extra_range (n := min hashSizeMax (if absz < 1 <<< 26 then absz * 16 else 1 <<< 30)) he
              (by simp only [hashSizeMax, Nat.shiftLeft_eq]; split <;> omega)
            have hm := mixOk_sizes.1 _ (mixersSizeOf_mem absz)
            refine ⟨shl_extra_range he (statesSizes_range _ (statesSizeOf_mem rbsz)), ?_,
              ite_ind (fun n => 1 ≤ n ∧ n ≤ 2147483648) ⟨by omega, by omega⟩ hh, ?_⟩
            · rcases he with rfl | rfl
              · exact hm.1
              · exact hm.2
            · show 1 ≤ min bufferSizeMax rbsz ∧ min bufferSizeMax rbsz ≤ 2147483648
              simp only [bufferSizeMax]; omega

/-- `NewTPAQPredictor` with parameters the stream layer can pass returns a state satisfying the invariant -/
theorem R_new {c : Option CtxArgs} {s : TPAQ} (hc : ArgsOk c) (h : tpaqNew c = .ok s) : R s := by
  unfold tpaqNew at h
  split at h
  · cases h
  · rename_i z hz
    simp only [Except.ok.injEq] at h
    subst h
    exact R_ofSizes (sizesOf_ok hc hz)

/-- the first entry with a wrong dynamic type, in the order the constructor reads them -/
def errOf (a : CtxArgs) : Option NewErr :=
  match a.entropy, a.blockSize, a.size, a.bsVersion with
  | .other, _, _, _ => some .entropy
  | _, .other, _, _ => some .blockSize
  | _, _, .other, _ => some .size
  | _, _, _, .other => some .bsVersion
  | _, _, _, _ => none

/-- the error `NewTPAQPredictor` returns is the one of the first entry with a wrong dynamic type
(all combinations of present / absent / wrongly typed entries) -/
theorem tpaqNew_errOf (a : CtxArgs) :
    (match tpaqNew (some a) with | .error e => some e | .ok _ => none) = errOf a := by
  obtain ⟨e, b, z, v⟩ := a
  cases e <;> cases b <;> cases z <;> cases v <;> rfl

theorem tpaqNew_err (a : CtxArgs) :
    (∀ e, errOf a = some e → tpaqNew (some a) = .error e) ∧
    (errOf a = none → ∃ s, tpaqNew (some a) = .ok s) := by
  have h := tpaqNew_errOf a
  cases hn : tpaqNew (some a) with
  | error e' =>
    rw [hn] at h
    exact ⟨fun e he => (by rw [← h] at he; cases he; rfl), fun he => by rw [← h] at he; cases he⟩
  | ok s =>
    rw [hn] at h
    exact ⟨fun e he => (by rw [← h] at he; cases he), fun _ => ⟨s, rfl⟩⟩

theorem tpaqNew_nil : ∃ s, tpaqNew none = .ok s := ⟨_, rfl⟩

/-! ### runs (generic facts about `statesBefore` / `runOpt` / `foldl`, then the instances) -/

theorem foldl_inv {σ β : Type} (f : σ → β → σ) (P : σ → Prop) (hstep : ∀ s b, P s → P (f s b)) :
    ∀ (bits : List β) (s : σ), P s → P (bits.foldl f s) := by
  intro bits
  induction bits with
  | nil => intro s h; exact h
  | cons b bs ih => intro s h; rw [List.foldl_cons]; exact ih _ (hstep s b h)

theorem statesBefore_inv {σ β : Type} (f : σ → β → σ) (P : σ → Prop) (hstep : ∀ s b, P s → P (f s b)) :
    ∀ (bits : List β) (s : σ), P s → ∀ s' ∈ statesBefore f s bits, P s' := by
  intro bits
  induction bits with
  | nil => intro s _ s' hs'; simp [statesBefore] at hs'
  | cons b bs ih =>
    intro s h s' hs'
    rw [statesBefore] at hs'
    rcases List.mem_cons.1 hs' with rfl | hs'
    · exact h
    · exact ih _ (hstep s b h) s' hs'

theorem runOpt_some {σ β γ : Type} (g : σ → γ) (fo : σ → β → Option σ) (f : σ → β → σ) (P : σ → Prop)
    (hstep : ∀ s b, P s → P (f s b)) (hsome : ∀ s b, P s → fo s b = some (f s b)) :
    ∀ (bits : List β) (s : σ), P s → runOpt g fo s bits = some ((statesBefore f s bits).map g) := by
  intro bits
  induction bits with
  | nil => intro s _; rfl
  | cons b bs ih =>
    intro s h
    rw [runOpt, hsome s b h]
    simp only [ih _ (hstep s b h), statesBefore, List.map_cons, Option.map_some]

theorem R_tpaqStep (s : TPAQ) (b : Bool) (h : R s) : R (tpaqStep s b) := R_update h b

theorem stepF_some (s : TPAQ) (b : Bool) (h : R s) : tpaqUpdateF (tpaqGet s).2 b = some (tpaqStep s b) :=
  updateF_some h b

theorem R_runState (s : TPAQ) (h : R s) (bits : List Bool) : R (tpaqRunState s bits) :=
  foldl_inv tpaqStep R R_tpaqStep bits s h

theorem run_range (s : TPAQ) (h : R s) (bits : List Bool) : ∀ p ∈ tpaqRun s bits, 1 ≤ p ∧ p ≤ 4095 := by
  intro p hp
  unfold tpaqRun at hp
  obtain ⟨s', hs', rfl⟩ := List.mem_map.1 hp
  exact get_range (statesBefore_inv tpaqStep R R_tpaqStep bits s h s' hs')

theorem runF_some (s : TPAQ) (h : R s) (bits : List Bool) :
    tpaqRunF s bits = some ((tpaqRun s bits).map Int.ofNat) := by
  unfold tpaqRunF tpaqRun
  rw [runOpt_some tpaqGetZ (fun s b => tpaqUpdateF (tpaqGet s).2 b) tpaqStep R R_tpaqStep stepF_some bits s h,
    List.map_map]
  congr 1
  apply List.map_congr_left
  intro s' hs'
  have := get_cast (statesBefore_inv tpaqStep R R_tpaqStep bits s h s' hs')
  exact this.symm

end Kanzi.TPAQ
