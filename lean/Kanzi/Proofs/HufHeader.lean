/-
Huffman codec (C12): the signed Exp-Golomb byte codec and the transmitted
header (alphabet + code length deltas).  Restated in `Kanzi/Properties/C12_huffman.lean`.
-/
import Kanzi.Model.Huffman
import Kanzi.Proofs.EntSmall

namespace Kanzi.Huffman
open Kanzi.Bits Kanzi.EntSmall

theorem readBits_append (n : Nat) (b rest : Bits) (v : Nat) (r : Bits)
    (h : readBits n b = some (v, r)) : readBits n (b ++ rest) = some (v, r ++ rest) := by
  unfold readBits at h ⊢
  split at h
  · rename_i hle
    simp only [Option.some.injEq, Prod.mk.injEq] at h
    rw [if_pos (by rw [List.length_append]; omega)]
    rw [List.take_append_of_le_length hle, List.drop_append_of_le_length hle, h.1, h.2]
  · cases h

theorem egSkip_append : ∀ (b : Bits) (l v : Nat) (r rest : Bits),
    egSkip b l = some (v, r) → egSkip (b ++ rest) l = some (v, r ++ rest) := by
  intro b
  induction b with
  | nil => intro l v r rest h; simp [egSkip] at h
  | cons x xs ih =>
    intro l v r rest h
    cases x with
    | true =>
      simp only [egSkip, Option.some.injEq, Prod.mk.injEq] at h
      simp only [List.cons_append, egSkip, h.1, h.2]
    | false =>
      simp only [egSkip] at h
      simp only [List.cons_append, egSkip]
      exact ih _ _ _ _ h

theorem egDecodeByte_append (b rest : Bits) (v : Nat) (r : Bits)
    (h : egDecodeByte b = some (v, r)) : egDecodeByte (b ++ rest) = some (v, r ++ rest) := by
  cases b with
  | nil => simp [egDecodeByte] at h
  | cons x xs =>
    cases x with
    | true =>
      simp only [egDecodeByte, Option.some.injEq, Prod.mk.injEq] at h
      simp only [List.cons_append, egDecodeByte, h.1, h.2]
    | false =>
      simp only [egDecodeByte] at h
      simp only [List.cons_append, egDecodeByte]
      cases hs : egSkip xs 1 with
      | none => rw [hs] at h; cases h
      | some p =>
        obtain ⟨l, r1⟩ := p
        rw [hs] at h
        rw [egSkip_append xs 1 l r1 rest hs]
        simp only at h ⊢
        cases hr : readBits ((l &&& 7) + 1) r1 with
        | none => rw [hr] at h; cases h
        | some p2 =>
          obtain ⟨val, r2⟩ := p2
          rw [hr] at h
          rw [readBits_append _ r1 rest val r2 hr]
          simp only [Option.some.injEq, Prod.mk.injEq] at h ⊢
          exact ⟨h.1, by rw [h.2]⟩

/-- what `EncodeByte(d)` writes when the cache holds `e` for `d` -/
def egCode (e d : Nat) : Bits := if d = 0 then [true] else natBits (e &&& 0x1FF) (e >>> 9)

/-- The table `_EXPG_VALUES[1]` entry by entry.  One pass over the table: indexing it once per value
    is far dearer. -/
theorem expg_entries : expgSigned.zipIdx.all (fun p =>
    egDecodeByte (egCode p.1 p.2) == some (p.2, [])
      && decide (1 ≤ (egCode p.1 p.2).length ∧ (egCode p.1 p.2).length ≤ 16)) = true := by
  decide +kernel

theorem eg_entry (d : Nat) (h : d < 256) :
    egDecodeByte (egEncodeByte d) = some (d, []) ∧
      1 ≤ (egEncodeByte d).length ∧ (egEncodeByte d).length ≤ 16 := by
  have hl : expgSigned.length = 256 := by decide +kernel
  have hm : (expgSigned.getD d 0, d) ∈ expgSigned.zipIdx := by
    rw [List.mem_zipIdx_iff_getElem?]
    show expgSigned[d]? = some (expgSigned.getD d 0)
    rw [List.getD_eq_getElem?_getD, List.getElem?_eq_getElem (hl ▸ h), Option.getD_some]
  have he := List.all_eq_true.1 expg_entries _ hm
  simp only [Bool.and_eq_true, beq_iff_eq, decide_eq_true_eq] at he
  exact he

theorem eg_roundtrip (d : Nat) (h : d < 256) (rest : Bits) :
    egDecodeByte (egEncodeByte d ++ rest) = some (d, rest) :=
  egDecodeByte_append _ rest _ _ (eg_entry d h).1

/-- the table `readLengths` ends with: `sizes[s]` stored for every symbol of the alphabet, on
    top of `tbl` -/
def storeSizes (sizes : List Nat) (a tbl : List Nat) : List Nat :=
  a.foldl (fun t s => t.set s (sizes.getD s 0)) tbl

theorem readSizes_enc (sizes : List Nat) (rest : Bits) : ∀ (a : List Nat) (prev : Nat) (tbl : List Nat),
    (∀ s ∈ a, 1 ≤ sizes.getD s 0 ∧ sizes.getD s 0 ≤ 12) → prev < 256 →
    readSizes a prev (encodeSizes sizes a prev ++ rest) tbl = some (storeSizes sizes a tbl, rest) := by
  intro a
  induction a with
  | nil => intro prev tbl _ _; simp [readSizes, encodeSizes, storeSizes]
  | cons s ss ih =>
    intro prev tbl hs hp
    have h1 := hs s List.mem_cons_self
    simp only [encodeSizes, readSizes, List.append_assoc]
    rw [eg_roundtrip _ (Nat.mod_lt _ (by decide))]
    have he : (prev + (sizes.getD s 0 + 256 - prev) % 256) % 256 = sizes.getD s 0 := by omega
    simp only [he]
    rw [if_neg (by omega)]
    rw [ih (sizes.getD s 0) _ (fun x hx => hs x (List.mem_cons_of_mem _ hx)) (by omega)]
    simp [storeSizes]

theorem foldl_set_spec (f : Nat → Nat) : ∀ (a tbl : List Nat),
    (a.foldl (fun t s => t.set s (f s)) tbl).length = tbl.length ∧
    ∀ x, x < tbl.length →
      (a.foldl (fun t s => t.set s (f s)) tbl).getD x 0 = if x ∈ a then f x else tbl.getD x 0 := by
  intro a
  induction a with
  | nil => intro tbl; simp
  | cons s ss ih =>
    intro tbl
    obtain ⟨h1, h2⟩ := ih (tbl.set s (f s))
    rw [List.length_set] at h1 h2
    refine ⟨h1, fun x hx => ?_⟩
    rw [List.foldl_cons, h2 x hx]
    by_cases hxs : x ∈ ss
    · simp [hxs]
    · simp only [hxs, if_false, List.mem_cons, or_false]
      by_cases he : x = s
      · subst he; rw [if_pos rfl]; exact getD_set_self _ _ _ hx
      · rw [if_neg he, getD_set_ne _ _ _ _ (Ne.symm he)]

theorem storeSizes_length (sizes : List Nat) : ∀ (a tbl : List Nat),
    (storeSizes sizes a tbl).length = tbl.length :=
  fun a tbl => (foldl_set_spec (fun s => sizes.getD s 0) a tbl).1

theorem storeSizes_getD (sizes : List Nat) : ∀ (a tbl : List Nat) (x : Nat), x < tbl.length →
    (storeSizes sizes a tbl).getD x 0 = if x ∈ a then sizes.getD x 0 else tbl.getD x 0 :=
  fun a tbl => (foldl_set_spec (fun s => sizes.getD s 0) a tbl).2

theorem encodeSizes_length (sizes : List Nat) : ∀ (a : List Nat) (prev : Nat),
    a.length ≤ (encodeSizes sizes a prev).length ∧ (encodeSizes sizes a prev).length ≤ 16 * a.length := by
  intro a
  induction a with
  | nil => intro _; simp [encodeSizes]
  | cons s ss ih =>
    intro prev
    have h := (eg_entry ((sizes.getD s 0 + 256 - prev) % 256) (Nat.mod_lt _ (by decide))).2
    have h2 := ih (sizes.getD s 0)
    simp only [encodeSizes, List.length_append, List.length_cons]
    omega

end Kanzi.Huffman
