/-
ROLZX (`rolzCodec2`): the pieces of Forward do not fault.  Every read of the block is in range, the loops terminate
within their fuel, and the range coder does not write past `dst` as long as there is room for one flush per coded bit
(the check `dstIdx > len(dst) - _ROLZ_DST_MARGIN` at the head of the main loop leaves room for one iteration, the
last 4 literals and `dispose`).
-/
import Kanzi.Proofs.RolzxRound

namespace Kanzi.ROLZ

/-! ## the coder has room -/

theorem encodeBit_nf {dstLen : Nat} {e : Enc} (hi : EInv e) {p : Nat} (hp : p < 65536) (bit : Bool)
    (hroom : e.out.size + 4 ≤ dstLen) : ∃ e', e.encodeBit dstLen p bit = .ok e' := by
  rw [encodeBit_eq dstLen hi hp bit]
  by_cases hc : low1 e p bit / 2 ^ 24 = high1 e p bit / 2 ^ 24
  · rw [if_pos hc, if_pos hroom]; exact ⟨_, rfl⟩
  · rw [if_neg hc]; exact ⟨_, rfl⟩

theorem encBits_nf {dstLen ctx val : Nat} : ∀ (n c1 : Nat) (e : Enc) (t : Array Nat),
    EInv e → ProbOk t → e.out.size + 4 * n ≤ dstLen → ∃ r, encBits dstLen ctx val n c1 e t = .ok r := by
  intro n
  induction n with
  | zero => intro c1 e t _ _ _; exact ⟨_, rfl⟩
  | succ n ih =>
    intro c1 e t hi ht hroom
    have hp := ht (ctx + c1)
    obtain ⟨e1, he1⟩ := encodeBit_nf (e := e) (dstLen := dstLen) hi hp (val.testBit n) (by omega)
    obtain ⟨i1, _, s1, _⟩ := encodeBit_inv hi hp he1
    obtain ⟨r, hr⟩ := ih (2 * c1 + (val.testBit n).toNat) e1 (t.setIfInBounds (ctx + c1) (probUp (t.getD (ctx + c1) 0)
      (val.testBit n))) i1 (probOk_set ht _ _ (probUp_lt _ hp)) (by omega)
    refine ⟨r, ?_⟩
    simp only [encBits]
    rw [he1]
    exact hr

theorem encLit9_nf {dstLen c val : Nat} {s : FSt} (ho : EncOk s) (hroom : s.enc.out.size + 36 ≤ dstLen) :
    ∃ s', encLit9 dstLen c val s = .ok s' := by
  obtain ⟨r, hr⟩ := encBits_nf (dstLen := dstLen) (ctx := c <<< 9) (val := val) 9 1 s.enc s.pl ho.einv ho.plok (by omega)
  refine ⟨⟨s.tab, r.1, r.2, s.pm⟩, ?_⟩
  unfold encLit9
  simp only [hr]

/-! ## the match search reads inside the chunk -/

theorem matchLen2_nf (a : Array Nat) (lim r p maxMatch : Nat) (hr : r ≤ p) (hlim : maxMatch = 0 ∨ p + maxMatch + 4 ≤ lim) :
    ∀ (f n : Nat), 0 < f → maxMatch + 4 ≤ n + 4 * f → ∃ res, matchLen2 a lim r p maxMatch f n = .ok res := by
  intro f
  induction f with
  | zero => intro n h0 _; omega
  | succ f ih =>
    intro n _ h
    simp only [matchLen2]
    by_cases hn : n < maxMatch
    · rw [if_pos hn, if_pos (by omega)]
      split
      · exact ⟨_, rfl⟩
      · exact ih (n + 4) (by omega) (by omega)
    · rw [if_neg hn]; exact ⟨_, rfl⟩

theorem candLoop2_nf (a : Array Nat) (base lim pos hash32 maxMatch : Nat) (mts : Array Nat) (mb counter pc : Nat)
    (hent : ∀ k, base + mts.getD k 0 % 2 ^ 24 ≤ pos) (hpos : pos < lim)
    (hlim : maxMatch = 0 ∨ pos + maxMatch + 4 ≤ lim) :
    ∀ (k j L J : Nat), (L = 0 ∨ (L < maxMatch + 4 ∧ 0 < maxMatch)) →
    ∃ res, candLoop2 a base lim pos hash32 maxMatch mts mb counter pc k j L J = .ok res := by
  intro k
  induction k with
  | zero => intro j L J _; exact ⟨_, rfl⟩
  | succ k ih =>
    intro j L J hL
    simp only [candLoop2]
    split
    · exact ih _ _ _ hL
    · have hr := hent (mb + (counter + pc - j) % pc)
      have hLlim : pos + L < lim := by
        rcases hL with h0 | ⟨h1, h2⟩
        · omega
        · omega
      rw [rd1_eq (by omega), rd1_eq hLlim]
      simp only
      split
      · exact ih _ _ _ hL
      · obtain ⟨n, hn⟩ := matchLen2_nf a lim (base + mts.getD (mb + (counter + pc - j) % pc) 0 % 2 ^ 24) pos maxMatch hr hlim
          (maxMatch / 4 + 2) 0 (by omega) (by omega)
        rw [hn]
        simp only
        have sp := matchLen2_spec a lim _ pos maxMatch _ 0 n (fun k hk => by omega) hn
        split
        · split
          · exact ⟨_, rfl⟩
          · refine ih _ _ _ ?_
            rcases sp.2.1 with h0 | h0
            · omega
            · exact Or.inr h0
        · exact ih _ _ _ hL

/-- the invariants of the tables of the encoder at position `i` of the chunk starting at `base` -/
structure TInv (t : Tab) (lpc base i : Nat) : Prop where
  ok : TabOk t lpc
  ent : ∀ k, base + t.mts.getD k 0 % 2 ^ 24 ≤ i

theorem register_tinv {t : Tab} {lpc base i i' : Nat} (h : TInv t lpc base i) (hi : i ≤ i') (key w : Nat)
    (hb : base ≤ i) : TInv (t.register lpc key (rolzhashW w + (i - base))) lpc base i' := by
  refine ⟨register_ok h.ok _ _, fun k => ?_⟩
  simp only [Tab.register]
  rw [getD_setIfInBounds]
  split
  · have := rolzhashW_mod w
    omega
  · have := h.ent k; omega

theorem tinv_mono {t : Tab} {lpc base i i' : Nat} (h : TInv t lpc base i) (hi : i ≤ i') : TInv t lpc base i' :=
  ⟨h.ok, fun k => by have := h.ent k; omega⟩

theorem findMatch2_nf {a : Array Nat} {base lim pos key mm lpc : Nat} {t : Tab} (ht : TInv t lpc base pos)
    (hb : base ≤ pos) (hpos : pos < lim) (hlim : lim + 4 ≤ a.size) :
    ∃ r, findMatch2 a base lim pos key mm lpc t = .ok r ∧ TInv r.2 lpc base (pos + 1) := by
  unfold findMatch2
  have hM : MAX_MATCH2 = 258 := rfl
  dsimp only
  split
  · exact ⟨_, rfl, tinv_mono ht (Nat.le_succ pos)⟩
  · rename_i hge
    obtain ⟨w, hle⟩ : ∃ w, le32 a a.size pos = some w := ⟨_, by unfold le32; rw [if_pos (by omega)]⟩
    rw [hle]
    simp only
    obtain ⟨res, hres⟩ := candLoop2_nf a base lim pos (rolzhashW w) (min MAX_MATCH2 (lim - pos) - 4) t.mts (key * 2 ^ lpc)
      (t.counters.getD key 0) (2 ^ lpc) ht.ent hpos (by rw [hM]; omega) (2 ^ lpc) 0 0 0 (Or.inl rfl)
    rw [hres]
    simp only
    split
    · exact ⟨_, rfl, register_tinv ht (by omega) _ _ hb⟩
    · exact ⟨_, rfl, register_tinv ht (by omega) _ _ hb⟩

/-! ## one step, the loops -/

theorem getKey_some {mm delta : Nat} (hp : ParamsOk mm delta) (a : Array Nat) {base lim i : Nat} (hbi : base + 8 ≤ i)
    (hil : i ≤ lim) : ∃ key, getKey mm delta a base lim i = some key := by
  unfold getKey
  rcases hp with ⟨h3, hd⟩ | ⟨hn3, hd⟩
  · rw [if_neg (by omega), if_pos h3]
    unfold getKey1 le16
    rw [if_pos (by omega)]
    exact ⟨_, rfl⟩
  · rw [if_neg (by omega), if_neg hn3]
    unfold getKey2 le64
    rw [if_pos (by omega)]
    exact ⟨_, rfl⟩

/-- one iteration of the main loop leaves at least 152 bytes of room (last literals + dispose) -/
theorem fwdStep_nf {a : Array Nat} {dstLen base lim mm delta lpc i : Nat} {s : FSt} (hpar : ParamsOk mm delta)
    (hmm : 3 ≤ mm ∧ mm ≤ 7) (hlpc : lpc ≤ 8) (hbi : base + 8 ≤ i) (hil : i < lim) (hlim : lim + 4 ≤ a.size)
    (ho : EncOk s) (ht : TInv s.tab lpc base i) :
    (∃ e, fwdStep a dstLen base lim mm delta lpc i s = .err e) ∨
    (∃ r, fwdStep a dstLen base lim mm delta lpc i s = .ok r ∧ i < r.1 ∧ r.1 ≤ lim ∧ EncOk r.2 ∧
      TInv r.2.tab lpc base r.1 ∧ r.2.enc.out.size + 152 ≤ dstLen) := by
  unfold fwdStep
  dsimp only
  by_cases hmar : s.enc.out.size + DST_MARGIN > dstLen
  · left; rw [if_pos hmar]; exact ⟨_, rfl⟩
  · right
    rw [if_neg hmar]
    have hM : DST_MARGIN = 256 := rfl
    rw [rd1_eq (by omega : i - 1 < lim)]
    obtain ⟨key, hkey⟩ := getKey_some hpar a (by omega : base + 8 ≤ i) (by omega : i ≤ lim)
    rw [hkey]
    simp only
    obtain ⟨r, hr, htr⟩ := findMatch2_nf (key := key) (a := a) (mm := mm) ht (by omega) hil hlim
    have hsp := findMatch2_spec hr hmm
    rw [hr]
    obtain ⟨r1, r2⟩ := r
    cases r1 with
    | none =>
      simp only
      rw [rd1_eq hil]
      simp only
      have ho1 : EncOk ⟨r2, s.enc, s.pl, s.pm⟩ := ⟨ho.einv, ho.plok, ho.pmok, ho.bytes⟩
      obtain ⟨s', hs'⟩ := encLit9_nf (dstLen := dstLen) (c := a.getD (i - 1) 0) (val := 256 + a.getD i 0) ho1
        (by simp only; omega)
      obtain ⟨o', _, t', z1, z2⟩ := encLit9_enc bytes_nil hs' ho1
      rw [hs']
      simp only at t' z2
      exact ⟨_, rfl, by simp only; omega, by simp only; omega, o', by simp only; rw [t']; exact htr, by simp only; omega⟩
    | some m =>
      obtain ⟨mi, ml⟩ := m
      simp only
      obtain ⟨hge, _, _, hend, _⟩ := hsp.2 mi ml rfl
      have ho1 : EncOk ⟨r2, s.enc, s.pl, s.pm⟩ := ⟨ho.einv, ho.plok, ho.pmok, ho.bytes⟩
      obtain ⟨s1, hs1⟩ := encLit9_nf (dstLen := dstLen) (c := a.getD (i - 1) 0) (val := ml) ho1 (by simp only; omega)
      obtain ⟨o1, _, t1, _, z2⟩ := encLit9_enc bytes_nil hs1 ho1
      simp only at t1 z2
      rw [hs1]
      simp only
      obtain ⟨r, hr2⟩ := encBits_nf (dstLen := dstLen) (ctx := a.getD (i - 1) 0 <<< lpc) (val := mi) lpc 1 s1.enc s1.pm
        o1.einv o1.pmok (by omega)
      obtain ⟨i2, p2, _, b2, _, z4⟩ := encBits_ok bytes_nil o1.einv o1.pmok (e' := r.1) (t' := r.2) hr2
      rw [hr2]
      refine ⟨_, rfl, by simp only; omega, by simp only; omega, ⟨i2, o1.plok, p2, b2 o1.bytes⟩, ?_, by simp only; omega⟩
      simp only
      rw [t1]
      exact tinv_mono htr (by omega)

theorem fwdLoop_nf {a : Array Nat} {dstLen base lim mm delta lpc : Nat} (hpar : ParamsOk mm delta)
    (hmm : 3 ≤ mm ∧ mm ≤ 7) (hlpc : lpc ≤ 8) (hlim : lim + 4 ≤ a.size) :
    ∀ (f i : Nat) (s : FSt), (base + 8 ≤ i ∨ lim ≤ i) → i ≤ lim → lim - i + 1 ≤ f → EncOk s → TInv s.tab lpc base i →
    s.enc.out.size + 152 ≤ dstLen →
    (∃ e, fwdLoop a dstLen base lim mm delta lpc f i s = .err e) ∨
    (∃ r, fwdLoop a dstLen base lim mm delta lpc f i s = .ok r ∧ r.1 = lim ∧ EncOk r.2 ∧ r.2.enc.out.size + 152 ≤ dstLen ∧
      TabOk r.2.tab lpc) := by
  intro f
  induction f with
  | zero => intro i s _ _ hf; omega
  | succ f ih =>
    intro i s hbi hile hf ho ht hroom
    simp only [fwdLoop]
    by_cases hil : i < lim
    · rw [if_pos hil]
      rcases fwdStep_nf (dstLen := dstLen) hpar hmm hlpc (by omega) hil hlim ho ht with ⟨e, he⟩ | ⟨r, hr, h1, h2, h3, h4, h5⟩
      · left; rw [he]; exact ⟨_, rfl⟩
      · rw [hr]
        simp only
        exact ih r.1 r.2 (by omega) h2 (by omega) h3 h4 h5
    · right
      rw [if_neg hil]
      exact ⟨_, rfl, by simp only; omega, ho, hroom, ht.ok⟩

theorem fwdLast_nf {a : Array Nat} {dstLen : Nat} : ∀ (k i : Nat) (s : FSt), 0 < i → i + k ≤ a.size → EncOk s →
    s.enc.out.size + 36 * k ≤ dstLen →
    ∃ s', fwdLast a dstLen k i s = .ok s' ∧ EncOk s' ∧ s'.enc.out.size ≤ s.enc.out.size + 36 * k := by
  intro k
  induction k with
  | zero => intro i s _ _ ho _; exact ⟨s, rfl, ho, by omega⟩
  | succ k ih =>
    intro i s hi0 hik ho hroom
    simp only [fwdLast]
    rw [if_neg (by omega), rd1_eq (by omega : i - 1 < a.size), rd1_eq (by omega : i < a.size)]
    simp only
    obtain ⟨s1, hs1⟩ := encLit9_nf (dstLen := dstLen) (c := a.getD (i - 1) 0) (val := 256 + a.getD i 0) ho (by omega)
    obtain ⟨o1, _, _, _, z2⟩ := encLit9_enc bytes_nil hs1 ho
    rw [hs1]
    simp only
    obtain ⟨s', hs', o', z'⟩ := ih (i + 1) s1 (by omega) (by omega) o1 (by omega)
    exact ⟨s', hs', o', by omega⟩

theorem dispose_nf {dstLen : Nat} {e : Enc} (h : e.out.size + 8 ≤ dstLen) : ∃ out, e.dispose dstLen = .ok out := by
  unfold Enc.dispose
  rw [if_pos h]
  exact ⟨_, rfl⟩

end Kanzi.ROLZ
