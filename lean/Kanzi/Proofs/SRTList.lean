/-
List combinatorics behind the sorted rank transform `transform.SRT`: `firsts` (the distinct symbols
of a list in order of first occurrence) and the facts about `idxOf` in it that make the forward
move-to-front ranks and the inverse "next occurrence" list agree.
-/
import Kanzi.Model.SRT

namespace Kanzi.SRT

def firsts : List Nat → List Nat
  | [] => []
  | x :: l => x :: (firsts l).erase x

theorem mem_firsts_nodup : ∀ (l : List Nat), (firsts l).Nodup ∧ ∀ a, a ∈ firsts l ↔ a ∈ l := by
  intro l
  induction l with
  | nil => simp [firsts]
  | cons x l ih =>
    obtain ⟨hn, hm⟩ := ih
    refine ⟨?_, ?_⟩
    · simp only [firsts, List.nodup_cons]
      exact ⟨by simp [hn.mem_erase_iff], hn.erase x⟩
    · intro a
      simp only [firsts, List.mem_cons, hn.mem_erase_iff, hm]
      by_cases h : a = x <;> simp [h]

theorem nodup_firsts (l : List Nat) : (firsts l).Nodup := (mem_firsts_nodup l).1
theorem mem_firsts {l : List Nat} {a : Nat} : a ∈ firsts l ↔ a ∈ l := (mem_firsts_nodup l).2 a

theorem firsts_of_nodup : ∀ {l : List Nat}, l.Nodup → firsts l = l := by
  intro l
  induction l with
  | nil => intro _; rfl
  | cons x l ih =>
    intro h
    rw [List.nodup_cons] at h
    simp only [firsts, ih h.2, List.erase_of_not_mem h.1]

theorem firsts_firsts (l : List Nat) : firsts (firsts l) = firsts l := firsts_of_nodup (nodup_firsts l)

theorem firsts_append (u v : List Nat) :
    firsts (u ++ v) = firsts u ++ (firsts v).filter (fun y => !(u.contains y)) := by
  induction u with
  | nil =>
    simp only [firsts, List.nil_append, List.contains_nil, Bool.not_false]
    exact (List.filter_eq_self.2 (fun _ _ => rfl)).symm
  | cons x u ih =>
    simp only [List.cons_append, firsts, ih]
    have hnd : (firsts u ++ (firsts v).filter (fun y => !(u.contains y))).Nodup := by
      rw [← ih]; exact nodup_firsts _
    rw [hnd.erase_eq_filter, (nodup_firsts u).erase_eq_filter, List.filter_append, List.filter_filter]
    congr 2
    apply List.filter_congr
    intro y _
    by_cases h : y = x
    · simp [h]
    · simp [h]

theorem firsts_append_cons {u : List Nat} {c : Nat} (v : List Nat) (hc : c ∉ u) :
    ∃ w, firsts (u ++ c :: v) = firsts u ++ c :: w := by
  rw [firsts_append]
  simp only [firsts, List.filter_cons]
  simp [hc]

theorem idxOf_firsts {u : List Nat} {c : Nat} (v : List Nat) (hc : c ∉ u) :
    (firsts (u ++ c :: v)).idxOf c = (firsts u).length := by
  obtain ⟨w, hw⟩ := firsts_append_cons v hc
  rw [hw, List.idxOf_append]
  simp [mem_firsts, hc]

theorem length_eq_of_nodup_mem {l l' : List Nat} (h : l.Nodup) (h' : l'.Nodup)
    (hm : ∀ a, a ∈ l ↔ a ∈ l') : l.length = l'.length :=
  ((List.perm_ext_iff_of_nodup h h').2 hm).length_eq

theorem firsts_length_congr {l l' : List Nat} (hm : ∀ a, a ∈ l ↔ a ∈ l') :
    (firsts l).length = (firsts l').length :=
  length_eq_of_nodup_mem (nodup_firsts l) (nodup_firsts l') (by intro a; simp [mem_firsts, hm])

theorem cons_erase_of_idxOf_zero {L : List Nat} {x : Nat} (hx : x ∈ L) (h0 : L.idxOf x = 0) :
    x :: L.erase x = L := by
  cases L with
  | nil => simp at hx
  | cons y t =>
    by_cases e : y = x
    · subst e; simp
    · rw [List.idxOf_cons] at h0
      have : (y == x) = false := by simp [e]
      rw [this] at h0
      simp at h0

theorem bytes_nodup_length_le {l : List Nat} (h : l.Nodup) (hb : ∀ x ∈ l, x < 256) : l.length ≤ 256 := by
  simpa using h.length_le_of_subset (l₂ := List.range 256) (fun x hx => List.mem_range.2 (hb x hx))

end Kanzi.SRT
