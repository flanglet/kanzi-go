/-
`EXECodec`, ARM64.  One iteration of `forwardARM` is undone by one iteration of
`inverseARM` (`arm_step_sim`, on a 4-byte aligned index below 2^28); with `loop_sim` and `section_roundtrip`,
`Inverse (Forward b) = b` for the ARM64 mode with the size bounds.
-/
import Kanzi.Proofs.EXEX86

namespace Kanzi.EXE
open Kanzi.RLT (Out wr wr_ok wr_cases)

theorem armInv_plain (ce dl b0 b1 b2 b3 : Nat) (tail : List Nat) (j d : Nat)
    (hbl : isBL (leVal [b0, b1, b2, b3]) = false) (hce : j + 4 ≤ ce) (hd : d + 4 ≤ dl) :
    armInvStep ce dl (b0 :: b1 :: b2 :: b3 :: tail) j d = .emit [b0, b1, b2, b3] 4 := by
  have h1 : ¬ (j + 4 > ce) := by omega
  have h2 : ¬ (d + 4 > dl) := by omega
  simp only [armInvStep, if_neg h1, if_neg h2, hbl, if_true]

theorem armInv_esc (ce dl v c0 c1 c2 c3 : Nat) (tail : List Nat) (j d : Nat) (hv : v < 2 ^ 32)
    (hbl : isBL v = true) (hesc : (armDec d v).2 = true) (hce : j + 8 ≤ ce) (hd : d + 4 ≤ dl) :
    armInvStep ce dl (le32Bytes v ++ c0 :: c1 :: c2 :: c3 :: tail) j d = .emit [c0, c1, c2, c3] 8 := by
  have h1 : ¬ (j + 4 > ce) := by omega
  have h2 : ¬ (d + 4 > dl) := by omega
  have h3 : ¬ (j + 8 > ce) := by omega
  have hl := leVal_le32Bytes v hv
  simp only [le32Bytes] at hl
  simp only [armInvStep, le32Bytes, List.cons_append, List.nil_append, if_neg h1, if_neg h2, hl, hbl, hesc,
    if_true, if_neg h3, Bool.true_eq_false, if_false]

theorem armInv_branch (ce dl v : Nat) (tail : List Nat) (j d : Nat) (hv : v < 2 ^ 32)
    (hbl : isBL v = true) (hesc : (armDec d v).2 = false) (hce : j + 4 ≤ ce) (hd : d + 4 ≤ dl) :
    armInvStep ce dl (le32Bytes v ++ tail) j d = .emit (le32Bytes (armDec d v).1) 4 := by
  have h1 : ¬ (j + 4 > ce) := by omega
  have h2 : ¬ (d + 4 > dl) := by omega
  have hl := leVal_le32Bytes v hv
  simp only [le32Bytes] at hl
  simp only [armInvStep, le32Bytes, List.cons_append, List.nil_append, if_neg h1, if_neg h2, hl, hbl, hesc,
    Bool.true_eq_false, if_false, Bool.false_eq_true]

theorem arm_step_sim (rest : List Nat) (i : Nat) (e : List Nat) (c dm : Nat)
    (hb : ∀ x ∈ rest, x < 256) (hi : i < 2 ^ 28) (hi4 : i % 4 = 0)
    (h : armFwdStep rest i = .emit e c dm) : c = 4 ∧ StepUndone armInvStep rest i e c := by
  match rest, hb, h with
  | b0 :: b1 :: b2 :: b3 :: r, hb, h =>
    have h0 : b0 < 256 := hb b0 (by simp)
    have h1 : b1 < 256 := hb b1 (by simp)
    have h2 : b2 < 256 := hb b2 (by simp)
    have h3 : b3 < 256 := hb b3 (by simp)
    have hin := leVal4_lt b0 b1 b2 b3 h0 h1 h2 h3
    have hbytes : ∀ y ∈ [b0, b1, b2, b3], y < 256 := by simp [*]
    simp only [armFwdStep] at h
    by_cases hbl : isBL (leVal [b0, b1, b2, b3]) = false
    · rw [if_pos hbl] at h
      cases h
      refine ⟨rfl, [b0, b1, b2, b3], rfl, rfl, by simp, hbytes, fun ce' dl tail j hce hd => ?_⟩
      exact armInv_plain ce' dl b0 b1 b2 b3 tail j i hbl hce (by omega)
    · rw [if_neg hbl] at h
      obtain ⟨hv, hvbl, hesc1, hesc0⟩ := arm_roundtrip i _ hin (Bool.of_not_eq_false hbl) hi4 hi
      by_cases hesc : (armEnc i (leVal [b0, b1, b2, b3])).2 = true
      · rw [if_pos hesc] at h
        cases h
        refine ⟨rfl, [b0, b1, b2, b3], rfl, rfl, by simp, ?_, fun ce' dl tail j hce hd => ?_⟩
        · intro y hy
          rcases List.mem_append.1 hy with hy | hy
          · exact le32Bytes_lt _ y hy
          · exact hbytes y hy
        · rw [List.append_assoc]
          exact armInv_esc ce' dl _ b0 b1 b2 b3 tail j i hv hvbl (hesc1 hesc) hce (by omega)
      · rw [if_neg hesc] at h
        cases h
        have hdec := hesc0 (Bool.of_not_eq_true hesc)
        refine ⟨rfl, [b0, b1, b2, b3], rfl, rfl, by simp, le32Bytes_lt _, fun ce' dl tail j hce hd => ?_⟩
        rw [armInv_branch ce' dl _ tail j i hv hvbl (by rw [hdec]) hce (by omega), hdec,
          le32Bytes_leVal _ _ _ _ h0 h1 h2 h3]
        rfl
  | [], _, h => cases h
  | [_], _, h => cases h
  | [_, _], _, h => cases h
  | [_, _, _], _, h => cases h

theorem armFwdStep_ne_emitStop (rest : List Nat) (i : Nat) (e : List Nat) (c : Nat) :
    armFwdStep rest i ≠ .emitStop e c := by
  intro h
  unfold armFwdStep at h
  split at h
  · simp only [] at h
    split at h
    · cases h
    · split at h <;> cases h
  · cases h

theorem armInvLoop_done (ce dl f : Nat) (rest : List Nat) (i : Nat) (out : Array Nat) (h : ¬ i < ce) :
    armInvLoop ce dl f rest i out = .ok (i, out) := by
  rw [armInvLoop_eq]
  exact invLoop_done _ ce dl f rest i out h

theorem fwdARM_roundtrip (src : List Nat) (dstLen : Nat) (cs ce : Int) (t : List Nat)
    (hb : ∀ x ∈ src, x < 256) (hlen : src.length ≤ MAX_BLOCK_SIZE)
    (h : fwdARM src dstLen cs ce = .ok t) :
    t.length ≤ src.length + src.length / 50 ∧ t.length + 8 ≤ dstLen ∧ (∀ y ∈ t, y < 256) ∧
      ∀ n, src.length ≤ n → exeInverse false t n = .ok src := by
  rw [MAX_BLOCK_SIZE_eq] at hlen
  unfold fwdARM at h
  obtain ⟨hchk, h⟩ := ok_of_ite_err h
  by_cases hd9 : dstLen < 9
  · rw [if_pos hd9] at h
    cases h
  rw [if_neg hd9] at h
  obtain ⟨hdcs, h⟩ := ok_of_ite_err h
  obtain ⟨st, hl, h⟩ := (Out.bind_eq_ok _ _ _).mp h
  obtain ⟨_, h⟩ := ok_of_ite_err h
  obtain ⟨_, h⟩ := ok_of_ite_err h
  obtain ⟨hroom, ht, htl⟩ := fwdFinish_ok _ _ _ _ _ _ _ _ h
  rw [armFwdLoop_eq] at hl
  have hcs4 : cs.toNat % 4 = 0 := by
    have hand : cs.toNat &&& 3 = 0 := Decidable.byContradiction fun h6 => hchk (Or.inr (Or.inr (Or.inr h6)))
    rw [← hand]
    exact (Nat.and_two_pow_sub_one_eq_mod cs.toNat 2).symm
  -- the source index stays 4-byte aligned
  have hsim : LoopUndone armInvStep (src.drop cs.toNat) cs.toNat
      (ARM64 :: List.replicate 8 0 ++ src.take cs.toNat).toArray st := by
    refine loop_sim (fun i => i % 4 = 0) dstLen (fun rest i d e c dm hb hi4 hgo hs => ?_) armFwdStep_ne_emitStop
      _ _ _ _ _ st (fun x hx => hb x (List.mem_of_mem_drop hx)) hcs4 hl
    obtain ⟨rfl, hu⟩ := arm_step_sim rest i e c dm hb (by omega) hi4 hs
    exact ⟨by omega, hu⟩
  obtain ⟨h1, h2, ⟨r, hr⟩, h9, h3⟩ := section_roundtrip (step := armInvStep) ARM64 8 (by decide) src t dstLen cs.toNat st hb
    (by omega) (by omega) hsim hroom ht htl
  refine ⟨htl, h1, h2, fun n hn => ?_⟩
  rw [hr, exeInverse_cons _ _ _ (by rw [← hr]; exact h9) (by omega), if_neg (by decide), if_pos rfl, ← hr]
  exact h3 n hn

end Kanzi.EXE
