/-
Proofs for the generic binary arithmetic coder: the decoder model, fed the code string of the pure
coder, follows it (`dec_bits`).  `Kanzi/Proofs/BinEnt.lean` has the pure coder and the encoder
(sections 1 to 4; the numbering runs on here).  `step_any`, `decodeBit_eq` and `read_facts` make no
assumption on `current`; `Kanzi/Proofs/BinDecCap.lean` builds the decoder's safety on arbitrary
input on them.
-/
import Kanzi.Proofs.BinEnt

namespace Kanzi.BinEnt
open Kanzi.Bits Kanzi.EntSmall

/-! ## 5. the decoder follows the pure coder -/

/-- decoder registers = pure state -/
def DRel (d : Dec σ) (s : σ) (l h : Nat) : Prop := d.ps = s ∧ d.low = l ∧ d.high = h

/-- the decoder's view: `current` then the unread payload bytes spell the code string `O`;
    the bytes `J` behind it (stale buffer content) are never needed -/
def View (d : Dec σ) (O : Bits) (J : List Nat) : Prop :=
  ∃ X, d.rem = X ++ J ∧ (∀ x ∈ X, x < 256) ∧ d.current < 2 ^ 56 ∧ natBits d.current 56 ++ ofBytes X = O

theorem view_cur (d : Dec σ) (O : Bits) (J : List Nat) (hv : View d O J) :
    d.current = bitsNat (O.take 56) := by
  obtain ⟨X, _, _, hc, hO⟩ := hv
  rw [← hO]
  have := take_append_len_add (natBits d.current 56) (ofBytes X) 56 0 (natBits_length _ _)
  rw [Nat.add_zero, List.take_zero, List.append_nil] at this
  rw [this, bitsNat_natBits, Nat.mod_eq_of_lt hc]

theorem dec_split (P : Pred σ) (d : Dec σ) (s : σ) (l h : Nat) (hr : DRel d s l h) (hi : Inv l h)
    (hp : OkP P.shift (P.get s)) : d.split P = psplit P.shift l h (P.get s) + l := by
  obtain ⟨h0, h1, h2⟩ := hr
  have hlt : l < h := by have := hi.lt; omega
  have hh := hi.hi
  have hb := psplit_bound P.shift l h (P.get s) hlt hh hp
  have hsl := psplit_lt P.shift l h (P.get s) hlt hp
  unfold Dec.split
  rw [h0, h1, h2]
  have e1 : (h + 2 ^ 64 - l) % 2 ^ 64 = h - l := by omega
  rw [e1, Nat.shiftRight_eq_div_pow, Nat.shiftRight_eq_div_pow, Nat.mod_eq_of_lt hb]
  show (psplit P.shift l h (P.get s) + l) % 2 ^ 64 = _
  omega

/-- the interval update of `DecodeBit` for ANY `current`: the new bounds are those of the pure coder
    for the bit that was decided -/
theorem step_any (P : Pred σ) (d : Dec σ) (hi : Inv d.low d.high) (hp : OkP P.shift (P.get d.ps)) :
    (d.step P).low = pl1 P.shift d.low d.high (P.get d.ps) (d.bit P) ∧
    (d.step P).high = ph1 P.shift d.low d.high (P.get d.ps) (d.bit P) := by
  have hs := dec_split P d d.ps d.low d.high ⟨rfl, rfl, rfl⟩ hi hp
  have hlt : d.low < d.high := by have := hi.lt; omega
  have hh := hi.hi
  have hsl := psplit_lt P.shift d.low d.high (P.get d.ps) hlt hp
  constructor
  · show (if d.bit P then d.low else (d.split P + 1) % 2 ^ 64) = _
    rw [hs]
    unfold pl1
    cases d.bit P
    · simp only [Bool.false_eq_true, if_false]; omega
    · simp only [if_true]
  · show (if d.bit P then d.split P else d.high) = _
    rw [hs]
    unfold ph1
    cases d.bit P
    · simp only [Bool.false_eq_true, if_false]
    · simp only [if_true]; omega

/-- `DecodeBit` for ANY `current`: the refill test `(low ^ high) >> 24 == 0` on the updated registers
    is the flush test of the pure coder for the decided bit -/
theorem decodeBit_eq (P : Pred σ) (d : Dec σ) (hi : Inv d.low d.high) (hp : OkP P.shift (P.get d.ps)) :
    d.decodeBit P =
      if pflush P.shift d.low d.high (P.get d.ps) (d.bit P) = true then
        match (d.step P).read with
        | .ok d2 => .ok (d.bit P, d2)
        | .error x => .error x
      else .ok (d.bit P, d.step P) := by
  obtain ⟨e1, e2⟩ := step_any P d hi hp
  have ht : ((d.step P).low ^^^ (d.step P).high) < 2 ^ 24
      ↔ pflush P.shift d.low d.high (P.get d.ps) (d.bit P) = true := by
    rw [xor_lt_iff, e1, e2, pflush, decide_eq_true_iff]
  unfold Dec.decodeBit
  by_cases hf : pflush P.shift d.low d.high (P.get d.ps) (d.bit P) = true
  · rw [if_pos hf, if_pos (ht.mpr hf)]
    cases (d.step P).read <;> rfl
  · rw [if_neg hf, if_neg (fun h => hf (ht.mp h))]

/-- the decision of `DecodeBit` when `current` is inside the sub-interval of the coded bit -/
theorem dec_bit_step (P : Pred σ) (d : Dec σ) (s : σ) (l h : Nat) (b : Bool) (hr : DRel d s l h)
    (hi : Inv l h) (hp : OkP P.shift (P.get s))
    (hc : pl1 P.shift l h (P.get s) b ≤ d.current ∧ d.current ≤ ph1 P.shift l h (P.get s) b) :
    d.bit P = b ∧ DRel (d.step P) (P.update s b) (pl1 P.shift l h (P.get s) b) (ph1 P.shift l h (P.get s) b) ∧
    (d.step P).current = d.current ∧ (d.step P).rem = d.rem ∧ (d.step P).buffer = d.buffer := by
  obtain ⟨rfl, rfl, rfl⟩ := hr
  have hs := dec_split P d d.ps d.low d.high ⟨rfl, rfl, rfl⟩ hi hp
  have hsl := psplit_lt P.shift d.low d.high (P.get d.ps) (by have := hi.lt; omega) hp
  have hbit : d.bit P = b := by
    unfold Dec.bit
    rw [hs]
    cases b
    · simp only [pl1, Bool.false_eq_true, if_false] at hc
      simp only [decide_eq_false_iff_not]
      omega
    · simp only [ph1, if_true] at hc
      simp only [decide_eq_true_eq]
      omega
  obtain ⟨e1, e2⟩ := step_any P d hi hp
  rw [hbit] at e1 e2
  exact ⟨hbit, ⟨by show P.update d.ps (d.bit P) = _; rw [hbit], e1, e2⟩, rfl, rfl, rfl⟩

/-- Go `read` when it succeeds: 32 bits leave the interval registers at the top -/
theorem read_facts (d d' : Dec σ) (h : d.read = .ok d') :
    d'.buffer = d.buffer ∧ d'.ps = d.ps ∧ d'.rem.length + 4 = d.rem.length ∧
    d'.low = (d.low % 2 ^ 24) * 2 ^ 32 ∧ d'.high = (d.high % 2 ^ 24) * 2 ^ 32 + (2 ^ 32 - 1) := by
  unfold Dec.read at h
  split at h
  · rename_i b0 b1 b2 b3 t hrem
    cases h
    refine ⟨rfl, rfl, by simp [hrem], ?_, ?_⟩
    · show (d.low <<< 32) &&& MASK_0_56 = _
      rw [and_mask56, Nat.shiftLeft_eq]; omega
    · show ((d.high <<< 32) ||| MASK_0_32) &&& MASK_0_56 = _
      rw [and_mask56, show MASK_0_32 = 2 ^ 32 - 1 from rfl, shl_or _ _ _ (by omega)]; omega
  · cases h

theorem dec_read (d : Dec σ) (b0 b1 b2 b3 : Nat) (t : List Nat) (hrem : d.rem = b0 :: b1 :: b2 :: b3 :: t)
    (hb : b0 < 256 ∧ b1 < 256 ∧ b2 < 256 ∧ b3 < 256) :
    ∃ d', d.read = .ok d' ∧ d'.ps = d.ps ∧ d'.low = (d.low % 2 ^ 24) * 2 ^ 32 ∧
      d'.high = (d.high % 2 ^ 24) * 2 ^ 32 + (2 ^ 32 - 1) ∧
      d'.current = (d.current % 2 ^ 24) * 2 ^ 32 + (b0 * 2 ^ 24 + b1 * 2 ^ 16 + b2 * 2 ^ 8 + b3) ∧
      d'.rem = t ∧ d'.buffer = d.buffer := by
  obtain ⟨d', hd, hc, ht⟩ : ∃ d', d.read = .ok d' ∧ d'.rem = t ∧ d'.current
      = ((d.current <<< 32) ||| (b0 * 2 ^ 24 + b1 * 2 ^ 16 + b2 * 2 ^ 8 + b3)) &&& MASK_0_56 := by
    unfold Dec.read
    rw [hrem]
    exact ⟨_, rfl, rfl, rfl⟩
  obtain ⟨g1, g2, _, g4, g5⟩ := read_facts d d' hd
  refine ⟨d', hd, g2, g4, g5, ?_, hc, g1⟩
  rw [ht, and_mask56, shl_or _ _ _ (by omega)]
  omega

/-- a refill seen from the view: when the code string goes on with a flushed word and at least 56
    more bits, four payload bytes are left, and `current` shifted by 32 bits and filled with them is
    the window on what follows the word -/
theorem view_refill (cur w : Nat) (X : List Nat) (O : Bits) (hX : ∀ x ∈ X, x < 256)
    (hO : natBits cur 56 ++ ofBytes X = natBits w 32 ++ O) (hlen : 56 ≤ O.length) :
    ∃ b0 b1 b2 b3 X', X = b0 :: b1 :: b2 :: b3 :: X' ∧ (b0 < 256 ∧ b1 < 256 ∧ b2 < 256 ∧ b3 < 256) ∧
      natBits ((cur % 2 ^ 24) * 2 ^ 32 + (b0 * 2 ^ 24 + b1 * 2 ^ 16 + b2 * 2 ^ 8 + b3)) 56 ++ ofBytes X' = O := by
  have hlenX : 4 ≤ X.length := by
    have := congrArg List.length hO
    rw [List.length_append, List.length_append, natBits_length, natBits_length, ofBytes_length] at this
    omega
  match X, hX, hO, hlenX with
  | b0 :: b1 :: b2 :: b3 :: X', hX, hO, _ =>
    have hb0 : b0 < 256 := hX b0 (by simp)
    have hb1 : b1 < 256 := hX b1 (by simp)
    have hb2 : b2 < 256 := hX b2 (by simp)
    have hb3 : b3 < 256 := hX b3 (by simp)
    refine ⟨b0, b1, b2, b3, X', rfl, ⟨hb0, hb1, hb2, hb3⟩, ?_⟩
    -- split the old `current` and the 4 bytes
    have hs1 : natBits cur 56 = natBits (cur / 2 ^ 24) 32 ++ natBits (cur % 2 ^ 24) 24 := by
      rw [← natBits_append (cur / 2 ^ 24) (cur % 2 ^ 24) 32 24 (Nat.mod_lt _ (by decide)), Nat.div_add_mod']
    have hs2 : ofBytes (b0 :: b1 :: b2 :: b3 :: X')
        = natBits (b0 * 2 ^ 24 + b1 * 2 ^ 16 + b2 * 2 ^ 8 + b3) 32 ++ ofBytes X' := by
      rw [show b0 :: b1 :: b2 :: b3 :: X' = [b0, b1, b2, b3] ++ X' from rfl, ofBytes_append,
        ofBytes_four b0 b1 b2 b3 hb0 hb1 hb2 hb3]
    rw [hs1, hs2, List.append_assoc] at hO
    rw [show (56 : Nat) = 24 + 32 from rfl, natBits_append _ _ 24 32 (by omega), List.append_assoc]
    exact (List.append_inj hO (by rw [natBits_length, natBits_length])).2

theorem acc_shift (acc t X y : Nat) : (2 * acc + t) * X + y = acc * (X * 2) + (t * X + y) := by
  rw [Nat.add_mul, Nat.mul_comm 2 acc, Nat.mul_assoc, Nat.mul_comm 2 X, Nat.add_assoc]

/-- **decoder correctness at bit level.**  A decoder whose registers equal the pure state and
    whose view is the code string of `bits ++ more` decodes exactly `bits`, ends with registers
    equal to the pure state after `bits` and with the view of the code string of `more`. -/
theorem dec_bits (P : Pred σ) {R : σ → Prop} (hP : P.Safe R) (bits : List Bool) :
    ∀ (more : List Bool) (s : σ) (l h : Nat) (d : Dec σ) (J : List Nat) (acc : Nat),
    R s → Inv l h → DRel d s l h → View d (pOut P s l h (bits ++ more)) J →
    ∃ d', d.decodeBitsAcc P bits.length acc = .ok (acc * 2 ^ bits.length + bitsNat bits, d') ∧
      DRel d' (pFin P s l h bits).1 (pFin P s l h bits).2.1 (pFin P s l h bits).2.2 ∧
      View d' (pOut P (pFin P s l h bits).1 (pFin P s l h bits).2.1 (pFin P s l h bits).2.2 more) J ∧
      d'.buffer = d.buffer := by
  induction bits with
  | nil =>
    intro more s l h d J acc _ _ hr hv
    refine ⟨d, ?_, hr, hv, rfl⟩
    simp [Dec.decodeBitsAcc, Bits.bitsNat_nil]
  | cons b bs ih =>
    intro more s l h d J acc hs hi hr hv
    obtain ⟨rfl, rfl, rfl⟩ := hr
    have hp := hP.range d.ps hs
    obtain ⟨f1, f2, f3, f4⟩ := step_facts P.shift d.low d.high (P.get d.ps) b hi hp
    have hh := hi.hi
    have hcur : d.current = win P d.ps d.low d.high (b :: (bs ++ more)) := view_cur d _ J hv
    have hrange := win_cons_range P hP d.ps d.low d.high b (bs ++ more) hs hi
    rw [← hcur] at hrange
    obtain ⟨hbit, hr1, hc1, hrem1, hbuf1⟩ := dec_bit_step P d d.ps d.low d.high b ⟨rfl, rfl, rfl⟩ hi hp hrange
    simp only [List.length_cons, Dec.decodeBitsAcc, pFin]
    rw [decodeBit_eq P d hi hp, hbit]
    cases hf : pflush P.shift d.low d.high (P.get d.ps) b
    · -- no flush
      obtain ⟨_, e2, e3⟩ := p2_noflush _ _ _ _ _ hf
      rw [if_neg Bool.false_ne_true]
      have hv1 : View (d.step P) (pOut P (P.update d.ps b) (pl2 P.shift d.low d.high (P.get d.ps) b) (ph2 P.shift d.low d.high (P.get d.ps) b) (bs ++ more)) J := by
        rw [← pOut_cons_noflush P d.ps d.low d.high b (bs ++ more) hf]
        obtain ⟨X, hX1, hX2, hX3, hX4⟩ := hv
        exact ⟨X, by rw [hrem1]; exact hX1, hX2, by rw [hc1]; exact hX3, by rw [hc1]; exact hX4⟩
      have hr1' : DRel (d.step P) (P.update d.ps b) (pl2 P.shift d.low d.high (P.get d.ps) b) (ph2 P.shift d.low d.high (P.get d.ps) b) := by
        rw [e2, e3]; exact hr1
      obtain ⟨d', hd', hr', hv', hb'⟩ := ih more _ _ _ (d.step P) J (2 * acc + b.toNat)
        (hP.step d.ps b hs) f4 hr1' hv1
      refine ⟨d', ?_, hr', hv', by rw [hb', hbuf1]⟩
      show Dec.decodeBitsAcc P bs.length (d.step P) (2 * acc + b.toNat) = _
      rw [hd', bitsNat_cons, Nat.pow_succ, acc_shift]
    · -- flush: 32 more bits are read
      obtain ⟨_, e2, e3⟩ := p2_flush _ _ _ _ _ hf
      rw [if_pos rfl]
      obtain ⟨X, hX1, hX2, hX3, hX4⟩ := hv
      rw [List.cons_append, pOut_cons_flush P d.ps d.low d.high b (bs ++ more) hh f3 hf] at hX4
      obtain ⟨b0, b1, b2, b3, X', rfl, hb, hO'⟩ := view_refill d.current _ X _ hX2 hX4
        (by rw [pOut_length]; omega)
      have hrem : (d.step P).rem = b0 :: b1 :: b2 :: b3 :: (X' ++ J) := by rw [hrem1, hX1]; rfl
      obtain ⟨d2, hd2, hps2, hl2, hh2, hc2, hrem2, hbuf2⟩ := dec_read (d.step P) b0 b1 b2 b3 (X' ++ J) hrem hb
      rw [hd2]
      have hr2 : DRel d2 (P.update d.ps b) (pl2 P.shift d.low d.high (P.get d.ps) b) (ph2 P.shift d.low d.high (P.get d.ps) b) :=
        ⟨by rw [hps2]; exact hr1.1, by rw [hl2, hr1.2.1, e2], by rw [hh2, hr1.2.2, e3]⟩
      have hv2 : View d2 (pOut P (P.update d.ps b) (pl2 P.shift d.low d.high (P.get d.ps) b) (ph2 P.shift d.low d.high (P.get d.ps) b) (bs ++ more)) J :=
        ⟨X', hrem2, fun x hx => hX2 x (by simp [hx]), by rw [hc2]; omega, by rw [hc2, hc1]; exact hO'⟩
      obtain ⟨d', hd', hr', hv', hb'⟩ := ih more _ _ _ d2 J (2 * acc + b.toNat)
        (hP.step d.ps b hs) f4 hr2 hv2
      refine ⟨d', ?_, hr', hv', by rw [hb', hbuf2, hbuf1]⟩
      show Dec.decodeBitsAcc P bs.length d2 (2 * acc + b.toNat) = _
      rw [hd', bitsNat_cons, Nat.pow_succ, acc_shift]

end Kanzi.BinEnt
