/-
Text codecs: the lock-step simulation between the list specifications `encL` (Forward) and `decL` (Inverse).
First the relation between the two dictionaries (`DictSim`: same map, same entries; the decoder's `dictSize`,
chosen from `len(dst)`, may be larger: its extra entries are still empty) and its preservation by `learn`;
then the invariant `Sim` between the state of `encL` after a prefix of the source and the state of `decL` after
the bytes emitted (and still pending) for that prefix, its preservation by every kind of encoder step
(`sim_text`, `sim_escape`, `sim_event`), and the induction over the whole block (`sim_step`, `sim_main`).
In between: what `decL` does with each kind of token, and why the look-up of Forward is exact (`found_word`).
-/
import Kanzi.Proofs.TextRefine

namespace Kanzi.Text
open Kanzi.RLT (Out Res wr)

/-- the encoder's dictionary `dE` and the decoder's dictionary `dD` hold the same words -/
structure DictSim (dE dD : Dict) : Prop where
  map_eq : dD.map = dE.map
  ssz_eq : dD.ssz = dE.ssz
  hsz_eq : dD.hsz = dE.hsz
  size_le : dE.size ≤ dD.size
  entry : ∀ k, entryAt dD k =
    if k < dE.size then entryAt dE k else if k < dD.size then Entry.fresh k else Entry.zero

theorem DictSim.findEntry {dE dD : Dict} (h : DictSim dE dD) (x : Nat) : findEntry dD x = findEntry dE x := by
  unfold Kanzi.Text.findEntry
  rw [h.map_eq, h.hsz_eq]

theorem DictSim.entry_lt {dE dD : Dict} (h : DictSim dE dD) (k : Nat) (hk : k < dE.size) :
    entryAt dD k = entryAt dE k := by
  rw [h.entry k, if_pos hk]

theorem entryAt_ge (d : Dict) (w k : Nat) (hd : DictOK d w) (hk : d.size ≤ k) : entryAt d k = Entry.zero := by
  unfold entryAt
  exact getD_of_ge _ _ _ (by rw [hd.size_eq]; exact hk)

theorem learnCore_sim (dE dD : Dict) (w : Nat) (word : List Nat) (h1 : Nat) (hE : DictOK dE w) (hD : DictOK dD w)
    (hs : DictSim dE dD) : DictSim (learnCore dE w word h1) (learnCore dD w word h1) := by
  refine ⟨?_, hs.ssz_eq, hs.hsz_eq, hs.size_le, ?_⟩
  · rw [learnCore_map, learnCore_map, hs.map_eq, hs.hsz_eq, hs.entry_lt w hE.words_lt]
  · intro k
    rw [learnCore_entry dD w word h1 k (DictOK_iff.mp hD), learnCore_entry dE w word h1 k (DictOK_iff.mp hE)]
    have hsz : ∀ d : Dict, (learnCore d w word h1).size = d.size := fun _ => rfl
    rw [hsz, hsz]
    by_cases c : k = w
    · rw [if_pos c, if_pos c, if_pos (by rw [c]; exact hE.words_lt)]
    · rw [if_neg c, if_neg c]
      exact hs.entry k

theorem pow_two_lt_double {a b : Nat} (h : 2 ^ a < 2 ^ b) : 2 ^ a * 2 ≤ 2 ^ b := by
  have hab : a < b := (Nat.pow_lt_pow_iff_right (by decide)).mp h
  calc 2 ^ a * 2 = 2 ^ (a + 1) := (Nat.pow_succ ..).symm
    _ ≤ 2 ^ b := Nat.pow_le_pow_right (by decide) hab

theorem expand_entry (d : Dict) (w k : Nat) (hd : DictOK d w) :
    entryAt (expand d) k =
      if k < d.size then entryAt d k else if k < 2 * d.size then Entry.fresh k else Entry.zero := by
  obtain ⟨h1, h2⟩ := expand_list d (Nat.le_of_eq hd.size_eq.symm)
  by_cases c : k < 2 * d.size
  · rw [h2 k c]
    by_cases c1 : k < d.size
    · rw [if_pos c1, if_pos c1]
    · rw [if_neg c1, if_neg c1, if_pos c]
  · rw [if_neg (by omega), if_neg c]
    exact getD_of_ge _ _ _ (by rw [h1, hd.size_eq]; omega)

theorem sim_expand_both (dE dD : Dict) (w : Nat) (hE : DictOK dE w) (hD : DictOK dD w) (hs : DictSim dE dD)
    (he : dD.size = dE.size) : DictSim (expand dE) (expand dD) := by
  refine ⟨by rw [expand_map, expand_map]; exact hs.map_eq, hs.ssz_eq, hs.hsz_eq,
    by rw [expand_size, expand_size]; omega, ?_⟩
  intro k
  rw [expand_entry dD w k hD, expand_entry dE w k hE, hs.entry k, he, expand_size, expand_size, he]
  by_cases c1 : k < dE.size
  · rw [if_pos c1, if_pos c1, if_pos (by omega), if_pos c1]
  · rw [if_neg c1, if_neg c1]
    by_cases c2 : k < 2 * dE.size
    · rw [if_pos c2, if_pos (by omega)]
    · rw [if_neg c2, if_neg (by omega), if_neg (by omega)]

theorem sim_expand_enc (dE dD : Dict) (w : Nat) (hE : DictOK dE w) (hs : DictSim dE dD)
    (hdbl : dE.size * 2 ≤ dD.size) : DictSim (expand dE) dD := by
  refine ⟨by rw [expand_map]; exact hs.map_eq, hs.ssz_eq, hs.hsz_eq, by rw [expand_size]; exact hdbl, ?_⟩
  intro k
  rw [expand_entry dE w k hE, hs.entry k, expand_size]
  by_cases c1 : k < dE.size
  · rw [if_pos c1, if_pos (by omega), if_pos c1]
  · rw [if_neg c1]
    by_cases c2 : k < 2 * dE.size
    · rw [if_pos (show k < dD.size by omega), if_pos (by omega), if_neg c1, if_pos c2]
    · rw [if_neg (show ¬ k < dE.size * 2 by omega)]

theorem learnNext_sim (dE dD : Dict) (w : Nat) (hE : DictOK dE w) (hD : DictOK dD w) (hs : DictSim dE dD) :
    DictSim (learnNext dE w).1 (learnNext dD w).1 ∧ (learnNext dD w).2 = (learnNext dE w).2 := by
  obtain ⟨a, ea⟩ := hE.size_pow
  obtain ⟨b, eb⟩ := hD.size_pow
  have hle := hs.size_le
  have hwE := hE.words_lt
  have hwD := hD.words_lt
  have hmE := hE.size_le
  have hmD := hD.size_le
  unfold learnNext
  by_cases c1 : w + 1 ≥ dE.size
  · rw [if_pos c1]
    by_cases c2 : dE.size ≥ MAX_DICT_SIZE
    · -- both are at the maximal size: both wrap
      rw [if_pos c2, if_pos (by omega), if_pos (by omega)]
      exact ⟨hs, hs.ssz_eq⟩
    · rw [if_neg c2]
      by_cases c3 : w + 1 ≥ dD.size
      · -- same size: both expand
        rw [if_pos c3, if_neg (by omega)]
        exact ⟨sim_expand_both dE dD w hE hD hs (by omega), rfl⟩
      · -- the decoder's dictionary is larger: only the encoder expands, into entries the decoder has already
        rw [if_neg c3]
        have hlt : dE.size < dD.size := by omega
        have hdbl : dE.size * 2 ≤ dD.size := by
          rw [ea, eb] at hlt ⊢
          exact pow_two_lt_double hlt
        exact ⟨sim_expand_enc dE dD w hE hs hdbl, rfl⟩
  · rw [if_neg c1, if_neg (by omega)]
    exact ⟨hs, rfl⟩

/-- when the ring index reaches the encoder's smaller `dictSize` only the encoder expands, into entries the
    decoder holds already: sizes are powers of two, `learnNext_sim` -/
theorem learn_sim (dE dD : Dict) (w : Nat) (word : List Nat) (hE : DictOK dE w) (hD : DictOK dD w)
    (hs : DictSim dE dD) (ht : ∀ b ∈ word, isText b = true) :
    ∃ dE' dD' w', learn dE w word (hashWord word) = .ok (dE', w') ∧ learn dD w word (hashWord word) = .ok (dD', w') ∧
      DictOK dE' w' ∧ DictOK dD' w' ∧ DictSim dE' dD' := by
  have hcE := learnCore_ok dE w word hE ht
  have hcD := learnCore_ok dD w word hD ht
  have hcs := learnCore_sim dE dD w word (hashWord word) hE hD hs
  obtain ⟨hsim, hw⟩ := learnNext_sim _ _ w hcE hcD hcs
  have hokD := learnNext_ok _ _ hcD
  rw [hw] at hokD
  refine ⟨_, _, _, learn_eq dE w word _ (DictOK_iff.mp hE), ?_, learnNext_ok _ _ hcE, hokD, hsim⟩
  rw [learn_eq dD w word _ (DictOK_iff.mp hD)]
  congr 1
  exact Prod.ext rfl hw

/-! ## what the decoder does with each kind of token (continuation form: `L` is the rest of the input) -/

theorem isText_ge128 (c : Nat) (h : 128 ≤ c) : isText c = false := by
  unfold isText isLower
  have : c ≤ c ||| 0x20 := Nat.left_le_or
  simp only [decide_eq_false_iff_not]
  omega

theorem isDelimiter_lt (c : Nat) (h : isDelimiter c = true) : c < 128 := by
  unfold isDelimiter at h
  simp only [Bool.or_eq_true, decide_eq_true_eq, beq_iff_eq] at h
  omega

theorem isDelimiter_not_text (c : Nat) (h : isDelimiter c = true) : isText c = false := by
  have hlt := isDelimiter_lt c h
  have : ∀ c, c < 128 → isDelimiter c = true → isText c = false := by decide
  exact this c hlt h

theorem learnL_nondelim (pw : Option (List Nat)) (w : Nat) (d : Dict) (c : Nat) (h : isDelimiter c = false) :
    learnL pw w d c = .ok (d, w) := by
  unfold learnL
  cases pw with
  | none => rfl
  | some word =>
    simp only
    rw [if_neg (by rw [h]; intro hc; exact absurd hc.2.1 (by decide))]

theorem learnL_short (v : List Nat) (w : Nat) (d : Dict) (c : Nat) (h : v.length < 3) :
    learnL (some v) w d c = .ok (d, w) := by
  unfold learnL
  simp only
  rw [if_neg (by omega)]

theorem learnL_none (w : Nat) (d : Dict) (c : Nat) : learnL none w d c = .ok (d, w) := rfl

theorem decL_letters (tc2 : Bool) (n : Nat) (crlf : Bool) : ∀ (w L : List Nat) (t : DS) (v : List Nat),
    (∀ b ∈ w, isText b = true) → t.pw = some v → t.out.length + w.length ≤ n →
    decL tc2 n crlf (w ++ L) t = decL tc2 n crlf L { t with pw := some (v ++ w), out := t.out ++ w }
  | [], L, t, v, _, hpw, _ => by
    cases t
    simp only at hpw
    simp only [List.nil_append, List.append_nil, hpw]
  | c :: w, L, t, v, hw, hpw, hroom => by
    rw [List.cons_append, decL]
    simp only [List.length_cons] at hroom
    rw [if_pos (by omega)]
    have hc : isText c = true := hw c (List.mem_cons_self ..)
    unfold decStep
    rw [if_pos hc]
    simp only [List.drop_zero]
    rw [decL_letters tc2 n crlf w L _ (v ++ [c]) (fun b hb => hw b (List.mem_cons_of_mem _ hb))
      (by simp only [hpw, pwPush]) (by simp only [List.length_append, List.length_cons, List.length_nil]; omega)]
    simp only [List.append_assoc, List.cons_append, List.nil_append]

/-- one iteration at a non-letter byte `cur` whose token part consumes the bytes `l` -/
theorem decL_step {tc2 : Bool} {n : Nat} {crlf : Bool} {cur : Nat} (l : List Nat) {L : List Nat} {t s' : DS}
    {d' : Dict} {w' : Nat} (hroom : t.out.length < n) (hnt : isText cur = false)
    (hl : learnL t.pw t.words t.d cur = .ok (d', w'))
    (htok : tokL tc2 n crlf { t with d := d', words := w' } cur (l ++ L) = .ok (s', l.length)) :
    decL tc2 n crlf (cur :: (l ++ L)) t = decL tc2 n crlf L s' := by
  rw [decL, if_pos hroom]
  unfold decStep
  rw [if_neg (by rw [hnt]; decide), hl]
  simp only
  rw [htok]
  simp only [List.drop_left]

theorem decL_lit (tc2 : Bool) (n : Nat) (crlf : Bool) (c : Nat) (L : List Nat) (t t' : DS) (d' : Dict) (w' : Nat)
    (hroom : t.out.length < n) (hnt : isText c = false)
    (hplain : if tc2 = true then c < 128 ∧ c ≠ ESCAPE_TOKEN1 else c ≠ ESCAPE_TOKEN1 ∧ c ≠ ESCAPE_TOKEN2)
    (hl : learnL t.pw t.words t.d c = .ok (d', w'))
    (hlit : litL n crlf { t with d := d', words := w' } c = .ok t') :
    decL tc2 n crlf (c :: L) t = decL tc2 n crlf L t' := by
  refine decL_step [] hroom hnt hl ?_
  unfold tokL
  cases tc2
  · simp only [Bool.false_eq_true, if_false] at hplain ⊢
    rw [if_neg (by intro h; rcases h with h | h; exact hplain.1 h; exact hplain.2 h), hlit]
    rfl
  · simp only [if_true] at hplain ⊢
    rw [if_neg (by omega), if_neg hplain.2, hlit]
    rfl

theorem emitWordL_word (n : Nat) (t : DS) (idx flip : Nat) (w : List Nat) (hi : idx < t.d.list.size)
    (hp : (entryAt t.d idx).ptr = some w) (hl : (entryAt t.d idx).len = w.length) (h2 : 2 ≤ w.length)
    (h256 : w.length < 256)
    (hroom : (if t.run = true then t.out ++ [32] else t.out).length + w.length < n) :
    emitWordL n t idx flip = .ok ⟨none, t.words, true, t.d,
      (if t.run = true then t.out ++ [32] else t.out) ++ flipHead flip w⟩ := by
  unfold emitWordL
  rw [if_neg (by omega), hp]
  simp only
  rw [hl, Nat.mod_eq_of_lt h256]
  have hg : w.length > 1 := by omega
  simp only [hg, true_and, if_true, decide_true, List.take_length]
  rw [if_neg (by omega)]

theorem emitWordL_esc (n : Nat) (t : DS) (idx c : Nat) (hi : idx < t.d.list.size)
    (he : entryAt t.d idx = ⟨0, 1, idx, some [c]⟩) (hroom : t.out.length + 1 < n) :
    emitWordL n t idx 0 = .ok ⟨some [], t.words, false, t.d, t.out ++ [c]⟩ := by
  unfold emitWordL
  rw [if_neg (by omega), he]
  simp only [Nat.reduceMod, Nat.lt_irrefl, false_and, if_false, decide_false, gt_iff_lt]
  rw [if_neg (by omega)]
  simp [flipHead]

/-- codec 1: an escaped 0x0E / 0x0F (token `0x0F` + the index of the special entry) -/
theorem decL_esc1 (n : Nat) (crlf : Bool) (c idx : Nat) (L : List Nat) (t : DS)
    (hroom : t.out.length + 1 < n) (hi : idx < t.d.list.size) (hs : idx < t.d.size) (h19 : idx < 2 ^ 19)
    (he : entryAt t.d idx = ⟨0, 1, idx, some [c]⟩) :
    decL false n crlf (ESCAPE_TOKEN1 :: (wordIndex1 idx ++ L)) t =
      decL false n crlf L ⟨some [], t.words, false, t.d, t.out ++ [c]⟩ := by
  obtain ⟨tpw, tw, trun, td, tout⟩ := t
  simp only at hroom hi hs he ⊢
  refine decL_step (wordIndex1 idx) (by simp only; omega) (by decide) (learnL_nondelim _ _ _ _ (by decide)) ?_
  unfold tokL
  simp only [Bool.false_eq_true, if_false, true_or, if_true]
  have hr := readIdx1_wordIndex1 [] L idx td.size h19 hs
  simp only [List.nil_append, List.length_nil, Nat.zero_add] at hr
  rw [hr]
  simp only
  rw [if_neg (by decide), emitWordL_esc n ⟨tpw, tw, trun, td, tout⟩ idx c hi he hroom]

/-- codec 2: an escaped byte (`0x0F` + the byte) -/
theorem decL_esc2 (n : Nat) (crlf : Bool) (b : Nat) (L : List Nat) (t : DS)
    (hroom : t.out.length < n) :
    decL true n crlf (ESCAPE_TOKEN1 :: b :: L) t =
      decL true n crlf L ⟨some [], t.words, false, t.d, t.out ++ [b]⟩ := by
  obtain ⟨tpw, tw, trun, td, tout⟩ := t
  refine decL_step [b] hroom (by decide) (learnL_nondelim _ _ _ _ (by decide)) ?_
  unfold tokL
  simp only [if_true]
  rw [if_neg (by decide)]
  rfl

theorem decL_word1 (n : Nat) (crlf : Bool) (via : Bool) (idx : Nat) (w L : List Nat) (t : DS)
    (hroom0 : t.out.length < n) (hi : idx < t.d.list.size) (hs : idx < t.d.size) (h19 : idx < 2 ^ 19)
    (hp : (entryAt t.d idx).ptr = some w) (hl : (entryAt t.d idx).len = w.length) (h2 : 2 ≤ w.length)
    (h256 : w.length < 256)
    (hroom : (if t.run = true then t.out ++ [32] else t.out).length + w.length < n)
    (hlearn : ∀ c, isDelimiter c = false → learnL t.pw t.words t.d c = .ok (t.d, t.words)) :
    decL false n crlf ((if via = true then ESCAPE_TOKEN1 else ESCAPE_TOKEN2) :: (wordIndex1 idx ++ L)) t =
      decL false n crlf L ⟨none, t.words, true, t.d,
        (if t.run = true then t.out ++ [32] else t.out) ++ flipHead (if via = true then 0 else 0x20) w⟩ := by
  obtain ⟨tpw, tw, trun, td, tout⟩ := t
  simp only at hroom0 hi hs hp hl hroom hlearn ⊢
  have hnt : isText (if via = true then ESCAPE_TOKEN1 else ESCAPE_TOKEN2) = false := by cases via <;> decide
  have hnd : isDelimiter (if via = true then ESCAPE_TOKEN1 else ESCAPE_TOKEN2) = false := by cases via <;> decide
  refine decL_step (wordIndex1 idx) hroom0 hnt (hlearn _ hnd) ?_
  unfold tokL
  simp only [Bool.false_eq_true, if_false]
  rw [if_pos (by cases via <;> simp)]
  have hr := readIdx1_wordIndex1 [] L idx td.size h19 hs
  simp only [List.nil_append, List.length_nil, Nat.zero_add] at hr
  rw [hr]
  simp only
  have hfl : (if (if via = true then ESCAPE_TOKEN1 else ESCAPE_TOKEN2) = ESCAPE_TOKEN2 then 0x20 else 0) =
      (if via = true then 0 else 0x20) := by cases via <;> decide
  rw [hfl, emitWordL_word n ⟨tpw, tw, trun, td, tout⟩ idx _ w hi hp hl h2 h256 hroom]

theorem not_delim_ge128 (c : Nat) (h : 128 ≤ c) : isDelimiter c = false := by
  cases hd : isDelimiter c with
  | false => rfl
  | true => have := isDelimiter_lt c hd; omega

theorem decL_word2 (n : Nat) (crlf : Bool) (via : Bool) (idx c : Nat) (tl w L : List Nat) (t : DS)
    (hw2 : wordIndex2 idx = c :: tl)
    (hroom0 : t.out.length < n) (hi : idx < t.d.list.size) (hs : idx < t.d.size) (h19 : idx < 2 ^ 19)
    (hp : (entryAt t.d idx).ptr = some w) (hl : (entryAt t.d idx).len = w.length) (h2 : 2 ≤ w.length)
    (h256 : w.length < 256)
    (hroom : (if t.run = true then t.out ++ [32] else t.out).length + w.length < n)
    (hlearn : ∀ c, isDelimiter c = false → learnL t.pw t.words t.d c = .ok (t.d, t.words)) :
    decL true n crlf ((if via = true then [] else [MASK_FLIP_CASE]) ++ (c :: tl) ++ L) t =
      decL true n crlf L ⟨none, t.words, true, t.d,
        (if t.run = true then t.out ++ [32] else t.out) ++ flipHead (if via = true then 0 else 0x20) w⟩ := by
  obtain ⟨tpw, tw, trun, td, tout⟩ := t
  simp only at hroom0 hi hs hp hl hroom hlearn ⊢
  obtain ⟨c', tl', e', hc128, _⟩ := wordIndex2_head idx h19
  rw [hw2] at e'
  obtain ⟨rfl, rfl⟩ := List.cons.inj e'
  cases via
  · -- flip marker first
    simp only [Bool.false_eq_true, if_false, List.cons_append, List.nil_append]
    refine decL_step (c :: tl) hroom0 (by decide) (hlearn _ (by decide)) ?_
    unfold tokL
    simp only [if_true]
    rw [if_pos (by decide)]
    have hr := readIdx2_flip [] L tl c idx td.size h19 hs hw2
    simp only [List.nil_append, List.length_nil, Nat.zero_add] at hr
    rw [List.cons_append, hr]
    simp only
    rw [emitWordL_word n ⟨tpw, tw, trun, td, tout⟩ idx _ w hi hp hl h2 h256 hroom, Nat.add_comm 1]
    rfl
  · simp only [if_true, List.nil_append, List.cons_append]
    refine decL_step tl hroom0 (isText_ge128 c (by omega)) (hlearn _ (not_delim_ge128 c (by omega))) ?_
    unfold tokL
    simp only [if_true]
    rw [if_pos (by omega)]
    have hr := readIdx2_plain [] L tl c idx td.size h19 hs hw2
    simp only [List.nil_append, List.length_nil, Nat.zero_add] at hr
    rw [hr]
    simp only
    rw [emitWordL_word n ⟨tpw, tw, trun, td, tout⟩ idx _ w hi hp hl h2 h256 hroom]

/-! ## the look-up of Forward is exact, and both sides take the same decision to learn -/

theorem sameTail_drop (w pw : List Nat) (hl : w.length = pw.length) (h : sameTail w pw = true) :
    w.drop 1 = pw.drop 1 := by
  unfold sameTail at h
  rw [← hl, List.take_length] at h
  simpa using h

theorem flipHead_zero (w : List Nat) : flipHead 0 w = w := by
  cases w with
  | nil => rfl
  | cons a t => simp [flipHead]

/-- an entry `k` that sits in the slot of `hashWord (x0 :: pt)`, hits, and has the tail of the looked-up word
    `p0 :: pt` holds `x0 :: pt`: equal hashes and equal tails decide the first byte -/
theorem found_via (d : Dict) (words x0 p0 : Nat) (pt w : List Nat) (k : Nat) (hd : DictOK d words) (hx : x0 < 256)
    (h2 : 2 ≤ (p0 :: pt).length) (hf : findEntry d (hashWord (x0 :: pt)) = some k)
    (c : hit d (some k) (hashWord (x0 :: pt)) (p0 :: pt).length = true)
    (hp : (entryAt d k).ptr = some w) (cs : sameTail w (p0 :: pt) = true) :
    w = x0 :: pt ∧ (entryAt d k).len = w.length ∧ w.length = (p0 :: pt).length ∧ k < d.list.size ∧
      (entryAt d k).idx = k ∧ (entryAt d k).hash % d.hsz = hashWord (x0 :: pt) % d.hsz := by
  obtain ⟨hhash, hlen⟩ := hit_some d k _ _ c
  obtain ⟨w', hw', hwl, hwh, hwt⟩ := entry_ptr_of_map d words _ k _ (DictOK_iff.mp hd) hf hlen h2
  rw [hp] at hw'
  cases hw'
  have htl := sameTail_drop w (p0 :: pt) hwl cs
  obtain ⟨w0, wt, rfl⟩ : ∃ w0 wt, w = w0 :: wt := by
    cases w with
    | nil => simp at hwl
    | cons a t => exact ⟨a, t, rfl⟩
  simp only [List.drop_succ_cons, List.drop_zero] at htl
  subst htl
  have hw0 : w0 < 128 := isText_lt (hwt w0 (List.mem_cons_self ..))
  have e0 : w0 = x0 := hashWord_first w0 x0 wt (by omega) hx (by rw [← hwh, hhash])
  have hk := hd.map _ _ (findEntry_some d _ k hf)
  rw [hhash] at hk
  exact ⟨by rw [e0], by rw [hlen, hwl], hwl, hk.1, (hd.entry k hk.1).1, by rw [hhash]⟩

/-- a word found by Forward: the entry holds the word itself (found through `h1`: `pe == pe1`) or the word
    with the case bit of its first letter flipped (found through `h2`: `pe != pe1`); the decoder, which applies
    the flip announced by the token, reproduces the word.  `6 ≤ lh ≤ 32`: the word and its flipped twin never
    share a slot (`hashWord_flip_slot`), so `pe == pe1` tells the two cases apart -/
theorem found_word (d : Dict) (words lh : Nat) (pw : List Nat) (k : Nat) (p1 : Option Nat)
    (hd : DictOK d words) (hh : d.hsz = 2 ^ lh) (h6 : 6 ≤ lh) (h32 : lh ≤ 32)
    (ht : ∀ b ∈ pw, isText b = true) (h2 : 2 ≤ pw.length)
    (h : fwdLookup d pw = .ok (some k, p1)) :
    ∃ w, (entryAt d k).ptr = some w ∧ (entryAt d k).len = w.length ∧ w.length = pw.length ∧
      k < d.list.size ∧ (entryAt d k).idx = k ∧
      flipHead (if decide (p1 = some k) = true then 0 else 0x20) w = pw := by
  obtain ⟨p0, pt, rfl⟩ : ∃ p0 pt, pw = p0 :: pt := by
    cases pw with
    | nil => simp at h2
    | cons a t => exact ⟨a, t, rfl⟩
  have hp0 : p0 < 128 := isText_lt (ht p0 (List.mem_cons_self ..))
  obtain ⟨hp1, hfound⟩ := fwdLookup_cases d _ _ h
  obtain ⟨x, w, hx, hf, c, hp, cs⟩ := hfound k rfl
  rcases hx with rfl | rfl
  · -- found through `h1`
    obtain ⟨rfl, hl, hwl, hk, hidx, _⟩ := found_via d words p0 p0 pt w k hd (by omega) h2 hf c hp cs
    refine ⟨_, hp, hl, hwl, hk, hidx, ?_⟩
    rw [if_pos (decide_eq_true (hp1.trans hf))]
    exact flipHead_zero _
  · -- found through `h2`: the entry does not sit in the slot of `h1`
    have hx : p0 ^^^ 0x20 < 256 := Nat.xor_lt_two_pow (n := 8) (by omega) (by decide)
    obtain ⟨rfl, hl, hwl, hk, hidx, hslot⟩ := found_via d words (p0 ^^^ 0x20) p0 pt w k hd hx h2 hf c hp cs
    have hne : p1 ≠ some k := by
      intro e1
      have hm1 := (hd.map _ _ (findEntry_some d _ k (hp1.symm.trans e1))).2
      rw [hslot, hh] at hm1
      exact hashWord_flip_slot p0 pt lh h6 h32 hm1.symm
    refine ⟨_, hp, hl, hwl, hk, hidx, ?_⟩
    rw [if_neg (by simpa using hne)]
    show ((p0 ^^^ 0x20) ^^^ 0x20) :: pt = p0 :: pt
    rw [xor_xor_cancel]

theorem learnL_guard_false (pw : List Nat) (w : Nat) (d : Dict) (c : Nat)
    (h : ¬ (pw.length ≥ 2 ∧ isDelimiter c = true ∧ pw.length ≤ MAX_WORD_LENGTH)) :
    learnL (some pw) w d c = .ok (d, w) := by
  unfold learnL
  simp only
  rw [if_neg (fun hc => h ⟨by omega, hc.2.1, hc.2.2⟩)]

/-- at a delimiter after a word that Forward did not find, Inverse learns exactly when Forward learns -/
theorem learnL_notfound (pw : List Nat) (w : Nat) (d : Dict) (c : Nat) (hd : DictOK d w)
    (hg : pw.length ≥ 2 ∧ isDelimiter c = true ∧ pw.length ≤ MAX_WORD_LENGTH) :
    learnL (some pw) w d c =
      if (pw.length > 3 ∨ (pw.length = 3 ∧ w < THRESHOLD2)) ∧ findEntry d (hashWord pw) = none then
        learn d w pw (hashWord pw)
      else .ok (d, w) := by
  unfold learnL
  simp only
  by_cases c3 : pw.length ≥ 3
  · rw [if_pos ⟨c3, hg.2.1, hg.2.2⟩, invLearnW_eq pw w d (DictOK_iff.mp hd) hg.1]
    by_cases cc : (pw.length > 3 ∨ (pw.length = 3 ∧ w < THRESHOLD2)) ∧ findEntry d (hashWord pw) = none
    · rw [if_pos cc, if_pos ⟨by have := cc.1; omega, cc.2⟩]
    · rw [if_neg cc, if_neg (fun h => cc ⟨by have := h.1; omega, h.2⟩)]
  · rw [if_neg (by omega), if_neg (by omega)]

/-! ## the invariant `Sim` and the encoder steps that keep it -/

/-! ### tokens and literals as byte lists -/

def tokBytes (tc2 via : Bool) (idx : Nat) : List Nat :=
  if tc2 then (if via then [] else [MASK_FLIP_CASE]) ++ wordIndex2 idx
  else (if via then ESCAPE_TOKEN1 else ESCAPE_TOKEN2) :: wordIndex1 idx

theorem wr_eq (n : Nat) (o o2 : Array Nat) (bs : List Nat) (h : wr n o bs = .ok o2) : o2 = o ++ bs := by
  unfold Kanzi.RLT.wr at h
  split at h
  · cases h; rfl
  · cases h

theorem fwdToken_eq (tc2 : Bool) (n : Nat) (o o2 : Array Nat) (via : Bool) (idx : Nat)
    (h : fwdToken tc2 n o via idx = .ok o2) : o2 = o ++ tokBytes tc2 via idx := by
  unfold fwdToken at h
  unfold tokBytes
  cases tc2
  · simp only [Bool.false_eq_true, if_false] at h ⊢
    exact wr_eq _ _ _ _ h
  · simp only [if_true] at h ⊢
    exact wr_eq _ _ _ _ h

theorem decL_word (tc2 : Bool) (n : Nat) (crlf : Bool) (via : Bool) (idx : Nat) (w L : List Nat) (t : DS)
    (hroom0 : t.out.length < n) (hi : idx < t.d.list.size) (hs : idx < t.d.size) (h19 : idx < 2 ^ 19)
    (hp : (entryAt t.d idx).ptr = some w) (hl : (entryAt t.d idx).len = w.length) (h2 : 2 ≤ w.length)
    (h256 : w.length < 256)
    (hroom : (if t.run = true then t.out ++ [32] else t.out).length + w.length < n)
    (hlearn : ∀ c, isDelimiter c = false → learnL t.pw t.words t.d c = .ok (t.d, t.words)) :
    decL tc2 n crlf (tokBytes tc2 via idx ++ L) t =
      decL tc2 n crlf L ⟨none, t.words, true, t.d,
        (if t.run = true then t.out ++ [32] else t.out) ++ flipHead (if via = true then 0 else 0x20) w⟩ := by
  unfold tokBytes
  cases tc2
  · simp only [Bool.false_eq_true, if_false, List.cons_append]
    exact decL_word1 n crlf via idx w L t hroom0 hi hs h19 hp hl h2 h256 hroom hlearn
  · simp only [if_true]
    obtain ⟨c, tl, e, _, _⟩ := wordIndex2_head idx h19
    rw [e]
    exact decL_word2 n crlf via idx c tl w L t e hroom0 hi hs h19 hp hl h2 h256 hroom hlearn

theorem encLits_append (tc2 crlf : Bool) (ssz : Nat) (A B : List Nat) :
    encLits tc2 crlf ssz (A ++ B) = encLits tc2 crlf ssz A ++ encLits tc2 crlf ssz B := by
  unfold encLits; exact List.flatMap_append

theorem symE_text (tc2 crlf : Bool) (ssz c : Nat) (h : isText c = true) : symE tc2 crlf ssz c = [c] := by
  have hlt := isText_lt h
  have h1 : c ≠ ESCAPE_TOKEN1 := by intro e; rw [e] at h; exact absurd h (by decide)
  have h2 : c ≠ ESCAPE_TOKEN2 := by intro e; rw [e] at h; exact absurd h (by decide)
  have h3 : c ≠ CR := by intro e; rw [e] at h; exact absurd h (by decide)
  unfold symE
  cases tc2
  · simp only [Bool.false_eq_true, if_false]
    unfold sym1
    rw [if_neg (by intro hc; rcases hc with hc | hc; exact h1 hc; exact h2 hc), if_neg (fun hc => h3 hc.1)]
  · simp only [if_true]
    unfold sym2
    rw [if_neg h1, if_neg h3, if_neg (by omega)]

theorem encLits_text (tc2 crlf : Bool) (ssz : Nat) : ∀ (w : List Nat), (∀ b ∈ w, isText b = true) →
    encLits tc2 crlf ssz w = w
  | [], _ => rfl
  | c :: w, h => by
    have ih := encLits_text tc2 crlf ssz w (fun b hb => h b (List.mem_cons_of_mem _ hb))
    unfold encLits at ih ⊢
    rw [List.flatMap_cons, symE_text tc2 crlf ssz c (h c (List.mem_cons_self ..)), ih]
    rfl

/-! ### the invariant -/

/-- the fixed parameters of one block: codec, `len(dst)` of Inverse, the CR+LF flag, `staticDictSize`,
    `logHashSize`, the decoder's initial state -/
structure Par where
  tc2 : Bool
  n : Nat
  crlf : Bool
  ssz : Nat
  lh : Nat
  ds0 : DS

/-- the encoded bytes (after the mode byte) that correspond to everything before the current word: what was
    emitted plus the encoding of the pending literals -/
def G (p : Par) (e : ES) : List Nat := e.out.toList.drop 1 ++ encLits p.tc2 p.crlf p.ssz e.X

abbrev dec (p : Par) (L : List Nat) (t : DS) : Out DS := decL p.tc2 p.n p.crlf L t

/-- `e`: state of `encL` after a prefix of the source; `tX`: state of `decL` after `G p e`; `PX`: that prefix
    without the current word `e.pw`.  `spec`: codec 1's two escape entries sit below `staticDictSize` in the
    decoder's dictionary.  `skip`: a single pending space may be dropped by Forward in front of a word token
    (Inverse restores it between two words); `tO` is then the decoder behind the previous word token, before
    that space -/
structure Sim (p : Par) (e : ES) (tX : DS) (PX : List Nat) : Prop where
  okE : DictOK e.d e.words
  okD : DictOK tX.d tX.words
  sim : DictSim e.d tX.d
  ssz : e.d.ssz = p.ssz
  hsz : e.d.hsz = 2 ^ p.lh
  words : tX.words = e.words
  out : tX.out = PX
  pw : tX.pw = some []
  run : tX.run = false
  text : ∀ b ∈ e.pw, isText b = true
  out1 : 1 ≤ e.out.size
  spec : p.tc2 = false → 2 ≤ p.ssz ∧
    entryAt tX.d (p.ssz - 2) = ⟨0, 1, p.ssz - 2, some [ESCAPE_TOKEN2]⟩ ∧
    entryAt tX.d (p.ssz - 1) = ⟨0, 1, p.ssz - 1, some [ESCAPE_TOKEN1]⟩
  inv : ∀ L, dec p (G p e ++ L) p.ds0 = dec p L tX
  skip : e.X = [32] → ∃ tO : DS, (∀ L, dec p (e.out.toList.drop 1 ++ L) p.ds0 = dec p L tO) ∧
    tO.run = true ∧ tO.pw = none ∧ tO.out ++ [32] = PX ∧ tO.d = tX.d ∧ tO.words = tX.words

theorem learn_entry_below (d d' : Dict) (w w' : Nat) (word : List Nat) (h1 : Nat) (hd : DictOK d w)
    (h : learn d w word h1 = .ok (d', w')) (k : Nat) (hk : k < w) : entryAt d' k = entryAt d k := by
  rw [learn_eq d w word h1 (DictOK_iff.mp hd)] at h
  have hd' : d' = (learnNext (learnCore d w word h1) w).1 := (congrArg Prod.fst (Out.ok.inj h)).symm
  have hc : entryAt (learnCore d w word h1) k = entryAt d k := by
    rw [learnCore_entry d w word h1 k (DictOK_iff.mp hd), if_neg (by omega)]
  rw [hd']
  rcases learnNext_fst (learnCore d w word h1) w with e | e
  · rw [e]; exact hc
  · have hlt : k < d.size := by have := hd.words_lt; omega
    have hlist : (learnCore d w word h1).size ≤ (learnCore d w word h1).list.size := by
      rw [learnCore_size, learnCore_list, Array.size_setIfInBounds]; exact Nat.le_of_eq hd.size_eq.symm
    rw [e, (expand_list _ hlist).2 k (by rw [learnCore_size]; omega), learnCore_size, if_pos hlt]
    exact hc

/-- the decoder on `G` of the state in which the current word and the bytes `S` have joined the pending
    literals: it has copied the word and stands before the encoding of `S` -/
theorem Sim.dec_pw {p : Par} {e : ES} {tX : DS} {PX : List Nat} (hS : Sim p e tX PX) (S L : List Nat) (w' : Nat)
    (d' : Dict) (hroom : PX.length + e.pw.length ≤ p.n) :
    dec p (G p ⟨e.X ++ e.pw ++ S, [], w', d', e.out⟩ ++ L) p.ds0 =
      dec p (encLits p.tc2 p.crlf p.ssz S ++ L) ⟨some e.pw, tX.words, tX.run, tX.d, PX ++ e.pw⟩ := by
  have hG : G p ⟨e.X ++ e.pw ++ S, [], w', d', e.out⟩ ++ L =
      G p e ++ (e.pw ++ (encLits p.tc2 p.crlf p.ssz S ++ L)) := by
    unfold G
    simp only
    rw [encLits_append, encLits_append, encLits_text _ _ _ e.pw hS.text]
    simp only [List.append_assoc]
  rw [hG, hS.inv]
  show decL p.tc2 p.n p.crlf (e.pw ++ _) tX = _
  rw [decL_letters p.tc2 p.n p.crlf e.pw _ tX [] hS.text hS.pw (by rw [hS.out]; omega)]
  simp only [List.nil_append, hS.out]

/-! ### a non-letter byte at which no token is emitted -/

/-- `S`: the source bytes consumed by the step (`[c]`, or `[CR, LF]` in CR+LF mode), `cD`: the byte the decoder
    sees for them; `(d', w')` / `(dD', w')`: the dictionaries after the step -/
theorem sim_notoken (p : Par) (e : ES) (tX : DS) (PX S : List Nat) (cD : Nat) (d' dD' : Dict) (w' : Nat)
    (hS : Sim p e tX PX) (hnt : isText cD = false)
    (hplain : if p.tc2 = true then cD < 128 ∧ cD ≠ ESCAPE_TOKEN1 else cD ≠ ESCAPE_TOKEN1 ∧ cD ≠ ESCAPE_TOKEN2)
    (henc : encLits p.tc2 p.crlf p.ssz S = [cD])
    (hlit : ∀ t : DS, t.out.length + S.length ≤ p.n →
      litL p.n p.crlf t cD = .ok { t with run := false, pw := some [], out := t.out ++ S })
    (hS1 : 1 ≤ S.length) (hroom : PX.length + e.pw.length + S.length ≤ p.n)
    (hl : learnL (some e.pw) tX.words tX.d cD = .ok (dD', w'))
    (hokE : DictOK d' w') (hokD : DictOK dD' w') (hsim : DictSim d' dD') (hssz : d'.ssz = e.d.ssz)
    (hhsz : d'.hsz = e.d.hsz) (hbelow : ∀ k, k < e.d.ssz → entryAt dD' k = entryAt tX.d k)
    (hne : e.X ++ e.pw ++ S ≠ [32]) :
    Sim p ⟨e.X ++ e.pw ++ S, [], w', d', e.out⟩ ⟨some [], w', false, dD', PX ++ e.pw ++ S⟩ (PX ++ e.pw ++ S) := by
  refine ⟨hokE, hokD, hsim, by rw [hssz]; exact hS.ssz, by rw [hhsz]; exact hS.hsz, rfl, rfl, rfl, rfl,
    fun b hb => by simp at hb, hS.out1, ?_, ?_, fun hx => absurd hx hne⟩
  · intro htc
    obtain ⟨h2, e2, e1⟩ := hS.spec htc
    have hs := hS.ssz
    refine ⟨h2, ?_, ?_⟩
    · show entryAt dD' (p.ssz - 2) = _
      rw [hbelow _ (by omega)]; exact e2
    · show entryAt dD' (p.ssz - 1) = _
      rw [hbelow _ (by omega)]; exact e1
  · intro L
    rw [hS.dec_pw S L w' d' (by omega), henc]
    exact decL_lit p.tc2 p.n p.crlf cD L _ _ dD' w' (by simp only [List.length_append]; omega) hnt hplain hl
      (hlit ⟨some e.pw, w', tX.run, dD', PX ++ e.pw⟩ (by simp only [List.length_append]; omega))

/-! ### a delimiter at which a word token is emitted -/

theorem sim_token (p : Par) (e : ES) (tX : DS) (PX S w : List Nat) (cD k : Nat) (via : Bool) (o2 : Array Nat)
    (hS : Sim p e tX PX)
    (hp : (entryAt e.d k).ptr = some w) (hl : (entryAt e.d k).len = w.length) (hwl : w.length = e.pw.length)
    (hk : k < e.d.list.size) (hflip : flipHead (if via = true then 0 else 0x20) w = e.pw)
    (h2 : 2 ≤ e.pw.length) (h31 : e.pw.length ≤ MAX_WORD_LENGTH)
    (ho2 : o2 = (if e.X ≠ [32] then e.out ++ encLits p.tc2 p.crlf p.ssz e.X else e.out) ++ tokBytes p.tc2 via k)
    (hnt : isText cD = false)
    (hplain : if p.tc2 = true then cD < 128 ∧ cD ≠ ESCAPE_TOKEN1 else cD ≠ ESCAPE_TOKEN1 ∧ cD ≠ ESCAPE_TOKEN2)
    (henc : encLits p.tc2 p.crlf p.ssz S = [cD])
    (hlit : ∀ t : DS, t.out.length + S.length ≤ p.n →
      litL p.n p.crlf t cD = .ok { t with run := false, pw := some [], out := t.out ++ S })
    (hS1 : 1 ≤ S.length) (hroom : PX.length + e.pw.length + S.length ≤ p.n) :
    Sim p ⟨S, [], e.words, e.d, o2⟩ ⟨some [], e.words, false, tX.d, PX ++ e.pw ++ S⟩ (PX ++ e.pw ++ S) := by
  have hM : MAX_DICT_SIZE = 2 ^ 19 := by decide
  have h31' : MAX_WORD_LENGTH = 31 := rfl
  have hkE : k < e.d.size := by rw [← hS.okE.size_eq]; exact hk
  have hkD : k < tX.d.size := Nat.lt_of_lt_of_le hkE hS.sim.size_le
  have hkDl : k < tX.d.list.size := by rw [hS.okD.size_eq]; exact hkD
  have h19 : k < 2 ^ 19 := by rw [← hM]; exact Nat.lt_of_lt_of_le hkD hS.okD.size_le
  have hent : entryAt tX.d k = entryAt e.d k := hS.sim.entry_lt k hkE
  have hout1 : 1 ≤ e.out.toList.length := by rw [Array.length_toList]; exact hS.out1
  -- the decoder in front of the token: after the pending literals, or, when the only pending literal is a
  -- space that is not stored, after the previous word
  obtain ⟨t0, hpre, hd0, hw0, hout0, hlearn0⟩ : ∃ t0 : DS,
      (∀ L, dec p ((if e.X ≠ [32] then e.out ++ encLits p.tc2 p.crlf p.ssz e.X else e.out).toList.drop 1 ++ L) p.ds0 =
        dec p L t0) ∧ t0.d = tX.d ∧ t0.words = tX.words ∧
      (if t0.run = true then t0.out ++ [32] else t0.out) = PX ∧
      ∀ c, learnL t0.pw t0.words t0.d c = .ok (t0.d, t0.words) := by
    by_cases cx : e.X ≠ [32]
    · refine ⟨tX, fun L => ?_, rfl, rfl, by rw [hS.run]; exact hS.out, fun c => by
        rw [hS.pw]; exact learnL_short [] _ _ _ (by simp)⟩
      rw [if_pos cx, Array.toList_appendList, List.drop_append_of_le_length hout1]
      exact hS.inv L
    · obtain ⟨tO, hO, hrun, hpw, hoO, hdO, hwO⟩ := hS.skip (by simpa using cx)
      refine ⟨tO, fun L => ?_, hdO, hwO, by rw [hrun]; exact hoO, fun c => by rw [hpw]; rfl⟩
      rw [if_neg cx]
      exact hO L
  have hpre1 : 1 ≤ (if e.X ≠ [32] then e.out ++ encLits p.tc2 p.crlf p.ssz e.X else e.out).size := by
    have := hS.out1
    split
    · rw [size_appendList]; omega
    · omega
  have hlen0 : t0.out.length ≤ PX.length := by
    rw [← hout0]
    split
    · simp
    · exact Nat.le_refl _
  have claimA : ∀ L, dec p (o2.toList.drop 1 ++ L) p.ds0 = dec p L ⟨none, tX.words, true, tX.d, PX ++ e.pw⟩ := by
    intro L
    rw [ho2, Array.toList_appendList, List.drop_append_of_le_length (by rw [Array.length_toList]; exact hpre1), List.append_assoc,
      hpre]
    show decL p.tc2 p.n p.crlf _ t0 = _
    rw [decL_word p.tc2 p.n p.crlf via k w L t0 (by omega) (by rw [hd0]; exact hkDl) (by rw [hd0]; exact hkD) h19
      (by rw [hd0, hent]; exact hp) (by rw [hd0, hent]; exact hl) (by omega) (by omega)
      (by rw [hout0]; omega) (fun c _ => hlearn0 c), hout0, hflip, hd0, hw0]
  have ho2size : 1 ≤ o2.size := by
    rw [ho2, size_appendList]
    omega
  have hokD : DictOK tX.d e.words := by rw [← hS.words]; exact hS.okD
  refine ⟨hS.okE, hokD, hS.sim, hS.ssz, hS.hsz, rfl, rfl, rfl, rfl, fun b hb => by simp at hb, ho2size,
    hS.spec, ?_, ?_⟩
  · intro L
    have hG : G p ⟨S, [], e.words, e.d, o2⟩ ++ L = o2.toList.drop 1 ++ (cD :: L) := by
      unfold G
      simp only
      rw [henc]
      simp only [List.append_assoc, List.cons_append, List.nil_append]
    rw [hG, claimA]
    show decL p.tc2 p.n p.crlf (cD :: L) _ = _
    have hlit' := hlit ⟨none, tX.words, true, tX.d, PX ++ e.pw⟩
      (by simp only [List.length_append]; omega)
    rw [decL_lit p.tc2 p.n p.crlf cD L _ _ tX.d tX.words
      (by simp only [List.length_append]; omega) hnt hplain rfl hlit']
    simp only [hS.words]
  · intro hx
    simp only at hx
    refine ⟨⟨none, tX.words, true, tX.d, PX ++ e.pw⟩, claimA, rfl, rfl, ?_, rfl, hS.words⟩
    simp only [hx]

/-! ### letters and escaped bytes -/

theorem sim_text (p : Par) (e : ES) (tX : DS) (PX : List Nat) (c : Nat) (hS : Sim p e tX PX)
    (hc : isText c = true) : Sim p { e with pw := e.pw ++ [c] } tX PX := by
  refine ⟨hS.okE, hS.okD, hS.sim, hS.ssz, hS.hsz, hS.words, hS.out, hS.pw, hS.run, ?_, hS.out1, hS.spec,
    hS.inv, hS.skip⟩
  intro b hb
  rcases List.mem_append.mp hb with hb | hb
  · exact hS.text b hb
  · rw [List.mem_singleton.mp hb]; exact hc

/-- a byte that is stored escaped: 0x0E / 0x0F for codec 1 (as the token of a special dictionary entry),
    0x0F and the bytes >= 0x80 for codec 2 (preceded by 0x0F) -/
theorem sim_escape (p : Par) (e : ES) (tX : DS) (PX : List Nat) (c : Nat) (hS : Sim p e tX PX)
    (hesc : if p.tc2 = true then (c ≥ 128 ∨ c = ESCAPE_TOKEN1) else (c = ESCAPE_TOKEN1 ∨ c = ESCAPE_TOKEN2))
    (hroom : PX.length + e.pw.length + (if p.tc2 = true then 1 else 2) ≤ p.n) :
    Sim p ⟨e.X ++ e.pw ++ [c], [], e.words, e.d, e.out⟩ ⟨some [], e.words, false, tX.d, PX ++ e.pw ++ [c]⟩
      (PX ++ e.pw ++ [c]) := by
  have hM : MAX_DICT_SIZE = 2 ^ 19 := by decide
  have hokD : DictOK tX.d e.words := by rw [← hS.words]; exact hS.okD
  have hc32 : c ≠ 32 := by
    cases htc : p.tc2
    · rw [htc] at hesc
      simp only [Bool.false_eq_true, if_false] at hesc
      rcases hesc with h | h <;> rw [h] <;> decide
    · rw [htc] at hesc
      simp only [if_true] at hesc
      rcases hesc with h | h
      · omega
      · rw [h]; decide
  refine ⟨hS.okE, hokD, hS.sim, hS.ssz, hS.hsz, rfl, rfl, rfl, rfl, fun b hb => by simp at hb, hS.out1,
    hS.spec, ?_, ?_⟩
  · intro L
    rw [hS.dec_pw [c] L e.words e.d (by split at hroom <;> omega)]
    show decL p.tc2 p.n p.crlf _ _ = decL p.tc2 p.n p.crlf L _
    cases htc : p.tc2
    · -- codec 1
      rw [htc] at hesc hroom
      simp only [Bool.false_eq_true, if_false] at hesc hroom
      obtain ⟨h2, e2, e1⟩ := hS.spec htc
      have hsszE := hS.ssz
      have hwl := hS.okD.words_lt
      have hsl := hS.okD.ssz_le
      have hssD : tX.d.ssz = p.ssz := by rw [hS.sim.ssz_eq]; exact hsszE
      have henc : encLits false p.crlf p.ssz [c] =
          ESCAPE_TOKEN1 :: wordIndex1 (if c = ESCAPE_TOKEN1 then p.ssz - 1 else p.ssz - 2) := by
        unfold encLits symE
        simp only [Bool.false_eq_true, if_false, List.flatMap_cons, List.flatMap_nil, List.append_nil]
        unfold sym1
        rw [if_pos hesc]
      have hidx : (if c = ESCAPE_TOKEN1 then p.ssz - 1 else p.ssz - 2) < tX.d.size := by
        split <;> omega
      have hent : entryAt tX.d (if c = ESCAPE_TOKEN1 then p.ssz - 1 else p.ssz - 2) =
          ⟨0, 1, (if c = ESCAPE_TOKEN1 then p.ssz - 1 else p.ssz - 2), some [c]⟩ := by
        by_cases c1 : c = ESCAPE_TOKEN1
        · rw [if_pos c1, e1, c1]
        · have c2 : c = ESCAPE_TOKEN2 := by rcases hesc with h | h; exact absurd h c1; exact h
          rw [if_neg c1, e2, c2]
      rw [henc, List.cons_append, decL_esc1 p.n p.crlf c _ L ⟨some e.pw, tX.words, tX.run, tX.d, PX ++ e.pw⟩
        (by simp only [List.length_append]; omega)
        (by simp only; rw [hS.okD.size_eq]; exact hidx) hidx
        (by rw [← hM]; exact Nat.lt_of_lt_of_le hidx hS.okD.size_le) hent]
      simp only [hS.words]
    · -- codec 2
      rw [htc] at hesc hroom
      simp only [if_true] at hesc hroom
      have henc : encLits true p.crlf p.ssz [c] = [ESCAPE_TOKEN1, c] := by
        unfold encLits symE
        simp only [if_true, List.flatMap_cons, List.flatMap_nil, List.append_nil]
        unfold sym2
        by_cases c1 : c = ESCAPE_TOKEN1
        · rw [if_pos c1, c1]
        · have c2 : c ≥ 128 := by rcases hesc with h | h; exact h; exact absurd h c1
          have c3 : c ≠ CR := by intro h; rw [h] at c2; exact absurd c2 (by decide)
          rw [if_neg c1, if_neg c3, if_pos c2]
      rw [henc, List.cons_append, List.cons_append, List.nil_append,
        decL_esc2 p.n p.crlf c L ⟨some e.pw, tX.words, tX.run, tX.d, PX ++ e.pw⟩
          (by simp only [List.length_append]; omega)]
      simp only [hS.words]
  · intro hx
    simp only at hx
    exfalso
    have : (e.X ++ e.pw ++ [c]).getLast? = some c := by simp
    rw [hx] at this
    simp at this
    exact hc32 this.symm

/-! ## one non-letter source byte (or the pair CR LF in CR+LF mode) through `encStep` -/

theorem emitPendingL_eq (tc2 crlf : Bool) (ssz dstEnd : Nat) (X : List Nat) (out o : Array Nat)
    (h : emitPendingL tc2 crlf ssz dstEnd X out = .ok o) :
    o = if X ≠ [32] then out ++ encLits tc2 crlf ssz X else out := by
  unfold emitPendingL at h
  by_cases cx : X ≠ [32]
  · rw [if_pos cx] at h
    rw [if_pos cx]
    cases he : emitSymbols tc2 crlf ssz dstEnd X out with
    | none => rw [he] at h; cases h
    | some o' =>
      rw [he] at h
      cases h
      exact emitSymbols_pure _ _ _ _ _ _ _ he
  · rw [if_neg cx] at h
    rw [if_neg cx]
    cases h; rfl

/-- the three ways a non-letter byte `c` gets through `encStep`: nothing happens (there is no word, or the word is
    neither found nor learnt), the word is learnt, or the pending literals and the token of the word are stored -/
theorem encStep_cases (tc2 : Bool) (dstLen dstEnd : Nat) (crlf : Bool) (e e1 : ES) (c : Nat) (hnt : isText c = false)
    (h : encStep tc2 dstLen dstEnd crlf e c = .ok e1) :
    ((¬ (e.pw.length ≥ 2 ∧ isDelimiter c = true ∧ e.pw.length ≤ MAX_WORD_LENGTH) ∨
        ∃ r, fwdLookup e.d e.pw = .ok r ∧ r.1 = none ∧
          ¬ ((e.pw.length > 3 ∨ e.pw.length = 3 ∧ e.words < THRESHOLD2) ∧ r.2 = none)) ∧
      e1 = ⟨e.X ++ e.pw ++ [c], [], e.words, e.d, e.out⟩) ∨
    ((e.pw.length ≥ 2 ∧ isDelimiter c = true ∧ e.pw.length ≤ MAX_WORD_LENGTH) ∧
      ∃ r, fwdLookup e.d e.pw = .ok r ∧
        ((r.1 = none ∧ ((e.pw.length > 3 ∨ e.pw.length = 3 ∧ e.words < THRESHOLD2) ∧ r.2 = none) ∧
            ∃ q, learn e.d e.words e.pw (hashWord e.pw) = .ok q ∧ e1 = ⟨e.X ++ e.pw ++ [c], [], q.2, q.1, e.out⟩) ∨
          ∃ k o o2, r.1 = some k ∧ emitPendingL tc2 crlf e.d.ssz dstEnd e.X e.out = .ok o ∧
            fwdToken tc2 dstLen o (decide (r.2 = some k)) ((entryAt e.d k).idx % (MASK_LENGTH + 1)) = .ok o2 ∧
            e1 = ⟨[c], [], e.words, e.d, o2⟩)) := by
  unfold encStep at h
  rw [if_neg (by rw [hnt]; decide)] at h
  by_cases cg : e.pw.length ≥ 2 ∧ isDelimiter c = true ∧ e.pw.length ≤ MAX_WORD_LENGTH
  · rw [if_pos cg] at h
    cases hr : fwdLookup e.d e.pw with
    | err x => rw [hr] at h; cases h
    | fault x => rw [hr] at h; cases h
    | ok r =>
      rw [hr] at h
      simp only at h
      cases hr1 : r.1 with
      | none =>
        rw [hr1] at h
        simp only at h
        by_cases cc : (e.pw.length > 3 ∨ e.pw.length = 3 ∧ e.words < THRESHOLD2) ∧ r.2 = none
        · rw [if_pos cc] at h
          cases hl : learn e.d e.words e.pw (hashWord e.pw) with
          | err x => rw [hl] at h; cases h
          | fault x => rw [hl] at h; cases h
          | ok q =>
            rw [hl] at h
            exact Or.inr ⟨cg, r, rfl, Or.inl ⟨hr1, cc, q, rfl, (Out.ok.inj h).symm⟩⟩
        · rw [if_neg cc] at h
          exact Or.inl ⟨Or.inr ⟨r, rfl, hr1, cc⟩, (Out.ok.inj h).symm⟩
      | some k =>
        rw [hr1] at h
        simp only at h
        cases hpend : emitPendingL tc2 crlf e.d.ssz dstEnd e.X e.out with
        | err x => rw [hpend] at h; cases h
        | fault x => rw [hpend] at h; cases h
        | ok o =>
          rw [hpend] at h
          simp only at h
          by_cases cm : o.size + (if tc2 = true then 3 else 4) ≥ dstEnd
          · rw [if_pos cm] at h; cases h
          · rw [if_neg cm] at h
            cases htok : fwdToken tc2 dstLen o (decide (r.2 = some k)) ((entryAt e.d k).idx % (MASK_LENGTH + 1)) with
            | err x => rw [htok] at h; cases h
            | fault x => rw [htok] at h; cases h
            | ok o2 =>
              rw [htok] at h
              exact Or.inr ⟨cg, r, rfl, Or.inr ⟨k, o, o2, hr1, rfl, htok, (Out.ok.inj h).symm⟩⟩
  · rw [if_neg cg] at h
    exact Or.inl ⟨Or.inl cg, (Out.ok.inj h).symm⟩

/-- one non-letter byte `cE` that is not stored escaped, through `encStep`; `Stail` = further source bytes that
    are appended to the pending literals without any other effect (`[LF]` after a CR in CR+LF mode, else `[]`);
    `cD` = the byte the decoder sees for `cE :: Stail` -/
theorem sim_event (p : Par) (dstLen dstEnd : Nat) (e e1 : ES) (tX : DS) (PX : List Nat) (cE cD : Nat)
    (Stail : List Nat) (hS : Sim p e tX PX) (h6 : 6 ≤ p.lh) (h32 : p.lh ≤ 32)
    (hstep : encStep p.tc2 dstLen dstEnd p.crlf e cE = .ok e1)
    (hntE : isText cE = false) (hdel : isDelimiter cD = isDelimiter cE) (hnt : isText cD = false)
    (hplain : if p.tc2 = true then cD < 128 ∧ cD ≠ ESCAPE_TOKEN1 else cD ≠ ESCAPE_TOKEN1 ∧ cD ≠ ESCAPE_TOKEN2)
    (henc : encLits p.tc2 p.crlf p.ssz (cE :: Stail) = [cD])
    (hlit : ∀ t : DS, t.out.length + (cE :: Stail).length ≤ p.n →
      litL p.n p.crlf t cD = .ok { t with run := false, pw := some [], out := t.out ++ (cE :: Stail) })
    (hroom : PX.length + e.pw.length + (cE :: Stail).length ≤ p.n)
    (hne : e.X ++ e.pw ++ (cE :: Stail) ≠ [32]) :
    ∃ tX', Sim p { e1 with X := e1.X ++ Stail } tX' (PX ++ e.pw ++ (cE :: Stail)) ∧ e1.pw = [] ∧ e1.X ≠ [] := by
  have hS1 : 1 ≤ (cE :: Stail).length := by simp
  have hwords := hS.words
  have hokD : DictOK tX.d e.words := by rw [← hwords]; exact hS.okD
  have happ : ∀ (A : List Nat), A ++ [cE] ++ Stail = A ++ (cE :: Stail) := by
    intro A; simp
  rcases encStep_cases _ _ _ _ _ _ _ hntE hstep with ⟨hno, rfl⟩ | ⟨cg, r, hr, ⟨hr1, cc, q, hlE, rfl⟩ | ⟨k, o, o2, hr1, hpend, htok, rfl⟩⟩
  · -- nothing happens on either side
    have hl : learnL (some e.pw) tX.words tX.d cD = .ok (tX.d, e.words) := by
      rcases hno with cg | ⟨r, hr, _, cc⟩
      · rw [learnL_guard_false e.pw tX.words tX.d cD (by rw [hdel]; exact cg), hwords]
      · by_cases cg : e.pw.length ≥ 2 ∧ isDelimiter cE = true ∧ e.pw.length ≤ MAX_WORD_LENGTH
        · rw [learnL_notfound e.pw tX.words tX.d cD hS.okD (by rw [hdel]; exact cg), hS.sim.findEntry,
            ← (fwdLookup_cases e.d e.pw r hr).1, hwords, if_neg cc]
        · rw [learnL_guard_false e.pw tX.words tX.d cD (by rw [hdel]; exact cg), hwords]
    refine ⟨⟨some [], e.words, false, tX.d, PX ++ e.pw ++ (cE :: Stail)⟩, ?_, rfl, by simp⟩
    have := sim_notoken p e tX PX (cE :: Stail) cD e.d tX.d e.words hS hnt hplain henc hlit hS1 hroom hl
      hS.okE hokD hS.sim rfl rfl (fun k _ => rfl) hne
    simp only [happ]
    exact this
  · -- both sides learn the word
    have cgD : e.pw.length ≥ 2 ∧ isDelimiter cD = true ∧ e.pw.length ≤ MAX_WORD_LENGTH := by
      rw [hdel]; exact cg
    obtain ⟨dE', dD', w', hlE', hlD, hokE', hokD', hsim'⟩ :=
      learn_sim e.d tX.d e.words e.pw hS.okE hokD hS.sim hS.text
    obtain ⟨dE2, w2, hlE2, _, hssz2, hhsz2⟩ := learn_ok e.d e.words e.pw hS.okE hS.text
    rw [hlE'] at hlE hlE2
    obtain ⟨rfl, rfl⟩ := Prod.mk.inj (Out.ok.inj hlE2)
    cases Out.ok.inj hlE
    have hl : learnL (some e.pw) tX.words tX.d cD = .ok (dD', w') := by
      rw [learnL_notfound e.pw tX.words tX.d cD hS.okD cgD, hS.sim.findEntry, ← (fwdLookup_cases e.d e.pw r hr).1,
        hwords, if_pos cc, hlD]
    refine ⟨⟨some [], w', false, dD', PX ++ e.pw ++ (cE :: Stail)⟩, ?_, rfl, by simp⟩
    have := sim_notoken p e tX PX (cE :: Stail) cD dE' dD' w' hS hnt hplain henc hlit hS1 hroom hl hokE' hokD'
      hsim' hssz2 hhsz2
      (fun k hk => learn_entry_below tX.d dD' e.words w' e.pw _ hokD hlD k (Nat.lt_of_lt_of_le hk hS.okE.ssz_le))
      hne
    simp only [happ]
    exact this
  · -- the word is in the dictionary: its token is stored
    have hr' : fwdLookup e.d e.pw = .ok (some k, r.2) := by rw [hr, ← hr1]
    obtain ⟨w, hp, hl, hwl, hk, hidx, hflip⟩ := found_word e.d e.words p.lh e.pw k r.2 hS.okE hS.hsz
      h6 h32 hS.text cg.1 hr'
    have hM : MASK_LENGTH + 1 = MAX_DICT_SIZE := by decide
    have hkm : (entryAt e.d k).idx % (MASK_LENGTH + 1) = k := by
      rw [hidx]
      apply Nat.mod_eq_of_lt
      rw [hM]
      have := hS.okE.size_le
      have := hS.okE.size_eq
      omega
    rw [hkm] at htok
    have ho := emitPendingL_eq _ _ _ _ _ _ _ hpend
    rw [hS.ssz] at ho
    have ho2 := fwdToken_eq _ _ _ _ _ _ htok
    rw [ho] at ho2
    refine ⟨⟨some [], e.words, false, tX.d, PX ++ e.pw ++ (cE :: Stail)⟩, ?_, rfl, by simp⟩
    have := sim_token p e tX PX (cE :: Stail) w cD k (decide (r.2 = some k)) o2 hS hp hl hwl hk hflip
      cg.1 cg.2.2 ho2 hnt hplain henc hlit hS1 hroom
    simp only [List.cons_append, List.nil_append]
    exact this

/-! ## the whole block -/

/-- CR+LF mode: every CR is followed by a LF and there is no other LF -/
def CrlfOK : List Nat → Prop
  | [] => True
  | c :: r =>
    if c = CR then
      match r with
      | [] => False
      | l :: r' => l = LF ∧ CrlfOK r'
    else c ≠ LF ∧ CrlfOK r

/-- a byte that `emitSymbols` stores escaped -/
def escaped (tc2 : Bool) (c : Nat) : Prop :=
  if tc2 = true then (c ≥ 128 ∨ c = ESCAPE_TOKEN1) else (c = ESCAPE_TOKEN1 ∨ c = ESCAPE_TOKEN2)

instance (tc2 : Bool) (c : Nat) : Decidable (escaped tc2 c) := by unfold escaped; infer_instance

theorem plain_of_not_escaped (tc2 : Bool) (c : Nat) (h : ¬ escaped tc2 c) :
    if tc2 = true then c < 128 ∧ c ≠ ESCAPE_TOKEN1 else c ≠ ESCAPE_TOKEN1 ∧ c ≠ ESCAPE_TOKEN2 := by
  unfold escaped at h
  cases tc2
  · simp only [Bool.false_eq_true, if_false] at h ⊢
    exact ⟨fun x => h (Or.inl x), fun x => h (Or.inr x)⟩
  · simp only [if_true] at h ⊢
    exact ⟨by omega, fun x => h (Or.inr x)⟩

theorem encLits_plain (tc2 crlf : Bool) (ssz c : Nat) (h : ¬ escaped tc2 c) (hcr : ¬ (crlf = true ∧ c = CR)) :
    encLits tc2 crlf ssz [c] = [c] := by
  unfold escaped at h
  unfold encLits symE
  simp only [List.flatMap_cons, List.flatMap_nil, List.append_nil]
  cases tc2
  · simp only [Bool.false_eq_true, if_false] at h ⊢
    unfold sym1
    rw [if_neg h, if_neg (fun x => hcr ⟨x.2, x.1⟩)]
  · simp only [if_true] at h ⊢
    unfold sym2
    rw [if_neg (fun x => h (Or.inr x))]
    by_cases c2 : c = CR
    · rw [if_pos c2]
      have : crlf = false := by
        cases crlf
        · rfl
        · exact absurd ⟨rfl, c2⟩ hcr
      rw [this]
      simp
    · rw [if_neg c2, if_neg (fun x => h (Or.inl x))]

theorem encLits_crlf (tc2 : Bool) (ssz : Nat) : encLits tc2 true ssz [CR, LF] = [LF] := by
  cases tc2 <;> rfl

theorem litL_plain (n : Nat) (crlf : Bool) (c : Nat) (h : ¬ (crlf = true ∧ c = LF)) (t : DS)
    (_ : t.out.length + [c].length ≤ n) :
    litL n crlf t c = .ok { t with run := false, pw := some [], out := t.out ++ [c] } := by
  unfold litL
  rw [if_neg h]

theorem litL_crlf (n : Nat) (t : DS) (h : t.out.length + [CR, LF].length ≤ n) :
    litL n true t LF = .ok { t with run := false, pw := some [], out := t.out ++ [CR, LF] } := by
  unfold litL
  simp only [List.length_cons, List.length_nil] at h
  rw [if_pos ⟨rfl, rfl⟩, if_neg (by omega)]

theorem encStep_lf_after (tc2 : Bool) (dstLen dstEnd : Nat) (crlf : Bool) (e1 : ES) (h : e1.pw = []) :
    encStep tc2 dstLen dstEnd crlf e1 LF = .ok { e1 with X := e1.X ++ [LF] } := by
  unfold encStep
  rw [if_neg (by decide), if_neg (by rw [h]; simp), h]
  simp

theorem CrlfOK.tail {c : Nat} {r : List Nat} (h : CrlfOK (c :: r)) (hc : c ≠ CR) : c ≠ LF ∧ CrlfOK r := by
  unfold CrlfOK at h
  rwa [if_neg hc] at h

theorem CrlfOK.cr {r : List Nat} (h : CrlfOK (CR :: r)) : ∃ r', r = LF :: r' ∧ CrlfOK r' := by
  unfold CrlfOK at h
  rw [if_pos rfl] at h
  cases r with
  | nil => exact absurd h (by simp)
  | cons l r' => exact ⟨r', by rw [h.1], h.2⟩

/-- `rest`, the part of the block still to be encoded, fits into the decoder's buffer (`p.n` bytes, `k` of them
    restored so far); the token of an escaped byte of codec 1 is only accepted with one byte to spare -/
structure Fits (p : Par) (k : Nat) (rest : List Nat) : Prop where
  room : k + rest.length ≤ p.n
  esc : p.tc2 = false → ∀ c, rest.getLast? = some c → (c = ESCAPE_TOKEN1 ∨ c = ESCAPE_TOKEN2) → k + rest.length < p.n

theorem Fits.tail {p : Par} {k c : Nat} {rest : List Nat} (h : Fits p k (c :: rest)) : Fits p (k + 1) rest := by
  have hr := h.room
  rw [List.length_cons] at hr
  refine ⟨by omega, fun htc c' hl hc' => ?_⟩
  have hl' : (c :: rest).getLast? = some c' := by
    cases rest with
    | nil => cases hl
    | cons a t => rw [List.getLast?_cons_cons]; exact hl
  have := h.esc htc c' hl' hc'
  rw [List.length_cons] at this
  omega

theorem Fits.head_escaped {p : Par} {k c : Nat} {rest : List Nat} (h : Fits p k (c :: rest)) (hc : escaped p.tc2 c) :
    k + (if p.tc2 = true then 1 else 2) ≤ p.n := by
  have hr := h.room
  rw [List.length_cons] at hr
  unfold escaped at hc
  cases htc : p.tc2
  · rw [htc] at hc
    rw [if_neg (by decide)] at hc ⊢
    cases rest with
    | nil =>
      have := h.esc htc c rfl hc
      rw [List.length_cons] at this
      omega
    | cons a t => rw [List.length_cons] at hr; omega
  · rw [if_pos rfl]; omega

/-- the side conditions under which the rest of the block is encoded from the state `e` -/
structure Ready (p : Par) (e : ES) (PX rest : List Nat) : Prop where
  crlf : p.crlf = true → CrlfOK rest
  fits : Fits p (PX.length + e.pw.length) rest
  start : e.X = [] → e.pw = [] → rest.head? ≠ some 32

theorem Ready.after {p : Par} {e e2 : ES} {PX S rest2 : List Nat} (hcr : p.crlf = true → CrlfOK rest2)
    (hF : Fits p (PX.length + e.pw.length + S.length) rest2) (hpw : e2.pw = []) (hX : e2.X ≠ []) :
    Ready p e2 (PX ++ e.pw ++ S) rest2 := by
  refine ⟨hcr, ?_, fun h _ => absurd h hX⟩
  rw [hpw, List.length_append, List.length_append, List.length_nil, Nat.add_zero]
  exact hF

theorem sim_step (p : Par) (dstLen dstEnd : Nat) (h6 : 6 ≤ p.lh) (h32 : p.lh ≤ 32) (c : Nat) (rest : List Nat)
    (e : ES) (tX : DS) (PX : List Nat) (ef : ES) (hS : Sim p e tX PX) (hR : Ready p e PX (c :: rest))
    (henc : encL p.tc2 dstLen dstEnd p.crlf (c :: rest) e = .ok ef) :
    ∃ (rest2 : List Nat) (e2 : ES) (tX2 : DS) (PX2 : List Nat), rest2.length ≤ rest.length ∧ Sim p e2 tX2 PX2 ∧
      Ready p e2 PX2 rest2 ∧ encL p.tc2 dstLen dstEnd p.crlf rest2 e2 = .ok ef ∧
      PX2 ++ e2.pw ++ rest2 = PX ++ e.pw ++ (c :: rest) := by
  unfold encL at henc
  cases hst : encStep p.tc2 dstLen dstEnd p.crlf e c with
  | err x => rw [hst] at henc; cases henc
  | fault x => rw [hst] at henc; cases henc
  | ok e1 =>
    rw [hst] at henc
    simp only at henc
    have hroom := hR.fits.room
    rw [List.length_cons] at hroom
    by_cases ct : isText c = true
    · -- a letter
      have he1 : e1 = { e with pw := e.pw ++ [c] } := by
        unfold encStep at hst
        rw [if_pos ct] at hst
        cases hst; rfl
      subst he1
      have hcr : c ≠ CR := by intro h; rw [h] at ct; exact absurd ct (by decide)
      refine ⟨rest, _, tX, PX, Nat.le_refl _, sim_text p e tX PX c hS ct,
        ⟨fun h => ((hR.crlf h).tail hcr).2, ?_, fun _ h => by simp at h⟩, henc, by simp⟩
      show Fits p (PX.length + (e.pw ++ [c]).length) rest
      rw [List.length_append, List.length_singleton, ← Nat.add_assoc]
      exact hR.fits.tail
    · have cnt : isText c = false := by simpa using ct
      by_cases ccr : p.crlf = true ∧ c = CR
      · -- CR LF in CR+LF mode
        obtain ⟨hcrlf, rfl⟩ := ccr
        obtain ⟨rest'', rfl, hok''⟩ := (hR.crlf hcrlf).cr
        rw [List.length_cons] at hroom
        obtain ⟨tX', hS', hpw1, hX1⟩ := sim_event p dstLen dstEnd e e1 tX PX CR LF [LF] hS h6 h32 hst (by decide)
          (by decide) (by decide) (by cases p.tc2 <;> decide) (by rw [hcrlf]; exact encLits_crlf _ _)
          (fun t ht => by rw [hcrlf]; exact litL_crlf p.n t ht)
          (by simp only [List.length_cons, List.length_nil]; omega)
          (fun h => by
            have := congrArg List.length h
            simp only [List.length_append, List.length_cons, List.length_nil] at this
            omega)
        unfold encL at henc
        rw [encStep_lf_after _ _ _ _ e1 hpw1] at henc
        refine ⟨rest'', _, tX', _, Nat.le_succ _, hS',
          Ready.after (fun _ => hok'') hR.fits.tail.tail hpw1 (by simp), henc, ?_⟩
        show _ ++ e1.pw ++ _ = _
        rw [hpw1]
        simp
      · have hcr : p.crlf = true → CrlfOK rest := fun h => ((hR.crlf h).tail (fun x => ccr ⟨h, x⟩)).2
        by_cases cesc : escaped p.tc2 c
        · -- an escaped byte
          have hnd : isDelimiter c = false := by
            unfold escaped at cesc
            cases htc : p.tc2
            · rw [htc, if_neg (by decide)] at cesc
              rcases cesc with h | h <;> rw [h] <;> decide
            · rw [htc, if_pos rfl] at cesc
              rcases cesc with h | h
              · exact not_delim_ge128 c h
              · rw [h]; decide
          have he1 : e1 = ⟨e.X ++ e.pw ++ [c], [], e.words, e.d, e.out⟩ := by
            unfold encStep at hst
            rw [if_neg ct, if_neg (by rw [hnd]; intro h; exact absurd h.2.1 (by decide))] at hst
            cases hst; rfl
          subst he1
          exact ⟨rest, _, _, _, Nat.le_refl _, sim_escape p e tX PX c hS cesc (hR.fits.head_escaped cesc),
            Ready.after hcr hR.fits.tail rfl (by simp), henc, by simp⟩
        · -- an ordinary byte
          have hnlf : ¬ (p.crlf = true ∧ c = LF) := fun h =>
            ((hR.crlf h.1).tail (fun x => ccr ⟨h.1, x⟩)).1 h.2
          obtain ⟨tX', hS', hpw1, hX1⟩ := sim_event p dstLen dstEnd e e1 tX PX c c [] hS h6 h32 hst cnt rfl cnt
            (plain_of_not_escaped p.tc2 c cesc) (encLits_plain _ _ _ _ cesc ccr)
            (fun t ht => litL_plain p.n p.crlf c hnlf t ht)
            (by simp only [List.length_cons, List.length_nil]; omega)
            (fun h => by
              have hl := congrArg List.length h
              simp only [List.length_append, List.length_cons, List.length_nil] at hl
              have hx : e.X = [] := List.eq_nil_of_length_eq_zero (by omega)
              have hp : e.pw = [] := List.eq_nil_of_length_eq_zero (by omega)
              rw [hx, hp] at h
              exact hR.start hx hp (by rw [(List.cons.inj h).1]; rfl))
          rw [List.append_nil] at hS'
          refine ⟨rest, e1, tX', _, Nat.le_refl _, hS', Ready.after hcr hR.fits.tail hpw1 hX1, henc, ?_⟩
          rw [hpw1]
          simp

/-- `k`: a bound for the length of the rest of the block, the recursion variable, since `sim_step` consumes one
    byte or two -/
theorem sim_main (p : Par) (dstLen dstEnd : Nat) (h6 : 6 ≤ p.lh) (h32 : p.lh ≤ 32) :
    ∀ (k : Nat) (rest : List Nat) (e : ES) (tX : DS) (PX : List Nat) (ef : ES), rest.length ≤ k →
      Sim p e tX PX → Ready p e PX rest → encL p.tc2 dstLen dstEnd p.crlf rest e = .ok ef →
      ∃ tF PF, Sim p ef tF PF ∧ PF ++ ef.pw = PX ++ e.pw ++ rest
  | _, [], e, tX, PX, ef, _, hS, _, henc => by
    unfold encL at henc
    cases henc
    exact ⟨tX, PX, hS, (List.append_nil _).symm⟩
  | 0, c :: rest, _, _, _, _, hk, _, _, _ => by simp at hk
  | k + 1, c :: rest, e, tX, PX, ef, hk, hS, hR, henc => by
    obtain ⟨rest2, e2, tX2, PX2, hl, hS2, hR2, henc2, hP⟩ := sim_step p dstLen dstEnd h6 h32 c rest e tX PX ef hS hR henc
    rw [List.length_cons] at hk
    obtain ⟨tF, PF, hF, hPF⟩ := sim_main p dstLen dstEnd h6 h32 k rest2 e2 tX2 PX2 ef (by omega) hS2 hR2 henc2
    exact ⟨tF, PF, hF, by rw [hPF, hP]⟩

end Kanzi.Text
