/-
ROLZX (`rolzCodec2`): what `findMatch` guarantees, and the simulation of one encoder step by one decoder step
(`step_sim`): literal or (match length, match index), tables, probabilities, coder registers.
-/
import Kanzi.Model.ROLZX
import Kanzi.Proofs.RolzCoder
import Kanzi.Proofs.RolzTab

namespace Kanzi.ROLZ

/-! ## `findMatch` -/

/-- what the candidate loop knows about its best candidate: nothing yet, or `J` is a ring index whose entry
    points at `L` bytes equal to those at `pos` -/
def CandOk (a : Array Nat) (mts : Array Nat) (mb counter pc base pos maxMatch L J : Nat) : Prop :=
  L = 0 ∨ (J < pc ∧ Same a (base + mts.getD (mb + (counter + pc - J) % pc) 0 % 2 ^ 24) pos L ∧ L < maxMatch + 4 ∧
    0 < maxMatch)

theorem candLoop2_spec (a : Array Nat) (base lim pos hash32 maxMatch : Nat) (mts : Array Nat) (mb counter pc : Nat) :
    ∀ (k j L J : Nat) (res : Nat × Nat), j + k ≤ pc → CandOk a mts mb counter pc base pos maxMatch L J →
    candLoop2 a base lim pos hash32 maxMatch mts mb counter pc k j L J = .ok res →
    CandOk a mts mb counter pc base pos maxMatch res.1 res.2 := by
  intro k
  induction k with
  | zero =>
    intro j L J res _ hc h
    simp only [candLoop2] at h
    injection h with h
    subst h
    exact hc
  | succ k ih =>
    intro j L J res hjk hc h
    simp only [candLoop2] at h
    split at h
    · exact ih (j + 1) L J res (by omega) hc h
    · split at h
      · split at h
        · exact ih (j + 1) L J res (by omega) hc h
        · split at h
          · rename_i n hn
            have sp := matchLen2_spec a lim _ pos maxMatch _ 0 n (fun k hk => by omega) hn
            split at h
            · rename_i hgt
              have hnew : CandOk a mts mb counter pc base pos maxMatch n j := by
                right
                refine ⟨by omega, sp.1, ?_⟩
                rcases sp.2.1 with h0 | h0
                · omega
                · exact h0
              split at h
              · injection h with h
                subst h
                exact hnew
              · exact ih (j + 1) n j res (by omega) hnew h
            · exact ih (j + 1) L J res (by omega) hc h
          · cases h
          · cases h
      · cases h

/-- nothing happens when fewer than `minMatch` bytes are left in the chunk, otherwise the position is registered
    (tagged with the hash of its first 3 bytes) -/
theorem findMatch2_spec {a : Array Nat} {base lim pos key mm lpc : Nat} {t : Tab} {r : Option (Nat × Nat) × Tab}
    (h : findMatch2 a base lim pos key mm lpc t = .ok r) (hmm : 3 ≤ mm ∧ mm ≤ 7) :
    ((lim - pos < mm ∧ r.2 = t) ∨
      (mm ≤ lim - pos ∧ ∃ w, r.2 = t.register lpc key (rolzhashW w + (pos - base)))) ∧
    ∀ j ml, r.1 = some (j, ml) → mm ≤ lim - pos ∧ j < 2 ^ lpc ∧ ml < 256 ∧ pos + ml + mm < lim ∧
      Same a (base + ring t lpc key j % 2 ^ 24) pos (ml + mm) := by
  unfold findMatch2 at h
  have hM : MAX_MATCH2 = 258 := rfl
  by_cases hlt : lim - pos < mm
  · rw [if_pos (by rw [hM]; omega)] at h
    injection h with h
    subst h
    exact ⟨Or.inl ⟨hlt, rfl⟩, fun j ml hc => nomatch hc⟩
  · have hge : mm ≤ lim - pos := Nat.le_of_not_lt hlt
    rw [if_neg (by rw [hM]; omega)] at h
    split at h
    · cases h
    · rename_i w hw
      dsimp only at h
      split at h
      · rename_i res hres
        have sp := candLoop2_spec a base lim pos (rolzhashW w) (min MAX_MATCH2 (lim - pos) - 4) t.mts (key * 2 ^ lpc)
          (t.counters.getD key 0) (2 ^ lpc) (2 ^ lpc) 0 0 0 res (by omega) (Or.inl rfl) hres
        split at h
        · injection h with h
          subst h
          exact ⟨Or.inr ⟨hge, w, rfl⟩, fun j ml hc => nomatch hc⟩
        · injection h with h
          subst h
          refine ⟨Or.inr ⟨hge, w, rfl⟩, fun j ml hc => ?_⟩
          injection hc with hc
          injection hc with hj hml
          subst hj
          subst hml
          rcases sp with h0 | ⟨hJ, hsame, hL, hpos⟩
          · omega
          · rw [hM] at hL
            refine ⟨hge, hJ, by omega, by omega, ?_⟩
            rw [show res.1 - mm + mm = res.1 by omega]
            exact hsame
      · cases h
      · cases h

/-! ## one symbol through the literal table -/

theorem encLit9_ok {dstLen c val : Nat} {s s' : FSt} (h : encLit9 dstLen c val s = .ok s') :
    encBits dstLen (c <<< 9) val 9 1 s.enc s.pl = .ok (s'.enc, s'.pl) ∧ s'.tab = s.tab ∧ s'.pm = s.pm := by
  unfold encLit9 at h
  simp only at h
  split at h
  · rename_i r hr
    injection h with h
    subst h
    exact ⟨hr, rfl, rfl⟩
  · cases h
  · cases h

/-! ## the simulation relation -/

/-- encoder state `sF` and decoder state `sI` at the same position `i` (absolute), for the complete output `S`:
    aligned coders, equal probability tables, and the decoder has restored the block below `i` -/
structure Rel (S : List Nat) (a : Array Nat) (lpc i : Nat) (sF : FSt) (sI : ISt) : Prop where
  einv : EInv sF.enc
  drel : DRel S sF.enc sI.dec
  pl : sI.pl = sF.pl
  pm : sI.pm = sF.pm
  plok : ProbOk sF.pl
  pmok : ProbOk sF.pm
  agree : ∀ k, k < i → sI.dst.getD k 0 = a.getD k 0
  tokE : TabOk sF.tab lpc
  tokD : TabOk sI.tab lpc

/-- **lock step of the tables**: as long as the encoder still searches (at least `mm` bytes left in the chunk)
    both sides hold the same ring of positions for every key, all of them before the current position -/
def TRel (lpc base lim mm i : Nat) (tE tD : Tab) : Prop :=
  mm ≤ lim - i → RingEq tE tD lpc ∧ EntLt tE (i - base)

theorem rd1_some {a : Array Nat} {lim i c : Nat} (h : rd1 a lim i = some c) : i < lim ∧ c = a.getD i 0 := by
  unfold rd1 at h
  split at h
  · injection h with h; exact ⟨by assumption, h.symm⟩
  · cases h

theorem rd1_eq {a : Array Nat} {lim i : Nat} (h : i < lim) : rd1 a lim i = some (a.getD i 0) := by
  unfold rd1; rw [if_pos h]

theorem trel_register {lpc base i i' key : Nat} {tE tD : Tab} (hE : TabOk tE lpc) (hD : TabOk tD lpc)
    (hre : RingEq tE tD lpc) (hel : EntLt tE (i - base)) (hk : key < HASH_SIZE) (w : Nat) (hi : i - base < 2 ^ 24)
    (hi' : i < i') (hb : base ≤ i) :
    RingEq (tE.register lpc key (rolzhashW w + (i - base))) (tD.register lpc key (i - base)) lpc ∧
      EntLt (tE.register lpc key (rolzhashW w + (i - base))) (i' - base) := by
  refine ⟨register_ringEq hE hD hre hk _ _ (tag_pos w _ hi), register_entLt hel (by omega) _ _ _ ?_⟩
  rw [tag_pos w _ hi]
  omega

theorem lit9_rel {S : List Nat} {a : Array Nat} {dstLen lpc i c val : Nat} (hS : Bytes S) {sF sF' : FSt} {sI : ISt}
    (hrel : Rel S a lpc i sF sI) (h : encLit9 dstLen c val sF = .ok sF') (hg : Good S sF'.enc) :
    ∃ sI', decLit9 S.toArray c sI = .ok (val % 512, sI') ∧ Rel S a lpc i sF' sI' ∧ sI'.dst = sI.dst ∧
      sI'.tab = sI.tab ∧ Good S sF.enc := by
  obtain ⟨he, ht', hpm'⟩ := encLit9_ok h
  obtain ⟨i1, p1, gb, _⟩ := encBits_ok hS hrel.einv hrel.plok he
  obtain ⟨d', hd, r'⟩ := decBits_sim hS hrel.einv hrel.plok he hg hrel.drel
  refine ⟨⟨sI.tab, d', sF'.pl, sI.pm, sI.dst⟩, ?_, ⟨i1, r', rfl, by rw [hpm']; exact hrel.pm, p1,
    by rw [hpm']; exact hrel.pmok, hrel.agree, by rw [ht']; exact hrel.tokE, hrel.tokD⟩, rfl, rfl, gb hg⟩
  unfold decLit9
  simp only
  rw [hrel.pl, hd]
  simp only
  congr 2
  omega

theorem lit_sim {S : List Nat} {a : Array Nat} {dstLen lpc i c v : Nat} (hS : Bytes S) {sF sF' : FSt} {sI : ISt}
    (hrel : Rel S a lpc i sF sI) (hv : v = a.getD i 0) (hvb : v < 256) (hi : i < sI.dst.size)
    (h : encLit9 dstLen c (256 + v) sF = .ok sF') (hg : Good S sF'.enc) :
    ∃ val sI1, decLit9 S.toArray c sI = .ok (val, sI1) ∧ val >>> 8 = 1 ∧
      Rel S a lpc (i + 1) sF' ⟨sI1.tab, sI1.dec, sI1.pl, sI1.pm, sI1.dst.setIfInBounds i (val % 256)⟩ ∧
      sI1.dst.size = sI.dst.size ∧ sI1.tab = sI.tab ∧ Good S sF.enc := by
  obtain ⟨sI1, hd1, rel1, e4, e3, gb⟩ := lit9_rel hS hrel h hg
  rw [Nat.mod_eq_of_lt (by omega : 256 + v < 512)] at hd1
  refine ⟨256 + v, sI1, hd1, by rw [Nat.shiftRight_eq_div_pow]; omega, ?_, by rw [e4], e3, gb⟩
  rw [show (256 + v) % 256 = v by omega]
  refine ⟨rel1.einv, rel1.drel, rel1.pl, rel1.pm, rel1.plok, rel1.pmok, fun j hj => ?_, rel1.tokE, rel1.tokD⟩
  show (sI1.dst.setIfInBounds i v).getD j 0 = a.getD j 0
  rw [getD_setIfInBounds, e4]
  by_cases hji : j = i
  · rw [if_pos ⟨hji, hi⟩, hji, hv]
  · rw [if_neg (fun hc => hji hc.1)]
    exact hrel.agree j (by omega)

/-! ## one step -/

theorem fwdStep_ok {a : Array Nat} {dstLen base lim mm delta lpc i i' : Nat} {s s' : FSt}
    (h : fwdStep a dstLen base lim mm delta lpc i s = .ok (i', s')) :
    ∃ c key fm t, rd1 a lim (i - 1) = some c ∧ getKey mm delta a base lim i = some key ∧
      findMatch2 a base lim i key mm lpc s.tab = .ok (fm, t) ∧
      ((∃ v, fm = none ∧ rd1 a lim i = some v ∧ encLit9 dstLen c (256 + v) ⟨t, s.enc, s.pl, s.pm⟩ = .ok s' ∧
          i' = i + 1) ∨
        ∃ mi ml s1 r, fm = some (mi, ml) ∧ encLit9 dstLen c ml ⟨t, s.enc, s.pl, s.pm⟩ = .ok s1 ∧
          encBits dstLen (c <<< lpc) mi lpc 1 s1.enc s1.pm = .ok r ∧ s' = ⟨s1.tab, r.1, s1.pl, r.2⟩ ∧
          i' = i + ml + mm) := by
  unfold fwdStep at h
  dsimp only at h
  split at h
  · cases h
  · split at h
    · rename_i c key hc hkey
      split at h
      · rename_i t hfm
        split at h
        · rename_i v hv
          split at h
          · rename_i s1 hs1
            injection h with h
            injection h with h1 h2
            exact ⟨c, key, none, t, hc, hkey, hfm, Or.inl ⟨v, rfl, hv, h2 ▸ hs1, h1.symm⟩⟩
          · cases h
          · cases h
        · cases h
      · rename_i mi ml t hfm
        split at h
        · rename_i s1 hs1
          split at h
          · rename_i r hr
            injection h with h
            injection h with h1 h2
            exact ⟨c, key, some (mi, ml), t, hc, hkey, hfm, Or.inr ⟨mi, ml, s1, r, rfl, hs1, hr, h2.symm, h1.symm⟩⟩
          · cases h
          · cases h
        · cases h
        · cases h
      · cases h
      · cases h
    · cases h

/-- **one step**: a successful encoder step whose final coder state is consistent with `S` is mirrored by the
    decoder step at the same position -/
theorem step_sim {S : List Nat} {a : Array Nat} {dstLen dstEnd base lim mm delta lpc i i' : Nat} (hS : Bytes S)
    (ha : ∀ k, a.getD k 0 < 256) (hpar : ParamsOk mm delta) (hmm : 3 ≤ mm ∧ mm ≤ 7)
    (hbi : base + 8 ≤ i) (hlimE : lim ≤ dstEnd) (hchunk : lim - base ≤ 2 ^ 24)
    {sF sF' : FSt} {sI : ISt} (hrel : Rel S a lpc i sF sI) (hsz : lim ≤ sI.dst.size)
    (htr : TRel lpc base lim mm i sF.tab sI.tab)
    (hF : fwdStep a dstLen base lim mm delta lpc i sF = .ok (i', sF')) (hg : Good S sF'.enc) :
    ∃ sI', invStep S.toArray dstEnd base lim mm delta lpc i sI = .ok (i', sI') ∧ Rel S a lpc i' sF' sI' ∧
      sI'.dst.size = sI.dst.size ∧ TRel lpc base lim mm i' sF'.tab sI'.tab ∧ i < i' ∧ i' ≤ lim ∧ Good S sF.enc := by
  obtain ⟨c, key, fm, t, hc, hkey, hfm, hcase⟩ := fwdStep_ok hF
  obtain ⟨hil', hcv⟩ := rd1_some hc
  have hkeylt := getKey_lt ha hkey
  have hkeyD : getKey mm delta sI.dst base lim i = some key := by
    rw [getKey_agree hpar hrel.agree]
    exact hkey
  have hcD : rd1 sI.dst lim (i - 1) = some c := by
    rw [rd1_eq hil', hrel.agree (i - 1) (by omega), hcv]
  -- the tables after the search: the decoder always registers position `i`; the encoder does too unless fewer
  -- than `mm` bytes are left, and then `TRel` claims nothing from here to the end of the chunk
  obtain ⟨htab, hmatch⟩ := findMatch2_spec hfm hmm
  dsimp only at htab hmatch
  have htr' : ∀ j, i < j → TRel lpc base lim mm j t (sI.tab.register lpc key (i - base)) := by
    intro j hij hm
    rcases htab with ⟨hlt, _⟩ | ⟨hge, w, ht⟩
    · omega
    · obtain ⟨hre, hel⟩ := htr hge
      rw [ht]
      exact trel_register hrel.tokE hrel.tokD hre hel hkeylt w (by omega) hij (by omega)
  have hrelt : Rel S a lpc i ⟨t, sF.enc, sF.pl, sF.pm⟩ sI := by
    refine ⟨hrel.einv, hrel.drel, hrel.pl, hrel.pm, hrel.plok, hrel.pmok, hrel.agree, ?_, hrel.tokD⟩
    rcases htab with ⟨_, ht⟩ | ⟨_, w, ht⟩
    · rw [show t = sF.tab from ht]
      exact hrel.tokE
    · rw [show t = _ from ht]
      exact register_ok hrel.tokE _ _
  rcases hcase with ⟨v, _, hv, hs', rfl⟩ | ⟨mi, ml, s1, r, rfl, hs1, hr, rfl, rfl⟩
  ·
    obtain ⟨hilt, hvv⟩ := rd1_some hv
    obtain ⟨val, sI1, hd1, hfl, rel1, z1, e3, gb⟩ :=
      lit_sim hS hrelt hvv (by rw [hvv]; exact ha i) (Nat.lt_of_lt_of_le hilt hsz) hs' hg
    obtain ⟨_, ht', _⟩ := encLit9_ok hs'
    simp only at ht'
    refine ⟨⟨sI1.tab.register lpc key (i - base), sI1.dec, sI1.pl, sI1.pm, sI1.dst.setIfInBounds i (val % 256)⟩, ?_,
      ⟨rel1.einv, rel1.drel, rel1.pl, rel1.pm, rel1.plok, rel1.pmok, rel1.agree, rel1.tokE, register_ok rel1.tokD _ _⟩,
      ?_, ?_, Nat.lt_succ_self i, hilt, gb⟩
    · unfold invStep
      simp only [hkeyD, hcD, hd1]
      rw [if_pos hfl]
    · simp only [Array.size_setIfInBounds]
      exact z1
    · simp only
      rw [ht', e3]
      exact htr' (i + 1) (Nat.lt_succ_self i)
  · -- match: the index is coded after the length
    obtain ⟨hge, hj, hml, hend, hsame⟩ := hmatch mi ml rfl
    obtain ⟨hre, hel⟩ := htr hge
    obtain ⟨he1, ht1, hpm1⟩ := encLit9_ok hs1
    simp only at ht1 hpm1
    have i1 := (encBits_ok hS hrel.einv hrel.plok he1).1
    have hpm1ok : ProbOk s1.pm := by rw [hpm1]; exact hrel.pmok
    obtain ⟨i2, p2, g2, _⟩ := encBits_ok hS i1 hpm1ok (e' := r.1) (t' := r.2) hr
    obtain ⟨sI1, hd1, rel1, e4, e3, gb⟩ := lit9_rel hS hrelt hs1 (g2 hg)
    obtain ⟨d2, hd2, r2⟩ := decBits_sim hS i1 hpm1ok (e' := r.1) (t' := r.2) hr hg rel1.drel
    have href : sI1.tab.mts.getD (key * 2 ^ lpc + (sI1.tab.counters.getD key 0 + 2 ^ lpc - mi) % 2 ^ lpc) 0
        = ring sF.tab lpc key mi % 2 ^ 24 := by
      rw [e3]
      exact (hre key hkeylt mi hj).symm
    have hreflt := ring_lt hel lpc key mi
    obtain ⟨dst', hec, hsz', hag'⟩ := emitCopy_spec a sI1.dst lim i (base + ring sF.tab lpc key mi % 2 ^ 24) (ml + mm)
      (by omega) (by omega) (by rw [e4]; exact hsz) (by rw [e4]; exact hrel.agree) hsame
    refine ⟨⟨sI1.tab.register lpc key (i - base), d2, sI1.pl, r.2, dst'⟩, ?_,
      ⟨i2, r2, rel1.pl, rfl, rel1.plok, p2, fun k hk => hag' k (by omega), rel1.tokE, register_ok rel1.tokD _ _⟩,
      ?_, ?_, by omega, by omega, gb⟩
    · unfold invStep
      simp only [hkeyD, hcD, hd1]
      have hv8 : ¬ (ml % 512) >>> 8 = 1 := by
        rw [Nat.shiftRight_eq_div_pow]; omega
      have hml5 : ml % 512 % 256 = ml := by omega
      rw [if_neg hv8, hml5, if_neg (by omega), rel1.pm, hd2]
      simp only
      have hmi : (1 * 2 ^ lpc + mi % 2 ^ lpc) % 2 ^ lpc = mi := by
        rw [Nat.one_mul, Nat.add_mod_left, Nat.mod_mod, Nat.mod_eq_of_lt hj]
      rw [hmi, href, hec]
      simp only
      rw [show i + (ml + mm) = i + ml + mm by omega]
    · simp only
      rw [hsz', e4]
    · simp only
      rw [ht1, e3]
      exact htr' _ (by omega)

end Kanzi.ROLZ
