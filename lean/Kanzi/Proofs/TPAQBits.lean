/-
Range facts about `Int32` operations (two's complement `int32` of Go) used by the TPAQ proofs:
masking with a non negative mask, small sums, shifts of small values, conversions.
-/
namespace Kanzi.TPAQ

theorem i32_lo (x : Int32) : -2147483648 ≤ x.toInt := by have := Int32.le_toInt x; omega
theorem i32_hi (x : Int32) : x.toInt < 2147483648 := by have := Int32.toInt_lt x; omega

theorem and_mask (x m : Int32) (hm : 0 ≤ m.toInt) : 0 ≤ (x &&& m).toInt ∧ (x &&& m).toInt ≤ m.toInt := by
  have hmm : m.toBitVec.msb = false := by
    rw [BitVec.msb_eq_toInt, Int32.toInt_toBitVec]; simp; omega
  have h1 : (x &&& m).toBitVec.msb = false := by
    rw [Int32.toBitVec_and, BitVec.msb_and, hmm, Bool.and_false]
  have e1 : (x &&& m).toInt = ((x &&& m).toBitVec.toNat : Int) := by
    rw [← Int32.toInt_toBitVec, BitVec.toInt_eq_toNat_of_msb h1]
  have e2 : m.toInt = (m.toBitVec.toNat : Int) := by
    rw [← Int32.toInt_toBitVec, BitVec.toInt_eq_toNat_of_msb hmm]
  rw [e1, e2, Int32.toBitVec_and, BitVec.toNat_and]
  have := @Nat.and_le_right x.toBitVec.toNat m.toBitVec.toNat
  omega

theorem toInt_add_of {a b : Int32} {x y : Int} (ha : a.toInt = x) (hb : b.toInt = y)
    (h : -2147483648 ≤ x + y ∧ x + y < 2147483648) : (a + b).toInt = x + y := by
  rw [Int32.toInt_add, ha, hb]; exact Int.bmod_eq_of_le (by omega) (by omega)

theorem toInt_sub_of {a b : Int32} {x y : Int} (ha : a.toInt = x) (hb : b.toInt = y)
    (h : -2147483648 ≤ x - y ∧ x - y < 2147483648) : (a - b).toInt = x - y := by
  rw [Int32.toInt_sub, ha, hb]; exact Int.bmod_eq_of_le (by omega) (by omega)

theorem ne_zero_iff (a : Int32) : (a != 0) = true ↔ a.toInt ≠ 0 := by
  rw [bne_iff_ne, ne_eq, ne_eq, ← Int32.toInt_inj, Int32.toInt_zero]

theorem toInt_ofNat_small (n : Nat) (h : n < 2147483648) : (Int32.ofNat n).toInt = n :=
  Int32.toInt_ofNat_of_lt (by omega)

theorem shl8_small (a : Int32) (h0 : 0 ≤ a.toInt) (h1 : a.toInt ≤ 65535) :
    (a <<< (8 : Int32)).toInt = a.toInt * 256 := by
  have hm : a.toBitVec.msb = false := by
    rw [BitVec.msb_eq_toInt, Int32.toInt_toBitVec]; simp; omega
  have ea : a.toInt = (a.toBitVec.toNat : Int) := by
    rw [← Int32.toInt_toBitVec, BitVec.toInt_eq_toNat_of_msb hm]
  have e8 : (8 : Int32).toBitVec.smod 32 = 8#32 := by decide
  rw [← Int32.toInt_toBitVec, Int32.toBitVec_shiftLeft, e8]
  have hlt : a.toBitVec.toNat ≤ 65535 := by omega
  have e2 : (a.toBitVec <<< (8#32 : BitVec 32)).toNat = a.toBitVec.toNat * 256 := by
    simp [BitVec.toNat_shiftLeft, Nat.shiftLeft_eq]
    omega
  have hm2 : (a.toBitVec <<< (8#32 : BitVec 32)).msb = false := by
    rw [BitVec.msb_eq_decide]; simp; omega
  rw [BitVec.toInt_eq_toNat_of_msb hm2, e2, ea]; simp

end Kanzi.TPAQ
