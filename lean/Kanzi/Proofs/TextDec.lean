/-
`TextCodec.Inverse` on ARBITRARY input (model: Kanzi/Model/Text.lean, Kanzi/Model/TextDec.lean; stated as property
C03 in Properties/C03_text.lean): every outcome is a success within `len(dst)`, one of a few error classes, or one of
two named panics, and the dictionary left behind is bounded by the source length.
Contents: the learning step; the loop invariant `TInv`, one iteration, the loop, all on the traced loop `invLoopT`
(which keeps the dictionary also when it fails) and its agreement with `invLoop`; the whole call `invCall` from any
well-formed dictionary, whatever the number `x` of entries `dictList` has beyond `dictSize` (`x = 0`: the one `reset`
builds on a fresh codec object; `x > 0`: a used object, Proofs/TextDecReuse.lean), agreement with `textInverseS`; the
exact panic condition of the token part of codec 1 (from that of its index reader, Proofs/Text.lean); the loop never
runs out of fuel.
-/
import Kanzi.Model.TextDec
import Kanzi.Proofs.TextTotal

namespace Kanzi.Text
open Kanzi.RLT (Out Res)

/-! ## small facts -/

theorem flipHead_length (flip : Nat) (l : List Nat) : (flipHead flip l).length = l.length := by
  cases l <;> rfl

theorem td_expand_ssz (d : Dict) : (expand d).ssz = d.ssz := expand_ssz d

theorem learnNext_grow (d2 : Dict) (words : Nat) (hs : d2.ssz ≤ words) :
    (learnNext d2 words).2 ≤ words + 1 ∧
    ((learnNext d2 words).1.size = d2.size ∨
      ((learnNext d2 words).1.size = 2 * d2.size ∧ d2.size ≤ words + 1 ∧ (learnNext d2 words).2 = words + 1)) := by
  unfold learnNext
  by_cases c1 : words + 1 ≥ d2.size
  · rw [if_pos c1]
    by_cases c2 : d2.size ≥ MAX_DICT_SIZE
    · rw [if_pos c2]; exact ⟨by simp only; omega, Or.inl rfl⟩
    · rw [if_neg c2]
      exact ⟨Nat.le_refl _, Or.inr ⟨by rw [expand_size]; omega, c1, rfl⟩⟩
  · rw [if_neg c1]; exact ⟨Nat.le_refl _, Or.inl rfl⟩

/-- what the learning step guarantees about its result `(d', w')` -/
structure LearnOK (x : Nat) (d : Dict) (words : Nat) (d' : Dict) (w' : Nat) : Prop where
  dok : DictOKx x d' w'
  ssz : d'.ssz = d.ssz
  hsz : d'.hsz = d.hsz
  w_le : w' ≤ words + 1
  size : d'.size = d.size ∨ (d'.size = 2 * d.size ∧ d.size ≤ words + 1 ∧ w' = words + 1)

theorem LearnOK.refl {x : Nat} (d : Dict) (words : Nat) (h : DictOKx x d words) : LearnOK x d words d words :=
  ⟨h, rfl, rfl, Nat.le_succ _, Or.inl rfl⟩

theorem learn_learnOK {x : Nat} (d : Dict) (words : Nat) (word : List Nat) (h : DictOKx x d words)
    (ht : ∀ b ∈ word, isText b = true) :
    ∃ p, learn d words word (hashWord word) = .ok p ∧ LearnOK x d words p.1 p.2 := by
  refine ⟨_, learn_eq d words word _ h, ?_⟩
  have hc := learnCore_okx d words word h ht
  have hg := learnNext_grow (learnCore d words word (hashWord word)) words (by rw [learnCore_ssz]; exact h.ssz_le)
  rw [learnCore_size] at hg
  exact ⟨learnNext_okx _ _ hc, by rw [learnNext_ssz, learnCore_ssz], by rw [learnNext_hsz]; rfl, hg.1, hg.2⟩

/-- under the dictionary invariant the look-up of Inverse cannot hit a nil `ptr`, and whatever it finds, the word is
    learnt exactly when its slot is free -/
theorem invLearnW_eq {x : Nat} (word : List Nat) (words : Nat) (d : Dict) (h : DictOKx x d words)
    (hl : 2 ≤ word.length) :
    invLearnW word words d =
      if (word.length > 3 ∨ words < THRESHOLD2) ∧ findEntry d (hashWord word) = none then
        learn d words word (hashWord word)
      else .ok (d, words) := by
  unfold invLearnW
  simp only
  cases hf : findEntry d (hashWord word) with
  | none =>
    simp only [and_true]
    by_cases cc : word.length > 3 ∨ words < THRESHOLD2
    · rw [if_pos (by simpa using cc), if_pos cc]
    · rw [if_neg (by simpa using cc), if_neg cc]
  | some k =>
    simp only
    by_cases ch : (entryAt d k).hash = hashWord word ∧ (entryAt d k).len = word.length
    · rw [if_pos ch]
      obtain ⟨v, hv, _⟩ := entry_ptr_of_map d words _ k _ h hf ch.2 hl
      rw [hv]
      simp only
      rw [if_neg (by simp), if_neg (by simp)]
    · rw [if_neg ch]
      simp only
      rw [if_neg (by simp), if_neg (by simp)]

theorem invLearnW_ok {x : Nat} (word : List Nat) (words : Nat) (d : Dict) (h : DictOKx x d words)
    (hl : 2 ≤ word.length) (ht : ∀ b ∈ word, isText b = true) :
    ∃ p, invLearnW word words d = .ok p ∧ LearnOK x d words p.1 p.2 := by
  rw [invLearnW_eq word words d h hl]
  split
  · exact learn_learnOK d words word h ht
  · exact ⟨(d, words), rfl, LearnOK.refl d words h⟩

theorem invLearn_ok {x : Nat} (a : Array Nat) (i ws words : Nat) (d : Dict) (cur : Nat) (h : DictOKx x d words)
    (hi : i ≤ a.size) (ht : ∀ k, ws ≤ k → k < i → isText (a.getD k 0) = true) :
    ∃ p, invLearn a i ws words d cur = .ok p ∧ LearnOK x d words p.1 p.2 ∧
      (p = (d, words) ∨ ws + 3 ≤ i) := by
  unfold invLearn
  by_cases c : i ≥ ws + 3 ∧ isDelimiter cur = true ∧ i - ws ≤ MAX_WORD_LENGTH
  · rw [if_pos c]
    obtain ⟨p, hp, hl⟩ := invLearnW_ok (a.extract ws i).toList words d h
      (by rw [extract_length a ws i hi]; omega)
      (fun b hb => by
        obtain ⟨k, h1, h2, e⟩ := extract_mem a ws i b hi hb
        rw [e]; exact ht k h1 h2)
    exact ⟨p, hp, hl, Or.inr c.1⟩
  · rw [if_neg c]
    exact ⟨(d, words), rfl, LearnOK.refl d words h, Or.inl rfl⟩

/-! ## the loop -/

/-- loop invariant of Inverse on ARBITRARY input.  `D0` = the `dictSize` chosen by `reset`, `z` = `staticDictSize`.
    `dok`: the dictionary is well formed; `text`: the bytes of the current word are letters; `out_le`: nothing
    was written beyond `dst`; `gw`, `gs`: the ring index and the dictionary size are paid for by source bytes
    (every learnt word consumes at least 4 bytes of the source: 3 letters and a delimiter). -/
structure TInv (a : Array Nat) (dstLen D0 z hz : Nat) (s : ISt) : Prop where
  dok : DictOK s.d s.words
  i_le : s.i ≤ a.size
  ws_le : s.ws ≤ s.i + 1
  text : ∀ k, s.ws ≤ k → k < s.i → isText (a.getD k 0) = true
  out_le : s.out.size ≤ dstLen
  ssz_eq : s.d.ssz = z
  hsz_eq : s.d.hsz = hz
  size_ge : 128 ≤ s.d.size
  gw : 4 * s.words ≤ 4 * z + s.ws
  gs : s.d.size = D0 ∨ 2 * s.d.size ≤ 4 * z + s.ws

/-- the state handed to the token part of an iteration (after `srcIdx++` and the learning step) -/
structure TokPre (a : Array Nat) (dstLen D0 z hz : Nat) (t : ISt) : Prop where
  dok : DictOK t.d t.words
  i_le : t.i ≤ a.size
  out_lt : t.out.size < dstLen
  ssz_eq : t.d.ssz = z
  hsz_eq : t.d.hsz = hz
  size_ge : 128 ≤ t.d.size
  gw : 4 * t.words ≤ 4 * z + t.i
  gs : t.d.size = D0 ∨ 2 * t.d.size ≤ 4 * z + t.i

/-- what is known about the dictionary a call leaves behind (`n` = `len(src)`): `len(dictList) = dictSize`, at
    most 2^19 entries, `len(dictMap)` unchanged, and either the size chosen by `reset` or at most `2 staticDictSize + (n+1)/2` -/
structure DB (n D0 z hz : Nat) (d : Dict) : Prop where
  size_eq : d.list.size = d.size
  size_le : d.size ≤ MAX_DICT_SIZE
  ssz_eq : d.ssz = z
  hsz_eq : d.hsz = hz
  map_size : d.map.size = hz
  dok : ∃ w, DictOK d w
  size_ge : 128 ≤ d.size
  grow : d.size = D0 ∨ 2 * d.size ≤ 4 * z + n + 1

/-- `TInv`, `TokPre`, `DB` for a `dictList` with `x` entries beyond `dictSize` (`DictOKx`, a codec object that has been
    used before); the theorems of this file are about these, and `TInv`, `TokPre`, `DB` are the instances `x = 0` -/
structure TInvX (x : Nat) (a : Array Nat) (dstLen D0 z hz : Nat) (s : ISt) : Prop where
  dok : DictOKx x s.d s.words
  i_le : s.i ≤ a.size
  ws_le : s.ws ≤ s.i + 1
  text : ∀ k, s.ws ≤ k → k < s.i → isText (a.getD k 0) = true
  out_le : s.out.size ≤ dstLen
  ssz_eq : s.d.ssz = z
  hsz_eq : s.d.hsz = hz
  size_ge : 128 ≤ s.d.size
  gw : 4 * s.words ≤ 4 * z + s.ws
  gs : s.d.size = D0 ∨ 2 * s.d.size ≤ 4 * z + s.ws

structure TokPreX (x : Nat) (a : Array Nat) (dstLen D0 z hz : Nat) (t : ISt) : Prop where
  dok : DictOKx x t.d t.words
  i_le : t.i ≤ a.size
  out_lt : t.out.size < dstLen
  ssz_eq : t.d.ssz = z
  hsz_eq : t.d.hsz = hz
  size_ge : 128 ≤ t.d.size
  gw : 4 * t.words ≤ 4 * z + t.i
  gs : t.d.size = D0 ∨ 2 * t.d.size ≤ 4 * z + t.i

structure DBX (x n D0 z hz : Nat) (d : Dict) : Prop where
  size_eq : d.list.size = d.size + x
  size_le : d.size ≤ MAX_DICT_SIZE
  ssz_eq : d.ssz = z
  hsz_eq : d.hsz = hz
  map_size : d.map.size = hz
  dok : ∃ w, DictOKx x d w
  size_ge : 128 ≤ d.size
  grow : d.size = D0 ∨ 2 * d.size ≤ 4 * z + n + 1

theorem TInv_iff {a : Array Nat} {dstLen D0 z hz : Nat} {s : ISt} :
    TInv a dstLen D0 z hz s ↔ TInvX 0 a dstLen D0 z hz s :=
  ⟨fun h => ⟨DictOK_iff.mp h.dok, h.i_le, h.ws_le, h.text, h.out_le, h.ssz_eq, h.hsz_eq, h.size_ge, h.gw, h.gs⟩,
   fun h => ⟨DictOK_iff.mpr h.dok, h.i_le, h.ws_le, h.text, h.out_le, h.ssz_eq, h.hsz_eq, h.size_ge, h.gw, h.gs⟩⟩

theorem TokPre.x {a : Array Nat} {dstLen D0 z hz : Nat} {t : ISt} (h : TokPre a dstLen D0 z hz t) :
    TokPreX 0 a dstLen D0 z hz t :=
  ⟨DictOK_iff.mp h.dok, h.i_le, h.out_lt, h.ssz_eq, h.hsz_eq, h.size_ge, h.gw, h.gs⟩

theorem DBX.strict {n D0 z hz : Nat} {d : Dict} (h : DBX 0 n D0 z hz d) : DB n D0 z hz d :=
  ⟨h.size_eq, h.size_le, h.ssz_eq, h.hsz_eq, h.map_size, h.dok.elim fun w hw => ⟨w, DictOK_iff.mpr hw⟩, h.size_ge,
    h.grow⟩

/-- the allocation bound in numbers, for a static dictionary of at most `K / 2` entries -/
theorem DB.alloc {n D0 z hz K : Nat} {d : Dict} (h : DB n D0 z hz d) (hK : 2 * z ≤ K) :
    d.list.size = d.size ∧ d.size ≤ 2 ^ 19 ∧ d.map.size = hz ∧ d.size ≤ max D0 (K + (n + 1) / 2) := by
  have hM : MAX_DICT_SIZE = 2 ^ 19 := by decide
  refine ⟨h.size_eq, by rw [← hM]; exact h.size_le, h.map_size, ?_⟩
  rcases h.grow with g | g
  · rw [g]; exact Nat.le_max_left _ _
  · exact Nat.le_trans (by omega) (Nat.le_max_right _ _)

theorem DBX.of_dok {x n D0 z hz w : Nat} {d : Dict} (h : DictOKx x d w) (h1 : d.ssz = z) (h2 : d.hsz = hz)
    (h3 : 128 ≤ d.size) (h4 : d.size = D0 ∨ 2 * d.size ≤ 4 * z + n + 1) : DBX x n D0 z hz d :=
  ⟨h.size_eq, h.size_le, h1, h2, by rw [h.map_size]; exact h2, ⟨_, h⟩, h3, h4⟩

theorem TokPreX.db {x : Nat} {a : Array Nat} {dstLen D0 z hz : Nat} {t : ISt} (h : TokPreX x a dstLen D0 z hz t) :
    DBX x a.size D0 z hz t.d :=
  .of_dok h.dok h.ssz_eq h.hsz_eq h.size_ge (by have := h.gs; have := h.i_le; omega)

theorem TInvX.db {x : Nat} {a : Array Nat} {dstLen D0 z hz : Nat} {s : ISt} (h : TInvX x a dstLen D0 z hz s) :
    DBX x a.size D0 z hz s.d :=
  .of_dok h.dok h.ssz_eq h.hsz_eq h.size_ge (by have := h.gs; have := h.i_le; have := h.ws_le; omega)

/-- a token that leaves the dictionary alone and ends at `t'.i` with the word start at or behind it -/
theorem TInvX_of_tok {x : Nat} {a : Array Nat} {dstLen D0 z hz : Nat} {t t' : ISt} (h : TokPreX x a dstLen D0 z hz t)
    (hi : t.i ≤ t'.i) (hi2 : t'.i ≤ a.size) (hws1 : t'.i ≤ t'.ws) (hws2 : t'.ws ≤ t'.i + 1)
    (hw : t'.words = t.words) (hd : t'.d = t.d) (ho : t'.out.size ≤ dstLen) : TInvX x a dstLen D0 z hz t' := by
  refine ⟨by rw [hd, hw]; exact h.dok, hi2, hws2, fun k h1 h2 => by omega, ho, by rw [hd]; exact h.ssz_eq,
    by rw [hd]; exact h.hsz_eq, by rw [hd]; exact h.size_ge, ?_, ?_⟩
  · rw [hw]; have := h.gw; omega
  · rw [hd]; have := h.gs; omega

/-- the state handed to the token part: the learning step never fails and pays for what it adds -/
theorem invLearn_tokPre {x : Nat} {a : Array Nat} {dstLen D0 z hz : Nat} {s : ISt} (hI : TInvX x a dstLen D0 z hz s)
    (hi : s.i < a.size) (ho : s.out.size < dstLen) :
    ∃ p, invLearn a s.i s.ws s.words s.d (a.getD s.i 0) = .ok p ∧
      TokPreX x a dstLen D0 z hz ⟨s.i + 1, s.ws, p.2, s.run, p.1, s.out⟩ := by
  obtain ⟨p, hp, hl, hcase⟩ := invLearn_ok a s.i s.ws s.words s.d (a.getD s.i 0) hI.dok (by omega) hI.text
  have hws := hI.ws_le
  have hgw := hI.gw
  have hgs := hI.gs
  have hsz := hI.size_ge
  refine ⟨p, hp, ?_⟩
  rcases hcase with hc | hc
  · rw [hc]
    exact ⟨hI.dok, by show s.i + 1 ≤ a.size; omega, ho, hI.ssz_eq, hI.hsz_eq, hsz,
      by show 4 * s.words ≤ 4 * z + (s.i + 1); omega,
      by show s.d.size = D0 ∨ 2 * s.d.size ≤ 4 * z + (s.i + 1); omega⟩
  · -- a word was looked up: it has at least 3 letters, which pay for the new entry and for a doubling
    have hwle := hl.w_le
    have hsize := hl.size
    exact ⟨hl.dok, by show s.i + 1 ≤ a.size; omega, ho, by show p.1.ssz = z; rw [hl.ssz]; exact hI.ssz_eq,
      by show p.1.hsz = hz; rw [hl.hsz]; exact hI.hsz_eq, by show 128 ≤ p.1.size; omega,
      by show 4 * p.2 ≤ 4 * z + (s.i + 1); omega,
      by show p.1.size = D0 ∨ 2 * p.1.size ≤ 4 * z + (s.i + 1); omega⟩

/-! ## the token part -/

theorem emitWord_spec {x : Nat} {a : Array Nat} {dstLen D0 z hz : Nat} {t : ISt} (h : TokPreX x a dstLen D0 z hz t)
    (i2 idx flip : Nat) (h1 : t.i ≤ i2) (h2 : i2 ≤ a.size) (hidx : idx < t.d.size ∨ idx < 128) :
    emitWord dstLen t i2 idx flip = .err "data" ∨
    ∃ t', emitWord dstLen t i2 idx flip = .ok t' ∧ TInvX x a dstLen D0 z hz t' ∧ t.i ≤ t'.i := by
  have hl : ¬ idx ≥ t.d.list.size := by rw [h.dok.size_eq]; have := h.size_ge; omega
  unfold emitWord
  simp only
  rw [if_neg hl]
  cases hp : (entryAt t.d idx).ptr with
  | none => exact Or.inl rfl
  | some w =>
    simp only
    generalize (if (entryAt t.d idx).len % 256 > 1 ∧ t.run = true then t.out.push 32 else t.out) = o1
    by_cases hlt : o1.size + (entryAt t.d idx).len % 256 ≥ dstLen
    · rw [if_pos hlt]; exact Or.inl rfl
    · rw [if_neg hlt]
      refine Or.inr ⟨_, rfl, TInvX_of_tok h h1 h2 ?_ ?_ rfl rfl ?_, h1⟩
      · show i2 ≤ if (entryAt t.d idx).len % 256 > 1 then i2 + 1 else i2
        split <;> omega
      · show (if (entryAt t.d idx).len % 256 > 1 then i2 + 1 else i2) ≤ i2 + 1
        split <;> omega
      · show (o1 ++ flipHead flip (w.take ((entryAt t.d idx).len % 256))).size ≤ dstLen
        rw [size_appendList, flipHead_length, List.length_take]
        omega

theorem invLit_spec {x : Nat} {a : Array Nat} {dstLen D0 z hz : Nat} {t : ISt} (h : TokPreX x a dstLen D0 z hz t)
    (crlf : Bool) (cur : Nat) :
    invLit dstLen crlf t cur = .err "data" ∨
    ∃ t', invLit dstLen crlf t cur = .ok t' ∧ TInvX x a dstLen D0 z hz t' ∧ t.i ≤ t'.i := by
  unfold invLit
  have ho := h.out_lt
  split
  · split
    · exact Or.inl rfl
    · refine Or.inr ⟨_, rfl, TInvX_of_tok h (Nat.le_refl _) h.i_le (Nat.le_refl _) (Nat.le_succ _) rfl rfl ?_,
        Nat.le_refl _⟩
      show ((t.out.push CR).push cur).size ≤ dstLen
      rw [Array.size_push, Array.size_push]; omega
  · refine Or.inr ⟨_, rfl, TInvX_of_tok h (Nat.le_refl _) h.i_le (Nat.le_refl _) (Nat.le_succ _) rfl rfl ?_,
      Nat.le_refl _⟩
    show (t.out.push cur).size ≤ dstLen
    rw [Array.size_push]; omega

/-- the possible error classes of the loop, and the possible panics (`tc2`: codec 2, `old`: bsVersion < 6;
    `dict-index` is the `dictList[-1]` of `readIdx2Core_cases`, which only codec 2 in the current format has) -/
def ErrOK (e : String) : Prop := e = "index" ∨ e = "data"
def FaultOK (tc2 old : Bool) (e : String) : Prop := e = "src-index" ∨ (tc2 = true ∧ old = false ∧ e = "dict-index")

def TokPost (x : Nat) (a : Array Nat) (dstLen D0 z hz : Nat) (tc2 old : Bool) (t : ISt) (r : Out ISt) : Prop :=
  match r with
  | .ok t' => TInvX x a dstLen D0 z hz t' ∧ t.i ≤ t'.i
  | .err e => ErrOK e
  | .fault e => FaultOK tc2 old e

/-- the form in which `emitWord_spec` and `invLit_spec` deliver their result -/
theorem TokPost.of_data {x : Nat} {a : Array Nat} {dstLen D0 z hz : Nat} {tc2 old : Bool} {t : ISt} {r : Out ISt}
    (h : r = .err "data" ∨ ∃ t', r = .ok t' ∧ TInvX x a dstLen D0 z hz t' ∧ t.i ≤ t'.i) :
    TokPost x a dstLen D0 z hz tc2 old t r := by
  rcases h with e | ⟨t', e, hT⟩
  · rw [e]; exact Or.inr rfl
  · rw [e]; exact hT

theorem invTok1_spec {x : Nat} {a : Array Nat} {dstLen D0 z hz : Nat} {t : ISt} (h : TokPreX x a dstLen D0 z hz t)
    (crlf old : Bool) (cur : Nat) : TokPost x a dstLen D0 z hz false old t (invTok1 a dstLen crlf t cur) := by
  unfold invTok1
  split
  · rcases readIdx1_cases a t.i t.d.size with ⟨_, e⟩ | ⟨_, e | ⟨idx, i2, e, h1, h2, h3⟩⟩
    · rw [e]; exact Or.inl rfl
    · rw [e]; exact Or.inl rfl
    · rw [e]; exact .of_data (emitWord_spec h i2 idx _ (by omega) h2 h3)
  · exact .of_data (invLit_spec h crlf cur)

theorem invTok2_spec {x : Nat} {a : Array Nat} {dstLen D0 z hz : Nat} {t : ISt} (h : TokPreX x a dstLen D0 z hz t)
    (crlf old : Bool) (cur : Nat) : TokPost x a dstLen D0 z hz true old t (invTok2 old a dstLen crlf t cur) := by
  unfold invTok2
  split
  · cases old with
    | true =>
      simp only [if_true]
      rcases readIdx2Old_cases a t.i cur t.d.size h.i_le with e | e | ⟨idx, i2, fl, e, h1, h2, h3⟩
      · rw [e]; exact Or.inl rfl
      · rw [e]; exact Or.inl rfl
      · rw [e]; exact .of_data (emitWord_spec h i2 idx fl h1 h2 h3)
    | false =>
      simp only [Bool.false_eq_true, if_false]
      rcases readIdx2_cases a t.i cur t.d.size h.i_le with e | e | e | ⟨idx, i2, fl, e, h1, h2, h3⟩
      · rw [e]; exact Or.inl rfl
      · rw [e]; exact Or.inr ⟨rfl, rfl, rfl⟩
      · rw [e]; exact Or.inl rfl
      · rw [e]; exact .of_data (emitWord_spec h i2 idx fl h1 h2 h3)
  · split
    · cases hb : a[t.i]? with
      | none => exact Or.inl rfl
      | some b =>
        have l := lt_of_getElem?_some a _ b hb
        have ho := h.out_lt
        refine ⟨TInvX_of_tok h (Nat.le_succ _) (by show t.i + 1 ≤ a.size; omega) (Nat.le_refl _) (Nat.le_succ _) rfl rfl ?_,
          Nat.le_succ _⟩
        show (t.out.push b).size ≤ dstLen
        rw [Array.size_push]; omega
    · exact .of_data (invLit_spec h crlf cur)

theorem invTok_spec {x : Nat} {a : Array Nat} {dstLen D0 z hz : Nat} {t : ISt} (h : TokPreX x a dstLen D0 z hz t)
    (tc2 old crlf : Bool) (cur : Nat) :
    TokPost x a dstLen D0 z hz tc2 old t
      (if tc2 = true then invTok2 old a dstLen crlf t cur else invTok1 a dstLen crlf t cur) := by
  cases tc2
  · exact invTok1_spec h crlf old cur
  · exact invTok2_spec h crlf old cur

/-! ## one iteration, the loop -/

/-- outcome of the traced iteration / loop (`lo`: a lower bound for `srcIdx` afterwards); a failure carries the
    dictionary it leaves behind -/
def TrPost (x : Nat) (a : Array Nat) (dstLen D0 z hz : Nat) (tc2 old : Bool) (lo : Nat) (r : ITr) : Prop :=
  match r with
  | .ok s' => TInvX x a dstLen D0 z hz s' ∧ lo ≤ s'.i
  | .err e d => ErrOK e ∧ DBX x a.size D0 z hz d
  | .fault e d => FaultOK tc2 old e ∧ DBX x a.size D0 z hz d

theorem invStepT_spec {x : Nat} (tc2 old : Bool) (a : Array Nat) (dstLen D0 z hz : Nat) (crlf : Bool) (s : ISt)
    (hI : TInvX x a dstLen D0 z hz s) (hi : s.i < a.size) (ho : s.out.size < dstLen) :
    TrPost x a dstLen D0 z hz tc2 old (s.i + 1) (invStepT tc2 old a dstLen crlf s) := by
  unfold invStepT
  simp only
  by_cases c0 : isText (a.getD s.i 0) = true
  · rw [if_pos c0]
    refine ⟨⟨hI.dok, by show s.i + 1 ≤ a.size; omega, by show s.ws ≤ s.i + 1 + 1; have := hI.ws_le; omega, ?_, ?_,
      hI.ssz_eq, hI.hsz_eq, hI.size_ge, hI.gw, hI.gs⟩, Nat.le_refl _⟩
    · intro k h1 h2
      by_cases hk : k < s.i
      · exact hI.text k h1 hk
      · have : k = s.i := by have : k < s.i + 1 := h2; omega
        rw [this]; exact c0
    · show (s.out.push (a.getD s.i 0)).size ≤ dstLen
      rw [Array.size_push]; omega
  · rw [if_neg c0]
    obtain ⟨p, hp, hpre⟩ := invLearn_tokPre hI hi ho
    rw [hp]
    simp only
    have hpost := invTok_spec hpre tc2 old crlf (a.getD s.i 0)
    split
    · next t' ht => rw [ht] at hpost; exact hpost
    · next e ht => rw [ht] at hpost; exact ⟨hpost, hpre.db⟩
    · next e ht => rw [ht] at hpost; exact ⟨hpost, hpre.db⟩

/-- the loop from a state that satisfies the invariant, with enough fuel: it ends (the fuel is not exhausted) in
    a state that satisfies the invariant, or with one of the error classes / panics -/
theorem invLoopT_spec {x : Nat} (tc2 old : Bool) (a : Array Nat) (dstLen D0 z hz : Nat) (crlf : Bool) :
    ∀ (f : Nat) (s : ISt), TInvX x a dstLen D0 z hz s → a.size < f + s.i →
      TrPost x a dstLen D0 z hz tc2 old s.i (invLoopT tc2 old a dstLen crlf f s)
  | 0, s, hI, hf => by have := hI.i_le; omega
  | f + 1, s, hI, hf => by
    unfold invLoopT
    by_cases c : s.i < a.size ∧ s.out.size < dstLen
    · rw [if_pos c]
      have hs := invStepT_spec tc2 old a dstLen D0 z hz crlf s hI c.1 c.2
      cases hstep : invStepT tc2 old a dstLen crlf s with
      | ok s' =>
        rw [hstep] at hs
        simp only
        have hr := invLoopT_spec tc2 old a dstLen D0 z hz crlf f s' hs.1 (by have := hs.2; omega)
        cases hloop : invLoopT tc2 old a dstLen crlf f s' with
        | ok s'' => rw [hloop] at hr; exact ⟨hr.1, by have := hr.2; have := hs.2; omega⟩
        | err e d => rw [hloop] at hr; exact hr
        | fault e d => rw [hloop] at hr; exact hr
      | err e d => rw [hstep] at hs; exact hs
      | fault e d => rw [hstep] at hs; exact hs
    · rw [if_neg c]
      exact ⟨hI, Nat.le_refl _⟩

/-! ## the traced loop is the loop -/

theorem invStepT_toOut (tc2 old : Bool) (a : Array Nat) (dstLen : Nat) (crlf : Bool) (s : ISt) :
    (invStepT tc2 old a dstLen crlf s).toOut = invStep tc2 old a dstLen crlf s := by
  unfold invStepT invStep
  simp only
  by_cases c0 : isText (a.getD s.i 0) = true
  · rw [if_pos c0, if_pos c0]; rfl
  · rw [if_neg c0, if_neg c0]
    cases invLearn a s.i s.ws s.words s.d (a.getD s.i 0) with
    | err e => rfl
    | fault e => rfl
    | ok p =>
      simp only
      cases tc2 with
      | true =>
        simp only [if_true]
        cases invTok2 old a dstLen crlf ⟨s.i + 1, s.ws, p.2, s.run, p.1, s.out⟩ (a.getD s.i 0) <;> rfl
      | false =>
        simp only [Bool.false_eq_true, if_false]
        cases invTok1 a dstLen crlf ⟨s.i + 1, s.ws, p.2, s.run, p.1, s.out⟩ (a.getD s.i 0) <;> rfl

theorem invLoopT_toOut (tc2 old : Bool) (a : Array Nat) (dstLen : Nat) (crlf : Bool) :
    ∀ (f : Nat) (s : ISt), (invLoopT tc2 old a dstLen crlf f s).toOut = invLoop tc2 old a dstLen crlf f s
  | 0, s => rfl
  | f + 1, s => by
    unfold invLoopT invLoop
    by_cases c : s.i < a.size ∧ s.out.size < dstLen
    · rw [if_pos c, if_pos c, ← invStepT_toOut]
      cases invStepT tc2 old a dstLen crlf s with
      | ok s' => exact invLoopT_toOut tc2 old a dstLen crlf f s'
      | err e d => rfl
      | fault e d => rfl
    · rw [if_neg c, if_neg c]; rfl

/-! ## the call -/

/-- outcome classes of `textCodec{1,2}.Inverse` -/
def CallPost (tc2 old : Bool) (dstLen : Nat) (r : Res) : Prop :=
  match r with
  | .ok o => o.length ≤ dstLen
  | .err e => e = "index" ∨ e = "data" ∨ e = "srcidx"
  | .fault e => FaultOK tc2 old e

/-- outcome classes of `TextCodec.Inverse` -/
def WrapPost (tc2 old : Bool) (dstLen : Nat) (r : Res) : Prop :=
  match r with
  | .ok o => o.length ≤ dstLen
  | .err e => e = "small" ∨ e = "big" ∨ e = "index" ∨ e = "data" ∨ e = "srcidx"
  | .fault e => FaultOK tc2 old e

theorem CallPost.wrap {tc2 old : Bool} {n : Nat} {r : Res} (h : CallPost tc2 old n r) : WrapPost tc2 old n r := by
  cases r with
  | ok o => exact h
  | err e => exact Or.inr (Or.inr h)
  | fault e => exact h

theorem WrapPost.cases {tc2 old : Bool} {n : Nat} {r : Res} (h : WrapPost tc2 old n r) :
    (∃ o, r = .ok o ∧ o.length ≤ n) ∨
    (∃ e, r = .err e ∧ (e = "small" ∨ e = "big" ∨ e = "index" ∨ e = "data" ∨ e = "srcidx")) ∨
    r = .fault "src-index" ∨ (tc2 = true ∧ old = false ∧ r = .fault "dict-index") := by
  cases r with
  | ok o => exact Or.inl ⟨o, rfl, h⟩
  | err e => exact Or.inr (Or.inl ⟨e, rfl, h⟩)
  | fault e =>
    rcases h with h | ⟨h1, h2, h3⟩
    · rw [h]; exact Or.inr (Or.inr (Or.inl rfl))
    · rw [h3]; exact Or.inr (Or.inr (Or.inr ⟨h1, h2, rfl⟩))

/-- the end of `invCall` (`n` = `len(src)`): result and dictionary at return, from the outcome of the loop -/
def ITr.finish (n : Nat) : ITr → Res × Dict
  | .ok s => (if s.i ≠ n then .err "srcidx" else .ok s.out.toList, s.d)
  | .err e d => (.err e, d)
  | .fault e d => (.fault e, d)

theorem TrPost.finish {x : Nat} {a : Array Nat} {dstLen D0 z hz lo : Nat} {tc2 old : Bool} {r : ITr}
    (h : TrPost x a dstLen D0 z hz tc2 old lo r) :
    CallPost tc2 old dstLen (r.finish a.size).1 ∧ DBX x a.size D0 z hz (r.finish a.size).2 := by
  cases r with
  | ok s =>
    refine ⟨?_, h.1.db⟩
    show CallPost tc2 old dstLen (if s.i ≠ a.size then .err "srcidx" else .ok s.out.toList)
    split
    · exact Or.inr (Or.inr rfl)
    · show s.out.toList.length ≤ dstLen
      rw [Array.length_toList]; exact h.1.out_le
  | err e d =>
    refine ⟨?_, h.2⟩
    rcases h.1 with e1 | e1
    · exact Or.inl e1
    · exact Or.inr (Or.inl e1)
  | fault e d => exact h

theorem ITr.finish_fst (n : Nat) (r : ITr) :
    (r.finish n).1 = r.toOut.bind fun s => if s.i ≠ n then .err "srcidx" else .ok s.out.toList := by
  cases r <;> rfl

/-- the state in which the Go function enters its loop satisfies the invariant, for any well-formed dictionary
    whose ring index stands at `staticDictSize` -/
theorem init_inv {x : Nat} (e0 : Dict) (hok : DictOKx x e0 e0.ssz) (h128 : 128 ≤ e0.size) (a : Array Nat)
    (dstLen ws : Nat) (h1 : 1 ≤ a.size) (hws1 : 1 ≤ ws) (hws2 : ws ≤ 2) :
    TInvX x a dstLen e0.size e0.ssz e0.hsz ⟨1, ws, e0.ssz, false, e0, #[]⟩ := by
  refine ⟨hok, h1, by show ws ≤ 1 + 1; omega, fun k k1 k2 => ?_, Nat.zero_le _, rfl, rfl, h128, ?_, Or.inl rfl⟩
  · have : k < 1 := k2
    have : ws ≤ k := k1
    omega
  · show 4 * e0.ssz ≤ 4 * e0.ssz + ws
    omega

/-- `textCodec{1,2}.Inverse` from a well-formed dictionary, ANY source, ANY destination size: the outcome is a
    success with at most `len(dst)` bytes, one of three error classes, or one of the listed panics (never
    exhausted fuel, never a nil `ptr`); the dictionary left behind is bounded -/
theorem invCall_spec {x : Nat} (tc2 old : Bool) (e0 : Dict) (hok : DictOKx x e0 e0.ssz) (h128 : 128 ≤ e0.size)
    (src : List Nat) (dstLen : Nat) :
    CallPost tc2 old dstLen (invCall tc2 old e0 src dstLen).1 ∧
    DBX x src.length e0.size e0.ssz e0.hsz (invCall tc2 old e0 src dstLen).2 := by
  have hdb0 : DBX x src.length e0.size e0.ssz e0.hsz e0 := .of_dok hok rfl rfl h128 (Or.inl rfl)
  unfold invCall
  simp only
  cases h0 : src.toArray[0]? with
  | none => exact ⟨Or.inl rfl, hdb0⟩
  | some m =>
    cases h1 : src.toArray[1]? with
    | none => exact ⟨Or.inl rfl, hdb0⟩
    | some c1 =>
      have l1 := lt_of_getElem?_some _ _ _ h1
      exact (invLoopT_spec tc2 old src.toArray dstLen e0.size e0.ssz e0.hsz (m &&& MASK_CRLF ≠ 0)
        (src.toArray.size + 1) _
        (init_inv e0 hok h128 src.toArray dstLen (if isText c1 = true then 1 else 2)
          (by omega) (by split <;> omega) (by split <;> omega))
        (by show src.toArray.size < src.toArray.size + 1 + 1; omega)).finish

theorem invCall_fresh (sw : Nat) (sd : Array Entry) (hs : StaticOK sw sd) (tc2 old : Bool) (hsz : Nat) (hpos : 0 < hsz)
    (src : List Nat) (dstLen : Nat) :
    CallPost tc2 old dstLen (invCall tc2 old (reset sw sd tc2 hsz dstLen) src dstLen).1 ∧
    DB src.length (dictSizeFor dstLen) (staticSize sw tc2) hsz (invCall tc2 old (reset sw sd tc2 hsz dstLen) src dstLen).2 :=
  have h := invCall_spec tc2 old (reset sw sd tc2 hsz dstLen) (DictOK_iff.mp (reset_ok sw sd tc2 hsz dstLen hs hpos))
    (Nat.le_trans (by decide) (dictSizeFor_ge dstLen)) src dstLen
  ⟨h.1, h.2.strict⟩

theorem invCall_fst (sw : Nat) (sd : Array Entry) (tc2 old : Bool) (hsz : Nat) (src : List Nat) (dstLen : Nat) :
    (invCall tc2 old (reset sw sd tc2 hsz dstLen) src dstLen).1 = codecInverseS sw sd tc2 old hsz src dstLen := by
  unfold invCall codecInverseS codecInverseLoopS
  simp only
  cases h0 : src.toArray[0]? with
  | none => rfl
  | some m =>
    cases h1 : src.toArray[1]? with
    | none => rfl
    | some c1 =>
      simp only
      rw [← invLoopT_toOut]
      exact ITr.finish_fst _ _

/-- the wrapper tests of `TextCodec.Inverse` return before `reset` and leave the object alone; otherwise the call
    is `invCall` on the dictionary `reset` produces -/
theorem codecCallS_cases (sw : Nat) (sd : Array Entry) (tc2 old : Bool) (hsz : Nat) (c : Codec) (src : List Nat)
    (dstLen : Nat) :
    (∃ r, codecCallS sw sd tc2 old hsz c src dstLen = (r, c) ∧ (r = .ok [] ∨ r = .err "small" ∨ r = .err "big")) ∨
    ∃ d0, d0 = (match c with
        | none => reset sw sd tc2 hsz dstLen
        | some prev => resetReuse sw sd tc2 prev dstLen) ∧
      codecCallS sw sd tc2 old hsz c src dstLen =
        ((invCall tc2 old d0 src dstLen).1, some (invCall tc2 old d0 src dstLen).2) := by
  unfold codecCallS
  by_cases c0 : src.length = 0 ∨ dstLen = 0
  · rw [if_pos c0]; exact Or.inl ⟨_, rfl, Or.inl rfl⟩
  rw [if_neg c0]
  by_cases c1 : src.length < 2
  · rw [if_pos c1]; exact Or.inl ⟨_, rfl, Or.inr (Or.inl rfl)⟩
  rw [if_neg c1]
  by_cases c2 : src.length > MAX_BLOCK_SIZE
  · rw [if_pos c2]; exact Or.inl ⟨_, rfl, Or.inr (Or.inr rfl)⟩
  rw [if_neg c2]
  exact Or.inr ⟨_, rfl, rfl⟩

theorem codecCallS_fst (sw : Nat) (sd : Array Entry) (tc2 old : Bool) (hsz : Nat) (src : List Nat) (dstLen : Nat) :
    (codecCallS sw sd tc2 old hsz none src dstLen).1 = textInverseS sw sd tc2 old hsz src dstLen := by
  unfold codecCallS textInverseS
  by_cases c0 : src.length = 0 ∨ dstLen = 0
  · rw [if_pos c0, if_pos c0]
  rw [if_neg c0, if_neg c0]
  by_cases c1 : src.length < 2
  · rw [if_pos c1, if_pos c1]
  rw [if_neg c1, if_neg c1]
  by_cases c2 : src.length > MAX_BLOCK_SIZE
  · rw [if_pos c2, if_pos c2]
  rw [if_neg c2, if_neg c2]
  exact invCall_fst sw sd tc2 old hsz src dstLen

/-- the object left behind by `TextCodec.Inverse` on a fresh object: untouched (wrapper rejection) or a bounded
    dictionary -/
theorem codecCallS_alloc (sw : Nat) (sd : Array Entry) (hs : StaticOK sw sd) (tc2 old : Bool) (hsz : Nat)
    (hpos : 0 < hsz) (src : List Nat) (dstLen : Nat) (d : Dict)
    (h : (codecCallS sw sd tc2 old hsz none src dstLen).2 = some d) :
    DB src.length (dictSizeFor dstLen) (staticSize sw tc2) hsz d := by
  rcases codecCallS_cases sw sd tc2 old hsz none src dstLen with ⟨r, hc, _⟩ | ⟨d0, hd0, hc⟩
  · rw [hc] at h; cases h
  · rw [hc, hd0] at h
    cases h
    exact (invCall_fresh sw sd hs tc2 old hsz hpos src dstLen).2

/-! ## codec 1: the exact condition of the panic -/

/-- codec 1: the token part of an iteration panics EXACTLY when the byte is an escape byte (0x0F / 0x0E) and its
    index is cut off by the end of the source -/
theorem invTok1_fault_iff {a : Array Nat} {dstLen D0 z hz : Nat} {t : ISt} (h : TokPre a dstLen D0 z hz t) (crlf : Bool)
    (cur : Nat) (e : String) :
    invTok1 a dstLen crlf t cur = .fault e ↔
      ((cur = ESCAPE_TOKEN1 ∨ cur = ESCAPE_TOKEN2) ∧ e = "src-index" ∧ trunc1 a t.i = true) := by
  unfold invTok1
  by_cases c : cur = ESCAPE_TOKEN1 ∨ cur = ESCAPE_TOKEN2
  · rw [if_pos c]
    rcases readIdx1_cases a t.i t.d.size with ⟨ht, e1⟩ | ⟨ht, e1 | ⟨idx, i2, e1, h1, h2, h3⟩⟩
    · rw [e1, ht]
      exact ⟨fun he => by cases he; exact ⟨c, rfl, rfl⟩, fun he => by rw [he.2.1]⟩
    · rw [e1, ht]
      exact ⟨fun he => (nomatch he), fun he => (nomatch he.2.2)⟩
    · rw [e1, ht]
      refine ⟨fun he => ?_, fun he => (nomatch he.2.2)⟩
      simp only at he
      rcases emitWord_spec h.x i2 idx (if cur = ESCAPE_TOKEN2 then 0x20 else 0) (by omega) h2 h3 with e2 | ⟨t', e2, _, _⟩
      · rw [e2] at he; cases he
      · rw [e2] at he; cases he
  · rw [if_neg c]
    refine ⟨fun he => ?_, fun he => absurd he.1 c⟩
    rcases invLit_spec h.x crlf cur with e2 | ⟨t', e2, _, _⟩
    · rw [e2] at he; cases he
    · rw [e2] at he; cases he

/-! ## the fuel of the loop is never exhausted -/
theorem FaultOK.ne_fuel {tc2 old : Bool} {e : String} (h : FaultOK tc2 old e) : e ≠ "fuel" ∧ e ≠ "nil-ptr" := by
  rcases h with h | ⟨_, _, h⟩ <;> rw [h] <;> decide

/-- the loop of Inverse started by the Go function (`srcIdx = 1`) with ANY fuel `f >= len(src)` does not run out
    of fuel: at most `len(src) - 1` iterations, each advancing `srcIdx` by at least 1, then the exit test -/
theorem invLoop_fuel (sw : Nat) (sd : Array Entry) (hs : StaticOK sw sd) (tc2 old : Bool) (hsz : Nat) (hpos : 0 < hsz)
    (src : List Nat) (dstLen c1 : Nat) (crlf : Bool) (h1 : src.toArray[1]? = some c1) (f : Nat) (hf : src.length ≤ f)
    (e : String)
    (h : invLoop tc2 old src.toArray dstLen crlf f
      ⟨1, if isText c1 = true then 1 else 2, (reset sw sd tc2 hsz dstLen).ssz, false, reset sw sd tc2 hsz dstLen, #[]⟩ =
        .fault e) : FaultOK tc2 old e := by
  have l1 := lt_of_getElem?_some _ _ _ h1
  have hsize : src.toArray.size = src.length := List.size_toArray
  have hinv := init_inv _ (DictOK_iff.mp (reset_ok sw sd tc2 hsz dstLen hs hpos))
    (Nat.le_trans (by decide) (dictSizeFor_ge dstLen))
    src.toArray dstLen (if isText c1 = true then 1 else 2) (by omega) (by split <;> omega) (by split <;> omega)
  have hT := invLoopT_spec tc2 old src.toArray dstLen _ _ _ crlf f _ hinv (by show src.toArray.size < f + 1; omega)
  rw [← invLoopT_toOut] at h
  cases hl : invLoopT tc2 old src.toArray dstLen crlf f
      ⟨1, if isText c1 = true then 1 else 2, (reset sw sd tc2 hsz dstLen).ssz, false, reset sw sd tc2 hsz dstLen, #[]⟩ with
  | ok s => rw [hl] at h; cases h
  | err e' d => rw [hl] at h; cases h
  | fault e' d =>
    rw [hl] at h hT
    cases h
    exact hT.1

end Kanzi.Text
