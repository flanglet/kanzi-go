/-
`EXECodec`, x86 and the loop / section lemmas shared with ARM64.  x86: one iteration of `forwardX86` is undone by one iteration of `inverseX86`
(`x86_step_sim`).  For both architectures: a forward loop whose iterations are undone one by one is undone by the
inverse loop (`loop_sim`), and the output of a section encoder whose loop is undone decodes to the input
(`section_roundtrip`).  Hence `Inverse (Forward b) = b` for the x86 mode with the size bounds.
-/
import Kanzi.Proofs.EXEBase

namespace Kanzi.EXE
open Kanzi.RLT (Out wr wr_ok wr_cases)

theorem escLit_esc : escLit 155 = [155, 155] := by decide
theorem escLit_ne (b : Nat) (h : b ≠ 155) : escLit b = [b] := by
  unfold escLit; rw [if_neg h]

theorem x86Inv_plain (ce dl b : Nat) (tail : List Nat) (j d : Nat)
    (h0f : b ≠ 15) (hj : b &&& 254 ≠ 232) (hb : b ≠ 155) (hd : d + 1 ≤ dl) :
    x86InvStep ce dl (b :: tail) j d = .emit [b] 1 := by
  have hd' : ¬ (d ≥ dl) := by omega
  simp [x86InvStep, h0f, hj, hb, hd']

theorem x86Inv_esc (ce dl x : Nat) (tail : List Nat) (j d : Nat)
    (hce : j + 2 ≤ ce) (hd : d + 1 ≤ dl) :
    x86InvStep ce dl (155 :: x :: tail) j d = .emit [x] 2 := by
  have hd' : ¬ (d ≥ dl) := by omega
  have hc' : ¬ (j + 1 ≥ ce) := by omega
  simp [x86InvStep, hd', hc']
theorem x86Inv_0F_plain (ce dl b1 : Nat) (tail : List Nat) (j d : Nat)
    (hj : b1 &&& 240 ≠ 128) (hb : b1 ≠ 155) (hce : j + 2 ≤ ce) (hd : d + 2 ≤ dl) :
    x86InvStep ce dl (15 :: b1 :: tail) j d = .emit [15, b1] 2 := by
  have hd' : ¬ (d ≥ dl) := by omega
  have hd2 : ¬ (d + 1 ≥ dl) := by omega
  have hc' : ¬ (j + 1 ≥ ce) := by omega
  simp [x86InvStep, hd', hd2, hc', hj, hb]

theorem x86Inv_0F_esc (ce dl x : Nat) (tail : List Nat) (j d : Nat)
    (hce : j + 3 ≤ ce) (hd : d + 2 ≤ dl) :
    x86InvStep ce dl (15 :: 155 :: x :: tail) j d = .emit [15, x] 3 := by
  have hd' : ¬ (d ≥ dl) := by omega
  have hd2 : ¬ (d + 1 ≥ dl) := by omega
  have hc' : ¬ (j + 1 ≥ ce) := by omega
  have hc2 : ¬ (j + 2 ≥ ce) := by omega
  simp [x86InvStep, hd', hd2, hc', hc2]

theorem x86InvJump_ok (ce dl : Nat) (pre : List Nat) (op a0 a1 a2 a3 : Nat) (tail : List Nat) (j d : Nat)
    (hce : j + 5 ≤ ce) (hd : d + 5 ≤ dl) :
    x86InvJump ce dl pre (op :: a0 :: a1 :: a2 :: a3 :: tail) j d =
      .emit (pre ++ op :: le32Bytes (x86Off d (beVal [a0, a1, a2, a3] ^^^ MASK_ADDRESS))) (pre.length + 5) := by
  have hd' : ¬ (d + 5 > dl) := by omega
  have hc' : ¬ (j + 4 ≥ ce) := by omega
  simp only [x86InvJump, if_neg hd', if_neg hc']

theorem x86Inv_jump (ce dl op a0 a1 a2 a3 : Nat) (tail : List Nat) (j d : Nat)
    (h0f : op ≠ 15) (hj : op &&& 254 = 232) (hce : j + 5 ≤ ce) (hd : d + 5 ≤ dl) :
    x86InvStep ce dl (op :: a0 :: a1 :: a2 :: a3 :: tail) j d =
      .emit (op :: le32Bytes (x86Off d (beVal [a0, a1, a2, a3] ^^^ MASK_ADDRESS))) 5 := by
  have := x86InvJump_ok ce dl [] op a0 a1 a2 a3 tail j d hce hd
  simp [x86InvStep, h0f, hj, this]

theorem x86Inv_0F_jcc (ce dl op a0 a1 a2 a3 : Nat) (tail : List Nat) (j d : Nat)
    (hj : op &&& 240 = 128) (hce : j + 6 ≤ ce) (hd : d + 6 ≤ dl) :
    x86InvStep ce dl (15 :: op :: a0 :: a1 :: a2 :: a3 :: tail) j d =
      .emit (15 :: op :: le32Bytes (x86Off (d + 1) (beVal [a0, a1, a2, a3] ^^^ MASK_ADDRESS))) 6 := by
  have hd' : ¬ (d ≥ dl) := by omega
  have hc' : ¬ (j + 1 ≥ ce) := by omega
  have := x86InvJump_ok ce dl [15] op a0 a1 a2 a3 tail (j + 1) (d + 1) (by omega) (by omega)
  simp [x86InvStep, hd', hc', hj, this]

theorem x86Jump_short (rest : List Nat) (i : Nat) (h : rest.length < 5) : ∃ s, x86Jump rest i = .fault s := by
  match rest, h with
  | [], _ => exact ⟨_, rfl⟩
  | [_], _ => exact ⟨_, rfl⟩
  | [_, _], _ => exact ⟨_, rfl⟩
  | [_, _, _], _ => exact ⟨_, rfl⟩
  | [_, _, _, _], _ => exact ⟨_, rfl⟩

theorem x86Jump_cases (op o0 o1 o2 sgn : Nat) (r : List Nat) (i : Nat)
    (h0 : o0 < 256) (h1 : o1 < 256) (h2 : o2 < 256) (hi : i < 2 ^ 31) :
    x86Jump (op :: o0 :: o1 :: o2 :: sgn :: r) i = .ok ([155, op], 1, 0) ∨
    ∃ a0 a1 a2 a3, x86Jump (op :: o0 :: o1 :: o2 :: sgn :: r) i = .ok ([op, a0, a1, a2, a3], 5, 1) ∧
      a0 < 256 ∧ a1 < 256 ∧ a2 < 256 ∧ a3 < 256 ∧
      le32Bytes (x86Off i (beVal [a0, a1, a2, a3] ^^^ MASK_ADDRESS)) = [o0, o1, o2, sgn] := by
  by_cases hbad : (sgn ≠ 0 ∧ sgn ≠ 0xFF) ∨ leVal [o0, o1, o2, sgn] = 0xFF000000
  · left; simp only [x86Jump, if_pos hbad]
  · right
    have hs : sgn = 0 ∨ sgn = 255 := by omega
    have hne : leVal [o0, o1, o2, sgn] ≠ 0xFF000000 := fun h => hbad (Or.inr h)
    obtain ⟨hlt, hrt⟩ := x86_addr_roundtrip i o0 o1 o2 sgn h0 h1 h2 hs hne hi
    have hx := xor_mask_lt _ hlt
    generalize hA : x86Addr i (leVal [o0, o1, o2, sgn]) sgn ^^^ MASK_ADDRESS = A at hx
    refine ⟨A / 16777216 % 256, A / 65536 % 256, A / 256 % 256, A % 256, ?_, ?_, ?_, ?_, ?_, ?_⟩
    · simp only [x86Jump, if_neg hbad, be32Bytes, hA]
    · omega
    · omega
    · omega
    · omega
    · have hb := beVal_be32Bytes _ hx
      simp only [be32Bytes] at hb
      rw [hb, ← hA, xor_mask_cancel]; exact hrt

/-- one forward iteration at `srcIdx = i` consumed `c` bytes of `rest` and stored the bytes `e`; one inverse
    iteration that finds `e` (anywhere in its input) with `dstIdx = i` stores the consumed bytes again -/
abbrev StepUndone (istep : Nat → Nat → List Nat → Nat → Nat → IStep) (rest : List Nat) (i : Nat) (e : List Nat)
    (c : Nat) : Prop :=
  ∃ C, C.length = c ∧ rest = C ++ rest.drop c ∧ 1 ≤ e.length ∧ (∀ y ∈ e, y < 256) ∧
    ∀ (ce' dl : Nat) (tail : List Nat) (j : Nat), j + e.length ≤ ce' → i + c ≤ dl →
      istep ce' dl (e ++ tail) j i = .emit C e.length

theorem jumpStep_sim (pre rest : List Nat) (k : Nat) (e : List Nat) (c dm : Nat)
    (hb : ∀ x ∈ rest, x < 256) (hk : k < 2 ^ 31) (h : jumpStep pre (x86Jump rest k) = .emit e c dm) :
    ∃ op o0 o1 o2 sgn r, rest = op :: o0 :: o1 :: o2 :: sgn :: r ∧
      (e = pre ++ [155, op] ∧ c = pre.length + 1 ∨
       ∃ a0 a1 a2 a3, e = pre ++ [op, a0, a1, a2, a3] ∧ c = pre.length + 5 ∧
         a0 < 256 ∧ a1 < 256 ∧ a2 < 256 ∧ a3 < 256 ∧
         le32Bytes (x86Off k (beVal [a0, a1, a2, a3] ^^^ MASK_ADDRESS)) = [o0, o1, o2, sgn]) := by
  by_cases hlen : rest.length < 5
  · obtain ⟨s, hs⟩ := x86Jump_short rest k hlen
    rw [hs] at h
    cases h
  obtain ⟨op, o0, o1, o2, sgn, r, rfl⟩ := exists_cons5 (l := rest) (by omega)
  refine ⟨op, o0, o1, o2, sgn, r, rfl, ?_⟩
  rcases x86Jump_cases op o0 o1 o2 sgn r k (hb o0 (by simp)) (hb o1 (by simp)) (hb o2 (by simp)) hk with
    hc | ⟨a0, a1, a2, a3, hc, ha0, ha1, ha2, ha3, hrt⟩
  · rw [hc] at h
    cases h
    exact Or.inl ⟨rfl, rfl⟩
  · rw [hc] at h
    cases h
    exact Or.inr ⟨a0, a1, a2, a3, rfl, rfl, ha0, ha1, ha2, ha3, hrt⟩

theorem x86_step_sim (ce : Nat) (rest : List Nat) (i : Nat) (e : List Nat) (c dm : Nat)
    (hb : ∀ x ∈ rest, x < 256) (hi : i + 1 < 2 ^ 31) (h : x86FwdStep ce rest i = .emit e c dm) :
    StepUndone x86InvStep rest i e c := by
  rcases rest with _ | ⟨b, r1⟩
  · cases h
  have hb0 : b < 256 := hb b List.mem_cons_self
  simp only [x86FwdStep, List.getElem?_cons_zero] at h
  by_cases hb15 : b = 15
  · subst hb15
    rw [if_pos rfl] at h
    by_cases hc1 : i + 1 ≥ ce
    · rw [if_pos hc1] at h
      cases h
    rw [if_neg hc1] at h
    rcases r1 with _ | ⟨b1, r2⟩
    · cases h
    have hb1 : b1 < 256 := hb b1 (by simp)
    simp only [List.getElem?_cons_succ, List.getElem?_cons_zero] at h
    by_cases hj : b1 &&& 240 = 128
    · by_cases hc5 : i + 5 ≥ ce
      · rw [if_pos ⟨hj, hc5⟩] at h
        cases h
      rw [if_neg (fun hh => hc5 hh.2), if_neg (fun hn => hn hj), if_neg (by omega)] at h
      obtain ⟨op, o0, o1, o2, sgn, r, hr, hcase⟩ :=
        jumpStep_sim [15] _ (i + 1) e c dm (fun x hx => hb x (List.mem_of_mem_drop hx)) hi h
      cases hr
      rcases hcase with ⟨rfl, rfl⟩ | ⟨a0, a1, a2, a3, rfl, rfl, ha0, ha1, ha2, ha3, hrt⟩
      · refine ⟨[15, b1], rfl, rfl, by simp, by simp [hb1], fun ce' dl tail j hce hd => ?_⟩
        exact x86Inv_0F_esc ce' dl b1 tail j i hce (by omega)
      · refine ⟨[15, b1, o0, o1, o2, sgn], rfl, rfl, by simp, by simp [*], fun ce' dl tail j hce hd => ?_⟩
        rw [← hrt]
        exact x86Inv_0F_jcc ce' dl b1 a0 a1 a2 a3 tail j i hj hce (by omega)
    · rw [if_neg (fun hh => hj hh.1), if_pos hj] at h
      cases h
      by_cases hesc : b1 = 155
      · subst hesc
        refine ⟨[15, 155], rfl, rfl, by simp [escLit], by simp [escLit], fun ce' dl tail j hce hd => ?_⟩
        exact x86Inv_0F_esc ce' dl 155 tail j i hce (by omega)
      · rw [escLit_ne b1 hesc]
        refine ⟨[15, b1], rfl, rfl, by simp, by simp [hb1], fun ce' dl tail j hce hd => ?_⟩
        exact x86Inv_0F_plain ce' dl b1 tail j i hj hesc hce (by omega)
  · rw [if_neg hb15] at h
    by_cases hj : b &&& 254 = 232
    · rw [if_neg (fun hn => hn hj)] at h
      by_cases hc4 : i + 4 ≥ ce
      · rw [if_pos hc4] at h
        cases h
      rw [if_neg hc4] at h
      obtain ⟨op, o0, o1, o2, sgn, r, hr, hcase⟩ := jumpStep_sim [] _ i e c dm hb (by omega) h
      cases hr
      rcases hcase with ⟨rfl, rfl⟩ | ⟨a0, a1, a2, a3, rfl, rfl, ha0, ha1, ha2, ha3, hrt⟩
      · refine ⟨[b], rfl, rfl, by simp, by simp [hb0], fun ce' dl tail j hce hd => ?_⟩
        exact x86Inv_esc ce' dl b tail j i hce (by omega)
      · refine ⟨[b, o0, o1, o2, sgn], rfl, rfl, by simp, by simp [*], fun ce' dl tail j hce hd => ?_⟩
        rw [← hrt]
        exact x86Inv_jump ce' dl b a0 a1 a2 a3 tail j i hb15 hj hce (by omega)
    · rw [if_pos hj] at h
      cases h
      by_cases hesc : b = 155
      · subst hesc
        refine ⟨[155], rfl, rfl, by simp [escLit], by simp [escLit], fun ce' dl tail j hce hd => ?_⟩
        exact x86Inv_esc ce' dl 155 tail j i hce (by omega)
      · rw [escLit_ne b hesc]
        refine ⟨[b], rfl, rfl, by simp, by simp [hb0], fun ce' dl tail j hce hd => ?_⟩
        exact x86Inv_plain ce' dl b tail j i hb15 hj hesc (by omega)

theorem jumpStep_ne_emitStop (pre : List Nat) (r : Out (List Nat × Nat × Nat)) (e : List Nat) (c : Nat) :
    jumpStep pre r ≠ .emitStop e c := by
  cases r <;> nofun

/-- the `emitStop` branch of `x86FwdStep` is dead: its condition is that of the `stop` before it -/
theorem x86FwdStep_ne_emitStop (ce : Nat) (rest : List Nat) (i : Nat) (e : List Nat) (c : Nat) :
    x86FwdStep ce rest i ≠ .emitStop e c := by
  have ite := @ite_of Step (fun s => s ≠ .emitStop e c)
  rcases rest with _ | ⟨b, r1⟩
  · nofun
  simp only [x86FwdStep, List.getElem?_cons_zero]
  refine ite (fun _ => ite (fun _ => nofun) fun _ => ?_) fun _ =>
    ite (fun _ => nofun) fun _ => ite (fun _ => nofun) fun _ => jumpStep_ne_emitStop _ _ e c
  rcases r1 with _ | ⟨b1, r2⟩
  · nofun
  simp only [List.getElem?_cons_succ, List.getElem?_cons_zero]
  refine ite (fun _ => nofun) fun h1 => ite (fun _ => nofun) fun hj =>
    ite (fun h5 => ?_) fun _ => jumpStep_ne_emitStop _ _ e c
  exact absurd ⟨Decidable.not_not.1 hj, by omega⟩ h1

theorem wr_eq_ok (n : Nat) (out o : Array Nat) (bs : List Nat) (h : wr n out bs = .ok o) : o = out ++ bs := by
  rcases wr_cases n out bs with h1 | ⟨e, h1⟩
  · rw [h1] at h; cases h; rfl
  · rw [h1] at h; cases h

theorem invLoop_done (step : List Nat → Nat → Nat → IStep) (ce dl f : Nat) (rest : List Nat) (i : Nat)
    (out : Array Nat) (h : ¬ i < ce) : invLoop step ce dl f rest i out = .ok (i, out) := by
  cases f <;> simp only [invLoop, if_neg h]

theorem x86InvLoop_done (ce dl f : Nat) (rest : List Nat) (i : Nat) (out : Array Nat) (h : ¬ i < ce) :
    x86InvLoop ce dl f rest i out = .ok (i, out) := by
  rw [x86InvLoop_eq]
  exact invLoop_done _ ce dl f rest i out h

/-- the forward loop went from `(rest, i, out)` to `st`, storing `E` for the consumed `C`; the inverse loop that
    finds `E` at any position `j`, with `dstIdx = i`, stores `C` again and stops behind `E` -/
abbrev LoopUndone (istep : Nat → Nat → List Nat → Nat → Nat → IStep) (rest : List Nat) (i : Nat) (out : Array Nat)
    (st : FwdSt) : Prop :=
  ∃ (E C : List Nat), st.out = out ++ E ∧ st.i = i + C.length ∧ rest = C ++ rest.drop C.length ∧ (∀ y ∈ E, y < 256) ∧
    ∀ (ce' dl f' : Nat) (tail : List Nat) (j : Nat) (o : Array Nat),
      o.size = i → j + E.length = ce' → E.length < f' → i + C.length ≤ dl →
      invLoop (istep ce' dl) ce' dl f' (E ++ tail) j o = .ok (ce', o ++ C)

theorem loop_sim_stay (istep : Nat → Nat → List Nat → Nat → Nat → IStep) (rest : List Nat) (i : Nat)
    (out : Array Nat) (m : Nat) (b : Bool) : LoopUndone istep rest i out ⟨i, out, m, b⟩ := by
  refine ⟨[], [], by simp, rfl, rfl, fun y hy => absurd hy List.not_mem_nil, ?_⟩
  intro ce' dl f' tail j o _ hj _ _
  have hj' : ce' = j := hj.symm
  subst hj'
  rw [invLoop_done _ _ _ _ _ _ _ (Nat.lt_irrefl _)]
  simp

/-- `inv` = the invariant of the source index (alignment for ARM64) -/
theorem loop_sim {go : Nat → Nat → Prop} [∀ i d, Decidable (go i d)] {step : List Nat → Nat → Step}
    {istep : Nat → Nat → List Nat → Nat → Nat → IStep} (inv : Nat → Prop) (dstLen : Nat)
    (hstep : ∀ rest i d e c dm, (∀ x ∈ rest, x < 256) → inv i → go i d → step rest i = .emit e c dm →
      inv (i + c) ∧ StepUndone istep rest i e c)
    (hns : ∀ rest i e c, step rest i ≠ .emitStop e c) :
    ∀ (f : Nat) (rest : List Nat) (i : Nat) (out : Array Nat) (m : Nat) (st : FwdSt),
      (∀ x ∈ rest, x < 256) → inv i → fwdLoop go step dstLen f rest i out m = .ok st →
      LoopUndone istep rest i out st := by
  intro f
  induction f with
  | zero =>
    intro rest i out m st hb hinv h
    unfold fwdLoop at h
    by_cases hgo : go i out.size
    · rw [if_pos hgo] at h
      cases h
    · rw [if_neg hgo] at h
      cases h
      exact loop_sim_stay istep rest i out m false
  | succ f ih =>
    intro rest i out m st hb hinv h
    unfold fwdLoop at h
    by_cases hgo : go i out.size
    · rw [if_pos hgo] at h
      cases hstep' : step rest i with
      | stop =>
        rw [hstep'] at h
        cases h
        exact loop_sim_stay istep rest i out m true
      | emit e c dm =>
        rw [hstep'] at h
        obtain ⟨hinv', C0, hC0, hrest, he1, hey, hsim⟩ := hstep rest i out.size e c dm hb hinv hgo hstep'
        obtain ⟨o1, hw, h⟩ := (Out.bind_eq_ok _ _ _).mp h
        have ho1 := wr_eq_ok _ _ _ _ hw
        subst ho1
        have hb' : ∀ x ∈ rest.drop c, x < 256 := fun x hx => hb x (List.mem_of_mem_drop hx)
        obtain ⟨E', C', hout, hi', hrest', hEy, hinvl⟩ := ih (rest.drop c) (i + c) (out ++ e) (m + dm) st hb' hinv' h
        refine ⟨e ++ E', C0 ++ C', ?_, ?_, ?_, ?_, ?_⟩
        · rw [hout, appendList_assoc]
        · rw [hi', List.length_append, hC0, Nat.add_assoc]
        · rw [List.length_append, hC0, ← List.drop_drop, List.append_assoc, ← hrest']
          exact hrest
        · intro y hy
          rcases List.mem_append.1 hy with hy | hy
          · exact hey y hy
          · exact hEy y hy
        · intro ce' dl f' tail j o ho hj hf hd
          rw [List.length_append] at hj hf hd
          rw [hC0] at hd
          obtain ⟨f'', rfl⟩ : ∃ f'', f' = f'' + 1 := ⟨f' - 1, by omega⟩
          have hjlt : j < ce' := by omega
          have hs := hsim ce' dl (E' ++ tail) j (by omega) (by omega)
          simp only [invLoop, if_pos hjlt, List.append_assoc, ho, hs]
          rw [wr_ok dl o C0 (by omega), Out.bind_ok, List.drop_left]
          rw [hinvl ce' dl f'' tail (j + e.length) (o ++ C0) (by rw [size_appendList, ho, hC0])
            (by omega) (by omega) (by omega), appendList_assoc]
      | emitStop e c => exact absurd hstep' (hns rest i e c)
      | fault s =>
        rw [hstep'] at h
        cases h
    · rw [if_neg hgo] at h
      cases h
      exact loop_sim_stay istep rest i out m false

theorem header_length (mode cs de : Nat) : (header mode cs de).length = 9 := rfl

theorem header_lt (mode cs de : Nat) (hm : mode < 256) : ∀ y ∈ header mode cs de, y < 256 := by
  intro y hy
  simp only [header, List.mem_cons, List.mem_append] at hy
  rcases hy with rfl | hy | hy
  · exact hm
  · exact le32Bytes_lt _ y hy
  · exact le32Bytes_lt _ y hy

theorem header_cs (mode cs de : Nat) (body : List Nat) :
    ((header mode cs de ++ body).drop 1).take 4 = le32Bytes (cs % 2 ^ 32) := rfl

theorem header_de (mode cs de : Nat) (body : List Nat) :
    ((header mode cs de ++ body).drop 5).take 4 = le32Bytes (de % 2 ^ 32) := rfl

theorem header_drop (mode cs de : Nat) (body : List Nat) : (header mode cs de ++ body).drop 9 = body := rfl

theorem invHeader_frame (mode cs : Nat) (P E tail : List Nat) (n : Nat) (hP : P.length = cs) (hcs : cs ≤ n)
    (hsz : 9 + cs + E.length < 2 ^ 32) :
    invHeader (header mode cs (9 + cs + E.length) ++ (P ++ E ++ tail)) n = some (cs, 9 + cs + E.length) := by
  have hlen : (header mode cs (9 + cs + E.length) ++ (P ++ E ++ tail)).length = 9 + cs + E.length + tail.length := by
    simp only [List.length_append, header_length, hP]
    omega
  unfold invHeader
  rw [header_cs, header_de, leVal_le32Bytes _ (Nat.mod_lt _ (by decide)), leVal_le32Bytes _ (Nat.mod_lt _ (by decide)),
    Nat.mod_eq_of_lt hsz, Nat.mod_eq_of_lt (by omega : cs < 2 ^ 32), hlen, if_neg]
  omega

theorem extract9 (a : Array Nat) : (a.extract 9 a.size).toList = a.toList.drop 9 := by
  rw [Array.toList_extract, List.extract_eq_take_drop]
  apply List.take_of_length_le
  simp

theorem fwdFinish_ok (mode slack : Nat) (src : List Nat) (dstLen cs i : Nat) (out : Array Nat) (t : List Nat)
    (h : fwdFinish mode slack src dstLen cs i out = .ok t) :
    out.size + (src.length - i) + slack ≤ dstLen ∧
    t = header mode cs out.size ++ (out.toList.drop 9 ++ src.drop i) ∧
    t.length ≤ src.length + src.length / 50 := by
  unfold fwdFinish at h
  obtain ⟨h1, h⟩ := ok_of_ite_err h
  obtain ⟨h2, h⟩ := ok_of_ite_err h
  rw [extract9] at h h2
  cases h
  exact ⟨by omega, rfl, by omega⟩

theorem section_roundtrip {step : Nat → Nat → List Nat → Nat → Nat → IStep} (mode slack : Nat) (hm : mode < 256)
    (src t : List Nat) (dstLen csn : Nat) (st : FwdSt)
    (hb : ∀ x ∈ src, x < 256) (hlen : src.length < 2 ^ 28) (hcs : csn ≤ src.length)
    (hsim : LoopUndone step (src.drop csn) csn (mode :: List.replicate 8 0 ++ src.take csn).toArray st)
    (hroom : st.out.size + (src.length - st.i) + slack ≤ dstLen)
    (ht : t = header mode csn st.out.size ++ (st.out.toList.drop 9 ++ src.drop st.i))
    (htl : t.length ≤ src.length + src.length / 50) :
    t.length + slack ≤ dstLen ∧ (∀ y ∈ t, y < 256) ∧ (∃ r, t = mode :: r) ∧ 9 ≤ t.length ∧
      ∀ n, src.length ≤ n → invSection step t n = .ok src := by
  obtain ⟨E, C, hout, hi, hrest, hEy, hinv⟩ := hsim
  have htake : (src.take csn).length = csn := List.length_take_of_le hcs
  have hout9 : st.out.toList.drop 9 = src.take csn ++ E := by
    rw [hout, Array.toList_appendList]
    rfl
  have hsize : st.out.size = 9 + csn + E.length := by
    rw [hout, size_appendList, List.size_toArray, List.length_append, List.length_cons, List.length_replicate, htake]
  have hClen : csn + C.length ≤ src.length := by
    have := congrArg List.length hrest
    rw [List.length_append, List.length_drop, List.length_drop] at this
    omega
  have hsrc : src.take csn ++ C ++ src.drop st.i = src := by
    rw [hi, ← List.drop_drop, List.append_assoc, ← hrest, List.take_append_drop]
  rw [hout9, hsize] at ht
  have htlen : t.length = 9 + csn + E.length + (src.length - st.i) := by
    rw [ht]
    simp only [List.length_append, header_length, htake, List.length_drop]
    omega
  refine ⟨by omega, ?_, ⟨_, ht⟩, by omega, ?_⟩
  · intro y hy
    rw [ht] at hy
    rcases List.mem_append.1 hy with hy | hy
    · exact header_lt _ _ _ hm y hy
    · rcases List.mem_append.1 hy with hy | hy
      · rcases List.mem_append.1 hy with hy | hy
        · exact hb y (List.mem_of_mem_take hy)
        · exact hEy y hy
      · exact hb y (List.mem_of_mem_drop hy)
  · intro n hn
    have hfr := invHeader_frame mode csn (src.take csn) E (src.drop st.i) n htake (by omega) (by omega)
    rw [← ht] at hfr
    have hd9 : t.drop 9 = src.take csn ++ (E ++ src.drop st.i) := by
      rw [ht, header_drop, List.append_assoc]
    have hpre : (t.drop 9).take csn = src.take csn := by
      rw [hd9, List.take_left' htake]
    have hcode : t.drop (9 + csn) = E ++ src.drop st.i := by
      rw [← List.drop_drop, hd9, List.drop_left' htake]
    have htail : t.drop (9 + csn + E.length) = src.drop st.i := by
      rw [← List.drop_drop, hcode, List.drop_left]
    simp only [invSection, hfr]
    rw [hpre, hcode, wr_ok n #[] _ (by rw [htake]; exact Nat.le_trans (Nat.le_of_eq (Nat.zero_add _)) (by omega)),
      Out.bind_ok,
      hinv (9 + csn + E.length) n (t.length + 1) (src.drop st.i) (9 + csn) (#[] ++ src.take csn)
        (by rw [size_appendList, htake]; exact Nat.zero_add csn) (by omega) (by omega) (by omega),
      Out.bind_ok]
    unfold invFinish
    have hsz : ((#[] : Array Nat) ++ src.take csn ++ C).size = csn + C.length := by
      rw [size_appendList, size_appendList, htake]
      exact congrArg (· + C.length) (Nat.zero_add csn)
    rw [if_neg (by rw [hsz, htlen]; omega), htail]
    congr 1
    rw [Array.toList_appendList, Array.toList_appendList]
    exact hsrc

theorem fwdX86_roundtrip (src : List Nat) (dstLen : Nat) (cs ce : Int) (t : List Nat)
    (hb : ∀ x ∈ src, x < 256) (hlen : src.length ≤ MAX_BLOCK_SIZE)
    (h : fwdX86 src dstLen cs ce = .ok t) :
    t.length ≤ src.length + src.length / 50 ∧ t.length + 5 ≤ dstLen ∧ (∀ y ∈ t, y < 256) ∧
      ∀ n, src.length ≤ n → exeInverse false t n = .ok src := by
  rw [MAX_BLOCK_SIZE_eq] at hlen
  unfold fwdX86 at h
  obtain ⟨hchk, h⟩ := ok_of_ite_err h
  by_cases hd9 : dstLen < 9
  · rw [if_pos hd9] at h
    cases h
  rw [if_neg hd9] at h
  obtain ⟨hdcs, h⟩ := ok_of_ite_err h
  obtain ⟨st, hl, h⟩ := (Out.bind_eq_ok _ _ _).mp h
  obtain ⟨_, h⟩ := ok_of_ite_err h
  obtain ⟨_, h⟩ := ok_of_ite_err h
  obtain ⟨hroom, ht, htl⟩ := fwdFinish_ok _ _ _ _ _ _ _ _ h
  rw [x86FwdLoop_eq] at hl
  have hsim : LoopUndone x86InvStep (src.drop cs.toNat) cs.toNat _ st :=
    loop_sim (fun _ => True) dstLen
      (fun rest i d e c dm hb _ hgo hs => ⟨trivial, x86_step_sim ce.toNat rest i e c dm hb (by omega) hs⟩)
      (x86FwdStep_ne_emitStop ce.toNat) _ _ _ _ _ st (fun x hx => hb x (List.mem_of_mem_drop hx)) trivial hl
  obtain ⟨h1, h2, ⟨r, hr⟩, h9, h3⟩ := section_roundtrip (step := x86InvStep) X86 5 (by decide) src t dstLen cs.toNat st hb
    (by omega) (by omega) hsim hroom ht htl
  refine ⟨htl, h1, h2, fun n hn => ?_⟩
  rw [hr, exeInverse_cons _ _ _ (by rw [← hr]; exact h9) (by omega), if_pos rfl, ← hr]
  exact h3 n hn

end Kanzi.EXE
