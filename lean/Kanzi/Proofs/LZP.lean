/-
Base of the LZP proofs: the pieces of `Kanzi/Model/LZP.lean` (writes, little-endian reads,
`findMatch`, `emitLen`, `skipFE`, `copySeq`, the hash table), one equation for each branch of an
iteration of Inverse (`decStep_*`), and both calls as header bytes followed by their loops
(`lzpForward_eq`, `lzpInverse_eq`).  `LZPRound.lean` has the lock-step simulation of Forward by
Inverse, `LZPTotal.lean` the absence of faults.
-/
import Kanzi.Model.LZP
import Kanzi.Proofs.Base

namespace Kanzi.LZP

attribute [simp] size_appendList

@[simp] theorem Out.bind_ok {α β : Type} (a : α) (f : α → Out β) : (Out.ok a).bind f = f a := rfl
@[simp] theorem Out.bind_err {α β : Type} (e : String) (f : α → Out β) : (Out.err e : Out α).bind f = .err e := rfl
@[simp] theorem Out.bind_fault {α β : Type} (k : String) (i l : Nat) (f : α → Out β) :
    (Out.fault k i l : Out α).bind f = .fault k i l := rfl

theorem Out.bind_eq_ok {α β : Type} (x : Out α) (f : α → Out β) (b : β) (h : x.bind f = .ok b) :
    ∃ a, x = .ok a ∧ f a = .ok b := by
  cases x with
  | ok a => exact ⟨a, rfl, h⟩
  | err e => simp at h
  | fault k i l => simp at h

theorem MIN_MATCH64_eq : MIN_MATCH64 = 64 := rfl
theorem MATCH_FLAG_eq : MATCH_FLAG = 0xFC := rfl

theorem lzpMaxEncodedLen_ge (k : Nat) : k ≤ lzpMaxEncodedLen k := by
  unfold lzpMaxEncodedLen; split <;> omega

theorem wr_ok (dstLen : Nat) (out : Array Nat) (bs : List Nat) (h : out.size + bs.length ≤ dstLen) :
    wr dstLen out bs = .ok (out ++ bs) := by
  unfold wr; rw [if_pos h]

theorem wr_fault (dstLen : Nat) (out : Array Nat) (bs : List Nat) (h : ¬ out.size + bs.length ≤ dstLen) :
    wr dstLen out bs = .fault "dst-index" dstLen dstLen := by
  unfold wr; rw [if_neg h]

theorem appendList_nil (out : Array Nat) : out ++ ([] : List Nat) = out :=
  Array.appendList_nil

theorem push_eq_appendList (out : Array Nat) (v : Nat) : out.push v = out ++ [v] := by
  simp

/-! ## reading an array whose list is known as `out ++ (l ++ rest)` -/

theorem get_split' (a out : Array Nat) (l rest : List Nat) (h : a.toList = out.toList ++ (l ++ rest)) (j : Nat)
    (hj : j < l.length) : a[out.size + j]? = l[j]? := by
  rw [← Array.getElem?_toList, h, ← Array.length_toList, List.getElem?_append_right (by omega),
    Nat.add_sub_cancel_left, List.getElem?_append_left hj]

theorem size_split' (a out : Array Nat) (l rest : List Nat) (h : a.toList = out.toList ++ (l ++ rest)) :
    out.size + l.length ≤ a.size := by
  rw [← Array.length_toList, ← Array.length_toList, h, List.length_append, List.length_append]
  omega

theorem le32_some (a : Array Nat) (i : Nat) (h : i + 4 ≤ a.size) : ∃ c, le32 a i = some c := by
  simp only [le32, Array.getElem?_eq_getElem (show i < a.size by omega),
    Array.getElem?_eq_getElem (show i + 1 < a.size by omega),
    Array.getElem?_eq_getElem (show i + 2 < a.size by omega),
    Array.getElem?_eq_getElem (show i + 3 < a.size by omega)]
  exact ⟨_, rfl⟩

theorem le32_congr (a b : Array Nat) (i j : Nat) (h : ∀ k, k < 4 → a[i + k]? = b[j + k]?) :
    le32 a i = le32 b j := by
  unfold le32
  have h0 := h 0 (by omega)
  have h1 := h 1 (by omega)
  have h2 := h 2 (by omega)
  have h3 := h 3 (by omega)
  simp only [Nat.add_zero] at h0
  rw [h0, h1, h2, h3]

theorem chunk8_some (a : Array Nat) (i : Nat) (h : i + 8 ≤ a.size) : ∃ x, chunk8 a i = some x := by
  unfold chunk8; rw [if_pos h]; exact ⟨_, rfl⟩

theorem le64_some (a : Array Nat) (i : Nat) (h : i + 8 ≤ a.size) : ∃ x, le64 a i = some x := by
  obtain ⟨x, hx⟩ := chunk8_some a i h
  unfold le64; rw [hx]; exact ⟨_, rfl⟩

theorem chunk8_get (a : Array Nat) (i : Nat) (x : List Nat) (h : chunk8 a i = some x) :
    x.length = 8 ∧ ∀ k, k < 8 → x[k]? = a[i + k]? := by
  unfold chunk8 at h
  split at h
  · rename_i h8
    injection h with h
    subst h
    constructor
    · simp; omega
    · intro k hk
      rw [Array.getElem?_toList, Array.getElem?_extract, if_pos (by omega)]
  · simp at h

theorem cpl_le (x y : List Nat) : cpl x y ≤ x.length := by
  fun_induction cpl x y with
  | case1 a xs ys ih => exact Nat.succ_le_succ ih
  | case2 => exact Nat.zero_le _
  | case3 => exact Nat.zero_le _

theorem cpl_self (x : List Nat) : cpl x x = x.length := by
  induction x with
  | nil => rfl
  | cons a xs ih => rw [cpl, if_pos rfl, ih, List.length_cons]

theorem cpl_get (x y : List Nat) : ∀ k, k < cpl x y → x[k]? = y[k]? := by
  fun_induction cpl x y with
  | case1 a xs ys ih =>
    intro k hk
    cases k with
    | zero => rfl
    | succ k => exact ih k (Nat.lt_of_succ_lt_succ hk)
  | case2 => exact fun k hk => nomatch hk
  | case3 => exact fun k hk => nomatch hk

theorem findMatch_spec (src : Array Nat) (i ref mm : Nat) : ∀ (f bl r : Nat),
    findMatch src i ref mm f bl = .ok r → bl ≤ mm → (∀ k, k < bl → src[i + k]? = src[ref + k]?) →
    bl ≤ r ∧ r ≤ mm ∧ ∀ k, k < r → src[i + k]? = src[ref + k]? := by
  intro f
  induction f with
  | zero => intro bl r h; cases h
  | succ f ih =>
    intro bl r h hbl hk
    rw [findMatch] at h
    by_cases h8 : bl + 8 ≤ mm
    · rw [if_pos h8] at h
      cases hx : chunk8 src (i + bl) with
      | none => rw [hx] at h; cases h
      | some x =>
        cases hy : chunk8 src (ref + bl) with
        | none => rw [hx, hy] at h; cases h
        | some y =>
          rw [hx, hy] at h
          simp only [] at h
          obtain ⟨lx, gx⟩ := chunk8_get _ _ _ hx
          obtain ⟨ly, gy⟩ := chunk8_get _ _ _ hy
          -- the bytes below `bl + cpl x y` agree: below `bl` by hypothesis, then as far as the chunks do
          have hext : ∀ k, k < bl + cpl x y → src[i + k]? = src[ref + k]? := by
            intro k hk8
            by_cases hlt : k < bl
            · exact hk k hlt
            · have hc := cpl_le x y
              have e0 := cpl_get x y (k - bl) (by omega)
              have e1 := gx (k - bl) (by omega)
              have e2 := gy (k - bl) (by omega)
              rw [show i + bl + (k - bl) = i + k by omega] at e1
              rw [show ref + bl + (k - bl) = ref + k by omega] at e2
              rw [← e1, ← e2, e0]
          have hc := cpl_le x y
          by_cases hxy : x = y
          · rw [if_pos hxy] at h
            have hfull : cpl x y = 8 := by rw [hxy, cpl_self, ly]
            have := ih (bl + 8) r h h8 (by rw [← hfull]; exact hext)
            exact ⟨by omega, this.2⟩
          · rw [if_neg hxy] at h
            injection h with h
            subst h
            exact ⟨by omega, by omega, hext⟩
    · rw [if_neg h8] at h
      injection h with h
      subst h
      exact ⟨Nat.le_refl _, hbl, hk⟩
theorem findMatch_ok (src : Array Nat) (i ref mm : Nat) (hi : i + mm ≤ src.size) (hr : ref ≤ i) :
    ∀ (f bl : Nat), bl ≤ mm → mm < bl + 8 * f → ∃ r, findMatch src i ref mm f bl = .ok r := by
  intro f
  induction f with
  | zero => intro bl h0 h; omega
  | succ f ih =>
    intro bl h0 h
    unfold findMatch
    by_cases h8 : bl + 8 ≤ mm
    · rw [if_pos h8]
      obtain ⟨x, hx⟩ := chunk8_some src (i + bl) (by omega)
      obtain ⟨y, hy⟩ := chunk8_some src (ref + bl) (by omega)
      rw [hx, hy]
      simp only []
      split
      · exact ih (bl + 8) h8 (by omega)
      · exact ⟨_, rfl⟩
    · rw [if_neg h8]; exact ⟨_, rfl⟩

/-- the bytes of a match length: `k` times 0xFE and a last byte below 254, unless the loop was left
    because the output reached `dstEnd`; no store is out of range when `dstEnd + 2 ≤ len(dst)` -/
theorem emitLen_spec (dstLen dstEnd : Nat) (hd : dstEnd + 2 ≤ dstLen) : ∀ (f bl : Nat) (out : Array Nat),
    bl < 254 * f → out.size ≤ dstEnd →
    ∃ l : List Nat, emitLen dstLen dstEnd f bl out = .ok (out ++ l) ∧ l ≠ [] ∧ (∀ y ∈ l, y < 256) ∧
      ((∃ k r, bl = 254 * k + r ∧ r < 254 ∧ l = List.replicate k 0xFE ++ [r]) ∨ dstEnd ≤ out.size + l.length) := by
  intro f
  induction f with
  | zero => intro bl out h; omega
  | succ f ih =>
    intro bl out hf ho
    unfold emitLen
    split
    · rename_i h254
      rw [wr_ok _ _ _ (by simp; omega), Out.bind_ok]
      split
      · rename_i hend
        rw [wr_ok _ _ _ (by simp; omega), appendList_assoc]
        refine ⟨_, rfl, by simp, ?_, Or.inr ?_⟩
        · intro y hy
          simp at hy
          omega
        · simp at hend ⊢; omega
      · rename_i hend
        obtain ⟨l, e, hne, hb, hsh⟩ := ih (bl - 254) (out ++ [0xFE]) (by omega) (by simp at hend ⊢; omega)
        rw [e, appendList_assoc]
        refine ⟨_, rfl, by simp, ?_, ?_⟩
        · intro y hy
          simp at hy
          rcases hy with hy | hy
          · omega
          · exact hb y hy
        · rcases hsh with ⟨k, r, e1, e2, e3⟩ | hsh
          · left
            refine ⟨k + 1, r, by omega, e2, ?_⟩
            rw [e3, List.replicate_succ]; simp
          · right; simp at hsh ⊢; omega
    · rename_i h254
      rw [wr_ok _ _ _ (by simp; omega)]
      refine ⟨_, rfl, by simp, ?_, Or.inl ⟨0, bl, by omega, by omega, ?_⟩⟩
      · intro y hy
        simp at hy
        omega
      · have : bl % 256 = bl := by omega
        simp [this]

theorem skipFE_spec (a : Array Nat) (r : Nat) (hr : r ≠ 0xFE) : ∀ (k f i m : Nat),
    (∀ j, j < k → a[i + j]? = some 0xFE) → a[i + k]? = some r → k < f →
    skipFE a f i m = (i + k, m + 254 * k) := by
  intro k
  induction k with
  | zero =>
    intro f i m _ hk hf
    cases f with
    | zero => omega
    | succ f =>
      unfold skipFE
      simp only [Nat.add_zero] at hk
      rw [hk, if_neg (by simpa using hr)]
      simp
  | succ k ih =>
    intro f i m hj hk hf
    cases f with
    | zero => omega
    | succ f =>
      unfold skipFE
      have h0 := hj 0 (by omega)
      simp only [Nat.add_zero] at h0
      rw [h0, if_pos rfl]
      rw [ih f (i + 1) (m + 254) (by
        intro j hjk
        have := hj (j + 1) (by omega)
        rw [show i + 1 + j = i + (j + 1) by omega]; exact this) (by
        rw [show i + 1 + k = i + (k + 1) by omega]; exact hk) (by omega)]
      congr 1 <;> omega

theorem skipFE_stop (a : Array Nat) (f i m y : Nat) (hy : a[i]? = some y) (hne : y ≠ 0xFE) :
    skipFE a f i m = (i, m) := by
  cases f with
  | zero => rfl
  | succ f => rw [skipFE, hy, if_neg (by simpa using hne)]

/-- Inverse enters the loop only when the first length byte is 0xFE; the loop makes that test itself -/
theorem skipFE_first (a : Array Nat) (f i m y : Nat) (hy : a[i]? = some y) :
    (if y = 0xFE then skipFE a f i m else (i, m)) = skipFE a f i m := by
  split
  · rfl
  · rename_i hne
    rw [skipFE_stop a f i m y hy hne]

theorem skipFE_bounds (a : Array Nat) : ∀ (f i m : Nat), i ≤ a.size →
    i ≤ (skipFE a f i m).1 ∧ (skipFE a f i m).1 ≤ a.size ∧ m ≤ (skipFE a f i m).2 := by
  intro f
  induction f with
  | zero => intro i m h; exact ⟨Nat.le_refl _, h, Nat.le_refl _⟩
  | succ f ih =>
    intro i m h
    rw [skipFE]
    by_cases hfe : a[i]? = some 0xFE
    · rw [if_pos hfe]
      have hlt := (Array.getElem?_eq_some_iff.1 hfe).1
      have := ih (i + 1) (m + 254) (by omega)
      omega
    · rw [if_neg hfe]
      exact ⟨Nat.le_refl _, h, Nat.le_refl _⟩

/-- the byte loop appends `l` when every byte it reads, from what was there or from what it has just
    written, is the byte of `l` it then writes -/
theorem copySeq_eq : ∀ (l : List Nat) (r : Nat) (out : Array Nat), r < out.size →
    (∀ j, j < l.length → (out.toList ++ l)[r + j]? = l[j]?) → copySeq l.length r out = .ok (out ++ l) := by
  intro l
  induction l with
  | nil => intro r out _ _; exact congrArg Out.ok (appendList_nil out).symm
  | cons v l ih =>
    intro r out hr h
    have h0 := h 0 (by simp)
    rw [Nat.add_zero, List.getElem?_append_left (by simpa using hr), Array.getElem?_toList] at h0
    rw [List.length_cons, copySeq, h0]
    simp only [List.getElem?_cons_zero]
    rw [ih (r + 1) (out.push v) (by simp; omega), push_eq_appendList, appendList_assoc]
    · rfl
    · intro j hj
      have := h (j + 1) (by simpa using hj)
      rw [Array.toList_push, List.append_assoc, show r + 1 + j = r + (j + 1) by omega]
      exact this

/-- Go's `copy()`, taken when the match ends before the write position, does what the byte loop does -/
theorem copy_eq_copySeq (m r : Nat) (out : Array Nat) :
    (if r + m < out.size then .ok (out ++ out.extract r (r + m)) else copySeq m r out) = copySeq m r out := by
  split
  · rename_i h
    have hl : (out.extract r (r + m)).toList.length = m := by simp; omega
    have := copySeq_eq (out.extract r (r + m)).toList r out (by omega) (by
      intro j hj
      rw [hl] at hj
      rw [List.getElem?_append_left (by simp; omega), Array.getElem?_toList, Array.getElem?_toList,
        Array.getElem?_extract, if_pos (by omega)])
    rw [hl] at this
    rw [this]
    congr 1
    apply Array.toList_inj.1
    simp
  · rfl

theorem copySeq_spec (L : List Nat) (m r p : Nat) (out : Array Nat) (ho : out.toList = L.take p) (hr : r < p)
    (hp : p + m ≤ L.length) (hj : ∀ j, j < m → L[p + j]? = L[r + j]?) :
    ∃ o, copySeq m r out = .ok o ∧ o.toList = L.take (p + m) := by
  have hl : ((L.drop p).take m).length = m := by simp; omega
  have hsz : out.size = p := by rw [← Array.length_toList, ho]; simp; omega
  have hL : L.take p ++ (L.drop p).take m = L.take (p + m) := (List.take_add ..).symm
  have := copySeq_eq ((L.drop p).take m) r out (by omega) (by
    intro j hj'
    rw [hl] at hj'
    rw [ho, hL, List.getElem?_take, if_pos (by omega), ← hj j hj', List.getElem?_take, if_pos hj',
      List.getElem?_drop])
  rw [hl] at this
  exact ⟨_, this, by rw [Array.toList_appendList, ho, hL]⟩

theorem copySeq_total : ∀ (m r : Nat) (out : Array Nat), r < out.size →
    ∃ o, copySeq m r out = .ok o ∧ o.size = out.size + m := by
  intro m
  induction m with
  | zero => intro r out _; exact ⟨out, rfl, rfl⟩
  | succ m ih =>
    intro r out hr
    unfold copySeq
    rw [Array.getElem?_eq_getElem hr]
    simp only []
    obtain ⟨o, e1, e2⟩ := ih (r + 1) (out.push out[r]) (by simp; omega)
    exact ⟨o, e1, by rw [e2]; simp; omega⟩

/-- table invariant: every stored position is below the current one -/
theorem tbl_inv_step (tbl : Array Nat) (h i i' : Nat) (hinv : ∀ k, tbl.getD k 0 < i) (hi : i < i') :
    ∀ k, (tbl.setIfInBounds h i).getD k 0 < i' := by
  intro k
  rw [getD_setIfInBounds]
  split
  · exact hi
  · have := hinv k; omega

theorem tbl0_get (k : Nat) : tbl0.getD k 0 = 0 := by
  unfold tbl0
  rw [Array.getD_eq_getD_getElem?, Array.getElem?_replicate]
  split <;> rfl

/-! ## one iteration of Inverse: an equation for each branch of `decStep`

`ref` is `tbl.getD (hash ctx) 0`.  Not stated: the read at `src[i]` out of range (the loop tests
`i < len(src)`) and the two faults after a match was copied, which `copySeq_total` and `le32_some` exclude. -/

theorem decStep_lit {a : Array Nat} {n mm i ctx : Nat} {tbl out : Array Nat} {x : Nat} (hx : a[i]? = some x)
    (hc : x ≠ MATCH_FLAG ∨ tbl.getD (hash ctx) 0 = 0) :
    decStep a n mm i ctx tbl out =
      (wr n out [x]).bind fun o => .ok ⟨i + 1, shiftCtx ctx x, tbl.setIfInBounds (hash ctx) out.size, o⟩ := by
  simp only [decStep, hx, if_pos hc]

theorem flag_cond {ref : Nat} (hr : ref ≠ 0) : ¬ (MATCH_FLAG ≠ MATCH_FLAG ∨ ref = 0) :=
  fun h => h.elim (fun h => h rfl) hr

/-- a match flag with a prediction as the last input byte: Go reads `src[len(src)]` -/
theorem decStep_flag_end {a : Array Nat} {n mm i ctx : Nat} {tbl out : Array Nat}
    (hx : a[i]? = some MATCH_FLAG) (hr : tbl.getD (hash ctx) 0 ≠ 0) (hy : a[i + 1]? = none) :
    decStep a n mm i ctx tbl out = .fault "src-index" (i + 1) a.size := by
  simp only [decStep, hx, if_neg (flag_cond hr), hy]

theorem decStep_esc {a : Array Nat} {n mm i ctx : Nat} {tbl out : Array Nat}
    (hx : a[i]? = some MATCH_FLAG) (hr : tbl.getD (hash ctx) 0 ≠ 0) (hy : a[i + 1]? = some 0xFF) :
    decStep a n mm i ctx tbl out =
      (wr n out [MATCH_FLAG]).bind fun o =>
        .ok ⟨i + 2, shiftCtx ctx MATCH_FLAG, tbl.setIfInBounds (hash ctx) out.size, o⟩ := by
  simp only [decStep, hx, if_neg (flag_cond hr), hy, if_pos]

/-- the two clean failures of a match: the input ends inside the length bytes; the match does not fit
    into the destination -/
theorem decStep_fail {a : Array Nat} {n mm i ctx : Nat} {tbl out : Array Nat} {y q m : Nat}
    (hx : a[i]? = some MATCH_FLAG) (hr : tbl.getD (hash ctx) 0 ≠ 0)
    (hy : a[i + 1]? = some y) (hyF : y ≠ 0xFF) (hp : skipFE a (a.size - (i + 1)) (i + 1) mm = (q, m))
    (hbad : a.size ≤ q ∨ ∃ z, a[q]? = some z ∧ n < out.size + (m + z)) :
    decStep a n mm i ctx tbl out = .err "fail" := by
  have hP := (skipFE_first a (a.size - (i + 1)) (i + 1) mm y hy).trans hp
  simp only [decStep, hx, if_neg (flag_cond hr), hy, if_neg hyF, hP]
  rcases hbad with hq | ⟨z, hz, hlong⟩
  · have hfe : y = 0xFE := by
      apply Decidable.byContradiction
      intro hne
      rw [skipFE_stop a _ _ _ y hy hne] at hp
      have := (Array.getElem?_eq_some_iff.1 hy).1
      injection hp with h1 _
      omega
    rw [if_pos ⟨hfe, hq⟩]
  · have hq := (Array.getElem?_eq_some_iff.1 hz).1
    rw [if_neg (by omega), hz]
    simp only []
    rw [if_pos hlong]

theorem decStep_match {a : Array Nat} {n mm i ctx : Nat} {tbl out : Array Nat} {y q m z c : Nat} {o : Array Nat}
    (hx : a[i]? = some MATCH_FLAG) (hr : tbl.getD (hash ctx) 0 ≠ 0)
    (hy : a[i + 1]? = some y) (hyF : y ≠ 0xFF) (hp : skipFE a (a.size - (i + 1)) (i + 1) mm = (q, m))
    (hz : a[q]? = some z) (hfit : out.size + (m + z) ≤ n)
    (hcopy : copySeq (m + z) (tbl.getD (hash ctx) 0) out = .ok o) (hc : le32 o (o.size - 4) = some c) :
    decStep a n mm i ctx tbl out = .ok ⟨q + 1, c, tbl.setIfInBounds (hash ctx) out.size, o⟩ := by
  have hq := (Array.getElem?_eq_some_iff.1 hz).1
  have hP := (skipFE_first a (a.size - (i + 1)) (i + 1) mm y hy).trans hp
  simp only [decStep, hx, if_neg (flag_cond hr), hy, if_neg hyF, hP]
  rw [if_neg (by omega), hz]
  simp only []
  rw [if_neg (by omega), copy_eq_copySeq, hcopy, Out.bind_ok, hc]

theorem lzpForward_eq (b : List Nat) (dstLen : Nat) (h128 : 128 ≤ b.length)
    (hdst : lzpMaxEncodedLen b.length ≤ dstLen) :
    ∃ b0 b1 b2 b3 rest, b = b0 :: b1 :: b2 :: b3 :: rest ∧
      lzpForward b dstLen = fwdFinish b.length (b.length - (b.length >>> 6))
        (fwdMain b.toArray dstLen (b.length - (b.length >>> 6)) b.length 4
          (b0 + 256 * b1 + 65536 * b2 + 16777216 * b3) tbl0 #[b0, b1, b2, b3]) := by
  have hm := lzpMaxEncodedLen_ge b.length
  match b, h128 with
  | b0 :: b1 :: b2 :: b3 :: rest, h128 =>
    refine ⟨b0, b1, b2, b3, rest, rfl, ?_⟩
    have h128' : ¬ (b0 :: b1 :: b2 :: b3 :: rest).length < MIN_BLOCK_LENGTH := Nat.not_lt.2 h128
    rw [lzpForward, if_neg (by omega), if_neg (by omega), if_neg h128']
    simp only [List.getElem?_toArray, List.getElem?_cons_zero, List.getElem?_cons_succ, List.size_toArray]
    rw [wr_ok _ _ _ (by simp; omega)]
    rfl

theorem lzpInverse_eq (v3 : Bool) (b0 b1 b2 b3 : Nat) (rest : List Nat) (n : Nat) (hn : 4 ≤ n) :
    lzpInverse v3 (b0 :: b1 :: b2 :: b3 :: rest) n =
      invFinish (rest.length + 4) (invLoop (b0 :: b1 :: b2 :: b3 :: rest).toArray n (minMatch v3)
        (rest.length + 4) 4 (b0 + 256 * b1 + 65536 * b2 + 16777216 * b3) tbl0 #[b0, b1, b2, b3]) := by
  rw [lzpInverse, if_neg (by simp; omega), if_neg (by simp)]
  simp only [List.getElem?_toArray, List.getElem?_cons_zero, List.getElem?_cons_succ, List.size_toArray]
  rw [wr_ok _ _ _ (by simp; omega)]
  rfl

theorem fwdFinish_ok (count dstEnd : Nat) (r : Out (Nat × Array Nat)) (t : List Nat)
    (h : fwdFinish count dstEnd r = .ok t) : r = .ok (count, t.toArray) ∧ t.length < dstEnd := by
  obtain ⟨p, hp, h⟩ := Out.bind_eq_ok _ _ _ h
  by_cases hc : p.1 ≠ count ∨ p.2.size ≥ dstEnd
  · rw [if_pos hc] at h; cases h
  · rw [if_neg hc] at h
    injection h with h
    subst h
    have h1 : p.1 = count := Decidable.not_not.1 fun h => hc (Or.inl h)
    exact ⟨by rw [hp, ← h1], by rw [Array.length_toList]; exact Nat.not_le.1 fun h => hc (Or.inr h)⟩

end Kanzi.LZP
