/-
Helpers for `Kanzi/Properties/C19_levels.lean` (level table of the command-line tool): definitions
used in the statements, Boolean forms of "succeeds with" / "fails with" for kernel evaluation, and
the one big evaluation over the regenerated tables.
-/
import Kanzi.Model.Names
import Kanzi.Generated.Names
import Kanzi.Generated.Levels

namespace Kanzi.Levels
open Kanzi.Names Kanzi.Generated.Names Kanzi.Generated.Levels

/-- the '+'-separated tokens of a transform chain, as `transform.GetType` splits it -/
def chainTokensOf (chain : String) : List String := (splitPlus chain.toList).map String.ofList

/-- default block size of a level: the explicit `case` of `NewBlockCompressor`, else its `default:` -/
def levelBlockSize (level : Nat) : Nat := (blockSizeCases.lookup level).getD blockSizeDefault

def okWith {α : Type} (e : Except Err α) (p : α → Bool) : Bool :=
  match e with
  | .ok a => p a
  | .error _ => false

theorem okWith_spec {α : Type} {e : Except Err α} {p : α → Bool} (h : okWith e p = true) :
    ∃ a, e = .ok a ∧ p a = true := by
  cases e with
  | ok a => exact ⟨a, rfl, h⟩
  | error x => simp [okWith] at h

def failsUnknown {α : Type} (e : Except Err α) : Bool :=
  match e with
  | .error .unknown => true
  | _ => false

theorem failsUnknown_spec {α : Type} {e : Except Err α} (h : failsUnknown e = true) :
    e = .error .unknown := by
  cases e with
  | ok a => simp [failsUnknown] at h
  | error x => cases x <;> simp [failsUnknown] at h ⊢

/-- everything `C19_level_names_valid` says about a row, in evaluable form -/
theorem rows_ok :
    ∀ r ∈ levels,
      r.2.2 ∈ entropyTokens.map (·.1) ∧
      (chainTokensOf r.2.1).length ≤ 8 ∧
      (∀ t ∈ chainTokensOf r.2.1, t ∈ transformTokens.map (·.1)) ∧
      okWith (getType transformTokens r.2.1) (fun ty => decide (ty < 2 ^ 48) &&
        okWith (getName (nameOfTable transformNameOf) ty) (· == r.2.1)) = true ∧
      okWith (entropyType entropyTokens r.2.2) (fun k => decide (k < 32) &&
        okWith (entropyName (nameOfTable entropyNameOf) k) (· == r.2.2)) = true := by
  decide +kernel

theorem default_rejected :
    failsUnknown (getType transformTokens levelDefault.1) = true ∧
    failsUnknown (entropyType entropyTokens levelDefault.2) = true := by
  decide +kernel

end Kanzi.Levels
