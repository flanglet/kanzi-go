/-
Totality of `inverseMergeTPSI` on ARBITRARY input (any bytes, any primary index slots, any stale work
buffer whose pointers stay inside it): the model never takes an out-of-range index (`.fault`), it
returns either `count` bytes or the "corrupted primary index" error, and it leaves the buffer in a
state with the same property (so the next call on the instance is covered too).
This is the content of the fixes F24/F30 for the blocks of at most 4 MiB: F24 range-checks the index of
every chunk before its lane starts (`mergeDecode_eight_err`), F30 allocates at least 256 entries so
that the marker pointer `0xFF` stays inside the buffer (`rawEntries_words`, `256 ≤ M`).
-/
import Kanzi.Proofs.BWTTables

namespace Kanzi.BWT

/-- every pointer stored in the work buffer stays inside it (`ptr >> 8` is the next index read) -/
def Closed (data : Array Nat) : Prop := ∀ a, a < data.size → rd data a / 256 < data.size

theorem closed_empty : Closed #[] := by intro a h; simp at h

theorem closed_ensureBuf (buf : Array Nat) (m : Nat) (hm : 0 < m) (h : Closed buf) : Closed (ensureBuf buf m) := by
  unfold ensureBuf
  split
  · intro a ha
    rw [rd_replicate]
    simp only [Array.size_replicate] at ha ⊢
    simp [ha]; omega
  · exact h

theorem put_some {bk data : Array Nat} {v w : Nat} {r : Array Nat × Array Nat} (h : put bk data v w = some r) :
    ∃ b, r.2 = data.setIfInBounds b w := by
  unfold put at h
  split at h
  · dsimp only at h
    split at h
    · injection h with h; subst h; exact ⟨_, rfl⟩
    · cases h
  · cases h

theorem putList_pres (P : Nat → Prop) (E : List (Nat × Nat)) (bk data : Array Nat)
    (hE : ∀ e ∈ E, P e.2) (hd : ∀ a, a < data.size → P (rd data a)) {r : Array Nat × Array Nat}
    (h : putList E bk data = some r) :
    r.2.size = data.size ∧ ∀ a, a < r.2.size → P (rd r.2 a) := by
  induction E generalizing bk data with
  | nil =>
    simp only [putList] at h
    injection h with h; subst h
    exact ⟨rfl, hd⟩
  | cons e es ih =>
    obtain ⟨r1, hp, h⟩ := putList_cons_some h
    obtain ⟨b, hb⟩ := put_some hp
    have := ih r1.1 r1.2 (fun x hx => hE x (List.mem_cons_of_mem _ hx))
      (by
        intro a ha
        rw [hb, rd_setIfInBounds]
        split
        · exact hE e List.mem_cons_self
        · exact hd a (by rw [hb, Array.size_setIfInBounds] at ha; exact ha)) h
    rw [hb, Array.size_setIfInBounds] at this
    exact this

/-! ### the decoding lanes never leave a closed table -/

theorem laneIter_closed (data : Array Nat) (hc : Closed data) (k : Nat) (l : Nat × Array Nat)
    (hl : l.1 < data.size) :
    (laneIter data k l).1 < data.size ∧ (laneIter data k l).2.size = l.2.size + k := by
  induction k generalizing l with
  | zero => exact ⟨hl, rfl⟩
  | succ k ih =>
    obtain ⟨h1, h2⟩ := ih (laneNext data l) (hc l.1 hl)
    refine ⟨h1, ?_⟩
    rw [laneIter, h2, laneNext, Array.size_push]
    omega

theorem lanesRun_closed (data : Array Nat) (hc : Closed data) (k : Nat) (ls : List (Nat × Array Nat))
    (hl : ∀ l ∈ ls, l.1 < data.size) :
    ∃ ls', lanesRun data k ls = some ls' ∧ (∀ l ∈ ls', l.1 < data.size) ∧
      ls'.map (fun l => l.2.size) = ls.map (fun l => l.2.size + k) := by
  refine ⟨_, lanesRun_eq data k ls fun l h j _ => (laneIter_closed data hc j l (hl l h)).1, ?_, ?_⟩
  · intro l' h'
    obtain ⟨l, h, rfl⟩ := List.mem_map.1 h'
    exact (laneIter_closed data hc k l (hl l h)).1
  · rw [List.map_map]
    exact List.map_congr_left fun l h => (laneIter_closed data hc k l (hl l h)).2

theorem concatLanes_size (ls : List (Nat × Array Nat)) :
    (concatLanes ls).size = (ls.map (fun l => l.2.size)).sum := by
  have : ∀ (acc : Array Nat), (ls.foldl (fun acc l => acc ++ l.2) acc).size
      = acc.size + (ls.map (fun l => l.2.size)).sum := by
    induction ls with
    | nil => intro acc; simp
    | cons l ls ih => intro acc; simp [ih, Nat.add_assoc]
  simpa [concatLanes] using this #[]

theorem sum_map_const {α : Type} (L : List α) (f : α → Nat) (v : Nat) (h : ∀ x ∈ L, f x = v) :
    (L.map f).sum = L.length * v := by
  induction L with
  | nil => simp
  | cons x xs ih =>
    rw [List.map_cons, List.sum_cons, ih (fun y hy => h y (List.mem_cons_of_mem _ hy)), h x List.mem_cons_self,
      List.length_cons, Nat.succ_mul]
    omega

theorem toInt32_le (x : Nat) : toInt32 x ≤ Int.ofNat x := by
  unfold toInt32
  have : x % 2 ^ 32 ≤ x := Nat.mod_le _ _
  dsimp only
  split
  · simp only [Int.ofNat_eq_natCast]; omega
  · simp only [Int.ofNat_eq_natCast]; omega

/-- the decoding half on ANY closed table: `count` bytes or the index error -/
theorem mergeDecode_total (data : Array Nat) (hc : Closed data) (pidx : List Nat) (count p0 : Nat)
    (hcount : count ≤ data.size) (hp0 : 1 ≤ p0 ∧ p0 ≤ count) :
    (∃ out, mergeDecode data pidx count p0 = .ok out ∧ out.size = count) ∨
      mergeDecode data pidx count p0 = .err "pidx" := by
  by_cases hch : getBWTChunks count = 8
  · by_cases hall : ∀ k, k < 8 → 0 ≤ toInt32 (usub1 (pidx.getD k 0)) ∧
        toInt32 (usub1 (pidx.getD k 0)) < toInt32 data.size
    · obtain ⟨hck1, hck2, _⟩ := chunkSize8_bounds count (getBWTChunks_eq_eight.1 hch)
      obtain ⟨ls1, r1, b1, s1⟩ := lanesRun_closed data hc (count - chunkSize count 8 * 7)
        ((List.range 8).map fun k => ((toInt32 (usub1 (pidx.getD k 0))).toNat, #[]))
        (by
          intro l hl
          obtain ⟨k, hk, rfl⟩ := List.mem_map.1 hl
          have := hall k (List.mem_range.1 hk)
          have := toInt32_le data.size
          simp only [Int.ofNat_eq_natCast] at this
          dsimp only
          omega)
      obtain ⟨ls2, r2, _, s2⟩ := lanesRun_closed data hc
        (chunkSize count 8 - (count - chunkSize count 8 * 7)) (ls1.take 7)
        (fun l hl => b1 l (List.mem_of_mem_take hl))
      refine Or.inl ⟨_, mergeDecode_eight_ok data pidx p0 hch hall r1 r2, ?_⟩
      -- eight lanes of `count - 7 ck` bytes, seven of them extended to `ck` bytes
      have hl1 : ls1.length = 8 := by
        have := congrArg List.length s1
        simpa using this
      have hsz1 : ∀ l ∈ ls1, l.2.size = count - chunkSize count 8 * 7 := by
        intro l hl
        have : l.2.size ∈ ls1.map (fun l => l.2.size) := List.mem_map.2 ⟨l, hl, rfl⟩
        rw [s1] at this
        obtain ⟨l0, hl0, e⟩ := List.mem_map.1 this
        obtain ⟨k, _, rfl⟩ := List.mem_map.1 hl0
        rw [← e]
        exact Nat.zero_add _
      rw [concatLanes_size, List.map_append, List.sum_append, s2,
        sum_map_const _ _ (chunkSize count 8) (fun l hl => by rw [hsz1 l (List.mem_of_mem_take hl)]; omega),
        sum_map_const _ _ _ (fun l hl => hsz1 l (List.mem_of_mem_drop hl)),
        List.length_take, List.length_drop, hl1, Nat.min_eq_left (by decide : 7 ≤ 8)]
      omega
    · right
      obtain ⟨k, hk⟩ := Classical.not_forall.1 hall
      obtain ⟨hk8, hk⟩ := Classical.not_imp.1 hk
      exact mergeDecode_eight_err data pidx p0 hch hk8 (by omega)
  · obtain ⟨ls', h1, _, h3⟩ := lanesRun_closed data hc count [(p0 - 1, #[])]
      (by intro l hl; rw [List.mem_singleton.1 hl]; dsimp only; omega)
    left
    rw [mergeDecode_one data pidx p0 hch, h1]
    refine ⟨_, rfl, ?_⟩
    rw [concatLanes_size, h3]
    simp

/-! ### the scatter phase never leaves the buffer -/

theorem rawEntries_words (src : Array Nat) (p0 M : Nat) (hb : ∀ b ∈ src.toList, b < 256)
    (h : 1 ≤ p0 ∧ p0 ≤ src.size) (hM : src.size ≤ M ∧ 256 ≤ M) :
    ∀ e ∈ rawEntries src p0, e.2 / 256 < M := by
  have hsym := rd_lt src hb
  intro e he
  simp only [rawEntries, List.mem_cons, List.mem_append, List.mem_map, List.mem_range'_1] at he
  rcases he with rfl | ⟨j, hj, rfl⟩ | ⟨j, hj, rfl⟩
  · have := hsym 0; simp only; omega
  · have := hsym j; simp only; omega
  · have := hsym j; simp only; omega

/-- TOTALITY of `inverseMergeTPSI` (with the buffer invariant): any bytes, any slots, any closed stale
buffer.  Never `.fault` / `.hang`; success returns exactly `count` bytes. -/
theorem mergeTPSI_total (buf : Array Nat) (pidx : List Nat) (src : Array Nat)
    (hb : ∀ b ∈ src.toList, b < 256) (h2 : 1 ≤ src.size) (hbuf : Closed buf) :
    ((∃ out, (mergeTPSI buf pidx src).1 = .ok out ∧ out.size = src.size) ∨
      (mergeTPSI buf pidx src).1 = .err "pidx") ∧ Closed (mergeTPSI buf pidx src).2 := by
  by_cases hcond : pidx.getD 0 0 = 0 ∨ pidx.getD 0 0 ≥ 2 ^ 63 ∨ pidx.getD 0 0 > src.size
  · unfold mergeTPSI
    rw [if_pos hcond]
    exact ⟨Or.inr rfl, hbuf⟩
  · have hp0 : 1 ≤ pidx.getD 0 0 ∧ pidx.getD 0 0 ≤ src.size := by omega
    have h63 : pidx.getD 0 0 < 2 ^ 63 := by omega
    clear hcond
    have hsz0 := ensureBuf_size_ge buf (max src.size 256)
    have hsz1 : src.size ≤ (ensureBuf buf (max src.size 256)).size ∧
        256 ≤ (ensureBuf buf (max src.size 256)).size := by omega
    obtain ⟨bk', data', hrun, hsize, _, _⟩ :=
      putList_histogram src hb (rawEntries src (pidx.getD 0 0)) (rawEntries_keys src _ hp0)
        (ensureBuf buf (max src.size 256)) hsz1.1
    have hpres := putList_pres (fun w => w / 256 < (ensureBuf buf (max src.size 256)).size) _ _ _
      (rawEntries_words src _ _ hb hp0 hsz1)
      (closed_ensureBuf _ _ (by omega) hbuf) hrun
    have hclosed : Closed data' := fun a ha => hpres.1 ▸ hpres.2 a ha
    rw [mergeTPSI_eq buf pidx src hp0 h63 hrun]
    dsimp only
    exact ⟨mergeDecode_total data' hclosed pidx src.size _ (hsize ▸ hsz1.1) hp0, hclosed⟩

end Kanzi.BWT
