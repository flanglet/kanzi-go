/-
Base of the LZ (`LZXCodec`) proofs: `Out.Sat`, the form in which the pieces of `Forward` are specified (and those
of `Inverse` where only its faults are in question); reading bytes at a position (`At`); the length coding
`emitLength` / `readLength` (property statements `C13_lz_lengths`, `C13_lz_lengths_wrap` in
`Kanzi/Properties/C13_lz.lean`).
-/
import Kanzi.Model.LZ
import Kanzi.Proofs.Base

namespace Kanzi.LZ

@[simp] theorem Out.bind_ok {α β : Type} (a : α) (f : α → Out β) : (Out.ok a).bind f = f a := rfl
@[simp] theorem Out.bind_err {α β : Type} (e : String) (f : α → Out β) : (Out.err e : Out α).bind f = .err e := rfl
@[simp] theorem Out.bind_fault {α β : Type} (e : String) (f : α → Out β) :
    (Out.fault e : Out α).bind f = .fault e := rfl

theorem Out.bind_eq_ok {α β : Type} {x : Out α} {f : α → Out β} {b : β} (h : x.bind f = .ok b) :
    ∃ a, x = .ok a ∧ f a = .ok b := by
  cases x with
  | ok a => exact ⟨a, rfl, h⟩
  | err e => simp at h
  | fault e => simp at h

/-- whenever `x` is `.ok a` then `P a`, and whenever it is `.fault e` then `A e`.  One such statement about a
    piece of the model gives both what its result satisfies and which faults it can end in: none under the side
    conditions `F` (`A := fun _ => ¬ F`, the pieces of `Forward`), any but exhausted fuel (`A := (· ≠ "fuel")`,
    `Inverse` on arbitrary input). -/
def Out.Sat {α : Type} (A : String → Prop) (x : Out α) (P : α → Prop) : Prop :=
  (∀ a, x = .ok a → P a) ∧ (∀ e, x = .fault e → A e)

theorem Out.Sat.ok {α : Type} {A : String → Prop} {P : α → Prop} {a : α} (h : P a) : Out.Sat A (.ok a) P :=
  ⟨fun _ e => Out.ok.inj e ▸ h, fun _ e => nomatch e⟩

theorem Out.Sat.err {α : Type} {A : String → Prop} {P : α → Prop} {e : String} : Out.Sat A (.err e) P :=
  ⟨fun _ h => (nomatch h), fun _ h => (nomatch h)⟩

theorem Out.Sat.fault {α : Type} {A : String → Prop} {P : α → Prop} {e : String} (h : A e) :
    Out.Sat A (.fault e) P :=
  ⟨fun _ h' => (nomatch h'), fun _ h' => Out.fault.inj h' ▸ h⟩

theorem Out.Sat.bind {α β : Type} {A : String → Prop} {P : α → Prop} {Q : β → Prop} {x : Out α} {f : α → Out β}
    (hx : Out.Sat A x P) (hf : ∀ a, x = .ok a → P a → Out.Sat A (f a) Q) : Out.Sat A (x.bind f) Q := by
  cases x with
  | ok a => exact hf a rfl (hx.1 a rfl)
  | err e => exact Out.Sat.err
  | fault e => exact Out.Sat.fault (hx.2 e rfl)

theorem Out.Sat.mono {α : Type} {A : String → Prop} {P Q : α → Prop} {x : Out α} (hx : Out.Sat A x P)
    (h : ∀ a, P a → Q a) : Out.Sat A x Q :=
  ⟨fun a e => h a (hx.1 a e), hx.2⟩

theorem Out.Sat.imp {α : Type} {A A' : String → Prop} {P : α → Prop} {x : Out α} (hx : Out.Sat A x P)
    (h : ∀ e, A e → A' e) : Out.Sat A' x P :=
  ⟨hx.1, fun e he => h e (hx.2 e he)⟩

theorem maxEncodedLen_ge (n : Nat) : n + 16 ≤ maxEncodedLen n := by
  unfold maxEncodedLen
  split <;> omega

/-- the bytes `bs` stand in `src` from index `i` on -/
def At (src : Array Nat) (i : Nat) (bs : List Nat) : Prop := ∀ k, k < bs.length → src[i + k]? = bs[k]?

theorem At_nil (src : Array Nat) (i : Nat) : At src i [] := by intro k hk; simp at hk

theorem At_cons {src : Array Nat} {i x : Nat} {xs : List Nat} :
    At src i (x :: xs) ↔ src[i]? = some x ∧ At src (i + 1) xs := by
  constructor
  · intro h
    refine ⟨by simpa using h 0 (by simp), ?_⟩
    intro k hk
    have := h (k + 1) (by simpa using hk)
    simpa [Nat.add_assoc, Nat.add_comm 1 k] using this
  · rintro ⟨h0, h1⟩ k hk
    cases k with
    | zero => simpa using h0
    | succ k =>
      have := h1 k (by simpa using hk)
      simpa [Nat.add_assoc, Nat.add_comm 1 k] using this

theorem At_append {src : Array Nat} {i : Nat} {a b : List Nat} :
    At src i (a ++ b) ↔ At src i a ∧ At src (i + a.length) b := by
  induction a generalizing i with
  | nil => simp [At_nil]
  | cons x xs ih =>
    simp only [List.cons_append, At_cons, ih, List.length_cons]
    have : i + 1 + xs.length = i + (xs.length + 1) := by omega
    rw [this]; exact and_assoc.symm

theorem At_size {src : Array Nat} {i : Nat} {bs : List Nat} (h : At src i bs) (hne : bs ≠ []) :
    i + bs.length ≤ src.size := by
  have hl : 0 < bs.length := List.length_pos_iff.mpr hne
  have := h (bs.length - 1) (by omega)
  rw [List.getElem?_eq_getElem (by omega)] at this
  have h2 := (Array.getElem?_eq_some_iff.mp this).1
  omega

theorem At_self (l : List Nat) : At l.toArray 0 l := by
  intro k hk; simp

theorem At_toArray_append (a b c : List Nat) : At (a ++ b ++ c).toArray a.length b := by
  intro k hk
  simp only [List.getElem?_toArray, List.append_assoc]
  rw [List.getElem?_append_right (by omega)]
  simp only [Nat.add_sub_cancel_left]
  rw [List.getElem?_append_left hk]

theorem emitLength_length (n : Nat) :
    (emitLength n).length = if n < 254 then 1 else if n < 65536 + 254 then 3 else 4 := by
  unfold emitLength; split
  · rfl
  · split <;> rfl

theorem emitLength_length_le (n : Nat) : 1 ≤ (emitLength n).length ∧ (emitLength n).length ≤ 4 := by
  rw [emitLength_length]; split
  · omega
  · split <;> omega

/-- a length section entry of `k` bytes stands for a length of at least `7 k - 7` -/
theorem emitLength_length7 (n : Nat) : 7 * (emitLength n).length ≤ n + 7 := by
  rw [emitLength_length]; split
  · omega
  · split <;> omega

theorem emitLength_ne_nil (n : Nat) : emitLength n ≠ [] := by
  have := (emitLength_length_le n).1
  intro h; rw [h] at this; simp at this

theorem emitLength_bytes (n : Nat) : ∀ x ∈ emitLength n, x < 256 := by
  unfold emitLength; split
  · intro x hx; simp at hx; omega
  · split
    · intro x hx; simp at hx; omega
    · intro x hx; simp at hx; omega

/-- the decoded value: exact below `2^24 + 255`, and what the 24-bit field makes of larger values -/
def lengthValue (n : Nat) : Nat := if n < 65536 + 254 then n else 255 + (n - 255) % 16777216

theorem lengthValue_eq {n : Nat} (h : n < 16777216 + 255) : lengthValue n = n := by
  unfold lengthValue; split
  · rfl
  · omega

theorem lengthValue_lt {n : Nat} (h : 16777216 + 255 ≤ n) : lengthValue n < n := by
  unfold lengthValue; split <;> omega

theorem emitLength_small {n : Nat} (h : n < 254) : emitLength n = [n % 256] := by
  unfold emitLength; simp [h]

theorem emitLength_mid {n : Nat} (h1 : ¬ n < 254) (h2 : n < 65536 + 254) :
    emitLength n = [254, ((n - 254) >>> 8) % 256, (n - 254) % 256] := by
  unfold emitLength; simp [h1, h2]

theorem emitLength_big {n : Nat} (h2 : ¬ n < 65536 + 254) :
    emitLength n = [255, ((n - 255) >>> 16) % 256, ((n - 255) >>> 8) % 256, (n - 255) % 256] := by
  have h1 : ¬ n < 254 := by omega
  unfold emitLength; simp [h1, h2]

theorem readLength_emitLength {src : Array Nat} {i n : Nat} (h : At src i (emitLength n)) :
    readLength src i = .ok (lengthValue n, (emitLength n).length) := by
  unfold readLength lengthValue
  by_cases h1 : n < 254
  · rw [emitLength_small h1] at h ⊢
    rw [At_cons] at h
    have h2 : n % 256 = n := by omega
    have h3 : n < 65536 + 254 := by omega
    simp [h.1, h2, h1, h3]
  · by_cases h2 : n < 65536 + 254
    · rw [emitLength_mid h1 h2] at h ⊢
      simp only [At_cons] at h
      obtain ⟨ha, hb, hc, _⟩ := h
      simp only [ha, hb, hc, h2, if_true, Nat.shiftLeft_eq, Nat.shiftRight_eq_div_pow]
      simp
      omega
    · rw [emitLength_big h2] at h ⊢
      simp only [At_cons] at h
      obtain ⟨ha, hb, hc, hd, _⟩ := h
      simp only [ha, hb, hc, hd, h2, if_false, Nat.shiftLeft_eq, Nat.shiftRight_eq_div_pow]
      simp
      omega

end Kanzi.LZ
