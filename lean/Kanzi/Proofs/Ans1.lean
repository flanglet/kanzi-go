/-
The order-1 rANS chunk (model Kanzi/Model/Ans1.lean; statements in Kanzi/Properties/C12_ans1.lean):
table lookups, one interleaved round with per-step contexts, the chain of rounds, the bridge from the
index loop of `encodeChunk` to the chain, the chunk round trip, and a single state on a single quarter.
Builds on `laneOk_of_table` / `round4_rt` / `decodeFrame_frameBits` of Kanzi/Proofs/Ans0.lean: a round is
the order-0 round with a different table in each lane.  The chunk round trip is stated for ANY two
families of tables `fsE` (encoder) and `fsD` (decoder) that agree in the contexts the chunk enters
(`ChunkOk`); that the tables `Write` / `Read` build satisfy it is Kanzi/Proofs/Ans1Block.lean.
-/
import Kanzi.Model.Ans1
import Kanzi.Proofs.Ans0

namespace Kanzi.Ans1
open Kanzi.Bits Kanzi.EntSmall

/-! ### A. two-level tables -/

theorem mkEncSyms_nil (lr : Nat) : mkEncSyms [] lr = #[] := rfl
theorem mkDecTable_nil (lr : Nat) : mkDecTable [] lr = #[] := rfl

theorem getD_map_toArray {α β : Type} (g : α → β) (l : List α) (c : Nat) (da : α) (db : β)
    (h : g da = db) : (l.map g).toArray.getD c db = g (l.getD c da) := by
  by_cases hc : c < l.length
  · simp [Array.getD_eq_getD_getElem?, List.getD_eq_getElem?_getD, hc]
  · simp [Array.getD_eq_getD_getElem?, List.getD_eq_getElem?_getD, hc, h]

theorem encLook_eq (fs : List (List Nat)) (lr c s : Nat) :
    encLook (mkEncTabs fs lr) c s = (mkEncSyms (fs.getD c []) lr).getD s ⟨0, 0, 0, 0, 0⟩ := by
  unfold encLook mkEncTabs dfltE
  rw [getD_map_toArray (fun f => mkEncSyms f lr) fs c [] #[] rfl]

theorem decLook_eq (fs : List (List Nat)) (lr c slot : Nat) :
    decLook (mkDecTabs fs lr) c slot = (mkDecTable (fs.getD c []) lr).getD slot (0, ⟨0, 0⟩) := by
  unfold decLook mkDecTabs dfltD
  rw [getD_map_toArray (fun f => mkDecTable f lr) fs c [] #[] rfl]

/-! ### B. one round of four steps, each in its own context -/

/-- what the round trip needs about one (context, symbol) step: encoder and decoder use the same
    table for that context, it sums to `2^lr`, and the symbol has a positive frequency.  (`fsD` may
    differ from `fsE` in a context the chunk never enters: there the Go decoder keeps stale tables.) -/
def StepOk (fsE fsD : List (List Nat)) (lr c a : Nat) : Prop :=
  fsD.getD c [] = fsE.getD c [] ∧ (fsE.getD c []).sum = 2 ^ lr ∧ SymOk (fsE.getD c []) a

/-- `StepOk` in each of the four lanes: `c` = the contexts, `p` = the symbols (as in `enc1Round`) -/
def QuadOk (fsE fsD : List (List Nat)) (lr : Nat) (c p : Quad) : Prop :=
  StepOk fsE fsD lr c.1 p.1 ∧ StepOk fsE fsD lr c.2.1 p.2.1 ∧
  StepOk fsE fsD lr c.2.2.1 p.2.2.1 ∧ StepOk fsE fsD lr c.2.2.2 p.2.2.2

theorem laneOk_of_step (fsE fsD : List (List Nat)) (lr c a : Nat) (hlr : 8 ≤ lr ∧ lr ≤ 15)
    (h : StepOk fsE fsD lr c a) :
    LaneOk (encLook (mkEncTabs fsE lr) c a) (decLook (mkDecTabs fsD lr) c) lr a := by
  have e : decLook (mkDecTabs fsD lr) c = fun slot => (mkDecTable (fsE.getD c []) lr).getD slot (0, ⟨0, 0⟩) := by
    funext slot
    rw [decLook_eq, h.1]
  rw [encLook_eq, e]
  exact laneOk_of_table _ lr a hlr h.2.1 h.2.2

theorem round1_rt (fsE fsD : List (List Nat)) (lr : Nat) (c p : Quad) (s : EncSt)
    (hlr : 8 ≤ lr ∧ lr ≤ 15) (hq : QuadOk fsE fsD lr c p) (hv : ValidSt s) :
    ValidSt (enc1Round (mkEncTabs fsE lr) c p s) ∧
    (∀ J, dec1Round (mkDecTabs fsD lr) lr c (toDec (enc1Round (mkEncTabs fsE lr) c p s) J) = (p, toDec s J)) ∧
    (enc1Round (mkEncTabs fsE lr) c p s).out.length ≤ s.out.length + 8 :=
  round4_rt _ _ _ _ _ _ _ _ lr p.1 p.2.1 p.2.2.1 p.2.2.2 s (laneOk_of_step fsE fsD lr _ _ hlr hq.1)
    (laneOk_of_step fsE fsD lr _ _ hlr hq.2.1) (laneOk_of_step fsE fsD lr _ _ hlr hq.2.2.1)
    (laneOk_of_step fsE fsD lr _ _ hlr hq.2.2.2) hv

/-! ### C. the chain of rounds -/

/-- the rounds of `encodeChunk` as a chain: `p` = row before `rows` (the contexts of its first
    row); the LAST row is encoded first -/
def encRows (tabs : Array (Array EncSym)) : Quad → List Quad → EncSt → EncSt
  | _, [], s => s
  | p, r :: rs, s => enc1Round tabs p r (encRows tabs r rs s)

/-- every round of the chain `encRows … p rows` is covered: each row against the row before it -/
def RowsOk (fsE fsD : List (List Nat)) (lr : Nat) : Quad → List Quad → Prop
  | _, [] => True
  | p, r :: rs => QuadOk fsE fsD lr p r ∧ RowsOk fsE fsD lr r rs

theorem rows_rt (fsE fsD : List (List Nat)) (lr : Nat) (hlr : 8 ≤ lr ∧ lr ≤ 15) (s : EncSt)
    (hv : ValidSt s) : ∀ (rows : List Quad) (p : Quad), RowsOk fsE fsD lr p rows →
    ValidSt (encRows (mkEncTabs fsE lr) p rows s) ∧
    (∀ J, dec1Rounds (mkDecTabs fsD lr) lr rows.length p (toDec (encRows (mkEncTabs fsE lr) p rows s) J)
      = (rows, toDec s J)) ∧
    (encRows (mkEncTabs fsE lr) p rows s).out.length ≤ s.out.length + 8 * rows.length := by
  intro rows
  induction rows with
  | nil => intro p _; exact ⟨hv, fun _ => rfl, by simp [encRows]⟩
  | cons r rs ih =>
    intro p hok
    obtain ⟨hq, hrest⟩ := hok
    obtain ⟨iv, id, il⟩ := ih r hrest
    obtain ⟨rv, rd, rl⟩ := round1_rt fsE fsD lr p r _ hlr hq iv
    refine ⟨rv, fun J => ?_, ?_⟩
    · simp only [encRows, List.length_cons, dec1Rounds]
      rw [rd J]
      simp only
      rw [id J]
    · simp only [encRows, List.length_cons] at rl ⊢
      omega

/-! ### D. the index loop of `encodeChunk` is the chain over `rowsOf` -/

/-- the rounds of a chunk with quarters of length `q`, in decoding order: row `j` holds byte `j` of each quarter -/
def rowsOf (blk : Array Nat) (q : Nat) : List Quad := (List.range q).map (rowAt blk q)

theorem rowsOf_length (blk : Array Nat) (q : Nat) : (rowsOf blk q).length = q := by
  simp [rowsOf]

theorem rowsOf_drop (blk : Array Nat) (q j : Nat) (hj : j < q) :
    (rowsOf blk q).drop j = rowAt blk q j :: (rowsOf blk q).drop (j + 1) := by
  have hl : j < (rowsOf blk q).length := by rw [rowsOf_length]; exact hj
  rw [List.drop_eq_getElem_cons hl]
  congr 1
  simp [rowsOf]

/-- invariant of the index loop of `encodeChunk`: entered at `j` with `prv = rowAt j` on a state that is
    the chain over the rows after `j`, the loop followed by the final context-0 round gives the whole chain -/
theorem loop_chain (blk : Array Nat) (tabs : Array (Array EncSym)) (q : Nat) (s0 : EncSt) :
    ∀ j, j < q →
    enc1Round tabs (0, 0, 0, 0)
      (enc1Loop blk tabs q j (rowAt blk q j)
        (encRows tabs (rowAt blk q j) ((rowsOf blk q).drop (j + 1)) s0)).1
      (enc1Loop blk tabs q j (rowAt blk q j)
        (encRows tabs (rowAt blk q j) ((rowsOf blk q).drop (j + 1)) s0)).2
      = encRows tabs (0, 0, 0, 0) (rowsOf blk q) s0 := by
  intro j
  induction j with
  | zero =>
    intro hq
    have h := rowsOf_drop blk q 0 hq
    rw [List.drop_zero] at h
    simp only [enc1Loop]
    conv => rhs; rw [h]
    rfl
  | succ j ih =>
    intro hq
    have h := rowsOf_drop blk q (j + 1) hq
    simp only [enc1Loop]
    have e : enc1Round tabs (rowAt blk q j) (rowAt blk q (j + 1))
        (encRows tabs (rowAt blk q (j + 1)) ((rowsOf blk q).drop (j + 1 + 1)) s0)
        = encRows tabs (rowAt blk q j) ((rowsOf blk q).drop (j + 1)) s0 := by
      rw [h]; rfl
    rw [e]
    exact ih (by omega)

theorem ans1Final_eq (blk : List Nat) (tabs : Array (Array EncSym)) :
    ans1Final blk tabs
      = encRows tabs (0, 0, 0, 0) (rowsOf blk.toArray (blk.length / 4))
          ⟨ansTop, ansTop, ansTop, ansTop, blk.drop (4 * (blk.length / 4))⟩ := by
  unfold ans1Final
  simp only
  by_cases hq : blk.length / 4 = 0
  · rw [if_pos hq, hq]
    rfl
  · rw [if_neg hq]
    have h := loop_chain blk.toArray tabs (blk.length / 4)
      ⟨ansTop, ansTop, ansTop, ansTop, blk.drop (4 * (blk.length / 4))⟩ (blk.length / 4 - 1) (by omega)
    have e : blk.length / 4 - 1 + 1 = blk.length / 4 := by omega
    rw [e] at h
    have hd : (rowsOf blk.toArray (blk.length / 4)).drop (blk.length / 4) = [] := by
      apply List.drop_eq_nil_of_le
      rw [rowsOf_length]
    rw [hd] at h
    exact h

/-! ### E. the rows of a block: what they contain, what they decode to -/

theorem range_map_getD (l : List Nat) : ∀ (n k : Nat), k + n ≤ l.length →
    (List.range n).map (fun j => l.getD (k + j) 0) = (l.drop k).take n := by
  intro n
  induction n with
  | zero => intro k _; simp
  | succ n ih =>
    intro k hk
    rw [List.range_succ, List.map_append, ih k (by omega)]
    simp only [List.map_cons, List.map_nil]
    have hlt : n < (l.drop k).length := by rw [List.length_drop]; omega
    rw [List.take_add_one]
    congr 1
    have : (l.drop k)[n]? = some (l.getD (k + n) 0) := by
      rw [List.getElem?_drop]
      simp [List.getD_eq_getElem?_getD, (by omega : k + n < l.length)]
    rw [this]
    rfl

theorem quartersOf_rowsOf (blk : List Nat) (q : Nat) (hq : 4 * q ≤ blk.length) :
    quartersOf (rowsOf blk.toArray q) = blk.take (4 * q) := by
  unfold quartersOf rowsOf
  simp only [List.map_map]
  have e0 : ((fun x : Quad => x.1) ∘ rowAt blk.toArray q) = fun j => blk.getD (0 + j) 0 := by
    funext j
    rw [Nat.zero_add]
    exact toArray_getD blk j
  have e1 : ((fun x : Quad => x.2.1) ∘ rowAt blk.toArray q) = fun j => blk.getD (q + j) 0 :=
    funext fun j => toArray_getD blk (q + j)
  have e2 : ((fun x : Quad => x.2.2.1) ∘ rowAt blk.toArray q) = fun j => blk.getD (2 * q + j) 0 :=
    funext fun j => toArray_getD blk (2 * q + j)
  have e3 : ((fun x : Quad => x.2.2.2) ∘ rowAt blk.toArray q) = fun j => blk.getD (3 * q + j) 0 :=
    funext fun j => toArray_getD blk (3 * q + j)
  rw [e0, e1, e2, e3, range_map_getD blk q 0 (by omega), range_map_getD blk q q (by omega),
    range_map_getD blk q (2 * q) (by omega), range_map_getD blk q (3 * q) (by omega)]
  rw [List.drop_zero]
  have t : ∀ (l : List Nat) (a b : Nat), l.take (a + b) = l.take a ++ (l.drop a).take b := by
    intro l a b
    rw [List.take_add]
  rw [show 4 * q = q + (q + (q + q)) by omega, t blk q, t (blk.drop q) q, t ((blk.drop q).drop q) q]
  simp only [List.drop_drop, List.append_assoc]
  rw [show q + q = 2 * q by omega, show 2 * q + q = 3 * q by omega]

/-! ### F. one chunk (`encodeChunk` / `decodeChunkV2`, order 1) -/

def ans1PayloadLen (blk : List Nat) (fsE : List (List Nat)) (lr : Nat) : Nat :=
  (ans1Final blk (mkEncTabs fsE lr)).out.length

/-- hypothesis of the chunk round trip: bytes, and every (context, symbol) step of the four walks
    is covered by the tables -/
def ChunkOk (fsE fsD : List (List Nat)) (lr : Nat) (blk : List Nat) : Prop :=
  (∀ b ∈ blk, b < 256) ∧ RowsOk fsE fsD lr (0, 0, 0, 0) (rowsOf blk.toArray (blk.length / 4))

theorem final1_facts (blk : List Nat) (fsE fsD : List (List Nat)) (lr : Nat) (hlr : 8 ≤ lr ∧ lr ≤ 15)
    (hok : ChunkOk fsE fsD lr blk) :
    ValidSt (ans1Final blk (mkEncTabs fsE lr)) ∧
    (∀ J, dec1Rounds (mkDecTabs fsD lr) lr (blk.length / 4) (0, 0, 0, 0) (toDec (ans1Final blk (mkEncTabs fsE lr)) J)
      = (rowsOf blk.toArray (blk.length / 4),
         ⟨ansTop, ansTop, ansTop, ansTop, blk.drop (4 * (blk.length / 4)) ++ J⟩)) ∧
    ans1PayloadLen blk fsE lr ≤ 2 * blk.length := by
  have hinit := validSt_top (blk.drop (4 * (blk.length / 4))) (fun b hb => hok.1 b (List.mem_of_mem_drop hb))
  obtain ⟨v, d, l⟩ := rows_rt fsE fsD lr hlr _ hinit _ _ hok.2
  rw [rowsOf_length] at d l
  unfold ans1PayloadLen
  rw [ans1Final_eq]
  refine ⟨v, d, ?_⟩
  simp only [List.length_drop] at l
  omega

theorem ans1EncodeChunk_eq (blk : List Nat) (tabs : Array (Array EncSym)) :
    ans1EncodeChunk blk tabs = frameBits (ans1Final blk tabs) := rfl

theorem ans1DecodeChunk_eq (tabs : Array (Array (Nat × DecSym))) (lr len : Nat) (bs : Bits) :
    ans1DecodeChunk tabs lr len bs
      = decodeFrame len (fun s => quartersOf (dec1Rounds tabs lr (len / 4) (0, 0, 0, 0) s).1
          ++ ((dec1Rounds tabs lr (len / 4) (0, 0, 0, 0) s).2.ws ++ List.replicate 4 0).take (len % 4)) bs := rfl

theorem chunk1_rt_sz (blk : List Nat) (fsE fsD : List (List Nat)) (lr : Nat) (hlr : 8 ≤ lr ∧ lr ≤ 15)
    (hok : ChunkOk fsE fsD lr blk) (hsz : ans1PayloadLen blk fsE lr < 2 ^ 27) (rest : Bits) :
    ans1DecodeChunk (mkDecTabs fsD lr) lr blk.length (ans1EncodeChunk blk (mkEncTabs fsE lr) ++ rest)
      = some (blk, rest) := by
  obtain ⟨v, d, l⟩ := final1_facts blk fsE fsD lr hlr hok
  have d := d []
  rw [toDec_nil, List.append_nil] at d
  rw [ans1DecodeChunk_eq, ans1EncodeChunk_eq, decodeFrame_frameBits _ v hsz]
  by_cases h0 : blk.length = 0
  · have hout : (ans1Final blk (mkEncTabs fsE lr)).out = [] := List.length_eq_zero_iff.mp (by
      unfold ans1PayloadLen at l
      omega)
    rw [if_pos h0, hout, List.length_eq_zero_iff.mp h0]
    rfl
  · have hdl : (blk.drop (4 * (blk.length / 4))).length = blk.length % 4 := by
      rw [List.length_drop]
      omega
    rw [if_neg h0, d]
    simp only
    rw [List.take_left' hdl, quartersOf_rowsOf blk (blk.length / 4) (by omega), List.take_append_drop]

/-- chunk round trip for every chunk shorter than 2^26 bytes (each symbol pushes at most one
    16-bit word, so the payload is at most `2·len < 2^27` bytes) -/
theorem chunk1_rt (blk : List Nat) (fsE fsD : List (List Nat)) (lr : Nat) (hlr : 8 ≤ lr ∧ lr ≤ 15)
    (hok : ChunkOk fsE fsD lr blk) (hsz : blk.length < 2 ^ 26) (rest : Bits) :
    ans1DecodeChunk (mkDecTabs fsD lr) lr blk.length (ans1EncodeChunk blk (mkEncTabs fsE lr) ++ rest)
      = some (blk, rest) := by
  have := (final1_facts blk fsE fsD lr hlr hok).2.2
  exact chunk1_rt_sz blk fsE fsD lr hlr hok (by omega) rest

/-! ### G. ONE state walking ONE quarter, context = previous symbol (`C12_ans1_single_state`; nothing
above depends on it) -/

/-- rANS encoding of one order-1 walk with a single state: `c` = context of the first symbol; the
    LAST symbol is encoded first; returns the final state and the bytes in stream order -/
def encWalk1 (fs : List (List Nat)) (lr : Nat) : Nat → List Nat → Nat × List Nat
  | _, [] => (ansTop, [])
  | c, a :: as =>
    ((encS (fs.getD c []) lr a (encWalk1 fs lr a as).1).2,
     wordBytes (encS (fs.getD c []) lr a (encWalk1 fs lr a as).1).1 ++ (encWalk1 fs lr a as).2)

/-- decoding of `n` symbols of a walk with a single state, from context `c` -/
def decWalk1 (fs : List (List Nat)) (lr : Nat) : Nat → Nat → Nat → List Nat → List Nat × Nat × List Nat
  | 0, _, st, buf => ([], st, buf)
  | n + 1, c, st, buf =>
    let e := (mkDecTable (fs.getD c []) lr).getD (st &&& (2 ^ lr - 1)) (0, ⟨0, 0⟩)
    let d := decodeStepB st e.2 lr buf
    let t := decWalk1 fs lr n e.1 d.1 d.2
    (e.1 :: t.1, t.2)

/-- every (context, symbol) step of the walk is covered by the tables -/
def WalkOk (fs : List (List Nat)) (lr : Nat) : Nat → List Nat → Prop
  | _, [] => True
  | c, a :: as => (fs.getD c []).sum = 2 ^ lr ∧ SymOk (fs.getD c []) a ∧ WalkOk fs lr a as

theorem walk1_rt (fs : List (List Nat)) (lr : Nat) (hlr : 8 ≤ lr ∧ lr ≤ 15) :
    ∀ (syms : List Nat) (c : Nat), WalkOk fs lr c syms →
    StOk (encWalk1 fs lr c syms).1 ∧ (∀ b ∈ (encWalk1 fs lr c syms).2, b < 256) ∧
    (encWalk1 fs lr c syms).2.length ≤ 2 * syms.length ∧
    ∀ rest : List Nat, decWalk1 fs lr syms.length c (encWalk1 fs lr c syms).1
        ((encWalk1 fs lr c syms).2 ++ rest) = (syms, ansTop, rest) := by
  intro syms
  induction syms with
  | nil => intro c _; exact ⟨stOk_top, by simp [encWalk1], by simp [encWalk1], fun rest => rfl⟩
  | cons a as ih =>
    intro c hs
    obtain ⟨hsum, hsym, hrest⟩ := hs
    obtain ⟨i1, i2, i3, i4⟩ := ih a hrest
    obtain ⟨x0, b0, l0, d0⟩ := laneOk_of_table (fs.getD c []) lr a hlr hsum hsym (encWalk1 fs lr a as).1 i1
    simp only [encWalk1, List.length_cons, decWalk1, encS]
    generalize encodeStep (encWalk1 fs lr a as).1 ((mkEncSyms (fs.getD c []) lr).getD a ⟨0, 0, 0, 0, 0⟩) = e at *
    refine ⟨x0, ?_, ?_, ?_⟩
    · intro b hb
      rcases List.mem_append.mp hb with h | h
      · exact b0 b h
      · exact i2 b h
    · rw [List.length_append]; omega
    · intro rest
      rw [List.append_assoc, (d0 _).1, (d0 rest).2, i4 rest]

end Kanzi.Ans1
