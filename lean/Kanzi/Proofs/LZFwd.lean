/-
The pieces of one iteration of the LZ `Forward` loop.  Each piece gets ONE statement (`Out.Sat`): what its
result satisfies - every match reported was verified byte by byte, points backwards inside the window and has
a representable length; the hash table only holds earlier positions, each under its own hash - and that it
does not fault.  Nothing is proved about the quality of the match finder.  Also here: the hash function
(`hash_fifth_byte`: a match found through the table is never exactly 4 bytes long), appending one sequence
to a token stream, and `SInv`, the table-free part of the invariant of the main loop (the loop itself is in
`LZTotal`).
-/
import Kanzi.Proofs.LZFormat

namespace Kanzi.LZ

theorem cmpN_spec (src : Array Nat) : ∀ (k i r : Nat), cmpN src k i r ≤ k ∧
    ∀ j, j < cmpN src k i r → src.getD (i + j) 0 = src.getD (r + j) 0 := by
  intro k
  induction k with
  | zero => intro i r; simp [cmpN]
  | succ k ih =>
    intro i r
    unfold cmpN
    split
    · rename_i heq
      obtain ⟨h1, h2⟩ := ih (i + 1) (r + 1)
      refine ⟨by omega, ?_⟩
      intro j hj
      cases j with
      | zero => simpa using heq
      | succ j =>
        have := h2 j (by omega)
        simpa [Nat.add_assoc, Nat.add_comm 1 j] using this
    · simp

theorem cmpN_max (src : Array Nat) : ∀ (k i r : Nat), cmpN src k i r < k →
    src.getD (i + cmpN src k i r) 0 ≠ src.getD (r + cmpN src k i r) 0 := by
  intro k
  induction k with
  | zero => intro i r h; simp [cmpN] at h
  | succ k ih =>
    intro i r h
    unfold cmpN at h ⊢
    split
    · rename_i heq
      rw [if_pos heq] at h
      have := ih (i + 1) (r + 1) (by omega)
      have e1 : i + (1 + cmpN src k (i + 1) (r + 1)) = i + 1 + cmpN src k (i + 1) (r + 1) := by omega
      have e2 : r + (1 + cmpN src k (i + 1) (r + 1)) = r + 1 + cmpN src k (i + 1) (r + 1) := by omega
      rw [e1, e2]; exact this
    · rename_i hne; simpa using hne

def SameBytes (src : Array Nat) (i r L : Nat) : Prop := ∀ k, k < L → src.getD (i + k) 0 = src.getD (r + k) 0

/-- a match verified over `L` bytes that was stopped by a differing byte unless `L` is a multiple of 8 (the
    loop compares 8-byte chunks and can also stop at `mx`); `hash_match_ge5` needs the differing byte at `L = 4` -/
def Matched (src : Array Nat) (i r mx L : Nat) : Prop :=
  L ≤ mx ∧ SameBytes src i r L ∧ (L % 8 ≠ 0 → src.getD (i + L) 0 ≠ src.getD (r + L) 0)

theorem findMatchGo_sat {A : String → Prop} (src : Array Nat) (i r mx : Nat) (hi : i + mx ≤ src.size) (hr : r ≤ i) :
    ∀ (f bl : Nat), SameBytes src i r bl → bl ≤ mx → bl % 8 = 0 → mx < bl + 8 * f →
      Out.Sat A (findMatchGo src i r mx f bl) (Matched src i r mx) := by
  intro f
  induction f with
  | zero =>
    intro bl hs hb h8 hf
    unfold findMatchGo
    rw [if_neg (by omega)]
    exact .ok ⟨hb, hs, fun h => absurd h8 h⟩
  | succ f ih =>
    intro bl hs hb h8 hf
    unfold findMatchGo
    by_cases hlt : bl + 8 ≤ mx
    · rw [if_pos hlt, if_pos (by omega)]
      simp only []
      obtain ⟨c1, c2⟩ := cmpN_spec src 8 (i + bl) (r + bl)
      have hs' : SameBytes src i r (bl + cmpN src 8 (i + bl) (r + bl)) := by
        intro k hk
        by_cases hkb : k < bl
        · exact hs k hkb
        · have := c2 (k - bl) (by omega)
          have e1 : i + bl + (k - bl) = i + k := by omega
          have e2 : r + bl + (k - bl) = r + k := by omega
          rwa [e1, e2] at this
      by_cases hc : cmpN src 8 (i + bl) (r + bl) = 8
      · rw [if_pos hc]
        rw [hc] at hs'
        exact ih (bl + 8) hs' hlt (by omega) (by omega)
      · rw [if_neg hc]
        refine .ok ⟨by omega, hs', fun _ => ?_⟩
        have := cmpN_max src 8 (i + bl) (r + bl) (by omega)
        simpa [Nat.add_assoc] using this
    · rw [if_neg hlt]
      exact .ok ⟨hb, hs, fun h => absurd h8 h⟩

theorem findMatch_sat {A : String → Prop} {src : Array Nat} {i r mx : Nat} (hi : i + mx ≤ src.size) (hr : r ≤ i) :
    Out.Sat A (findMatch src i r mx) (Matched src i r mx) :=
  findMatchGo_sat src i r mx hi hr _ 0 (by intro k hk; omega) (Nat.zero_le _) rfl (by omega)

/-- `binary.LittleEndian.Uint64(src[i:])` without the bounds check -/
def wordAt (src : Array Nat) (i : Nat) : UInt64 :=
  byteU src i ||| (byteU src (i + 1) <<< 8) ||| (byteU src (i + 2) <<< 16) ||| (byteU src (i + 3) <<< 24)
      ||| (byteU src (i + 4) <<< 32) ||| (byteU src (i + 5) <<< 40) ||| (byteU src (i + 6) <<< 48)
      ||| (byteU src (i + 7) <<< 56)

theorem le64_wordAt {src : Array Nat} {i : Nat} {w : UInt64} (h : le64 src i = some w) : w = wordAt src i := by
  unfold le64 at h
  split at h
  · injection h with h; rw [← h]; rfl
  · simp at h

/-- a byte put above `k` low bits: each `|||` of the little-endian load is an addition -/
theorem or_byte_shl {lo b : Nat} (k : Nat) (hlo : lo < 2 ^ k) (hb : b < 256) (hk : k + 8 ≤ 64) :
    lo ||| ((b % 2 ^ 64) <<< k % 2 ^ 64) = lo + b * 2 ^ k ∧ lo + b * 2 ^ k < 2 ^ (k + 8) := by
  have h1 : b * 2 ^ k + 2 ^ k ≤ 2 ^ (k + 8) := by
    rw [Nat.pow_add, ← Nat.succ_mul, Nat.mul_comm]
    exact Nat.mul_le_mul_left _ hb
  have h2 : 2 ^ (k + 8) ≤ 2 ^ 64 := Nat.pow_le_pow_right (by decide) hk
  rw [Nat.mod_eq_of_lt (a := b) (by omega), Nat.shiftLeft_eq, Nat.mod_eq_of_lt (by omega), Nat.or_comm,
    ← Nat.shiftLeft_eq, ← Nat.shiftLeft_add_eq_or_of_lt hlo, Nat.shiftLeft_eq]
  omega

def Bytes (src : Array Nat) : Prop := ∀ i, src.getD i 0 < 256

theorem wordAt_toNat {src : Array Nat} (hb : Bytes src) (i : Nat) :
    (wordAt src i).toNat = src.getD i 0 + src.getD (i + 1) 0 * 2 ^ 8 + src.getD (i + 2) 0 * 2 ^ 16 +
      src.getD (i + 3) 0 * 2 ^ 24 + src.getD (i + 4) 0 * 2 ^ 32 + src.getD (i + 5) 0 * 2 ^ 40 +
      src.getD (i + 6) 0 * 2 ^ 48 + src.getD (i + 7) 0 * 2 ^ 56 := by
  unfold wordAt byteU
  simp only [UInt64.toNat_or, UInt64.toNat_shiftLeft, UInt64.toNat_ofNat', UInt64.toNat_ofNat]
  have h0 : src.getD i 0 % 2 ^ 64 = src.getD i 0 := Nat.mod_eq_of_lt (Nat.lt_trans (hb i) (by decide))
  obtain ⟨e1, l1⟩ := or_byte_shl 8 (hb i) (hb (i + 1)) (by decide)
  obtain ⟨e2, l2⟩ := or_byte_shl 16 l1 (hb (i + 2)) (by decide)
  obtain ⟨e3, l3⟩ := or_byte_shl 24 l2 (hb (i + 3)) (by decide)
  obtain ⟨e4, l4⟩ := or_byte_shl 32 l3 (hb (i + 4)) (by decide)
  obtain ⟨e5, l5⟩ := or_byte_shl 40 l4 (hb (i + 5)) (by decide)
  obtain ⟨e6, l6⟩ := or_byte_shl 48 l5 (hb (i + 6)) (by decide)
  obtain ⟨e7, _⟩ := or_byte_shl 56 l6 (hb (i + 7)) (by decide)
  rw [h0, e1, e2, e3, e4, e5, e6, e7]

/-- the hash as a function of the low 40 bits of the word, in Nat arithmetic: `<<< 24`, times
    `_LZX_HASH_SEED = 506832829` modulo `2^64`, then `>>> 45` (LZX, 19 bits) or `>>> 48` (LZ, 16 bits) -/
def hashN (extra : Bool) (w : Nat) : Nat :=
  if extra then (w * 16777216 % 18446744073709551616 * 506832829 % 18446744073709551616) / 35184372088832
  else (w * 16777216 % 18446744073709551616 * 506832829 % 18446744073709551616) / 281474976710656

theorem hashOf_toNat (extra : Bool) (v : UInt64) : hashOf extra v = hashN extra v.toNat := by
  unfold hashOf hashN HASH_SEED
  cases extra
  · simp only [Bool.false_eq_true, if_false, UInt64.toNat_shiftRight, UInt64.toNat_mul, UInt64.toNat_shiftLeft,
      UInt64.toNat_ofNat, Nat.shiftLeft_eq, Nat.shiftRight_eq_div_pow, Nat.reducePow, Nat.reduceMod]
  · simp only [if_true, UInt64.toNat_shiftRight, UInt64.toNat_mul, UInt64.toNat_shiftLeft,
      UInt64.toNat_ofNat, Nat.shiftLeft_eq, Nat.shiftRight_eq_div_pow, Nat.reducePow, Nat.reduceMod]

theorem hashN_mod (extra : Bool) (w : Nat) : hashN extra w = hashN extra (w % 1099511627776) := by
  unfold hashN
  have : w * 16777216 % 18446744073709551616 = w % 1099511627776 * 16777216 % 18446744073709551616 := by omega
  rw [this]

/-- the five bytes the hash of position `i` depends on -/
def lo40 (src : Array Nat) (i : Nat) : Nat :=
  src.getD i 0 + src.getD (i + 1) 0 * 256 + src.getD (i + 2) 0 * 65536 + src.getD (i + 3) 0 * 16777216 +
    src.getD (i + 4) 0 * 4294967296

/-- little-endian value of the `k` bytes from `i` on -/
def leN (src : Array Nat) : Nat → Nat → Nat
  | _, 0 => 0
  | i, k + 1 => src.getD i 0 + 256 * leN src (i + 1) k

theorem digit_div {b x : Nat} (hb : b < 256) : (b + 256 * x) / 256 = x := by
  rw [Nat.add_mul_div_left _ _ (by decide), Nat.div_eq_of_lt hb, Nat.zero_add]

theorem digit_mod {b x : Nat} (hb : b < 256) (n : Nat) : (b + 256 * x) % (256 * n) = b + 256 * (x % n) := by
  rw [Nat.mod_mul, digit_div hb, Nat.add_mul_mod_self_left, Nat.mod_eq_of_lt hb]

/-- a load shifted right by a byte is the load one position on -/
theorem leN_div {src : Array Nat} (hb : Bytes src) (i k : Nat) : leN src i (k + 1) / 256 = leN src (i + 1) k :=
  digit_div (hb i)

/-- modulo `256 ^ m` a load keeps its lowest `m` bytes -/
theorem leN_mod {src : Array Nat} (hb : Bytes src) (k : Nat) :
    ∀ (m i : Nat), leN src i (m + k) % 256 ^ m = leN src i m := by
  intro m
  induction m with
  | zero => intro i; rw [Nat.pow_zero, Nat.mod_one]; rfl
  | succ m ih =>
    intro i
    rw [Nat.add_right_comm, leN, leN, Nat.pow_succ, Nat.mul_comm (256 ^ m) 256, digit_mod (hb i), ih]

theorem wordAt_leN {src : Array Nat} (hb : Bytes src) (i : Nat) : (wordAt src i).toNat = leN src i 8 := by
  rw [wordAt_toNat hb]
  simp only [leN, Nat.add_assoc, Nat.reduceAdd, Nat.reducePow]
  omega

theorem lo40_leN (src : Array Nat) (i : Nat) : lo40 src i = leN src i 5 := by
  simp only [lo40, leN, Nat.add_assoc, Nat.reduceAdd]
  omega

/-- the hash only sees the low five bytes -/
theorem hashN_leN {src : Array Nat} (hb : Bytes src) (extra : Bool) (i k : Nat) :
    hashN extra (leN src i (5 + k)) = hashN extra (lo40 src i) := by
  rw [hashN_mod, show (1099511627776 : Nat) = 256 ^ 5 from rfl, leN_mod hb, lo40_leN]

/-- the hash fill loop after a match computes the hashes of four consecutive positions from one word -/
theorem hashOf_wordAt {src : Array Nat} (hb : Bytes src) (extra : Bool) (i : Nat) :
    hashOf extra (wordAt src i) = hashN extra (lo40 src i) ∧
    hashOf extra (wordAt src i >>> 8) = hashN extra (lo40 src (i + 1)) ∧
    hashOf extra (wordAt src i >>> 16) = hashN extra (lo40 src (i + 2)) ∧
    hashOf extra (wordAt src i >>> 24) = hashN extra (lo40 src (i + 3)) := by
  have d1 := leN_div hb i 7
  have d2 := leN_div hb (i + 1) 6
  have d3 := leN_div hb (i + 2) 5
  simp only [hashOf_toNat, UInt64.toNat_shiftRight, wordAt_leN hb, Nat.shiftRight_eq_div_pow, UInt64.toNat_ofNat,
    show (8 : Nat) % 2 ^ 64 % 64 = 8 from rfl, show (16 : Nat) % 2 ^ 64 % 64 = 16 from rfl,
    show (24 : Nat) % 2 ^ 64 % 64 = 24 from rfl]
  refine ⟨hashN_leN hb extra i 3, ?_, ?_, ?_⟩
  · rw [show (2 : Nat) ^ 8 = 256 from rfl, d1]
    exact hashN_leN hb extra (i + 1) 2
  · rw [show (2 : Nat) ^ 16 = 256 * 256 from rfl, ← Nat.div_div_eq_div_mul, d1, d2]
    exact hashN_leN hb extra (i + 2) 1
  · rw [show (2 : Nat) ^ 24 = 256 * 256 * 256 from rfl, ← Nat.div_div_eq_div_mul, ← Nat.div_div_eq_div_mul, d1, d2, d3]
    exact hashN_leN hb extra (i + 3) 0

/-- `36521154237176549101010944 = 506832829 * 2^56`: the fifth byte `a` only reaches the top 8 bits of the
    64-bit product, where it adds `a * seed` modulo 256 -/
theorem hash_top8 (u a : Nat) :
    ((u * 16777216 + a * 36521154237176549101010944) % 18446744073709551616) / 72057594037927936 = (u / 4294967296 + a * 506832829) % 256 := by omega

theorem hash_expand (l a : Nat) (hl : l < 4294967296) (ha : a < 256) :
    (l + a * 4294967296) * 16777216 % 18446744073709551616 * 506832829 = (l * 506832829) * 16777216 + a * 36521154237176549101010944 := by omega

theorem div_coarsen (p q d k : Nat) (h : p / d = q / d) : p / (d * k) = q / (d * k) := by
  rw [← Nat.div_div_eq_div_mul, h, Nat.div_div_eq_div_mul]

/-- 149 is the inverse of `_LZX_HASH_SEED` modulo 256 -/
theorem mul_seed_inv (a : Nat) (ha : a < 256) : a * 506832829 % 256 * 149 % 256 = a := by
  rw [Nat.mod_mul_mod, Nat.mul_assoc, Nat.mul_mod, show 506832829 * 149 % 256 = 1 from rfl, Nat.mul_one, Nat.mod_mod,
    Nat.mod_eq_of_lt ha]

theorem add_mod_cancel (t x y : Nat) (h : (t + x) % 256 = (t + y) % 256) : x % 256 = y % 256 := by omega

theorem seed_cancel (t a b : Nat) (ha : a < 256) (hb : b < 256)
    (h : (t + a * 506832829) % 256 = (t + b * 506832829) % 256) : a = b := by
  rw [← mul_seed_inv a ha, add_mod_cancel t _ _ h, mul_seed_inv b hb]

/-- with the first four bytes fixed the hash is an injective function of the fifth byte
    (`_LZX_HASH_SEED` is odd and the fifth byte only reaches the top 8 bits of the 40-bit product) -/
theorem hash_fifth_byte (extra : Bool) (l a b : Nat) (hl : l < 4294967296) (ha : a < 256) (hb : b < 256)
    (h : hashN extra (l + a * 4294967296) = hashN extra (l + b * 4294967296)) : a = b := by
  unfold hashN at h
  have hq : (l * 506832829 * 16777216 + a * 36521154237176549101010944) % 18446744073709551616 / 72057594037927936
      = (l * 506832829 * 16777216 + b * 36521154237176549101010944) % 18446744073709551616 / 72057594037927936 := by
    cases extra
    · simp only [Bool.false_eq_true, if_false] at h
      rw [hash_expand l a hl ha, hash_expand l b hl hb] at h
      exact div_coarsen _ _ 281474976710656 256 h
    · simp only [if_true] at h
      rw [hash_expand l a hl ha, hash_expand l b hl hb] at h
      exact div_coarsen _ _ 35184372088832 2048 h
  exact seed_cancel _ a b ha hb ((hash_top8 (l * 506832829) a).symm.trans (hq.trans (hash_top8 (l * 506832829) b)))


/-! ## the hash table; table matches have at least 5 bytes -/

theorem hashOf_le64 {c : Cfg} (hb : Bytes c.src) {i : Nat} {v : UInt64} (h : le64 c.src i = some v) :
    hashOf c.extra v = hashN c.extra (lo40 c.src i) := by
  rw [le64_wordAt h]; exact (hashOf_wordAt hb c.extra i).1

/-- every entry is 0 (never a usable reference) or a position below `p` which, on a block of byte values (the round
    trip does not assume them, only the bound on the token buffer needs them), stands under its own hash -/
def TblOK (c : Cfg) (tbl : Array Nat) (p : Nat) : Prop :=
  ∀ h, tbl.getD h 0 = 0 ∨ (tbl.getD h 0 < p ∧ (Bytes c.src → hashN c.extra (lo40 c.src (tbl.getD h 0)) = h))

theorem TblOK.lt {c : Cfg} {tbl : Array Nat} {p : Nat} (ht : TblOK c tbl p) (h : Nat) :
    tbl.getD h 0 = 0 ∨ tbl.getD h 0 < p :=
  (ht h).imp_right And.left

theorem TblOK.mono {c : Cfg} {tbl : Array Nat} {p q : Nat} (ht : TblOK c tbl p) (hpq : p ≤ q) : TblOK c tbl q :=
  fun h => (ht h).imp_right fun ⟨h1, h2⟩ => ⟨Nat.lt_of_lt_of_le h1 hpq, h2⟩

theorem TblOK.set {c : Cfg} {tbl : Array Nat} {p q h v : Nat} (ht : TblOK c tbl p) (hpq : p ≤ q) (hv : v < q)
    (hh : Bytes c.src → h = hashN c.extra (lo40 c.src v)) : TblOK c (tbl.setIfInBounds h v) q := by
  intro k
  rw [Array.getD_eq_getD_getElem?, Array.getElem?_setIfInBounds]
  by_cases hk : h = k
  · rw [if_pos hk]
    by_cases hin : h < tbl.size
    · rw [if_pos hin]
      exact .inr ⟨hv, fun hb => (hh hb).symm.trans hk⟩
    · rw [if_neg hin]
      exact .inl rfl
  · rw [if_neg hk, ← Array.getD_eq_getD_getElem?]
    exact ht.mono hpq k

theorem TblOK.record {c : Cfg} {tbl : Array Nat} {p q i : Nat} {v : UInt64} (ht : TblOK c tbl p) (hpq : p ≤ q)
    (hi : i < q) (hv : le64 c.src i = some v) : TblOK c (tbl.setIfInBounds (hashOf c.extra v) i) q :=
  ht.set hpq hi fun hb => hashOf_le64 hb hv

theorem TblOK_replicate (c : Cfg) (n p : Nat) : TblOK c (Array.replicate n 0) p := by
  intro h
  left
  rw [Array.getD_eq_getD_getElem?, Array.getElem?_replicate]
  split <;> rfl

/-- two positions with the same hash and the same first four bytes have the same fifth byte, so a match
    found through the table is never exactly 4 bytes long: with at least 4 bytes it has at least 5 -/
theorem hash_match_ge5 {c : Cfg} (hb : Bytes c.src) {i r L mx : Nat}
    (hh : hashN c.extra (lo40 c.src i) = hashN c.extra (lo40 c.src r))
    (hf : Matched c.src i r mx L) (h4 : 4 ≤ L) : 5 ≤ L := by
  by_cases h5 : 5 ≤ L
  · exact h5
  · exfalso
    have hL : L = 4 := by omega
    subst hL
    obtain ⟨_, hs, hm⟩ := hf
    have s0 := hs 0 (by omega); have s1 := hs 1 (by omega); have s2 := hs 2 (by omega); have s3 := hs 3 (by omega)
    simp only [Nat.add_zero] at s0
    unfold lo40 at hh
    rw [s0, s1, s2, s3] at hh
    have b0 := hb r; have b1 := hb (r + 1); have b2 := hb (r + 2); have b3 := hb (r + 3)
    have := hash_fifth_byte c.extra
      (c.src.getD r 0 + c.src.getD (r + 1) 0 * 256 + c.src.getD (r + 2) 0 * 65536 + c.src.getD (r + 3) 0 * 16777216)
      (c.src.getD (i + 4) 0) (c.src.getD (r + 4) 0) (by omega) (hb _) (hb _) hh
    exact hm (by decide) this

theorem le32_some {src : Array Nat} {i : Nat} (h : i + 4 ≤ src.size) : ∃ w, le32 src i = some w := by
  unfold le32; rw [if_pos h]; exact ⟨_, rfl⟩

theorem le64_some {src : Array Nat} {i : Nat} (h : i + 8 ≤ src.size) : ∃ w, le64 src i = some w := by
  unfold le64; rw [if_pos h]; exact ⟨_, rfl⟩

/-- what the loop needs from the constants of a call (Go: `srcEnd := count - 16 - 2`, so every 8-byte load at a
    position up to `srcEnd + 10` is in range) -/
structure CfgOK (c : Cfg) : Prop where
  size : c.srcEnd + 18 = c.src.size
  mm4 : 4 ≤ c.minMatch
  mm9 : c.minMatch ≤ 9

/-- a verified match -/
structure Cand (c : Cfg) (m : Mt) : Prop where
  back : m.ref < m.srcIdx
  dist : m.srcIdx - m.ref ≤ c.maxDist
  fin : m.srcIdx + m.bestLen ≤ c.srcEnd
  same : SameBytes c.src m.srcIdx m.ref m.bestLen

theorem Cand_extend_back {c : Cfg} {m : Mt} (hc : Cand c m) (hr : 1 ≤ m.ref)
    (hab : c.src.getD (m.srcIdx - 1) 0 = c.src.getD (m.ref - 1) 0) :
    Cand c ⟨m.srcIdx - 1, m.ref - 1, m.bestLen + 1⟩ := by
  have hb := hc.back
  have hd := hc.dist
  have hf := hc.fin
  refine ⟨by simp only []; omega, by simp only []; omega, by simp only []; omega, ?_⟩
  intro k hk
  simp only [] at hk ⊢
  cases k with
  | zero => exact hab
  | succ k =>
    have := hc.same k (by omega)
    have e1 : m.srcIdx - 1 + (k + 1) = m.srcIdx + k := by omega
    have e2 : m.ref - 1 + (k + 1) = m.ref + k := by omega
    rw [e1, e2]
    exact this

theorem repCand_sat {A : String → Prop} {c : Cfg} {p : UInt64} {srcIdx1 minRef r : Nat} (h : srcIdx1 + 4 ≤ c.src.size) :
    Out.Sat A (repCand c p srcIdx1 minRef r) (fun o => ∀ ref, o = some ref → ref = srcIdx1 - r ∧ r + minRef < srcIdx1) := by
  unfold repCand
  by_cases hlt : r + minRef < srcIdx1
  · rw [if_pos hlt]
    obtain ⟨w, hw⟩ := le32_some (src := c.src) (i := srcIdx1 - r) (by omega)
    rw [hw]
    simp only []
    by_cases he : lo32 (p >>> 8) = w
    · rw [if_pos he]
      exact .ok fun ref ho => ⟨(Option.some.inj ho).symm, hlt⟩
    · rw [if_neg he]
      exact .ok fun ref ho => nomatch ho
  · rw [if_neg hlt]
    exact .ok fun ref ho => nomatch ho

/-- "Check repd first": a non-zero length comes with a verified match at `srcIdx + 1` -/
theorem repStage_sat {A : String → Prop} {c : Cfg} (hc : CfgOK c) {p : UInt64} {srcIdx ra rb : Nat} (hra : 1 ≤ ra) (hrb : 1 ≤ rb)
    (hlt : srcIdx < c.srcEnd) :
    Out.Sat A (repStage c p (srcIdx + 1) (srcIdx - c.maxDist) (min (c.srcEnd - (srcIdx + 1)) MAX_MATCH) ra rb)
      (fun rm => rm.2 ≠ 0 → Cand c ⟨srcIdx + 1, rm.1, rm.2⟩ ∧ 1 ≤ rm.1 ∧ rm.2 ≤ MAX_MATCH) := by
  have hsz := hc.size
  have key : ∀ (r ref : Nat), 1 ≤ r → ref = srcIdx + 1 - r → r + (srcIdx - c.maxDist) < srcIdx + 1 →
      Out.Sat A ((findMatch c.src (srcIdx + 1) ref (min (c.srcEnd - (srcIdx + 1)) MAX_MATCH)).bind
          fun bl => (Out.ok (ref, bl) : Out (Nat × Nat)))
        (fun rm => rm.2 ≠ 0 → Cand c ⟨srcIdx + 1, rm.1, rm.2⟩ ∧ 1 ≤ rm.1 ∧ rm.2 ≤ MAX_MATCH) := by
    intro r ref hr href hmin
    have h2 : ref + r = srcIdx + 1 ∧ r ≤ srcIdx := by omega
    have h3 : r ≤ c.maxDist := by omega
    clear href hmin
    refine (findMatch_sat (by omega) (by omega)).bind fun bl _ hbl => .ok fun _ => ?_
    obtain ⟨f1, f2, _⟩ := hbl
    have f3 : srcIdx + 1 + bl ≤ c.srcEnd ∧ bl ≤ MAX_MATCH := by omega
    clear f1
    exact ⟨⟨by simp only []; omega, by simp only []; omega, f3.1, f2⟩, by simp only []; omega, f3.2⟩
  unfold repStage
  refine (repCand_sat (by omega)).bind fun ca _ hca => ?_
  cases ca with
  | some ref =>
    obtain ⟨e1, e2⟩ := hca ref rfl
    exact key ra ref hra e1 e2
  | none =>
    simp only []
    refine (repCand_sat (by omega)).bind fun cb _ hcb => ?_
    cases cb with
    | some ref =>
      obtain ⟨e1, e2⟩ := hcb ref rfl
      exact key rb ref hrb e1 e2
    | none => exact .ok fun h => absurd rfl h

theorem hashStage_sat {A : String → Prop} {c : Cfg} (hc : CfgOK c) {p : UInt64} {srcIdx ref0 : Nat} (hlt : srcIdx < c.srcEnd)
    (hback : ref0 = 0 ∨ ref0 < srcIdx) :
    Out.Sat A (hashStage c p srcIdx ref0 (srcIdx - c.maxDist))
      (fun bl => bl ≠ 0 → Cand c ⟨srcIdx, ref0, bl⟩ ∧ 0 < ref0 ∧
        Matched c.src srcIdx ref0 (min (c.srcEnd - srcIdx) MAX_MATCH) bl) := by
  have hsz := hc.size
  unfold hashStage
  by_cases hgt : ref0 > srcIdx - c.maxDist
  · rw [if_pos hgt]
    obtain ⟨w, hw⟩ := le32_some (src := c.src) (i := ref0) (by omega)
    rw [hw]
    simp only []
    by_cases he : lo32 p = w
    · rw [if_pos he]
      refine (findMatch_sat (by omega) (by omega)).mono fun bl hbl _ => ?_
      exact ⟨⟨by simp only []; omega, by simp only []; omega, by simp only []; have := hbl.1; omega, hbl.2.1⟩,
        by omega, hbl⟩
    · rw [if_neg he]
      exact .ok fun h => absurd rfl h
  · rw [if_neg hgt]
    exact .ok fun h => absurd rfl h

/-- one lazy candidate: the table learns `pos`; the result is the old match or a verified, at least as long
    match at `pos` -/
theorem lazyCand_sat {A : String → Prop} {c : Cfg} (hc : CfgOK c) {tbl : Array Nat} {s0 k : Nat} {cur : Mt}
    (ht : TblOK c tbl (s0 + k)) (hcur : Cand c cur) (hpos : s0 + k ≤ cur.srcIdx + 2) (hs : s0 < c.srcEnd) (hk : k ≤ 2)
    (hbl : 3 ≤ cur.bestLen) :
    Out.Sat A (lazyCand c tbl (s0 + k) k (s0 - c.maxDist) cur)
      (fun r => TblOK c r.1 (s0 + k + 1) ∧ Cand c r.2 ∧ cur.bestLen ≤ r.2.bestLen ∧
        (r.2 = cur ∨ (r.2.srcIdx = s0 + k ∧ r.2.bestLen ≤ MAX_MATCH))) := by
  have hsz := hc.size
  have hfin := hcur.fin
  unfold lazyCand
  obtain ⟨v, hv⟩ := le64_some (src := c.src) (i := s0 + k) (by omega)
  rw [hv]
  simp only []
  have ht' := ht.record (Nat.le_succ _) (Nat.lt_succ_self _) hv
  have hr := ht.lt (hashOf c.extra v)
  have keep : Out.Sat A (Out.ok (tbl.setIfInBounds (hashOf c.extra v) (s0 + k), cur))
      (fun r => TblOK c r.1 (s0 + k + 1) ∧ Cand c r.2 ∧ cur.bestLen ≤ r.2.bestLen ∧
        (r.2 = cur ∨ (r.2.srcIdx = s0 + k ∧ r.2.bestLen ≤ MAX_MATCH))) :=
    .ok ⟨ht', hcur, Nat.le_refl _, Or.inl rfl⟩
  by_cases hgt : tbl.getD (hashOf c.extra v) 0 > s0 - c.maxDist + k
  · rw [if_pos hgt]
    obtain ⟨a, ha⟩ := le32_some (src := c.src) (i := s0 + k + cur.bestLen - 3) (by omega)
    obtain ⟨b, hb⟩ := le32_some (src := c.src) (i := tbl.getD (hashOf c.extra v) 0 + cur.bestLen - 3) (by omega)
    rw [ha, hb]
    simp only []
    by_cases hab : a = b
    · rw [if_pos hab]
      refine (findMatch_sat (by omega) (by omega)).bind fun bl _ hbl => ?_
      by_cases hge : bl ≥ cur.bestLen
      · rw [if_pos hge]
        exact .ok ⟨ht', ⟨by simp only []; omega, by simp only []; omega, by simp only []; have := hbl.1; omega, hbl.2.1⟩,
          hge, Or.inr ⟨rfl, by simp only []; have := hbl.1; omega⟩⟩
      · rw [if_neg hge]
        exact keep
    · rw [if_neg hab]
      exact keep
  · rw [if_neg hgt]
    exact keep

/-- the lazy matching block ("checkNext"): still a verified match, not shorter, not earlier, and the table
    only learnt positions below `srcIdx + 3` -/
theorem lazyBlock_sat {A : String → Prop} {c : Cfg} (hc : CfgOK c) {tbl1 : Array Nat} {s0 r0 r1 ref0 bl0 : Nat}
    (ht : TblOK c tbl1 (s0 + 1)) (hcur : Cand c ⟨s0, ref0, bl0⟩) (hbl : 3 ≤ bl0) (hs : s0 < c.srcEnd) :
    Out.Sat A (if ref0 + r0 ≠ s0 ∧ ref0 + r1 ≠ s0 then
          (lazyCand c tbl1 (s0 + 1) 1 (s0 - c.maxDist) ⟨s0, ref0, bl0⟩).bind fun l1 =>
            if c.extra then lazyCand c l1.1 (s0 + 1 + 1) 2 (s0 - c.maxDist) l1.2 else Out.ok l1
        else Out.ok (tbl1, ⟨s0, ref0, bl0⟩))
      (fun lz => Cand c lz.2 ∧ bl0 ≤ lz.2.bestLen ∧ s0 ≤ lz.2.srcIdx ∧ TblOK c lz.1 (s0 + 3)) := by
  by_cases hrep : ref0 + r0 ≠ s0 ∧ ref0 + r1 ≠ s0
  · rw [if_pos hrep]
    refine (lazyCand_sat hc ht hcur (by simp only []; omega) hs (by omega) hbl).bind fun l1 _ hl1 => ?_
    obtain ⟨a1, a2, a3, a4⟩ := hl1
    simp only [] at a3
    have hs1 : s0 ≤ l1.2.srcIdx := by
      rcases a4 with a4 | a4
      · rw [a4]; exact Nat.le_refl _
      · omega
    by_cases hx : c.extra = true
    · rw [if_pos hx, show s0 + 1 + 1 = s0 + 2 from rfl]
      refine (lazyCand_sat (s0 := s0) (k := 2) hc a1 a2 (by omega) hs (by omega) (by omega)).mono fun l2 hl2 => ?_
      obtain ⟨b1, b2, b3, b4⟩ := hl2
      refine ⟨b2, by omega, ?_, b1⟩
      rcases b4 with b4 | b4
      · rw [b4]; exact hs1
      · omega
    · rw [if_neg hx]
      exact .ok ⟨a2, a3, hs1, a1.mono (by omega)⟩
  · rw [if_neg hrep]
    exact .ok ⟨hcur, Nat.le_refl _, Nat.le_refl _, ht.mono (by omega)⟩

/-- "Extend backwards" keeps the match verified, its distance and its end -/
theorem backExtend_sat {A : String → Prop} {c : Cfg} {anchor minRef : Nat} : ∀ (f : Nat) (m : Mt),
    Cand c m → anchor ≤ m.srcIdx → m.srcIdx ≤ anchor + f → m.srcIdx ≤ c.src.size →
    Out.Sat A (backExtend c anchor minRef f m) (fun m' => Cand c m' ∧ anchor ≤ m'.srcIdx ∧
      m'.srcIdx + m'.bestLen = m.srcIdx + m.bestLen ∧ m.bestLen ≤ m'.bestLen) := by
  intro f
  induction f with
  | zero =>
    intro m hc ha hf hsz
    unfold backExtend
    rw [if_neg (by omega)]
    exact .ok ⟨hc, ha, rfl, Nat.le_refl _⟩
  | succ f ih =>
    intro m hc ha hf hsz
    have hb := hc.back
    unfold backExtend
    by_cases hg : m.srcIdx > anchor ∧ m.ref > minRef
    · rw [if_pos hg]
      have ea : c.src[m.srcIdx - 1]? = some (c.src[m.srcIdx - 1]'(by omega)) := Array.getElem?_eq_getElem (by omega)
      have eb : c.src[m.ref - 1]? = some (c.src[m.ref - 1]'(by omega)) := Array.getElem?_eq_getElem (by omega)
      rw [ea, eb]
      simp only []
      by_cases hab : c.src[m.srcIdx - 1]'(by omega) = c.src[m.ref - 1]'(by omega)
      · rw [if_pos hab]
        have hc' : Cand c ⟨m.srcIdx - 1, m.ref - 1, m.bestLen + 1⟩ :=
          Cand_extend_back hc (by omega)
            (by rw [Array.getD_eq_getD_getElem?, Array.getD_eq_getD_getElem?, ea, eb, hab])
        refine (ih _ hc' (by simp only []; omega) (by simp only []; omega) (by simp only []; omega)).mono ?_
        intro m' ⟨i1, i2, i3, i4⟩
        simp only [] at i3 i4
        exact ⟨i1, i2, by omega, by omega⟩
      · rw [if_neg hab]
        exact .ok ⟨hc, ha, rfl, Nat.le_refl _⟩
    · rw [if_neg hg]
      exact .ok ⟨hc, ha, rfl, Nat.le_refl _⟩

theorem clampMatch_spec {c : Cfg} {m : Mt} (hc : Cand c m) :
    Cand c (clampMatch m) ∧ (clampMatch m).bestLen ≤ MAX_MATCH ∧ m.srcIdx ≤ (clampMatch m).srcIdx ∧
      (clampMatch m).srcIdx + (clampMatch m).bestLen = m.srcIdx + m.bestLen ∧
      (m.bestLen ≤ (clampMatch m).bestLen ∨ (clampMatch m).bestLen = MAX_MATCH) := by
  unfold clampMatch
  split
  · rename_i hgt
    refine ⟨⟨by simp only []; have := hc.back; omega, by simp only []; have := hc.dist; have := hc.back; omega,
      by simp only []; have := hc.fin; omega, ?_⟩, by simp, by simp, by simp only []; omega, Or.inr rfl⟩
    intro k hk
    simp only [] at hk ⊢
    have := hc.same (m.bestLen - MAX_MATCH + k) (by omega)
    simpa [Nat.add_assoc] using this
  · exact ⟨hc, by omega, Nat.le_refl _, rfl, Or.inl (Nat.le_refl _)⟩

theorem fill4_sat {A : String → Prop} {c : Cfg} (hc : CfgOK c) {anchor : Nat} (ha : anchor ≤ c.srcEnd) :
    ∀ (f i : Nat) (tbl : Array Nat), TblOK c tbl anchor → i < anchor → anchor ≤ i + 4 * f + 4 →
      Out.Sat A (fill4 c anchor f i tbl) (fun r => TblOK c r.2 anchor ∧ i ≤ r.1 ∧ r.1 < anchor) := by
  have hsz := hc.size
  intro f
  induction f with
  | zero =>
    intro i tbl ht hi hf
    unfold fill4
    rw [if_neg (by omega)]
    exact .ok ⟨ht, Nat.le_refl _, hi⟩
  | succ f ih =>
    intro i tbl ht hi hf
    unfold fill4
    by_cases hlt : i + 4 < anchor
    · rw [if_pos hlt]
      obtain ⟨v, hv⟩ := le64_some (src := c.src) (i := i + 4 - 3) (by omega)
      rw [hv]
      simp only []
      refine (ih (i + 4) _ ?_ hlt (by omega)).mono fun r ⟨k1, k2, k3⟩ => ⟨k1, by omega, k3⟩
      -- one word gives the hashes of four consecutive positions
      have hw := fun hb => le64_wordAt hv ▸ hashOf_wordAt hb c.extra (i + 4 - 3)
      have e1 : i + 4 - 3 + 1 = i + 4 - 2 := by omega
      have e2 : i + 4 - 3 + 2 = i + 4 - 1 := by omega
      have e3 : i + 4 - 3 + 3 = i + 4 := by omega
      exact (((ht.set (Nat.le_refl _) (by omega) fun hb => (hw hb).1).set (Nat.le_refl _) (by omega)
        fun hb => e1 ▸ (hw hb).2.1).set (Nat.le_refl _) (by omega) fun hb => e2 ▸ (hw hb).2.2.1).set (Nat.le_refl _) hlt
        fun hb => e3 ▸ (hw hb).2.2.2
    · rw [if_neg hlt]
      exact .ok ⟨ht, Nat.le_refl _, hi⟩

theorem fill1_sat {A : String → Prop} {c : Cfg} (hc : CfgOK c) {anchor : Nat} (ha : anchor ≤ c.srcEnd) :
    ∀ (f i : Nat) (tbl : Array Nat), TblOK c tbl anchor → i ≤ anchor → anchor ≤ i + f →
      Out.Sat A (fill1 c anchor f i tbl) (fun r => TblOK c r.2 anchor ∧ r.1 = anchor) := by
  have hsz := hc.size
  intro f
  induction f with
  | zero =>
    intro i tbl ht hi hf
    unfold fill1
    rw [if_neg (by omega)]
    exact .ok ⟨ht, by simp only []; omega⟩
  | succ f ih =>
    intro i tbl ht hi hf
    unfold fill1
    by_cases hlt : i < anchor
    · rw [if_pos hlt]
      obtain ⟨v, hv⟩ := le64_some (src := c.src) (i := i) (by omega)
      rw [hv]
      exact ih (i + 1) _ (ht.record (Nat.le_refl _) hlt hv) hlt (by omega)
    · rw [if_neg hlt]
      exact .ok ⟨ht, by simp only []; omega⟩

def repdAfter : Nat → Nat → List Seq → Nat × Nat
  | r0, r1, [] => (r0, r1)
  | r0, _, q :: qs => repdAfter q.dist r0 qs

theorem repdAfter_append : ∀ (qs : List Seq) (r0 r1 : Nat) (q : Seq),
    repdAfter r0 r1 (qs ++ [q]) = (q.dist, (repdAfter r0 r1 qs).1) := by
  intro qs
  induction qs with
  | nil => intro r0 r1 q; rfl
  | cons q0 qs ih => intro r0 r1 q; simp only [List.cons_append, repdAfter]; exact ih _ _ _

theorem serSeqs_append (mm : Nat) : ∀ (qs : List Seq) (r0 r1 : Nat) (q : Seq),
    serSeqs mm r0 r1 (qs ++ [q]) =
      ⟨(serSeqs mm r0 r1 qs).lit ++ litBytes q.lits,
       (serSeqs mm r0 r1 qs).tk ++ [seqTok mm (repdAfter r0 r1 qs).1 (repdAfter r0 r1 qs).2 q],
       (serSeqs mm r0 r1 qs).m ++ seqM (repdAfter r0 r1 qs).1 (repdAfter r0 r1 qs).2 q,
       (serSeqs mm r0 r1 qs).ml ++ seqMl mm (repdAfter r0 r1 qs).1 (repdAfter r0 r1 qs).2 q⟩ := by
  intro qs
  induction qs with
  | nil => intro r0 r1 q; simp [serSeqs, repdAfter]
  | cons q0 qs ih =>
    intro r0 r1 q
    simp only [List.cons_append, serSeqs, repdAfter, ih, List.append_assoc]

theorem denote_append : ∀ (qs : List Seq) (out : List Nat) (q : Seq),
    denote out (qs ++ [q]) = copyMatch (denote out qs ++ q.lits) q.dist q.len := by
  intro qs
  induction qs with
  | nil => intro out q; rfl
  | cons q0 qs ih => intro out q; simp only [List.cons_append, denote]; exact ih _ _

theorem ValidSeqs_append {mm md N : Nat} : ∀ (qs : List Seq) (out : List Nat) (q : Seq),
    ValidSeqs mm md N out.length qs → ValidSeqs mm md N (denote out qs).length [q] →
    ValidSeqs mm md N out.length (qs ++ [q]) := by
  intro qs
  induction qs with
  | nil => intro out q _ h; exact h
  | cons q0 qs ih =>
    intro out q h1 h2
    simp only [List.cons_append, ValidSeqs] at h1 ⊢
    obtain ⟨a1, a2, a3, a4, a5, a6, a7, a8⟩ := h1
    refine ⟨a1, a2, a3, a4, a5, a6, a7, ?_⟩
    have := ih (copyMatch (out ++ q0.lits) q0.dist q0.len) q
      (by simpa [copyMatch_length] using a8) (by simpa [denote] using h2)
    simpa [copyMatch_length] using this

/-- a verified match denotes the source bytes it covers -/
theorem copyMatch_src (l : List Nat) (dist : Nat) (hd : 1 ≤ dist) : ∀ (len pos : Nat), dist ≤ pos → pos + len ≤ l.length →
    (∀ k, k < len → l[pos + k]? = l[pos - dist + k]?) → copyMatch (l.take pos) dist len = l.take (pos + len) := by
  intro len
  induction len with
  | zero => intro pos _ _ _; rfl
  | succ len ih =>
    intro pos hdp hlen hsame
    simp only [copyMatch]
    have hl : (l.take pos).length = pos := by rw [List.length_take]; omega
    have h0 := hsame 0 (by omega)
    rw [Nat.add_zero, Nat.add_zero] at h0
    have hx : (l.take pos).getD ((l.take pos).length - dist) 0 = l[pos]'(by omega) := by
      rw [hl, List.getD_eq_getElem?_getD, List.getElem?_take, if_pos (by omega), ← h0,
        List.getElem?_eq_getElem (by omega)]; rfl
    rw [hx]
    have ht : l.take pos ++ [l[pos]'(by omega)] = l.take (pos + 1) := by
      rw [List.take_add_one, List.getElem?_eq_getElem (by omega)]; rfl
    rw [ht]
    have := ih (pos + 1) (by omega) (by omega) (by
      intro k hk
      have := hsame (k + 1) (by omega)
      have e1 : pos + 1 + k = pos + (k + 1) := by omega
      have e2 : pos + 1 - dist + k = pos - dist + (k + 1) := by omega
      rw [e1, e2]; exact this)
    rw [this]; congr 1; omega

/-- the part of the loop invariant that does not mention the hash table: the four sections hold the
    serialisation of a valid token stream `qs` that denotes `src[0:anchor]` -/
structure SInv (c : Cfg) (s : FSt) (b : Bufs) (qs : List Seq) : Prop where
  anc : s.anchor ≤ s.srcIdx
  ancEnd : s.anchor ≤ c.srcEnd
  r0 : 1 ≤ s.repd0
  r1 : 1 ≤ s.repd1
  lit : b.lit.toList = (serSeqs c.minMatch c.src.size c.src.size qs).lit
  tk : b.tk.toList = (serSeqs c.minMatch c.src.size c.src.size qs).tk
  m : b.m.toList = (serSeqs c.minMatch c.src.size c.src.size qs).m
  ml : b.ml.toList = (serSeqs c.minMatch c.src.size c.src.size qs).ml
  rep : repdAfter c.src.size c.src.size qs = (s.repd0, s.repd1)
  valid : ValidSeqs c.minMatch c.maxDist c.src.size 0 qs
  den : denote [] qs = c.src.toList.take s.anchor

theorem toList_getElem?_of_lt {a : Array Nat} {i : Nat} (h : i < a.size) : a.toList[i]? = some (a.getD i 0) := by
  rw [Array.getElem?_toList, Array.getD_eq_getD_getElem?, Array.getElem?_eq_getElem h]; rfl

theorem take_append_extract (a : Array Nat) {i j : Nat} (hij : i ≤ j) :
    a.toList.take i ++ (a.extract i j).toList = a.toList.take j := by
  rw [Array.toList_extract, List.extract_eq_take_drop]
  have : j = i + (j - i) := by omega
  rw [this, List.take_add]
  congr 2
  omega

end Kanzi.LZ
