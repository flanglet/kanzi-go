/-
`CMPredictor`: the invariant `R` (context ranges, table shapes, every counter within its cap) holds
in every reachable state.  The model is parametrised by the wrap functions of its arithmetic; under
`R` the version over `wrap32` / `wrap64` equals the one over `id` (`getW_eq`, `updateW_eq`), so all
bounds are proved on plain integers: `Get()` is in `[0, 4095]` and no table index is out of range
(`getF_some`, `updateF_some`).
-/
import Kanzi.Model.CM
namespace Kanzi.CM

theorem wrap32_spec (x : Int) : wrap32 x = (x + 2147483648) % 4294967296 - 2147483648 := by
  unfold wrap32; split <;> omega

theorem wrap64_spec (x : Int) :
    wrap64 x = (x + 9223372036854775808) % 18446744073709551616 - 9223372036854775808 := by
  unfold wrap64; split <;> omega

theorem size_wr (t : Table) (i j : Nat) (f : Int → Int) : (wr t i j f).size = t.size := by
  simp [wr]

theorem rowLen_wr (t : Table) (i j : Nat) (f : Int → Int) (i' : Nat) :
    rowLen (wr t i j f) i' = rowLen t i' := by
  simp only [rowLen, wr, Array.getD_eq_getD_getElem?, Array.getElem?_modify]
  split
  · subst_vars; cases h : t[i']? <;> simp
  · rfl

theorem rd_wr (t : Table) (i j : Nat) (f : Int → Int) (i' j' : Nat) :
    rd (wr t i j f) i' j' =
      if i' = i ∧ j' = j ∧ i < t.size ∧ j < rowLen t i then f (rd t i j) else rd t i' j' := by
  simp only [rd, rowLen, wr, Array.getD_eq_getD_getElem?, Array.getElem?_modify]
  by_cases hi : i = i'
  · subst hi
    by_cases h1 : i < t.size
    · by_cases hj : j = j'
      · subst hj
        by_cases h2 : j < t[i].size
        · simp [h1, h2, Array.getElem_modify]
        · simp [h1, h2]
      · simp [h1, hj, Ne.symm hj, Array.getElem?_modify]
    · simp [h1]
  · simp [hi, Ne.symm hi]

theorem modify_congr {α : Type} (a : Array α) (i : Nat) (f g : α → α)
    (h : ∀ hi : i < a.size, f a[i] = g a[i]) : a.modify i f = a.modify i g := by
  apply Array.ext
  · simp
  · intro k h1 h2
    rw [Array.getElem_modify, Array.getElem_modify]
    split
    · subst_vars
      exact h _
    · rfl

theorem wr_congr (t : Table) (i j : Nat) (f g : Int → Int) (h : f (rd t i j) = g (rd t i j)) :
    wr t i j f = wr t i j g :=
  modify_congr t i _ _ fun hi => modify_congr t[i] j f g fun hj => by
    have e : rd t i j = t[i][j] := by
      simp [rd, Array.getElem?_eq_getElem hi, Array.getElem?_eq_getElem hj]
    rw [← e]
    exact h

/-- `t` has `rows` rows of `cols` entries and entry `[i][j]` satisfies `P j` -/
def TabOk (t : Table) (rows cols : Nat) (P : Nat → Int → Prop) : Prop :=
  t.size = rows ∧ ∀ i, i < rows → rowLen t i = cols ∧ ∀ j, j < cols → P j (rd t i j)

theorem TabOk.wr {t : Table} {rows cols : Nat} {P : Nat → Int → Prop} (h : TabOk t rows cols P)
    (i j : Nat) (f : Int → Int) (hf : ∀ x, P j x → P j (f x)) : TabOk (wr t i j f) rows cols P := by
  refine ⟨by rw [size_wr]; exact h.1, fun i' hi' => ⟨by rw [rowLen_wr]; exact (h.2 i' hi').1, fun j' hj' => ?_⟩⟩
  rw [rd_wr]
  split
  · rename_i hc
    obtain ⟨rfl, rfl, _, _⟩ := hc
    exact hf _ ((h.2 i' hi').2 j' hj')
  · exact (h.2 i' hi').2 j' hj'

/-- range of the entries of `counter1` -/
def P1 : Nat → Int → Prop := fun _ x => 0 ≤ x ∧ x ≤ 65520

/-- upper bound of `counter2[.][j]`: 65520, except the last column of the current bitstream
version, which starts at 65535 and never exceeds it -/
def cap2 (v3 : Bool) (j : Nat) : Int := if j = 16 ∧ v3 = false then 65535 else 65520

/-- range of the entries of `counter2` -/
def P2 (v3 : Bool) : Nat → Int → Prop := fun j x => 0 ≤ x ∧ x ≤ cap2 v3 j

/-- The invariant of the predictor: every reachable state satisfies it (`R_init`, `R_step`). -/
structure R (s : CM) : Prop where
  c1 : s.c1 < 256
  c2 : s.c2 < 256
  ctx : 1 ≤ s.ctx ∧ s.ctx ≤ 255
  run : s.runMask = 0 ∨ s.runMask = 256
  idx : 0 ≤ s.idx ∧ s.idx ≤ 15
  t1 : TabOk s.counter1 256 257 P1
  t2 : TabOk s.counter2 512 17 (P2 s.isBsVersion3)

/-- a wrap function that is the identity on the int32 range (`wrap32`, `wrap64`, `id`) -/
def I32 (w : Int → Int) : Prop := ∀ x : Int, -2147483648 ≤ x → x < 2147483648 → w x = x

theorem I32.eq {w : Int → Int} (hw : I32 w) {x : Int} (h : -2147483648 ≤ x ∧ x < 2147483648) : w x = x :=
  hw x h.1 h.2

theorem I32_wrap32 : I32 wrap32 := fun x h1 h2 => by rw [wrap32_spec]; omega
theorem I32_wrap64 : I32 wrap64 := fun x h1 h2 => by rw [wrap64_spec]; omega
theorem I32_id : I32 id := fun _ _ _ => rfl

theorem rd_replicate (n m : Nat) (v : Int) (i j : Nat) (hi : i < n) (hj : j < m) :
    rd (Array.replicate n (Array.replicate m v)) i j = v := by
  simp [rd, hi, hj]

theorem row2Init_eq (v3 : Bool) : row2Init v3 =
    #[0, 4096, 8192, 12288, 16384, 20480, 24576, 28672, 32768, 36864, 40960, 45056, 49152, 53248,
      57344, 61440, if v3 then 61440 else 65535] := by
  cases v3 <;> rfl

theorem row2Init_ok (v3 : Bool) : (row2Init v3).size = 17 ∧
    ∀ j, j < 17 → P2 v3 j ((row2Init v3).getD j 0) := by
  rw [row2Init_eq]
  refine ⟨rfl, ?_⟩
  unfold P2 cap2
  cases v3 <;> decide

theorem R_init (v3 : Bool) : R (cmInit v3) := by
  refine ⟨by simp [cmInit], by simp [cmInit], by simp [cmInit], Or.inl rfl, by simp [cmInit], ?_, ?_⟩
  · refine ⟨by simp [cmInit], fun i hi => ⟨by simp [cmInit, rowLen, hi], fun j hj => ?_⟩⟩
    show P1 j (rd (Array.replicate 256 (Array.replicate 257 (pscale >>> 1))) i j)
    rw [rd_replicate _ _ _ _ _ hi hj]
    unfold P1; decide
  · refine ⟨by simp [cmInit], fun i hi => ⟨?_, fun j hj => ?_⟩⟩
    · simp [cmInit, rowLen, hi, (row2Init_ok v3).1]
    · have : rd (cmInit v3).counter2 i j = (row2Init v3).getD j 0 := by
        simp [cmInit, rd, hi]
      rw [this]
      exact (row2Init_ok v3).2 j hj

theorem shr_between (n : Int) (k : Nat) :
    (0 ≤ n → 0 ≤ n >>> k ∧ n >>> k ≤ n) ∧ (n ≤ 0 → n ≤ n >>> k ∧ n >>> k ≤ 0) := by
  rw [Int.shiftRight_eq_div_pow]
  have hd : (0 : Int) < ((2 ^ k : Nat) : Int) := Int.natCast_pos.2 (Nat.two_pow_pos k)
  generalize ((2 ^ k : Nat) : Int) = d at hd
  refine ⟨fun h => ⟨Int.ediv_nonneg h (Int.le_of_lt hd), Int.ediv_le_self d h⟩, fun h => ⟨?_, ?_⟩⟩
  · rw [Int.le_ediv_iff_mul_le hd]
    have := Int.mul_le_mul_of_nonpos_left h (show 1 ≤ d by omega)
    omega
  · rcases Int.lt_or_eq_of_le h with hn | rfl
    · exact Int.le_of_lt (Int.ediv_neg_of_neg_of_pos hn hd)
    · rw [Int.zero_ediv]; exact Int.le_refl 0

theorem shr_le {n : Int} (k : Nat) {b : Int} (h0 : 0 ≤ n) (h : n < (b + 1) * ((2 ^ k : Nat) : Int)) :
    0 ≤ n >>> k ∧ n >>> k ≤ b := by
  refine ⟨((shr_between n k).1 h0).1, ?_⟩
  rw [Int.shiftRight_eq_div_pow]
  exact Int.le_of_lt_add_one (Int.ediv_lt_of_lt_mul (Int.natCast_pos.2 (Nat.two_pow_pos k)) h)

/-- A set bit moves the counter towards 65520 = `_CM_PSCALE - 16` without passing it, a clear bit towards 0. -/
theorem adj_facts {w : Int → Int} (hw : I32 w) (bit : Bool) (k : Nat) {x c : Int}
    (hc : 65520 ≤ c ∧ c ≤ 65535) (h0 : 0 ≤ x) (h1 : x ≤ c) :
    adj w bit k x = adj id bit k x ∧ 0 ≤ adj id bit k x ∧ adj id bit k x ≤ c := by
  cases bit
  · have hs := (shr_between x k).1 h0
    simp only [adj, dec0, id, if_false, Bool.false_eq_true]
    generalize x >>> k = q at hs ⊢
    rw [hw.eq (x := q) (by omega), hw.eq (by omega)]
    omega
  · have hs := shr_between (x - 65536 + 16) k
    simp only [adj, inc1, pscale, id, if_true]
    rw [hw.eq (x := x - 65536) (by omega), hw.eq (x := x - 65536 + 16) (by omega)]
    generalize (x - 65536 + 16) >>> k = q at hs ⊢
    rw [hw.eq (x := q) (by omega), hw.eq (by omega)]
    omega

theorem cap2_range (v3 : Bool) (j : Nat) : 65520 ≤ cap2 v3 j ∧ cap2 v3 j ≤ 65535 := by
  unfold cap2; split <;> omega

theorem P1_adj (bit : Bool) (k j : Nat) (x : Int) (h : P1 j x) : P1 j (adj id bit k x) :=
  (adj_facts I32_id bit k ⟨Int.le_refl _, by decide⟩ h.1 h.2).2

theorem P2_adj (v3 bit : Bool) (k j : Nat) (x : Int) (h : P2 v3 j x) : P2 v3 j (adj id bit k x) :=
  (adj_facts I32_id bit k (cap2_range v3 j) h.1 h.2).2

theorem P1_le {j : Nat} {x : Int} (h : P1 j x) : 0 ≤ x ∧ x ≤ 65535 := ⟨h.1, Int.le_trans h.2 (by decide)⟩
theorem P2_le {v3 : Bool} {j : Nat} {x : Int} (h : P2 v3 j x) : 0 ≤ x ∧ x ≤ 65535 :=
  ⟨h.1, Int.le_trans h.2 (cap2_range v3 j).2⟩

theorem wr_adj_eq {w : Int → Int} (hw : I32 w) {t : Table} {rows cols : Nat} {P : Nat → Int → Prop}
    (ht : TabOk t rows cols P) (hP : ∀ {j x}, P j x → 0 ≤ x ∧ x ≤ 65535) {i j : Nat} (hi : i < rows) (hj : j < cols)
    (bit : Bool) (k : Nat) : wr t i j (adj w bit k) = wr t i j (adj id bit k) :=
  have hx := hP ((ht.2 i hi).2 j hj)
  wr_congr _ _ _ _ _ (adj_facts hw bit k ⟨by decide, Int.le_refl _⟩ hx.1 hx.2).1

theorem R_roll {s : CM} (c1 : s.c1 < 256) (ctx : 1 ≤ s.ctx) (run : s.runMask = 0 ∨ s.runMask = 256)
    (idx : 0 ≤ s.idx ∧ s.idx ≤ 15) (t1 : TabOk s.counter1 256 257 P1)
    (t2 : TabOk s.counter2 512 17 (P2 s.isBsVersion3)) (c2 : s.c2 < 256) : R (cmRoll s) := by
  unfold cmRoll
  split
  · exact ⟨Nat.mod_lt _ (by decide), c1, by simp, by (show (if s.ctx % 256 = s.c1 then 256 else 0) = 0 ∨ (if s.ctx % 256 = s.c1 then 256 else 0) = 256; split <;> simp), idx, t1, t2⟩
  · exact ⟨c1, c2, ⟨ctx, by omega⟩, run, idx, t1, t2⟩

theorem R_updateI {s : CM} (h : R s) (bit : Bool) : R (cmUpdateI s bit) := by
  have t1 := (h.t1.wr s.ctx 256 _ (P1_adj bit fastRate _)).wr s.ctx s.c1 _ (P1_adj bit mediumRate _)
  have t2 := (h.t2.wr (row2 s) s.idx.toNat _ (P2_adj _ bit slowRate _)).wr (row2 s) (s.idx + 1).toNat _
    (P2_adj _ bit slowRate _)
  have hctx : 1 ≤ (id (if bit = true then id ((s.ctx : Int) + 1) + s.ctx else (s.ctx : Int) + s.ctx)).toNat := by
    have := h.ctx
    cases bit <;> simp only [id, if_true, if_false, Bool.false_eq_true] <;> omega
  exact R_roll h.c1 hctx h.run h.idx t1 t2 h.c2

theorem row2_lt {s : CM} (h : R s) : row2 s < 512 := by
  unfold row2
  have h1 : s.ctx < 2 ^ 9 := by have := h.ctx; omega
  have h2 : s.runMask < 2 ^ 9 := by rcases h.run with e | e <;> omega
  exact Nat.or_lt_two_pow h1 h2

theorem updateW_eq {w : Int → Int} (hw : I32 w) {s : CM} (h : R s) (bit : Bool) :
    cmUpdateW w s bit = cmUpdateI s bit := by
  have hctx := h.ctx
  have hc1 := h.c1
  have hidx := h.idx
  have hrow := row2_lt h
  have e5 : w (if bit = true then w ((s.ctx : Int) + 1) + s.ctx else (s.ctx : Int) + s.ctx)
      = id (if bit = true then id ((s.ctx : Int) + 1) + s.ctx else (s.ctx : Int) + s.ctx) := by
    cases bit <;> simp only [id, if_true, if_false, Bool.false_eq_true] <;>
      simp (disch := omega) only [hw.eq]
  unfold cmUpdateI cmUpdateW
  dsimp only
  rw [wr_adj_eq hw h.t1 P1_le (by omega) (by omega),
    wr_adj_eq hw (h.t1.wr _ _ _ (P1_adj bit _ _)) P1_le (by omega) (by omega),
    wr_adj_eq hw h.t2 P2_le hrow (by omega),
    wr_adj_eq hw (h.t2.wr _ _ _ (P2_adj _ bit _ _)) P2_le hrow (by omega), e5]

theorem cmP_facts {w32 wi : Int → Int} (hw32 : I32 w32) (hwi : I32 wi) {s : CM} (h : R s) :
    cmP w32 wi s = cmP id id s ∧ 0 ≤ cmP id id s ∧ cmP id id s ≤ 65520 := by
  have hctx := h.ctx
  have hc1 := h.c1
  have hc2 := h.c2
  have ha := (h.t1.2 s.ctx (by omega)).2 256 (by omega)
  have hb := (h.t1.2 s.ctx (by omega)).2 s.c1 (by omega)
  have hc := (h.t1.2 s.ctx (by omega)).2 s.c2 (by omega)
  unfold P1 at ha hb hc
  unfold cmP
  generalize rd s.counter1 s.ctx 256 = a at *
  generalize rd s.counter1 s.ctx s.c1 = b at *
  generalize rd s.counter1 s.ctx s.c2 = c at *
  simp only [id]
  -- the wrapped operations from the innermost outwards
  rw [hw32.eq (x := a + b) (by omega), hw32.eq (x := 13 * (a + b)) (by omega), hw32.eq (x := 6 * c) (by omega),
    hw32.eq (x := 13 * (a + b) + 6 * c) (by omega), hwi.eq (x := 13 * (a + b) + 6 * c) (by omega)]
  have hs := shr_le 5 (n := 13 * (a + b) + 6 * c) (b := 65520) (by omega) (by omega)
  exact ⟨hwi.eq (by omega), hs⟩

/-- linear interpolation with a weight `w / 4096`, `0 ≤ w < 4096`, rounded down: the product fits
in 29 bits and the result lies between the two end points -/
theorem interp_bounds {x1 x2 w c : Int} (hw0 : 0 ≤ w) (hw1 : w < 4096) (h10 : 0 ≤ x1) (h11 : x1 ≤ c)
    (h20 : 0 ≤ x2) (h21 : x2 ≤ c) (hc : c ≤ 65535) :
    -268435456 ≤ (x2 - x1) * w ∧ (x2 - x1) * w ≤ 268435456 ∧
    0 ≤ x1 + (x2 - x1) * w / 4096 ∧ x1 + (x2 - x1) * w / 4096 ≤ c := by
  -- the product lies between 0 and `(x2 - x1) * 4096`, whichever the sign of `x2 - x1`
  have e1 : 0 ≤ x2 - x1 → 0 ≤ (x2 - x1) * w ∧ (x2 - x1) * w ≤ (x2 - x1) * 4096 := fun hd =>
    ⟨Int.mul_nonneg hd hw0, Int.mul_le_mul_of_nonneg_left (by omega) hd⟩
  have e2 : x2 - x1 ≤ 0 → (x2 - x1) * 4096 ≤ (x2 - x1) * w ∧ (x2 - x1) * w ≤ 0 := fun hd =>
    ⟨Int.mul_le_mul_of_nonpos_left hd (by omega), Int.mul_nonpos_of_nonpos_of_nonneg hd hw0⟩
  generalize (x2 - x1) * w = m at *
  omega

/-- the two `return` expressions of `Get()` -/
theorem cmOut_facts {wi : Int → Int} (hwi : I32 wi) (v3 : Bool) {p x1 x2 : Int}
    (hp0 : 0 ≤ p) (hp1 : p ≤ 65520) (h10 : 0 ≤ x1) (h11 : x1 ≤ 65520)
    (h20 : 0 ≤ x2) (h21 : x2 ≤ cap2 v3 16) :
    cmOut wi v3 p x1 x2 = cmOut id v3 p x1 x2 ∧ 0 ≤ cmOut id v3 p x1 x2 ∧ cmOut id v3 p x1 x2 ≤ 4095 := by
  cases v3
  · -- bitstream version >= 4
    have h21' : x2 ≤ 65535 := by simpa [cap2] using h21
    simp only [cmOut, Bool.false_eq_true, if_false, id]
    rw [hwi.eq (x := p + p) (by omega), hwi.eq (x := x1 + x2) (by omega), hwi.eq (x := 3 * (x1 + x2)) (by omega),
      hwi.eq (x := p + p + 3 * (x1 + x2)) (by omega), hwi.eq (x := p + p + 3 * (x1 + x2) + 64) (by omega)]
    have hs := shr_le 7 (n := p + p + 3 * (x1 + x2) + 64) (b := 4095) (by omega) (by omega)
    exact ⟨hwi.eq (by omega), hs⟩
  · have h21' : x2 ≤ 65520 := by simpa [cap2] using h21
    have hm := Int.emod_nonneg p (show (4096 : Int) ≠ 0 by decide)
    have hm' := Int.emod_lt_of_pos p (show (0 : Int) < 4096 by decide)
    have hi := interp_bounds hm hm' h10 h11 h20 h21' (by decide)
    have e12 (m : Int) : m >>> 12 = m / 4096 := Int.shiftRight_eq_div_pow m 12
    simp only [cmOut, if_true, id, e12]
    -- each intermediate value gets a name once its bounds are known
    generalize p % 4096 = q at *
    rw [hwi.eq (x := x2 - x1) (by omega), hwi.eq (x := q) (by omega)]
    generalize (x2 - x1) * q = m at *
    rw [hwi.eq (x := m) (by omega)]
    generalize m / 4096 = e at *
    rw [hwi.eq (x := e) (by omega), hwi.eq (x := x1 + e) (by omega)]
    generalize x1 + e = ssep at *
    rw [hwi.eq (x := 3 * ssep) (by omega), hwi.eq (x := p + 3 * ssep) (by omega),
      hwi.eq (x := p + 3 * ssep + 32) (by omega)]
    have hs := shr_le 6 (n := p + 3 * ssep + 32) (b := 4095) (by omega) (by omega)
    exact ⟨hwi.eq (by omega), hs⟩

theorem cap2_le16 (v3 : Bool) (j : Nat) : cap2 v3 j ≤ cap2 v3 16 := by
  cases v3 <;> simp [cap2] <;> split <;> omega

theorem idx_facts {s : CM} (h : R s) :
    let idx := cmP id id s >>> 12
    0 ≤ idx ∧ idx ≤ 15 ∧
    (0 ≤ rd s.counter2 (row2 s) idx.toNat ∧ rd s.counter2 (row2 s) idx.toNat ≤ 65520) ∧
    (0 ≤ rd s.counter2 (row2 s) (idx + 1).toNat ∧
      rd s.counter2 (row2 s) (idx + 1).toNat ≤ cap2 s.isBsVersion3 16) := by
  intro idx
  have hp := (cmP_facts I32_id I32_id h).2
  have hrow := row2_lt h
  have hi : 0 ≤ idx ∧ idx ≤ 15 := by
    show 0 ≤ cmP id id s >>> 12 ∧ cmP id id s >>> 12 ≤ 15
    rw [Int.shiftRight_eq_div_pow]; omega
  refine ⟨hi.1, hi.2, ?_, ?_⟩
  · have := (h.t2.2 (row2 s) hrow).2 idx.toNat (by omega)
    unfold P2 cap2 at this
    rw [if_neg (by omega)] at this
    exact this
  · have := (h.t2.2 (row2 s) hrow).2 (idx + 1).toNat (by omega)
    unfold P2 at this
    refine ⟨this.1, Int.le_trans this.2 ?_⟩
    exact cap2_le16 _ _

theorem idx_wrap {wi : Int → Int} (hwi : I32 wi) {s : CM} (h : R s) :
    wi (cmP id id s >>> 12) = cmP id id s >>> 12 ∧ wi (cmP id id s >>> 12 + 1) = cmP id id s >>> 12 + 1 := by
  obtain ⟨hi0, hi1, _, _⟩ := idx_facts h
  exact ⟨hwi.eq (by omega), hwi.eq (by omega)⟩

theorem getW_eq {w32 wi : Int → Int} (hw32 : I32 w32) (hwi : I32 wi) {s : CM} (h : R s) :
    cmGetW w32 wi s = cmGetI s := by
  obtain ⟨hi0, hi1, hx1, hx2⟩ := idx_facts h
  have hp := cmP_facts hw32 hwi h
  have hcap := (cap2_range s.isBsVersion3 16).2
  unfold cmGetI cmGetW
  simp only [hp.1, id]
  rw [(idx_wrap hwi h).1, (idx_wrap hwi h).2,
    hwi.eq (x := rd s.counter2 (row2 s) (cmP id id s >>> 12).toNat) (by omega),
    hwi.eq (x := rd s.counter2 (row2 s) (cmP id id s >>> 12 + 1).toNat) (by omega),
    (cmOut_facts hwi s.isBsVersion3 hp.2.1 hp.2.2 hx1.1 hx1.2 hx2.1 hx2.2).1]

theorem getI_range {s : CM} (h : R s) : 0 ≤ (cmGetI s).1 ∧ (cmGetI s).1 ≤ 4095 := by
  obtain ⟨hi0, hi1, hx1, hx2⟩ := idx_facts h
  have hp := cmP_facts I32_id I32_id h
  unfold cmGetI cmGetW
  -- without the `id`s the terms are those of `idx_facts`
  simp only [id]
  exact (cmOut_facts I32_id s.isBsVersion3 hp.2.1 hp.2.2 hx1.1 hx1.2 hx2.1 hx2.2).2

/-- `Get()` only stores `idx`, and the stored `idx` is in `[0, 15]`: the invariant is preserved -/
theorem R_getI {s : CM} (h : R s) : R (cmGetI s).2 := by
  obtain ⟨hi0, hi1, _, _⟩ := idx_facts h
  exact ⟨h.c1, h.c2, h.ctx, h.run, ⟨hi0, hi1⟩, h.t1, h.t2⟩

theorem getOk {w32 wi : Int → Int} (hw32 : I32 w32) (hwi : I32 wi) {s : CM} (h : R s) :
    cmGetOkW w32 wi s = true := by
  obtain ⟨hi0, hi1, _, _⟩ := idx_facts h
  have hp := cmP_facts hw32 hwi h
  have hrow := row2_lt h
  have hctx := h.ctx
  have hc1 := h.c1
  have hc2 := h.c2
  have l1 := (h.t1.2 s.ctx (by omega)).1
  have l2 := (h.t2.2 (row2 s) hrow).1
  unfold cmGetOkW
  simp only [hp.1]
  rw [(idx_wrap hwi h).1, (idx_wrap hwi h).2, l1, l2, h.t1.1, h.t2.1]
  simp only [Bool.and_eq_true, decide_eq_true_eq]
  omega

theorem updateOk {s : CM} (h : R s) : cmUpdateOk s = true := by
  have hrow := row2_lt h
  have hctx := h.ctx
  have hc1 := h.c1
  have hidx := h.idx
  have l1 := (h.t1.2 s.ctx (by omega)).1
  have l2 := (h.t2.2 (row2 s) hrow).1
  unfold cmUpdateOk
  rw [l1, l2, h.t1.1, h.t2.1]
  simp only [Bool.and_eq_true, decide_eq_true_eq]
  omega

/-! ### the Go arithmetic (`wrap32` / `wrap64`) -/

theorem getZ_eq {s : CM} (h : R s) : cmGetZ s = cmGetI s := getW_eq I32_wrap32 I32_wrap64 h

theorem update_eq {s : CM} (h : R s) (bit : Bool) : cmUpdate s bit = cmUpdateI s bit :=
  updateW_eq I32_wrap32 h bit

theorem get_snd {s : CM} (h : R s) : (cmGet s).2 = (cmGetI s).2 := by
  show (cmGetZ s).2 = _; rw [getZ_eq h]

theorem R_get {s : CM} (h : R s) : R (cmGet s).2 := by rw [get_snd h]; exact R_getI h

theorem R_update {s : CM} (h : R s) (bit : Bool) : R (cmUpdate s bit) := by
  rw [update_eq h]; exact R_updateI h bit

theorem R_step {s : CM} (h : R s) (bit : Bool) : R (cmUpdate (cmGet s).2 bit) := R_update (R_get h) bit

theorem getZ_range {s : CM} (h : R s) : 0 ≤ (cmGetZ s).1 ∧ (cmGetZ s).1 ≤ 4095 := by
  rw [getZ_eq h]; exact getI_range h

theorem get_range {s : CM} (h : R s) : (cmGet s).1 ≤ 4095 := by
  have := getZ_range h
  show (cmGetZ s).1.toNat ≤ 4095
  omega

theorem get_cast {s : CM} (h : R s) : ((cmGet s).1 : Int) = (cmGetZ s).1 := by
  have := getZ_range h
  show ((cmGetZ s).1.toNat : Int) = _
  omega

theorem getF_some {s : CM} (h : R s) : cmGetF s = some (cmGetZ s) := by
  unfold cmGetF cmGetOk; rw [getOk I32_wrap32 I32_wrap64 h]; rfl

theorem updateF_some {s : CM} (h : R s) (bit : Bool) : cmUpdateF s bit = some (cmUpdate s bit) := by
  unfold cmUpdateF; rw [updateOk h]; rfl

theorem R_runState (s : CM) (h : R s) (bits : List Bool) : R (cmRunState s bits) := by
  induction bits generalizing s with
  | nil => exact h
  | cons b bs ih => exact ih _ (R_step h b)

theorem run_range (s : CM) (h : R s) (bits : List Bool) : ∀ p ∈ cmRun s bits, p ≤ 4095 := by
  induction bits generalizing s with
  | nil => intro p hp; cases hp
  | cons b bs ih =>
    intro p hp
    rcases List.mem_cons.1 hp with rfl | hp
    · exact get_range h
    · exact ih _ (R_step h b) p hp

theorem runF_some (s : CM) (h : R s) (bits : List Bool) :
    cmRunF s bits = some ((cmRun s bits).map Int.ofNat) := by
  induction bits generalizing s with
  | nil => rfl
  | cons b bs ih =>
    have e : (cmGetZ s).2 = (cmGet s).2 := rfl
    simp only [cmRunF, getF_some h, e, updateF_some (R_get h) b, ih _ (R_step h b), cmRun,
      List.map_cons, Option.map_some]
    have := get_cast h
    rw [← this]; rfl

end Kanzi.CM
