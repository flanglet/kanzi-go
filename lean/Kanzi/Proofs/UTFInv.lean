/-
The UTF codec, `utfInverse` on ARBITRARY input (any bytes, any destination size, both bitstream versions):
Inverse returns a block or a clean error, except in one situation: the `start` head bytes of the header
overlap the tail (`invOverlap`: `4 + 3n + start > len - 4 + adjust`); then the final copy loop reads past
the end of the input (`.fault`).  Forward never produces such a header (`encoded_not_overlap` in
`Kanzi/Proofs/UTF.lean`).
-/
import Kanzi.Proofs.UTFFwd

namespace Kanzi.UTF
open Kanzi.RLT

/-! ## copy loops -/

theorem copyN_ok (src : Array Nat) (dstLen : Nat) : ∀ (k i : Nat) (out : Array Nat),
    i + k ≤ src.size → out.size + k ≤ dstLen →
    copyN src dstLen k i out = .ok (out ++ (src.toList.drop i).take k) := by
  intro k
  induction k with
  | zero => intro i out _ _; simp [copyN]
  | succ k ih =>
    intro i out h1 h2
    unfold copyN
    rw [getElem?_eq_getD src i (by omega)]
    simp only []
    rw [wr_ok _ _ _ (by rw [List.length_singleton]; omega)]
    simp only [Out.bind_ok]
    rw [ih (i + 1) _ (by omega) (by rw [size_appendList, List.length_singleton]; omega), appendList_assoc]
    have e : src.toList.drop i = src.getD i 0 :: src.toList.drop (i + 1) := by
      rw [List.drop_eq_getElem_cons (by simp; omega)]
      have : i < src.size := by omega
      simp [Array.getD, this]
    rw [e, List.take_succ_cons]
    rfl

/-! ## the main loop on arbitrary input -/

theorem invLoop_sat (src : Array Nat) (m : Array (List Nat)) (srcEnd dstEnd : Nat)
    (hb : ∀ x ∈ src.toList, x < 256) (hse : srcEnd ≤ src.size) :
    ∀ (f i : Nat) (out : Array Nat), srcEnd ≤ i + f →
      Out.Sat [] (fun r => i ≤ srcEnd → r.1 ≤ srcEnd) (invLoop src m srcEnd dstEnd f i out) := by
  intro f
  induction f with
  | zero =>
    intro i out hf
    unfold invLoop
    rw [if_neg (by omega)]
    exact fun h => h
  | succ f ih =>
    intro i out hf
    unfold invLoop
    refine ite_of (fun hc => ?_) fun _ => (fun h => h)
    rw [getElem?_eq_getD src i (by omega)]
    refine ite_of (fun _ => ite_of (fun _ => trivial) fun h1 => ?_) fun _ =>
      (ih (i + 1) _ (by omega)).mono fun r hr _ => hr (by omega)
    rw [getElem?_eq_getD src (i + 1) (by omega)]
    have hhi := getD_lt_of_all src hb (i + 1)
    refine ite_of (fun h => ?_) fun _ => (ih (i + 2) _ (by omega)).mono fun r hr _ => hr (by omega)
    rw [and_7F, Nat.shiftLeft_eq] at h
    unfold MAX_SYMBOLS at h
    omega

theorem buildMap_nf (v3 : Bool) (src : Array Nat) : ∀ (k i : Nat) (m : Array (List Nat)),
    i + 3 * k ≤ src.size → Out.NF (buildMap v3 src k i m) := by
  intro k
  induction k with
  | zero => intro i m _; trivial
  | succ k ih =>
    intro i m h
    unfold buildMap
    rw [getElem?_eq_getD src i (by omega), getElem?_eq_getD src (i + 1) (by omega),
      getElem?_eq_getD src (i + 2) (by omega)]
    exact ite_of (fun _ => trivial) fun _ => ih (i + 3) _ (by omega)

/-- the header of an Inverse input: the head bytes overlap the tail bytes -/
def invOverlap (src : List Nat) : Prop :=
  4 + 3 * (((src.getD 2 0) <<< 8) + src.getD 3 0) + (src.getD 0 0 &&& 0x03) > src.length - 4 + (src.getD 1 0 &&& 0x03)

instance (src : List Nat) : Decidable (invOverlap src) := by unfold invOverlap; exact inferInstance

/-! ## the exact fault condition of Inverse -/

theorem copyN_fault (src : Array Nat) (dstLen : Nat) : ∀ (k i : Nat) (out : Array Nat),
    0 < k → i + k > src.size → out.size + k ≤ dstLen → copyN src dstLen k i out = .fault "src-index" := by
  intro k
  induction k with
  | zero => intro i out h; omega
  | succ k ih =>
    intro i out _ h1 h2
    unfold copyN
    by_cases hi : i < src.size
    · rw [getElem?_eq_getD src i hi]
      simp only []
      rw [wr_ok _ _ _ (by rw [List.length_singleton]; omega)]
      simp only [Out.bind_ok]
      exact ih (i + 1) _ (by omega) (by omega) (by rw [size_appendList, List.length_singleton]; omega)
    · rw [Array.getElem?_eq_none (by omega)]

theorem invLoop_exit (src : Array Nat) (m : Array (List Nat)) (srcEnd dstEnd f i : Nat) (out : Array Nat)
    (h : ¬ (i < srcEnd ∧ out.size < dstEnd)) : invLoop src m srcEnd dstEnd f i out = .ok (i, out) := by
  cases f with
  | zero => unfold invLoop; rw [if_neg h]
  | succ f => unfold invLoop; rw [if_neg h]

/-- everything that must hold for Inverse to read past its input: a well-formed header and map, room in
    the destination, and `start` head bytes that reach beyond the start of the tail -/
def invFaultPre (v3 : Bool) (src : List Nat) (dstLen : Nat) : Prop :=
  let n := ((src.getD 2 0) <<< 8) + src.getD 3 0
  let start := src.getD 0 0 &&& 0x03
  let adjust := src.getD 1 0 &&& 0x03
  4 ≤ src.length ∧ 4 ≤ dstLen ∧ n ≠ 0 ∧ n < 32768 ∧ 4 + 3 * n ≤ src.length ∧
  (∃ m, buildMap v3 src.toArray n 4 #[] = .ok m) ∧
  4 + 3 * n ≤ src.length - 4 + adjust ∧ 4 + 3 * n + start ≤ src.length ∧
  start + (4 - adjust) ≤ dstLen ∧ invOverlap src

/-- Inverse past its checks: what is left when header, symbol map and sizes are in order -/
theorem utfInverse_run (v3 : Bool) (src : List Nat) (dstLen n start adjust : Nat) (m : Array (List Nat))
    (hn : ((src.getD 2 0) <<< 8) + src.getD 3 0 = n) (hs : src.getD 0 0 &&& 0x03 = start)
    (ha : src.getD 1 0 &&& 0x03 = adjust) (hl : 4 ≤ src.length) (hd : 4 ≤ dstLen) (hn0 : n ≠ 0) (hn1 : n < 32768)
    (hm : buildMap v3 src.toArray n 4 #[] = .ok m) (h1 : 4 + 3 * n ≤ src.length - 4 + adjust)
    (h2 : 4 + 3 * n + start ≤ src.length) :
    utfInverse v3 src dstLen =
      (invLoop src.toArray m (src.length - 4 + adjust) (dstLen - 4) src.length (4 + 3 * n + start)
        ((#[] : Array Nat) ++ (src.drop (4 + 3 * n)).take start)).bind fun r =>
        if r.1 < src.length - 4 + adjust ∨ r.2.size + (src.length - (src.length - 4 + adjust)) > dstLen then .err "data"
        else (copyN src.toArray dstLen (src.length - (src.length - 4 + adjust)) r.1 r.2).bind fun o2 => .ok o2.toList := by
  have hs3 : start ≤ 3 := by rw [← hs, and_03]; omega
  have ha3 : adjust ≤ 3 := by rw [← ha, and_03]; omega
  unfold utfInverse
  simp only [List.size_toArray, toArray_getD, hn, hs, ha]
  rw [if_neg (by omega), if_neg (by omega), if_neg (by omega), hm]
  simp only [Out.bind_ok]
  rw [if_neg (by omega), if_neg (by omega), copyN_ok _ _ _ _ _ (by simp; omega) (by simp; omega)]
  rfl

/-- the fault condition makes Inverse run through every check and into the tail copy, which starts beyond
    the end of the input -/
theorem utfInverse_of_faultPre (v3 : Bool) (src : List Nat) (dstLen : Nat) (h : invFaultPre v3 src dstLen) :
    utfInverse v3 src dstLen = .fault "src-index" := by
  unfold invFaultPre invOverlap at h
  generalize hn : ((src.getD 2 0) <<< 8) + src.getD 3 0 = n at h
  generalize hs : src.getD 0 0 &&& 0x03 = start at h
  generalize ha : src.getD 1 0 &&& 0x03 = adjust at h
  obtain ⟨h1, h2, h3, h4, h5, ⟨m, hm⟩, h6, h7, h8, hov⟩ := h
  have hsz : ((#[] : Array Nat) ++ (src.drop (4 + 3 * n)).take start).size = start := by
    rw [size_appendList, List.length_take, List.length_drop]; simp; omega
  rw [utfInverse_run v3 src dstLen n start adjust m hn hs ha h1 h2 h3 h4 hm h6 h7, invLoop_exit _ _ _ _ _ _ _ (by omega)]
  simp only [Out.bind_ok]
  rw [hsz, if_neg (by omega), copyN_fault _ _ _ _ _ (by omega) (by simp; omega) (by omega)]
  rfl

/-- Inverse walked once: every check that stops it gives `.ok` / `.err`; past the checks only the overlap case can
    fault, and there `invFaultPre` holds unless the size check before the tail copy stops it -/
theorem utfInverse_nf (v3 : Bool) (src : List Nat) (dstLen : Nat) (hb : ∀ x ∈ src, x < 256)
    (hp : ¬ invFaultPre v3 src dstLen) : Out.NF (utfInverse v3 src dstLen) := by
  unfold utfInverse
  unfold invFaultPre invOverlap at hp
  simp only [List.size_toArray, toArray_getD] at hp ⊢
  generalize ((src.getD 2 0) <<< 8) + src.getD 3 0 = n at hp ⊢
  generalize hs : src.getD 0 0 &&& 0x03 = start at hp ⊢
  generalize ha : src.getD 1 0 &&& 0x03 = adjust at hp ⊢
  have hs3 : start ≤ 3 := by rw [← hs, and_03]; omega
  have ha3 : adjust ≤ 3 := by rw [← ha, and_03]; omega
  clear hs ha
  have hb' : ∀ x ∈ src.toArray.toList, x < 256 := by simpa using hb
  refine ite_of (fun _ => trivial) fun h0 => ite_of (fun _ => trivial) fun h1 => ite_of (fun _ => trivial) fun h2 => ?_
  rcases (buildMap_nf v3 src.toArray n 4 #[] (by simp; omega)).cases with ⟨e', he⟩ | ⟨m, hm, _⟩
  · rw [he]
    trivial
  rw [hm, Out.bind_ok]
  refine ite_of (fun _ => trivial) fun h3 => ite_of (fun _ => trivial) fun h4 => ?_
  rw [copyN_ok _ _ _ _ _ (by simp; omega) (by simp; omega), Out.bind_ok]
  have hsz : ((#[] : Array Nat) ++ (src.drop (4 + 3 * n)).take start).size = start := by
    rw [size_appendList, List.length_take, List.length_drop]; simp; omega
  by_cases hov : 4 + 3 * n + start > src.length - 4 + adjust
  · -- overlap: the loop does not run; if the size check passes too, this is `invFaultPre`
    rw [invLoop_exit _ _ _ _ _ _ _ (by omega), Out.bind_ok]
    refine ite_of (fun _ => trivial) fun h5 => absurd ?_ hp
    rw [hsz] at h5
    exact ⟨by omega, by omega, by omega, by omega, by omega, ⟨m, hm⟩, by omega, by omega, by omega, hov⟩
  · -- no overlap: the loop ends at or before `srcEnd`, the tail copy stays inside the input
    refine (invLoop_sat src.toArray m _ (dstLen - 4) hb' (by simp; omega) src.length _ _ (by omega)).bind
      fun r hr => ite_of (fun _ => trivial) fun h5 => ?_
    have := hr (by omega)
    rw [copyN_ok _ _ _ _ _ (by simp; omega) (by omega), Out.bind_ok]
    trivial

theorem faultPre_of_utfInverse (v3 : Bool) (src : List Nat) (dstLen : Nat) (e : String) (hb : ∀ x ∈ src, x < 256)
    (h : utfInverse v3 src dstLen = .fault e) : e = "src-index" ∧ invFaultPre v3 src dstLen := by
  by_cases hp : invFaultPre v3 src dstLen
  · rw [utfInverse_of_faultPre v3 src dstLen hp] at h
    cases h
    exact ⟨rfl, hp⟩
  · exact absurd h ((utfInverse_nf v3 src dstLen hb hp).nf e)

theorem utfInverse_fault_iff (v3 : Bool) (src : List Nat) (dstLen : Nat) (e : String) (hb : ∀ x ∈ src, x < 256) :
    utfInverse v3 src dstLen = .fault e ↔ (e = "src-index" ∧ invFaultPre v3 src dstLen) :=
  ⟨faultPre_of_utfInverse v3 src dstLen e hb, fun ⟨he, hp⟩ => he ▸ utfInverse_of_faultPre v3 src dstLen hp⟩

/-- Inverse on ANY input and ANY destination size: a block, a clean error, or - only when the header
    makes head and tail overlap - a read past the end of the input -/
theorem utfInverse_fault (v3 : Bool) (src : List Nat) (dstLen : Nat) (e : String) (hb : ∀ x ∈ src, x < 256)
    (h : utfInverse v3 src dstLen = .fault e) : invOverlap src :=
  (faultPre_of_utfInverse v3 src dstLen e hb h).2.2.2.2.2.2.2.2.2.2

end Kanzi.UTF
