/-
inverseBiPSIv2: the decoding loops on the tables built from the spec output of a block `s`.
One step at the row of suffix `j` (`j + 2 <= n`): the fast-bits entry is at or before the bigram of the
row, the scan stops exactly at it, the two bytes written are `s[j]`, `s[j+1]`, and the next row is the row
of suffix `j + 2` (`lane_steps`, `lanesIter_spec`).  A loop fills the ranges of its lanes
(`lanesLoop_fill`), the tasks one after the other extend the decoded prefix chunk by chunk
(`task_spec`, `runTasks_spec`), hence `inverseBiPSIv2 (spec output of s) = s` (`biPSIv2_spec`) and the
BWTBlockCodec round trip for blocks above 4 MiB (`block_roundtrip_big`).
-/
import Kanzi.Proofs.BWTBiLF
import Kanzi.Proofs.BWTBiTotal

namespace Kanzi.BWT

/-! ## one iteration -/

theorem scan_exact (bk : Array Nat) (hs : bk.size = 65536) (p t : Nat) (ht : t < 65536) (hgt : p < rd bk t)
    (fuel s0 : Nat) (hst : s0 ≤ t) (hfuel : t - s0 < fuel) (hle : ∀ u, s0 ≤ u → u < t → rd bk u ≤ p) :
    scan bk p fuel s0 = .ok t := by
  induction fuel generalizing s0 with
  | zero => omega
  | succ f ih =>
    have hs' : s0 < bk.size := by omega
    simp only [scan, hs', dite_true, rd_eq_getElem hs']
    by_cases he : s0 = t
    · subst he
      rw [if_neg (by omega)]
    · rw [if_pos (hle s0 (Nat.le_refl _) (by omega))]
      have e : (s0 + 1) % 65536 = s0 + 1 := Nat.mod_eq_of_lt (by omega)
      rw [e]
      exact ih (s0 + 1) (by omega) (by omega) (fun u h1 h2 => hle u (by omega) h2)

/-- everything the decoding loops use: the invariant of the second loop (for the fast-bits table) and
the tables, built from the spec output of `s`; `bk2` = `buckets` before the scatter loops, `data0` = the
work buffer before them -/
structure DecCtx (s : List Nat) (sh : Shared) (v : Nat) (bk2 data0 : Array Nat) : Prop where
  n2 : 2 ≤ s.length
  nlt : s.length < 2 ^ 63
  bytes : ∀ x ∈ s, x < 256
  st : StInv (bwtData s).toArray (zpos s + 1) sh.shift 65536 v bk2 sh.fastBits
  tab : Tables (bwtData s).toArray (zpos s + 1) data0 sh.buckets sh.data
  shiftok : s.length >>> sh.shift ≤ MASK_FASTBITS
  dsize : s.length + 1 ≤ data0.size

variable {s : List Nat} {sh : Shared} {v : Nat} {bk2 data0 : Array Nat}

theorem rowS_of_lt (j : Nat) (hj : j < s.length) : rowS s j = rowOf s j := by
  unfold rowS; rw [if_neg (by omega)]

/-- the scan from the fast-bits entry of the row of suffix `j` stops at the bigram at `j` -/
theorem decode_bigram (h : DecCtx s sh v bk2 data0) (j : Nat) (hj : j + 2 ≤ s.length) :
    scan sh.buckets (rowOf s j) 65536 (rd sh.fastBits (rowOf s j >>> sh.shift)) = .ok (big s j) := by
  obtain ⟨h1, h2, _⟩ := table2 s h.n2 h.bytes data0 _ _ h.tab j hj
  have hk := big_lt s h.bytes j
  generalize big s j = kk at *
  generalize rowOf s j = p at *
  have hcnt : cntK (bwtData s).toArray (zpos s + 1) kk ≠ 0 := by unfold endK at h2; omega
  have hu : p >>> sh.shift ≤ (endK (bwtData s).toArray (zpos s + 1) kk - 1) >>> sh.shift :=
    shr_mono _ _ _ (by omega)
  obtain ⟨_, _, _, f3⟩ := h.st.fb _ (Nat.lt_of_le_of_lt hu (h.st.vhi kk hk hcnt))
  have hle0 : rd sh.fastBits (p >>> sh.shift) ≤ kk := by
    refine Classical.byContradiction fun hgt => ?_
    have := f3 kk (by omega) hcnt
    omega
  apply scan_exact sh.buckets h.tab.bksize p kk hk (by rw [h.tab.ends kk hk]; exact h2) 65536 _ hle0 (by omega)
  intro u hu1 hu2
  rw [h.tab.ends u (by omega)]
  exact Nat.le_trans (endK_le_startK _ _ hu2) h1

theorem mapRes_ok_map {α β : Type} (f : α → Res β) (g : α → β) (l : List α) (h : ∀ a ∈ l, f a = .ok (g a)) :
    mapRes f l = .ok (l.map g) := by
  induction l with
  | nil => rfl
  | cons a as ih =>
    simp only [mapRes, h a List.mem_cons_self, Res.bind_ok, ih (fun x hx => h x (List.mem_cons_of_mem _ hx)), List.map_cons]

/-- concrete lanes for the bases `bs` when the loop index is `i` -/
def lanesAt (s : List Nat) (bs : List Nat) (i : Nat) : List (Nat × Nat) := bs.map (fun b => (rowS s (b + i - 1), b))

theorem big_bytes (hb : ∀ x ∈ s, x < 256) (j : Nat) :
    (big s j >>> 8) % 256 = s.getD j 0 ∧ big s j % 256 = s.getD (j + 1) 0 := by
  have h1 := getD_lt s hb j
  have h2 := getD_lt s hb (j + 1)
  unfold big flat
  rw [Nat.shiftRight_eq_div_pow]
  have : (2 : Nat) ^ 8 = 256 := by decide
  rw [this]
  omega

def resVal (r : Res Nat) : Nat := match r with
  | .ok a => a
  | _ => 0

theorem resVal_ok {r : Res Nat} (h : ∃ a, r = .ok a) : r = .ok (resVal r) := by
  obtain ⟨a, rfl⟩ := h; rfl

/-- Below position `n - 1`, `b` is `a` with some bytes replaced by those `s` has there.  Every store of
the decoding loops is of that kind, so neither the order of the stores nor their overlaps matter. -/
def Toward (s : List Nat) (a b : Array Nat) : Prop :=
  b.size = a.size ∧ ∀ pos, pos < s.length - 1 → rd b pos = rd a pos ∨ rd b pos = s.getD pos 0

theorem Toward.size {a b : Array Nat} (h : Toward s a b) : b.size = a.size := h.1

theorem Toward.refl (s : List Nat) (a : Array Nat) : Toward s a a := ⟨rfl, fun _ _ => Or.inl rfl⟩

theorem Toward.set (a : Array Nat) {q x : Nat} (h : q < s.length - 1 → x = s.getD q 0) :
    Toward s a (a.setIfInBounds q x) := by
  refine ⟨Array.size_setIfInBounds .., fun pos hp => ?_⟩
  rw [rd_setIfInBounds]
  by_cases e : q = pos ∧ q < a.size
  · rw [if_pos e]
    obtain ⟨rfl, _⟩ := e
    exact Or.inr (h hp)
  · rw [if_neg e]
    exact Or.inl rfl

theorem Toward.trans {a b c : Array Nat} (h1 : Toward s a b) (h2 : Toward s b c) : Toward s a c :=
  ⟨h2.1.trans h1.1, fun pos hp => (h2.2 pos hp).elim (fun e => e ▸ h1.2 pos hp) Or.inr⟩

theorem Toward.keep {a b : Array Nat} (h : Toward s a b) {pos : Nat} (hp : pos < s.length - 1)
    (e : rd a pos = s.getD pos 0) : rd b pos = s.getD pos 0 :=
  (h.2 pos hp).elim (fun e' => e'.trans e) id

/-- a run of byte stores inside `dst`, each (below `n - 1`) storing the byte `s` has there -/
theorem writeAll_toward (ws : List (Nat × Nat)) (dst : Array Nat) (hsz : ∀ w ∈ ws, w.1 < dst.size)
    (htrue : ∀ w ∈ ws, w.1 < s.length - 1 → w.2 % 256 = s.getD w.1 0) :
    ∃ dst', writeAll ws dst = .ok dst' ∧ Toward s dst dst' ∧
      ∀ w ∈ ws, w.1 < s.length - 1 → rd dst' w.1 = s.getD w.1 0 := by
  induction ws generalizing dst with
  | nil => exact ⟨dst, rfl, Toward.refl s dst, fun _ hw => nomatch hw⟩
  | cons w ws ih =>
    have hq : w.1 < dst.size := hsz w List.mem_cons_self
    have hw : write1 dst w.1 w.2 = .ok (dst.setIfInBounds w.1 (w.2 % 256)) := by
      unfold write1; rw [if_neg (by omega)]
    have hrd : rd (dst.setIfInBounds w.1 (w.2 % 256)) w.1 = w.2 % 256 := by
      rw [rd_setIfInBounds, if_pos ⟨rfl, hq⟩]
    have h1 : Toward s dst (dst.setIfInBounds w.1 (w.2 % 256)) := Toward.set dst (htrue w List.mem_cons_self)
    obtain ⟨d', r, ht, hc⟩ := ih (dst.setIfInBounds w.1 (w.2 % 256))
      (fun x hx => by rw [Array.size_setIfInBounds]; exact hsz x (List.mem_cons_of_mem _ hx))
      (fun x hx => htrue x (List.mem_cons_of_mem _ hx))
    refine ⟨d', by simp only [writeAll, hw, Res.bind_ok, r], h1.trans ht, fun x hx hp => ?_⟩
    rcases List.mem_cons.1 hx with rfl | hx'
    · exact ht.keep hp (hrd.trans (htrue x List.mem_cons_self hp))
    · exact hc x hx' hp

/-- a lane standing at a suffix that still exists (`j = b + i - 1 <= n - 1`): its three table steps
succeed; when the suffix has a bigram they return exactly the bigram and the row two positions on -/
theorem lane_steps (h : DecCtx s sh v bk2 data0) (j : Nat) (hj : j + 1 ≤ s.length) :
    lookup sh (rowOf s j) = .ok (rd sh.fastBits (rowOf s j >>> sh.shift)) ∧
    (∃ r, scan sh.buckets (rowOf s j) 65536 (rd sh.fastBits (rowOf s j >>> sh.shift)) = .ok r) ∧
    next sh (rowOf s j) = .ok (rd sh.data (rowOf s j)) ∧
    (j + 2 ≤ s.length →
      scan sh.buckets (rowOf s j) 65536 (rd sh.fastBits (rowOf s j >>> sh.shift)) = .ok (big s j) ∧
      rd sh.data (rowOf s j) = rowS s (j + 2)) := by
  have hp := rowOf_bounds s j (by omega)
  have hsz : rowOf s j >>> sh.shift < sh.fastBits.size := by
    rw [h.st.fbsize]; exact fastBits_idx hp.2 h.shiftok
  have hlook : lookup sh (rowOf s j) = .ok (rd sh.fastBits (rowOf s j >>> sh.shift)) := by
    unfold lookup
    have : ¬ rowOf s j ≥ 2 ^ 63 := by have := h.nlt; omega
    rw [if_neg this, Array.getElem?_eq_getElem hsz, rd_eq_getElem hsz]
    rfl
  have hnext : next sh (rowOf s j) = .ok (rd sh.data (rowOf s j)) := by
    have hlt : rowOf s j < sh.data.size := by have := h.dsize; rw [h.tab.dsize]; omega
    unfold next
    rw [Array.getElem?_eq_getElem hlt, rd_eq_getElem hlt]; rfl
  refine ⟨hlook, ?_, hnext, ?_⟩
  · -- some bucket end exceeds every row
    have hbsrc : ∀ b ∈ (bwtData s).toArray.toList, b < 256 := bwtData_lt s h.bytes
    have hs1 : 1 ≤ s.length := by have := h.n2; omega
    have hsize := bwtData_size s hs1
    have hz := zpos_lt s hs1
    have hlast : (65535 : Nat) < 65536 := Nat.lt_succ_self _
    have htop : rowOf s j < rd sh.buckets 65535 := by
      rw [h.tab.ends 65535 hlast, endK_last _ hbsrc _ ⟨by omega, by rw [hsize]; omega⟩, hsize]; omega
    exact scan_total sh.buckets h.tab.bksize (rowOf s j) 65535 hlast htop 65536 _ (h.st.fblt _)
      (Nat.mod_lt _ (by decide))
  · intro hj2
    exact ⟨decode_bigram h j hj2, (table2 s h.n2 h.bytes data0 _ _ h.tab j hj2).2.2⟩

/-- ONE ITERATION of a decoding loop over the lanes with bases `bs`.  Every lane stands at a suffix that
has a bigram, or ("weak" lanes) at the last suffix while the second byte is not written.  Every store
below position `n - 1` is a byte of `s`; when no lane is weak the lanes move two positions forward. -/
theorem lanesIter_spec (h : DecCtx s sh v bk2 data0) (i : Nat) (hi : 1 ≤ i) (second : Bool) (bs : List Nat) (dst : Array Nat)
    (hdst : s.length ≤ dst.size)
    (hpre : ∀ b ∈ bs, b + i + 1 ≤ s.length ∨ (b + i ≤ s.length ∧ second = false)) :
    ∃ lanes' dst', lanesIter sh i second (lanesAt s bs i) dst = .ok (lanes', dst') ∧ Toward s dst dst' ∧
      ((∀ b ∈ bs, b + i + 1 ≤ s.length) → lanes' = lanesAt s bs (i + 2)) ∧
      ∀ b ∈ bs, ∀ pos, pos < s.length - 1 → (pos = b + i - 1 ∨ (second = true ∧ pos = b + i)) →
        rd dst' pos = s.getD pos 0 := by
  have hj1 : ∀ b ∈ bs, b + i - 1 + 1 ≤ s.length := by
    intro b hb; rcases hpre b hb with h1 | h1 <;> omega
  have hrow : ∀ b ∈ bs, rowS s (b + i - 1) = rowOf s (b + i - 1) := by
    intro b hb; exact rowS_of_lt _ (by have := hj1 b hb; omega)
  let sv : Nat → Nat := fun b =>
    resVal (scan sh.buckets (rowOf s (b + i - 1)) 65536 (rd sh.fastBits (rowOf s (b + i - 1) >>> sh.shift)))
  have hsv : ∀ b ∈ bs, b + i + 1 ≤ s.length → sv b = big s (b + i - 1) := by
    intro b hb hv
    have := ((lane_steps h (b + i - 1) (hj1 b hb)).2.2.2 (by omega)).1
    simp only [sv, this, resVal]
  have hlook : mapRes (fun l : Nat × Nat => lookup sh l.1) (lanesAt s bs i)
      = .ok ((lanesAt s bs i).map (fun l => rd sh.fastBits (l.1 >>> sh.shift))) := by
    apply mapRes_ok_map
    intro l hl
    obtain ⟨b, hb, rfl⟩ := List.mem_map.1 hl
    simp only
    rw [hrow b hb]
    exact (lane_steps h (b + i - 1) (hj1 b hb)).1
  have hzip : (lanesAt s bs i).zip ((lanesAt s bs i).map (fun l => rd sh.fastBits (l.1 >>> sh.shift)))
      = bs.map (fun b => ((rowS s (b + i - 1), b), rd sh.fastBits (rowS s (b + i - 1) >>> sh.shift))) := by
    simp only [lanesAt, List.map_map]
    exact List.zip_map'
  have hscan : mapRes (fun (x : (Nat × Nat) × Nat) => scan sh.buckets x.1.1 65536 x.2)
      (bs.map (fun b => ((rowS s (b + i - 1), b), rd sh.fastBits (rowS s (b + i - 1) >>> sh.shift))))
      = .ok ((bs.map (fun b => ((rowS s (b + i - 1), b), rd sh.fastBits (rowS s (b + i - 1) >>> sh.shift)))).map
          (fun x => sv x.1.2)) := by
    apply mapRes_ok_map
    intro x hx
    obtain ⟨b, hb, rfl⟩ := List.mem_map.1 hx
    simp only
    rw [hrow b hb]
    exact resVal_ok (lane_steps h (b + i - 1) (hj1 b hb)).2.1
  have hws : ((lanesAt s bs i).map (·.2)).zip
      ((bs.map (fun b => ((rowS s (b + i - 1), b), rd sh.fastBits (rowS s (b + i - 1) >>> sh.shift)))).map
          (fun x => sv x.1.2))
      = bs.map (fun b => (b, sv b)) := by
    simp only [lanesAt, List.map_map]
    exact List.zip_map'
  obtain ⟨d1, w1, t1, c1⟩ := writeAll_toward (s := s) (bs.map (fun b => (b + i - 1, sv b >>> 8))) dst
    (by
      intro w hw
      obtain ⟨b, hb, rfl⟩ := List.mem_map.1 hw
      have := hj1 b hb
      show b + i - 1 < dst.size
      omega)
    (by
      intro w hw hp
      obtain ⟨b, hb, rfl⟩ := List.mem_map.1 hw
      -- below `n - 1`, so the lane has a bigram
      have hp : b + i - 1 < s.length - 1 := hp
      rw [hsv b hb (by omega)]
      exact (big_bytes h.bytes (b + i - 1)).1)
  obtain ⟨d2, w2, t2, c2⟩ : ∃ d2,
      (if second = true then writeAll (bs.map (fun b => (b + i, sv b))) d1 else Res.ok d1) = .ok d2 ∧
      Toward s d1 d2 ∧ (second = true → ∀ b ∈ bs, b + i < s.length - 1 → rd d2 (b + i) = s.getD (b + i) 0) := by
    cases hsec : second with
    | false => exact ⟨d1, rfl, Toward.refl s d1, fun hh => nomatch hh⟩
    | true =>
      -- second byte written: no lane is weak
      have hv : ∀ b ∈ bs, b + i + 1 ≤ s.length := fun b hb =>
        (hpre b hb).elim id fun h1 => by rw [hsec] at h1; cases h1.2
      obtain ⟨d2, w2, t2, c2⟩ := writeAll_toward (s := s) (bs.map (fun b => (b + i, sv b))) d1
        (by
          intro w hw
          obtain ⟨b, hb, rfl⟩ := List.mem_map.1 hw
          have := hv b hb
          show b + i < d1.size
          rw [t1.size]; omega)
        (by
          intro w hw _
          obtain ⟨b, hb, rfl⟩ := List.mem_map.1 hw
          rw [hsv b hb (hv b hb), (big_bytes h.bytes (b + i - 1)).2, Nat.sub_add_cancel (by omega)])
      exact ⟨d2, w2, t2, fun _ b hb hp => c2 (b + i, sv b) (List.mem_map.2 ⟨b, hb, rfl⟩) hp⟩
  have hnext : mapRes (fun l : Nat × Nat => (next sh l.1).bind fun p => Res.ok (p, l.2)) (lanesAt s bs i)
      = .ok ((lanesAt s bs i).map (fun l => (rd sh.data l.1, l.2))) := by
    apply mapRes_ok_map
    intro l hl
    obtain ⟨b, hb, rfl⟩ := List.mem_map.1 hl
    simp only
    rw [hrow b hb, (lane_steps h (b + i - 1) (hj1 b hb)).2.2.1]
    rfl
  refine ⟨(lanesAt s bs i).map (fun l => (rd sh.data l.1, l.2)), d2, ?_, t1.trans t2, ?_, ?_⟩
  · unfold lanesIter
    rw [hlook, Res.bind_ok, hzip, hscan, Res.bind_ok, hws]
    simp only [writeFirst_eq, writeSecond_eq, List.map_map, Function.comp_def]
    rw [w1, Res.bind_ok, w2, Res.bind_ok, hnext, Res.bind_ok]
  · intro hall
    simp only [lanesAt, List.map_map, Function.comp_def]
    apply List.map_congr_left
    intro b hb
    have hv := hall b hb
    rw [hrow b hb, ((lane_steps h (b + i - 1) (hj1 b hb)).2.2.2 (by omega)).2]
    have e1 : b + i - 1 + 2 = b + i + 1 := by omega
    have e2 : b + (i + 2) - 1 = b + i + 1 := by omega
    rw [e1, e2]
  · rintro b hb pos hpos (rfl | ⟨hs2, rfl⟩)
    · exact t2.keep hpos (c1 (b + i - 1, sv b >>> 8) (List.mem_map.2 ⟨b, hb, rfl⟩) hpos)
    · exact c2 hs2 b hb hpos

/-! ## loops, tasks, the whole call -/

/-- THE LOOP `for i := start + 1; i <= fin; i += 2` over the lanes with bases `bs`, each standing at the
suffix `b + start`; the second byte is written at least while `i < fin`.  Every lane fills
`[b + start, b + fin)` with its bytes of `s` (below position `n - 1`).  In the last iteration a lane may
stand at the last suffix when the second byte is not written. -/
theorem lanesLoop_fill (h : DecCtx s sh v bk2 data0) (sec : Nat → Bool) (fin : Nat) (hsec : ∀ i, i < fin → sec i = true)
    (bs : List Nat) (hfit : ∀ b ∈ bs, b + fin + 1 ≤ s.length ∨ (b + fin ≤ s.length ∧ sec fin = false))
    (k start : Nat) (hk : pairCount start fin = k) (dst : Array Nat) (hdst : s.length ≤ dst.size) :
    ∃ dst', lanesLoop sh sec k (start + 1) (lanesAt s bs (start + 1)) dst = .ok dst' ∧ Toward s dst dst' ∧
      ∀ b ∈ bs, ∀ pos, pos < s.length - 1 → b + start ≤ pos → pos < b + fin → rd dst' pos = s.getD pos 0 := by
  induction k generalizing start dst with
  | zero =>
    refine ⟨dst, rfl, Toward.refl s dst, fun b _ pos _ h1 h2 => ?_⟩
    unfold pairCount at hk
    omega
  | succ k ih =>
    have hlt : start + 1 ≤ fin := by unfold pairCount at hk; omega
    have hk' : pairCount (start + 2) fin = k := by unfold pairCount at hk ⊢; omega
    clear hk
    have hfin : ∀ b ∈ bs, b + fin ≤ s.length := by
      intro b hb
      rcases hfit b hb with h1 | h1 <;> omega
    obtain ⟨lanes', d1, r1, t1, l1, c1⟩ := lanesIter_spec h (start + 1) (by omega) (sec (start + 1)) bs dst hdst (by
      intro b hb
      by_cases hlast : start + 1 = fin
      · rw [hlast]; exact hfit b hb
      · have := hfin b hb
        left; omega)
    obtain ⟨d2, r2, t2, c2⟩ : ∃ d2, lanesLoop sh sec k (start + 1 + 2) lanes' d1 = .ok d2 ∧ Toward s d1 d2 ∧
        ∀ b ∈ bs, ∀ pos, pos < s.length - 1 → b + (start + 2) ≤ pos → pos < b + fin → rd d2 pos = s.getD pos 0 := by
      cases k with
      | zero =>
        unfold pairCount at hk'
        exact ⟨d1, rfl, Toward.refl s d1, fun b _ pos _ h1 h2 => by omega⟩
      | succ k =>
        have hlt3 : start + 3 ≤ fin := by unfold pairCount at hk'; omega
        rw [l1 (fun b hb => by have := hfin b hb; omega)]
        exact ih (start + 2) hk' d1 (by rw [t1.size]; exact hdst)
    refine ⟨d2, by simp only [lanesLoop, r1, Res.bind_ok]; exact r2, t1.trans t2, fun b hb pos hpos h1 h2 => ?_⟩
    by_cases h3 : b + (start + 2) ≤ pos
    · exact c2 b hb pos hpos h3 h2
    · -- written by the first iteration; later stores keep it
      refine t2.keep hpos (c1 b hb pos hpos ?_)
      by_cases h4 : pos = b + (start + 1) - 1
      · exact Or.inl h4
      · exact Or.inr ⟨hsec _ (by omega), by omega⟩

def Pref (s : List Nat) (dst : Array Nat) (e : Nat) : Prop := ∀ pos, pos < e → rd dst pos = s.getD pos 0

/-- start of chunk `c` as the single-lane loop reaches it -/
def stOf (s : List Nat) (ck c : Nat) : Nat := min (c * ck) (s.length - 1)

/-- THE SINGLE-LANE LOOP over the chunks `c .. lc-1`: extends the decoded prefix to the start of chunk `lc` -/
theorem singleLoop_spec (h : DecCtx s sh v bk2 data0) (ck : Nat) (hck : 7 * ck < s.length ∧ s.length ≤ 8 * ck)
    (hidx : ∀ k, k < 8 → sh.indexes[k]? = some (rowOf s (k * ck))) (lc : Nat) (hlc : lc ≤ 8)
    (fuel c : Nat) (hf : lc - c ≤ fuel) (hc : c ≤ lc) (dst : Array Nat) (hsz : s.length ≤ dst.size)
    (hpref : Pref s dst (stOf s ck c)) :
    ∃ dst', singleLoop sh s.length ck lc fuel c (stOf s ck c) dst = .ok dst' ∧ dst'.size = dst.size ∧
      Pref s dst' (stOf s ck lc) := by
  induction fuel generalizing c dst with
  | zero =>
    have : c = lc := by omega
    subst this
    exact ⟨dst, rfl, rfl, hpref⟩
  | succ f ih =>
    by_cases hlt : c < lc
    · have hc7 : c ≤ 7 := by omega
      have hmul : c * ck ≤ 7 * ck := Nat.mul_le_mul_right _ hc7
      have hst : stOf s ck c = c * ck := by unfold stOf; omega
      have hfin : min (c * ck + ck) (s.length - 1) = stOf s ck (c + 1) := by
        unfold stOf; rw [Nat.succ_mul]
      have hfin_le : stOf s ck (c + 1) ≤ s.length - 1 := by unfold stOf; omega
      have hlanes : [(rowOf s (c * ck), 0)] = lanesAt s [0] (c * ck + 1) := by
        simp only [lanesAt, List.map_cons, List.map_nil]
        have : 0 + (c * ck + 1) - 1 = c * ck := by omega
        rw [this, rowS_of_lt _ (by omega)]
      have hn2 := h.n2
      obtain ⟨d1, r1, t1, c1⟩ := lanesLoop_fill h
        (fun i => decide (i < stOf s ck (c + 1)) || decide (stOf s ck (c + 1) = s.length - 1))
        (stOf s ck (c + 1)) (fun i hi => by simp [hi]) [0]
        (by intro b hb; simp only [List.mem_singleton] at hb; subst hb; left; omega)
        _ (c * ck) rfl dst hsz
      have hpref1 : Pref s d1 (stOf s ck (c + 1)) := by
        intro pos hpos
        by_cases hp : pos < c * ck
        · exact t1.keep (by omega) (hpref pos (by rw [hst]; exact hp))
        · exact c1 0 (List.mem_singleton.2 rfl) pos (by omega) (by omega) (by omega)
      obtain ⟨d2, r2, s2, p2⟩ := ih (c + 1) (by omega) (by omega) d1 (by rw [t1.size]; exact hsz) hpref1
      refine ⟨d2, ?_, by rw [s2, t1.size], p2⟩
      simp only [singleLoop, hlt, ite_true, hst, hfin, hidx c (by omega), hlanes]
      rw [r1, Res.bind_ok]
      exact r2
    · have : c = lc := by omega
      subst this
      refine ⟨dst, ?_, rfl, hpref⟩
      simp only [singleLoop, hlt, ite_false]

theorem pos_in_chunk (ck pos : Nat) (hck : 0 < ck) (hpos : pos < 8 * ck) :
    ∃ b ∈ (List.range 8).map (· * ck), b ≤ pos ∧ pos < b + ck := by
  refine ⟨(pos / ck) * ck, List.mem_map.2 ⟨pos / ck, List.mem_range.2 ?_, rfl⟩, ?_, ?_⟩
  · exact Nat.div_lt_of_lt_mul (by rw [Nat.mul_comm]; exact hpos)
  · exact Nat.div_mul_le_self pos ck
  · have := Nat.lt_div_mul_add hck (a := pos)
    omega

/-- the only task of a block of `8 * ck` bytes: the unrolled eight-lane loop (for an odd `ck` the last
iteration writes first bytes only; lane 7 then stands at the last suffix) -/
theorem task_unrolled (h : DecCtx s sh v bk2 data0) (ck : Nat) (hn : s.length = 8 * ck) (hck0 : 0 < ck)
    (hidx : ∀ k, k < 8 → sh.indexes[k]? = some (rowOf s (k * ck))) (dst : Array Nat) (hsz : s.length ≤ dst.size) :
    ∃ dst', task sh dst s.length (0 * ck) ck 0 8 = .ok dst' ∧ dst'.size = dst.size ∧
      Pref s dst' (s.length - 1) := by
  have hps : mapRes (fun k => Res.ofOpt (sh.indexes[0 + k]?)) (List.range 8)
      = .ok ((List.range 8).map (fun k => rowOf s (k * ck))) := by
    apply mapRes_ok_map
    intro k hk
    rw [Nat.zero_add, hidx k (List.mem_range.1 hk)]
    rfl
  have hlanes : ((List.range 8).map (fun k => rowOf s (k * ck))).zip ((List.range 8).map (· * ck))
      = lanesAt s ((List.range 8).map (· * ck)) 1 := by
    rw [List.zip_map']
    simp only [lanesAt, List.map_map]
    apply List.map_congr_left
    intro k hk
    have hk8 := List.mem_range.1 hk
    have : k * ck ≤ 7 * ck := Nat.mul_le_mul_right _ (by omega)
    simp only [Function.comp]
    have e : k * ck + 1 - 1 = k * ck := by omega
    rw [e, rowS_of_lt _ (by omega)]
  have hbase : ∀ b ∈ (List.range 8).map (· * ck), b ≤ 7 * ck := by
    intro b hb
    obtain ⟨k, hk, rfl⟩ := List.mem_map.1 hb
    exact Nat.mul_le_mul_right _ (by have := List.mem_range.1 hk; omega)
  have hn2 := h.n2
  obtain ⟨d1, r1, t1, c1⟩ := lanesLoop_fill h (fun i => decide (i < 0 * ck + ck)) (0 * ck + ck)
    (fun i hi => decide_eq_true hi) ((List.range 8).map (· * ck))
    (by intro b hb; have := hbase b hb; exact Or.inr ⟨by omega, by simp⟩)
    _ (0 * ck) rfl dst hsz
  have hpref : Pref s d1 (s.length - 1) := by
    intro pos hpos
    obtain ⟨b, hb, h1, h2⟩ := pos_in_chunk ck pos hck0 (by omega)
    exact c1 b hb pos hpos (by omega) (by omega)
  refine ⟨d1, ?_, t1.size, hpref⟩
  unfold task
  have hc : (0 * ck) + 8 * ck ≤ s.length ∧ 0 + 7 < 8 := ⟨by omega, by omega⟩
  rw [if_neg (by omega), if_pos hc]
  simp only [hps, hlanes]
  have e1 : (0 * ck) + 1 = 1 := by omega
  rw [e1] at r1
  rw [e1, r1, Res.bind_ok, Res.bind_ok]
  simp only [singleLoop]
  rw [if_neg (by omega)]

theorem rd_extract0 (a : Array Nat) (n i : Nat) (hn : n ≤ a.size) (hi : i < n) : rd (a.extract 0 n) i = rd a i := by
  have h1 : i < (a.extract 0 n).size := by simp; omega
  have h2 : i < a.size := by omega
  rw [← rd_eq_getElem h1, ← rd_eq_getElem h2, Array.getElem_extract]
  simp

theorem stOf_eight (ck : Nat) (hck : s.length ≤ 8 * ck) : stOf s ck 8 = s.length - 1 := by
  unfold stOf; omega

theorem task_spec (h : DecCtx s sh v bk2 data0) (ck : Nat) (hck : 7 * ck < s.length ∧ s.length ≤ 8 * ck)
    (hidx : ∀ k, k < 8 → sh.indexes[k]? = some (rowOf s (k * ck))) (fc lc : Nat) (hlc : lc ≤ 8) (hfc : fc < lc)
    (dst : Array Nat) (hsz : s.length ≤ dst.size) (hpref : Pref s dst (stOf s ck fc)) :
    ∃ dst', task sh dst s.length (fc * ck) ck fc lc = .ok dst' ∧ dst'.size = dst.size ∧
      Pref s dst' (stOf s ck lc) := by
  by_cases hun : fc * ck + 8 * ck ≤ s.length ∧ fc + 7 < lc
  · have hfc0 : fc = 0 := by omega
    have hlc8 : lc = 8 := by omega
    subst hfc0 hlc8
    rw [stOf_eight ck hck.2]
    exact task_unrolled h ck (by omega) (by have := h.n2; omega) hidx dst hsz
  · -- the chunks go through the single-lane loop (every task when there are at least two tasks, and
    -- the only task when the block length is not a multiple of 8)
    have hmul : fc * ck ≤ 7 * ck := Nat.mul_le_mul_right _ (by omega)
    have hst : stOf s ck fc = fc * ck := by unfold stOf; omega
    obtain ⟨d, r, s1, p⟩ := singleLoop_spec h ck hck hidx lc hlc 8 fc (by omega) (by omega) dst hsz hpref
    refine ⟨d, ?_, s1, p⟩
    unfold task
    rw [if_neg (by omega), if_neg hun, Res.bind_ok]
    rw [hst] at r
    exact r

theorem runTasks_spec (h : DecCtx s sh v bk2 data0) (ck : Nat) (hck : 7 * ck < s.length ∧ s.length ≤ 8 * ck)
    (hidx : ∀ k, k < 8 → sh.indexes[k]? = some (rowOf s (k * ck)))
    (l : List Nat) (c : Nat) (hl : ∀ k ∈ l, 1 ≤ k) (hsum : c + l.sum ≤ 8)
    (dst : Array Nat) (hsz : s.length ≤ dst.size) (hpref : Pref s dst (stOf s ck c)) :
    ∃ dst', runTasks sh s.length ck (Kanzi.Jobs.chunkRanges l c) dst false = .ok (dst', false) ∧
      dst'.size = dst.size ∧ Pref s dst' (stOf s ck (c + l.sum)) := by
  induction l generalizing c dst with
  | nil => exact ⟨dst, rfl, rfl, by simpa using hpref⟩
  | cons k ks ih =>
    have hk := hl k List.mem_cons_self
    rw [List.sum_cons] at hsum
    obtain ⟨d1, r1, s1, p1⟩ := task_spec h ck hck hidx c (c + k) (by omega) (by omega) dst hsz hpref
    obtain ⟨d2, r2, s2, p2⟩ := ih (c + k) (fun x hx => hl x (List.mem_cons_of_mem _ hx)) (by omega) d1
      (by rw [s1]; exact hsz) p1
    refine ⟨d2, ?_, by rw [s2, s1], by rw [List.sum_cons, ← Nat.add_assoc]; exact p2⟩
    simp only [Kanzi.Jobs.chunkRanges, runTasks, r1]
    exact r2

/-- a decoded prefix of `n - 1` bytes and the last byte make the block -/
theorem pref_finish (hs : 1 ≤ s.length) (d : Array Nat) (hd : s.length ≤ d.size) (hp : Pref s d (s.length - 1)) :
    (d.setIfInBounds (s.length - 1) (s.getD (s.length - 1) 0)).extract 0 s.length = s.toArray := by
  apply eq_toArray_of_rd
  · simp only [Array.size_extract, Array.size_setIfInBounds]; omega
  · intro i hi
    rw [rd_extract0 _ _ _ (by simp only [Array.size_setIfInBounds]; omega) hi, rd_setIfInBounds]
    by_cases hlast : s.length - 1 = i
    · rw [if_pos ⟨hlast, by omega⟩, hlast]
    · rw [if_neg (fun hh => hlast hh.1)]
      exact hp i (by omega)

/-- `inverseBiPSIv2` ON THE SPEC OUTPUT OF `s` RETURNS `s`: for every block of at least 256 bytes (the
code uses the algorithm above 4 MiB), every job count, every destination at least as long as the
block (exactly as long included), any stale work buffer and any extra index slots. -/
theorem biPSIv2_spec (s : List Nat) (hn : 256 ≤ s.length) (hlt : s.length < 2 ^ 63) (hb : ∀ x ∈ s, x < 256)
    (buf : Array Nat) (rest : List Nat) (jobs : Nat) (hjobs : 1 ≤ jobs) (dstLen : Nat) (hd : s.length ≤ dstLen) :
    (biPSIv2 buf (bwtIndexes s ++ rest) jobs (bwtData s).toArray dstLen).1 = .ok s.toArray := by
  have hs1 : 1 ≤ s.length := by omega
  have hs2 : 2 ≤ s.length := by omega
  have hsize := bwtData_size s hs1
  have hbsrc : ∀ b ∈ (bwtData s).toArray.toList, b < 256 := bwtData_lt s hb
  have hz := zpos_lt s hs1
  have hch := getBWTChunks_eq_eight.2 hn
  have hp0 : (bwtIndexes s ++ rest).getD 0 0 = zpos s + 1 := by
    rw [indexes_getD s rest 0 (by rw [hch]; omega)]; simp
  obtain ⟨hck1, hck2, hck3⟩ := chunkSize8_bounds s.length hn
  have hidxv : ∀ k, k < 8 → (bwtIndexes s ++ rest).getD k 0 = rowOf s (k * chunkSize s.length 8) := by
    intro k hk
    rw [indexes_getD s rest k (by rw [hch]; exact hk), hch]; rfl
  have hidx : ∀ k, k < 8 → (bwtIndexes s ++ rest)[k]? = some (rowOf s (k * chunkSize s.length 8)) := by
    intro k hk
    have hl : k < (bwtIndexes s ++ rest).length := by
      rw [List.length_append, bwtIndexes_length, hch]; omega
    have := hidxv k hk
    rw [List.getD_eq_getElem?_getD, List.getElem?_eq_getElem hl] at this
    rw [List.getElem?_eq_getElem hl]
    simpa using this
  rcases biPSIv2_eq buf (bwtIndexes s ++ rest) jobs (bwtData s).toArray dstLen hbsrc (by rw [hsize]; exact hlt)
      (by rw [hp0]; omega) hjobs with ⟨⟨i, hi, hbad⟩, _⟩ | ⟨_, bk2, fbs, v, bkT, d4, hst, htab, heq⟩
  · -- every index slot holds a row
    rw [hsize, hch] at hi
    have hmul : i * chunkSize s.length 8 ≤ 7 * chunkSize s.length 8 := Nat.mul_le_mul_right _ (by omega)
    rw [hidxv i hi, hsize] at hbad
    exact absurd (Or.inl (rowOf_bounds s _ (by omega)).2) hbad
  rw [heq]
  rw [hp0, hsize] at hst htab
  rw [hsize, hch]
  generalize hdata : ensureBuf buf (max (s.length + 1) 256) = data0 at htab
  have hsz0 : s.length + 1 ≤ data0.size := by
    rw [← hdata]; exact Nat.le_trans (Nat.le_max_left _ _) (ensureBuf_size_ge _ _)
  have hctx : DecCtx s (Shared.mk bkT fbs d4 (bwtIndexes s ++ rest) (shiftOf s.length)) v bk2 data0 :=
    ⟨hs2, hlt, hb, hst, htab, shiftOf_spec s.length (by omega), hsz0⟩
  have hdst0 : s.length ≤ (Array.replicate dstLen 0).size := by simp; exact hd
  have hpref0 : Pref s (Array.replicate dstLen 0) (stOf s (chunkSize s.length 8) 0) := by
    intro pos hpos; unfold stOf at hpos; omega
  obtain ⟨hl, hsum⟩ := expected_pos jobs 8 hjobs (by omega)
  obtain ⟨d, hr, hdsz, hpref⟩ := runTasks_spec hctx (chunkSize s.length 8) ⟨hck1, hck2⟩ hidx
    (Kanzi.Jobs.expected 8 (min jobs 8)) 0 hl (by omega) _ hdst0 hpref0
  rw [hsum, stOf_eight _ hck2] at hpref
  have hout := pref_finish hs1 d (by rw [hdsz]; exact hdst0) hpref
  rw [← bwtData_head s hs1] at hout
  simp only [biDecode, hr]
  rw [if_neg (by simp), if_pos (by rw [hdsz]; simp; omega), hout]

/-- BLOCK ROUND TRIP for blocks above 4 MiB (up to the 1 GiB limit): whatever instance state, job
count >= 1 and destination size (at least the block, exactly the block included), the inverse of the
forward output is the block. -/
theorem block_roundtrip_big (s : List Nat) (hbig : THRESHOLD2 < s.length) (hmax' : s.length ≤ MAX_BLOCK_SIZE)
    (hb : ∀ x ∈ s, x < 256) (fdst : Nat) (hfd : maxEncodedLen s.length ≤ fdst)
    (buf : Array Nat) (old : List Nat) (jobs idst : Nat) (hjobs : 1 ≤ jobs) (hid : s.length ≤ idst) :
    ∃ enc, blockForward s fdst = .ok enc ∧ enc.length ≤ maxEncodedLen s.length ∧
      (blockInverse buf old jobs enc.toArray idst).1 = .ok s.toArray := by
  have h256 : 256 ≤ s.length := by unfold THRESHOLD2 at hbig; omega
  obtain ⟨enc, hf, hle, hinv⟩ := blockInverse_forward s (by omega) hmax' fdst hfd buf old jobs idst (by omega)
  refine ⟨enc, hf, hle, ?_⟩
  have hsz := bwtData_size s (by omega)
  rw [hinv, bwtInverse_big _ _ _ _ _ (by rw [hsz]; exact hbig) (by rw [hsz]; exact hmax') (by rw [hsz]; exact hid)]
  exact biPSIv2_spec s h256 (by unfold MAX_BLOCK_SIZE at hmax'; omega) hb buf _ jobs hjobs idst hid

end Kanzi.BWT
