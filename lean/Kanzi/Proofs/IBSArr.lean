/-
Layer 1 (see `IBSSim`), `ReadArray`.  The abstract machine reads an array as
  aligned:   pull if empty; single bytes while the current word is not empty; `bulk` (whole bytes
             taken directly from the remaining bytes, 64 bits at a time); bytes; last bits
  unaligned: `rem / 64` word steps; bytes; last bits
and the concrete loops (buffer copies with refills, the 256-bit fast path) are simulated by it.
-/
import Kanzi.Proofs.IBSSim

namespace Kanzi.IBS

/-- loop state of `ReadArray` over the abstract machine (`Lp` with `A` for `St`); `rem` counts bits -/
structure ALp where
  st : A
  out : List Byte
  rem : Nat

inductive ALR where
  | ok (l : ALp)
  | panic (e : ErrKind) (a : A)

def ALR.bind (r : ALR) (f : ALp → ALR) : ALR :=
  match r with
  | .ok l => f l
  | .panic e a => .panic e a

def absL (l : Lp) : ALp := ⟨abs l.st, l.out, l.rem⟩

/-- simulation of one loop (segment) of `ReadArray`: same outcome, the states related by `abs`,
    `Inv` kept, and `Fresh` kept on success -/
def SimL (r : LR) (r' : ALR) : Prop :=
  match r, r' with
  | .ok l, .ok l' => absL l = l' ∧ Inv l.st ∧ Fresh l.st
  | .panic e s, .panic e' a => e = e' ∧ abs s = a ∧ Inv s
  | _, _ => False

theorem SimL.bind' {r : LR} {r' : ALR} {f : Lp → LR} {f' : ALp → ALR} (P : Lp → Prop)
    (h : SimL r r') (hp : ∀ l, r = .ok l → P l)
    (hf : ∀ l, Inv l.st → Fresh l.st → P l → SimL (f l) (f' (absL l))) :
    SimL (r.bind f) (r'.bind f') := by
  cases r with
  | ok l =>
    cases r' with
    | ok l' =>
      obtain ⟨h1, h2, h3⟩ := h
      subst h1
      exact hf l h2 h3 (hp l rfl)
    | panic e a => exact h.elim
  | panic e s =>
    cases r' with
    | ok l' => exact h.elim
    | panic e' a => exact h

theorem SimL.bind {r : LR} {r' : ALR} {f : Lp → LR} {f' : ALp → ALR} (h : SimL r r')
    (hf : ∀ l, Inv l.st → Fresh l.st → SimL (f l) (f' (absL l))) :
    SimL (r.bind f) (r'.bind f') :=
  SimL.bind' (fun _ => True) h (fun _ _ => trivial) (fun l h1 h2 _ => hf l h1 h2)

def A.byteStep (l : ALp) : ALR :=
  match (A.readBits l.st 8).1 with
  | .val v => .ok ⟨(A.readBits l.st 8).2, l.out ++ [v.setWidth 8], l.rem - 8⟩
  | .panic e => .panic e (A.readBits l.st 8).2

def A.emptyCur : Nat → ALp → ALR
  | 0, l => .panic .fuel l.st
  | fuel + 1, l =>
    if l.st.avail ≠ 0 ∧ l.rem ≥ 8 then (A.byteStep l).bind (A.emptyCur fuel) else .ok l

def A.tailBytes : Nat → ALp → ALR
  | 0, l => .panic .fuel l.st
  | fuel + 1, l => if l.rem ≥ 8 then (A.byteStep l).bind (A.tailBytes fuel) else .ok l

def A.tailBits (l : ALp) : ALR :=
  if l.rem > 0 then
    match (A.readBits l.st l.rem).1 with
    | .val v => .ok ⟨(A.readBits l.st l.rem).2, l.out ++ [(v <<< (8 - l.rem)).setWidth 8], 0⟩
    | .panic e => .panic e (A.readBits l.st l.rem).2
  else .ok l

def A.skip (a : A) (b : Nat) : A :=
  { a with rest := a.rest.drop b, cnt := a.cnt + 8 * (b : Int) }

/-- whole bytes taken directly from the remaining bytes: as many 64-bit groups as `rem` holds;
    if the bytes do not suffice everything is consumed before the end is noticed -/
def A.bulk (l : ALp) : ALR :=
  if l.rem / 8 > l.st.rest.length then .panic l.st.ending (l.st.skip l.st.rest.length)
  else
    .ok ⟨l.st.skip (l.rem / 64 * 8), l.out ++ l.st.rest.take (l.rem / 64 * 8),
      l.rem - 8 * (l.rem / 64 * 8)⟩

def A.alignedStart (l : ALp) : ALR :=
  if l.st.avail = 0 then
    match l.st.pull.1 with
    | some e => .panic e l.st.pull.2
    | none => .ok { l with st := l.st.pull.2 }
  else .ok l

def A.aligned (l : ALp) : ALR :=
  ((A.alignedStart l).bind (fun l1 => A.emptyCur (l1.st.avail / 8 + 2) l1)).bind A.bulk

/-- one word step of the unaligned loops (`r = 64 - a`) -/
def A.slowStep (r : Nat) (l : ALp) : ALR :=
  match l.st.pull.1 with
  | some e => .panic e l.st.pull.2
  | none =>
    if l.st.pull.2.avail < r then .panic l.st.ending l.st.pull.2
    else
      .ok ⟨l.st.pull.2.take r,
        l.out ++ wordBytes ((l.st.cur <<< r) ||| (l.st.pull.2.cur >>> (l.st.pull.2.avail - r))),
        l.rem - 64⟩

def A.words (r : Nat) : Nat → ALp → ALR
  | 0, l => .ok l
  | n + 1, l => (A.slowStep r l).bind (A.words r n)

theorem byteStep_sim (l : Lp) (hi : Inv l.st) (hf : Fresh l.st) :
    SimL (byteStep l) (A.byteStep (absL l)) := by
  obtain ⟨q1, q2, q3, q4⟩ := readBits_sim l.st 8 hi
  unfold byteStep A.byteStep
  have : (absL l).st = abs l.st := rfl
  rw [this, ← q1]
  cases hr : (readBits l.st 8).1 with
  | val v =>
    refine ⟨?_, q3, q4 hf ?_⟩
    · simp only [absL, q2]
    · intro e he; rw [hr] at he; cases he
  | panic e => exact ⟨rfl, q2, q3⟩

theorem emptyCur_sim : ∀ (fuel : Nat) (l : Lp), Inv l.st → Fresh l.st →
    SimL (emptyCur fuel l) (A.emptyCur fuel (absL l)) := by
  intro fuel
  induction fuel with
  | zero => intro l hi _; exact ⟨rfl, rfl, hi⟩
  | succ fuel ih =>
    intro l hi hf
    unfold emptyCur A.emptyCur
    have h1 : (absL l).st.avail = l.st.availBits := rfl
    have h2 : (absL l).rem = l.rem := rfl
    rw [h1, h2]
    split
    · exact SimL.bind (byteStep_sim l hi hf) ih
    · exact ⟨rfl, hi, hf⟩

theorem tailBytes_sim : ∀ (fuel : Nat) (l : Lp), Inv l.st → Fresh l.st →
    SimL (tailBytes fuel l) (A.tailBytes fuel (absL l)) := by
  intro fuel
  induction fuel with
  | zero => intro l hi _; exact ⟨rfl, rfl, hi⟩
  | succ fuel ih =>
    intro l hi hf
    unfold tailBytes A.tailBytes
    have h2 : (absL l).rem = l.rem := rfl
    rw [h2]
    split
    · exact SimL.bind (byteStep_sim l hi hf) ih
    · exact ⟨rfl, hi, hf⟩

theorem tailBits_sim (l : Lp) (hi : Inv l.st) (hf : Fresh l.st) :
    SimL (tailBits l) (A.tailBits (absL l)) := by
  obtain ⟨q1, q2, q3, q4⟩ := readBits_sim l.st l.rem hi
  unfold tailBits A.tailBits
  have h1 : (absL l).st = abs l.st := rfl
  have h2 : (absL l).rem = l.rem := rfl
  rw [h1, h2, ← q1]
  split
  · cases hr : (readBits l.st l.rem).1 with
    | val v =>
      refine ⟨?_, q3, q4 hf ?_⟩
      · simp only [absL, q2]
      · intro e he; rw [hr] at he; cases he
    | panic e => exact ⟨rfl, q2, q3⟩
  · exact ⟨rfl, hi, hf⟩

/-- `n` buffered bytes handed over directly: the position advances, the abstract machine skips -/
theorem abs_advance (s : St) (hi : Inv s) (hf : Fresh s) (n : Nat) (hn : n ≤ s.bufRest.length)
    (h8 : n % 8 = 0 ∨ n = s.bufRest.length) :
    abs { s with position := s.position + n } = (abs s).skip n ∧
    Inv { s with position := s.position + n } ∧ Fresh { s with position := s.position + n } ∧
    ({ s with position := s.position + n } : St).bufRest = s.bufRest.drop n ∧
    (abs s).rest.take n = (s.buffer.drop s.position).take n := by
  have hlen := bufRest_len s hi.lim_le
  have hpos := hf.2
  have hrest := abs_rest_open s hf.1
  have hb : ({ s with position := s.position + n } : St).bufRest = s.bufRest.drop n := by
    simp only [St.bufRest, St.lim, List.drop_drop]
  refine ⟨?_, ?_, ⟨hf.1, by show s.position + n ≤ s.lim; omega⟩, hb, ?_⟩
  · apply A.ext' <;> try rfl
    · simp only [abs, A.skip, St.count]; omega
    · refine (abs_rest_open _ ?_).trans ?_
      · exact hf.1
      · show _ = (abs s).rest.drop n
        rw [hb, hrest, List.drop_append_of_le_length hn]
  · refine ⟨hi.blen, hi.bpos, hi.mp, hi.lim_le, hi.avail_le, hi.ne, hi.pend, ?_, hi.cl⟩
    intro h
    have := hi.al h
    rw [hb, List.length_drop]; omega
  · rw [hrest, List.take_append_of_le_length hn]
    simp only [St.bufRest, List.drop_take, List.take_take]
    congr 1; omega

theorem A.skip_add (a : A) (b c : Nat) : (a.skip b).skip c = a.skip (b + c) := by
  apply A.ext' <;> try rfl
  · simp only [A.skip]; omega
  · simp only [A.skip, List.drop_drop]

/-- shifting `b` bytes from the remaining bytes to the output does not change `bulk` -/
theorem A.bulk_shift (a : A) (out : List Byte) (rem b : Nat) (hb : b ≤ a.rest.length)
    (hq : rem / 8 > b) (h8 : b % 8 = 0 ∨ rem / 8 > a.rest.length) :
    A.bulk ⟨a.skip b, out ++ a.rest.take b, rem - 8 * b⟩ = A.bulk ⟨a, out, rem⟩ := by
  have hlen : (a.skip b).rest.length = a.rest.length - b := List.length_drop
  unfold A.bulk
  simp only
  by_cases hgt : rem / 8 > a.rest.length
  · have hall : b + (a.rest.length - b) = a.rest.length := by omega
    rw [if_pos hgt, if_pos (by rw [hlen]; omega), A.skip_add, hlen, hall]
    rfl
  · -- `b = 8 * b'` whole words were shifted; `c` is what `bulk` still takes after them
    obtain ⟨b', rfl⟩ : ∃ b', b = 8 * b' :=
      ⟨b / 8, (Nat.mul_div_cancel' (Nat.dvd_of_mod_eq_zero (h8.resolve_right hgt))).symm⟩
    have hle : 8 * b' ≤ rem / 64 * 8 := by omega
    obtain ⟨c, hc⟩ : ∃ c, rem / 64 * 8 = 8 * b' + c := ⟨_, (Nat.add_sub_cancel' hle).symm⟩
    have hr : (rem - 8 * (8 * b')) / 64 * 8 = c := by
      rw [← Nat.mul_assoc, Nat.sub_mul_div, Nat.sub_mul, hc, Nat.mul_comm b' 8, Nat.add_sub_cancel_left]
    rw [if_neg hgt, if_neg (by rw [hlen, Nat.sub_mul_div]; omega), hr, hc, A.skip_add, Nat.sub_sub,
      ← Nat.mul_add, List.take_add, List.append_assoc]
    rfl

theorem abs_fields (s : St) : (abs s).closed = s.closed ∧ (abs s).cnt = s.count ∧
    (abs s).avail = s.availBits ∧ (abs s).cur = s.current ∧ (abs s).ending = s.src.term.err :=
  ⟨rfl, rfl, rfl, rfl, rfl⟩

theorem setPos_lim (s : St) (hi : Inv s) (hf : Fresh s) :
    Inv { s with position := s.lim } ∧ ({ s with position := s.lim } : St).bufRest = [] ∧
    abs { s with position := s.lim } = (abs s).skip s.bufRest.length := by
  have hlim : s.lim = s.position + s.bufRest.length := by
    have := bufRest_len s hi.lim_le
    have := hf.2
    omega
  obtain ⟨a1, a2, _, a4, _⟩ := abs_advance s hi hf s.bufRest.length (Nat.le_refl _) (Or.inr rfl)
  rw [hlim]
  exact ⟨a2, by rw [a4, List.drop_length], a1⟩

theorem copy_step_err (s : St) (hi : Inv s) (hf : Fresh s) (e : ErrKind)
    (hr : (refill { s with position := s.lim }).1 = some e) :
    e = (abs s).ending ∧ (abs s).rest = s.bufRest ∧
    abs (refill { s with position := s.lim }).2 = (abs s).skip s.bufRest.length ∧
    Inv (refill { s with position := s.lim }).2 := by
  obtain ⟨s1, s2, s3⟩ := setPos_lim s hi hf
  obtain ⟨r1, r2, r3, r4, _⟩ := refill_err _ s1 hf.1 s2 e hr
  refine ⟨r1, ?_, r3.trans s3, r4⟩
  have hrest := abs_rest_open s hf.1
  rw [s3] at r2
  change (abs s).rest.drop s.bufRest.length = [] at r2
  rw [hrest, List.drop_left' rfl] at r2
  rw [hrest, r2, List.append_nil]

theorem copy_step_ok (s : St) (hi : Inv s) (hf : Fresh s)
    (hr : (refill { s with position := s.lim }).1 = none) :
    s.pendingErr = none ∧ (abs s).rest.take s.bufRest.length = s.bufRest ∧
    s.bufRest.length ≤ (abs s).rest.length ∧
    abs (refill { s with position := s.lim }).2 = (abs s).skip s.bufRest.length ∧
    Inv (refill { s with position := s.lim }).2 ∧ Fresh (refill { s with position := s.lim }).2 ∧
    (refill { s with position := s.lim }).2.bufRest ≠ [] := by
  obtain ⟨s1, s2, s3⟩ := setPos_lim s hi hf
  obtain ⟨r1, r2, r3, r4, r5⟩ := refill_ok _ s1 hf.1 s2 hr
  have hrest := abs_rest_open s hf.1
  exact ⟨r1, by rw [hrest, List.take_left' rfl], by rw [hrest]; simp, r2.trans s3, r3,
    ⟨(congrArg A.closed (r2.trans s3)).trans hf.1, by rw [r4]; omega⟩, r5⟩

/-- exit of the copy loop: the 64-bit groups still wanted are all in the buffer -/
theorem bulkWords_sim (l : Lp) (hi : Inv l.st) (hf : Fresh l.st)
    (hqb : l.rem / 8 ≤ l.st.bufRest.length) :
    SimL (.ok (bulkWords l)) (A.bulk (absL l)) := by
  have hA : ¬ (absL l).rem / 8 > (absL l).st.rest.length := by
    show ¬ l.rem / 8 > (abs l.st).rest.length
    rw [abs_rest_open l.st hf.1, List.length_append]; omega
  unfold A.bulk
  rw [if_neg hA]
  show SimL _ (.ok ⟨(abs l.st).skip (l.rem / 64 * 8), l.out ++ (abs l.st).rest.take (l.rem / 64 * 8),
    l.rem - 8 * (l.rem / 64 * 8)⟩)
  unfold bulkWords
  by_cases hr0 : l.rem / 64 * 8 > 0
  · rw [if_pos hr0]
    obtain ⟨a1, a2, a3, _, a5⟩ := abs_advance l.st hi hf (l.rem / 64 * 8) (by omega) (Or.inl (by omega))
    refine ⟨?_, a2, a3⟩
    unfold absL
    rw [a1, a5]
  · rw [if_neg hr0]
    have h0 : l.rem / 64 * 8 = 0 := by omega
    refine ⟨?_, hi, hf⟩
    rw [h0]
    refine ALp.mk.injEq .. |>.mpr ⟨?_, by simp, by simp⟩
    apply A.ext' <;> simp [A.skip]

theorem copyLoop_sim : ∀ (fuel : Nat) (l : Lp), Inv l.st → Fresh l.st →
    2 * (l.rem / 8) + (if l.st.bufRest = [] then 1 else 0) + 1 ≤ fuel →
    SimL ((copyLoop fuel l).bind (fun l3 => .ok (bulkWords l3))) (A.bulk (absL l)) := by
  intro fuel
  induction fuel with
  | zero => intro l _ _ h; omega
  | succ fuel ih =>
    intro l hi hf hfuel
    have hlen := bufRest_len l.st hi.lim_le
    have hpos := hf.2
    have hlimdef : l.st.lim = (l.st.maxPosition + 1).toNat := rfl
    have hmp := hi.mp
    unfold copyLoop
    by_cases hq : ((l.rem / 8 : Nat) : Int) > l.st.maxPosition + 1 - (l.st.position : Int)
    · have hqb : l.rem / 8 > l.st.bufRest.length := by omega
      have hneg : ¬ (l.st.maxPosition + 1 - (l.st.position : Int) < 0) := by omega
      rw [if_pos hq, if_neg hneg]
      cases hr : (refill { l.st with position := l.st.lim }).1 with
      | some e =>
        obtain ⟨c1, c2, c3, c4⟩ := copy_step_err l.st hi hf e hr
        have hA : A.bulk (absL l) = .panic (absL l).st.ending
            ((absL l).st.skip (absL l).st.rest.length) := by
          unfold A.bulk
          have : (absL l).rem / 8 > (absL l).st.rest.length := by
            show l.rem / 8 > (abs l.st).rest.length
            rw [c2]; exact hqb
          rw [if_pos this]
        rw [hA]
        refine ⟨c1, ?_, c4⟩
        rw [c3]
        show (abs l.st).skip _ = (abs l.st).skip (abs l.st).rest.length
        rw [c2]
      | none =>
        obtain ⟨c1, c2, c3, c4, c5, c6, c7⟩ := copy_step_ok l.st hi hf hr
        clear hlen hpos hlimdef hmp hq hneg
        have hm : 2 * ((l.rem - 8 * l.st.bufRest.length) / 8) +
            (if (refill { l.st with position := l.st.lim }).2.bufRest = [] then 1 else 0) + 1
            ≤ fuel := by
          rw [if_neg c7]
          by_cases hb0 : l.st.bufRest = []
          · rw [if_pos hb0] at hfuel; simp only [hb0, List.length_nil] at hqb ⊢; omega
          · rw [if_neg hb0] at hfuel
            have := List.length_pos_iff.mpr hb0
            omega
        have := ih ⟨(refill { l.st with position := l.st.lim }).2, l.out ++ l.st.bufRest,
          l.rem - 8 * l.st.bufRest.length⟩ c5 c6 hm
        have hshift := A.bulk_shift (abs l.st) l.out l.rem l.st.bufRest.length c3 hqb
          (by left; exact hi.al c1)
        have habsL : absL ⟨(refill { l.st with position := l.st.lim }).2, l.out ++ l.st.bufRest,
            l.rem - 8 * l.st.bufRest.length⟩ =
            ⟨(abs l.st).skip l.st.bufRest.length,
              l.out ++ (abs l.st).rest.take l.st.bufRest.length,
              l.rem - 8 * l.st.bufRest.length⟩ := by
          refine ALp.mk.injEq .. |>.mpr ⟨c4, ?_, rfl⟩
          rw [c2]
        rw [habsL, hshift] at this
        exact this
    · rw [if_neg hq]
      exact bulkWords_sim l hi hf (by omega)


theorem LR.bind_assoc (r : LR) (f g : Lp → LR) :
    (r.bind f).bind g = r.bind (fun l => (f l).bind g) := by
  cases r <;> rfl

theorem alignedStart_sim (l : Lp) (hi : Inv l.st) (hf : Fresh l.st) :
    SimL (alignedStart l) (A.alignedStart (absL l)) := by
  obtain ⟨p1, p2, p3, p4⟩ := pull_sim l.st hi
  unfold alignedStart A.alignedStart
  have h1 : (absL l).st.avail = l.st.availBits := rfl
  have h2 : (absL l).st = abs l.st := rfl
  rw [h1, h2, ← p1]
  split
  · cases hp : (pull l.st).1 with
    | some e => exact ⟨rfl, p2, p3⟩
    | none =>
      refine ⟨?_, p3, (p4 hp).1⟩
      simp only [absL, p2]
  · exact ⟨rfl, hi, hf⟩

theorem aligned_sim (l : Lp) (hi : Inv l.st) (hf : Fresh l.st) :
    SimL (aligned l) (A.aligned (absL l)) := by
  unfold aligned A.aligned
  refine SimL.bind (SimL.bind (alignedStart_sim l hi hf) ?_) ?_
  · intro l1 h1 h2; exact emptyCur_sim _ l1 h1 h2
  · intro l2 h1 h2
    refine copyLoop_sim _ l2 h1 h2 ?_
    split <;> omega

theorem slowStep_sim (r : Nat) (hr : r ≤ 64) (l : Lp) (hi : Inv l.st) :
    SimL (slowStep r l) (A.slowStep r (absL l)) := by
  obtain ⟨p1, p2, p3, p4⟩ := pull_sim l.st hi
  unfold slowStep A.slowStep
  have h2 : (absL l).st = abs l.st := rfl
  rw [h2, ← p1]
  cases hp : (pull l.st).1 with
  | some e => exact ⟨rfl, p2, p3⟩
  | none =>
    obtain ⟨q1, q3⟩ := p4 hp
    simp only
    rw [← p2]
    have hav : (abs (pull l.st).2).avail = (pull l.st).2.availBits := rfl
    have hcur : (abs (pull l.st).2).cur = (pull l.st).2.current := rfl
    rw [hav, hcur]
    split
    · rename_i hlt
      refine ⟨?_, rfl, p3⟩
      rcases q3 with q3 | ⟨q3, _⟩
      · omega
      · cases hpe : (pull l.st).2.pendingErr with
        | none => exact absurd hpe q3
        | some e =>
          simp only [Option.getD_some]
          rw [p3.pend e hpe]
          have : (abs l.st).ending = (A.pull (abs l.st)).2.ending := by
            unfold A.pull; split; rfl; split <;> rfl
          rw [this, ← p2]; rfl
    · rename_i hge
      obtain ⟨t1, t2, t3⟩ := abs_take (pull l.st).2 r (by omega) p3
      refine ⟨?_, t2, t3 q1⟩
      simp only [absL, t1]
      rfl

theorem slowStep_post (r : Nat) (l l2 : Lp) (hi : Inv l.st)
    (h : slowStep r l = .ok l2) :
    (l2.st.availBits = 64 - r ∨ l2.st.bufRest = []) ∧ l2.rem = l.rem - 64 := by
  obtain ⟨p1, p2, p3, p4⟩ := pull_sim l.st hi
  unfold slowStep at h
  cases hp : (pull l.st).1 with
  | some e => rw [hp] at h; cases h
  | none =>
    obtain ⟨q1, q3⟩ := p4 hp
    rw [hp] at h
    simp only at h
    split at h
    · cases h
    · simp only [LR.ok.injEq] at h
      subst h
      refine ⟨?_, rfl⟩
      rcases q3 with q3 | ⟨_, q3⟩
      · left; simp only [q3]
      · right
        have : ({ (pull l.st).2 with availBits := (pull l.st).2.availBits - r } : St).bufRest
            = (pull l.st).2.bufRest := rfl
        rw [this]; exact q3

theorem loop64_sim (r : Nat) (hr : r ≤ 64) : ∀ (n fuel : Nat) (l : Lp), Inv l.st → Fresh l.st →
    l.rem / 64 = n → n < fuel → SimL (loop64 r fuel l) (A.words r n (absL l)) := by
  intro n
  induction n with
  | zero =>
    intro fuel l hi hf hn hfu
    cases fuel with
    | zero => omega
    | succ fuel =>
      unfold loop64 A.words
      rw [if_neg (by omega)]
      exact ⟨rfl, hi, hf⟩
  | succ n ih =>
    intro fuel l hi hf hn hfu
    cases fuel with
    | zero => omega
    | succ fuel =>
      unfold loop64 A.words
      rw [if_pos (by omega)]
      refine SimL.bind' (fun l2 => l2.rem = l.rem - 64) (slowStep_sim r hr l hi) ?_ ?_
      · intro l2 h2; exact (slowStep_post r l l2 hi h2).2
      · intro l2 h1 h2 h3
        exact ih fuel l2 h1 h2 (by omega) (by omega)


/-! ### the 256-bit fast path is four word steps -/

theorem ALR.bind_assoc (r : ALR) (f g : ALp → ALR) :
    (r.bind f).bind g = r.bind (fun l => (f l).bind g) := by
  cases r <;> rfl

theorem A.words_add (r : Nat) : ∀ (m n : Nat) (l : ALp),
    A.words r (m + n) l = (A.words r m l).bind (A.words r n) := by
  intro m
  induction m with
  | zero => intro n l; simp [A.words, ALR.bind]
  | succ m ih =>
    intro n l
    have : m + 1 + n = (m + n) + 1 := by omega
    rw [this]
    simp only [A.words]
    rw [ALR.bind_assoc]
    congr 1
    funext l'
    exact ih n l'

theorem A.slowStep_full (r : Nat) (hr : r ≤ 64) (a : A) (out : List Byte) (rem : Nat)
    (hc : a.closed = false) (h8 : 8 ≤ a.rest.length) :
    A.slowStep r ⟨a, out, rem⟩ =
      .ok ⟨⟨false, a.cnt + a.avail + r, 64 - r, beWord (a.rest.take 8), a.rest.drop 8, a.ending⟩,
        out ++ wordBytes ((a.cur <<< r) ||| (beWord (a.rest.take 8) >>> (64 - r))), rem - 64⟩ := by
  have hne : a.rest ≠ [] := by intro h; rw [h] at h8; simp at h8
  have hl : (a.rest.take 8).length = 8 := by simp only [List.length_take]; omega
  unfold A.slowStep
  simp only [A.pull_ok a hc hne, hl]
  rw [if_neg (by omega)]
  simp only [A.take, hc]

theorem bufWord_eq (s : St) (hi : Inv s) (hc : s.closed = false) (i : Nat)
    (h : 8 * i + 8 ≤ s.bufRest.length) :
    bufWord s i = beWord (((abs s).rest.drop (8 * i)).take 8) := by
  have hlen := bufRest_len s hi.lim_le
  unfold bufWord
  congr 1
  rw [abs_rest_open s hc, List.drop_append_of_le_length (by omega),
    List.take_append_of_le_length (by simp only [List.length_drop]; omega)]
  simp only [St.bufRest, List.drop_take, List.drop_drop, List.take_take]
  congr 1; omega

def fastSt (l : Lp) : St :=
  { l.st with position := l.st.position + 32, current := bufWord l.st 3 }

theorem fast_sim (a : Nat) (l : Lp) (hi : Inv l.st) (hf : Fresh l.st)
    (ha : l.st.availBits = a) (ha64 : a ≤ 64)
    (hfast : ¬ ((l.st.position : Int) + 32 > l.st.maxPosition)) :
    A.words (64 - a) 4 (absL l) = .ok (absL (fastStep (64 - a) a l)) ∧
    Inv (fastStep (64 - a) a l).st ∧ Fresh (fastStep (64 - a) a l).st ∧
    (fastStep (64 - a) a l).st.availBits = a ∧ (fastStep (64 - a) a l).rem = l.rem - 256 := by
  have hc : l.st.closed = false := hf.1
  have hlen := bufRest_len l.st hi.lim_le
  have hlimdef : l.st.lim = (l.st.maxPosition + 1).toNat := rfl
  have ⟨h33, hpl⟩ : 33 ≤ l.st.bufRest.length ∧ l.st.position + 32 ≤ l.st.lim := by omega
  -- the facts about `maxPosition : Int` have done their work; `omega` is much faster without them
  clear hlimdef hfast hlen
  have hrest : (abs l.st).rest = l.st.bufRest ++ future l.st.pendingErr l.st.src :=
    abs_rest_open l.st hc
  have hrl : 33 ≤ (abs l.st).rest.length := by rw [hrest]; simp only [List.length_append]; omega
  have hr64 : 64 - a ≤ 64 := Nat.sub_le _ _
  have hra : 64 - (64 - a) = a := Nat.sub_sub_self ha64
  have w0 := bufWord_eq l.st hi hc 0 (by omega)
  have w1 := bufWord_eq l.st hi hc 1 (by omega)
  have w2 := bufWord_eq l.st hi hc 2 (by omega)
  have w3 := bufWord_eq l.st hi hc 3 (by omega)
  simp only [Nat.mul_zero, List.drop_zero, Nat.mul_one] at w0 w1
  have hbr' : (fastSt l).bufRest = l.st.bufRest.drop 32 := by
    simp only [fastSt, St.bufRest, St.lim, List.drop_drop]
  refine ⟨?_, ?_, ⟨hc, ?_⟩, ha, rfl⟩
  · have e0 : absL l = ⟨abs l.st, l.out, l.rem⟩ := rfl
    rw [e0]
    simp only [A.words, ALR.bind]
    rw [A.slowStep_full _ hr64 _ _ _ hc (by omega)]
    dsimp only
    rw [A.slowStep_full _ hr64 _ _ _ rfl (by simp only [List.length_drop]; omega)]
    dsimp only
    rw [A.slowStep_full _ hr64 _ _ _ rfl (by simp only [List.length_drop]; omega)]
    dsimp only
    rw [A.slowStep_full _ hr64 _ _ _ rfl (by simp only [List.length_drop]; omega)]
    simp only [List.drop_drop, Nat.reduceAdd, hra]
    congr 1
    unfold fastStep absL
    refine ALp.mk.injEq .. |>.mpr ⟨?_, ?_, by simp only [Nat.sub_sub]⟩
    · apply A.ext'
      · show false = l.st.closed; rw [hc]
      · simp only [abs, St.count, ha]; omega
      · exact ha.symm
      · show _ = bufWord l.st 3; rw [w3]
      · have hthis : (abs (fastSt l)).rest
            = List.drop 32 l.st.bufRest ++ future l.st.pendingErr l.st.src := by
          rw [abs_rest_open (fastSt l) hc, hbr']; rfl
        refine Eq.trans ?_ hthis.symm
        show List.drop 32 (abs l.st).rest = _
        rw [hrest, List.drop_append_of_le_length (by omega)]
      · rfl
    · simp only [w0, w1, w2, w3, List.append_assoc]
      rfl
  · refine ⟨hi.blen, hi.bpos, hi.mp, hi.lim_le, hi.avail_le, hi.ne, hi.pend, ?_, hi.cl⟩
    intro h
    show (fastSt l).bufRest.length % 8 = 0
    rw [hbr']
    rw [List.length_drop]
    exact Nat.sub_mod_eq_zero_of_mod_eq (hi.al h)
  · exact hpl


/-- `k` of the `x / 64` whole words are done -/
theorem words_left (k : Nat) {x fuel : Nat} (hk : 1 ≤ k) (hx : 64 * k ≤ x) (hf : x / 64 < fuel + 1) :
    x / 64 = (x - 64 * k) / 64 + k ∧ (x - 64 * k) / 64 < fuel := by
  omega

theorem loop256_sim (a : Nat) (ha : a ≤ 64) : ∀ (fuel : Nat) (l : Lp), Inv l.st → Fresh l.st →
    (l.st.availBits = a ∨ l.st.bufRest = []) → l.rem / 64 < fuel →
    SimL ((loop256 (64 - a) a fuel l).bind (fun l1 => loop64 (64 - a) (l1.rem / 64 + 1) l1))
      (A.words (64 - a) (l.rem / 64) (absL l)) := by
  intro fuel
  induction fuel with
  | zero => intro l _ _ _ h; exact absurd h (Nat.not_lt_zero _)
  | succ fuel ih =>
    intro l hi hf hav hfu
    have hr : 64 - a ≤ 64 := Nat.sub_le _ _
    unfold loop256
    by_cases hrem : l.rem ≥ 256
    · rw [if_pos hrem]
      by_cases hs : (l.st.position : Int) + 32 > l.st.maxPosition
      · rw [if_pos hs, LR.bind_assoc]
        obtain ⟨e, hlt⟩ := words_left 1 (Nat.le_refl 1) (Nat.le_trans (by decide) hrem) hfu
        rw [e]
        simp only [A.words]
        refine SimL.bind' (fun l2 => (l2.st.availBits = a ∨ l2.st.bufRest = []) ∧
          l2.rem = l.rem - 64) (slowStep_sim _ hr l hi) ?_ ?_
        · intro l2 h2
          obtain ⟨g1, g2⟩ := slowStep_post _ l l2 hi h2
          exact ⟨g1.imp (fun g => g.trans (Nat.sub_sub_self ha)) id, g2⟩
        · intro l2 h1 h2 h3
          have := ih l2 h1 h2 h3.1 (by rw [h3.2]; exact hlt)
          rwa [h3.2] at this
      · rw [if_neg hs]
        have hlen := bufRest_len l.st hi.lim_le
        have hlimdef : l.st.lim = (l.st.maxPosition + 1).toNat := rfl
        have hav' : l.st.availBits = a := by
          rcases hav with h | h
          · exact h
          · rw [h] at hlen; simp only [List.length_nil] at hlen; omega
        clear hlen hlimdef
        obtain ⟨f1, f2, f3, f4, f5⟩ := fast_sim a l hi hf hav' ha hs
        obtain ⟨e, hlt⟩ := words_left 4 (by decide) hrem hfu
        rw [e, Nat.add_comm _ 4, A.words_add, f1]
        simp only [ALR.bind]
        have := ih (fastStep (64 - a) a l) f2 f3 (Or.inl f4) (by rw [f5]; exact hlt)
        rwa [f5] at this
    · rw [if_neg hrem]
      simp only [LR.bind]
      exact loop64_sim _ hr (l.rem / 64) (l.rem / 64 + 1) l hi hf rfl (Nat.lt_succ_self _)

theorem unaligned_sim (l : Lp) (hi : Inv l.st) (hf : Fresh l.st) :
    SimL (unaligned l) (A.words (64 - l.st.availBits) (l.rem / 64) (absL l)) := by
  unfold unaligned
  exact loop256_sim l.st.availBits hi.avail_le (l.rem / 64 + 1) l hi hf (Or.inl rfl) (by omega)

def A.readArrayBody (l : ALp) : ALR :=
  ((if l.st.avail % 8 = 0 then A.aligned l else A.words (64 - l.st.avail) (l.rem / 64) l).bind
    (fun l1 => A.tailBytes (l1.rem / 8 + 1) l1)).bind A.tailBits

def A.readArray (a : A) (k : Nat) : Res (List Byte) × A :=
  if a.closed then (.panic .closed, a)
  else if k = 0 then (.val [], a)
  else
    match A.readArrayBody ⟨a, [], k⟩ with
    | .ok l => (.val l.out, l.st)
    | .panic e a' => (.panic e, a')

theorem readArrayBody_sim (l : Lp) (hi : Inv l.st) (hf : Fresh l.st) :
    SimL (readArrayBody l) (A.readArrayBody (absL l)) := by
  unfold readArrayBody A.readArrayBody
  have h1 : (absL l).st.avail = l.st.availBits := rfl
  have h2 : (absL l).rem = l.rem := rfl
  rw [h1, h2]
  refine SimL.bind (SimL.bind ?_ ?_) ?_
  · split
    · exact aligned_sim l hi hf
    · exact unaligned_sim l hi hf
  · intro l1 g1 g2; exact tailBytes_sim _ l1 g1 g2
  · intro l2 g1 g2; exact tailBits_sim l2 g1 g2

theorem readArray_sim (s : St) (k : Nat) (hi : Inv s) (hf : s.closed = true ∨ Fresh s) :
    SimR s (readArray s k) (A.readArray (abs s) k) := by
  unfold readArray A.readArray
  have hcl : (abs s).closed = s.closed := rfl
  rw [hcl]
  cases hc : s.closed with
  | true => exact ⟨rfl, rfl, hi, fun _ h => absurd rfl (h _)⟩
  | false =>
    simp only [Bool.false_eq_true, ↓reduceIte]
    by_cases hk : k = 0
    · rw [if_pos hk, if_pos hk]; exact ⟨rfl, rfl, hi, fun h _ => h⟩
    · rw [if_neg hk, if_neg hk]
      have hfr : Fresh s := hf.resolve_left (by rw [hc]; exact Bool.false_ne_true)
      have := readArrayBody_sim ⟨s, [], k⟩ hi hfr
      change SimL _ (A.readArrayBody ⟨abs s, [], k⟩) at this
      generalize readArrayBody ⟨s, [], k⟩ = r at this
      generalize A.readArrayBody ⟨abs s, [], k⟩ = r' at this
      match r, r', this with
      | .ok _, .ok _, ⟨g1, g2, g3⟩ => subst g1; exact ⟨rfl, rfl, g2, fun _ _ => g3⟩
      | .panic _ _, .panic _ _, ⟨g1, g2, g3⟩ =>
        subst g1; exact ⟨rfl, g2, g3, fun _ h => absurd rfl (h _)⟩
      | .ok _, .panic _ _, h => exact h.elim
      | .panic _ _, .ok _, h => exact h.elim

end Kanzi.IBS
