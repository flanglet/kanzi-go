/-
ROLZX (`rolzCodec2`): Forward never faults (`rolzxForward_noFault`), on a block of one chunk
(`rolzxForward_nf`) or of several (`rolzxForward_nf_multi`).

The 8 first literals of a chunk (and, when the last chunk has at most 8 bytes, the 4 last literals that follow them)
are coded without a test on the destination, right after `reset()`.  The crude bound (one 32-bit flush per coded
bit) is too weak for them; here is the quantitative one:
  * after `reset()` every probability is 32767; a cell is updated at most once per symbol, so during the first 12
    symbols every probability read stays in `[22391, 43143]`, i.e. `1399 ≤ p >> 4 ≤ 2696`
    (`InB`, with the bounds `loB`, `hiB`);
  * with such a probability one coded bit keeps more than a third of the interval (`range_step`: at least `gR`);
  * a flush leaves an interval of at least `2^32 - 1`, and a flush needs an interval below `2^24`: at least 6 bits
    are coded between two flushes (`T 5 ≥ 2^24`), so `n` bits emit at most `(2n + 10) / 3` bytes (`Pot`).
-/
import Kanzi.Proofs.RolzxTotal

namespace Kanzi.ROLZ

/-! ## the interval shrinks slowly when probabilities are moderate -/

/-- a lower bound for the interval width after one bit coded with `1399 ≤ p >> 4 ≤ 2696` -/
def gR (R : Nat) : Nat := (R / 16 * 1399) / 256 - 1

theorem gR_mono {R R' : Nat} (h : R ≤ R') : gR R ≤ gR R' := by
  unfold gR
  have h1 : R / 16 ≤ R' / 16 := Nat.div_le_div_right h
  have h2 : R / 16 * 1399 ≤ R' / 16 * 1399 := Nat.mul_le_mul_right _ h1
  have h3 : R / 16 * 1399 / 256 ≤ R' / 16 * 1399 / 256 := Nat.div_le_div_right h2
  omega

/-- the interval width `j` bits after a flush is at least `T j` -/
def T : Nat → Nat
  | 0 => 4294967295
  | j + 1 => gR (T j)

theorem T_succ_ge : ∀ s, s < 5 → 2 ^ 24 ≤ T (s + 1) := by decide

theorem range_step {e : Enc} (hi : EInv e) {p : Nat} (hp : p < 65536) (hq : 1399 ≤ p / 16 ∧ p / 16 ≤ 2696) (bit : Bool) :
    gR (e.high - e.low) ≤ high1 e p bit - low1 e p bit := by
  have hlt := einv_lt hi
  have hs := splitOf_eq hi.top hi.hi (by omega) hp
  have hsl := splitOf_lt hi.top hi.hi hlt hp
  have h1 : (e.high - e.low) / 16 * 1399 ≤ (e.high - e.low) / 16 * (p / 16) := Nat.mul_le_mul_left _ hq.1
  have h2 : (e.high - e.low) / 16 * (p / 16) ≤ (e.high - e.low) / 16 * 2696 := Nat.mul_le_mul_left _ hq.2
  unfold gR high1 low1
  rw [hs] at hsl ⊢
  cases bit
  · simp only [Bool.false_eq_true, if_false]
    omega
  · simp only [if_true]
    omega

/-! ## the flush budget -/

/-- `s` = number of bits coded since the last flush, capped at 5 (5 = a flush may happen now).  The budget is kept as
    the potential `3 * out.size + 2 * s`: a coded bit raises it by at most 2 (`encodeBit_pot`; a flush writes 4 bytes
    but takes `s` from 5 back to 0) -/
def Pot (e : Enc) (s : Nat) : Prop := s ≤ 5 ∧ (s < 5 → T s ≤ e.high - e.low)

theorem pot_any (e : Enc) : Pot e 5 := ⟨Nat.le_refl _, fun h => absurd h (Nat.lt_irrefl _)⟩

theorem encodeBit_pot {dstLen : Nat} {e e' : Enc} (hi : EInv e) {p : Nat} (hp : p < 65536)
    (hq : 1399 ≤ p / 16 ∧ p / 16 ≤ 2696) {bit : Bool} {s : Nat} (hpot : Pot e s)
    (h : e.encodeBit dstLen p bit = .ok e') :
    ∃ s', Pot e' s' ∧ 3 * e'.out.size + 2 * s' ≤ 3 * e.out.size + 2 * s + 2 := by
  obtain ⟨o1, o2, o3, _⟩ := step_order hi hp bit
  have hw : s < 5 → T (s + 1) ≤ high1 e p bit - low1 e p bit := fun h5 =>
    Nat.le_trans (gR_mono (hpot.2 h5)) (range_step hi hp hq bit)
  have hs := hpot.1
  rcases encodeBit_cases hi hp h with ⟨hf, rfl⟩ | ⟨hf, rfl⟩
  · -- a flush needs a width below `2^24`: at least 5 bits were coded since the previous one
    have hs5 : s = 5 := by
      by_cases h5 : s < 5
      · have := hw h5
        have := T_succ_ge s h5
        omega
      · omega
    refine ⟨0, ⟨Nat.zero_le _, fun _ => ?_⟩, by simp only [push32_size]; omega⟩
    show 4294967295 ≤ _
    simp only
    omega
  · by_cases h5 : s < 5
    · exact ⟨s + 1, ⟨h5, fun _ => hw h5⟩, by simp only; omega⟩
    · exact ⟨5, pot_any _, by simp only; omega⟩

/-! ## probabilities shortly after `reset()` -/

/-- bounds for every probability after `k` symbols since `reset()` (each cell is updated at most once per symbol) -/
def loB : Nat → Nat
  | 0 => 32767
  | k + 1 => loB k - loB k / 32

def hiB : Nat → Nat
  | 0 => 32767
  | k + 1 => hiB k + (65534 - hiB k) / 32

theorem hiB_le (k : Nat) : hiB k ≤ 65534 := by
  induction k with
  | zero => decide
  | succ k ih => show hiB k + (65534 - hiB k) / 32 ≤ 65534; omega

theorem loB_anti {k m : Nat} (h : k ≤ m) : loB m ≤ loB k := by
  induction h with
  | refl => exact Nat.le_refl _
  | step _ ih => exact Nat.le_trans (Nat.sub_le _ _) ih

theorem hiB_mono {k m : Nat} (h : k ≤ m) : hiB k ≤ hiB m := by
  induction h with
  | refl => exact Nat.le_refl _
  | step _ ih => exact Nat.le_trans ih (Nat.le_add_right _ _)

theorem bounds12 : loB 12 = 22391 ∧ hiB 12 = 43143 := by decide

theorem bounds_le12 {k : Nat} (hk : k ≤ 12) : 22391 ≤ loB k ∧ hiB k ≤ 43143 := by
  have h1 := loB_anti hk
  have h2 := hiB_mono hk
  rw [bounds12.1] at h1
  rw [bounds12.2] at h2
  exact ⟨h1, h2⟩

def InB (k : Nat) (t : Array Nat) : Prop := ∀ i, i < t.size → loB k ≤ t.getD i 0 ∧ t.getD i 0 ≤ hiB k

theorem inB_probs0 : InB 0 (probs0 9) := by
  intro i hi
  unfold probs0 at hi ⊢
  rw [Array.getD_eq_getD_getElem?, Array.getElem?_replicate]
  rw [Array.size_replicate] at hi
  rw [if_pos hi]
  exact ⟨Nat.le_refl _, Nat.le_refl _⟩

theorem inB_ok {k : Nat} (hk : k ≤ 12) {t : Array Nat} (h : InB k t) : ProbOk t := by
  intro i
  by_cases hi : i < t.size
  · have := (h i hi).2
    have := (bounds_le12 hk).2
    omega
  · rw [Array.getD_eq_getD_getElem?, Array.getElem?_eq_none (by omega)]
    decide

theorem inB_set {k : Nat} {t : Array Nat} (h : InB k t) (i : Nat) {v : Nat} (hv : loB k ≤ v ∧ v ≤ hiB k) :
    InB k (t.setIfInBounds i v) := by
  intro j hj
  rw [Array.size_setIfInBounds] at hj
  rw [getD_setIfInBounds]
  by_cases hji : j = i ∧ i < t.size
  · rw [if_pos hji]
    exact hv
  · rw [if_neg hji]
    exact h j hj

theorem probUp_bounds {p a b : Nat} (ha : a ≤ p) (hb : p ≤ b) (hb2 : b ≤ 65502) (bit : Bool) :
    a - a / 32 ≤ probUp p bit ∧ probUp p bit ≤ b + (65534 - b) / 32 := by
  unfold probUp
  cases bit
  · simp only [Bool.false_eq_true, if_false]; omega
  · simp only [if_true]
    rw [if_neg (by omega)]
    omega

/-- **a 9-bit symbol shortly after `reset()`** emits at most 4 bytes per 6 coded bits -/
theorem encBits_fresh {dstLen c val k : Nat} (hc : c < 256) (hk : k < 12) :
    ∀ (n c1 : Nat) (e : Enc) (t : Array Nat) (s : Nat), n ≤ 9 → 1 ≤ c1 → c1 < 2 ^ (10 - n) → t.size = 131072 →
    EInv e → Pot e s → InB (k + 1) t →
    (∀ i, c * 512 + c1 ≤ i → i < t.size → loB k ≤ t.getD i 0 ∧ t.getD i 0 ≤ hiB k) →
    3 * e.out.size + 2 * s + 2 * n + 12 ≤ 3 * dstLen →
    ∃ e' t' s', encBits dstLen (c <<< 9) val n c1 e t = .ok (e', t') ∧ EInv e' ∧ Pot e' s' ∧ InB (k + 1) t' ∧
      t'.size = t.size ∧ 3 * e'.out.size + 2 * s' ≤ 3 * e.out.size + 2 * s + 2 * n ∧ (OutBytes e → OutBytes e') := by
  intro n
  induction n with
  | zero =>
    intro c1 e t s _ _ _ _ hi hp hI1 _ _
    exact ⟨e, t, s, rfl, hi, hp, hI1, rfl, by omega, id⟩
  | succ n ih =>
    intro c1 e t s hn hc1 hc1b hsz hi hp hI1 hI2 hroom
    have hpow : (2 : Nat) ^ (10 - (n + 1)) ≤ 2 ^ 9 := Nat.pow_le_pow_right (by decide) (by omega)
    have hidx : c * 512 + c1 < t.size := by rw [hsz]; omega
    have hcell := hI2 (c * 512 + c1) (Nat.le_refl _) hidx
    have hb12 := bounds_le12 (k := k) (by omega)
    have hshift : c <<< 9 = c * 512 := by rw [Nat.shiftLeft_eq]
    have hpl : t.getD (c * 512 + c1) 0 < 65536 := by omega
    have hq : 1399 ≤ t.getD (c * 512 + c1) 0 / 16 ∧ t.getD (c * 512 + c1) 0 / 16 ≤ 2696 := by omega
    obtain ⟨e1, he1⟩ := encodeBit_nf (dstLen := dstLen) hi hpl (val.testBit n) (by omega)
    obtain ⟨i1, _, _, b1⟩ := encodeBit_inv hi hpl he1
    obtain ⟨s1, hp1, hpot1⟩ := encodeBit_pot hi hpl hq hp he1
    have hup := probUp_bounds hcell.1 hcell.2 (by omega) (val.testBit n)
    have hI2' : ∀ v i, c * 512 + (2 * c1 + (val.testBit n).toNat) ≤ i → i < (t.setIfInBounds (c * 512 + c1) v).size →
        loB k ≤ (t.setIfInBounds (c * 512 + c1) v).getD i 0 ∧ (t.setIfInBounds (c * 512 + c1) v).getD i 0 ≤ hiB k := by
      intro v i hi1 hi2
      rw [Array.size_setIfInBounds] at hi2
      rw [getD_setIfInBounds, if_neg (fun hc2 => by have := hc2.1; omega)]
      exact hI2 i (by omega) hi2
    have hc1' : 2 * c1 + (val.testBit n).toNat < 2 ^ (10 - n) := by
      have e : 10 - n = (10 - (n + 1)) + 1 := by omega
      rw [e, Nat.pow_succ]
      have : (val.testBit n).toNat ≤ 1 := by cases val.testBit n <;> simp
      omega
    obtain ⟨e', t', s', hrec, i', p', I', z', pot', b'⟩ := ih (2 * c1 + (val.testBit n).toNat) e1 _ s1 (by omega) (by omega)
      hc1' (by rw [Array.size_setIfInBounds]; exact hsz) i1 hp1 (inB_set hI1 _ hup) (hI2' _) (by omega)
    refine ⟨e', t', s', ?_, i', p', I', by rw [z', Array.size_setIfInBounds], by omega,
      fun hb => b' (b1 hb)⟩
    simp only [encBits]
    rw [hshift, he1]
    simp only
    rw [hshift] at hrec
    exact hrec

/-! ## literal symbols shortly after `reset()` -/

theorem inB_succ {k : Nat} {t : Array Nat} (h : InB k t) : InB (k + 1) t := by
  intro i hi
  have := h i hi
  have h1 : loB (k + 1) ≤ loB k := loB_anti (Nat.le_succ k)
  have h2 : hiB k ≤ hiB (k + 1) := hiB_mono (Nat.le_succ k)
  omega

/-- what is known about the state of the encoder `k` symbols after a `reset()`; `sp` is the bit count of `Pot` -/
structure Fresh (s : FSt) (k sp : Nat) : Prop where
  enc : EncOk s
  inb : InB k s.pl
  sz : s.pl.size = 131072
  pot : Pot s.enc sp

theorem encLit9_fresh {dstLen c val k sp : Nat} {s : FSt} (hc : c < 256) (hk : k < 12) (hf : Fresh s k sp)
    (hroom : 3 * s.enc.out.size + 2 * sp + 18 + 12 ≤ 3 * dstLen) :
    ∃ s' sp', encLit9 dstLen c val s = .ok s' ∧ Fresh s' (k + 1) sp' ∧ s'.tab = s.tab ∧
      3 * s'.enc.out.size + 2 * sp' ≤ 3 * s.enc.out.size + 2 * sp + 18 := by
  obtain ⟨e', t', s', hrec, i', p', I', z', pot', b'⟩ := encBits_fresh (dstLen := dstLen) (val := val) hc hk 9 1 s.enc s.pl sp
    (Nat.le_refl _) (Nat.le_refl _) (by decide) hf.sz hf.enc.einv hf.pot (inB_succ hf.inb)
    (fun i _ hi => hf.inb i hi) (by omega)
  refine ⟨⟨s.tab, e', t', s.pm⟩, s', ?_, ⟨⟨i', inB_ok (by omega) I', hf.enc.pmok, b' hf.enc.bytes⟩, I', by rw [z']; exact hf.sz, p'⟩,
    rfl, by omega⟩
  unfold encLit9
  simp only [hrec]

theorem fwdFirst_fresh {a : Array Nat} {dstLen lim : Nat} : ∀ (cnt i k sp : Nat) (s : FSt), i + cnt ≤ lim → k + cnt ≤ 12 →
    Fresh s k sp → 3 * s.enc.out.size + 2 * sp + 18 * cnt + 12 ≤ 3 * dstLen →
    ∃ s' sp', fwdFirst a dstLen lim cnt i s = .ok s' ∧ Fresh s' (k + cnt) sp' ∧ s'.tab = s.tab ∧
      3 * s'.enc.out.size + 2 * sp' ≤ 3 * s.enc.out.size + 2 * sp + 18 * cnt := by
  intro cnt
  induction cnt with
  | zero => intro i k sp s _ _ hf _; exact ⟨s, sp, rfl, hf, rfl, by omega⟩
  | succ cnt ih =>
    intro i k sp s hil hk hf hroom
    simp only [fwdFirst]
    rw [rd1_eq (by omega : i < lim)]
    simp only
    obtain ⟨s1, sp1, hs1, f1, t1, z1⟩ := encLit9_fresh (dstLen := dstLen) (c := 0) (val := 256 + a.getD i 0) (by omega)
      (by omega : k < 12) hf (by omega)
    rw [hs1]
    simp only
    obtain ⟨s', sp', hs', f', t', z'⟩ := ih (i + 1) (k + 1) sp1 s1 (by omega) (by omega) f1 (by omega)
    exact ⟨s', sp', hs', by rw [show k + (cnt + 1) = k + 1 + cnt by omega]; exact f', by rw [t', t1], by omega⟩

theorem fwdLast_fresh {a : Array Nat} (ha : ∀ j, a.getD j 0 < 256) {dstLen : Nat} : ∀ (cnt i k sp : Nat) (s : FSt),
    0 < i → i + cnt ≤ a.size → k + cnt ≤ 12 → Fresh s k sp → 3 * s.enc.out.size + 2 * sp + 18 * cnt + 12 ≤ 3 * dstLen →
    ∃ s' sp', fwdLast a dstLen cnt i s = .ok s' ∧ Fresh s' (k + cnt) sp' ∧
      3 * s'.enc.out.size + 2 * sp' ≤ 3 * s.enc.out.size + 2 * sp + 18 * cnt := by
  intro cnt
  induction cnt with
  | zero => intro i k sp s _ _ _ hf _; exact ⟨s, sp, rfl, hf, by omega⟩
  | succ cnt ih =>
    intro i k sp s hi0 hil hk hf hroom
    simp only [fwdLast]
    rw [if_neg (by omega), rd1_eq (by omega : i - 1 < a.size), rd1_eq (by omega : i < a.size)]
    simp only
    obtain ⟨s1, sp1, hs1, f1, _, z1⟩ := encLit9_fresh (dstLen := dstLen) (c := a.getD (i - 1) 0) (val := 256 + a.getD i 0)
      (ha _) (by omega : k < 12) hf (by omega)
    rw [hs1]
    simp only
    obtain ⟨s', sp', hs', f', z'⟩ := ih (i + 1) (k + 1) sp1 s1 (by omega) (by omega) (by omega) f1 (by omega)
    exact ⟨s', sp', hs', by rw [show k + (cnt + 1) = k + 1 + cnt by omega]; exact f', by omega⟩

/-! ## the chunk loop, any number of chunks -/

/-- the state after the chunk loop leaves room for the 4 last literals and `dispose`: either the main loop of the last
    chunk ran (its test on the destination margin), or the last chunk had at most 8 bytes, only first literals were
    coded since the `reset()`, and the block holds byte values (the context of a last literal is a block byte, and
    the bound on the probabilities needs a cell inside the table) -/
def EndOk (a : Array Nat) (dstLen : Nat) (s : FSt) : Prop :=
  EncOk s ∧ (s.enc.out.size + 152 ≤ dstLen ∨
    ((∀ j, a.getD j 0 < 256) ∧ ∃ j sp, j ≤ 8 ∧ Fresh s j sp ∧ 3 * s.enc.out.size + 2 * sp + 72 + 12 + 24 ≤ 3 * dstLen))

theorem probs0_size9 : (probs0 9).size = 131072 := by
  unfold probs0; rw [Array.size_replicate]; rfl

theorem fwdChunks_nf2 {a : Array Nat} {dstLen srcEnd mm delta lpc : Nat} (hpar : ParamsOk mm delta)
    (hmm : 3 ≤ mm ∧ mm ≤ 7) (hlpc : lpc ≤ 8) (hse : srcEnd + 4 ≤ a.size) :
    ∀ (f st sz si : Nat) (s : FSt), 0 < sz → (9 ≤ sz ∨ st + sz ≥ srcEnd) →
    (st < srcEnd → (∀ j, a.getD j 0 < 256) ∨ (st + 8 < srcEnd ∧ srcEnd ≤ st + sz)) → st ≤ srcEnd →
    (srcEnd - st) + sz ≤ f * sz → EncOk s → s.tab.counters.size = HASH_SIZE →
    (st < srcEnd → s.enc.out.size + 152 ≤ dstLen) → (st < srcEnd ∨ (si = sz ∧ EndOk a dstLen s)) →
    (∃ e, fwdChunks a dstLen srcEnd mm delta lpc f st sz si s = .err e) ∨
    (∃ r, fwdChunks a dstLen srcEnd mm delta lpc f st sz si s = .ok r ∧ r.2.1 = srcEnd ∧ r.1 = r.2.2.1 ∧
      EndOk a dstLen r.2.2.2) := by
  intro f
  induction f with
  | zero => intro st sz si s h0 _ _ _ hf; rw [Nat.zero_mul] at hf; omega
  | succ g ih =>
    intro st sz si s hsz0 h9 hby hst hfuel ho hcnt hroom hpos
    simp only [fwdChunks]
    by_cases hlt : st < srcEnd
    · rw [if_pos hlt]
      have hroom := hroom hlt
      rw [endChunk_fwd]
      generalize hedef : min srcEnd (st + sz) = e
      obtain ⟨he1, he2, he4⟩ : st < e ∧ e ≤ srcEnd ∧ (e = srcEnd ∨ (e = st + sz ∧ 9 ≤ sz)) := by omega
      clear hedef
      have hfuel' : (srcEnd - e) + (e - st) ≤ g * (e - st) :=
        chunk_fuel_step hfuel hlt he1 he2 (he4.imp id fun ⟨h1, _⟩ => h1)
      -- a block that is not known to hold byte values is a single chunk: no chunk follows this one
      have hby' : e < srcEnd → (∀ j, a.getD j 0 < 256) ∨ (e + 8 < srcEnd ∧ srcEnd ≤ e + (e - st)) :=
        fun hc => (hby hlt).imp id fun h => by omega
      have hf0 : Fresh ⟨⟨matches0 lpc, s.tab.counters⟩, s.enc, probs0 9, probs0 lpc⟩ 0 5 :=
        ⟨⟨ho.einv, probs0_ok 9, probs0_ok lpc, ho.bytes⟩, inB_probs0, probs0_size9, pot_any _⟩
      obtain ⟨s1, sp1, hs1, f1, t1, z1⟩ := fwdFirst_fresh (a := a) (dstLen := dstLen) (lim := e) (min 8 (e - st)) st 0 5 _
        (by omega) (by omega) hf0 (by simp only; omega)
      simp only at z1 t1
      rw [hs1]
      simp only
      by_cases hrun : st + min 8 (e - st) < e
      · -- the main loop runs: its first iteration tests the destination margin
        have hm8 : min 8 (e - st) = 8 := by omega
        rw [hm8] at hs1 f1 z1 hrun ⊢
        have ht1 : TInv s1.tab lpc st (st + 8) := by
          rw [t1]
          refine ⟨tabOk_clear _ _ hcnt, fun k => ?_⟩
          simp only [matches0, Array.getD_eq_getD_getElem?, Array.getElem?_replicate]
          split <;> simp
        simp only [fwdLoop]
        rw [if_pos hrun]
        rcases fwdStep_nf (a := a) (dstLen := dstLen) hpar hmm hlpc (Nat.le_refl _) hrun (by omega) f1.enc ht1 with
          ⟨er, her⟩ | ⟨r1, hr1, h1, h2, h3, h4, h5⟩
        · left; rw [her]; exact ⟨_, rfl⟩
        · rw [hr1]
          simp only
          rcases fwdLoop_nf (a := a) (dstLen := dstLen) (base := st) (lim := e) hpar hmm hlpc (by omega) (e - st) r1.1 r1.2
            (Or.inl (by omega)) h2 (by omega) h3 h4 h5 with ⟨er, her⟩ | ⟨r, hr, q1, q2, q3, q4⟩
          · left; rw [her]; exact ⟨_, rfl⟩
          · rw [hr]
            simp only
            exact ih e (e - st) (r.1 - st) r.2 (by omega) (by omega) hby' he2 hfuel' q2 q4.cnt (fun _ => q3)
              (Or.inr ⟨by omega, q2, Or.inl q3⟩)
      · -- the chunk has at most 8 bytes: it is the last one
        have hlast : e = srcEnd := by omega
        simp only [fwdLoop]
        rw [if_neg hrun]
        simp only
        have hbytes : ∀ j, a.getD j 0 < 256 := (hby hlt).resolve_right fun h => by omega
        have hend : EndOk a dstLen s1 :=
          ⟨f1.enc, Or.inr ⟨hbytes, min 8 (e - st), sp1, by omega, by simpa using f1, by omega⟩⟩
        have hcnt1 : s1.tab.counters.size = HASH_SIZE := by rw [t1]; exact hcnt
        exact ih e (e - st) (st + min 8 (e - st) - st) s1 (by omega) (by omega) hby' he2 hfuel' f1.enc hcnt1
          (fun hc => by omega) (Or.inr ⟨by omega, hend⟩)
    · right
      rw [if_neg hlt]
      rcases hpos with hp | ⟨hp1, hp2⟩
      · omega
      · exact ⟨_, rfl, by simp only; omega, hp1, hp2⟩

/-- Forward never faults: any destination of at least `MaxEncodedLen` bytes, every `logPosChecks ≤ 8`, every ctx /
    data type hint, and either a block of byte values with a chunk size `cs ≥ 9`, or any block of at most one chunk -/
theorem rolzxForward_noFault {cs lpc : Nat} {hasCtx : Bool} {dt : Nat} {src : List Nat} {dstLen : Nat}
    (hb : ((∀ x ∈ src, x < 256) ∧ 9 ≤ cs) ∨ src.length ≤ cs + 4) (hlpc : lpc ≤ 8)
    (hdst : maxEncodedLen2 src.length ≤ dstLen) : ∀ k, rolzxForward cs lpc hasCtx dt src dstLen ≠ .fault k := by
  refine rolzxForward_nf_of fun hn64 _ => fwdTail_nf ?_
  obtain ⟨hpar, hmm3, hmm7, hfl, _⟩ := fwdParams2_spec (effType hasCtx dt src)
  generalize fwdParams2 (effType hasCtx dt src) = prm at hpar hmm3 hmm7 hfl ⊢
  have hn : src.toArray.size = src.length := List.size_toArray
  rw [hn]
  have hd1088 : 1088 ≤ dstLen := by unfold maxEncodedLen2 at hdst; split at hdst <;> omega
  have hcs : 9 ≤ cs ∨ src.length ≤ cs + 4 := hb.imp And.right id
  have hm : 0 < min src.length cs := by omega
  rcases fwdChunks_nf2 (a := src.toArray) (dstLen := dstLen) (srcEnd := src.length - 4) hpar ⟨hmm3, hmm7⟩ hlpc
      (by rw [hn]; omega) (src.length / min src.length cs + 2) 0 (min src.length cs) 0 (fwdInit lpc src.length prm.2.2) hm
      (by omega) (fun _ => hb.imp (fun h => toArray_bytes h.1) fun h => by omega) (by omega)
      (chunk_fuel (Nat.sub_le _ 4) hm) (fwdInit_ok lpc src.length hfl) (Array.size_replicate ..)
      (fun _ => by show 5 + 152 ≤ dstLen; omega) (Or.inl (by omega)) with ⟨e, he⟩ | ⟨r, hr, q1, q2, q3, q4⟩
  · exact Or.inl ⟨e, he⟩
  · have hi : r.1 + r.2.1 - r.2.2.1 = src.length - 4 := by omega
    rcases q4 with hA | ⟨hbytes, j, sp, hj, hfr, hrm⟩
    ·
      obtain ⟨s', hs', o', z'⟩ := fwdLast_nf (a := src.toArray) (dstLen := dstLen) 4 (src.length - 4) r.2.2.2 (by omega)
        (by rw [hn]; omega) q3 (by omega)
      obtain ⟨out, hout⟩ := dispose_nf (dstLen := dstLen) (e := s'.enc) (by omega)
      exact Or.inr ⟨r, s', out, hr, by rw [hi]; exact hs', hout⟩
    ·
      obtain ⟨s', sp', hs', f', z'⟩ := fwdLast_fresh (a := src.toArray) hbytes (dstLen := dstLen) 4
        (src.length - 4) j sp r.2.2.2 (by omega) (by rw [hn]; omega) (by omega) hfr (by omega)
      obtain ⟨out, hout⟩ := dispose_nf (dstLen := dstLen) (e := s'.enc) (by omega)
      exact Or.inr ⟨r, s', out, hr, by rw [hi]; exact hs', hout⟩

/-- **ROLZX Forward never faults** on a block that fits one chunk (`len ≤ chunk size + 4`) -/
theorem rolzxForward_nf {cs lpc : Nat} {hasCtx : Bool} {dt : Nat} {src : List Nat} {dstLen : Nat}
    (hone : src.length ≤ cs + 4) (hlpc : lpc ≤ 8) (hdst : maxEncodedLen2 src.length ≤ dstLen) :
    ∀ k, rolzxForward cs lpc hasCtx dt src dstLen ≠ .fault k :=
  rolzxForward_noFault (Or.inr hone) hlpc hdst

/-- **ROLZX Forward never faults**, whatever the number of chunks: every block of byte values, every chunk size
    `cs ≥ 9` -/
theorem rolzxForward_nf_multi {cs lpc : Nat} {hasCtx : Bool} {dt : Nat} {src : List Nat} {dstLen : Nat}
    (hb : ∀ x ∈ src, x < 256) (hcs : 9 ≤ cs) (hlpc : lpc ≤ 8) (hdst : maxEncodedLen2 src.length ≤ dstLen) :
    ∀ k, rolzxForward cs lpc hasCtx dt src dstLen ≠ .fault k :=
  rolzxForward_noFault (Or.inl ⟨hb, hcs⟩) hlpc hdst

end Kanzi.ROLZ
