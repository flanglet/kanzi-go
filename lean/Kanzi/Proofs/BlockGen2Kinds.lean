/-
Proofs for `Kanzi/Model/BlockGen2.lean`, the transforms: every kind of `Kind` satisfies the per-transform law
`Tr2.Law` (`kind_law`, from the round-trip theorems of the individual transforms) and hence `Law3` (`kind_law3`),
with its output bound `Kind.grow`: SRT adds at most `1024 + len / 2^28` bytes, MM at most `max(len/16, 64)`,
every other transform returns at most `len` bytes.  Then: at most eight stages keep a block of at most 2^30 bytes
within the length limit `lawLim` of the laws (`runG_le_lawLim`), and no Forward faults on a block of bytes
(`kind_no_fault`).
-/
import Kanzi.Proofs.BlockGen2Seq
import Kanzi.Proofs.BlockGen2LZ
import Kanzi.Proofs.TrSmall
import Kanzi.Proofs.RLT
import Kanzi.Proofs.SRT
import Kanzi.Proofs.Alias
import Kanzi.Proofs.LZFwd
import Kanzi.Proofs.LZTotal
import Kanzi.Proofs.LZPRound
import Kanzi.Proofs.LZPTotal
import Kanzi.Proofs.FSD

namespace Kanzi.BlockGen2
open Kanzi.Bits Kanzi.TrSmall Kanzi.Block Kanzi.BlockGen

/-- bound on the output length of a successful Forward -/
def Kind.grow : Kind → Nat → Nat
  | .srt => fun a => a + 1024 + a / 268435456
  | .fsd => FSD.fsdMaxEncodedLen
  | _ => fun a => a

def Kind.ltr (k : Kind) : LTr := ⟨k.tr, k.grow⟩

def kindLtrs (ks : List Kind) : List LTr := ks.map Kind.ltr

theorem ltrs_kindLtrs (ks : List Kind) : ltrs (kindLtrs ks) = kindTrs ks := by
  simp [ltrs, kindLtrs, kindTrs, Kind.ltr, List.map_map, Function.comp_def]

/-- the length limit of the laws (SRT counts in `int32`) -/
def lawLim : Nat := 2147483647

theorem ofRlt_ok {r : RLT.Res} {y : List Nat} (h : ofRlt r = .ok y) : r = .ok y := by
  cases r <;> simp [ofRlt] at h ⊢
  exact h

theorem ofSrt_ok {r : SRT.Res} {y : List Nat} (h : ofSrt r = .ok y) : r = .ok y := by
  cases r <;> simp [ofSrt] at h ⊢
  exact h

theorem ofLz_ok {r : LZ.Res} {y : List Nat} (h : ofLz r = .ok y) : ∃ t, r = .ok t ∧ t.toList = y := by
  cases r with
  | ok t => simp [ofLz] at h; exact ⟨t, rfl, h⟩
  | err e => simp [ofLz] at h
  | fault e => simp [ofLz] at h

theorem ofLzp_ok {r : LZP.Res} {y : List Nat} (h : ofLzp r = .ok y) : r = .ok y := by
  cases r <;> simp [ofLzp] at h ⊢
  exact h

/-! ### the law of NONE (its Forward tests the destination size before the empty cases, so it is not `Guarded`) -/

theorem law_none : (Kind.none).tr.Law (Kind.none).grow lawLim where
  grow := grow_id _ _
  invNil := fun n => by simp [Kind.tr, nullInverse, nullCopy]
  rt := by
    intro dt x d y hb _ _ hf
    have g := fun n hn => null_good x.length d n hn x y ⟨hb, Nat.le_refl _⟩ hf
    exact ⟨(g _ (Nat.le_refl _)).1.1, (g _ (Nat.le_refl _)).1.2, fun n hn => (g n hn).2.2⟩

theorem zrlt_guard {x : List Nat} {d : Nat} (h : x.length = 0 ∨ d < zrltMaxEncodedLen x.length) :
    zrltForward x d = if x.length = 0 ∨ d = 0 then .ok [] else .error "dst-too-small" := by
  unfold zrltForward
  by_cases h0 : x.length = 0 ∨ d = 0
  · rw [if_pos h0, if_pos h0]
  · rw [if_neg h0, if_neg h0, if_pos (by omega)]

theorem sbrt_guard (m : Nat) {x : List Nat} {d : Nat} (h : x.length = 0 ∨ d < sbrtMaxEncodedLen x.length) :
    sbrtForward m x d = if x.length = 0 ∨ d = 0 then .ok [] else .error "dst-too-small" := by
  unfold sbrtForward
  by_cases h0 : x.length = 0 ∨ d = 0
  · rw [if_pos h0, if_pos h0]
  · rw [if_neg h0, if_neg h0, if_pos (by omega)]

theorem rlt_guard (dt : Nat) (fast : Bool) {x : List Nat} {d : Nat}
    (h : x.length = 0 ∨ d < RLT.rltMaxEncodedLen x.length) :
    ∃ e, RLT.rltForward dt fast x d = if x.length = 0 ∨ d = 0 then .ok [] else .err e := by
  unfold RLT.rltForward
  by_cases h0 : x.length = 0 ∨ d = 0
  · exact ⟨"", by rw [if_pos h0, if_pos h0]⟩
  · by_cases h1 : x.length < RLT.MIN_BLOCK_LENGTH
    · exact ⟨"small", by rw [if_neg h0, if_neg h0, if_pos h1]⟩
    · exact ⟨"dst", by rw [if_neg h0, if_neg h0, if_neg h1, if_pos (by omega)]⟩

theorem alias_guard (o : Bool) (dt : Nat) {x : List Nat} {d : Nat}
    (h : x.length = 0 ∨ d < Alias.aliasMaxEncodedLen x.length) :
    ∃ e, Alias.aliasForward o dt x d = if x.length = 0 ∨ d = 0 then .ok [] else .err e := by
  unfold Alias.aliasForward
  by_cases h0 : x.length = 0 ∨ d = 0
  · exact ⟨"", by rw [if_pos h0, if_pos h0]⟩
  · exact ⟨"dst", by rw [if_neg h0, if_neg h0, if_pos (by omega)]⟩

theorem fsd_guard (dt : Nat) {x : List Nat} {d : Nat} (h : x.length = 0 ∨ d < FSD.fsdMaxEncodedLen x.length) :
    ∃ e, FSD.fsdForward dt x d = if x.length = 0 ∨ d = 0 then .ok [] else .err e := by
  have he : FSD.fsdEarly dt x d = some (if x.length = 0 ∨ d = 0 then .ok [] else .err "dst") := by
    unfold FSD.fsdEarly
    by_cases h0 : x.length = 0 ∨ d = 0
    · rw [if_pos h0, if_pos h0]
    · rw [if_neg h0, if_neg h0, if_pos (by omega)]
  exact ⟨_, by unfold FSD.fsdForward; rw [he]⟩

theorem srt_guard {x : List Nat} {d : Nat} (h : x.length = 0 ∨ d < SRT.maxEncodedLen x.length) :
    SRT.srtForward x d = if x.length = 0 ∨ d = 0 then .ok [] else .err := by
  unfold SRT.srtForward SRT.srtForwardFill
  by_cases h0 : x.length = 0 ∨ d = 0
  · rw [if_pos h0, if_pos h0]
  · rw [if_neg h0, if_neg h0, if_pos (by omega)]

theorem lzp_guard {x : List Nat} {d : Nat} (h : x.length = 0 ∨ d < LZP.lzpMaxEncodedLen x.length) :
    ∃ e, LZP.lzpForward x d = if x.length = 0 ∨ d = 0 then .ok [] else .err e := by
  unfold LZP.lzpForward
  by_cases h0 : x.length = 0 ∨ d = 0
  · exact ⟨"", by rw [if_pos h0, if_pos h0]⟩
  · exact ⟨"dst", by rw [if_neg h0, if_neg h0, if_pos (by omega)]⟩

theorem lz_guard (extra : Bool) (dt : Nat) {x : List Nat} {d : Nat}
    (h : x.length = 0 ∨ d < LZ.maxEncodedLen x.length) :
    ∃ e, LZ.lzForward extra dt x.toArray d = if x.length = 0 ∨ d = 0 then .ok #[] else .err e := by
  unfold LZ.lzForward
  simp only [List.size_toArray]
  by_cases h0 : x.length = 0 ∨ d = 0
  · exact ⟨"", by rw [if_pos h0, if_pos h0]⟩
  · exact ⟨"dst", by rw [if_neg h0, if_neg h0, if_pos (by omega)]⟩

theorem ofRlt_guard {r : RLT.Res} {c : Prop} [Decidable c] {e : String} (h : r = if c then .ok [] else .err e) :
    ofRlt r = if c then .ok [] else .error e := by
  subst h
  split <;> rfl

theorem guard_ne_fault {r : RLT.Res} {c : Prop} [Decidable c] {e e' : String}
    (h : r = if c then .ok [] else .err e) : r ≠ .fault e' := by
  subst h
  split <;> nofun

theorem guarded_rlt (fast : Bool) : (Kind.rlt fast).tr.Guarded := fun dt _ _ h =>
  (rlt_guard dt fast h).imp fun _ => ofRlt_guard

theorem guarded_alias (o : Bool) : (Kind.alias o).tr.Guarded := fun dt _ _ h =>
  (alias_guard o dt h).imp fun _ => ofRlt_guard

theorem guarded_fsd : Kind.fsd.tr.Guarded := fun dt _ _ h => (fsd_guard dt h).imp fun _ => ofRlt_guard

theorem guarded_srt : Kind.srt.tr.Guarded := fun _ x d h =>
  ⟨"err", by show ofSrt (SRT.srtForward x d) = _; rw [srt_guard h]; split <;> rfl⟩

theorem guarded_lzp : Kind.lzp.tr.Guarded := fun _ x d h => by
  obtain ⟨e, he⟩ := lzp_guard h
  exact ⟨e, by show ofLzp (LZP.lzpForward x d) = _; rw [he]; split <;> rfl⟩

theorem guarded_lz (extra : Bool) : (Kind.lz extra).tr.Guarded := fun dt x d h => by
  obtain ⟨e, he⟩ := lz_guard extra dt h
  exact ⟨e, by show ofLz (LZ.lzForward extra dt x.toArray d) = _; rw [he]; split <;> rfl⟩

theorem law_zrlt : (Kind.zrlt).tr.Law (Kind.zrlt).grow lawLim :=
  .of_guarded (fun _ _ _ h => ⟨_, zrlt_guard h⟩) (grow_id _ _)
    (fun n => by simp [Kind.tr, zrltInverse]) fun dt x d y hb _ hl _ hd hf => by
      have g := fun n hn => zrlt_good x.length d n hn (by unfold lawLim at hl; omega) hd x y ⟨hb, Nat.le_refl _⟩ hf
      exact ⟨(g _ (Nat.le_refl _)).1.1, (g _ (Nat.le_refl _)).1.2, fun n hn => (g n hn).2.2⟩

theorem law_sbrt (m : Nat) : (Kind.sbrt m).tr.Law (Kind.sbrt m).grow lawLim :=
  .of_guarded (fun _ _ _ h => ⟨_, sbrt_guard m h⟩) (grow_id _ _)
    (fun n => by simp [Kind.tr, sbrtInverse]) fun dt x d y hb _ _ _ hd hf => by
      have g := fun n hn => sbrt_good m x.length d n hn hd x y ⟨hb, Nat.le_refl _⟩ hf
      exact ⟨(g _ (Nat.le_refl _)).1.1, (g _ (Nat.le_refl _)).1.2, fun n hn => (g n hn).2.2⟩

theorem law_rlt (fast : Bool) : (Kind.rlt fast).tr.Law (Kind.rlt fast).grow lawLim :=
  .of_guarded (guarded_rlt fast) (grow_id _ _)
    (fun _ => rfl) fun dt x d y hb hx _ _ hd hf => by
      have hf' : RLT.rltForward dt fast x d = .ok y := ofRlt_ok hf
      obtain ⟨_, h2, h3⟩ := RLT.rlt_roundtrip dt fast x y d hb hd hf'
      refine ⟨h2, Nat.le_of_lt (RLT.rlt_shorter dt fast x y d hb hd hx hf'), fun n hn => ?_⟩
      show ofRlt (RLT.rltInverse y n) = .ok x
      rw [h3 n hn]; rfl

theorem law_alias (o : Bool) : (Kind.alias o).tr.Law (Kind.alias o).grow lawLim :=
  .of_guarded (guarded_alias o) (grow_id _ _)
    (fun _ => rfl) fun dt x d y hb _ hl _ hd hf => by
      obtain ⟨h1, _, h3, h4⟩ := Alias.alias_roundtrip o dt x y d hb (Nat.lt_of_le_of_lt hl (by decide)) hd
        (ofRlt_ok hf)
      refine ⟨h3, h1, fun n hn => ?_⟩
      show ofRlt (Alias.aliasInverse y n) = .ok x
      rw [h4 n hn]; rfl

theorem fsdMax_mono {a b : Nat} (h : a ≤ b) : FSD.fsdMaxEncodedLen a ≤ FSD.fsdMaxEncodedLen b := by
  unfold FSD.fsdMaxEncodedLen
  simp only [Nat.shiftRight_eq_div_pow]
  have : a / 2 ^ 4 ≤ b / 2 ^ 4 := Nat.div_le_div_right h
  omega

theorem law_fsd : (Kind.fsd).tr.Law (Kind.fsd).grow lawLim :=
  .of_guarded guarded_fsd
    ⟨fun a => by
      show FSD.fsdMaxEncodedLen a < FSD.fsdMaxEncodedLen (a + 1)
      unfold FSD.fsdMaxEncodedLen
      simp only [Nat.shiftRight_eq_div_pow]
      omega, fun _ r h _ => Nat.le_trans (fsdMax_mono h) (Nat.le_max_right r _)⟩
    (fun _ => rfl) fun dt x d y hb _ _ _ hd hf => by
      obtain ⟨h1, h2, h3⟩ := FSD.fsd_roundtrip dt x y d hb hd (ofRlt_ok hf)
      refine ⟨h2, h1, fun n hn => ?_⟩
      show ofRlt (FSD.fsdInverse y n) = .ok x
      rw [h3 n hn]; rfl

theorem law_srt : (Kind.srt).tr.Law (Kind.srt).grow lawLim :=
  .of_guarded guarded_srt
    ⟨fun a => by show a + 1024 + a / 268435456 < a + 1 + 1024 + (a + 1) / 268435456; omega,
     fun s r h hs => by
      show s + 1024 + s / 268435456 ≤ max r (SRT.maxEncodedLen r)
      unfold SRT.maxEncodedLen lawLim at *
      omega⟩
    (fun _ => rfl) fun dt x d y hb _ hl _ hd hf => by
      have hfreq := SRT.count_lt_of_length_lt x (2 ^ 31) (Nat.lt_of_le_of_lt hl (by decide))
      obtain ⟨t, ht, _, hinv⟩ := SRT.srt_roundtrip 0 x d hb hfreq hd
      have hy : t = y := by
        have hf' : SRT.srtForwardFill 0 x d = .ok y := ofSrt_ok hf
        rw [ht] at hf'
        injection hf'
      subst hy
      have hsharp := SRT.srtForward_length_sharp 0 x t d hb hfreq hd ht
      refine ⟨SRT.srtForward_bytes 0 x t d (by decide) ht, ?_, fun n hn => ?_⟩
      · show t.length ≤ x.length + 1024 + x.length / 268435456
        omega
      · show ofSrt (SRT.srtInverse t n) = .ok x
        rw [hinv n hn]; rfl

theorem law_lzp : (Kind.lzp).tr.Law (Kind.lzp).grow lawLim :=
  .of_guarded guarded_lzp (grow_id _ _)
    (fun _ => rfl) fun dt x d y hb hx _ _ hd hf => by
      obtain ⟨_, h2, h3, h4⟩ := LZP.lzp_roundtrip x y d hd (ofLzp_ok hf)
      refine ⟨h3 hb, Nat.le_of_lt (h2 hx), fun n hn => ?_⟩
      show ofLzp (LZP.lzpInverse false y n) = .ok x
      rw [(h4 n hn).1]; rfl

theorem law_lz (extra : Bool) : (Kind.lz extra).tr.Law (Kind.lz extra).grow lawLim :=
  .of_guarded (guarded_lz extra) (grow_id _ _)
    (fun _ => rfl) fun dt x d y hb hx hl hd0 hd hf => by
      obtain ⟨t, hf', rfl⟩ := ofLz_ok (r := LZ.lzForward extra dt x.toArray d) hf
      have hsz : x.toArray.size = x.length := List.size_toArray
      have hpos : 0 < x.length := List.length_pos_iff.mpr hx
      have hl31 : x.length < 2 ^ 31 := Nat.lt_of_le_of_lt hl (by decide)
      have hshort := (LZ.lzForward_encodes (by rw [hsz]; omega) (Nat.ne_of_gt hd0) hf').2
      refine ⟨LZ.lzForward_bytes (src := x.toArray) (fun b h => hb b (by simpa using h)) hf', ?_, fun n hn => ?_⟩
      · show t.toList.length ≤ x.length
        rw [hsz] at hshort
        rw [Array.length_toList]
        omega
      · show ofLz (LZ.lzInverse t.toList.toArray (Array.replicate n 0)) = .ok x
        rw [Array.toArray_toList, (LZ.lz_roundtrip (Array.replicate n 0) (by rw [hsz]; omega) hd
          (by rw [hsz, Array.size_replicate]; exact hn) hf').1]
        simp [ofLz]

theorem kind_law (k : Kind) : k.tr.Law k.grow lawLim := by
  cases k with
  | none => exact law_none
  | zrlt => exact law_zrlt
  | sbrt m => exact law_sbrt m
  | rlt f => exact law_rlt f
  | srt => exact law_srt
  | alias o => exact law_alias o
  | lz e => exact law_lz e
  | lzp => exact law_lzp
  | fsd => exact law_fsd

theorem kind_law3 (k : Kind) (P : Nat → Prop) : BlockGen3.Law3 k.tr k.grow lawLim P :=
  .ofLaw (kind_law k) P

theorem kindLtrs_law3 (ks : List Kind) (P : Nat → Prop) : ∀ l ∈ kindLtrs ks, BlockGen3.Law3 l.t l.g lawLim P :=
  List.forall_mem_map.mpr fun k _ => kind_law3 k P

/-- a common bound on one stage: `len/16 + 1028` more bytes -/
def stepB (a : Nat) : Nat := a + a / 16 + 1028

def iter (f : Nat → Nat) : Nat → Nat → Nat
  | 0, a => a
  | n + 1, a => iter f n (f a)

theorem iter_mono {f : Nat → Nat} (hf : ∀ a b, a ≤ b → f a ≤ f b) :
    ∀ n a b, a ≤ b → iter f n a ≤ iter f n b := by
  intro n
  induction n with
  | zero => intro a b h; exact h
  | succ n ih => intro a b h; exact ih _ _ (hf a b h)

theorem iter_le_of_le {f : Nat → Nat} (hf : ∀ a b, a ≤ b → f a ≤ f b) (hge : ∀ a, a ≤ f a) :
    ∀ n m a, n ≤ m → iter f n a ≤ iter f m a := by
  intro n m a h
  induction m with
  | zero =>
    have : n = 0 := by omega
    subst this; exact Nat.le_refl _
  | succ m ih =>
    by_cases hn : n = m + 1
    · subst hn; exact Nat.le_refl _
    · exact Nat.le_trans (ih (by omega)) (iter_mono hf m a (f a) (hge a))

theorem stepB_mono (a b : Nat) (h : a ≤ b) : stepB a ≤ stepB b := by
  unfold stepB
  have : a / 16 ≤ b / 16 := Nat.div_le_div_right h
  omega

theorem grow_le_stepB (k : Kind) (a : Nat) : max a (k.grow a) ≤ stepB a := by
  unfold stepB
  cases k with
  | srt => show max a (a + 1024 + a / 268435456) ≤ _; omega
  | fsd =>
    show max a (FSD.fsdMaxEncodedLen a) ≤ _
    unfold FSD.fsdMaxEncodedLen
    simp only [Nat.shiftRight_eq_div_pow]
    omega
  | _ => show max a a ≤ _; omega

/-- every stage stays below the common step bound -/
def StepOK (ls : List LTr) : Prop := ∀ l ∈ ls, ∀ a, max a (l.g a) ≤ stepB a

theorem runG_le_iterB : ∀ (ls : List LTr), StepOK ls → ∀ s, runG ls s ≤ iter stepB ls.length s := by
  intro ls
  induction ls with
  | nil => intro _ s; exact Nat.le_refl _
  | cons l ls ih =>
    intro h s
    show runG ls (max s (l.g s)) ≤ iter stepB ls.length (stepB s)
    exact Nat.le_trans (ih (fun l' h' => h l' (List.mem_cons_of_mem _ h')) _)
      (iter_mono stepB_mono _ _ _ (h l (List.mem_cons_self ..) s))

/-- at most eight stages on a block of at most 2^30 bytes: every intermediate block is within the length limit
of the laws -/
theorem runG_le_lawLim (ls : List LTr) (hs : StepOK ls) (s : Nat) (hn : ls.length ≤ 8) (h30 : s ≤ 2 ^ 30) :
    runG ls s ≤ lawLim := by
  have h1 := runG_le_iterB ls hs s
  have h2 := iter_le_of_le stepB_mono (fun a => by unfold stepB; omega) ls.length 8 s hn
  have h3 := iter_mono stepB_mono 8 s (2 ^ 30) h30
  have h4 : iter stepB 8 (2 ^ 30) ≤ lawLim := by decide
  omega

theorem kindLtrs_step (ks : List Kind) : StepOK (kindLtrs ks) :=
  List.forall_mem_map.mpr fun k _ => grow_le_stepB k

/-! ### no Forward faults

The adapters of `Kind.tr` map a `.fault` of a transform model (a Go panic) to a declined stage.  For
Forward that would be unfaithful (a panic fails the whole block), but it never happens: on a block of byte
values no Forward of the modelled transforms faults, whatever the destination size (below `MaxEncodedLen`
every Forward declines before it touches the destination). -/
theorem kind_no_fault (b : List Nat) (d : Nat) (hb : ∀ x ∈ b, x < 256) (hl : b.length < 2 ^ 31) :
    (∀ dt fast e, RLT.rltForward dt fast b d ≠ .fault e) ∧
    SRT.srtForward b d ≠ .fault ∧
    (∀ o dt e, Alias.aliasForward o dt b d ≠ .fault e) ∧
    (∀ extra dt e, LZ.lzForward extra dt b.toArray d ≠ .fault e) ∧
    (∀ k x l, LZP.lzpForward b d ≠ .fault k x l) ∧
    (∀ dt e, FSD.fsdForward dt b d ≠ .fault e) := by
  refine ⟨fun dt fast e => ?_, SRT.srtForward_no_fault 0 b d hb (SRT.count_lt_of_length_lt b _ hl),
    fun o dt e => ?_, fun extra dt e => ?_, LZP.lzpForward_ne_fault b d, fun dt e => ?_⟩
  · by_cases hd : RLT.rltMaxEncodedLen b.length ≤ d
    · exact RLT.rltForward_ne_fault dt fast b d hd e
    · exact (rlt_guard dt fast (.inr (Nat.lt_of_not_le hd))).elim fun _ => guard_ne_fault
  · by_cases hd : Alias.aliasMaxEncodedLen b.length ≤ d
    · exact Alias.aliasForward_ne_fault o dt b d hd e
    · exact (alias_guard o dt (.inr (Nat.lt_of_not_le hd))).elim fun _ => guard_ne_fault
  · by_cases hd : LZ.maxEncodedLen b.length ≤ d
    · have hB : LZ.Bytes b.toArray := by
        intro i
        rw [Array.getD_eq_getD_getElem?]
        by_cases hi : i < b.toArray.size
        · rw [Array.getElem?_eq_getElem hi]
          exact hb _ (by simp)
        · rw [Array.getElem?_eq_none (by omega)]; decide
      exact LZ.lzForward_nf hB (by rw [List.size_toArray]; exact hd) e
    · obtain ⟨e', he⟩ := lz_guard extra dt (.inr (Nat.lt_of_not_le hd))
      rw [he]
      split <;> nofun
  · by_cases hd : FSD.fsdMaxEncodedLen b.length ≤ d
    · exact FSD.fsdForward_ne_fault dt b d e hd
    · exact (fsd_guard dt (.inr (Nat.lt_of_not_le hd))).elim fun _ => guard_ne_fault

end Kanzi.BlockGen2
