/-
Facts about the computed tables of the TPAQ model (`squashTab` = internal.SQUASH, `stretchTab` =
internal.STRETCH as computed by the `init()` of internal/Global.go): sizes and ranges, proved from the
defining loops (no evaluation of the 4096 entries); sizes of the literal tables.
-/
import Kanzi.Model.TPAQ

namespace Kanzi.TPAQ

theorem blend_bounds {a b w A B : Int} (ha : 0 ≤ a ∧ a ≤ A) (hb : 0 ≤ b ∧ b ≤ B) (hw : 0 ≤ w ∧ w ≤ 128) :
    0 ≤ a * (128 - w) + b * w ∧ a * (128 - w) + b * w ≤ A * (128 - w) + B * w :=
  have hv : 0 ≤ 128 - w := by omega
  ⟨Int.add_nonneg (Int.mul_nonneg ha.1 hv) (Int.mul_nonneg hb.1 hw.1),
   Int.add_le_add (Int.mul_le_mul_of_nonneg_right ha.2 hv) (Int.mul_le_mul_of_nonneg_right hb.2 hw.1)⟩

theorem invExp_bounds : ∀ y, y < 32 →
    (0 ≤ invExp.getD y 0 ∧ invExp.getD y 0 ≤ 65528) ∧ 0 ≤ invExp.getD (y + 1) 0 ∧ invExp.getD (y + 1) 0 ≤ 65536 := by
  decide +kernel

/-- The entry blends two neighbours of `_INV_EXP` with weights `128 - w`, `w ≤ 127`; only the second
can be the last entry, 65536. -/
theorem squashEntry_range (x : Int) (h0 : -2047 ≤ x) (h1 : x ≤ 2047) :
    0 ≤ squashEntry x ∧ squashEntry x ≤ 4095 := by
  have hw0 := Int.emod_nonneg x (show (128 : Int) ≠ 0 by decide)
  have hw1 := Int.emod_lt_of_pos x (show (0 : Int) < 128 by decide)
  have hy : ((x >>> 7) + 16).toNat < 32 := by rw [Int.shiftRight_eq_div_pow]; omega
  have he := invExp_bounds _ hy
  have hb := blend_bounds he.1 he.2 ⟨hw0, Int.le_of_lt hw1⟩
  unfold squashEntry
  rw [Int.shiftRight_eq_div_pow]
  omega

theorem squashTab_size : squashTab.size = 4096 := by simp [squashTab]

theorem squashTab_mem (v : Int) (h : v ∈ squashTab.toList) : 0 ≤ v ∧ v ≤ 4095 := by
  simp only [squashTab, List.mem_map, List.mem_range] at h
  obtain ⟨i, hi, rfl⟩ := h
  split
  · omega
  · exact squashEntry_range _ (by omega) (by omega)

theorem getD_mem_or {l : Array Int} (i : Nat) (d : Int) : l.getD i d ∈ l.toList ∨ l.getD i d = d := by
  by_cases h : i < l.size
  · left; simp [Array.getD, h]
  · right; simp [Array.getD, h]

theorem squashTab_getD (i : Nat) : 0 ≤ squashTab.getD i 0 ∧ squashTab.getD i 0 ≤ 4095 := by
  rcases getD_mem_or (l := squashTab) i 0 with h | h
  · exact squashTab_mem _ h
  · rw [h]; omega

theorem squash_range (d : Int) : 0 ≤ squash d ∧ squash d ≤ 4095 := by
  unfold squash
  split
  · omega
  · split
    · omega
    · exact squashTab_getD _

/-- the index expression `SQUASH[d+2047]` inside `Squash` is in range -/
theorem squash_index_ok (d : Int) (h1 : ¬ d ≥ 2048) (h2 : ¬ d ≤ -2048) : inb (d + 2047) 4096 = true := by
  simp [inb]; omega

/-! ### STRETCH -/

/-- the range of an entry of `STRETCH`: the second loop of `init()` writes values `k - 2047` with
    `k < 4095`, a cell it does not reach stays 0, and the last cell is set to 2047 -/
def InS (v : Int) : Prop := -2047 ≤ v ∧ v ≤ 2047

theorem stretchStep_ok (st : List Int × Nat) (k : Nat) (hk : k < 4095) (h : ∀ v ∈ st.1, InS v) :
    ∀ v ∈ (stretchStep st k).1, InS v := by
  unfold stretchStep
  dsimp only
  split
  · intro v hv
    simp only [List.mem_append, List.mem_replicate] at hv
    rcases hv with ⟨_, rfl⟩ | hv
    · unfold InS; omega
    · exact h v hv
  · exact h

theorem stretchFold_ok (l : List Nat) (hl : ∀ k ∈ l, k < 4095) (st : List Int × Nat) (h : ∀ v ∈ st.1, InS v) :
    ∀ v ∈ (l.foldl stretchStep st).1, InS v := by
  induction l generalizing st with
  | nil => exact h
  | cons k ks ih =>
    exact ih (fun k' hk' => hl k' (List.mem_cons_of_mem _ hk')) _ (stretchStep_ok st k (hl k List.mem_cons_self) h)

theorem stretchList_mem (v : Int) (h : v ∈ stretchList) : InS v := by
  unfold stretchList at h
  rw [List.mem_reverse] at h
  exact stretchFold_ok _ (fun k hk => List.mem_range.1 hk) _ (by simp) v h

theorem stretchTab_size : stretchTab.size = 4096 := by
  simp [stretchTab]; omega

theorem stretchTab_mem (v : Int) (h : v ∈ stretchTab.toList) : InS v := by
  simp only [stretchTab] at h
  rcases List.mem_or_eq_of_mem_set h with h | h
  · have h := List.mem_of_mem_take h
    rcases List.mem_append.1 h with h | h
    · exact stretchList_mem v h
    · rw [List.mem_replicate] at h; rw [h.2]; unfold InS; omega
  · rw [h]; unfold InS; omega

theorem stretchTab_getD (i : Nat) : -2047 ≤ stretchTab.getD i 0 ∧ stretchTab.getD i 0 ≤ 2047 := by
  rcases getD_mem_or (l := stretchTab) i 0 with h | h
  · exact stretchTab_mem _ h
  · rw [h]; omega

theorem stretchAt_range (i : Int) : -2047 ≤ stretchAt i ∧ stretchAt i ≤ 2047 := by
  unfold stretchAt
  split
  · exact stretchTab_getD _
  · omega

/-! ### literal tables -/

theorem trans0_size : trans0.size = 256 := by decide +kernel
theorem trans1_size : trans1.size = 256 := by decide +kernel
theorem stateMap_size : stateMap.size = 256 := by decide +kernel
theorem matchPred_size : matchPred.size = 88 := by decide
theorem invExp_size : invExp.size = 33 := by decide

end Kanzi.TPAQ
