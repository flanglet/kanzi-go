/-
The index-based model of `RLT.Inverse` (`invLoop`, with `.fault` for every out-of-range access) is
equal to a list-based decoder `decL` that reads its input token by token and has no `.fault` outcome.
Consequences: Inverse never faults on any input, and the round trip proof (`RLTFwd.lean`, `RLT.lean`)
can reason about `decL` on appended token lists.
-/
import Kanzi.Model.RLT
import Kanzi.Proofs.Base

namespace Kanzi.RLT

@[simp] theorem Out.bind_ok {α β : Type} (a : α) (f : α → Out β) : (Out.ok a).bind f = f a := rfl
@[simp] theorem Out.bind_err {α β : Type} (e : String) (f : α → Out β) :
    (Out.err e : Out α).bind f = .err e := rfl
@[simp] theorem Out.bind_fault {α β : Type} (e : String) (f : α → Out β) :
    (Out.fault e : Out α).bind f = .fault e := rfl

theorem Out.bind_eq_ok {α β : Type} (x : Out α) (f : α → Out β) (b : β) :
    x.bind f = .ok b ↔ ∃ a, x = .ok a ∧ f a = .ok b := by
  cases x <;> simp [Out.bind]

/-- `o` is a value satisfying `P`, an error, or a run-time fault of a class in `F` -/
def Out.Sat {α : Type} (F : List String) (P : α → Prop) : Out α → Prop
  | .ok a => P a
  | .err _ => True
  | .fault k => k ∈ F

/-- no fault -/
abbrev Out.NF {α : Type} (o : Out α) : Prop := o.Sat [] fun _ => True

theorem Out.Sat.ok {α : Type} {F : List String} {P : α → Prop} {o : Out α} {a : α} (h : o.Sat F P) (e : o = .ok a) :
    P a := by
  rw [e] at h
  exact h

theorem Out.Sat.nf {α : Type} {P : α → Prop} {o : Out α} (h : o.Sat [] P) (k : String) : o ≠ .fault k := by
  intro e
  rw [e] at h
  exact nomatch h

theorem Out.Sat.bind {α β : Type} {F : List String} {P : α → Prop} {Q : β → Prop} {x : Out α} {f : α → Out β}
    (hx : x.Sat F P) (hf : ∀ a, P a → (f a).Sat F Q) : (x.bind f).Sat F Q := by
  cases x with
  | ok a => exact hf a hx
  | err e => trivial
  | fault k => exact hx

theorem Out.Sat.mono {α : Type} {F : List String} {P Q : α → Prop} {o : Out α} (h : o.Sat F P)
    (hpq : ∀ a, P a → Q a) : o.Sat F Q := by
  cases o with
  | ok a => exact hpq a h
  | err e => trivial
  | fault k => exact h

theorem Out.Sat.cases {α : Type} {P : α → Prop} {o : Out α} (h : o.Sat [] P) :
    (∃ e, o = .err e) ∨ ∃ r, o = .ok r ∧ P r := by
  cases o with
  | ok a => exact Or.inr ⟨a, rfl, h⟩
  | err e => exact Or.inl ⟨e, rfl⟩
  | fault k => exact nomatch h

@[simp] theorem RUN_LEN_ENCODE1_eq : RUN_LEN_ENCODE1 = 224 := rfl
@[simp] theorem RUN_LEN_ENCODE2_eq : RUN_LEN_ENCODE2 = 7936 := rfl
@[simp] theorem RUN_THRESHOLD_eq : RUN_THRESHOLD = 3 := rfl
@[simp] theorem MAX_RUN_eq : MAX_RUN = 73473 := rfl
@[simp] theorem MAX_RUN4_eq : MAX_RUN4 = 73469 := rfl
@[simp] theorem MIN_BLOCK_LENGTH_eq : MIN_BLOCK_LENGTH = 16 := rfl

theorem wr_ok (dstEnd : Nat) (out : Array Nat) (bs : List Nat) (h : out.size + bs.length ≤ dstEnd) :
    wr dstEnd out bs = .ok (out ++ bs) := by
  unfold wr; simp [h]

theorem wr_cases (dstEnd : Nat) (out : Array Nat) (bs : List Nat) :
    wr dstEnd out bs = .ok (out ++ bs) ∨ ∃ e, wr dstEnd out bs = .fault e := by
  unfold wr; split
  · exact Or.inl rfl
  · exact Or.inr ⟨_, rfl⟩

theorem getD_last (a : Array Nat) : a.getD (a.size - 1) 0 = a.toList.getLastD 0 := by
  cases a with | mk l =>
  simp [List.getLastD_eq_getLast?, List.getLast?_eq_getElem?]

/-- Go "Sanity check": `run > _RLT_MAX_RUN || dstIdx+run >= dstEnd` -/
def runBad (n : Nat) (d : List Nat) (run : Nat) : Bool := run > MAX_RUN ∨ d.length + run ≥ n

/-- `RLT.Inverse` main loop on the list of the remaining input bytes; `d` = the bytes decoded so far,
    `n` = `len(dst)`.  Same error classes as `invLoop`; the result type has no fault outcome. -/
def decL (n esc : Nat) : List Nat → List Nat → Except String (List Nat)
  | [], d => .ok d
  | x :: rest, d =>
    if x ≠ esc then (if d.length ≥ n then .error "data" else decL n esc rest (d ++ [x]))
    else match rest with
      | [] => .error "data"
      | r :: rest2 =>
        if r = 0 then (if d.length ≥ n then .error "data" else decL n esc rest2 (d ++ [esc]))
        else if r = 0xFF then
          match rest2 with
          | a :: b :: rest3 =>
            if runBad n d ((((a <<< 8) ||| b) + RUN_LEN_ENCODE2) + (RUN_THRESHOLD - 1)) then .error "run"
            else decL n esc rest3
              (d ++ List.replicate ((((a <<< 8) ||| b) + RUN_LEN_ENCODE2) + (RUN_THRESHOLD - 1)) (d.getLastD 0))
          | _ => .error "data"
        else if r ≥ RUN_LEN_ENCODE1 then
          match rest2 with
          | a :: rest3 =>
            if runBad n d (((((r - RUN_LEN_ENCODE1) <<< 8) ||| a) + RUN_LEN_ENCODE1) + (RUN_THRESHOLD - 1))
            then .error "run"
            else decL n esc rest3
              (d ++ List.replicate (((((r - RUN_LEN_ENCODE1) <<< 8) ||| a) + RUN_LEN_ENCODE1) + (RUN_THRESHOLD - 1))
                (d.getLastD 0))
          | [] => .error "data"
        else
          if runBad n d (r + (RUN_THRESHOLD - 1)) then .error "run"
          else decL n esc rest2 (d ++ List.replicate (r + (RUN_THRESHOLD - 1)) (d.getLastD 0))

def liftE : Except String (List Nat) → Res
  | .ok d => .ok d
  | .error e => .err e

theorem liftE_ne_fault (r : Except String (List Nat)) (e : String) : liftE r ≠ .fault e := by
  cases r <;> simp [liftE]

theorem decL_nil (n esc : Nat) (d : List Nat) : decL n esc [] d = .ok d := by
  rw [decL.eq_def]

theorem decL_lit (n esc x : Nat) (rest d : List Nat) (hx : x ≠ esc) :
    decL n esc (x :: rest) d = if d.length ≥ n then .error "data" else decL n esc rest (d ++ [x]) := by
  rw [decL.eq_def]; simp [hx]

theorem decL_esc_end (n esc : Nat) (d : List Nat) : decL n esc [esc] d = .error "data" := by
  rw [decL.eq_def]; simp

theorem decL_esc0 (n esc : Nat) (rest d : List Nat) :
    decL n esc (esc :: 0 :: rest) d
      = if d.length ≥ n then .error "data" else decL n esc rest (d ++ [esc]) := by
  rw [decL.eq_def]; simp

/-- effect of a run token of total length `run` (the previous byte is repeated `run` times) -/
def runStep (n esc : Nat) (rest d : List Nat) (run : Nat) : Except String (List Nat) :=
  if runBad n d run then .error "run" else decL n esc rest (d ++ List.replicate run (d.getLastD 0))

theorem decL_runFF (n esc a b : Nat) (rest d : List Nat) :
    decL n esc (esc :: 0xFF :: a :: b :: rest) d
      = runStep n esc rest d ((((a <<< 8) ||| b) + RUN_LEN_ENCODE2) + (RUN_THRESHOLD - 1)) := by
  rw [decL.eq_def]
  simp only [ne_eq, not_true_eq_false, if_false, runStep]
  rw [if_pos trivial, if_neg (by decide)]

theorem decL_runFF_short (n esc : Nat) (rest d : List Nat) (h : rest.length < 2) :
    decL n esc (esc :: 0xFF :: rest) d = .error "data" := by
  cases rest with
  | nil =>
    rw [decL.eq_def]
    simp only [ne_eq, not_true_eq_false, if_false]
    rw [if_neg (by decide), if_pos trivial]
  | cons a t =>
    cases t with
    | nil =>
      rw [decL.eq_def]
      simp only [ne_eq, not_true_eq_false, if_false]
      rw [if_neg (by decide), if_pos trivial]
    | cons b t2 => simp at h; omega

theorem decL_run2 (n esc r a : Nat) (rest d : List Nat) (h0 : r ≠ 0) (hff : r ≠ 0xFF) (h : r ≥ 224) :
    decL n esc (esc :: r :: a :: rest) d
      = runStep n esc rest d (((((r - RUN_LEN_ENCODE1) <<< 8) ||| a) + RUN_LEN_ENCODE1) + (RUN_THRESHOLD - 1)) := by
  rw [decL.eq_def]
  simp only [ne_eq, not_true_eq_false, if_false, h0, hff, runStep]
  rw [if_pos (show r ≥ RUN_LEN_ENCODE1 from h)]

theorem decL_run2_short (n esc r : Nat) (d : List Nat) (h0 : r ≠ 0) (hff : r ≠ 0xFF) (h : r ≥ 224) :
    decL n esc [esc, r] d = .error "data" := by
  rw [decL.eq_def]
  simp only [ne_eq, not_true_eq_false, if_false, h0, hff]
  rw [if_pos (show r ≥ RUN_LEN_ENCODE1 from h)]

theorem decL_run1 (n esc r : Nat) (rest d : List Nat) (h0 : r ≠ 0) (h : r < 224) :
    decL n esc (esc :: r :: rest) d = runStep n esc rest d (r + (RUN_THRESHOLD - 1)) := by
  rw [decL.eq_def]
  have hff : r ≠ 0xFF := by omega
  have h2 : ¬ r ≥ RUN_LEN_ENCODE1 := by simp only [RUN_LEN_ENCODE1_eq]; omega
  simp only [ne_eq, not_true_eq_false, if_false, h0, hff, runStep]
  rw [if_neg h2]

theorem drop_cons (l : List Nat) (i : Nat) (h : i < l.length) : l.drop i = l[i] :: l.drop (i + 1) :=
  List.drop_eq_getElem_cons h

theorem get_toArray (l : List Nat) (i : Nat) (h : i < l.length) : l.toArray[i]? = some l[i] := by
  simp [List.getElem?_eq_getElem h]

theorem inv_run_tail (l : List Nat) (n esc f i3 run : Nat) (out : Array Nat) (hout : out.size ≠ 0)
    (hih : ∀ out' : Array Nat, out'.size ≠ 0 →
      invFinish l.toArray (invLoop l.toArray n esc f i3 out') = liftE (decL n esc (l.drop i3) out'.toList)) :
    invFinish l.toArray
      (if run > MAX_RUN ∨ out.size + run ≥ n then .err "run"
       else if out.size = 0 then .fault "dst-index"
       else (wr n out (List.replicate run (out.getD (out.size - 1) 0))).bind
          fun o => invLoop l.toArray n esc f i3 o)
      = liftE (runStep n esc (l.drop i3) out.toList run) := by
  unfold runStep runBad
  have hsz : out.toList.length = out.size := Array.length_toList
  rw [getD_last, hsz]
  by_cases hb : run > MAX_RUN ∨ out.size + run ≥ n
  · simp only [hb, if_true, decide_true, invFinish, liftE, Out.bind_err]
  · simp only [hb, if_false, hout, decide_false, Bool.false_eq_true]
    rw [wr_ok n out _ (by simp only [List.length_replicate]; omega)]
    simp only [Out.bind_ok]
    rw [hih _ (by rw [size_appendList]; omega)]
    simp only [Array.toList_appendList]

/-- The last hypothesis: a run token needs a previous output byte (`dst[dstIdx-1]`); Inverse
    enters the loop either after storing the leading escape literal or at a byte that is not the escape. -/
theorem invLoop_eq_decL (l : List Nat) (n esc : Nat) :
    ∀ (f i : Nat) (out : Array Nat), l.length - i ≤ f → i ≤ l.length →
      (out.size = 0 → l[i]? ≠ some esc) →
      invFinish l.toArray (invLoop l.toArray n esc f i out) = liftE (decL n esc (l.drop i) out.toList) := by
  intro f
  induction f with
  | zero =>
    intro i out hf hi _
    have : i = l.length := by omega
    subst this
    simp [invLoop, invFinish, decL_nil, liftE]
  | succ f ih =>
    intro i out hf hi hne
    have hsz : out.toList.length = out.size := Array.length_toList
    by_cases hlt : i < l.length
    · have hfuel : ∀ j, i < j → l.length - j ≤ f := fun j hj => by omega
      rw [drop_cons l i hlt, invLoop]
      simp only [List.size_toArray, hlt, if_true, get_toArray l i hlt]
      by_cases hx : l[i] ≠ esc
      · rw [decL_lit _ _ _ _ _ hx]
        simp only [hx, ne_eq, not_false_eq_true, if_true]
        by_cases hfull : out.size ≥ n
        · simp [hfull, invFinish, liftE]
        · simp only [hfull, if_false, hsz]
          rw [wr_ok n out [l[i]] (Nat.lt_of_not_le hfull)]
          simp only [Out.bind_ok]
          rw [ih (i + 1) (out ++ [l[i]]) (hfuel _ (Nat.lt_succ_self i)) hlt (by simp)]
          simp
      · have hx' : l[i] = esc := by simpa using hx
        have hout : out.size ≠ 0 := by
          intro h0; apply hne h0; rw [List.getElem?_eq_getElem hlt, hx']
        simp only [hx', ne_eq, not_true_eq_false, if_false]
        by_cases h1 : i + 1 < l.length
        · rw [drop_cons l (i + 1) h1]
          have n1 : ¬ (i + 1 ≥ l.length) := Nat.not_le_of_gt h1
          simp only [n1, if_false, get_toArray l (i + 1) h1]
          by_cases hr0 : l[i + 1] = 0
          · rw [hr0, decL_esc0]
            simp only [if_true]
            by_cases hfull : out.size ≥ n
            · simp [hfull, invFinish, liftE]
            · simp only [hfull, if_false, hsz]
              rw [wr_ok n out [esc] (Nat.lt_of_not_le hfull)]
              simp only [Out.bind_ok]
              rw [ih (i + 2) (out ++ [esc]) (hfuel _ (Nat.lt_add_of_pos_right (by decide))) h1 (by simp)]
              simp
          · simp only [hr0, if_false]
            have hih : ∀ i3, i + 2 ≤ i3 → i3 ≤ l.length → ∀ out' : Array Nat, out'.size ≠ 0 →
                invFinish l.toArray (invLoop l.toArray n esc f i3 out')
                  = liftE (decL n esc (l.drop i3) out'.toList) :=
              fun i3 h3 h3' out' ho => ih i3 out' (hfuel _ (Nat.lt_of_lt_of_le (Nat.lt_add_of_pos_right (by decide)) h3)) h3'
                (fun h => absurd h ho)
            by_cases hff : l[i + 1] = 0xFF
            · -- three-byte length
              rw [hff]
              by_cases h3 : i + 3 < l.length
              · have h2 : i + 2 < l.length := Nat.lt_of_succ_lt h3
                rw [drop_cons l (i + 2) h2, drop_cons l (i + 3) h3, decL_runFF]
                have n3 : ¬ (i + 2 + 1 ≥ l.length) := Nat.not_le_of_gt h3
                simp only [decodeRun, if_true, List.size_toArray, n3, if_false,
                  get_toArray l (i + 2) h2, get_toArray l (i + 3) h3, Out.bind_ok]
                exact inv_run_tail l n esc f (i + 2 + 2) _ out hout (hih _ (Nat.le_add_right _ _) h3)
              · rw [decL_runFF_short _ _ _ _ (by rw [List.length_drop]; omega)]
                have n3 : i + 2 + 1 ≥ l.length := Nat.le_of_not_lt h3
                simp only [decodeRun, if_true, List.size_toArray, n3, Out.bind_err, invFinish, liftE]
            · by_cases h224 : l[i + 1] ≥ RUN_LEN_ENCODE1
              · -- two-byte length
                by_cases h2 : i + 2 < l.length
                · rw [drop_cons l (i + 2) h2, decL_run2 _ _ _ _ _ _ hr0 hff h224]
                  have n2 : ¬ (i + 2 ≥ l.length) := Nat.not_le_of_gt h2
                  rw [decodeRun]
                  simp only [hff, if_false, h224, if_true,
                    List.size_toArray, n2, get_toArray l (i + 2) h2, Out.bind_ok]
                  exact inv_run_tail l n esc f (i + 2 + 1) _ out hout (hih _ (Nat.le_add_right _ _) h2)
                · have hnil : l.drop (i + 2) = [] := List.drop_eq_nil_of_le (Nat.le_of_not_lt h2)
                  rw [hnil, decL_run2_short _ _ _ _ hr0 hff h224]
                  have n2 : i + 2 ≥ l.length := Nat.le_of_not_lt h2
                  rw [decodeRun]
                  simp only [hff, if_false, h224, if_true,
                    List.size_toArray, n2, Out.bind_err, invFinish, liftE]
              · -- one-byte length
                rw [decL_run1 _ _ _ _ _ hr0 (by simp only [RUN_LEN_ENCODE1_eq] at h224; omega)]
                rw [decodeRun]
                simp only [hff, if_false, h224, Out.bind_ok]
                exact inv_run_tail l n esc f (i + 2) _ out hout (hih _ (Nat.le_refl _) h1)
        · have hnil : l.drop (i + 1) = [] := List.drop_eq_nil_of_le (Nat.le_of_not_lt h1)
          rw [hnil, decL_esc_end]
          have : i + 1 ≥ l.length := Nat.le_of_not_lt h1
          simp [this, invFinish, liftE]
    · have : i = l.length := by omega
      subst this
      simp [invLoop, invFinish, decL_nil, liftE]

theorem invLoop_done (src : Array Nat) (n esc f i : Nat) (out : Array Nat) (h : src.size ≤ i) :
    invLoop src n esc f i out = .ok (i, out) := by
  have : ¬ i < src.size := by omega
  cases f <;> simp [invLoop, this]

/-- `RLT.Inverse` on the list of input bytes: the guards and the head of the block (the escape byte, then a
    literal), then `decL` -/
def invL (src : List Nat) (n : Nat) : Except String (List Nat) :=
  if n = 0 then .ok []
  else match src with
    | [] => .ok []
    | [_] => .error "data"
    | esc :: x :: rest =>
      if x ≠ esc then decL n esc (x :: rest) []
      else match rest with
        | [] => .error "data"
        | z :: rest2 => if z = 0 then decL n esc rest2 [esc] else .error "starts-run"

theorem rltInverse_eq (src : List Nat) (n : Nat) : rltInverse src n = liftE (invL src n) := by
  unfold rltInverse invL
  by_cases hn : n = 0
  · rw [if_pos (Or.inr hn), if_pos hn]
    rfl
  rw [if_neg hn]
  match src with
  | [] => rfl
  | [_] =>
    rw [if_neg (by simp [hn]), if_pos (by simp)]
    rfl
  | esc :: x :: rest =>
    rw [if_neg (by simp [hn]), if_neg (by simp)]
    simp only [List.getElem?_toArray, List.getElem?_cons_zero, List.getElem?_cons_succ]
    by_cases hx : x = esc
    · subst hx
      simp only [if_true, ne_eq, not_true_eq_false, if_false]
      have hw : wr n #[] [x] = .ok #[x] := by rw [wr_ok _ _ _ (by simp; omega)]; rfl
      cases rest with
      | nil =>
        simp only [List.size_toArray, List.length_cons, List.length_nil, hw, Out.bind_ok]
        rw [invLoop_done _ _ _ _ _ _ (by simp)]
        simp [invFinish, liftE]
      | cons z rest' =>
        by_cases hz : z = 0
        · subst hz
          have h := invLoop_eq_decL (x :: x :: 0 :: rest') n x (x :: x :: 0 :: rest').length 3 #[x]
            (by simp only [List.length_cons]; omega) (by simp only [List.length_cons]; omega) (by simp)
          simp only [List.size_toArray, List.getElem?_cons_zero, hw, Out.bind_ok]
          simp only [not_true_eq_false, and_false, if_false, if_true]
          exact h
        · simp [hz, liftE]
    · simp only [hx, if_false, ne_eq, not_false_eq_true, if_true, List.size_toArray]
      exact invLoop_eq_decL (esc :: x :: rest) n esc (esc :: x :: rest).length 1 #[]
        (by simp) (by simp) (by intro _; simp [hx])

/-- C13_rlt_total, Inverse part: no input and no destination size makes the Go code index out of
    range (and the fuel of the model loop is sufficient) -/
theorem rltInverse_ne_fault (src : List Nat) (n : Nat) (e : String) : rltInverse src n ≠ .fault e := by
  rw [rltInverse_eq]
  exact liftE_ne_fault _ _

end Kanzi.RLT
