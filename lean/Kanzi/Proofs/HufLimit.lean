/-
Huffman codec (C12): the fast path of `limitCodeLengths`.  Starting from
lengths that satisfy Kraft's equality and are non increasing along `ranks`, the fold / queue /
repay / adjust steps never fault, keep every length in [1, 12], and keep the invariant
    Kraft sum (units 2^-256)  ≤  2^256 + debt * 2^244
so that `debt = 0` at the end implies Kraft's inequality for the limited lengths.
-/
import Kanzi.Model.Huffman
import Kanzi.Proofs.EntSmall
import Kanzi.Proofs.HufLengths
import Kanzi.Proofs.HufCanon
import Mathlib.Data.List.Perm.Basic
import Mathlib.Data.List.Nodup
import Mathlib.Tactic.Ring

namespace Kanzi.Huffman
open Kanzi.EntSmall

def kraftM (M : Nat) (sizes l : List Nat) : Nat := wsum M (lensOf sizes l)

theorem lensOf_set_notin (sizes : List Nat) (r v : Nat) : ∀ (l : List Nat), r ∉ l →
    lensOf (sizes.set r v) l = lensOf sizes l := by
  intro l hr
  unfold lensOf
  apply List.map_congr_left
  intro x hx
  exact getD_set_ne _ _ _ _ (fun h => hr (h ▸ hx))

theorem kraftM_cons (M : Nat) (sizes : List Nat) (s : Nat) (l : List Nat) :
    kraftM M sizes (s :: l) = 2 ^ (M - sizes.getD s 0) + kraftM M sizes l := by
  simp [kraftM, lensOf, wsum]

theorem kraftM_perm (M : Nat) (sizes : List Nat) {l1 l2 : List Nat} (h : l1.Perm l2) :
    kraftM M sizes l1 = kraftM M sizes l2 := by
  unfold kraftM wsum lensOf
  exact ((h.map _).map _).sum_nat

theorem kraftM_set_notin (M : Nat) (sizes : List Nat) (r v : Nat) (l : List Nat) (hr : r ∉ l) :
    kraftM M (sizes.set r v) l = kraftM M sizes l := by
  unfold kraftM
  rw [lensOf_set_notin _ _ _ _ hr]

theorem kraftM_set (M : Nat) (sizes : List Nat) (r v : Nat) (hr : r < sizes.length) (l : List Nat)
    (hnd : l.Nodup) (hm : r ∈ l) :
    kraftM M (sizes.set r v) l + 2 ^ (M - sizes.getD r 0) = kraftM M sizes l + 2 ^ (M - v) := by
  have hp := List.perm_cons_erase hm
  rw [kraftM_perm M _ hp, kraftM_perm M sizes hp, kraftM_cons, kraftM_cons, getD_set_self _ _ _ hr,
    kraftM_set_notin _ _ _ _ _ hnd.not_mem_erase]
  omega

/-- `u` = 2^-12 in units of 2^-256 -/
def unit12 : Nat := 2 ^ 244

theorem pow_split (L : Nat) (h : L ≤ 12) : 2 ^ (256 - L) = 2 ^ (12 - L) * unit12 := by
  unfold unit12
  rw [← Nat.pow_add]; congr 1; omega

theorem kraftM_eq_kraft12 (sizes : List Nat) : ∀ (l : List Nat), (∀ s ∈ l, sizes.getD s 0 ≤ 12) →
    kraftM 256 sizes l = kraft12 sizes l * unit12 := by
  intro l
  induction l with
  | nil => intro _; simp [kraftM, lensOf, wsum, kraft12]
  | cons s ss ih =>
    intro h
    rw [kraftM_cons, kraft12_cons, ih (fun x hx => h x (List.mem_cons_of_mem _ hx)),
      pow_split _ (h s List.mem_cons_self), slotW]
    ring

structure RanksOk (sizes ranks : List Nat) : Prop where
  nodup : ranks.Nodup
  lt : ∀ s ∈ ranks, s < sizes.length

/-- a length `L ≥ 12` cut to 12 bits costs one unit, which its weight and `L - 12` units of debt cover -/
theorem unit12_le (L : Nat) (h : 12 ≤ L) : unit12 ≤ 2 ^ (256 - L) + (L - 12) * unit12 := by
  by_cases h12 : L = 12
  · subst h12
    exact Nat.le_add_right _ _
  · exact Nat.le_trans (Nat.le_mul_of_pos_left _ (by omega)) (Nat.le_add_left _ _)

theorem foldOver_spec : ∀ (l sizes : List Nat) (debt : Nat), l.Nodup → (∀ s ∈ l, s < sizes.length) →
    (∃ s ∈ l, sizes.getD s 0 < 12) → (lensOf sizes l).Pairwise (· ≥ ·) → (∀ s ∈ l, 1 ≤ sizes.getD s 0) →
    ∃ sizes' debt' rest, foldOver sizes l debt = some (sizes', debt', rest) ∧
      sizes'.length = sizes.length ∧ rest <:+ l ∧
      (∀ x, x ∉ l → sizes'.getD x 0 = sizes.getD x 0) ∧
      (∀ s ∈ l, 1 ≤ sizes'.getD s 0 ∧ sizes'.getD s 0 ≤ 12) ∧
      (∀ s ∈ rest, sizes'.getD s 0 < 12) ∧
      kraftM 256 sizes' l + debt * unit12 ≤ kraftM 256 sizes l + debt' * unit12 := by
  intro l
  induction l with
  | nil => intro sizes debt _ _ h; obtain ⟨s, hs, _⟩ := h; cases hs
  | cons r rs ih =>
    intro sizes debt hnd hlt hex hmono hpos
    have hnd' := List.nodup_cons.mp hnd
    simp only [lensOf, List.map_cons, List.pairwise_cons] at hmono
    simp only [foldOver]
    by_cases hge : sizes.getD r 0 ≥ 12
    · rw [if_pos hge]
      have hne : ∀ s ∈ rs, r ≠ s := fun s hs h => hnd'.1 (h ▸ hs)
      obtain ⟨s, hs, hslt⟩ := hex
      have hs' : s ∈ rs := (List.mem_cons.mp hs).resolve_left (fun h => by subst h; omega)
      obtain ⟨sizes', debt', rest, hf, hlen, hsuf, hframe, hrange, hrest, hk⟩ :=
        ih (sizes.set r 12) (debt + (sizes.getD r 0 - 12)) hnd'.2
          (fun x hx => by rw [List.length_set]; exact hlt x (List.mem_cons_of_mem _ hx))
          ⟨s, hs', by rw [getD_set_ne _ _ _ _ (hne s hs')]; exact hslt⟩
          (by rw [lensOf_set_notin _ _ _ _ hnd'.1]; exact hmono.2)
          (fun x hx => by rw [getD_set_ne _ _ _ _ (hne x hx)]; exact hpos x (List.mem_cons_of_mem _ hx))
      have hr12 : sizes'.getD r 0 = 12 := by
        rw [hframe r hnd'.1]; exact getD_set_self _ _ _ (hlt r List.mem_cons_self)
      refine ⟨sizes', debt', rest, hf, by rw [hlen, List.length_set], hsuf.trans (List.suffix_cons r rs),
        ?_, ?_, hrest, ?_⟩
      · intro x hx
        rw [hframe x (fun h => hx (List.mem_cons_of_mem _ h))]
        exact getD_set_ne _ _ _ _ (fun h => hx (h ▸ List.mem_cons_self))
      · intro x hx
        rcases List.mem_cons.mp hx with rfl | hx
        · rw [hr12]; exact ⟨by decide, Nat.le_refl _⟩
        · exact hrange x hx
      · have hu := unit12_le _ hge
        rw [kraftM_set_notin _ _ _ _ _ hnd'.1, Nat.add_mul] at hk
        rw [kraftM_cons, kraftM_cons, hr12, show (2 : Nat) ^ (256 - 12) = unit12 from rfl]
        omega
    · rw [if_neg hge]
      -- the lengths do not increase along `l`: all of them are below 12
      have hall : ∀ s ∈ r :: rs, sizes.getD s 0 < 12 := by
        intro s hs
        rcases List.mem_cons.mp hs with rfl | h
        · omega
        · have := hmono.1 _ (List.mem_map.mpr ⟨s, h, rfl⟩)
          omega
      exact ⟨sizes, debt, r :: rs, rfl, rfl, List.suffix_refl _, fun _ _ => rfl,
        fun s hs => ⟨hpos s hs, Nat.le_of_lt (hall s hs)⟩, hall, Nat.le_refl _⟩

theorem getD_set_list (q : List (List Nat)) (i j : Nat) (v : List Nat) :
    (q.set i v).getD j [] = if i = j ∧ i < q.length then v else q.getD j [] := by
  simp only [List.getD_eq_getElem?_getD, List.getElem?_set]
  by_cases hij : i = j
  · subst hij
    by_cases hi : i < q.length
    · simp [hi]
    · simp [hi]
  · simp [hij]

/-- every queue holds distinct symbols of `all`, of length `11 - idx` -/
structure QOk (sizes all : List Nat) (q : List (List Nat)) : Prop where
  len : q.length = 6
  nodup : ∀ idx, idx < 6 → (q.getD idx []).Nodup
  mem : ∀ idx, idx < 6 → ∀ r ∈ q.getD idx [], r ∈ all ∧ sizes.getD r 0 + idx = 11

theorem enqueue_spec (sizes all : List Nat) (debt : Nat) : ∀ (l : List Nat) (q : List (List Nat)),
    l.Nodup → (∀ x ∈ l, x ∈ all ∧ sizes.getD x 0 < 12) → QOk sizes all q →
    (∀ idx, idx < 6 → ∀ x ∈ q.getD idx [], x ∉ l) →
    QOk sizes all (enqueue sizes l debt q) := by
  intro l
  induction l with
  | nil => intro q _ _ h _; exact h
  | cons r rs ih =>
    intro q hnd hl hq hnot
    have hnd' := List.nodup_cons.mp hnd
    simp only [enqueue]
    split
    · exact hq
    · rename_i hc
      have hrl := hl r List.mem_cons_self
      have hidx : (11 + 256 - sizes.getD r 0) % 256 = 11 - sizes.getD r 0 := by omega
      rw [hidx] at hc ⊢
      have hi5 : 11 - sizes.getD r 0 ≤ 5 := by omega
      refine ih _ hnd'.2 (fun x hx => hl x (List.mem_cons_of_mem _ hx)) ⟨by rw [List.length_set]; exact hq.len, ?_, ?_⟩ ?_
      · intro idx hidx6
        rw [getD_set_list]
        split
        · rename_i he
          rw [List.nodup_append]
          refine ⟨hq.nodup _ (by omega), List.nodup_singleton r, ?_⟩
          intro a ha b hb
          have : b = r := by simpa using hb
          subst this
          intro hab; subst hab
          exact hnot _ (by omega) a ha List.mem_cons_self
        · exact hq.nodup idx hidx6
      · intro idx hidx6 x hx
        rw [getD_set_list] at hx
        split at hx
        · rename_i he
          rcases List.mem_append.mp hx with h | h
          · exact hq.mem idx hidx6 x (he.1 ▸ h)
          · have : x = r := by simpa using h
            subst this
            exact ⟨hrl.1, by omega⟩
        · exact hq.mem idx hidx6 x hx
      · intro idx hidx6 x hx
        rw [getD_set_list] at hx
        split at hx
        · rename_i he
          rcases List.mem_append.mp hx with h | h
          · exact fun hm => hnot _ (by omega) x h (List.mem_cons_of_mem _ hm)
          · have : x = r := by simpa using h
            subst this
            exact hnd'.1
        · exact fun hm => hnot idx hidx6 x hx (List.mem_cons_of_mem _ hm)

/-- what one level does: it pops a prefix `popped` of the queue, lengthens exactly these
    symbols by one bit, and keeps the Kraft / debt invariant -/
structure PopRes (sizes ranks l : List Nat) (debt : Nat) (res : List Nat × Nat × List Nat) : Prop where
  split : ∃ popped, l = popped ++ res.1 ∧
    (∀ x, x ∉ popped → res.2.2.getD x 0 = sizes.getD x 0) ∧
    (∀ x ∈ popped, res.2.2.getD x 0 = sizes.getD x 0 + 1)
  len : res.2.2.length = sizes.length
  kraft : kraftM 256 res.2.2 ranks ≤ 2 ^ 256 + res.2.1 * unit12

theorem pop_kraft (sizes ranks : List Nat) (r idx debt : Nat) (hok : RanksOk sizes ranks) (hr : r ∈ ranks)
    (hsz : sizes.getD r 0 + idx = 11)
    (hk : kraftM 256 sizes ranks ≤ 2 ^ 256 + debt * unit12) :
    kraftM 256 (sizes.set r ((sizes.getD r 0 + 1) % 256)) ranks ≤ 2 ^ 256 + (debt - 2 ^ idx) * unit12 := by
  have hks := kraftM_set 256 sizes r ((sizes.getD r 0 + 1) % 256) (hok.lt r hr) ranks hok.nodup hr
  rw [Nat.mod_eq_of_lt (by omega)] at hks ⊢
  have e1 : 2 ^ (256 - sizes.getD r 0) = 2 * (2 ^ idx * unit12) := by
    unfold unit12
    rw [← Nat.pow_add, ← Nat.pow_succ']; congr 1; omega
  have e2 : 2 ^ (256 - (sizes.getD r 0 + 1)) = 2 ^ idx * unit12 := by
    unfold unit12
    rw [← Nat.pow_add]; congr 1; omega
  rw [e1, e2] at hks
  by_cases hd : debt < 2 ^ idx
  · have : debt * unit12 ≤ 2 ^ idx * unit12 := Nat.mul_le_mul_right _ (Nat.le_of_lt hd)
    rw [show debt - 2 ^ idx = 0 by omega, Nat.zero_mul]
    omega
  · have : (debt - 2 ^ idx) * unit12 + 2 ^ idx * unit12 = debt * unit12 := by
      rw [← Nat.add_mul, Nat.sub_add_cancel (by omega)]
    omega

/-- `repay` and `adjust` differ only in the test that ends a level: `f` stands for either -/
theorem pop_spec (ranks : List Nat) (idx : Nat) (f : List Nat → Nat → List Nat → List Nat × Nat × List Nat)
    (hnil : ∀ debt sizes, f [] debt sizes = ([], debt, sizes))
    (hcons : ∀ r rest debt sizes, f (r :: rest) debt sizes = (r :: rest, debt, sizes) ∨
      f (r :: rest) debt sizes = f rest (debt - 2 ^ idx) (sizes.set r ((sizes.getD r 0 + 1) % 256))) :
    ∀ (l : List Nat) (debt : Nat) (sizes : List Nat),
    RanksOk sizes ranks → l.Nodup → (∀ r ∈ l, r ∈ ranks ∧ sizes.getD r 0 + idx = 11) →
    kraftM 256 sizes ranks ≤ 2 ^ 256 + debt * unit12 →
    PopRes sizes ranks l debt (f l debt sizes) := by
  have stop : ∀ (l : List Nat) (debt : Nat) (sizes : List Nat),
      kraftM 256 sizes ranks ≤ 2 ^ 256 + debt * unit12 → PopRes sizes ranks l debt (l, debt, sizes) :=
    fun l debt sizes hk => ⟨⟨[], rfl, fun _ _ => rfl, fun _ h => by cases h⟩, rfl, hk⟩
  intro l
  induction l with
  | nil => intro debt sizes _ _ _ hk; rw [hnil]; exact stop [] debt sizes hk
  | cons r rest ih =>
    intro debt sizes hok hnd hl hk
    have hnd' := List.nodup_cons.mp hnd
    have hr := hl r List.mem_cons_self
    rcases hcons r rest debt sizes with hf | hf
    · rw [hf]; exact stop _ debt sizes hk
    · rw [hf]
      have hrl := hok.lt r hr.1
      have hok' : RanksOk (sizes.set r ((sizes.getD r 0 + 1) % 256)) ranks :=
        ⟨hok.nodup, fun s hs => by rw [List.length_set]; exact hok.lt s hs⟩
      have := ih (debt - 2 ^ idx) (sizes.set r ((sizes.getD r 0 + 1) % 256)) hok' hnd'.2
        (fun x hx => by
          have hxr : r ≠ x := fun h => hnd'.1 (h ▸ hx)
          rw [getD_set_ne _ _ _ _ hxr]; exact hl x (List.mem_cons_of_mem _ hx))
        (pop_kraft sizes ranks r idx debt hok hr.1 hr.2 hk)
      obtain ⟨⟨popped, hsp, hfr, hpp⟩, hlen, hkr⟩ := this
      refine ⟨⟨r :: popped, by simp only [List.cons_append]; exact congrArg _ hsp, ?_, ?_⟩, by rw [hlen, List.length_set], hkr⟩
      · intro x hx
        rw [hfr x (fun h => hx (List.mem_cons_of_mem _ h))]
        exact getD_set_ne _ _ _ _ (fun h => hx (h ▸ List.mem_cons_self))
      · intro x hx
        rcases List.mem_cons.mp hx with h | h
        · subst h
          have : x ∉ popped := fun hm => hnd'.1 (by rw [hsp]; exact List.mem_append_left _ hm)
          rw [hfr x this, getD_set_self _ _ _ hrl]
          omega
        · have hxr : r ≠ x := fun he => hnd'.1 (by rw [hsp]; exact List.mem_append_left _ (he ▸ h))
          rw [hpp x h, getD_set_ne _ _ _ _ hxr]

theorem repay_pops (idx r : Nat) (rest : List Nat) (debt : Nat) (sizes : List Nat) :
    repay idx (r :: rest) debt sizes = (r :: rest, debt, sizes) ∨
      repay idx (r :: rest) debt sizes = repay idx rest (debt - 2 ^ idx) (sizes.set r ((sizes.getD r 0 + 1) % 256)) := by
  simp only [repay]
  by_cases h : debt < 2 ^ idx
  · exact Or.inl (if_pos h)
  · exact Or.inr (if_neg h)

theorem adjust_pops (idx r : Nat) (rest : List Nat) (debt : Nat) (sizes : List Nat) :
    adjust idx (r :: rest) debt sizes = (r :: rest, debt, sizes) ∨
      adjust idx (r :: rest) debt sizes = adjust idx rest (debt - 2 ^ idx) (sizes.set r ((sizes.getD r 0 + 1) % 256)) := by
  simp only [adjust]
  by_cases h : debt = 0
  · exact Or.inl (if_pos h)
  · exact Or.inr (if_neg h)

/-- the state between two levels: well-formed queues, every length in [1, 12], and the Kraft sum exceeds 1 by at
    most `debt` units of 2^-12 -/
structure LvInv (ranks : List Nat) (q : List (List Nat)) (debt : Nat) (sizes : List Nat) : Prop where
  ok : RanksOk sizes ranks
  q : QOk sizes ranks q
  range : ∀ s ∈ ranks, 1 ≤ sizes.getD s 0 ∧ sizes.getD s 0 ≤ 12
  kraft : kraftM 256 sizes ranks ≤ 2 ^ 256 + debt * unit12

theorem level_step (ranks : List Nat) (idx : Nat) (hidx : idx < 6) (q : List (List Nat)) (debt : Nat)
    (sizes : List Nat) (res : List Nat × Nat × List Nat) (h : LvInv ranks q debt sizes)
    (hres : PopRes sizes ranks (q.getD idx []) debt res) :
    LvInv ranks (q.set idx res.1) res.2.1 res.2.2 ∧ res.2.2.length = sizes.length ∧
    (∀ x, x ∉ ranks → res.2.2.getD x 0 = sizes.getD x 0) := by
  obtain ⟨⟨popped, hsp, hfr, hpp⟩, hlen, hkr⟩ := hres
  have hndq := h.q.nodup idx hidx
  rw [hsp] at hndq
  have hpm : ∀ x ∈ popped, x ∈ ranks ∧ sizes.getD x 0 + idx = 11 := fun x hx =>
    h.q.mem idx hidx x (by rw [hsp]; exact List.mem_append_left _ hx)
  refine ⟨⟨⟨h.ok.nodup, fun s hs => by rw [hlen]; exact h.ok.lt s hs⟩,
    ⟨by rw [List.length_set]; exact h.q.len, ?_, ?_⟩, ?_, hkr⟩, hlen, ?_⟩
  · intro j hj
    rw [getD_set_list]
    split
    · exact (List.nodup_append.mp hndq).2.1
    · exact h.q.nodup j hj
  · intro j hj x hx
    rw [getD_set_list] at hx
    split at hx
    · rename_i he
      have hx' : x ∈ q.getD idx [] := by rw [hsp]; exact List.mem_append_right _ hx
      have hxp : x ∉ popped := fun hm => (List.nodup_append.mp hndq).2.2 x hm x hx rfl
      have := h.q.mem idx hidx x hx'
      rw [hfr x hxp, ← he.1]
      exact this
    · rename_i hne
      have hjm := h.q.mem j hj x hx
      have hxp : x ∉ popped := fun hm => by
        have := hpm x hm
        have hji : idx = j := by omega
        exact hne ⟨hji, by rw [h.q.len]; exact hidx⟩
      rw [hfr x hxp]; exact hjm
  · intro s hs
    by_cases hsp' : s ∈ popped
    · rw [hpp s hsp']
      have := hpm s hsp'
      omega
    · rw [hfr s hsp']; exact h.range s hs
  · intro x hx
    exact hfr x (fun hm => hx (hpm x hm).1)

theorem levels_spec (ranks : List Nat) (g : Nat → List Nat → Nat → List Nat → List Nat × Nat × List Nat)
    (hg : ∀ idx r rest debt sizes, g idx (r :: rest) debt sizes = (r :: rest, debt, sizes) ∨
      g idx (r :: rest) debt sizes = g idx rest (debt - 2 ^ idx) (sizes.set r ((sizes.getD r 0 + 1) % 256)))
    (hg0 : ∀ idx debt sizes, g idx [] debt sizes = ([], debt, sizes))
    (F : List Nat → List (List Nat) → Nat → List Nat → List (List Nat) × Nat × List Nat)
    (hF0 : ∀ q debt sizes, F [] q debt sizes = (q, debt, sizes))
    (hF1 : ∀ idx is q debt sizes, F (idx :: is) q debt sizes =
      F is (q.set idx (g idx (q.getD idx []) debt sizes).1) (g idx (q.getD idx []) debt sizes).2.1
        (g idx (q.getD idx []) debt sizes).2.2) :
    ∀ (is : List Nat) (q : List (List Nat)) (debt : Nat) (sizes : List Nat),
    (∀ i ∈ is, i < 6) → LvInv ranks q debt sizes →
    LvInv ranks (F is q debt sizes).1 (F is q debt sizes).2.1 (F is q debt sizes).2.2 ∧
    (F is q debt sizes).2.2.length = sizes.length ∧
    (∀ x, x ∉ ranks → (F is q debt sizes).2.2.getD x 0 = sizes.getD x 0) := by
  intro is
  induction is with
  | nil => intro q debt sizes _ h; rw [hF0]; exact ⟨h, rfl, fun _ _ => rfl⟩
  | cons idx is ih =>
    intro q debt sizes hi h
    have hidx := hi idx List.mem_cons_self
    rw [hF1]
    have hres := pop_spec ranks idx (g idx) (hg0 idx) (hg idx) (q.getD idx []) debt sizes h.ok
      (h.q.nodup idx hidx) (h.q.mem idx hidx) h.kraft
    obtain ⟨h1, h2, h3⟩ := level_step ranks idx hidx q debt sizes _ h hres
    obtain ⟨g1, g2, g3⟩ := ih _ _ _ (fun i hi' => hi i (List.mem_cons_of_mem _ hi')) h1
    exact ⟨g1, by rw [g2, h2], fun x hx => by rw [g3 x hx, h3 x hx]⟩

theorem replicate6_getD (idx : Nat) : (List.replicate 6 ([] : List Nat)).getD idx [] = [] := by
  rw [List.getD_eq_getElem?_getD, List.getElem?_replicate]
  split <;> rfl

/-- **fast path of `limitCodeLengths`.**  `sizes` / `ranks` as left by `computeCodeLengths`
    (at most 256 symbols); `d2` is the debt left after the second loop. -/
theorem fastLimit_spec (sizes ranks : List Nat) (hok : RanksOk sizes ranks) (hcnt : ranks.length ≤ 256)
    (hk : kraftM 256 sizes ranks = 2 ^ 256) (hmono : (lensOf sizes ranks).Pairwise (· ≥ ·))
    (hpos : ∀ s ∈ ranks, 1 ≤ sizes.getD s 0) :
    ∃ d1 d2 sz, fastLimit sizes ranks = some (d1, d2, sz) ∧ sz.length = sizes.length ∧
      (∀ x, x ∉ ranks → sz.getD x 0 = sizes.getD x 0) ∧
      (∀ s ∈ ranks, 1 ≤ sz.getD s 0 ∧ sz.getD s 0 ≤ 12) ∧
      kraftM 256 sz ranks ≤ 2 ^ 256 + d2 * unit12 := by
  -- a symbol shorter than 12 bits exists: otherwise the Kraft sum is at most 256 * 2^244
  have hex : ∃ s ∈ ranks, sizes.getD s 0 < 12 := by
    by_contra hne
    have hall : ∀ s ∈ ranks, 12 ≤ sizes.getD s 0 := fun s hs => by
      by_contra hlt
      exact hne ⟨s, hs, by omega⟩
    have hb : ∀ (l : List Nat), (∀ s ∈ l, 12 ≤ sizes.getD s 0) → kraftM 256 sizes l ≤ l.length * unit12 := by
      intro l
      induction l with
      | nil => intro _; simp [kraftM, lensOf, wsum]
      | cons s ss ih =>
        intro h
        rw [kraftM_cons, List.length_cons, Nat.add_mul, Nat.one_mul]
        have h1 := ih (fun x hx => h x (List.mem_cons_of_mem _ hx))
        have h2 : 2 ^ (256 - sizes.getD s 0) ≤ unit12 :=
          Nat.pow_le_pow_right (by decide) (by have := h s List.mem_cons_self; omega)
        omega
    have h1 := hb ranks hall
    have h2 : ranks.length * unit12 ≤ 256 * unit12 := Nat.mul_le_mul_right _ hcnt
    have h3 : 256 * unit12 < 2 ^ 256 := by unfold unit12; decide
    omega
  obtain ⟨sz, debt, rest, hf, hlen, hsuf, hframe, hrange, hrest, hkr⟩ :=
    foldOver_spec ranks sizes 0 hok.nodup hok.lt hex hmono hpos
  unfold fastLimit
  rw [hf]
  simp only
  have hok1 : RanksOk sz ranks := ⟨hok.nodup, fun s hs => by rw [hlen]; exact hok.lt s hs⟩
  have hndrest : rest.Nodup := hok.nodup.sublist hsuf.sublist
  have hq0 : QOk sz ranks (List.replicate 6 []) :=
    ⟨by simp, fun idx _ => by rw [replicate6_getD]; exact List.nodup_nil,
     fun idx _ r hr => by rw [replicate6_getD] at hr; cases hr⟩
  have hq := enqueue_spec sz ranks debt rest (List.replicate 6 []) hndrest
    (fun x hx => ⟨hsuf.subset hx, hrest x hx⟩) hq0
    (fun idx _ x hx => by rw [replicate6_getD] at hx; cases hx)
  have hinv : LvInv ranks (enqueue sz rest debt (List.replicate 6 [])) debt sz :=
    ⟨hok1, hq, hrange, by rw [hk] at hkr; omega⟩
  obtain ⟨h1, h2, h3⟩ := levels_spec ranks repay repay_pops (fun _ _ _ => rfl) repayLevels (fun _ _ _ => rfl)
    (fun _ _ _ _ _ => rfl) [5, 4, 3, 2, 1, 0] _ _ _ (by decide) hinv
  obtain ⟨g1, g2, g3⟩ := levels_spec ranks adjust adjust_pops (fun _ _ _ => rfl) adjustLevels (fun _ _ _ => rfl)
    (fun _ _ _ _ _ => rfl) [0, 1, 2, 3, 4, 5] _ _ _ (by decide) h1
  exact ⟨_, _, _, rfl, by rw [g2, h2, hlen], fun x hx => by rw [g3 x hx, h3 x hx, hframe x hx],
    g1.range, g1.kraft⟩

end Kanzi.Huffman
