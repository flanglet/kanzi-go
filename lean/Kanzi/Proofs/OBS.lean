/-
Output bitstream: `Close` (the padding loop, the final flush, success and failure (restore)
cases), the bit counter, programs, the initial state, closed streams, and the forms of these
results for a sink that never fails (`Healthy`) which the property theorems use.
-/
import Kanzi.Proofs.OBSArray

namespace Kanzi.OBS
open Kanzi.Bits

theorem wordBytes_drop (w : BitVec 64) : ∀ j, j < 8 →
    (wordBytes w).drop j = (w >>> (56 - 8 * j)).setWidth 8 :: (wordBytes w).drop (j + 1)
  | 0, _ | 1, _ | 2, _ | 3, _ | 4, _ | 5, _ | 6, _ | 7, _ => rfl
  | j + 8, h => absurd h (by omega)

theorem copyInto_nil (buf : List Byte) (pos : Nat) : copyInto buf pos [] = buf := by
  simp [copyInto_eq]

theorem copyInto_take_pos (buf : List Byte) (pos : Nat) (src : List Byte) (h : pos ≤ buf.length) :
    (copyInto buf pos src).take pos = buf.take pos := by
  rw [copyInto_eq, List.append_assoc, List.take_append_of_le_length (by rw [List.length_take]; omega),
    List.take_take, Nat.min_self]

theorem copyInto_cons (buf : List Byte) (pos : Nat) (x : Byte) (xs : List Byte) (h : pos < buf.length) :
    copyInto (copyInto buf pos [x]) (pos + 1) xs = copyInto buf pos (x :: xs) := by
  induction buf generalizing pos with
  | nil => exact absurd h (Nat.not_lt_zero _)
  | cons b bs ih =>
    cases pos with
    | zero => simp only [copyInto, copyInto_nil]
    | succ p =>
      simp only [copyInto]
      rw [ih p (Nat.lt_of_succ_lt_succ h)]

theorem pad_count (a : Nat) (h : a < 64) : (71 - a) / 8 = (71 - (a + 8)) / 8 + 1 := by omega

/-- the padding loop stores the `(71 - availBits) / 8 = ⌈(64 - availBits) / 8⌉` bytes of the
    accumulator that hold pending bits (`j` bytes of the word are behind, `f` rounds ahead) -/
theorem padLoop_eq : ∀ (f j : Nat) (s : St), f + j = 8 → s.position + f ≤ s.buffer.length →
    64 ≤ s.availBits + 8 * f →
    padLoop f (56 - 8 * j) s =
      ({ s with buffer := copyInto s.buffer s.position
                  (((wordBytes s.current).drop j).take ((71 - s.availBits) / 8)),
                position := s.position + (71 - s.availBits) / 8,
                availBits := s.availBits + 8 * ((71 - s.availBits) / 8) }, .ok) := by
  have stop : ∀ (j : Nat) (s : St), 64 ≤ s.availBits →
      s = { s with buffer := copyInto s.buffer s.position
                             (((wordBytes s.current).drop j).take ((71 - s.availBits) / 8)),
                   position := s.position + (71 - s.availBits) / 8,
                   availBits := s.availBits + 8 * ((71 - s.availBits) / 8) } := by
    intro j s h64
    have hk : (71 - s.availBits) / 8 = 0 := by omega
    rw [hk, List.take_zero, copyInto_nil]
    rfl
  intro f
  induction f with
  | zero =>
    intro j s _ _ h64
    rw [← stop j s (by omega)]
    rfl
  | succ f ih =>
    intro j s hj hp h64
    unfold padLoop
    by_cases hlt : s.availBits < 64
    · rw [if_pos hlt, if_neg (by omega), Nat.sub_sub, ← Nat.mul_succ,
        ih (j + 1) _ (by omega) (by simp; omega) (by show 64 ≤ s.availBits + 8 + 8 * f; omega),
        pad_count s.availBits hlt]
      dsimp only
      generalize (71 - (s.availBits + 8)) / 8 = k
      rw [wordBytes_drop s.current j (by omega), List.take_succ_cons,
        copyInto_cons _ _ _ _ (by omega), Nat.add_assoc s.position, Nat.add_comm 1 k,
        Nat.add_assoc s.availBits, Nat.mul_succ, Nat.add_comm (8 * k) 8]
    · rw [if_neg hlt, ← stop j s (by omega)]

theorem mk_false (n : Nat) : mk n (fun _ => false) = List.replicate n false := by
  apply List.ext_getElem?
  intro i
  rw [mk_getElem?, List.getElem?_replicate]

/-- the bytes stored by the padding loop: the pending bits, zero padded to a byte boundary -/
theorem pad_bits (cur : BitVec 64) (a k : Nat) (ha : a ≤ 64) (hz : LowZero cur a)
    (h1 : 64 ≤ a + 8 * k) (h2 : a + 8 * k < 72) :
    byteBits ((wordBytes cur).take k) = (wordBits cur).take (64 - a) ++ List.replicate (a + 8 * k - 64) false := by
  rw [← byteBits_take, byteBits_wordBytes, wordBits_eq, ← mk_false]
  unfold bvBits
  rw [mk_take _ _ _ (by omega), mk_take _ _ _ (by omega), mk_append]
  have e : 64 - a + (a + 8 * k - 64) = 8 * k := by omega
  rw [e]
  apply mk_congr
  intro i hi
  by_cases h : i < 64 - a
  · simp [h]
  · simp only [h, if_false]
    exact hz i (by omega) (by omega)

/-- the state `Close` flushes: the pending bytes of the accumulator stored behind the buffered
    ones, the accumulator counted as empty -/
def padded (s : St) : St :=
  { s with buffer := copyInto s.buffer s.position ((wordBytes s.current).take ((71 - s.availBits) / 8)),
           position := s.position + (71 - s.availBits) / 8,
           written := s.written - (((s.availBits + 8 * ((71 - s.availBits) / 8) : Nat) : Int) - 64),
           availBits := 64 }

theorem close_eq (s : St) (h : Inv s) :
    close s =
      match (flush (padded s)).2 with
      | .ok =>
        ({ (flush (padded s)).1 with closed := true, position := 0, availBits := 0,
                                     written := (flush (padded s)).1.written - 64,
                                     buffer := List.replicate 8 0 }, .ok)
      | _ =>
        ({ (flush (padded s)).1 with availBits := s.availBits, position := s.position,
                                     current := s.current, written := s.written }, .err) := by
  have := h.posle
  have := h.av1
  unfold close
  rw [if_neg (by simp [h.open_]), show (56 : Nat) = 56 - 8 * 0 from rfl,
    padLoop_eq 8 0 s rfl (by omega) (by omega)]
  rfl

theorem absBuf_padded (s : St) (h : Inv s) :
    absBuf (padded s) = abs s ++ List.replicate (s.availBits + 8 * ((71 - s.availBits) / 8) - 64) false := by
  have := h.posle
  have := h.av1
  have := h.av64
  have hlen : ((wordBytes s.current).take ((71 - s.availBits) / 8)).length = (71 - s.availBits) / 8 := by
    rw [List.length_take, show (wordBytes s.current).length = 8 from rfl]
    omega
  rw [absBuf_copy s (padded s) _ (by rw [hlen]; omega) rfl rfl (by rw [hlen]; rfl),
    pad_bits s.current s.availBits _ h.av64 h.low (by omega) (by omega), abs_def, absBuf_def]
  simp only [List.append_assoc]

/-- a successful `Close`: the sink holds exactly the bits written, zero padded to a whole byte, and
    `Written()` is unchanged -/
structure CloseOk (s s' : St) : Prop where
  cl : s'.closed = true
  pos : s'.position = 0
  av : s'.availBits = 0
  len : s'.buffer.length = 8
  image : s'.sink.map BitVec.toNat = packBytes (abs s)
  wr : writtenOf s' = writtenOf s
  plan : s'.failAt = s.failAt
  calls : s.sinkCalls ≤ s'.sinkCalls
  nofail : ∀ k, s.sinkCalls < k → k ≤ s'.sinkCalls → s.failAt k = false
  sinkPre : ∃ t, s'.sink = s.sink ++ t

/-- a `Close` whose final flush the sink refused: the stream is restored (open, same content, same
    counter), only the refused call is counted -/
structure CloseErr (s s' : St) : Prop where
  inv : Inv s'
  sabs : abs s' = abs s
  sink : s'.sink = s.sink
  wr : s'.written = s.written
  wo : writtenOf s' = writtenOf s
  len : s'.buffer.length = s.buffer.length
  calls : s'.sinkCalls = s.sinkCalls + 1
  io : IoFail s s'

theorem CloseErr.failed {s s' : St} (f : CloseErr s s') : s.failAt (s.sinkCalls + 1) = true :=
  f.calls ▸ f.io.failed

theorem close_spec (s : St) (h : Inv s) :
    ((close s).2 = .ok ∧ CloseOk s (close s).1) ∨ ((close s).2 = .err ∧ CloseErr s (close s).1) := by
  have hl := h.posle
  have ha1 := h.av1
  have ha64 := h.av64
  rw [close_eq s h]
  rcases flush_spec (padded s) h.open_ (by show s.position + _ ≤ (copyInto _ _ _).length; rw [copyInto_length]; omega)
    with ⟨e, f⟩ | ⟨e, eq, f⟩
  · left
    rw [e]
    dsimp only
    refine ⟨rfl, rfl, rfl, rfl, by simp, ?_, ?_, f.plan, f.calls, f.nofail, f.sinkPre⟩
    · symm
      apply packBytes_of_padded (abs s) (s.availBits + 8 * ((71 - s.availBits) / 8) - 64) _ (by omega)
        (bytes_lt _)
      have fb := f.fabs
      rw [absBuf_def, f.pos, List.take_zero, byteBits_nil, List.append_nil] at fb
      rw [← absBuf_padded s h, ← fb]
      rfl
    · simp only [writtenOf]
      rw [f.wr]
      simp only [padded]
      push_cast
      omega
  · right
    rw [e, eq]
    dsimp only
    refine ⟨rfl, ⟨⟨h.open_, by simpa [padded] using h.len16, by simpa [padded] using h.len8, h.pos8,
      by simpa [padded] using hl⟩, ha1, ha64, h.low⟩, ?_, rfl, rfl, rfl, by simp [padded], rfl, ?_⟩
    · simp only [abs_def, padded]
      rw [copyInto_take_pos _ _ _ (by omega)]
    · rw [eq] at f
      exact ⟨rfl, by simp [padded], f.failed, fun i h1 h2 => by simp [padded] at h2; omega⟩

theorem abs_length (s : St) (h : Inv s) :
    ((abs s).length : Int) = 8 * (s.sink.length : Int) + 8 * (s.position : Int) + (64 - (s.availBits : Int)) := by
  have := h.posle
  have := h.av64
  simp only [abs_def, List.length_append, byteBits_length, List.length_take, wordBits, natBits_length]
  omega

/-- `Written()` = number of bits written, for a stream whose flushed-bits counter agrees with the sink -/
theorem written_eq (s : St) (h : Inv s) (c : Counted s) : writtenOf s = ((abs s).length : Int) := by
  rw [abs_length s h]
  unfold writtenOf
  unfold Counted at c
  rw [c]

def Op.valid : Op → Prop
  | .bit _ => True
  | .bits _ n => n ≤ 64
  | .array bytes k => k ≤ 8 * bytes.length
  | .close => False
  | .written => True

def opBits : Op → Bits
  | .bit b => [b]
  | .bits v n => natBits v.toNat n
  | .array bytes k => arrayBits (bytes.map BitVec.toNat) k
  | .close => []
  | .written => []

theorem step_spec (s : St) (op : Op) (h : Inv s) (h40 : 40 ≤ s.buffer.length) (hv : op.valid) :
    Res s (step s op) (opBits op) := by
  cases op with
  | bit b => exact writeBit_spec s b h
  | bits v n => exact writeBits_spec s v n h hv
  | array bytes k => exact writeArray_spec s bytes k h h40 hv
  | close => exact absurd hv (by simp [Op.valid])
  | written => exact Or.inl ⟨rfl, Step.refl s h⟩

theorem run_nil (s : St) : run s [] = (s, []) := rfl
theorem run_cons (s : St) (op : Op) (ops : List Op) :
    run s (op :: ops) = ((run (step s op).1 ops).1, (step s op).2 :: (run (step s op).1 ops).2) := rfl

/-- a program all of whose operations returned normally appended exactly its bits, whatever the
    failure plan of the sink -/
theorem run_ok : ∀ (ops : List Op) (s : St), Inv s → 40 ≤ s.buffer.length → (∀ op ∈ ops, op.valid) →
    (∀ o ∈ (run s ops).2, o = .ok) → Step s (run s ops).1 (ops.flatMap opBits) := by
  intro ops
  induction ops with
  | nil => intro s h _ _ _; exact Step.refl s h
  | cons op ops ih =>
    intro s h h40 hv hok
    rw [run_cons] at hok ⊢
    have h1 : (step s op).2 = .ok := hok _ (by simp)
    rcases step_spec s op h h40 (hv op (by simp)) with ⟨_, st⟩ | ⟨e, _⟩
    · have := ih (step s op).1 st.inv (by rw [st.len]; exact h40) (fun o ho => hv o (by simp [ho]))
        (fun o ho => hok o (by simp [ho]))
      rw [List.flatMap_cons]
      exact st.trans this
    · rw [h1] at e; cases e

theorem run_healthy : ∀ (ops : List Op) (s : St), Inv s → 40 ≤ s.buffer.length → (∀ op ∈ ops, op.valid) →
    (∀ k, s.failAt k = false) → ∀ o ∈ (run s ops).2, o = .ok := by
  intro ops
  induction ops with
  | nil => intro s _ _ _ _ o ho; simp [run_nil] at ho
  | cons op ops ih =>
    intro s h h40 hv hp o ho
    rw [run_cons] at ho
    rcases step_spec s op h h40 (hv op (by simp)) with ⟨e, st⟩ | ⟨_, f⟩
    · simp only [List.mem_cons] at ho
      rcases ho with rfl | ho
      · exact e
      · exact ih (step s op).1 st.inv (by rw [st.len]; exact h40) (fun o ho => hv o (by simp [ho]))
          (by rw [st.plan]; exact hp) o ho
    · have := f.failed
      rw [hp] at this
      cases this

theorem valid_take (ops : List Op) (i : Nat) (hv : ∀ op ∈ ops, op.valid) : ∀ op ∈ ops.take i, op.valid :=
  fun op ho => hv op (List.mem_of_mem_take ho)

theorem init_inv (bs : Nat) (plan : Nat → Bool) (h16 : 16 ≤ bs) (h8 : bs % 8 = 0) : Inv (init bs plan) :=
  ⟨⟨rfl, by simpa [init] using h16, by simpa [init] using h8, rfl, by simp [init]; omega⟩,
    by simp [init], by simp [init], lowZero_zero _⟩

theorem init_counted (bs : Nat) (plan : Nat → Bool) : Counted (init bs plan) := by
  simp [Counted, init]

theorem init_abs (bs : Nat) (plan : Nat → Bool) : abs (init bs plan) = [] := by
  simp [abs_def, init, byteBits_nil]

theorem init_len (bs : Nat) (plan : Nat → Bool) : (init bs plan).buffer.length = bs := by simp [init]

/-- the state left by a successful `Close` -/
structure ClosedSt (s : St) : Prop where
  cl : s.closed = true
  av : s.availBits = 0

theorem merge_closed (cur v : BitVec 64) (n : Nat) : merge cur v 0 n = cur := by
  unfold merge
  have : (v <<< (64 - n)) >>> (64 - 0) = 0#64 := by
    apply BitVec.eq_of_getMsbD_eq
    intro i hi
    simp [BitVec.getMsbD_ushiftRight, hi]
  rw [this]; simp

theorem push_closed (t : St) (w : BitVec 64) (h : t.closed = true) : push t w = (t, .panic .closed) := by
  unfold push; rw [if_pos h]

theorem closed_writeBit (s : St) (b : Bool) (h : ClosedSt s) : writeBit s b = (s, .panic .closed) := by
  unfold writeBit
  rw [if_pos (by rw [h.av]; omega)]
  simp only [push_closed s _ h.cl]

theorem closed_writeBits (s : St) (v : BitVec 64) (n : Nat) (h : ClosedSt s) :
    writeBits s v n = (s, if n > 64 then .panic .invalidCount else .panic .closed) := by
  unfold writeBits
  by_cases hn : n > 64
  · rw [if_pos hn, if_pos hn]
  · rw [if_neg hn, if_neg hn, if_pos (by rw [h.av]; omega)]
    have hm : merge s.current v s.availBits n = s.current := by rw [h.av]; exact merge_closed _ _ _
    rw [hm]
    rw [push_closed { s with current := s.current } _ h.cl]

theorem closed_writeArray (s : St) (bytes : List Byte) (k : Nat) (h : ClosedSt s) :
    writeArray s bytes k = (s, .panic .closed) := by
  unfold writeArray; rw [if_pos h.cl]

theorem closed_close (s : St) (h : ClosedSt s) : close s = (s, .ok) := by
  unfold close; rw [if_pos h.cl]

theorem closeOk_closed {s s' : St} (h : CloseOk s s') : ClosedSt s' := ⟨h.cl, h.av⟩


/-! ### derived forms used by the property theorems -/

def Healthy (s : St) : Prop := ∀ k, s.failAt k = false

theorem res_healthy {s : St} {r : St × Outcome} {bits : Bits} (hr : Res s r bits) (_h : Inv s)
    (c : Counted s) (hh : Healthy s) :
    r.2 = .ok ∧ Inv r.1 ∧ abs r.1 = abs s ++ bits ∧ Counted r.1 ∧ Healthy r.1 ∧
      writtenOf r.1 = ((abs r.1).length : Int) ∧ r.1.buffer.length = s.buffer.length := by
  rcases hr with ⟨e, st⟩ | ⟨_, f⟩
  · exact ⟨e, st.inv, st.sabs, st.counted c, by intro k; rw [st.plan]; exact hh k,
      written_eq _ st.inv (st.counted c), st.len⟩
  · have := f.failed; rw [hh] at this; cases this

theorem inv_plan (s : St) (plan : Nat → Bool) (h : Inv s) : Inv { s with failAt := plan } :=
  ⟨h.toBufInv.congr rfl rfl rfl, h.av1, h.av64, h.low⟩

theorem close_healthy (s : St) (h : Inv s) (hh : s.failAt (s.sinkCalls + 1) = false) :
    (close s).2 = .ok ∧ CloseOk s (close s).1 := by
  rcases close_spec s h with ok | ⟨_, f⟩
  · exact ok
  · have h1 := f.failed
    rw [hh] at h1
    cases h1

end Kanzi.OBS
