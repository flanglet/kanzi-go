/-
The order-1 rANS codec from the chunk round trip `chunk1_rt` (Kanzi/Proofs/Ans1.lean) to the whole
`Write` / `Read` (statements in Kanzi/Properties/C12_ans1.lean): the (context, symbol) steps of the four
walks are pairs counted by `rebuildStatistics`; the 2-D histogram; normalisation of the 256 rows
(through `normalize_table` of Kanzi/Proofs/Ans0.lean, i.e. `normalize_valid`, C16); the 256-context
header round trip; one chunk of `Write`; the whole block.

Two things make this more than a repetition of order 0.  `ComputeHistogram` counts with four cursors
(plus a tail) from 32 bytes on, so section A has to show that this loop still visits every consecutive
pair of its segment.  And a context with an empty alphabet sends no table: the decoder keeps whatever it
had (`mergeCtx`, with `prev` = the tables left by the previous chunk or call).  The round trip holds
for every `prev` because a step taken by the encoder is a counted pair, hence lies in a context whose
histogram row is non-zero, whose table is therefore sent (`oneChunk1_facts`).
-/
import Kanzi.Proofs.Ans1

namespace Kanzi.Ans1
open Kanzi.Bits Kanzi.EntSmall

/-! ### A. the steps of the four walks are counted pairs -/

/-- `pairsOf` generalised to an initial context `x` (the tail walk of `compHistPairs` starts from a byte
    of the segment, not from 0) -/
theorem zipCons_mem0 (x : Nat) (seg : List Nat) (h : 0 < seg.length) :
    (x, seg.getD 0 0) ∈ (x :: seg).zip seg := by
  cases seg with
  | nil => simp at h
  | cons y ys => simp

theorem zipCons_memS (x : Nat) (seg : List Nat) (i : Nat) (h : i + 1 < seg.length) :
    (seg.getD i 0, seg.getD (i + 1) 0) ∈ (x :: seg).zip seg := by
  rw [List.mem_iff_getElem]
  refine ⟨i + 1, by simp; omega, ?_⟩
  simp [List.getD_eq_getElem?_getD, h, (by omega : i < seg.length)]

theorem pairsOf_mem0 (seg : List Nat) (h : 0 < seg.length) : (0, seg.getD 0 0) ∈ pairsOf seg :=
  zipCons_mem0 0 seg h

theorem pairsOf_memS (seg : List Nat) (i : Nat) (h : i + 1 < seg.length) :
    (seg.getD i 0, seg.getD (i + 1) 0) ∈ pairsOf seg :=
  zipCons_memS 0 seg i h

/-! the four-cursor loop of `ComputeHistogram` visits every consecutive pair -/

/-- component `k` of a quad: cursor `k` of `ComputeHistogram`, lane `k` of the coder -/
def proj : Nat → Quad → Nat
  | 0, x => x.1
  | 1, x => x.2.1
  | 2, x => x.2.2.1
  | _, x => x.2.2.2

theorem proj_rowAt (b : Array Nat) (q j k : Nat) (hk : k < 4) :
    proj k (rowAt b q j) = b.getD (k * q + j) 0 := by
  match k, hk with
  | 0, _ =>
    rw [Nat.zero_mul, Nat.zero_add]
    rfl
  | 1, _ =>
    rw [Nat.one_mul]
    rfl
  | 2, _ => rfl
  | 3, _ => rfl

theorem proj_init (b : Array Nat) (q k : Nat) (h1 : 1 ≤ k) (hk : k < 4) :
    proj k (0, b.getD (q - 1) 0, b.getD (2 * q - 1) 0, b.getD (3 * q - 1) 0) = b.getD (k * q - 1) 0 := by
  match k, h1, hk with
  | 1, _, _ =>
    rw [Nat.one_mul]
    rfl
  | 2, _, _ => rfl
  | 3, _, _ => rfl

theorem quadPairs_proj (p c : Quad) (k : Nat) (hk : k < 4) : (proj k p, proj k c) ∈ quadPairs p c := by
  match k, hk with
  | 0, _ => exact List.mem_cons_self
  | 1, _ => exact List.mem_cons_of_mem _ List.mem_cons_self
  | 2, _ => exact List.mem_cons_of_mem _ (List.mem_cons_of_mem _ List.mem_cons_self)
  | 3, _ => exact List.mem_cons_of_mem _ (List.mem_cons_of_mem _ (List.mem_cons_of_mem _ List.mem_cons_self))

theorem chLoop_head (b : Array Nat) (q f n0 : Nat) (prv : Quad) (pr : Nat × Nat) (hf : 0 < f)
    (h : pr ∈ quadPairs prv (rowAt b q n0)) : pr ∈ chLoop b q f n0 prv := by
  cases f with
  | zero => omega
  | succ f => simp only [chLoop, List.mem_append]; exact Or.inl h

theorem chLoop_step (b : Array Nat) (q : Nat) (pr : Nat × Nat) : ∀ (f n0 : Nat) (prv : Quad) (i : Nat),
    n0 ≤ i → i + 1 < n0 + f → pr ∈ quadPairs (rowAt b q i) (rowAt b q (i + 1)) →
    pr ∈ chLoop b q f n0 prv := by
  intro f
  induction f with
  | zero => intro n0 prv i h1 h2; omega
  | succ f ih =>
    intro n0 prv i h1 h2 hm
    simp only [chLoop, List.mem_append]
    right
    by_cases hi : i = n0
    · subst hi
      exact chLoop_head b q f (i + 1) (rowAt b q i) pr (by omega) hm
    · exact ih (n0 + 1) (rowAt b q n0) i (by omega) (by omega) hm

theorem drop_getD (l : List Nat) (o j : Nat) : (l.drop o).getD j 0 = l.getD (o + j) 0 := by
  simp [List.getD_eq_getElem?_getD, List.getElem?_drop]

theorem compHist_mem0 (seg : List Nat) (h : 0 < seg.length) : (0, seg.getD 0 0) ∈ compHistPairs seg := by
  unfold compHistPairs
  split
  · exact pairsOf_mem0 seg h
  · rename_i h32
    rw [List.mem_append]
    left
    apply chLoop_head _ _ _ _ _ _ (by omega)
    rw [← toArray_getD seg 0]
    exact List.mem_cons_self

/-- the sequential walk over `seg.drop o` entered with `x = seg[o-1]` counts every pair from `o - 1` on -/
theorem zipCons_mem (x : Nat) (seg : List Nat) (o i : Nat) (ho : o ≤ i + 1) (h : i + 1 < seg.length)
    (hx : o = i + 1 → x = seg.getD i 0) :
    (seg.getD i 0, seg.getD (i + 1) 0) ∈ (x :: seg.drop o).zip (seg.drop o) := by
  by_cases he : o = i + 1
  · subst he
    rw [hx rfl]
    have := zipCons_mem0 (seg.getD i 0) (seg.drop (i + 1)) (by rw [List.length_drop]; omega)
    rw [drop_getD, Nat.add_zero] at this
    exact this
  · have := zipCons_memS x (seg.drop o) (i - o) (by rw [List.length_drop]; omega)
    rw [drop_getD, drop_getD, show o + (i - o) = i by omega, show o + (i - o + 1) = i + 1 by omega] at this
    exact this

/-- the four-cursor loop counts the pair ending at position `k * q + n` of cursor `k` (for `n = 0`, `k ≥ 1`
    through the initial context of the cursor) -/
theorem chLoop_cursor (b : Array Nat) (q k n i : Nat) (hk : k < 4) (hn : n < q) (hi : i + 1 = k * q + n) :
    (b.getD i 0, b.getD (i + 1) 0)
      ∈ chLoop b q q 0 (0, b.getD (q - 1) 0, b.getD (2 * q - 1) 0, b.getD (3 * q - 1) 0) := by
  cases n with
  | zero =>
    have hk1 : 1 ≤ k := by
      rcases Nat.eq_zero_or_pos k with rfl | hpos
      · omega
      · exact hpos
    apply chLoop_head _ _ _ _ _ _ hn
    have := quadPairs_proj (0, b.getD (q - 1) 0, b.getD (2 * q - 1) 0, b.getD (3 * q - 1) 0) (rowAt b q 0) k hk
    rw [proj_rowAt _ _ _ _ hk, proj_init _ _ _ hk1 hk, ← hi, show k * q - 1 = i by omega] at this
    exact this
  | succ n =>
    have hi' : i = k * q + n := by omega
    apply chLoop_step _ _ _ _ _ _ n (Nat.zero_le _) (by omega)
    have := quadPairs_proj (rowAt b q n) (rowAt b q (n + 1)) k hk
    rw [proj_rowAt _ _ _ _ hk, proj_rowAt _ _ _ _ hk, ← hi, ← hi'] at this
    exact this

theorem compHist_memS (seg : List Nat) (i : Nat) (h : i + 1 < seg.length) :
    (seg.getD i 0, seg.getD (i + 1) 0) ∈ compHistPairs seg := by
  unfold compHistPairs
  split
  · exact pairsOf_memS seg i h
  · rename_i h32
    have hq0 : 0 < seg.length / 4 := by omega
    generalize seg.length / 4 = q at hq0 ⊢
    rw [List.mem_append]
    by_cases ht : 4 * q ≤ i + 1
    · exact Or.inr (zipCons_mem _ seg (4 * q) i ht h
        (fun e => by rw [toArray_getD, e, Nat.add_sub_cancel]))
    · rw [← toArray_getD seg i, ← toArray_getD seg (i + 1)]
      exact Or.inl (chLoop_cursor seg.toArray q ((i + 1) / q) ((i + 1) % q) i
        ((Nat.div_lt_iff_lt_mul hq0).mpr (Nat.lt_of_not_le ht)) (Nat.mod_lt _ hq0)
        (by rw [Nat.mul_comm]; exact (Nat.div_add_mod (i + 1) q).symm))

theorem seg_getD (blk : List Nat) (o q i : Nat) (hi : i < q) (_h : o + q ≤ blk.length) :
    ((blk.drop o).take q).getD i 0 = blk.getD (o + i) 0 := by
  rw [List.getD_eq_getElem?_getD, List.getElem?_take, if_pos hi, List.getElem?_drop,
    ← List.getD_eq_getElem?_getD]

theorem seg_length (blk : List Nat) (o q : Nat) (h : o + q ≤ blk.length) :
    ((blk.drop o).take q).length = q := by
  rw [List.length_take, List.length_drop]; omega

theorem seg_pair0 (blk : List Nat) (o q : Nat) (hq : 0 < q) (h : o + q ≤ blk.length) :
    (0, blk.getD o 0) ∈ compHistPairs ((blk.drop o).take q) := by
  have := compHist_mem0 ((blk.drop o).take q) (by rw [seg_length blk o q h]; exact hq)
  rw [seg_getD blk o q 0 hq h] at this
  exact this

theorem seg_pairS (blk : List Nat) (o q i : Nat) (hi : i + 1 < q) (h : o + q ≤ blk.length) :
    (blk.getD (o + i) 0, blk.getD (o + (i + 1)) 0) ∈ compHistPairs ((blk.drop o).take q) := by
  have := compHist_memS ((blk.drop o).take q) i (by rw [seg_length blk o q h]; exact hi)
  rw [seg_getD blk o q i (by omega) h, seg_getD blk o q (i + 1) hi h] at this
  exact this

theorem rowsOk_drop (fsE fsD : List (List Nat)) (lr : Nat) (blk : Array Nat) (q : Nat)
    (hS : ∀ i, i + 1 < q → QuadOk fsE fsD lr (rowAt blk q i) (rowAt blk q (i + 1))) :
    ∀ (n j : Nat), j + n = q → ∀ p : Quad, (j < q → QuadOk fsE fsD lr p (rowAt blk q j)) →
      RowsOk fsE fsD lr p ((rowsOf blk q).drop j) := by
  intro n
  induction n with
  | zero =>
    intro j hj p _
    have : (rowsOf blk q).drop j = [] := by
      apply List.drop_eq_nil_of_le
      rw [rowsOf_length]; omega
    rw [this]
    trivial
  | succ n ih =>
    intro j hj p h0
    rw [rowsOf_drop blk q j (by omega)]
    exact ⟨h0 (by omega), ih (j + 1) (by omega) (rowAt blk q j) (fun h => hS j h)⟩

theorem proj_const (k x : Nat) : proj k (x, x, x, x) = x :=
  match k with
  | 0 => rfl
  | 1 => rfl
  | 2 => rfl
  | _ + 3 => rfl

theorem quadOk_of_proj (fsE fsD : List (List Nat)) (lr : Nat) (p c : Quad)
    (h : ∀ k, k < 4 → StepOk fsE fsD lr (proj k p) (proj k c)) : QuadOk fsE fsD lr p c :=
  ⟨h 0 (by decide), h 1 (by decide), h 2 (by decide), h 3 (by decide)⟩

/-- `rebuildStatistics` counts the pairs of each of the four quarters -/
theorem statPairs_quarter (blk : List Nat) (k : Nat) (hk : k < 4) (hq : blk.length / 4 ≠ 0)
    (pr : Nat × Nat)
    (h : pr ∈ compHistPairs ((blk.drop (k * (blk.length / 4))).take (blk.length / 4))) :
    pr ∈ statPairs blk := by
  unfold statPairs
  rw [if_neg hq]
  simp only [List.mem_append]
  match k, hk with
  | 0, _ =>
    rw [Nat.zero_mul, List.drop_zero] at h
    exact Or.inl (Or.inl (Or.inl h))
  | 1, _ =>
    rw [Nat.one_mul] at h
    exact Or.inl (Or.inl (Or.inr h))
  | 2, _ => exact Or.inl (Or.inr h)
  | 3, _ => exact Or.inr h

/-- lane `k` of the encoder walks the `k`-th quarter from context 0: its steps are counted pairs
    (`+ 0` keeps the index in the shape `proj_rowAt` produces) -/
theorem lane_first (blk : List Nat) (k : Nat) (hk : k < 4) (hq : blk.length / 4 ≠ 0) :
    (0, blk.getD (k * (blk.length / 4) + 0) 0) ∈ statPairs blk := by
  have hkq := Nat.mul_le_mul_right (blk.length / 4) (Nat.le_of_lt_succ hk)
  exact statPairs_quarter blk k hk hq _ (seg_pair0 blk _ _ (by omega) (by omega))

theorem lane_step (blk : List Nat) (k i : Nat) (hk : k < 4) (hi : i + 1 < blk.length / 4) :
    (blk.getD (k * (blk.length / 4) + i) 0, blk.getD (k * (blk.length / 4) + (i + 1)) 0)
      ∈ statPairs blk := by
  have hkq := Nat.mul_le_mul_right (blk.length / 4) (Nat.le_of_lt_succ hk)
  exact statPairs_quarter blk k hk (by omega) _ (seg_pairS blk _ _ i hi (by omega))

theorem rowsOk_of_pairs (fsE fsD : List (List Nat)) (lr : Nat) (blk : List Nat) (hb : ∀ b ∈ blk, b < 256)
    (h : ∀ pr ∈ statPairs blk, pr.1 < 256 → pr.2 < 256 → StepOk fsE fsD lr pr.1 pr.2) :
    RowsOk fsE fsD lr (0, 0, 0, 0) (rowsOf blk.toArray (blk.length / 4)) := by
  by_cases hq : blk.length / 4 = 0
  · rw [hq]
    trivial
  · have key := rowsOk_drop fsE fsD lr blk.toArray (blk.length / 4) ?_ (blk.length / 4) 0
      (Nat.zero_add _) (0, 0, 0, 0) ?_
    · rw [List.drop_zero] at key
      exact key
    · intro i hi
      apply quadOk_of_proj
      intro k hk
      rw [proj_rowAt _ _ _ _ hk, proj_rowAt _ _ _ _ hk, toArray_getD, toArray_getD]
      exact h _ (lane_step blk k i hk hi) (getD_lt hb (Nat.zero_lt_succ 255) _) (getD_lt hb (Nat.zero_lt_succ 255) _)
    · intro _
      apply quadOk_of_proj
      intro k hk
      rw [proj_const, proj_rowAt _ _ _ _ hk, toArray_getD]
      exact h _ (lane_first blk k hk hq) (Nat.zero_lt_succ 255) (getD_lt hb (Nat.zero_lt_succ 255) _)

theorem statPairs_first (blk : List Nat) (hne : blk ≠ []) : (0, blk.getD 0 0) ∈ statPairs blk := by
  have hpos : 0 < blk.length := List.length_pos_iff.mpr hne
  unfold statPairs
  split
  · exact compHist_mem0 blk hpos
  · have := seg_pair0 blk 0 (blk.length / 4) (by omega) (by omega)
    rw [List.drop_zero] at this
    simp only [List.mem_append]
    exact Or.inl (Or.inl (Or.inl this))

/-! ### B. the 2-D histogram -/

def histLL (ps : List (Nat × Nat)) (h0 : List (List Nat)) : List (List Nat) :=
  ps.foldl (fun h p => h.modify p.1 (fun r => r.modify p.2 (· + 1))) h0

theorem map_modify {α β : Type} (g : α → β) (f : α → α) (f' : β → β) (hc : ∀ x, g (f x) = f' (g x)) :
    ∀ (l : List α) (i : Nat), (l.modify i f).map g = (l.map g).modify i f' := by
  intro l
  induction l with
  | nil => intro i; simp
  | cons x xs ih =>
    intro i
    cases i with
    | zero => simp [hc]
    | succ k => simp [ih k]

theorem hist1_fold : ∀ (ps : List (Nat × Nat)) (arr : Array (Array Nat)),
    (ps.foldl (fun (h : Array (Array Nat)) p => h.modify p.1 (fun r => r.modify p.2 (· + 1))) arr).toList.map
        Array.toList = histLL ps (arr.toList.map Array.toList) := by
  intro ps
  induction ps with
  | nil => intro arr; rfl
  | cons p ps ih =>
    intro arr
    rw [List.foldl_cons, ih, Array.toList_modify]
    rw [map_modify Array.toList (fun r => r.modify p.2 (· + 1)) (fun r => r.modify p.2 (· + 1))
      (fun x => Array.toList_modify ..)]
    rfl

theorem hist1_eq (ps : List (Nat × Nat)) :
    hist1 ps = histLL ps (List.replicate 256 (List.replicate 256 0)) := by
  unfold hist1
  rw [hist1_fold, Array.toList_replicate, List.map_replicate, Array.toList_replicate]

def cell (h : List (List Nat)) (c a : Nat) : Nat := (h.getD c []).getD a 0

def Shape (h : List (List Nat)) : Prop := h.length = 256 ∧ ∀ k, k < 256 → (h.getD k []).length = 256

theorem histLL_length : ∀ (ps : List (Nat × Nat)) (h0 : List (List Nat)), (histLL ps h0).length = h0.length
  | [], _ => rfl
  | p :: ps, h0 => by
    show (histLL ps _).length = _
    rw [histLL_length ps, List.length_modify]

/-- row `c` of the 2-D histogram is the 1-D histogram of the symbols counted in context `c` -/
theorem histLL_row : ∀ (ps : List (Nat × Nat)) (h0 : List (List Nat)) (c : Nat), c < h0.length →
    (histLL ps h0).getD c [] = histL ((ps.filter (·.1 = c)).map (·.2)) (h0.getD c [])
  | [], _, _, _ => rfl
  | p :: ps, h0, c, hc => by
    show (histLL ps (h0.modify p.1 fun r => r.modify p.2 (· + 1))).getD c [] = _
    rw [histLL_row ps _ c (by rw [List.length_modify]; exact hc), modify_getD]
    by_cases hp : p.1 = c
    · rw [if_pos ⟨hp, hc⟩, List.filter_cons_of_pos (by simpa using hp)]
      rfl
    · rw [if_neg (fun h => hp h.1), List.filter_cons_of_neg (by simpa using hp)]

theorem hist1_shape (ps : List (Nat × Nat)) : Shape (hist1 ps) := by
  rw [hist1_eq]
  refine ⟨by rw [histLL_length, List.length_replicate], fun k hk => ?_⟩
  rw [histLL_row _ _ k (by rw [List.length_replicate]; exact hk), histL_length]
  simp only [List.getD_eq_getElem?_getD, List.getElem?_replicate, hk, if_true, Option.getD_some, List.length_replicate]

theorem hist1_pos (ps : List (Nat × Nat)) (c a : Nat) (hm : (c, a) ∈ ps) (hc : c < 256) (ha : a < 256) :
    0 < cell (hist1 ps) c a := by
  have hr : (List.replicate 256 (List.replicate 256 0)).getD c [] = List.replicate 256 0 := by
    simp only [List.getD_eq_getElem?_getD, List.getElem?_replicate, hc, if_true, Option.getD_some]
  rw [hist1_eq, cell, histLL_row _ _ c (by rw [List.length_replicate]; exact hc), hr,
    histL_getD _ _ a (by rw [List.length_replicate]; exact ha)]
  have : a ∈ (ps.filter (·.1 = c)).map (·.2) :=
    List.mem_map.mpr ⟨(c, a), List.mem_filter.mpr ⟨hm, decide_eq_true rfl⟩, rfl⟩
  exact Nat.lt_of_lt_of_le (List.count_pos_iff.mpr this) (Nat.le_add_left _ _)

/-! ### C. normalisation of the 256 rows (C16) -/

/-- what `updateFrequencies` produces for one context from its histogram row: nothing for an all-zero
    row (`normalize` returns the row itself, empty alphabet), else a valid table over every counted symbol -/
def CtxOk (lr : Nat) (row : List Nat) (t : List Nat × List Nat) : Prop :=
  (row.sum = 0 ∧ t.1 = [] ∧ t.2 = row) ∨
  (FreqTable t.1 t.2 lr ∧ (t.1.map (fun s => t.2.getD s 0)).sum = 2 ^ lr ∧
    ∀ a, a < 256 → 0 < row.getD a 0 → a ∈ t.1)

theorem normalize_row (row : List Nat) (lr : Nat) (hlr : 8 ≤ lr ∧ lr ≤ 15) (hlen : row.length = 256) :
    ∃ o, Kanzi.Normalize.normalize row row.sum (2 ^ lr) = .ok o ∧ CtxOk lr row (o.alphabet, o.freqs) := by
  by_cases h0 : row.sum = 0
  · have hp8 : 2 ^ 8 ≤ 2 ^ lr := Nat.pow_le_pow_right (by decide) hlr.1
    have hp16 : 2 ^ lr ≤ 2 ^ 16 := Nat.pow_le_pow_right (by decide) (by omega)
    refine ⟨⟨0, [], row⟩, ?_, Or.inl ⟨h0, rfl, rfl⟩⟩
    rw [Kanzi.Normalize.normalize_ok row row.sum (2 ^ lr) (by omega) ⟨by omega, by omega⟩, if_pos (Or.inr h0)]
  · obtain ⟨o, ho, _, ht, hsumA, hmem⟩ := normalize_table row lr hlr hlen (by omega)
    exact ⟨o, ho, Or.inr ⟨ht, hsumA, fun a ha hpos => (hmem a).mpr ⟨ha, by omega⟩⟩⟩

theorem normRows_spec (lr : Nat) (hlr : 8 ≤ lr ∧ lr ≤ 15) : ∀ (rows : List (List Nat)),
    (∀ k, k < rows.length → (rows.getD k []).length = 256) →
    ∃ ts, normRows lr rows = some ts ∧ ts.length = rows.length ∧
      ∀ k, k < rows.length → CtxOk lr (rows.getD k []) (ts.getD k ([], [])) := by
  intro rows
  induction rows with
  | nil => intro _; exact ⟨[], rfl, rfl, fun k hk => by simp at hk⟩
  | cons r rs ih =>
    intro hlen
    obtain ⟨o, ho, hc⟩ := normalize_row r lr hlr (by simpa using hlen 0 (by simp))
    obtain ⟨ts, hts, hl, hk⟩ := ih (fun k hk => by simpa using hlen (k + 1) (by simpa using hk))
    refine ⟨(o.alphabet, o.freqs) :: ts, ?_, by simp [hl], ?_⟩
    · simp only [normRows, ho, hts]
    · intro k hklt
      cases k with
      | zero => simpa using hc
      | succ j => simpa using hk j (by simpa using hklt)

/-! ### D. the 256-context header -/

/-- what the header round trip needs about one context -/
def HdrOk (lr : Nat) (t : List Nat × List Nat) : Prop :=
  t.1 = [] ∨ (FreqTable t.1 t.2 lr ∧ (t.1.map (fun s => t.2.getD s 0)).sum = 2 ^ lr)

theorem ctxOk_hdrOk (lr : Nat) (row : List Nat) (t : List Nat × List Nat) (h : CtxOk lr row t) : HdrOk lr t := by
  rcases h with h | h
  · exact Or.inl h.2.1
  · exact Or.inr ⟨h.1, h.2.1⟩

/-- the decoder keeps the previous table of a context whose alphabet is empty -/
def mergeCtx (p : List Nat) (t : List Nat × List Nat) : List Nat × List Nat :=
  if t.1.length = 0 then ([], p) else t

def mergeTabs (prev : List (List Nat)) (ts : List (List Nat × List Nat)) : List (List Nat × List Nat) :=
  List.zipWith mergeCtx prev ts

theorem ctx_rt (lr : Nat) (hlr : 8 ≤ lr ∧ lr ≤ 15) (p : List Nat) (t : List Nat × List Nat)
    (h : HdrOk lr t) (rest : Bits) :
    ans1DecodeCtx p lr (ctxHeader t.1 t.2 lr ++ rest) = some (mergeCtx p t, rest) := by
  unfold ans1DecodeCtx ctxHeader mergeCtx
  rcases h with h | ⟨ht, hsum⟩
  · rw [h]
    simp [encodeAlphabetBits, decodeAlphabet, readBit]
  · rw [encodeFreqs_if, List.append_assoc, alphabet_roundtrip t.1 ht.sorted ht.lt256]
    simp only
    rw [if_neg (length_ne_zero_of_ne_nil t.1 ht.nonempty), decodeFreqTable_ok t.1 t.2 lr hlr ht hsum]
    simp only
    rw [if_neg (length_ne_zero_of_ne_nil t.1 ht.nonempty)]

theorem ctxs_rt (lr : Nat) (hlr : 8 ≤ lr ∧ lr ≤ 15) (rest : Bits) : ∀ (ts : List (List Nat × List Nat))
    (prev : List (List Nat)), prev.length = ts.length → (∀ t ∈ ts, HdrOk lr t) →
    ans1DecodeCtxs lr prev (ts.flatMap (fun t => ctxHeader t.1 t.2 lr) ++ rest)
      = some (mergeTabs prev ts, rest) := by
  intro ts
  induction ts with
  | nil =>
    intro prev hl _
    have : prev = [] := List.length_eq_zero_iff.mp (by simpa using hl)
    subst this
    rfl
  | cons t ts ih =>
    intro prev hl hok
    cases prev with
    | nil => simp at hl
    | cons p ps =>
      simp only [List.flatMap_cons, List.append_assoc, ans1DecodeCtxs]
      rw [ctx_rt lr hlr p t (hok t (by simp))]
      simp only
      rw [ih ps (by simpa using hl) (fun x hx => hok x (List.mem_cons_of_mem _ hx))]
      rfl

theorem header1_rt (lr : Nat) (hlr : 8 ≤ lr ∧ lr ≤ 15) (ts : List (List Nat × List Nat))
    (prev : List (List Nat)) (hl : prev.length = ts.length) (hok : ∀ t ∈ ts, HdrOk lr t) (rest : Bits) :
    ans1DecodeHeader prev (ans1EncodeHeader ts lr ++ rest) = some ((lr, mergeTabs prev ts), rest) := by
  unfold ans1DecodeHeader ans1EncodeHeader
  rw [List.append_assoc, readBits_natBits_lt _ 3 _ (by omega)]
  simp only
  have : 8 + (lr - 8) = lr := by omega
  rw [this, ctxs_rt lr hlr rest ts prev hl hok]

theorem mergeCtx_fst (p : List Nat) (t : List Nat × List Nat) : (mergeCtx p t).1 = t.1 := by
  unfold mergeCtx
  split
  · rename_i h
    exact (List.length_eq_zero_iff.mp h).symm
  · rfl

theorem mergeTabs_fst : ∀ (ts : List (List Nat × List Nat)) (prev : List (List Nat)),
    prev.length = ts.length → (mergeTabs prev ts).map (·.1) = ts.map (·.1) := by
  intro ts
  induction ts with
  | nil => intro prev _; simp [mergeTabs]
  | cons t ts ih =>
    intro prev hl
    cases prev with
    | nil => simp at hl
    | cons p ps =>
      simp only [mergeTabs, List.zipWith_cons_cons, List.map_cons, mergeCtx_fst]
      congr 1
      exact ih ps (by simpa using hl)

theorem mergeTabs_length (ts : List (List Nat × List Nat)) (prev : List (List Nat))
    (hl : prev.length = ts.length) : (mergeTabs prev ts).length = ts.length := by
  unfold mergeTabs
  rw [List.length_zipWith, hl, Nat.min_self]

theorem map_snd_getD (ts : List (List Nat × List Nat)) (k : Nat) :
    (ts.map (·.2)).getD k [] = (ts.getD k ([], [])).2 := by
  by_cases hk : k < ts.length
  · simp [List.getD_eq_getElem?_getD, hk]
  · simp [List.getD_eq_getElem?_getD, hk]

theorem mergeTabs_getD (ts : List (List Nat × List Nat)) (prev : List (List Nat))
    (hl : prev.length = ts.length) (k : Nat) (hk : k < ts.length) :
    (mergeTabs prev ts).getD k ([], []) = mergeCtx (prev.getD k []) (ts.getD k ([], [])) := by
  have hk' : k < prev.length := by omega
  simp [mergeTabs, List.getD_eq_getElem?_getD, hk, hk']

theorem mergeTabs_getD_snd (ts : List (List Nat × List Nat)) (prev : List (List Nat))
    (hl : prev.length = ts.length) (k : Nat) (hk : k < ts.length) (hne : (ts.getD k ([], [])).1 ≠ []) :
    ((mergeTabs prev ts).map (·.2)).getD k [] = (ts.getD k ([], [])).2 := by
  rw [map_snd_getD, mergeTabs_getD ts prev hl k hk]
  unfold mergeCtx
  rw [if_neg (length_ne_zero_of_ne_nil _ hne)]

theorem eq_replicate_of_sum_zero : ∀ (l : List Nat), l.sum = 0 → l = List.replicate l.length 0 :=
  fun _ h => List.eq_replicate_iff.mpr ⟨rfl, List.sum_eq_zero_iff_forall_eq_nat.mp h⟩

/-- on a decoder whose tables are all `z`, nothing is kept from before when the encoder's tables of
    the empty contexts are `z` too -/
theorem merge_fresh (z : List Nat) : ∀ (ts : List (List Nat × List Nat)),
    (∀ t ∈ ts, t.1 = [] → t.2 = z) → mergeTabs (List.replicate ts.length z) ts = ts := by
  intro ts
  induction ts with
  | nil => intro _; rfl
  | cons t ts ih =>
    intro h
    rw [List.length_cons, List.replicate_succ]
    simp only [mergeTabs, List.zipWith_cons_cons]
    have e := ih (fun x hx => h x (List.mem_cons_of_mem _ hx))
    unfold mergeTabs at e
    rw [e]
    congr 1
    unfold mergeCtx
    split
    · rename_i hl
      have h1 : t.1 = [] := List.length_eq_zero_iff.mp hl
      have h2 := h t List.mem_cons_self h1
      rw [← h1, ← h2]
    · rfl

/-! ### E. one chunk of `Write`; the whole block -/

theorem alph_sum_merge (ts : List (List Nat × List Nat)) (prev : List (List Nat))
    (hl : prev.length = ts.length) :
    ((mergeTabs prev ts).map (·.1.length)).sum = (ts.map (·.1.length)).sum := by
  have e : ∀ l : List (List Nat × List Nat), l.map (·.1.length) = (l.map (·.1)).map List.length := by
    intro l; simp
  rw [e, e, mergeTabs_fst ts prev hl]

theorem oneChunk1_facts (c : List Nat) (lr : Nat) (hlr : 8 ≤ lr ∧ lr ≤ 15) (hne : c ≠ [])
    (hb : ∀ b ∈ c, b < 256) :
    ∃ ts, normRows lr (hist1 (statPairs c)) = some ts ∧ ts.length = 256 ∧ (∀ t ∈ ts, HdrOk lr t) ∧
      (ts.map (·.1.length)).sum ≠ 0 ∧
      (∀ prev : List (List Nat), prev.length = 256 →
        ChunkOk (ts.map (·.2)) ((mergeTabs prev ts).map (·.2)) lr c) ∧
      (∀ t ∈ ts, t.1 = [] → t.2 = List.replicate 256 0) := by
  have hshape := hist1_shape (statPairs c)
  obtain ⟨ts, hts, hl, hk⟩ := normRows_spec lr hlr (hist1 (statPairs c))
    (fun k hk => hshape.2 k (by rw [hshape.1] at hk; exact hk))
  rw [hshape.1] at hl hk
  -- every counted pair lands in a non-empty, valid context
  have key : ∀ pr ∈ statPairs c, pr.1 < 256 → pr.2 < 256 →
      FreqTable (ts.getD pr.1 ([], [])).1 (ts.getD pr.1 ([], [])).2 lr ∧
      ((ts.getD pr.1 ([], [])).1.map (fun s => (ts.getD pr.1 ([], [])).2.getD s 0)).sum = 2 ^ lr ∧
      pr.2 ∈ (ts.getD pr.1 ([], [])).1 := by
    intro pr hp h1 h2
    have hpos := hist1_pos (statPairs c) pr.1 pr.2 hp h1 h2
    unfold cell at hpos
    rcases hk pr.1 h1 with hz | hr
    · have := getD_le_sum ((hist1 (statPairs c)).getD pr.1 []) pr.2
      omega
    · exact ⟨hr.1, hr.2.1, hr.2.2 pr.2 h2 hpos⟩
  refine ⟨ts, hts, hl, ?_, ?_, ?_, ?_⟩
  · intro t ht
    obtain ⟨k, hklt, rfl⟩ := List.getElem_of_mem ht
    have := hk k (by omega)
    have e : ts.getD k ([], []) = ts[k] := getD_eq_getElem ts _ hklt
    rw [e] at this
    exact ctxOk_hdrOk lr _ _ this
  · obtain ⟨ht, _, _⟩ := key _ (statPairs_first c hne) (Nat.zero_lt_succ 255) (getD_lt hb (Nat.zero_lt_succ 255) 0)
    have hlt : 0 < ts.length := by omega
    dsimp only at ht
    rw [getD_eq_getElem ts _ hlt] at ht
    have hm : (ts[0]'hlt).1.length ∈ ts.map (·.1.length) :=
      List.mem_map.mpr ⟨_, List.getElem_mem hlt, rfl⟩
    have hle := mem_le_sum _ _ hm
    have := length_ne_zero_of_ne_nil _ ht.nonempty
    omega
  · intro prev hpl
    refine ⟨hb, rowsOk_of_pairs _ _ lr c hb ?_⟩
    intro pr hp h1 h2
    obtain ⟨ht, hsum, hmem⟩ := key pr hp h1 h2
    unfold StepOk
    rw [mergeTabs_getD_snd ts prev (by omega) pr.1 (by omega) ht.nonempty, map_snd_getD]
    exact ⟨rfl, table_sum _ _ lr ht hsum, symOk_of_table _ _ lr ht pr.2 hmem⟩
  · intro t ht hnil
    obtain ⟨k, hklt, rfl⟩ := List.getElem_of_mem ht
    have hck := hk k (by omega)
    have e : ts.getD k ([], []) = ts[k] := getD_eq_getElem ts _ hklt
    rw [e] at hck
    rcases hck with hz | hr
    · rw [hz.2.2]
      have := eq_replicate_of_sum_zero _ hz.1
      rw [hshape.2 k (by omega)] at this
      exact this
    · exact absurd hnil hr.1.nonempty

theorem chunks1_rt (chunkSize lr : Nat) (hlr : 8 ≤ lr ∧ lr ≤ 15) (hcs0 : 0 < chunkSize)
    (hcs : chunkSize < 2 ^ 26) : ∀ (fuel : Nat) (blk : List Nat), blk.length ≤ fuel →
    (∀ b ∈ blk, b < 256) →
    ∃ enc, ans1EncodeChunks fuel chunkSize lr blk = some enc ∧
      ∀ (rest : Bits) (prev : List (List Nat)), prev.length = 256 →
        ans1DecodeChunks fuel chunkSize blk.length prev (enc ++ rest) = some (blk, rest) := by
  refine chunkLoop_rt chunkSize hcs0 (fun fuel blk => ans1EncodeChunks fuel chunkSize lr blk)
    (fun fuel bs blk rest => ∀ prev : List (List Nat), prev.length = 256 →
      ans1DecodeChunks fuel chunkSize blk.length prev bs = some (blk, rest))
    (fun fuel => by cases fuel <;> exact ⟨rfl, fun _ _ _ => rfl⟩) ?_
  intro fuel blk h0 hb hclen hcne hdl
  obtain ⟨ts, hts, htl, hhdr, hsum, hchunk, _⟩ := oneChunk1_facts (blk.take chunkSize) lr hlr hcne
    (fun b h => hb b (List.mem_of_mem_take h))
  refine ⟨ans1EncodeHeader ts lr ++ ans1EncodeChunk (blk.take chunkSize) (mkEncTabs (ts.map (·.2)) lr), ?_, ?_⟩
  · intro tl htlenc
    simp only [ans1EncodeChunks, if_neg h0, ans1EncodeOneChunk, hts, htlenc]
  · intro tl rest hdec prev hpl
    simp only [ans1DecodeChunks, if_neg h0, List.append_assoc]
    rw [header1_rt lr hlr ts prev (by omega) hhdr]
    simp only
    rw [alph_sum_merge ts prev (by omega), if_neg hsum, ← hclen,
      chunk1_rt (blk.take chunkSize) _ _ lr hlr (hchunk prev hpl) (by omega)]
    simp only
    rw [hclen, hdl, hdec _ (by rw [List.length_map, mergeTabs_length ts prev (by omega)]; exact htl)]
    simp only [List.take_append_drop]

/-- the whole `Write` / `Read` of the order-1 codec -/
theorem block1_rt (blk : List Nat) (chunkSize lr : Nat) (hlr : 8 ≤ lr ∧ lr ≤ 15) (hcs0 : 0 < chunkSize)
    (hcs : chunkSize < 2 ^ 26) (hb : ∀ b ∈ blk, b < 256) :
    ∃ enc, ans1Encode blk chunkSize lr = some enc ∧
      ∀ (prev : List (List Nat)), prev.length = 256 → ∀ rest : Bits,
        ans1Decode (enc ++ rest) blk.length chunkSize prev = some (blk, rest) := by
  unfold ans1Encode ans1Decode
  by_cases h32 : blk.length ≤ 32
  · simp only [if_pos h32]
    exact ⟨_, rfl, fun _ _ rest => raw_rt blk rest hb⟩
  · simp only [if_neg h32]
    obtain ⟨enc, he, hd⟩ := chunks1_rt chunkSize lr hlr hcs0 hcs blk.length blk (Nat.le_refl _) hb
    exact ⟨enc, he, fun prev hp rest => hd rest prev hp⟩

end Kanzi.Ans1
