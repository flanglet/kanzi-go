/-
The BWTBlockCodec header: big endian index coding, mode byte, exact header length, round trip
`parseHeader (headerBytes ..) = ..`, what an accepted header guarantees, and the width
`pIndexSizeOf n` being large enough for every index of a block of `n` bytes.
-/
import Kanzi.Model.BWT

namespace Kanzi.BWT

theorem getBWTChunks_cases (n : Nat) : getBWTChunks n = 1 ∨ getBWTChunks n = 8 := by
  unfold getBWTChunks; split <;> simp

theorem getBWTChunks_pos (n : Nat) : 0 < getBWTChunks n := by
  rcases getBWTChunks_cases n with h | h <;> rw [h] <;> decide

theorem beBytes_length (k v : Nat) : (beBytes k v).length = k := by
  induction k with
  | zero => rfl
  | succ k ih => simp [beBytes, ih]

theorem beBytes_lt (k v : Nat) : ∀ b ∈ beBytes k v, b < 256 := by
  induction k with
  | zero => intro b hb; simp [beBytes] at hb
  | succ k ih =>
    intro b hb
    simp only [beBytes, List.mem_cons] at hb
    rcases hb with rfl | hb
    · exact Nat.mod_lt _ (by decide)
    · exact ih b hb

theorem beValue_append (acc : Nat) (a b : List Nat) : beValue acc (a ++ b) = beValue (beValue acc a) b := by
  induction a generalizing acc with
  | nil => rfl
  | cons x xs ih => simp [beValue, ih]

theorem beValue_beBytes (k v acc : Nat) : beValue acc (beBytes k v) = acc * 256 ^ k + v % 256 ^ k := by
  induction k generalizing acc with
  | zero => simp [beBytes, beValue, Nat.mod_one]
  | succ k ih =>
    simp only [beBytes, beValue, ih]
    rw [Nat.shiftRight_eq_div_pow, Nat.pow_mul]
    have h256 : (2 : Nat) ^ 8 = 256 := by decide
    rw [h256, Nat.pow_succ]
    have e1 : v % (256 ^ k * 256) = v % 256 ^ k + 256 ^ k * (v / 256 ^ k % 256) := Nat.mod_mul
    rw [e1, Nat.add_mul, Nat.mul_assoc, Nat.mul_comm 256 (256 ^ k), Nat.mul_comm (v / 256 ^ k % 256) (256 ^ k)]
    omega

theorem beValue_beBytes_small (k v : Nat) (h : v < 256 ^ k) : beValue 0 (beBytes k v) = v := by
  rw [beValue_beBytes, Nat.mod_eq_of_lt h]; omega

theorem beValue_lt (l : List Nat) (acc : Nat) (hb : ∀ b ∈ l, b < 256) :
    beValue acc l < (acc + 1) * 256 ^ l.length := by
  induction l generalizing acc with
  | nil => simp [beValue]
  | cons x xs ih =>
    have hx := hb x List.mem_cons_self
    have := ih (acc * 256 + x) (fun b h => hb b (List.mem_cons_of_mem _ h))
    simp only [beValue, List.length_cons, Nat.pow_succ]
    calc beValue (acc * 256 + x) xs < (acc * 256 + x + 1) * 256 ^ xs.length := this
      _ ≤ ((acc + 1) * 256) * 256 ^ xs.length := Nat.mul_le_mul_right _ (by omega)
      _ = (acc + 1) * (256 ^ xs.length * 256) := by rw [Nat.mul_assoc, Nat.mul_comm 256]

theorem chunk_of_flatten (ls : List (List Nat)) (k : Nat) (hk : ∀ l ∈ ls, l.length = k) (rest : List Nat)
    (i : Nat) (hi : i < ls.length) :
    ((ls.flatten ++ rest).drop (i * k)).take k = ls.getD i [] := by
  induction ls generalizing i with
  | nil => simp at hi
  | cons l ls ih =>
    have hl := hk l List.mem_cons_self
    cases i with
    | zero =>
      simp only [Nat.zero_mul, List.drop_zero, List.flatten_cons, List.append_assoc, List.getD_cons_zero]
      exact List.take_left' hl
    | succ i =>
      have e : (i + 1) * k = l.length + i * k := by rw [hl, Nat.succ_mul]; omega
      rw [List.flatten_cons, List.append_assoc, e, ← List.drop_drop, List.drop_left' rfl]
      simp only [List.getD_cons_succ]
      exact ih (fun x hx => hk x (List.mem_cons_of_mem _ hx)) i (by simpa using hi)

/-- the data of the header as `Forward` lays it out (without the mode byte) -/
abbrev indexBytes (chunks psz : Nat) (pidx : List Nat) : List Nat :=
  ((List.range chunks).map (fun i => beBytes psz (usub1 (pidx.getD i 0)))).flatten

theorem indexBytes_length (chunks psz : Nat) (pidx : List Nat) : (indexBytes chunks psz pidx).length = chunks * psz := by
  simp only [indexBytes, List.length_flatten, List.map_map, Function.comp_def, beBytes_length]
  induction chunks with
  | zero => simp
  | succ c ih => rw [List.range_succ, List.map_append, List.sum_append, ih, Nat.succ_mul]; simp

theorem headerBytes_eq (chunks psz : Nat) (pidx : List Nat) :
    headerBytes chunks psz pidx = ((log2 chunks) <<< 2 ||| (psz - 1)) % 256 :: indexBytes chunks psz pidx := rfl

theorem headerBytes_length (chunks psz : Nat) (pidx : List Nat) :
    (headerBytes chunks psz pidx).length = chunks * psz + 1 := by
  rw [headerBytes_eq, List.length_cons, indexBytes_length]

/-- mode byte decoding for the two chunk counts and four widths the encoder can emit -/
theorem mode_decode (chunks psz : Nat) (hc : chunks = 1 ∨ chunks = 8) (hp : 1 ≤ psz ∧ psz ≤ 4) :
    let mode := ((log2 chunks) <<< 2 ||| (psz - 1)) % 256
    1 <<< ((mode >>> 2) &&& 7) = chunks ∧ (mode &&& 3) + 1 = psz := by
  obtain ⟨h1, h2⟩ := hp
  have : psz = 1 ∨ psz = 2 ∨ psz = 3 ∨ psz = 4 := by omega
  rcases hc with rfl | rfl <;> rcases this with rfl | rfl | rfl | rfl <;> decide

/-- HEADER ROUND TRIP.  For the chunk count of the block (1 or 8), every index width 1..4 and every
primary index in `1 .. 256^psz` (so every index below 2^32 + 1 with four bytes): parsing the emitted
header followed by the data returns exactly the indexes, the exact header length, and leaves the
other slots alone. -/
theorem parseHeader_headerBytes (old pidx data : List Nat) (psz : Nat) (hp : 1 ≤ psz ∧ psz ≤ 4)
    (hidx : ∀ i, i < getBWTChunks data.length → 1 ≤ pidx.getD i 0 ∧ pidx.getD i 0 ≤ 256 ^ psz) :
    parseHeader old (headerBytes (getBWTChunks data.length) psz pidx ++ data)
      = .ok { pidx := (List.range (getBWTChunks data.length)).map (fun i => pidx.getD i 0)
                        ++ old.drop (getBWTChunks data.length),
              headerSize := getBWTChunks data.length * psz + 1 } := by
  have hc := getBWTChunks_cases data.length
  generalize hch : getBWTChunks data.length = chunks at *
  obtain ⟨hm1, hm2⟩ := mode_decode chunks psz hc hp
  have hlen : (headerBytes chunks psz pidx ++ data).length = chunks * psz + 1 + data.length := by
    rw [List.length_append, headerBytes_length]
  simp only [parseHeader, parseHeaderN, hlen]
  rw [headerBytes_eq]
  simp only [List.cons_append, List.headD_cons, hm1, hm2]
  have h1 : ¬ chunks * psz + 1 + data.length < chunks * psz + 1 := by omega
  have h2 : chunks * psz + 1 + data.length - (chunks * psz + 1) = data.length := by omega
  simp only [h1, ite_false, h2, hch, ne_eq, not_true_eq_false]
  congr 2
  congr 1
  apply List.map_congr_left
  intro i hi
  have hi' := List.mem_range.1 hi
  rw [← List.drop_drop]
  simp only [List.drop_succ_cons, List.drop_zero]
  rw [chunk_of_flatten _ psz (by
      intro l hl
      obtain ⟨j, _, rfl⟩ := List.mem_map.1 hl
      exact beBytes_length _ _) data i (by simpa using hi')]
  have hg : ((List.range chunks).map (fun i => beBytes psz (usub1 (pidx.getD i 0)))).getD i []
      = beBytes psz (usub1 (pidx.getD i 0)) := by
    simp [List.getD_eq_getElem?_getD, hi']
  obtain ⟨hlo, hhi⟩ := hidx i hi'
  have hpow : 256 ^ psz ≤ 256 ^ 4 := Nat.pow_le_pow_right (by decide) hp.2
  have hu : usub1 (pidx.getD i 0) = pidx.getD i 0 - 1 := by
    unfold usub1
    have : (256 : Nat) ^ 4 < 2 ^ 64 := by decide
    omega
  rw [hg, beValue_beBytes_small _ _ (by rw [hu]; omega), hu]
  omega

/-- WHAT AN ACCEPTED HEADER GUARANTEES (the validation of `BWTBlockCodec.Inverse`): the header fits, the
chunk count is the one of the data length, every extracted primary index is in `1 .. 2^32`, the other
slots are untouched. -/
theorem parseHeader_ok (old src : List Nat) (hb : ∀ b ∈ src, b < 256) (h : Header)
    (hok : parseHeader old src = .ok h) :
    h.headerSize ≤ src.length ∧ 2 ≤ h.headerSize ∧ h.headerSize ≤ MAX_HEADER_SIZE ∧
    (∀ i, i < getBWTChunks (src.length - h.headerSize) →
        1 ≤ h.pidx.getD i 0 ∧ h.pidx.getD i 0 ≤ 2 ^ 32) ∧
    h.pidx.drop (getBWTChunks (src.length - h.headerSize)) = old.drop (getBWTChunks (src.length - h.headerSize)) := by
  simp only [parseHeader, parseHeaderN] at hok
  generalize hmode : src.headD 0 = mode at hok
  generalize hl : (mode >>> 2) &&& 7 = l at hok
  generalize hp : (mode &&& 3) = p at hok
  have hp3 : p ≤ 3 := by rw [← hp]; exact Nat.and_le_right
  have hl7 : l ≤ 7 := by rw [← hl]; exact Nat.and_le_right
  split at hok
  · cases hok
  · split at hok
    · cases hok
    · next h1 h2 =>
      injection hok with hok
      subst hok
      simp only
      have hch : 1 <<< l = getBWTChunks (src.length - (1 <<< l * (p + 1) + 1)) := by
        simpa using h2
      have hc18 : 1 <<< l = 1 ∨ 1 <<< l = 8 := by
        rw [hch]; exact getBWTChunks_cases _
      refine ⟨by omega, ?_, ?_, ?_, ?_⟩
      · rcases hc18 with h | h <;> rw [h] <;> omega
      · unfold MAX_HEADER_SIZE
        rcases hc18 with h | h <;> rw [h] <;> omega
      · intro i hi
        rw [← hch] at hi
        rw [List.getD_eq_getElem?_getD, List.getElem?_append_left (by simpa using hi)]
        simp only [List.getElem?_map, List.getElem?_range hi, Option.map_some, Option.getD_some]
        have hbl := beValue_lt ((src.drop (1 + i * (p + 1))).take (p + 1)) 0
          (fun b hb' => hb b (List.mem_of_mem_drop (List.mem_of_mem_take hb')))
        have hlen : ((src.drop (1 + i * (p + 1))).take (p + 1)).length ≤ 4 := by
          rw [List.length_take]; omega
        have : 256 ^ ((src.drop (1 + i * (p + 1))).take (p + 1)).length ≤ 256 ^ 4 :=
          Nat.pow_le_pow_right (by decide) hlen
        have e : (256 : Nat) ^ 4 = 2 ^ 32 := by decide
        omega
      · rw [← hch]
        exact List.drop_left' (by simp)

/-! ### the index width chosen by Forward is large enough -/

theorem testBit_top (x l : Nat) (h1 : 2 ^ l ≤ x) (h2 : x < 2 ^ (l + 1)) : x.testBit l = true := by
  rw [Nat.testBit_eq_decide_div_mod_eq]
  have : x / 2 ^ l = 1 := by
    apply Nat.div_eq_of_lt_le
    · omega
    · rw [Nat.pow_succ] at h2; omega
  simp [this]

/-- `n & (n-1) == 0` only for powers of two -/
theorem pow2_of_and_pred (n : Nat) (hn : n ≠ 0) (h : n &&& (n - 1) = 0) : n = 2 ^ Nat.log2 n := by
  have h1 := Nat.log2_self_le hn
  have h2 : n < 2 ^ (Nat.log2 n + 1) := Nat.lt_log2_self
  refine Classical.byContradiction fun hne => ?_
  have h3 : 2 ^ Nat.log2 n ≤ n - 1 := by omega
  have t1 := testBit_top n _ h1 h2
  have t2 := testBit_top (n - 1) _ h3 (by omega)
  have := Nat.testBit_and n (n - 1) (Nat.log2 n)
  rw [h, t1, t2] at this
  simp at this

/-- every row number `1 .. n` fits the width `pIndexSizeOf n` (the header stores row - 1) -/
theorem le_pow_pIndexSize (n : Nat) (hn : n ≠ 0) : n ≤ 256 ^ pIndexSizeOf n := by
  unfold pIndexSizeOf log2
  simp only
  have h256 : ∀ k, (256 : Nat) ^ k = 2 ^ (8 * k) := by
    intro k; rw [Nat.pow_mul]
  rw [h256, Nat.shiftRight_eq_div_pow]
  have h2 : n < 2 ^ (Nat.log2 n + 1) := Nat.lt_log2_self
  split
  · have : Nat.log2 n + 1 ≤ 8 * ((Nat.log2 n + 1 + 7) / 2 ^ 3) := by omega
    exact Nat.le_trans (Nat.le_of_lt h2) (Nat.pow_le_pow_right (by decide) this)
  · next h =>
    have hz : n &&& (n - 1) = 0 := by simpa using h
    have hp := pow2_of_and_pred n hn hz
    have : Nat.log2 n ≤ 8 * ((Nat.log2 n + 7) / 2 ^ 3) := by omega
    calc n = 2 ^ Nat.log2 n := hp
      _ ≤ _ := Nat.pow_le_pow_right (by decide) this

theorem pIndexSize_range (n : Nat) (h2 : 2 ≤ n) (hmax : n ≤ MAX_BLOCK_SIZE) :
    1 ≤ pIndexSizeOf n ∧ pIndexSizeOf n ≤ 4 := by
  have hn : n ≠ 0 := by omega
  have hl1 : 1 ≤ Nat.log2 n := by
    have : ¬ Nat.log2 n < 1 := by
      rw [Nat.log2_lt hn]; omega
    omega
  have hl2 : Nat.log2 n < 31 := by
    rw [Nat.log2_lt hn]
    unfold MAX_BLOCK_SIZE at hmax
    omega
  unfold pIndexSizeOf log2
  simp only [Nat.shiftRight_eq_div_pow]
  split <;> omega

end Kanzi.BWT
