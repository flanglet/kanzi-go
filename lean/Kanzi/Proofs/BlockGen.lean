/-
Proofs for the generic block codec: decode ∘ encode under the per-component laws.  The frame level (mode byte, skip
flags, length field, checksum, copy blocks) is proved about `decodeTaskGen` of `Kanzi/Model/BlockGen.lean`, with which
every generation decodes.  The block theorem `block_roundtripS` is about `encodeTaskGen2` of
`Kanzi/Model/BlockGen2.lean` and any chain of stages with `Steps` (`Kanzi/Proofs/Seq.lean`); the first generic encoder
is that one over transforms that ignore the hint, with an empty output buffer (`encodeTaskGen_lift`), whence
`block_roundtrip`.  Property statements: `Kanzi/Properties/C01_blockgen.lean`.
-/
import Kanzi.Model.BlockGen2
import Kanzi.Proofs.Block
import Kanzi.Proofs.Seq
import Kanzi.Proofs.EntSmall

namespace Kanzi.BlockGen
open Kanzi.Bits Kanzi.TrSmall Kanzi.Block Kanzi.BlockGen2

theorem seqMaxEncodedLen_stagesOf (trs : List Tr) (a b len : Nat) :
    seqMaxEncodedLen (stagesOf trs a b) len = seqMaxLen trs len := by
  unfold seqMaxLen stagesOf
  induction trs generalizing len with
  | nil => rfl
  | cons t ts ih =>
    simp only [List.map_cons, seqMaxEncodedLen, Tr.stage]
    exact ih _

theorem ds_shift : ∀ d, d < 4 → (d &&& 3) <<< 5 = 32 * d := by decide

/-- `q` = the high nibble of the skip flags -/
theorem mode_nibble : ∀ d, d < 4 → ∀ q, q < 16 →
    (32 * d ||| q) % 256 < 256 ∧ ((32 * d ||| q) % 256) &&& 0x80 = 0 ∧
    ((32 * d ||| q) % 256) &&& 0x10 = 0 ∧ (((32 * d ||| q) % 256) >>> 5) &&& 3 = d ∧
    ((((32 * d ||| q) % 256) <<< 4) ||| 0x0F) % 256 = 16 * q + 15 := by decide

theorem mode_extra : ∀ d, d < 4 →
    (32 * d ||| 0x10) % 256 < 256 ∧ ((32 * d ||| 0x10) % 256) &&& 0x80 = 0 ∧
    ((32 * d ||| 0x10) % 256) &&& 0x10 ≠ 0 ∧ (((32 * d ||| 0x10) % 256) >>> 5) &&& 3 = d := by decide

theorem mode_copy : ∀ d, d < 4 → ∀ q, q < 16 →
    ((0x80 ||| 32 * d) ||| q) % 256 < 256 ∧ (((0x80 ||| 32 * d) ||| q) % 256) &&& 0x80 ≠ 0 ∧
    ((((0x80 ||| 32 * d) ||| q) % 256) >>> 5) &&& 3 = d ∧ (0x80 ||| 32 * d) &&& 0x80 ≠ 0 := by decide

theorem mode0_noncopy : ∀ d, d < 4 → (0 ||| 32 * d) &&& 0x80 = 0 ∧ (0 ||| 32 * d) = 32 * d := by decide

/-- what the decoder needs to know about the mode byte and the optional extra byte written by the
encoder (`em` = the result of `encodeMode`): `d` = dataSize - 1, `f` = the skip flags -/
structure ModeOK (copy : Bool) (d f : Nat) (em : Nat × Option Nat) : Prop where
  lt : em.1 < 256
  copyBit : (em.1 &&& 0x80 ≠ 0) ↔ copy = true
  size : (em.1 >>> 5) &&& 3 = d
  /-- non-copy blocks: the flags are read back, from the nibble or from the extra byte -/
  flags : copy = false →
    (em.2 = none ∧ em.1 &&& 0x10 = 0 ∧ ((em.1 <<< 4) ||| 0x0F) % 256 = f) ∨ (em.2 = some f ∧ em.1 &&& 0x10 ≠ 0)
  noExtra : copy = true → em.2 = none

theorem modeOK_encodeMode (copy : Bool) (ds f n : Nat) (h1 : 1 ≤ ds) (h4 : ds ≤ 4) (hf : f < 256)
    (hlow : n ≤ 4 → f % 16 = 15) :
    ModeOK copy (ds - 1) f
      (encodeMode ((if copy then 0x80 else 0) ||| (((ds - 1) &&& 3) <<< 5)) f n) := by
  have hd : ds - 1 < 4 := by omega
  have hq : f >>> 4 < 16 := by rw [Nat.shiftRight_eq_div_pow]; omega
  have hfq : f % 16 = 15 → 16 * (f >>> 4) + 15 = f := by rw [Nat.shiftRight_eq_div_pow]; omega
  rw [ds_shift (ds - 1) hd]
  generalize ds - 1 = d at hd
  cases copy with
  | true =>
    obtain ⟨a1, a2, a3, a4⟩ := mode_copy d hd _ hq
    unfold encodeMode
    simp only [if_true]
    rw [if_pos (Or.inl a4)]
    exact ⟨a1, by simp [a2], a3, by simp, by simp⟩
  | false =>
    obtain ⟨b1, b2⟩ := mode0_noncopy d hd
    unfold encodeMode
    simp only [Bool.false_eq_true, if_false]
    rw [b2]
    have hnc : ¬ (32 * d &&& 0x80 ≠ 0) := by rw [b2] at b1; simp [b1]
    by_cases hn : n ≤ 4
    · rw [if_pos (Or.inr hn)]
      obtain ⟨a1, a2, a3, a4, a5⟩ := mode_nibble d hd _ hq
      exact ⟨a1, by simp [a2], a4, fun _ => Or.inl ⟨rfl, a3, a5.trans (hfq (hlow hn))⟩, by simp⟩
    · rw [if_neg (by intro h; cases h with | inl h => exact hnc h | inr h => exact hn h)]
      obtain ⟨a1, a2, a3, a4⟩ := mode_extra d hd
      exact ⟨a1, by simp [a2], a4, fun _ => Or.inr ⟨rfl, a3⟩, by simp⟩

theorem dataSizeGen_eq (post : Nat) (h : post < 2 ^ 32) : dataSizeGen post = dataSizeOf post := by
  unfold dataSizeGen dataSizeOf
  rw [Nat.mod_eq_of_lt h]

theorem padZero_of_length (n : Nat) (l : List Nat) (h : l.length = n) : padZero n l = l := by
  unfold padZero; rw [h]; simp

theorem padToByte_eq (bs : Bits) : padToByte bs = bs ++ List.replicate (padLen bs.length) false := rfl

theorem taskBlockLength_ge (B : Nat) : B ≤ taskBlockLength B := by
  unfold taskBlockLength; omega

theorem decDstLen_ge (B : Nat) (p : Bits) : taskBlockLength B ≤ decDstLen B p := by
  unfold decDstLen; omega

theorem extraBits_length (ex : Option Nat) : (extraBits ex).length = 0 ∨ (extraBits ex).length = 8 := by
  cases ex with
  | none => left; rfl
  | some x => right; simp [extraBits]

/-- `decodeTaskGen` on `mode | [flags] | length | checksum | body`, whatever follows: the prologue is
parsed back, the announced length is checked, and the body (with the byte padding) is handed to `decodeBody` -/
theorem decodeTaskGen_prologue (c : Cfg) (B : Nat) (copy : Bool) (ds f post sum : Nat)
    (em : Nat × Option Nat) (body p : Bits)
    (hm : ModeOK copy (ds - 1) f em) (h1 : 1 ≤ ds) (hf : f < 256) (hpost : post < 2 ^ (8 * ds))
    (hp : p = natBits em.1 8 ++ extraBits em.2 ++ natBits post (8 * ds) ++ natBits sum (ckWidth c.ck) ++ body) :
    decodeTaskGen c B p =
      if post = 0 ∨ post > maxTransformLength B then .fail .size
      else if copy = true then
        decodeBody [nullTr] noneEnt c.ck 0 post (sum % 2 ^ ckWidth c.ck) (decDstLen B p)
          (body ++ List.replicate (padLen p.length) false)
      else
        decodeBody c.trs c.ent c.ck f post (sum % 2 ^ ckWidth c.ck) (decDstLen B p)
          (body ++ List.replicate (padLen p.length) false) := by
  have hds : 1 + ((em.1 >>> 5) &&& 3) = ds := by rw [hm.size]; omega
  unfold decodeTaskGen
  rw [padToByte_eq]
  generalize List.replicate (padLen p.length) false = pad
  generalize decDstLen B p = dl
  subst hp
  simp only [List.append_assoc]
  rw [readBits_natBits_append]
  simp only [Nat.mod_eq_of_lt hm.lt, hds]
  cases copy with
  | true =>
    have hc : em.1 &&& 0x80 ≠ 0 := hm.copyBit.2 rfl
    have hex : em.2 = none := hm.noExtra rfl
    rw [hex]
    simp only [extraBits, List.nil_append, if_pos hc]
    rw [readBits_natBits_append]
    simp only [Nat.mod_eq_of_lt hpost]
    refine ite_congr rfl (fun _ => rfl) (fun _ => ?_)
    rw [readBits_natBits_append]
    simp only [if_true]
  | false =>
    have hc : ¬ (em.1 &&& 0x80 ≠ 0) := fun h => by have := hm.copyBit.1 h; cases this
    simp only [if_neg hc, Bool.false_eq_true, if_false]
    rcases hm.flags rfl with ⟨hex, h10, hnib⟩ | ⟨hex, h10⟩
    · rw [hex]
      simp only [extraBits, List.nil_append]
      rw [if_neg (by rw [h10]; simp)]
      simp only [hnib]
      rw [readBits_natBits_append]
      simp only [Nat.mod_eq_of_lt hpost]
      refine ite_congr rfl (fun _ => rfl) (fun _ => ?_)
      rw [readBits_natBits_append]
    · rw [hex]
      simp only [extraBits]
      rw [if_pos h10, readBits_natBits_append]
      simp only [Nat.mod_eq_of_lt (show f < 2 ^ 8 by omega)]
      rw [readBits_natBits_append]
      simp only [Nat.mod_eq_of_lt hpost]
      refine ite_congr rfl (fun _ => rfl) (fun _ => ?_)
      rw [readBits_natBits_append]

/-- the exact-consumption law of an entropy codec on a class of blocks -/
def EntLaw (D : List Nat → Prop) (ent : Ent) : Prop :=
  ∀ x, D x → ∃ e, ent.enc x = some e ∧ ∀ rest : Bits, ent.dec x.length (e ++ rest) = some (x, rest)

/-- the law of a transform sequence on a class `D` of blocks (the per-stage hypothesis of
`C13_sequence`, for every destination size the two sequences may use): forward destinations of at
least `MaxEncodedLen` of the sequence, inverse destinations of at least `dmin` bytes -/
def SeqLaw (D : List Nat → Prop) (trs : List Tr) (len dmin : Nat) : Prop :=
  trs.length ≤ 8 ∧
  ∀ t ∈ trs, ∀ req n, seqMaxLen trs len ≤ req → dmin ≤ n → (t.stage req n).GoodOn D

theorem decodeBody_ok {trs : List Tr} {ent : Ent} {ck flags dl : Nat} {y b : List Nat} {bs rest : Bits}
    (hdec : ent.dec y.length bs = some (y, rest)) (hinv : seqInverse (invStages trs dl) flags y = .ok b)
    (hfit : b.length ≤ dl) :
    decodeBody trs ent ck flags y.length (checksum ck b) dl bs = ⟨b.length, .ok b⟩ := by
  unfold decodeBody
  rw [hdec]
  simp only [padZero_of_length _ _ rfl]
  rw [hinv]
  simp only
  rw [if_neg (by omega), if_neg (by simp)]

/-! ### the sequence over `Tr`: `SeqLaw` is a chain of stages with one class -/

/-- a transform of the first generic codec as a stage of `seqFwdGo2`: it ignores the data type hint -/
def Tr.lift (t : Tr) : Tr2 := ⟨fun _ => t.fwd, fun _ _ _ => none, t.inv, t.maxLen⟩

theorem trsOf_lift : ∀ trs : List Tr, trsOf (trs.map Tr.lift) = trs
  | [] => rfl
  | t :: rest => congrArg (t :: ·) (trsOf_lift rest)

theorem seqFwdGo_liftTr (req a : Nat) : ∀ (trs : List Tr) (i : Nat) (even : Bool) (dt : Nat) (cur : List Nat)
    (f : Nat), seqFwdGo2 req req (trs.map Tr.lift) i even dt cur f = seqFwdGo (stagesOf trs req a) i cur f
  | [], _, _, _, _, _ => rfl
  | t :: rest, i, even, dt, cur, f => by
    rw [List.map_cons, seqFwdGo2]
    show (match t.fwd cur (if even then req else req) with
      | .error _ => seqFwdGo2 req req (rest.map Tr.lift) (i + 1) even dt cur f
      | .ok y => seqFwdGo2 req req (rest.map Tr.lift) (i + 1) (!even) dt y (clearFlag f i)) =
      (match t.fwd cur req with
      | .error _ => seqFwdGo (stagesOf rest req a) (i + 1) cur f
      | .ok y => seqFwdGo (stagesOf rest req a) (i + 1) y (clearFlag f i))
    rw [ite_self]
    cases t.fwd cur req <;> exact seqFwdGo_liftTr req a rest _ _ _ _ _

theorem seqForward_liftTr (dt : Nat) (trs : List Tr) (len : Nat) (x : List Nat) :
    seqForward2 (trs.map Tr.lift) (seqMaxLen trs len) (seqMaxLen trs len) dt x = seqForward (fwdStages trs len) x := by
  unfold seqForward2 seqForward fwdStages
  rw [seqFwdGo_liftTr]

theorem steps_of_seqLaw (D : List Nat → Prop) (trs : List Tr) (len dmin n : Nat) (h : SeqLaw D trs len dmin)
    (hn : dmin ≤ n) : Steps (seqMaxLen trs len) (seqMaxLen trs len) n True (trs.map Tr.lift) D D := by
  have : ∀ ts : List Tr, (∀ t ∈ ts, t ∈ trs) →
      Steps (seqMaxLen trs len) (seqMaxLen trs len) n True (ts.map Tr.lift) D D := by
    intro ts
    induction ts with
    | nil => intro _ _ h; exact h
    | cons t rest ih =>
      intro hm
      refine ⟨D, fun _ h => h, fun _ d x y hd hD hf => ?_, ih fun t ht => hm t (List.mem_cons_of_mem _ ht)⟩
      have hd : d = seqMaxLen trs len := hd.elim id id
      subst hd
      exact (h.2 t (hm t (List.mem_cons_self ..)) _ n (Nat.le_refl _) hn x y hD hf).imp id (.imp id fun h _ => h)
  exact this trs fun _ h => h

/-- the inverse sequence into `dl ≥ dmin` bytes undoes the forward sequence; the output stays in the class, and is
empty only for an empty block -/
theorem seq_of_seqLaw (D : List Nat → Prop) (trs : List Tr) (b : List Nat) (dmin dl : Nat)
    (hseq : SeqLaw D trs b.length dmin) (hD : D b) (hdl : dmin ≤ dl) :
    seqInverse (invStages trs dl) (seqForward (fwdStages trs b.length) b).2
      (seqForward (fwdStages trs b.length) b).1 = .ok b ∧
    D (seqForward (fwdStages trs b.length) b).1 ∧ (b ≠ [] → (seqForward (fwdStages trs b.length) b).1 ≠ []) := by
  have := seq_steps _ _ _ 0 True _ D D b
    (steps_of_seqLaw D trs b.length dmin (max dl (seqMaxLen trs dl)) hseq (by omega))
    (by rw [List.length_map]; exact hseq.1) hD
  rw [seqForward_liftTr, trsOf_lift] at this
  exact ⟨this.1 trivial, this.2⟩

/-- the body of the decoder on the output of the matching encoder body: `e` is what the entropy coder
wrote for the transformed block -/
theorem decodeBody_roundtrip (D : List Nat → Prop) (trs : List Tr) (ent : Ent) (ck dstLen dmin : Nat)
    (b : List Nat) (e pad : Bits)
    (hseq : SeqLaw D trs b.length dmin) (hD : D b)
    (hdmin : dmin ≤ dstLen) (hfit : b.length ≤ dstLen)
    (hdec : ∀ rest : Bits, ent.dec (seqForward (fwdStages trs b.length) b).1.length (e ++ rest) =
      some ((seqForward (fwdStages trs b.length) b).1, rest)) :
    decodeBody trs ent ck (seqForward (fwdStages trs b.length) b).2
      (seqForward (fwdStages trs b.length) b).1.length (checksum ck b) dstLen (e ++ pad) =
        ⟨b.length, .ok b⟩ :=
  decodeBody_ok (hdec pad) (seq_of_seqLaw D trs b dmin dstLen hseq hD hdmin).1 hfit

theorem encodeOf_eq (copy : Bool) (n : Nat) (ent : Ent) (ckw sum : Nat) (f : List Nat × Nat) (e : Bits)
    (hp32 : f.1.length < 2 ^ 32) (he : ent.enc f.1 = some e) :
    encodeOf copy n ent ckw sum f = .ok
      (natBits (encodeMode ((if copy then 0x80 else 0) ||| (((dataSizeOf f.1.length - 1) &&& 3) <<< 5)) f.2 n).1 8 ++
        extraBits (encodeMode ((if copy then 0x80 else 0) ||| (((dataSizeOf f.1.length - 1) &&& 3) <<< 5)) f.2 n).2 ++
        natBits f.1.length (8 * dataSizeOf f.1.length) ++ natBits sum ckw ++ e) := by
  unfold encodeOf
  simp only [dataSizeGen_eq _ hp32]
  have h4 := dataSizeOf_le _ hp32
  rw [if_neg (by omega), if_neg (by omega), he]

theorem fallback_cases (lim : Option Nat) (req : Nat) (b : List Nat) (f : List Nat × Nat) :
    fallback lim req b f = f ∨ fallback lim req b f = (b, 0xFF) := by
  unfold fallback
  split
  · exact Or.inr rfl
  · exact Or.inl rfl

/-- the payload written for `f` = (block handed to the entropy coder, skip flags), and what the decoder makes of
its prologue -/
theorem decodeTaskGen_encodeOf (c : Cfg) (B sum : Nat) (f : List Nat × Nat) (e : Bits)
    (hflt : f.2 < 256) (hlow : c.trs.length ≤ 4 → f.2 % 16 = 15) (h32 : f.1.length < 2 ^ 32)
    (he : c.ent.enc f.1 = some e) :
    ∃ p, encodeOf false c.trs.length c.ent (ckWidth c.ck) sum f = .ok p ∧
      decodeTaskGen c B p =
        if f.1.length = 0 ∨ f.1.length > maxTransformLength B then .fail .size
        else decodeBody c.trs c.ent c.ck f.2 f.1.length (sum % 2 ^ ckWidth c.ck) (decDstLen B p)
          (e ++ List.replicate (padLen p.length) false) := by
  have hds1 := dataSizeOf_pos f.1.length
  have hm := modeOK_encodeMode false (dataSizeOf f.1.length) f.2 c.trs.length hds1 (dataSizeOf_le _ h32) hflt hlow
  refine ⟨_, encodeOf_eq false c.trs.length c.ent _ _ f e h32 he, ?_⟩
  rw [decodeTaskGen_prologue c B false _ _ _ _ _ e _ hm hds1 hflt (lt_pow_dataSizeOf f.1.length) rfl]
  simp only [Bool.false_eq_true, if_false]

theorem decode_encodeOfQ (Q : Nat → Prop) (c : Cfg) (B : Nat) (b : List Nat) (f : List Nat × Nat) (e : Bits)
    (hflt : f.2 < 256) (hlow : c.trs.length ≤ 4 → f.2 % 16 = 15)
    (hne : f.1 ≠ []) (hpm : f.1.length ≤ maxTransformLength B)
    (he : c.ent.enc f.1 = some e)
    (hdec : ∀ rest : Bits, c.ent.dec f.1.length (e ++ rest) = some (f.1, rest))
    (hinv : ∀ dl, taskBlockLength B ≤ dl → Q dl → seqInverse (invStages c.trs dl) f.2 f.1 = .ok b)
    (hB : b.length ≤ B) :
    ∃ p, encodeOf false c.trs.length c.ent (ckWidth c.ck) (checksum c.ck b) f = .ok p ∧
      (Q (decDstLen B p) → decodeTaskGen c B p = ⟨b.length, .ok b⟩) := by
  have hmt : maxTransformLength B ≤ 2 ^ 30 := by unfold maxTransformLength; omega
  have hpost0 : f.1.length ≠ 0 := fun h => hne (List.eq_nil_of_length_eq_zero h)
  obtain ⟨p, hp, hd⟩ := decodeTaskGen_encodeOf c B (checksum c.ck b) f e hflt hlow (by omega) he
  refine ⟨p, hp, fun hQ => ?_⟩
  rw [hd, if_neg (by omega), Nat.mod_eq_of_lt (checksum_lt c.ck b)]
  have hdl := decDstLen_ge B p
  have := taskBlockLength_ge B
  exact decodeBody_ok (hdec _) (hinv _ hdl hQ) (by omega)

theorem seqInverse_ff (stages : List Stage) (b : List Nat) : seqInverse stages 0xFF b = .ok b := by
  unfold seqInverse
  by_cases h : b.length = 0
  · rw [if_pos h, List.eq_nil_of_length_eq_zero h]
  · rw [if_neg h, if_pos rfl]

/-! ### decode ∘ encode, copy blocks (NONE / NONE forced) -/

theorem seqMaxLen_null (n : Nat) : seqMaxLen [nullTr] n = n := by
  simp [seqMaxLen, stagesOf, seqMaxEncodedLen, Tr.stage, nullTr, nullMaxEncodedLen]

theorem seqForward_null (b : List Nat) (h0 : 0 < b.length) :
    seqForward (fwdStages [nullTr] b.length) b = (b, 0x7F) := by
  unfold fwdStages seqForward
  rw [if_neg (by omega), seqMaxLen_null]
  have h1 : nullForward b b.length = .ok b := by
    unfold nullForward nullMaxEncodedLen nullCopy
    rw [if_neg (Nat.lt_irrefl _), if_neg (by omega), if_neg (Nat.lt_irrefl _)]
  show seqFwdGo [nullTr.stage b.length 0] 0 b 0xFF = _
  rw [seqFwdGo]
  show (match nullForward b b.length with
    | .error _ => seqFwdGo [] (0 + 1) b 0xFF
    | .ok y => seqFwdGo [] (0 + 1) y (clearFlag 0xFF 0)) = _
  rw [h1]
  rfl

/-- the NONE sequence of a copy block: the block itself, with flags 0x7F, or 0xFF when the bound on the
post-transform length applies (a block longer than `maxLengthOf`, which a Writer never produces) -/
theorem fallback_null (lim : Option Nat) (req : Nat) (b : List Nat) (h0 : 0 < b.length) :
    ∃ f, (f = 0x7F ∨ f = 0xFF) ∧ fallback lim req b (seqForward (fwdStages [nullTr] b.length) b) = (b, f) := by
  rcases fallback_cases lim req b (seqForward (fwdStages [nullTr] b.length) b) with h | h
  · exact ⟨_, .inl rfl, by rw [h, seqForward_null b h0]⟩
  · exact ⟨_, .inr rfl, h⟩

theorem seqInverse_null (dstLen flags : Nat) (b : List Nat) (h0 : 0 < b.length) (hfit : b.length ≤ dstLen) :
    seqInverse (invStages [nullTr] dstLen) flags b = .ok b := by
  unfold seqInverse invStages
  rw [if_neg (by omega), seqMaxLen_null]
  by_cases hff : flags = 0xFF
  · rw [if_pos hff]
  · rw [if_neg hff]
    have h1 : nullInverse b (max dstLen dstLen) = .ok b := by
      unfold nullInverse nullCopy
      rw [if_neg (by omega), if_neg (by omega)]
    show seqInvGo [nullTr.stage 0 (max dstLen dstLen)] 0 flags b = _
    rw [seqInvGo, seqInvGo]
    show (if flagSet flags 0 = true then Except.ok b else nullInverse b (max dstLen dstLen)) = _
    rw [h1]
    split <;> rfl

theorem noneEnt_enc (b : List Nat) : noneEnt.enc b = some (ofBytes b) :=
  congrArg some (EntSmall.nullEncode_eq b)

theorem noneEnt_dec (b : List Nat) (hb : ∀ x ∈ b, x < 256) (rest : Bits) :
    noneEnt.dec b.length (ofBytes b ++ rest) = some (b, rest) := by
  show EntSmall.nullDecode _ b.length = _
  rw [← EntSmall.nullEncode_eq]
  exact EntSmall.null_roundtrip b hb rest

/-- the decoder on a well-formed copy-block payload (`f` = the skip flags merged into the mode byte, which
the decoder ignores) -/
theorem decode_copy_payload (c : Cfg) (B ds f : Nat) (b : List Nat) (em : Nat × Option Nat) (p : Bits)
    (hm : ModeOK true (ds - 1) f em) (hf : f < 256) (hds1 : 1 ≤ ds) (hpow : b.length < 2 ^ (8 * ds))
    (hbytes : ∀ x ∈ b, x < 256) (hb0 : 0 < b.length) (hB : b.length ≤ B) (hmax : B ≤ 2 ^ 30)
    (hp : p = natBits em.1 8 ++ extraBits em.2 ++ natBits b.length (8 * ds) ++
      natBits (checksum c.ck b) (ckWidth c.ck) ++ ofBytes b) :
    decodeTaskGen c B p = ⟨b.length, .ok b⟩ := by
  have hpm := le_maxTransformLength b.length B hB (by omega)
  rw [decodeTaskGen_prologue c B true ds f b.length (checksum c.ck b) em (ofBytes b) p hm hds1 hf hpow hp,
    if_neg (by omega), if_pos rfl, Nat.mod_eq_of_lt (checksum_lt c.ck b)]
  have hdl := Nat.le_trans (Nat.le_trans hB (taskBlockLength_ge B)) (decDstLen_ge B p)
  exact decodeBody_ok (noneEnt_dec b hbytes _) (seqInverse_null _ 0 b hb0 hdl) hdl

theorem decode_encode_copy (c : Cfg) (B : Nat) (b : List Nat) (hbytes : ∀ x ∈ b, x < 256)
    (hb0 : 0 < b.length) (hB : b.length ≤ B) (hmax : B ≤ 2 ^ 30) :
    ∃ p, encodeWith true [nullTr] noneEnt (ckWidth c.ck) (checksum c.ck b) c.bs b = .ok p ∧
      decodeTaskGen c B p = ⟨b.length, .ok b⟩ := by
  have hpost32 : b.length < 2 ^ 32 := by omega
  have hds1 := dataSizeOf_pos b.length
  unfold encodeWith
  obtain ⟨f, hf, hfb⟩ := fallback_null c.bs (seqMaxLen [nullTr] b.length) b hb0
  have hf' : f < 256 ∧ f % 16 = 15 := by rcases hf with rfl | rfl <;> decide
  rw [hfb]
  exact ⟨_, encodeOf_eq true 1 noneEnt _ _ (b, f) (ofBytes b) hpost32 (noneEnt_enc b),
    decode_copy_payload c B (dataSizeOf b.length) f b _ _
      (modeOK_encodeMode true (dataSizeOf b.length) f 1 hds1 (dataSizeOf_le _ hpost32) hf'.1 fun _ => hf'.2)
      hf'.1 hds1 (lt_pow_dataSizeOf b.length) hbytes hb0 hB hmax rfl⟩

theorem encodeOf_shape (copy : Bool) (n : Nat) (ent : Ent) (ckw sum : Nat) (f : List Nat × Nat) (p : Bits)
    (h : encodeOf copy n ent ckw sum f = .ok p) :
    8 ≤ p.length ∧ ∃ e, ent.enc f.1 = some e ∧ p.length ≤ 48 + ckw + e.length := by
  unfold encodeOf at h
  simp only at h
  split at h
  · cases h
  · split at h
    · cases h
    · rename_i h4
      cases he : ent.enc f.1 with
      | none => rw [he] at h; cases h
      | some e =>
        rw [he] at h
        injection h with h
        subst h
        refine ⟨?_, e, rfl, ?_⟩
        · simp only [List.length_append, natBits_length]; omega
        · have hx := extraBits_length (encodeMode ((if copy = true then 0x80 else 0) |||
            (((dataSizeGen f.1.length - 1) &&& 3) <<< 5)) f.2 n).2
          simp only [List.length_append, natBits_length]
          omega

def FrameFit (B : Nat) (p : Bits) : Prop := 0 < p.length ∧ p.length < 2 ^ 34 ∧ p.length ≤ maxFrameBits B

theorem maxFrameBits_lt (B : Nat) : maxFrameBits B < 2 ^ 34 := by
  have hmt : maxTransformLength B ≤ 2 ^ 30 := by unfold maxTransformLength; omega
  simp only [maxFrameBits]
  omega

theorem frameFit_of_le {B : Nat} {p : Bits} (h8 : 8 ≤ p.length) (hf : p.length ≤ maxFrameBits B) : FrameFit B p :=
  ⟨by omega, Nat.lt_of_le_of_lt hf (maxFrameBits_lt B), hf⟩

theorem ckWidth_le (ck : Nat) : ckWidth ck ≤ 64 := by
  rcases ckWidth_cases ck with h | h | h <;> omega

/-- entropy NONE: the payload of a block within the decoder's bound is at most 14 bytes longer than the block -/
theorem encodeOf_none_fit (B : Nat) {copy : Bool} {n ck sum : Nat} {f : List Nat × Nat} {p : Bits}
    (h : encodeOf copy n noneEnt (ckWidth ck) sum f = .ok p) (hlen : f.1.length ≤ maxTransformLength B) :
    FrameFit B p := by
  obtain ⟨h8, e, he, hle⟩ := encodeOf_shape _ _ _ _ _ _ _ h
  rw [noneEnt_enc] at he
  cases he
  rw [ofBytes_length] at hle
  have hck := ckWidth_le ck
  have hmt : maxTransformLength B ≤ 2 ^ 30 := by unfold maxTransformLength; omega
  refine frameFit_of_le h8 ?_
  simp only [maxFrameBits]
  omega

theorem copy_fit (B ck sum : Nat) (lim : Option Nat) (b : List Nat) (p : Bits) (hb0 : 0 < b.length) (hB : b.length ≤ B)
    (hmax : B ≤ 2 ^ 30) (h : encodeWith true [nullTr] noneEnt (ckWidth ck) sum lim b = .ok p) : FrameFit B p := by
  unfold encodeWith at h
  obtain ⟨f, _, hfb⟩ := fallback_null lim (seqMaxLen [nullTr] b.length) b hb0
  rw [hfb] at h
  exact encodeOf_none_fit B h (le_maxTransformLength b.length B hB (by omega))

end Kanzi.BlockGen

namespace Kanzi.BlockGen2
open Kanzi.Bits Kanzi.TrSmall Kanzi.Block Kanzi.BlockGen

/-- H_codec for every chain of stages that leads from a class `D` of blocks to a class `E` (`Steps`), whose blocks the
entropy codec reads back: for a block of 1..B bytes of `D` the encoding task succeeds, whatever the length `obuf` of its
output buffer, and the decoding task returns the block, provided the size of its buffers is admissible (`Q`).  `hfit`:
the blocks of `E` are within the decoder's bound, or within `MaxEncodedLen` of the sequence in a stream whose ctx holds
the block size (the bound of fix F43 then does the rest). -/
theorem block_roundtripS (Q : Nat → Prop) (D E : List Nat → Prop) (c : Cfg2) (B obuf : Nat) (b : List Nat)
    (hn : c.trs.length ≤ 8)
    (hsteps : ∀ dl, taskBlockLength B ≤ dl →
      Steps (seqMaxLen (trsOf c.trs) b.length) (growTo obuf (seqMaxLen (trsOf c.trs) b.length))
        (max dl (seqMaxLen (trsOf c.trs) dl)) (Q dl) c.trs D E)
    (hD : D b)
    (hfit : ∀ y, E y → y.length ≤ maxTransformLength B ∨
      c.bs = some B ∧ y.length ≤ seqMaxLen (trsOf c.trs) b.length)
    (hent : E (postBlock c.trs c.bs obuf b) → postBlock c.trs c.bs obuf b ≠ [] →
      (postBlock c.trs c.bs obuf b).length ≤ maxTransformLength B →
      ∃ e, c.ent.enc (postBlock c.trs c.bs obuf b) = some e ∧
        ∀ rest : Bits, c.ent.dec (postBlock c.trs c.bs obuf b).length (e ++ rest) =
          some (postBlock c.trs c.bs obuf b, rest))
    (hb : ∀ x ∈ b, x < 256) (hb0 : 0 < b.length) (hB : b.length ≤ B) (hmax : B ≤ 2 ^ 30) :
    ∃ p, encodeTaskGen2 c obuf b = .ok p ∧
      (Q (decDstLen B p) → decodeTaskGen2 c B p = ⟨b.length, .ok b⟩) ∧
      (c.ent = noneEnt → FrameFit B p) := by
  unfold encodeTaskGen2 decodeTaskGen2
  by_cases hcp : isCopy c.toCfg b = true
  · rw [if_pos hcp]
    obtain ⟨p, hp, hd⟩ := decode_encode_copy c.toCfg B b hb hb0 hB hmax
    exact ⟨p, hp, fun _ => hd, fun _ => copy_fit B c.ck _ c.bs b p hb0 hB hmax hp⟩
  rw [if_neg hcp]
  have hne : b ≠ [] := fun h => by rw [h] at hb0; exact Nat.lt_irrefl 0 hb0
  -- what the sequence and the bound of fix F43 hand to the entropy coder
  have hpost : (postOf c.trs c.bs obuf b).2 < 256 ∧
      (c.trs.length ≤ 4 → (postOf c.trs c.bs obuf b).2 % 16 = 15) ∧ E (postOf c.trs c.bs obuf b).1 ∧
      (postOf c.trs c.bs obuf b).1 ≠ [] ∧ (postOf c.trs c.bs obuf b).1.length ≤ maxTransformLength B ∧
      ∀ dl, taskBlockLength B ≤ dl → Q dl →
        seqInverse (invStages (trsOf c.trs) dl) (postOf c.trs c.bs obuf b).2 (postOf c.trs c.bs obuf b).1 = .ok b := by
    have hrt := fun dl hdl => seq_steps _ _ _ (initDt b) _ _ D E b (hsteps dl hdl) hn hD
    obtain ⟨hflt, hflow⟩ := seqForward2_flags_shape c.trs (seqMaxLen (trsOf c.trs) b.length)
      (growTo obuf (seqMaxLen (trsOf c.trs) b.length)) (initDt b) b hn
    obtain ⟨_, hFE, hFne⟩ := hrt _ (Nat.le_refl _)
    unfold postOf forwardOf fallback
    split
    · exact ⟨by simp, fun _ => by simp, (hsteps _ (Nat.le_refl _)).sub b hD, hne,
        le_maxTransformLength b.length B hB (by omega), fun dl _ _ => seqInverse_ff _ b⟩
    · rename_i hnf
      refine ⟨hflt, fun h4 => flags_low_nibble _ hflt _ h4 hflow, hFE, hFne hne, ?_,
        fun dl hdl hQ => (hrt dl hdl).1 hQ⟩
      rcases hfit _ hFE with h | ⟨hbs, h⟩
      · exact h
      · rw [hbs] at hnf
        have : maxLengthOf (some B) = maxTransformLength B := rfl
        rw [this] at hnf
        omega
  obtain ⟨hflt, hlow, hE, hPne, hlen, hinv⟩ := hpost
  obtain ⟨e, he, hdec⟩ := hent hE hPne hlen
  have hcl : c.toCfg.trs.length = c.trs.length := by simp [Cfg2.toCfg, trsOf]
  obtain ⟨p, hp, hd⟩ := decode_encodeOfQ Q c.toCfg B b (postOf c.trs c.bs obuf b) e hflt (by rw [hcl]; exact hlow) hPne
    hlen he hdec hinv hB
  rw [hcl] at hp
  refine ⟨p, hp, hd, fun hne' => ?_⟩
  have hp' : encodeOf false c.trs.length c.ent (ckWidth c.ck) (checksum c.ck b) (postOf c.trs c.bs obuf b) = .ok p := hp
  rw [hne'] at hp'
  exact encodeOf_none_fit B hp' hlen

end Kanzi.BlockGen2

namespace Kanzi.BlockGen
open Kanzi.Bits Kanzi.TrSmall Kanzi.Block Kanzi.BlockGen2

/-! ### the first generic codec is the second one over transforms that ignore the hint, with an empty output buffer -/

def Cfg.lift (c : Cfg) : Cfg2 := ⟨c.ck, c.trs.map Tr.lift, c.ent, c.skipBlocks, c.bs⟩

theorem Cfg.lift_trsOf (c : Cfg) : trsOf c.lift.trs = c.trs := trsOf_lift c.trs

theorem Cfg.toCfg_lift (c : Cfg) : c.lift.toCfg = c := by
  cases c; simp [Cfg.lift, Cfg2.toCfg, trsOf_lift]

theorem growTo_zero (r : Nat) : growTo 0 r = r := by
  unfold growTo; split <;> omega

theorem encodeTaskGen_lift (c : Cfg) (b : List Nat) : encodeTaskGen2 c.lift 0 b = encodeTaskGen c b := by
  unfold encodeTaskGen2 encodeTaskGen
  rw [Cfg.toCfg_lift]
  refine ite_congr rfl (fun _ => rfl) (fun _ => ?_)
  show encodeOf false (c.trs.map Tr.lift).length c.ent _ _
      (fallback c.bs (seqMaxLen (trsOf (c.trs.map Tr.lift)) b.length) b
        (seqForward2 (c.trs.map Tr.lift) (seqMaxLen (trsOf (c.trs.map Tr.lift)) b.length)
          (growTo 0 (seqMaxLen (trsOf (c.trs.map Tr.lift)) b.length)) (initDt b) b)) =
    encodeWith false c.trs c.ent _ _ c.bs b
  rw [trsOf_lift, growTo_zero, seqForward_liftTr, List.length_map]
  rfl

/-- H_codec reduced to the laws of the components: for a block of 1..B bytes of the class `D`, the
encoding task succeeds and the decoding task returns the block (and `decoded` = its length), through
the copy-block branch, the `skipBlocks` branch, every pattern of declined stages, both layouts of the
skip flags, every width of the length field and every checksum width -/
theorem block_roundtrip (c : Cfg) (B : Nat) (D : List Nat → Prop) (b : List Nat)
    (hseq : SeqLaw D c.trs b.length (taskBlockLength B)) (hent : EntLaw D c.ent)
    (hfits : ∀ x, D x → x.length ≤ maxTransformLength B) (hD : D b)
    (hbytes : ∀ x ∈ b, x < 256) (hb0 : 0 < b.length) (hB : b.length ≤ B) (hmax : B ≤ 2 ^ 30) :
    ∃ p, encodeTaskGen c b = .ok p ∧ decodeTaskGen c B p = ⟨b.length, .ok b⟩ := by
  obtain ⟨p, hp, hd, _⟩ := block_roundtripS (fun _ => True) D D c.lift B 0 b
    (by rw [Cfg.lift, List.length_map]; exact hseq.1)
    (fun dl hdl => by
      rw [Cfg.lift_trsOf, growTo_zero]
      exact steps_of_seqLaw D c.trs b.length _ (max dl (seqMaxLen c.trs dl)) hseq (by omega))
    hD (fun y hy => .inl (hfits y hy)) (fun hE _ _ => hent _ hE) hbytes hb0 hB hmax
  rw [encodeTaskGen_lift] at hp
  rw [decodeTaskGen2, Cfg.toCfg_lift] at hd
  exact ⟨p, hp, hd trivial⟩

end Kanzi.BlockGen
