/-
Structural facts about the XXHash models (`Kanzi/Model/XXHash.lean`): the stripe loops consume
exactly the whole 16 / 32-byte stripes (Go: `for n <= end16 { …; n += 16 }`), the 4-byte word loop of
XXH32 leaves `len % 4` bytes, and published XXH32 / XXH64 test vectors evaluated on the models (for
XXH64 also two inputs on which the Go code is not the reference function).  Core Lean only.
-/
import Kanzi.Model.XXHash

namespace Kanzi.XXHash

/-! ### the stripe loops leave `len % 16` (`len % 32`) bytes -/

theorem exists_cons4 {α : Type} (l : List α) (h : 4 ≤ l.length) :
    ∃ a b c d rest, l = a :: b :: c :: d :: rest ∧ rest.length + 4 = l.length :=
  match l, h with
  | a :: b :: c :: d :: rest, _ => ⟨a, b, c, d, rest, rfl, rfl⟩
  | [], h | [_], h | [_, _], h | [_, _, _], h => by simp at h

theorem stripes32_short (v : Lanes32) (l : List Byte) (h : l.length < 16) : stripes32 v l = (v, l) := by
  unfold stripes32
  split
  · simp at h; omega
  · rfl

theorem stripes32_tail (v : Lanes32) (l : List Byte) :
    (stripes32 v l).2 = l.drop (16 * (l.length / 16)) := by
  induction v, l using stripes32.induct with
  | case1 v a0 a1 a2 a3 b0 b1 b2 b3 c0 c1 c2 c3 d0 d1 d2 d3 rest ih =>
    rw [stripes32, ih]
    have : 16 * ((a0 :: a1 :: a2 :: a3 :: b0 :: b1 :: b2 :: b3 :: c0 :: c1 :: c2 :: c3 :: d0 :: d1 :: d2 ::
        d3 :: rest).length / 16) = 16 * (rest.length / 16) + 16 := by
      simp only [List.length_cons]; omega
    rw [this]
    rfl
  | case2 v l hne =>
    have hl : l.length < 16 := by
      apply Nat.lt_of_not_le
      intro hc
      obtain ⟨a0, a1, a2, a3, l1, e1, h1⟩ := exists_cons4 l (by omega)
      obtain ⟨b0, b1, b2, b3, l2, e2, h2⟩ := exists_cons4 l1 (by omega)
      obtain ⟨c0, c1, c2, c3, l3, e3, h3⟩ := exists_cons4 l2 (by omega)
      obtain ⟨d0, d1, d2, d3, l4, e4, h4⟩ := exists_cons4 l3 (by omega)
      subst e4 e3 e2 e1
      exact hne _ _ _ _ _ _ _ _ _ _ _ _ _ _ _ _ _ rfl
    rw [stripes32_short v l hl]
    have : l.length / 16 = 0 := by omega
    simp [this]

theorem stripes32_tail_length (v : Lanes32) (l : List Byte) : (stripes32 v l).2.length = l.length % 16 := by
  rw [stripes32_tail, List.length_drop]; omega

theorem stripes64_short (v : Lanes64) (l : List Byte) (h : l.length < 32) : stripes64 v l = (v, l) := by
  unfold stripes64
  split
  · simp at h; omega
  · rfl

theorem stripes64_tail (v : Lanes64) (l : List Byte) :
    (stripes64 v l).2 = l.drop (32 * (l.length / 32)) := by
  induction v, l using stripes64.induct with
  | case1 v a0 a1 a2 a3 a4 a5 a6 a7 b0 b1 b2 b3 b4 b5 b6 b7 c0 c1 c2 c3 c4 c5 c6 c7 d0 d1 d2 d3 d4 d5 d6 d7 rest ih =>
    rw [stripes64, ih]
    have : 32 * ((a0 :: a1 :: a2 :: a3 :: a4 :: a5 :: a6 :: a7 :: b0 :: b1 :: b2 :: b3 :: b4 :: b5 :: b6 :: b7 ::
        c0 :: c1 :: c2 :: c3 :: c4 :: c5 :: c6 :: c7 :: d0 :: d1 :: d2 :: d3 :: d4 :: d5 :: d6 :: d7 :: rest).length / 32) =
        32 * (rest.length / 32) + 32 := by
      simp only [List.length_cons]; omega
    rw [this]
    rfl
  | case2 v l hne =>
    have hl : l.length < 32 := by
      apply Nat.lt_of_not_le
      intro hc
      obtain ⟨a0, a1, a2, a3, l1, e1, h1⟩ := exists_cons4 l (by omega)
      obtain ⟨a4, a5, a6, a7, l2, e2, h2⟩ := exists_cons4 l1 (by omega)
      obtain ⟨b0, b1, b2, b3, l3, e3, h3⟩ := exists_cons4 l2 (by omega)
      obtain ⟨b4, b5, b6, b7, l4, e4, h4⟩ := exists_cons4 l3 (by omega)
      obtain ⟨c0, c1, c2, c3, l5, e5, h5⟩ := exists_cons4 l4 (by omega)
      obtain ⟨c4, c5, c6, c7, l6, e6, h6⟩ := exists_cons4 l5 (by omega)
      obtain ⟨d0, d1, d2, d3, l7, e7, h7⟩ := exists_cons4 l6 (by omega)
      obtain ⟨d4, d5, d6, d7, l8, e8, h8⟩ := exists_cons4 l7 (by omega)
      subst e8 e7 e6 e5 e4 e3 e2 e1
      exact hne _ _ _ _ _ _ _ _ _ _ _ _ _ _ _ _ _ _ _ _ _ _ _ _ _ _ _ _ _ _ _ _ _ rfl
    rw [stripes64_short v l hl]
    have : l.length / 32 = 0 := by omega
    simp [this]

theorem stripes64_tail_length (v : Lanes64) (l : List Byte) : (stripes64 v l).2.length = l.length % 32 := by
  rw [stripes64_tail, List.length_drop]; omega

/-! ### the word loop of XXH32 leaves `len % 4` bytes -/

theorem words32_tail_length (h : BitVec 32) (l : List Byte) : (words32 h l).2.length = l.length % 4 := by
  induction h, l using words32.induct with
  | case1 h b0 b1 b2 b3 rest ih => rw [words32, ih]; simp only [List.length_cons]; omega
  | case2 h l hne =>
    have hl : l.length < 4 := by
      apply Nat.lt_of_not_le
      intro hc
      obtain ⟨b0, b1, b2, b3, rest, e, _⟩ := exists_cons4 l hc
      exact hne _ _ _ _ _ e
    have : words32 h l = (h, l) := by
      unfold words32; split
      · exact absurd rfl (hne _ _ _ _ _)
      · rfl
    rw [this, Nat.mod_eq_of_lt hl]

/-! ### published test vectors (seed 0) -/

def ascii (l : List Nat) : List Byte := l.map (BitVec.ofNat 8)

/-- "Nobody inspects the spammish repetition" (39 bytes: two stripes, one word, three bytes) -/
def spam : List Byte := ascii
  [0x4e, 0x6f, 0x62, 0x6f, 0x64, 0x79, 0x20, 0x69, 0x6e, 0x73, 0x70, 0x65, 0x63, 0x74, 0x73, 0x20,
   0x74, 0x68, 0x65, 0x20, 0x73, 0x70, 0x61, 0x6d, 0x6d, 0x69, 0x73, 0x68, 0x20, 0x72, 0x65, 0x70,
   0x65, 0x74, 0x69, 0x74, 0x69, 0x6f, 0x6e]

theorem xxh32_vector_empty : xxh32 0#32 [] = 0x02CC5D05#32 := by decide
theorem xxh32_vector_a : xxh32 0#32 (ascii [0x61]) = 0x550D7456#32 := by decide
theorem xxh32_vector_abc : xxh32 0#32 (ascii [0x61, 0x62, 0x63]) = 0x32D153FF#32 := by decide
theorem xxh32_vector_spam : xxh32 0#32 spam = 0xE2293B2F#32 := by decide

/-- the Go `XXHash64` agrees with the reference XXH64 on inputs that use neither the lane merge
nor the 1-byte tail … -/
theorem xxh64_vector_empty : xxh64 0#64 [] = 0xEF46DB3751D8E999#64 := by decide
theorem xxh64_vector_abcd : xxh64 0#64 (ascii [0x61, 0x62, 0x63, 0x64]) = 0xDE0327B0D25D92CC#64 := by decide

/-- … and differs from it otherwise (reference XXH64("a", 0) = 0xD24EC4F1A98C6E5B): the model
follows the Go code, see the note at the top of `Model/XXHash.lean` -/
theorem xxh64_not_reference_a : xxh64 0#64 (ascii [0x61]) = 0xFEBF56DFE5A73EBA#64 := by decide
theorem xxh64_not_reference_spam : xxh64 0#64 spam = 0xC486CC65DE06D5D7#64 := by decide

end Kanzi.XXHash
