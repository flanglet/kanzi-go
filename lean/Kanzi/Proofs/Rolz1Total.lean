/-
ROLZ (`rolzCodec1`): the encoder.  What each function of Forward yields, and that it never faults
(`rolzForward_nf`), for blocks of any number of chunks: one theorem per function, `(f ..).Sat [] P` ("a value with
`P` or a decline, no fault").  Every read of the block is in range, the loops terminate within their fuel, and the
four side buffers never overflow:
  * `litBuf` (`MaxEncodedLen(sizeChunk)` bytes) holds at most one byte per covered position;
  * `lenBuf` (`sizeChunk/5` bytes): a length byte is only written for a match of at least 10 bytes or a literal
    run of at least 31 bytes (a second byte only from 128 up, ...): at most one byte per 10 covered positions;
  * `tkBuf` / `mIdxBuf` (`sizeChunk/4` entries): Forward declines when they are full (finding F45, repaired in cd26df1), always
    keeping room for the token that follows the last match.
-/
import Kanzi.Proofs.Rolz1Seq
import Kanzi.Proofs.RolzxDecTotal

namespace Kanzi.ROLZ

/-! ## the match search reads inside the chunk and reports equal bytes -/

theorem cpl8_spec (a : Array Nat) (i j : Nat) :
    cpl8 a i j ≤ 8 ∧ ∀ k, k < cpl8 a i j → a.getD (i + k) 0 = a.getD (j + k) 0 := by
  unfold cpl8
  have h1 := cpl4_spec a i j
  have h2 := cpl4_spec a (i + 4) (j + 4)
  split
  · exact ⟨by omega, h1.2⟩
  · rename_i hc
    have hc4 : cpl4 a i j = 4 := by omega
    refine ⟨by omega, fun k hk => ?_⟩
    by_cases hk4 : k < 4
    · exact h1.2 k (by omega)
    · have := h2.2 (k - 4) (by omega)
      have e1 : i + 4 + (k - 4) = i + k := by omega
      have e2 : j + 4 + (k - 4) = j + k := by omega
      rw [e1, e2] at this
      exact this

theorem matchLen1_sat (a : Array Nat) (lim r p maxMatch : Nat) (hr : r ≤ p) (hlim : maxMatch = 0 ∨ p + maxMatch + 8 ≤ lim) :
    ∀ (f n : Nat), 0 < f → maxMatch + 8 ≤ n + 8 * f → Same a r p n →
    (matchLen1 a lim r p maxMatch f n).Sat []
      (fun res => Same a r p res ∧ (res = n ∨ (res < maxMatch + 8 ∧ 0 < maxMatch)) ∧ n ≤ res) := by
  intro f
  induction f with
  | zero => intro n h0; omega
  | succ f ih =>
    intro n _ h hs
    simp only [matchLen1]
    refine .ite (fun hn => ?_) fun _ => ⟨hs, Or.inl rfl, Nat.le_refl _⟩
    rw [if_pos (by omega)]
    have sp := cpl8_spec a (r + n) (p + n)
    have hext : ∀ m, m ≤ cpl8 a (r + n) (p + n) → Same a r p (n + m) := by
      intro m hm k hk
      by_cases hkn : k < n
      · exact hs k hkn
      · have := sp.2 (k - n) (by omega)
        have e1 : r + n + (k - n) = r + k := by omega
        have e2 : p + n + (k - n) = p + k := by omega
        rw [e1, e2] at this
        exact this
    refine .ite (fun _ => ⟨hext _ (Nat.le_refl _), Or.inr ⟨by omega, by omega⟩, by omega⟩) fun _ => ?_
    refine (ih (n + 8) (by omega) (by omega) (hext 8 (by omega))).mono fun res q => ⟨q.1, ?_, by omega⟩
    rcases q.2.1 with q2 | q2
    · exact Or.inr ⟨by omega, by omega⟩
    · exact Or.inr q2

/-- as `CandOk` (RolzxStep.lean), for the 8-byte comparison loop -/
def CandOk1 (a : Array Nat) (mts : Array Nat) (mb counter pc base pos maxMatch L J : Nat) : Prop :=
  L = 0 ∨ (J < pc ∧ Same a (base + mts.getD (mb + (counter + pc - J) % pc) 0 % 2 ^ 24) pos L ∧ L < maxMatch + 8 ∧
    0 < maxMatch)

theorem candLoop1_sat (a : Array Nat) (base lim pos hash32 maxMatch : Nat) (mts : Array Nat) (mb counter pc : Nat)
    (hent : ∀ k, base + mts.getD k 0 % 2 ^ 24 ≤ pos) (hpos : pos < lim)
    (hlim : maxMatch = 0 ∨ pos + maxMatch + 8 ≤ lim) :
    ∀ (k j L J : Nat), j + k ≤ pc → CandOk1 a mts mb counter pc base pos maxMatch L J →
    (candLoop1 a base lim pos hash32 maxMatch mts mb counter pc k j L J).Sat []
      (fun res => CandOk1 a mts mb counter pc base pos maxMatch res.1 res.2) := by
  intro k
  induction k with
  | zero => intro j L J _ hL; exact hL
  | succ k ih =>
    intro j L J hjk hL
    simp only [candLoop1]
    refine .ite (fun _ => ih _ _ _ (by omega) hL) fun _ => ?_
    have hr := hent (mb + (counter + pc - j) % pc)
    have hLlim : pos + L < lim := by
      rcases hL with h0 | ⟨_, _, h1, h2⟩
      · omega
      · omega
    rw [rd1_eq (by omega), rd1_eq hLlim]
    simp only
    refine .ite (fun _ => ih _ _ _ (by omega) hL) fun _ => ?_
    have hm := matchLen1_sat a lim (base + mts.getD (mb + (counter + pc - j) % pc) 0 % 2 ^ 24) pos maxMatch hr hlim
      (maxMatch / 8 + 2) 0 (by omega) (by omega) (fun k hk => by omega)
    split
    · rename_i n hn
      obtain ⟨hsame, hb, _⟩ := hm.ok hn
      refine .ite (fun hgt => ih _ _ _ (by omega) (Or.inr ⟨by omega, hsame, ?_⟩)) fun _ => ih _ _ _ (by omega) hL
      rcases hb with h0 | h0
      · omega
      · exact h0
    · trivial
    · rename_i e he
      exact hm.fault he

/-- `findMatch` of ROLZ does not fault; a reported match is a ring index whose entry points at `ml + minMatch` bytes
    equal to those at `pos`, inside the chunk -/
theorem findMatch1_sat {a : Array Nat} {base lim pos hash32 key mm lpc : Nat} {t : Tab} (ht : TInv t lpc base pos)
    (hpos : pos < lim) (hmm : 3 ≤ mm ∧ mm ≤ 7) :
    (findMatch1 a base lim pos hash32 key mm lpc t).Sat [] (fun r => ∀ j ml, r = some (j, ml) →
      j < 2 ^ lpc ∧ ml + mm < 2 ^ 17 ∧ pos + ml + mm < lim ∧ Same a (base + ring t lpc key j % 2 ^ 24) pos (ml + mm)) := by
  unfold findMatch1
  have hM : MAX_MATCH1 = 65538 := rfl
  dsimp only
  refine .ite (fun _ => nofun) fun hge => ?_
  have hc := candLoop1_sat a base lim pos hash32 (min MAX_MATCH1 (lim - pos) - 8) t.mts (key * 2 ^ lpc)
    (t.counters.getD key 0) (2 ^ lpc) ht.ent hpos (by rw [hM]; omega) (2 ^ lpc) 0 0 0 (by omega) (Or.inl rfl)
  split
  · rename_i res hres
    refine .ite (fun _ => nofun) fun hlt => ?_
    intro j ml e
    injection e with e
    injection e with h1 h2
    subst h1
    subst h2
    rcases hc.ok hres with h0 | ⟨hJ, hsame, hL, _⟩
    · omega
    · rw [hM] at hL
      refine ⟨hJ, by omega, by omega, ?_⟩
      rw [Nat.sub_add_cancel (by omega)]
      exact hsame
  · trivial
  · rename_i e he
    exact hc.fault he

theorem pushLits_some {lit : Array Nat} {cap : Nat} {a : Array Nat} {frm to : Nat} (h : lit.size + (to - frm) ≤ cap)
    (hto : to ≤ a.size) : ∃ b, pushLits lit cap a frm to = some b ∧ b.size = lit.size + (to - frm) := by
  unfold pushLits
  rw [if_pos ⟨h, hto⟩]
  refine ⟨_, rfl, ?_⟩
  rw [Array.size_append, Array.size_extract]
  omega

/-- the invariants of the side buffers and tables of Forward inside the chunk `[base, lim)`: `first` = start of
    the current literal run (everything before it is covered by emitted sequences), `i` = current position -/
structure BInv (s : F1) (cp : Caps) (lpc base first i : Nat) : Prop where
  tab : TInv s.tab lpc base i
  lit : base + s.lit.size ≤ first
  len : base + 10 * s.len.size ≤ first
  tk : s.tk.size = 0 ∨ s.tk.size + 1 ≤ cp.tk

/-- the buffers are large enough for a chunk `[base, lim)` -/
structure CapOk (cp : Caps) (base lim : Nat) : Prop where
  lit : lim ≤ base + cp.lit
  len : lim ≤ base + 5 * cp.len + 4

/-- `emitSeq` declines when the token buffers are full, else appends the token, the length bytes, the literals
    `a[first, i)` and the match index -/
theorem emitSeq_eq {a : Array Nat} {cp : Caps} {lpc base lim first i j mi ml mm : Nat} {s : F1}
    (hc : CapOk cp base lim) (hb : BInv s cp lpc base first j) (hfi : first ≤ i)
    (hend : i + ml + mm ≤ lim) (hlim : lim ≤ a.size) (hmm : 3 ≤ mm) :
    emitSeq a cp first i mi ml s = if s.tk.size + 1 ≥ cp.tk ∨ s.mix.size ≥ cp.tk then .err "toomany" else
      .ok ⟨s.tab, s.lit ++ a.extract first i, s.len ++ lenBytesOf (i - first) ml, s.mix ++ [mi % 256],
        s.tk ++ [tokOf (i - first) ml]⟩ := by
  have hl := (lenBytesOf_len (i - first) ml).1
  rw [lenBytesOf, List.length_append] at hl
  have hcl := hc.lit
  have hcn := hc.len
  have hlit := hb.lit
  have hlen := hb.len
  unfold emitSeq
  dsimp only
  rw [tok_eq, pushAll_if (by omega)]
  dsimp only
  rw [pushAll_if (by rw [size_appendList]; omega)]
  dsimp only
  rw [pushLits_if (by omega) hfi (by omega), appendList_assoc]
  dsimp only
  by_cases hfull : s.tk.size + 1 ≥ cp.tk ∨ s.mix.size ≥ cp.tk
  · rw [if_pos hfull, if_pos hfull]
  · rw [if_neg hfull, if_neg hfull, pushAll, pushAll, if_pos (by simp only [List.length_cons, List.length_nil]; omega),
      if_pos (by simp only [List.length_cons, List.length_nil]; omega)]
    rfl

theorem binv_seq {a : Array Nat} {cp : Caps} {lpc base first j p ml e mi : Nat} {s : F1} {tab : Tab}
    (hb : BInv s cp lpc base first j) (ht : TInv tab lpc base e) (hfp : first ≤ p)
    (he : p + ml + 3 ≤ e) (htk : s.tk.size + 2 ≤ cp.tk) :
    BInv ⟨tab, s.lit ++ a.extract first p, s.len ++ lenBytesOf (p - first) ml, s.mix ++ [mi],
      s.tk ++ [tokOf (p - first) ml]⟩ cp lpc base e e := by
  have hl := (lenBytesOf_len (p - first) ml).1
  have hlit := hb.lit
  have hlen := hb.len
  refine ⟨ht, ?_, ?_, Or.inr ?_⟩
  · show base + (s.lit ++ a.extract first p).size ≤ e
    rw [Array.size_append, Array.size_extract]
    omega
  · show base + 10 * (s.len ++ lenBytesOf (p - first) ml).size ≤ e
    rw [size_appendList]
    omega
  · show (s.tk ++ [tokOf (p - first) ml]).size + 1 ≤ cp.tk
    rw [size_appendList]
    exact htk

/-- loop invariant of "Next chunk": the run start is inside the chunk and not after the current position -/
structure LInv (l : L1) (cp : Caps) (lpc base lim : Nat) : Prop where
  b : BInv l.st cp lpc base l.first l.i
  fi : l.first ≤ l.i
  fl : l.first ≤ lim

theorem register_tinv1 {t : Tab} {lpc base i i' : Nat} (h : TInv t lpc base i) (hi : i < i') (key hash32 p : Nat)
    (hh : hash32 % 2 ^ 24 = 0) (hp : base + p ≤ i') : TInv (t.register lpc key (hash32 + p)) lpc base i' := by
  refine ⟨register_ok h.ok _ _, fun k => ?_⟩
  simp only [Tab.register]
  rw [getD_setIfInBounds]
  split
  · have h2 : (hash32 + p) % 2 ^ 24 ≤ p := by
      have : (hash32 + p) % 2 ^ 24 = p % 2 ^ 24 := by omega
      rw [this]; exact Nat.mod_le _ _
    omega
  · have := h.ent k; omega

theorem lazyPick_cases (i mi ml : Nat) (r1 : Option (Nat × Nat)) (tab1 : Tab) (lpc key1 v1 : Nat) :
    lazyPick i mi ml r1 tab1 lpc key1 v1 = (i, mi, ml, tab1) ∨
    ∃ mi1 ml1, r1 = some (mi1, ml1) ∧ lazyPick i mi ml r1 tab1 lpc key1 v1 = (i + 1, mi1, ml1, tab1.register lpc key1 v1) := by
  unfold lazyPick
  cases r1 with
  | none => left; rfl
  | some q =>
    obtain ⟨mi1, ml1⟩ := q
    simp only
    by_cases hgt : ml1 > ml
    · right; rw [if_pos hgt]; exact ⟨mi1, ml1, rfl, rfl⟩
    · left; rw [if_neg hgt]

/-- what one step of the encoder does, with the lazy choice resolved.  `skip`: no match at `l.i`, the position is
    registered and the run goes on.  `seq`: a sequence is emitted whose match of `ml + mm` bytes starts at `p` (the
    current position or the next one), was found at ring index `mi` of the table `tabS` (the current one, or the one
    with `l.i` registered), and `p` is registered after the search -/
inductive Step (a : Array Nat) (base lim mm delta lpc : Nat) (l : L1) : L1 → Prop
  | skip (key w : Nat) (hkey : getKey mm delta a base lim l.i = some key) :
      Step a base lim mm delta lpc l ⟨l.i + 1 + (l.inc >>> 6), l.first, l.inc + 1,
        ⟨l.st.tab.register lpc key (rolzhashW w + (l.i - base)), l.st.lit, l.st.len, l.st.mix, l.st.tk⟩⟩
  | seq (key w key1 p mi ml : Nat) (tabS : Tab) (keyP wP : Nat) (hkey : getKey mm delta a base lim l.i = some key)
      (hkey1 : getKey mm delta a base lim (l.i + 1) = some key1)
      (hcase : (p = l.i ∧ tabS = l.st.tab ∧ keyP = key ∧ wP = w) ∨
        (p = l.i + 1 ∧ tabS = l.st.tab.register lpc key (rolzhashW w + (l.i - base)) ∧ keyP = key1))
      (hmi : mi < 2 ^ lpc) (hml : ml + mm < 2 ^ 17) (hend : p + ml + mm < lim)
      (hsame : Same a (base + ring tabS lpc keyP mi % 2 ^ 24) p (ml + mm)) :
      Step a base lim mm delta lpc l ⟨p + ml + mm, p + ml + mm, 0,
        ⟨tabS.register lpc keyP (rolzhashW wP + (p - base)), l.st.lit ++ a.extract l.first p,
          l.st.len ++ lenBytesOf (p - l.first) ml, l.st.mix ++ [mi % 256], l.st.tk ++ [tokOf (p - l.first) ml]⟩⟩

theorem fwd1Step_sat {a : Array Nat} {cp : Caps} {base lim mm delta lpc : Nat} {l : L1} (hpar : ParamsOk mm delta)
    (hmm : 3 ≤ mm ∧ mm ≤ 7) (hc : CapOk cp base lim) (hbi : base + 8 ≤ l.i) (hil : l.i < lim) (hlim : lim + 4 ≤ a.size)
    (hl : LInv l cp lpc base lim) :
    (fwd1Step a cp base lim mm delta lpc l).Sat []
      (fun l' => l.i < l'.i ∧ LInv l' cp lpc base lim ∧ Step a base lim mm delta lpc l l') := by
  unfold fwd1Step
  dsimp only
  obtain ⟨key, hkey⟩ := getKey_some hpar a hbi (Nat.le_of_lt hil)
  have hle : ∀ p, p + 4 ≤ a.size → ∃ w, le32 a a.size p = some w := fun p hp => ⟨_, by rw [le32, if_pos hp]⟩
  obtain ⟨w, hw⟩ := hle l.i (by omega)
  rw [hkey, hw]
  dsimp only
  obtain ⟨hb, hfi, hfl⟩ := hl
  have hreg : TInv (l.st.tab.register lpc key (rolzhashW w + (l.i - base))) lpc base (l.i + 1) :=
    register_tinv1 hb.tab (by omega) _ _ _ (rolzhashW_mod w) (by omega)
  have hf := findMatch1_sat (a := a) (hash32 := rolzhashW w) (key := key) hb.tab hil hmm
  split
  · -- no match: register and skip ahead
    exact ⟨by dsimp only; omega, ⟨⟨tinv_mono hreg (by dsimp only; omega), hb.lit, hb.len, hb.tk⟩,
      by dsimp only; omega, hfl⟩, .skip key w hkey⟩
  · rename_i mi ml hfm
    obtain ⟨key1, hkey1⟩ := getKey_some hpar a (by omega : base + 8 ≤ l.i + 1) (by omega : l.i + 1 ≤ lim)
    obtain ⟨w1, hw1⟩ := hle (l.i + 1) (by omega)
    rw [hkey1, hw1]
    dsimp only
    -- the second search cannot fault either (at the end of the chunk it does not search)
    have hf1 : (findMatch1 a base lim (l.i + 1) (rolzhashW w1) key1 mm lpc
        (l.st.tab.register lpc key (rolzhashW w + (l.i - base)))).Sat [] (fun r => ∀ j ml, r = some (j, ml) →
          j < 2 ^ lpc ∧ ml + mm < 2 ^ 17 ∧ l.i + 1 + ml + mm < lim ∧
          Same a (base + ring (l.st.tab.register lpc key (rolzhashW w + (l.i - base))) lpc key1 j % 2 ^ 24) (l.i + 1)
            (ml + mm)) := by
      by_cases hil1 : l.i + 1 < lim
      · exact findMatch1_sat hreg hil1 hmm
      · have hM : MAX_MATCH1 = 65538 := rfl
        rw [findMatch1, if_pos (by rw [hM]; omega)]
        exact nofun
    split
    · rename_i r1 hr1
      -- whatever is chosen, the emitted sequence lies inside the chunk
      obtain ⟨p, mi', ml', tabS, keyP, wP, hp, hcase, ⟨m1, m2, m3, m4⟩, hp3⟩ : ∃ p mi' ml' tabS keyP wP,
          lazyPick l.i mi ml r1 (l.st.tab.register lpc key (rolzhashW w + (l.i - base))) lpc key1
            (rolzhashW w1 + (l.i + 1 - base)) = (p, mi', ml', tabS.register lpc keyP (rolzhashW wP + (p - base))) ∧
          ((p = l.i ∧ tabS = l.st.tab ∧ keyP = key ∧ wP = w) ∨
            (p = l.i + 1 ∧ tabS = l.st.tab.register lpc key (rolzhashW w + (l.i - base)) ∧ keyP = key1)) ∧
          (mi' < 2 ^ lpc ∧ ml' + mm < 2 ^ 17 ∧ p + ml' + mm < lim ∧
            Same a (base + ring tabS lpc keyP mi' % 2 ^ 24) p (ml' + mm)) ∧
          TInv (tabS.register lpc keyP (rolzhashW wP + (p - base))) lpc base (p + 1) := by
        rcases lazyPick_cases l.i mi ml r1 (l.st.tab.register lpc key (rolzhashW w + (l.i - base))) lpc key1
            (rolzhashW w1 + (l.i + 1 - base)) with hp | ⟨mi1, ml1, hr, hp⟩
        · exact ⟨l.i, mi, ml, l.st.tab, key, w, hp, Or.inl ⟨rfl, rfl, rfl, rfl⟩, hf.ok hfm mi ml rfl, hreg⟩
        · exact ⟨l.i + 1, mi1, ml1, _, key1, w1, hp, Or.inr ⟨rfl, rfl, rfl⟩, hf1.ok hr1 mi1 ml1 hr,
            register_tinv1 hreg (by omega) _ _ _ (rolzhashW_mod _) (by omega)⟩
      have hpl : l.i ≤ p := by
        rcases hcase with ⟨h1, _⟩ | ⟨h1, _⟩ <;> omega
      rw [hp]
      dsimp only
      rw [emitSeq_eq (mi := mi') (ml := ml') (mm := mm)
        (s := ⟨tabS.register lpc keyP (rolzhashW wP + (p - base)), l.st.lit, l.st.len, l.st.mix, l.st.tk⟩) hc
        ⟨hp3, hb.lit, hb.len, hb.tk⟩ (by omega : l.first ≤ p) (by omega) (by omega) hmm.1]
      dsimp only
      by_cases hfull : l.st.tk.size + 1 ≥ cp.tk ∨ l.st.mix.size ≥ cp.tk
      · rw [if_pos hfull]
        trivial
      rw [if_neg hfull]
      exact ⟨by dsimp only; omega,
        ⟨binv_seq (e := p + ml' + mm) hb (tinv_mono hp3 (by omega)) (by omega) (by omega) (by omega),
          Nat.le_refl _, by dsimp only; omega⟩,
        .seq key w key1 p mi' ml' tabS keyP wP hkey hkey1 hcase m1 m2 m3 m4⟩
    · trivial
    · rename_i e he
      exact hf1.fault he
  · trivial
  · rename_i e he
    exact hf.fault he

/-- the loop "Next chunk" does not fault, runs to the end of the chunk, and keeps every property `Q` of the loop
    state that its steps keep -/
theorem fwd1Loop_sat {a : Array Nat} {cp : Caps} {base lim mm delta lpc : Nat} (hpar : ParamsOk mm delta)
    (hmm : 3 ≤ mm ∧ mm ≤ 7) (hc : CapOk cp base lim) (hlim : lim + 4 ≤ a.size) {Q : L1 → Prop}
    (hQ : ∀ l l', LInv l cp lpc base lim → Step a base lim mm delta lpc l l' → Q l → Q l') :
    ∀ (f : Nat) (l : L1), (base + 8 ≤ l.i ∨ lim ≤ l.i) → lim - l.i + 1 ≤ f → LInv l cp lpc base lim → Q l →
    (fwd1Loop a cp base lim mm delta lpc f l).Sat [] (fun lfin => LInv lfin cp lpc base lim ∧ lim ≤ lfin.i ∧ Q lfin) := by
  intro f
  induction f with
  | zero => intro l _ hf; omega
  | succ f ih =>
    intro l hbi hf hl hq
    simp only [fwd1Loop]
    refine .ite (fun hil => ?_) fun hil => ⟨hl, by omega, hq⟩
    have hs := fwd1Step_sat hpar hmm hc (by omega) hil hlim hl
    split
    · rename_i l' hl'
      obtain ⟨h1, h2, h3⟩ := hs.ok hl'
      exact ih l' (by omega) (by omega) h2 (hQ l l' hl h3 hq)
    · trivial
    · rename_i e he
      exact hs.fault he

/-- "Emit last chunk literals": the token (if there was a match before), the length bytes and the literals
    `a[first, lim)`, appended -/
theorem fwd1Tail_eq {a : Array Nat} {cp : Caps} {lpc base lim first j : Nat} {s : F1} (hc : CapOk cp base lim)
    (hb : BInv s cp lpc base first j) (hfl : first ≤ lim) (hlim : lim ≤ a.size) :
    fwd1Tail a cp first lim s = .ok ⟨s.tab, s.lit ++ a.extract first lim, s.len ++ lenBytesOf (lim - first) 0, s.mix,
      s.tk ++ if s.tk.size ≠ 0 then [tokOf (lim - first) 0] else []⟩ := by
  have hl := (lenBytesOf_len (lim - first) 0).2 (by omega)
  rw [lenBytesOf, List.length_append] at hl
  have hcl := hc.lit
  have hcn := hc.len
  have hlit := hb.lit
  have hlen := hb.len
  have htk : s.tk.size + (if s.tk.size ≠ 0 then [tokOf (lim - first) 0] else []).length ≤ cp.tk := by
    have := hb.tk
    by_cases h0 : s.tk.size ≠ 0
    · rw [if_pos h0]
      exact this.resolve_left h0
    · rw [if_neg h0, List.length_nil]
      omega
  unfold fwd1Tail
  dsimp only
  rw [tokTail_eq, pushAll_if htk]
  dsimp only
  rw [pushAll_if (by omega)]
  dsimp only
  rw [pushLits_if (by omega) hfl hlim]
  rfl

/-- the loop invariant at the start of a chunk: cleared match table, the first `n` bytes stored as literals -/
theorem linv_start {cp : Caps} {lpc st e n : Nat} {cnt lit0 : Array Nat} (hcnt : cnt.size = HASH_SIZE)
    (hlit : lit0.size = n) (hn : st + n ≤ e) :
    LInv ⟨st + n, st + n, 0, ⟨⟨matches0 lpc, cnt⟩, lit0, #[], #[], #[]⟩⟩ cp lpc st e := by
  refine ⟨⟨⟨tabOk_clear _ _ hcnt, fun k => ?_⟩, by simp only; omega, by simp, Or.inl (by simp)⟩,
    Nat.le_refl _, hn⟩
  simp only [matches0, Array.getD_eq_getD_getElem?, Array.getElem?_replicate]
  split <;> simp

theorem capsOf_ok {sz0 base lim : Nat} (h : lim ≤ base + sz0) : CapOk (capsOf sz0) base lim := by
  constructor
  · show lim ≤ base + maxEncodedLen1 sz0
    unfold maxEncodedLen1; split <;> omega
  · show lim ≤ base + 5 * (sz0 / 5) + 4
    omega

theorem chunkEnd_spec {st sz srcEnd e : Nat} (hlt : st < srcEnd) (h0 : 0 < sz)
    (he : (if st + sz ≥ srcEnd then srcEnd else st + sz) = e) :
    st < e ∧ e ≤ srcEnd ∧ e ≤ st + sz ∧ (e = srcEnd ∨ e = st + sz) := by
  rw [← he, endChunk_fwd]
  omega

theorem fwd1Chunks_sat {a : Array Nat} {sz0 dstLen srcEnd mm delta lpc litOrder : Nat} (hpar : ParamsOk mm delta)
    (hmm : 3 ≤ mm ∧ mm ≤ 7) (hse : srcEnd + 4 ≤ a.size) :
    ∀ (f st sz : Nat) (tab : Tab) (out : Array Nat), 0 < sz → (8 ≤ sz ∨ st + sz ≥ srcEnd) → sz ≤ sz0 → st ≤ srcEnd →
    (srcEnd - st) + sz ≤ f * sz → tab.counters.size = HASH_SIZE →
    (fwd1Chunks a (capsOf sz0) dstLen srcEnd mm delta lpc litOrder f st sz tab out).Sat [] (fun r => r.1 = srcEnd) := by
  intro f
  induction f with
  | zero => intro st sz tab out h0 _ _ _ hf; rw [Nat.zero_mul] at hf; omega
  | succ g ih =>
    intro st sz tab out hsz0 h8 hszle hst hfuel hcnt
    simp only [fwd1Chunks]
    refine .ite (fun hlt => ?_) fun hlt => Nat.le_antisymm hst (Nat.le_of_not_lt hlt)
    generalize hedef : (if st + sz ≥ srcEnd then srcEnd else st + sz) = e
    obtain ⟨he1, he2, he3, he4⟩ := chunkEnd_spec hlt hsz0 hedef
    have hcap : CapOk (capsOf sz0) st e := capsOf_ok (by omega)
    obtain ⟨lit0, hl0, hl0sz⟩ := pushLits_some (lit := #[]) (cap := (capsOf sz0).lit) (a := a) (frm := st)
      (to := st + min (srcEnd - st) 8) (by have := hcap.lit; simp only [Array.size_empty]; omega) (by omega)
    rw [hl0]
    simp only
    have hstart : st + 8 ≤ st + min (srcEnd - st) 8 ∨ e ≤ st + min (srcEnd - st) 8 := by omega
    have hloop := fwd1Loop_sat (a := a) (delta := delta) hpar hmm hcap (by omega) (Q := fun _ => True)
      (fun _ _ _ _ _ => trivial) (e - st + 1) _ hstart (by simp only; omega)
      (linv_start (cp := capsOf sz0) (lpc := lpc) (e := e) hcnt (by rw [hl0sz, Array.size_empty]; omega) (by omega)) trivial
    split
    · rename_i l' hl'
      obtain ⟨hinv', _, _⟩ := hloop.ok hl'
      rw [fwd1Tail_eq hcap hinv'.b hinv'.fl (by omega)]
      simp only
      split
      · trivial
      · exact .ite (fun _ => trivial) fun _ => ih e (e - st) _ _ (by omega) (by omega) (by omega) he2
          (chunk_fuel_step hfuel hlt he1 he2 he4) hinv'.b.tab.ok.cnt
    · trivial
    · rename_i k hk
      exact hloop.fault hk

theorem fwdParams1_cases (ty : Nat) : fwdParams1 ty = (MIN_MATCH3, 3, 8) ∨ fwdParams1 ty = (MIN_MATCH7, 8, 4) ∨
    fwdParams1 ty = (MIN_MATCH4, 8, 2) ∨ fwdParams1 ty = (MIN_MATCH3, 2, 0) := by
  unfold fwdParams1
  split
  · exact Or.inl rfl
  · split
    · exact Or.inr (Or.inl rfl)
    · split
      · exact Or.inr (Or.inr (Or.inl rfl))
      · exact Or.inr (Or.inr (Or.inr rfl))

theorem fwdParams1_ok (ty : Nat) :
    ParamsOk (fwdParams1 ty).1 (fwdParams1 ty).2.1 ∧ 3 ≤ (fwdParams1 ty).1 ∧ (fwdParams1 ty).1 ≤ 7 := by
  unfold ParamsOk
  rcases fwdParams1_cases ty with h | h | h | h <;> rw [h] <;> decide

/-- **ROLZ Forward never faults** for a chunk size of at least 8: every block (any values, any length, any number of
    chunks), every `logPosChecks`, every ctx / data type hint, any destination -/
theorem rolzForward_nf {cs lpc : Nat} {hasCtx : Bool} {dt : Nat} {src : List Nat} {dstLen : Nat} (hcs : 8 ≤ cs) :
    ∀ k, rolzForward cs lpc hasCtx dt src dstLen ≠ .fault k := by
  intro k
  unfold rolzForward
  by_cases h0 : src.length = 0 ∨ dstLen = 0
  · rw [if_pos h0]
    exact nofun
  rw [if_neg h0]
  by_cases h1 : src.length < MIN_BLOCK_SIZE
  · rw [if_pos h1]
    exact nofun
  rw [if_neg h1]
  by_cases h2 : src.length > MAX_BLOCK_SIZE
  · rw [if_pos h2]
    exact nofun
  rw [if_neg h2]
  by_cases h3 : dstLen < maxEncodedLen1 src.length
  · rw [if_pos h3]
    exact nofun
  rw [if_neg h3]
  dsimp only
  obtain ⟨hp1, hp2, hp3⟩ := fwdParams1_ok (effType hasCtx dt src)
  generalize fwdParams1 (effType hasCtx dt src) = prm at hp1 hp2 hp3
  have hn : src.toArray.size = src.length := List.size_toArray
  rw [hn]
  have hn64 : 64 ≤ src.length := by unfold MIN_BLOCK_SIZE at h1; omega
  have hm : 0 < min src.length cs := by omega
  have hch := fwd1Chunks_sat (a := src.toArray) (sz0 := min src.length cs) (dstLen := dstLen) (srcEnd := src.length - 4)
    (lpc := lpc) (litOrder := if src.length < 2 ^ 17 then 0 else 1) hp1 ⟨hp2, hp3⟩ (by rw [hn]; omega)
    (src.length / min src.length cs + 2) 0 (min src.length cs) ⟨matches0 lpc, Array.replicate HASH_SIZE 0⟩
    #[(src.length >>> 24) % 256, (src.length >>> 16) % 256, (src.length >>> 8) % 256, src.length % 256,
      ((if src.length < 2 ^ 17 then 0 else 1) ||| prm.2.2 ||| (lpc <<< 4)) % 256]
    hm (Or.inl (by omega)) (Nat.le_refl _) (by omega) (chunk_fuel (Nat.sub_le _ 4) hm) (Array.size_replicate ..)
  split
  · rename_i st _ _ out hr
    have hst : st = src.length - 4 := hch.ok hr
    subst hst
    by_cases h4 : out.size + 4 > dstLen
    · rw [if_pos h4]
      exact nofun
    rw [if_neg h4, rd1_eq (by omega), rd1_eq (by omega), rd1_eq (by omega), rd1_eq (by omega)]
    simp only
    rw [if_neg (by omega)]
    split <;> exact nofun
  · exact nofun
  · rename_i e he
    exact absurd he (hch.nf e)

end Kanzi.ROLZ
