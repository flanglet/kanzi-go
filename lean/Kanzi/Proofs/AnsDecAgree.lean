/-
Agreement of the total ANS decoder model (`Kanzi/Model/AnsDec.lean`) with the decoders of
`Kanzi/Model/EntSmall.lean` (order 0) and `Kanzi/Model/Ans1.lean` (order 1), which are proved to invert
the encoders (`Proofs/Ans0.lean`, `Proofs/Ans1*.lean`) and are called "the proved model" below: the
round-trip theorems carry over to the model that follows the Go code on arbitrary input.

The bridge is in three steps.  The flat arrays `this.f2s` / `this.symbols` that `decodeHeader` fills
hold the slot table `decTblL` of the proved model (`mapLoop_spec`, `TabRel`, `hdrCtx_agree`).  On such
tables and 32-bit states the Go `int` arithmetic of `decodeSymbol` is the natural-number arithmetic of
`decodeStepB`, and reading `this.buffer` at a position is reading the rest of a byte list
(`sym_agree`, `round_agree`).  `decodeChunkV2` on what `encodeChunk` writes then returns the chunk,
whatever else the buffer holds (`stepV2_enc`, either order).  This file has the parts common to both
orders, the whole of order 0 (`read_enc0`) and the rounds of order 1 (`rounds1_agree`); the rest of
order 1 is in `Proofs/AnsDecAgree1.lean`.  Core Lean only.
-/
import Kanzi.Proofs.AnsDec
import Kanzi.Proofs.Ans1Block

namespace Kanzi.AnsDec
open Kanzi.Bits Kanzi.EntSmall

/-! ### A. the tables `decodeHeader` builds, as the list `decTblL` of `Proofs/Ans0.lean` -/

/-- the default of `getD` on `this.symbols` (what `look` of the model reads with) -/
def d0 : DecSym := ⟨0, 0⟩

theorem decTblL_length (lr : Nat) : ∀ (f : List Nat) (c k : Nat), (decTblL lr c k f).length = f.sum := by
  intro f
  induction f with
  | nil => intro c k; rfl
  | cons fi fs ih => intro c k; simp [decTblL, ih]

theorem decTblL_entry (lr : Nat) : ∀ (f : List Nat) (c k j : Nat) (e : Nat × DecSym),
    (decTblL lr c k f)[j]? = some e →
    e.2.cumFreq ≤ c + j ∧ e.2.freq ≤ 2 ^ lr - 1 ∧ k ≤ e.1 ∧ e.1 < k + f.length := by
  intro f
  induction f with
  | nil => intro c k j e h; simp [decTblL] at h
  | cons fi fs ih =>
    intro c k j e h
    simp only [decTblL] at h
    by_cases hj : j < fi
    · rw [List.getElem?_append_left (by simpa using hj)] at h
      simp only [List.getElem?_replicate, hj, if_true, Option.some.injEq] at h
      rw [← h]
      simp only [decSymReset, List.length_cons]
      omega
    · rw [List.getElem?_append_right (by simpa using (by omega : fi ≤ j))] at h
      simp only [List.length_replicate] at h
      have := ih (c + fi) (k + 1) (j - fi) e h
      simp only [List.length_cons]
      omega

theorem mapLoop_spec (base sbase lr : Nat) : ∀ (fs : List Nat) (i sum : Nat) (f2s : Array Nat) (syms : Array DecSym),
    sum + fs.sum ≤ 2 ^ lr → base + 2 ^ lr ≤ f2s.size → sbase + i + fs.length ≤ syms.size →
    ∃ m, mapLoop base sbase lr fs i sum f2s syms = .ok m ∧
      (∀ x, (x < base + sum ∨ base + sum + fs.sum ≤ x) → m.1.getD x 0 = f2s.getD x 0) ∧
      (∀ y, (y < sbase + i ∨ sbase + i + fs.length ≤ y) → m.2.getD y d0 = syms.getD y d0) ∧
      (∀ j (e : Nat × DecSym), (decTblL lr sum i fs)[j]? = some e →
        m.1.getD (base + sum + j) 0 = e.1 ∧ m.2.getD (sbase + e.1) d0 = e.2) := by
  intro fs
  induction fs with
  | nil =>
    intro i sum f2s syms _ _ _
    exact ⟨(f2s, syms), rfl, fun _ _ => rfl, fun _ _ => rfl, by intro j e h; simp [decTblL] at h⟩
  | cons fi fs ih =>
    intro i sum f2s syms hsum hf hs
    simp only [List.sum_cons, List.length_cons] at hsum hs
    simp only [mapLoop]
    by_cases h0 : fi = 0
    · subst h0
      rw [if_pos rfl]
      obtain ⟨m, hm, hfr, hsr, htab⟩ := ih (i + 1) sum f2s syms (by omega) hf (by omega)
      refine ⟨m, hm, ?_, ?_, ?_⟩
      · intro x hx; exact hfr x (by simp only [List.sum_cons] at hx; omega)
      · intro y hy; exact hsr y (by simp only [List.length_cons] at hy; omega)
      · intro j e he
        simp only [decTblL, List.replicate_zero, List.nil_append, Nat.add_zero] at he
        exact htab j e he
    · rw [if_neg h0, if_neg (by omega)]
      obtain ⟨m, hm, hfr, hsr, htab⟩ := ih (i + 1) (sum + fi) (fill (base + sum) i fi f2s)
        (syms.setIfInBounds (sbase + i) (decSymReset sum fi lr)) (by omega)
        (by rw [fill_size]; exact hf) (by simp only [Array.size_setIfInBounds]; omega)
      refine ⟨m, hm, ?_, ?_, ?_⟩
      · intro x hx
        simp only [List.sum_cons] at hx
        rw [hfr x (by omega), getD_fill, if_neg (by omega)]
      · intro y hy
        simp only [List.length_cons] at hy
        rw [hsr y (by omega), getD_setIfInBounds, if_neg (by omega)]
      · intro j e he
        simp only [decTblL] at he
        by_cases hj : j < fi
        · rw [List.getElem?_append_left (by simpa using hj)] at he
          simp only [List.getElem?_replicate, hj, if_true, Option.some.injEq] at he
          rw [← he]
          simp only
          constructor
          · rw [hfr _ (by omega), getD_fill, if_pos ⟨by omega, by omega, by omega⟩]
          · rw [hsr _ (by omega), getD_setIfInBounds, if_pos ⟨rfl, by omega⟩]
        · rw [List.getElem?_append_right (by simpa using (by omega : fi ≤ j))] at he
          simp only [List.length_replicate] at he
          have := htab (j - fi) e he
          have e1 : base + (sum + fi) + (j - fi) = base + sum + j := by omega
          rw [e1] at this
          exact this

/-! ### B. one `decodeSymbol`: Go `int` arithmetic = natural-number arithmetic on consistent tables -/

theorem int_mod_pow (x lr : Nat) : (x : Int) % (2 ^ lr : Int) = ((x % 2 ^ lr : Nat) : Int) := by
  have h : (2 ^ lr : Int) = ((2 ^ lr : Nat) : Int) := by simp
  rw [h]
  exact (Int.natCast_mod x (2 ^ lr)).symm

theorem int_div_pow (x lr : Nat) : (x : Int) / (2 ^ lr : Int) = ((x / 2 ^ lr : Nat) : Int) := by
  have h : (2 ^ lr : Int) = ((2 ^ lr : Nat) : Int) := by simp
  rw [h]
  exact (Int.natCast_div x (2 ^ lr)).symm

theorem wrap64_id (y : Int) (h1 : -9223372036854775808 ≤ y) (h2 : y < 9223372036854775808) : wrap64 y = y := by
  unfold wrap64; omega

/-- the refill `(st << 16) | b0 << 8 | b1` on bytes -/
theorem refill_eq (st1 b0 b1 : Nat) (h0 : b0 < 256) (h1 : b1 < 256) :
    (st1 <<< 16) ||| (b0 <<< 8) ||| b1 = st1 * 65536 + (b0 * 256 + b1) := by
  have e1 : (b0 <<< 8) ||| b1 = b1 + b0 * 256 := by
    rw [Nat.or_comm, or_shl b1 b0 8 (by omega)]
  have hw : b1 + b0 * 256 < 2 ^ 16 := by omega
  rw [Nat.or_assoc, e1, Nat.or_comm, or_shl _ st1 16 hw]
  omega

/-- the new state value of `decodeSymbol` before the refill, in ℕ -/
def st1Of (x lr : Nat) (sym : DecSym) : Nat := sym.freq * (x / 2 ^ lr) + x % 2 ^ lr - sym.cumFreq

theorem st1Of_le (x lr : Nat) (sym : DecSym) (hf : sym.freq ≤ 2 ^ lr - 1) : st1Of x lr sym ≤ x := by
  unfold st1Of
  have hp : 0 < 2 ^ lr := Nat.pow_pos (by decide)
  have h1 : sym.freq * (x / 2 ^ lr) ≤ (2 ^ lr - 1) * (x / 2 ^ lr) := Nat.mul_le_mul_right _ hf
  have h2 : (2 ^ lr - 1) * (x / 2 ^ lr) + x / 2 ^ lr = 2 ^ lr * (x / 2 ^ lr) := by
    have : 2 ^ lr - 1 + 1 = 2 ^ lr := by omega
    calc (2 ^ lr - 1) * (x / 2 ^ lr) + x / 2 ^ lr = (2 ^ lr - 1 + 1) * (x / 2 ^ lr) := by
          rw [Nat.add_mul, Nat.one_mul]
      _ = 2 ^ lr * (x / 2 ^ lr) := by rw [this]
  have h3 := Nat.div_add_mod x (2 ^ lr)
  generalize sym.freq * (x / 2 ^ lr) = A at *
  generalize (2 ^ lr - 1) * (x / 2 ^ lr) = B at *
  generalize 2 ^ lr * (x / 2 ^ lr) = C at *
  generalize x % 2 ^ lr = r at *
  generalize x / 2 ^ lr = q at *
  clear hf hp
  omega

theorem decodeStepB_arith (x : Nat) (sym : DecSym) (lr : Nat) (ws : List Nat)
    (h0 : ws.headD 0 < 256) (h1 : ws.tail.headD 0 < 256) :
    decodeStepB x sym lr ws =
      if st1Of x lr sym < 32768 then
        (st1Of x lr sym * 65536 + (ws.headD 0 * 256 + ws.tail.headD 0), ws.tail.tail)
      else (st1Of x lr sym, ws) := by
  unfold decodeStepB st1Of
  simp only [Nat.shiftRight_eq_div_pow, Nat.and_two_pow_sub_one_eq_mod, ansTop]
  split
  · rw [refill_eq _ _ _ h0 h1]
  · rfl

theorem stepSym_arith (lr : Nat) (buf : Array Nat) (n x : Nat) (sym : DecSym) (hx : x < 2 ^ 32)
    (hc : sym.cumFreq ≤ x % 2 ^ lr) (hf : sym.freq ≤ 2 ^ lr - 1) (hn : n + 1 < buf.size) :
    stepSym lr buf n (x : Int) sym =
      if st1Of x lr sym < 32768 then
        .ok (n + 2, ((st1Of x lr sym * 65536 + (buf.getD n 0 * 256 + buf.getD (n + 1) 0) : Nat) : Int))
      else .ok (n, ((st1Of x lr sym : Nat) : Int)) := by
  have hle := st1Of_le x lr sym hf
  have hcast : (sym.freq : Int) * ((x : Int) / (2 ^ lr : Int)) + (x : Int) % (2 ^ lr : Int) - (sym.cumFreq : Int)
      = ((st1Of x lr sym : Nat) : Int) := by
    rw [int_div_pow, int_mod_pow]
    unfold st1Of
    have : sym.cumFreq ≤ sym.freq * (x / 2 ^ lr) + x % 2 ^ lr := by omega
    rw [Int.natCast_sub this, Int.natCast_add, Int.natCast_mul]
  unfold stepSym
  simp only
  rw [hcast, wrap64_id _ (by omega) (by omega)]
  by_cases hlt : st1Of x lr sym < 32768
  · rw [if_pos (by omega), if_pos hn, if_pos hlt]
    have : wrap64 (((st1Of x lr sym : Nat) : Int) * 65536) = ((st1Of x lr sym : Nat) : Int) * 65536 :=
      wrap64_id _ (by omega) (by omega)
    rw [this]
    simp only [Int.natCast_add, Int.natCast_mul]
    rfl
  · rw [if_neg (by omega), if_neg hlt]

/-! ### C. lookup + step, one round (either order), all rounds (order 0) -/

/-- the flat tables at `base` / `sbase` hold the slot table `T` -/
def TabRel (f2s : Array Nat) (syms : Array DecSym) (base sbase : Nat) (T : List (Nat × DecSym)) : Prop :=
  ∀ (j : Nat) (e : Nat × DecSym), T[j]? = some e → f2s.getD (base + j) 0 = e.1 ∧ syms.getD (sbase + e.1) d0 = e.2

structure TabOk (lr : Nat) (T : List (Nat × DecSym)) : Prop where
  len : T.length = 2 ^ lr
  ent : ∀ (j : Nat) (e : Nat × DecSym), T[j]? = some e → e.2.cumFreq ≤ j ∧ e.2.freq ≤ 2 ^ lr - 1 ∧ e.1 < 256

theorem decTblL_ok (lr : Nat) (f : List Nat) (hl : f.length ≤ 256) (hs : f.sum = 2 ^ lr) :
    TabOk lr (decTblL lr 0 0 f) := by
  refine ⟨by rw [decTblL_length, hs], ?_⟩
  intro j e he
  have := decTblL_entry lr f 0 0 j e he
  omega

theorem headD_drop (L : List Nat) (n : Nat) : (L.drop n).headD 0 = L.getD n 0 := by
  rw [List.headD_eq_head?_getD, List.head?_drop, List.getD_eq_getElem?_getD]

theorem toArray_getD {α : Type} (T : List α) (j : Nat) (e d : α) (h : T[j]? = some e) :
    T.toArray.getD j d = e := by
  simp [Array.getD_eq_getD_getElem?, h]

/-- one lane of a round: in context `prv` the flat tables answer like the slot table `t` of the proved
    model, and `decodeSymbol` on `this.buffer` steps like `decodeStepB` on the rest of the buffer -/
def LaneAgree (lr : Nat) (f2s : Array Nat) (syms : Array DecSym) (buf : Array Nat) (prv : Nat)
    (t : Nat → Nat × DecSym) : Prop :=
  ∀ x n : Nat, x < 2 ^ 32 → n + 1 < buf.size →
    ∃ x' n' : Nat, look lr f2s syms prv (x : Int) = .ok (t (x &&& (2 ^ lr - 1))) ∧
      stepSym lr buf n (x : Int) (t (x &&& (2 ^ lr - 1))).2 = .ok (n', (x' : Int)) ∧
      decodeStepB x (t (x &&& (2 ^ lr - 1))).2 lr (buf.toList.drop n) = (x', buf.toList.drop n') ∧
      x' < 2 ^ 32 ∧ n ≤ n' ∧ n' ≤ n + 2

/-- one symbol: lookup in the flat tables + state update, against the proved model -/
theorem sym_agree (lr : Nat) (f2s : Array Nat) (syms : Array DecSym) (buf : Array Nat) (T : List (Nat × DecSym))
    (prv : Nat) (hrel : TabRel f2s syms (prv * 2 ^ lr) (prv * 256) T) (hok : TabOk lr T)
    (hf : (prv + 1) * 2 ^ lr ≤ f2s.size) (hs : (prv + 1) * 256 ≤ syms.size) (hb : Bytes buf)
    (t : Nat → Nat × DecSym) (ht : ∀ slot, t slot = T.toArray.getD slot (0, ⟨0, 0⟩)) :
    LaneAgree lr f2s syms buf prv t := by
  intro x n hx hn
  have hp : 0 < 2 ^ lr := Nat.pow_pos (by decide)
  have hslot : x % 2 ^ lr < T.length := by rw [hok.len]; exact Nat.mod_lt _ hp
  have hget : T[x % 2 ^ lr]? = some T[x % 2 ^ lr] := List.getElem?_eq_getElem hslot
  generalize T[x % 2 ^ lr] = e at hget
  rw [ht, Nat.and_two_pow_sub_one_eq_mod, toArray_getD T _ e _ hget]
  obtain ⟨hc, hfr, he256⟩ := hok.ent _ e hget
  obtain ⟨hr1, hr2⟩ := hrel _ e hget
  have hlook : look lr f2s syms prv (x : Int) = .ok e := by
    unfold look
    simp only
    rw [int_mod_pow, Int.toNat_natCast]
    have e1 : (prv + 1) * 2 ^ lr = prv * 2 ^ lr + 2 ^ lr := by rw [Nat.add_mul, Nat.one_mul]
    have e2 : (prv + 1) * 256 = prv * 256 + 256 := by omega
    have hlt := Nat.mod_lt x hp
    rw [if_pos (by omega), hr1, if_pos ⟨he256, by omega⟩]
    simp only [d0] at hr2
    rw [hr2]
  -- both models step by `st1Of`: the total one by `stepSym_arith`, the proved one by `decodeStepB_arith`
  have harith := stepSym_arith lr buf n x e.2 hx hc hfr hn
  have hh0 : (buf.toList.drop n).headD 0 = buf.getD n 0 := by rw [headD_drop, toList_getD]
  have hh1 : (buf.toList.drop n).tail.headD 0 = buf.getD (n + 1) 0 := by
    rw [List.tail_drop, headD_drop, toList_getD]
  have hold := decodeStepB_arith x e.2 lr (buf.toList.drop n) (by rw [hh0]; exact hb n) (by rw [hh1]; exact hb (n + 1))
  have hle := st1Of_le x lr e.2 hfr
  by_cases hlt : st1Of x lr e.2 < 32768
  · rw [if_pos hlt] at harith hold
    refine ⟨_, n + 2, hlook, harith, ?_, ?_, by omega, by omega⟩
    · rw [hold, hh0, hh1, List.tail_drop, List.tail_drop]
    · have := hb n
      have := hb (n + 1)
      omega
  · rw [if_neg hlt] at harith hold
    exact ⟨_, n, hlook, harith, hold, by omega, by omega, by omega⟩

/-- read positions inside one round: each of the four lanes advances by at most two bytes, so a
    lane that starts with `k + 2` bytes left can refill and leaves `k` -/
theorem lane_ok {n sz k : Nat} (h : n + (k + 2) ≤ sz) : n + 1 < sz := by omega

theorem lane_next {n n' sz k : Nat} (h : n + (k + 2) ≤ sz) (h' : n' ≤ n + 2) : n' + k ≤ sz := by omega

theorem lanes_bound {n n3 n2 n1 n0 : Nat} (a3 : n ≤ n3) (b3 : n3 ≤ n + 2) (a2 : n3 ≤ n2) (b2 : n2 ≤ n3 + 2)
    (a1 : n2 ≤ n1) (b1 : n1 ≤ n2 + 2) (a0 : n1 ≤ n0) (b0 : n0 ≤ n1 + 2) : n ≤ n0 ∧ n0 ≤ n + 8 := by omega

/-- one round of four symbols (either order): the total model against `decRound4` of the proved model -/
theorem round_agree (lr : Nat) (f2s : Array Nat) (syms : Array DecSym) (buf : Array Nat) (p : Quad)
    (t0 t1 t2 t3 : Nat → Nat × DecSym) (g0 : LaneAgree lr f2s syms buf p.1 t0)
    (g1 : LaneAgree lr f2s syms buf p.2.1 t1) (g2 : LaneAgree lr f2s syms buf p.2.2.1 t2)
    (g3 : LaneAgree lr f2s syms buf p.2.2.2 t3) (x0 x1 x2 x3 n : Nat) (h0 : x0 < 2 ^ 32) (h1 : x1 < 2 ^ 32)
    (h2 : x2 < 2 ^ 32) (h3 : x3 < 2 ^ 32) (hn : n + 8 ≤ buf.size) :
    ∃ (y0 y1 y2 y3 n' : Nat) (c : Quad),
      round lr f2s syms buf p ⟨x0, x1, x2, x3, n⟩ = .ok (c, ⟨(y0 : Int), y1, y2, y3, n'⟩) ∧
      decRound4 t0 t1 t2 t3 lr ⟨x0, x1, x2, x3, buf.toList.drop n⟩ = (c, ⟨y0, y1, y2, y3, buf.toList.drop n'⟩) ∧
      y0 < 2 ^ 32 ∧ y1 < 2 ^ 32 ∧ y2 < 2 ^ 32 ∧ y3 < 2 ^ 32 ∧ n ≤ n' ∧ n' ≤ n + 8 := by
  obtain ⟨y3, n3, l3, s3, o3, b3, k3, k3'⟩ := g3 x3 n h3 (lane_ok (k := 6) hn)
  have hn3 := lane_next (k := 6) hn k3'
  obtain ⟨y2, n2, l2, s2, o2, b2, k2, k2'⟩ := g2 x2 n3 h2 (lane_ok (k := 4) hn3)
  have hn2 := lane_next (k := 4) hn3 k2'
  obtain ⟨y1, n1, l1, s1, o1, b1, k1, k1'⟩ := g1 x1 n2 h1 (lane_ok (k := 2) hn2)
  have hn1 := lane_next (k := 2) hn2 k1'
  obtain ⟨y0, n0, l0, s0, o0, b0, k0, k0'⟩ := g0 x0 n1 h0 (lane_ok (k := 0) hn1)
  have hnn := lanes_bound k3 k3' k2 k2' k1 k1' k0 k0'
  refine ⟨y0, y1, y2, y3, n0, ((t0 (x0 &&& (2 ^ lr - 1))).1, (t1 (x1 &&& (2 ^ lr - 1))).1,
    (t2 (x2 &&& (2 ^ lr - 1))).1, (t3 (x3 &&& (2 ^ lr - 1))).1), ?_, ?_, b0, b1, b2, b3, hnn.1, hnn.2⟩
  · unfold round
    simp only [R.bind, l3, s3, l2, s2, l1, s1, l0, s0]
  · unfold decRound4
    simp only [o3, o2, o1, o0]

theorem rounds0_agree (lr : Nat) (f2s : Array Nat) (syms : Array DecSym) (buf : Array Nat) (T : List (Nat × DecSym))
    (hrel : TabRel f2s syms 0 0 T) (hok : TabOk lr T) (hf : 2 ^ lr ≤ f2s.size) (hs : 256 ≤ syms.size)
    (hb : Bytes buf) : ∀ (m x0 x1 x2 x3 n : Nat), x0 < 2 ^ 32 → x1 < 2 ^ 32 → x2 < 2 ^ 32 → x3 < 2 ^ 32 →
    n + 8 * m ≤ buf.size →
    ∃ (y0 y1 y2 y3 n' : Nat),
      rounds0 lr f2s syms buf m ⟨x0, x1, x2, x3, n⟩
        = .ok ((decRounds T.toArray lr m ⟨x0, x1, x2, x3, buf.toList.drop n⟩).1, ⟨(y0 : Int), y1, y2, y3, n'⟩) ∧
      (decRounds T.toArray lr m ⟨x0, x1, x2, x3, buf.toList.drop n⟩).2 = ⟨y0, y1, y2, y3, buf.toList.drop n'⟩ ∧
      n ≤ n' ∧ n' ≤ n + 8 * m := by
  intro m
  induction m with
  | zero =>
    intro x0 x1 x2 x3 n _ _ _ _ _
    exact ⟨x0, x1, x2, x3, n, rfl, rfl, by omega, by omega⟩
  | succ m ih =>
    intro x0 x1 x2 x3 n h0 h1 h2 h3 hn
    have lane : LaneAgree lr f2s syms buf 0 (fun slot => T.toArray.getD slot (0, ⟨0, 0⟩)) :=
      sym_agree lr f2s syms buf T 0 (by simpa using hrel) hok (by simpa using hf) (by simpa using hs) hb _
        (fun _ => rfl)
    obtain ⟨y0, y1, y2, y3, n', c, hr, ho4, b0, b1, b2, b3, k, k'⟩ :=
      round_agree lr f2s syms buf (0, 0, 0, 0) _ _ _ _ lane lane lane lane x0 x1 x2 x3 n h0 h1 h2 h3 (by omega)
    have ho : decRound T.toArray lr ⟨x0, x1, x2, x3, buf.toList.drop n⟩
        = ([c.2.2.2, c.2.2.1, c.2.1, c.1], ⟨y0, y1, y2, y3, buf.toList.drop n'⟩) := by
      rw [decRound_eq, ho4]
    obtain ⟨z0, z1, z2, z3, n'', hr2, ho2, k2, k2'⟩ := ih y0 y1 y2 y3 n' b0 b1 b2 b3 (by omega)
    refine ⟨z0, z1, z2, z3, n'', ?_, ?_, by omega, by omega⟩
    · simp only [rounds0, hr, R.bind, hr2, decRounds, ho]
      simp
    · simp only [decRounds, ho]
      exact ho2

/-! ### D. the raw tail, the buffer after `ReadArray`, one whole chunk of encoder output (order 0) -/

theorem tailBytes_eq (buf : Array Nat) : ∀ (c n : Nat), n + c ≤ buf.size →
    tailBytes buf c n = .ok ((buf.toList.drop n).take c) := by
  intro c
  induction c with
  | zero => intro n _; simp [tailBytes]
  | succ c ih =>
    intro n h
    simp only [tailBytes]
    rw [if_pos (by omega), ih (n + 1) (by omega)]
    simp only [R.bind]
    have hlt : n < buf.toList.length := by simp; omega
    rw [List.drop_eq_getElem_cons hlt, List.take_succ_cons]
    congr 2
    have hn : n < buf.size := by omega
    simp [Array.getD_eq_getD_getElem?, Array.getElem?_eq_getElem hn]

theorem take_getD (L : List Nat) (k i : Nat) (h : i < k) : (L.take k).getD i 0 = L.getD i 0 := by
  simp [List.getD_eq_getElem?_getD, h]

theorem tailBytes_enc (buf : Array Nat) (t J : List Nat) (n : Nat) (h : t ++ J = buf.toList.drop n) :
    tailBytes buf t.length n = .ok t := by
  cases t with
  | nil => rfl
  | cons x t =>
    have hl := congrArg List.length h
    simp only [List.length_append, List.length_cons, List.length_drop, Array.length_toList] at hl
    rw [tailBytes_eq buf _ _ (by simp only [List.length_cons]; omega), ← h, List.take_left' rfl]

theorem tail_length (blk : List Nat) (q : Nat) (hq : q = 4 * (blk.length / 4)) :
    (blk.drop q).length = blk.length % 4 := by
  subst hq
  rw [List.length_drop]
  omega

/-- after `ReadArray(this.buffer, 8*sz)` + guard clearing the buffer is the payload followed by
    other bytes -/
theorem loadPayload_list (sz : Nat) (buf : Array Nat) (bs : Bits) (pl : Array Nat × Bits)
    (h : loadPayload sz buf bs = .ok pl) (hb : Bytes buf) :
    ∃ bytes J, readBytes sz bs = some (bytes, pl.2) ∧ pl.1.toList = bytes ++ J ∧ Bytes pl.1 := by
  unfold loadPayload at h
  split at h
  · cases h
  · rename_i hsz
    cases hr : readBytes sz bs with
    | none => rw [hr] at h; cases h
    | some q =>
      obtain ⟨bytes, r⟩ := q
      rw [hr] at h
      simp only [R.ok.injEq] at h
      have hbl := readBytes_facts sz bs bytes r hr
      refine ⟨bytes, pl.1.toList.drop sz, by rw [← h], ?_, ?_⟩
      · have hsize : pl.1.size = buf.size := by rw [← h]; simp only [fill_size, writePrefix_size]
        have ht : pl.1.toList.take sz = bytes := by
          apply ext_getD
          · simp only [List.length_take, Array.length_toList, hbl.1]; omega
          · intro i hi
            have hi' : i < sz := by
              simp only [List.length_take, Array.length_toList] at hi; omega
            rw [take_getD _ _ _ hi', toList_getD, ← h]
            simp only
            rw [getD_fill, if_neg (by omega), getD_writePrefix,
              if_pos ⟨by omega, by omega, by omega⟩, Nat.sub_zero]
        rw [← ht, List.take_append_drop]
      · rw [← h]
        exact Bytes.fill (by omega) _ _ (Bytes.writePrefix _ _ _ hbl.2 hb)

theorem bufAlloc_bytes (len : Nat) (buf : Array Nat) (hb : Bytes buf) : Bytes (bufAlloc len buf) := by
  unfold bufAlloc
  split
  · exact Bytes.replicate _
  · exact hb

/-- **the decoding part of `decodeChunkV2` (order 0) on encoder output**: with the tables of the
    header and the payload in the buffer — followed by ANY other bytes `J` (guard zeros, stale bytes
    of earlier chunks) — the total model returns the chunk -/
theorem chunkBody_enc0 (blk f : List Nat) (lr : Nat) (hlr : 8 ≤ lr ∧ lr ≤ 15) (hlen : f.length ≤ 256)
    (hsum : f.sum = 2 ^ lr) (hsym : ∀ a ∈ blk, SymOk f a)
    (f2s : Array Nat) (syms : Array DecSym) (buf : Array Nat) (J : List Nat)
    (hrel : TabRel f2s syms 0 0 (decTblL lr 0 0 f)) (hf : 2 ^ lr ≤ f2s.size) (hs : 256 ≤ syms.size)
    (hb : Bytes buf) (hL : buf.toList = (ans0Final blk (mkEncSyms f lr)).out ++ J)
    (hbuf : 2 * blk.length ≤ buf.size) (q : Pre)
    (h0 : q.st0 = (ans0Final blk (mkEncSyms f lr)).st0) (h1 : q.st1 = (ans0Final blk (mkEncSyms f lr)).st1)
    (h2 : q.st2 = (ans0Final blk (mkEncSyms f lr)).st2) (h3 : q.st3 = (ans0Final blk (mkEncSyms f lr)).st3) :
    chunkBody 0 lr blk.length f2s syms buf q = .ok blk := by
  have hq8 : 0 + 8 * (blk.length / 4) ≤ buf.size := by omega
  have hsz : ¬ (2 ^ lr > f2s.size ∨ 256 > syms.size) := by omega
  obtain ⟨v, d, _⟩ := final_facts blk f lr hlr hlen hsum hsym
  have d := d J
  generalize ans0Final blk (mkEncSyms f lr) = S at *
  obtain ⟨y0, y1, y2, y3, n', hr, ho, _, _⟩ := rounds0_agree lr f2s syms buf (decTblL lr 0 0 f) hrel
    (decTblL_ok lr f hlen hsum) hf hs hb (blk.length / 4) S.st0 S.st1 S.st2 S.st3 0 v.h0.lt32 v.h1.lt32
    v.h2.lt32 v.h3.lt32 hq8
  rw [List.drop_zero, hL, ← mkDecTable_eq] at hr ho
  simp only [toDec] at d
  rw [d] at hr ho
  simp only [DecSt.mk.injEq] at ho
  obtain ⟨_, _, _, _, hws⟩ := ho
  unfold chunkBody
  simp only
  rw [if_pos True.intro, if_neg hsz, h0, h1, h2, h3, hr]
  simp only [R.bind]
  rw [← tail_length blk _ (Nat.mul_comm _ _), tailBytes_enc buf _ J n' (by rw [hL]; exact hws)]
  simp only
  rw [List.take_append_drop]

/-! ### E. the header: the total model against `decodeFreqTable` / `ansDecodeHeader` on ANY input -/

theorem toOpt_ok {α : Type} (x : R α) (a : α) (h : x.toOpt = some a) : x = .ok a := by
  cases x <;> simp [R.toOpt] at h
  rw [h]

theorem decFreqsR_toOpt (logMax scale : Nat) : ∀ (n : Nat) (bs : Bits),
    (decFreqsR n logMax scale bs).toOpt = decFreqs n logMax scale bs := by
  intro n
  induction n with
  | zero => intro bs; rfl
  | succ n ih =>
    intro bs
    simp only [decFreqsR, decFreqs]
    split
    · rw [← ih bs]
      cases decFreqsR n logMax scale bs <;> rfl
    · cases readBits logMax bs with
      | none => rfl
      | some q =>
        obtain ⟨v, r⟩ := q
        simp only
        split
        · rfl
        · rw [← ih r]
          cases decFreqsR n logMax scale r <;> rfl

theorem decFreqChunksR_toOpt (chk llr scale : Nat) : ∀ (fuel count : Nat) (bs : Bits),
    (decFreqChunksR fuel chk llr scale count bs).toOpt = decFreqChunks fuel chk llr scale scale count bs := by
  intro fuel
  induction fuel with
  | zero => intro count bs; rfl
  | succ fuel ih =>
    intro count bs
    simp only [decFreqChunksR, decFreqChunks]
    split
    · rfl
    · cases readBits llr bs with
      | none => rfl
      | some q =>
        obtain ⟨logMax, r⟩ := q
        simp only
        split
        · rfl
        · rw [← decFreqsR_toOpt]
          cases hc : decFreqsR (min chk count) logMax scale r with
          | ok c =>
            simp only [R.bind, R.toOpt]
            rw [← ih]
            cases decFreqChunksR fuel chk llr scale (count - min chk count) c.2 <;> rfl
          | err => rfl
          | eos => rfl
          | fault => rfl
          | overrun => rfl

theorem freqTableR_toOpt (a : List Nat) (lr : Nat) (bs : Bits) :
    (freqTableR a lr bs).toOpt = decodeFreqTable a lr bs := by
  unfold freqTableR decodeFreqTable
  rw [← decFreqChunksR_toOpt]
  cases decFreqChunksR a.length (chkSizeOf a.length) (llrOf lr) (2 ^ lr) (a.length - 1) bs with
  | ok p =>
    obtain ⟨fs, r⟩ := p
    simp only [R.bind, R.toOpt]
    by_cases hsum : 2 ^ lr ≤ fs.sum
    · rw [if_pos hsum, if_pos hsum]
    · rw [if_neg hsum, if_neg hsum]
  | err => rfl
  | eos => rfl
  | fault => rfl
  | overrun => rfl

/-- one context `k` of `decodeHeader` with a non-empty alphabet against `decodeFreqTable` of the
    proved models, on ANY input: the loop leaves the slot table of `tbl` in row `k` of the flat
    arrays and touches nothing below it -/
theorem hdrCtx_agree (k lr : Nat) (f2s : Array Nat) (syms : Array DecSym) (bs ra rt : Bits) (a tbl : List Nat)
    (hd : decodeAlphabet bs = some (a, ra)) (hne : a ≠ []) (hft : decodeFreqTable a lr ra = some (tbl, rt))
    (hsy : (k + 1) * 256 ≤ syms.size) (hfs : (k + 1) * 2 ^ lr ≤ f2s.size) (hb : Bytes f2s) :
    ∃ c, hdrCtx k lr f2s syms bs = .ok c ∧ c.a = a ∧ c.rest = rt ∧
      c.f2s.size = f2s.size ∧ c.syms.size = syms.size ∧ Bytes c.f2s ∧
      (∀ x, x < k * 2 ^ lr → c.f2s.getD x 0 = f2s.getD x 0) ∧
      (∀ y, y < k * 256 → c.syms.getD y d0 = syms.getD y d0) ∧
      TabRel c.f2s c.syms (k * 2 ^ lr) (k * 256) (decTblL lr 0 0 tbl) ∧ tbl.length = 256 ∧ tbl.sum = 2 ^ lr := by
  obtain ⟨hs, hlt⟩ := decodeAlphabet_facts bs a ra hd
  have hfr : freqTableR a lr ra = .ok (tbl, rt) := toOpt_ok _ _ (by rw [freqTableR_toOpt]; exact hft)
  obtain ⟨htl, hts⟩ := (freqTableR_sat a lr ra hs hlt hne).of_ok hfr
  simp only at htl hts
  have e1 : (k + 1) * 2 ^ lr = k * 2 ^ lr + 2 ^ lr := by rw [Nat.add_mul, Nat.one_mul]
  have e2 : (k + 1) * 256 = k * 256 + 256 := by rw [Nat.add_mul, Nat.one_mul]
  obtain ⟨m, hm, mfr, msr, mtab⟩ := mapLoop_spec (k * 2 ^ lr) (k * 256) lr tbl 0 0 f2s syms
    (by omega) (by omega) (by rw [htl, Nat.add_zero, ← e2]; exact hsy)
  have hmsafe := (mapLoop_sat (k * 2 ^ lr) (k * 256) lr tbl 0 0 f2s syms (by omega) (by omega) hb).of_ok hm
  have ha0 : ¬ a.length = 0 := fun e => hne (List.length_eq_zero_iff.mp e)
  refine ⟨⟨a, m.1, m.2, rt⟩, ?_, rfl, rfl, hmsafe.1, hmsafe.2.1, hmsafe.2.2, fun x hx => mfr x (Or.inl hx),
    fun y hy => msr y (Or.inl (by rw [Nat.add_zero]; exact hy)), ?_, htl, hts⟩
  · simp only [hdrCtx, hd, if_neg ha0, hfr, R.bind]
    rw [if_neg (by omega), if_neg (by omega), hm]
  · intro j e he
    exact mtab j e he

/-- **`decodeHeader` (order 0) of the total model = `ansDecodeHeader` of the proved model, on any
    input the latter accepts with a non-empty alphabet**: same alphabet size and first symbol, same
    rest, and row 0 of the flat `f2s` / `symbols` holds the slot table `decTblL lr 0 0 tbl`
    (`mkDecTable tbl lr` as a list, `mkDecTable_eq`) -/
theorem hdr0_agree (bs : Bits) (a tbl : List Nat) (lr : Nat) (r : Bits)
    (h : ansDecodeHeader bs = some ((a, tbl, lr), r)) (hne : a ≠ [])
    (f2s : Array Nat) (syms : Array DecSym) (hsy : 256 ≤ syms.size) (hb : Bytes f2s) :
    ∃ l r0 hd, readBits 3 bs = some (l, r0) ∧ lr = 8 + l ∧ hdrBody 1 lr f2s syms r0 = .ok hd ∧
      hd.res = a.length ∧ hd.a0 = a.headD 0 ∧ hd.rest = r ∧
      TabRel hd.f2s hd.syms 0 0 (decTblL lr 0 0 tbl) ∧ tbl.length = 256 ∧ tbl.sum = 2 ^ lr ∧
      2 ^ lr ≤ hd.f2s.size ∧ hd.syms.size = syms.size ∧ Bytes hd.f2s := by
  unfold ansDecodeHeader at h
  cases h3 : readBits 3 bs with
  | none => rw [h3] at h; cases h
  | some q =>
    obtain ⟨l, r0⟩ := q
    rw [h3] at h
    simp only at h
    cases hd : decodeAlphabet r0 with
    | none => rw [hd] at h; cases h
    | some q2 =>
      obtain ⟨a', r1⟩ := q2
      rw [hd] at h
      simp only at h
      by_cases h0 : a'.length = 0
      · rw [if_pos h0] at h
        simp only [Option.some.injEq, Prod.mk.injEq] at h
        exact absurd h.1.1.symm hne
      · rw [if_neg h0] at h
        cases hft : decodeFreqTable a' (8 + l) r1 with
        | none => rw [hft] at h; cases h
        | some q3 =>
          obtain ⟨tbl', r2⟩ := q3
          rw [hft] at h
          simp only [Option.some.injEq, Prod.mk.injEq] at h
          obtain ⟨⟨rfl, rfl, rfl⟩, rfl⟩ := h
          have hge := f2sSizeAfter_ge 1 (8 + l) f2s.size
          obtain ⟨c, hc, rfl, rfl, hsz1, hsz2, hby, _, _, hrel, htl, hts⟩ := hdrCtx_agree 0 (8 + l)
            (f2sAlloc 1 (8 + l) f2s) syms r0 r1 r2 a' tbl' hd hne hft (by omega)
            (by rw [f2sAlloc_size]; omega) (f2sAlloc_bytes 1 (8 + l) f2s hb)
          rw [f2sAlloc_size] at hsz1
          refine ⟨l, r0, ⟨0 + c.a.length, c.a.headD 0, c.f2s, c.syms, c.rest⟩, rfl, rfl, ?_, Nat.zero_add _, rfl,
            rfl, ?_, htl, hts, by rw [hsz1]; omega, hsz2, hby⟩
          · simp only [hdrBody, hdrCtxs, hc, R.bind]
            rfl
          · rw [Nat.zero_mul, Nat.zero_mul] at hrel
            exact hrel

/-! ### F. one chunk and the whole block of encoder output (order 0) -/

def Returns (r : Result) (out : List Nat) (rest : Bits) : Prop :=
  r.cls = .ret out.length false ∧ r.out = out ∧ r.rest = rest

/-- on `bs` the chunk loop of `Read`, from whatever it has accumulated and from any decoder object with `Inv`, with
    the fuel of `readLoop_terminates`, returns `blk` after what it had and leaves `rest` -/
def LoopReturns (p : Params) (blk : List Nat) (bs rest : Bits) : Prop :=
  ∀ (fuel : Nat) (acc : List Nat) (syms : Array DecSym) (f2s buf : Array Nat),
    Inv p.order syms f2s → Bytes buf → (blk.length + p.chunkSize - 1) / p.chunkSize + 1 ≤ fuel →
    Returns (readLoop p fuel blk.length acc syms f2s buf bs) (acc ++ blk) rest

theorem LoopReturns.nil (p : Params) (bs : Bits) : LoopReturns p [] bs bs := by
  intro fuel acc syms f2s buf _ _ hfu
  cases fuel with
  | zero => exact (Nat.not_succ_le_zero _ hfu).elim
  | succ k => simp [readLoop, Returns]

/-- `decodeChunkV2` of the total model (either order) on what `encodeChunk` writes for a chunk `c`
    with final encoder state `S` (payload size, four states, payload), whatever the buffer held: it
    is enough that the decoding part returns `c` from every buffer that starts with the payload.
    `c.length < 2^26` puts the payload size (`≤ 2·len`) below the `2^27` at which `decodeChunkV2`
    rejects the VarInt; `≤ 2·len` makes it fit the buffer of `max(2·len, 256)` bytes -/
theorem stepV2_enc (order lr : Nat) (c : List Nat) (S : EncSt) (hv : ValidSt S)
    (hlen : S.out.length ≤ 2 * c.length) (hsz : c.length < 2 ^ 26) (h : Hdr) (Rst : Bits)
    (hrest : h.rest = writeVarInt S.out.length ++ natBits S.st0 32 ++ natBits S.st1 32 ++ natBits S.st2 32
      ++ natBits S.st3 32 ++ ofBytes S.out ++ Rst)
    (hbody : ∀ (buf : Array Nat) (J : List Nat), Bytes buf → buf.toList = S.out ++ J → 2 * c.length ≤ buf.size →
      chunkBody order lr c.length h.f2s h.syms buf ⟨S.out.length, S.st0, S.st1, S.st2, S.st3, ofBytes S.out ++ Rst⟩
        = .ok c)
    (buf : Array Nat) (hb : Bytes buf) (rem : Nat) (acc : List Nat) (bs0 : Bits) (fsz : Nat) :
    ∃ buf', stepV2 order lr c.length rem acc h buf bs0 fsz = .next rem (acc ++ c) h.syms h.f2s buf' Rst ∧
      Bytes buf' := by
  have hpre : chunkPre h.rest = .ok ⟨S.out.length, S.st0, S.st1, S.st2, S.st3, ofBytes S.out ++ Rst⟩ := by
    rw [hrest]
    unfold chunkPre
    simp only [List.append_assoc]
    rw [varint_roundtrip _ (by omega)]
    simp only
    rw [if_neg (by omega)]
    simp only [rBits, readBits_natBits_lt _ _ _ hv.h0.lt32, readBits_natBits_lt _ _ _ hv.h1.lt32,
      readBits_natBits_lt _ _ _ hv.h2.lt32, readBits_natBits_lt _ _ _ hv.h3.lt32, AnsDec.R.bind]
  have hge := bufSizeAfter_ge c.length buf.size
  have hload : ∃ pl, loadPayload S.out.length (bufAlloc c.length buf) (ofBytes S.out ++ Rst) = .ok pl := by
    unfold loadPayload
    rw [if_neg (by rw [bufAlloc_size]; omega), readBytes_ofBytes _ _ hv.bytes]
    exact ⟨_, rfl⟩
  obtain ⟨pl, hpl⟩ := hload
  obtain ⟨bytes, J, hrb, hlist, hbytes⟩ := loadPayload_list _ _ _ pl hpl (bufAlloc_bytes _ _ hb)
  rw [readBytes_ofBytes _ _ hv.bytes] at hrb
  simp only [Option.some.injEq, Prod.mk.injEq] at hrb
  have hsize : pl.1.size = bufSizeAfter c.length buf.size := by rw [(loadPayload_sat _ _ _).of_ok hpl, bufAlloc_size]
  have hc := hbody pl.1 J hbytes (by rw [hlist, ← hrb.1]) (by omega)
  refine ⟨pl.1, ?_, hbytes⟩
  unfold stepV2
  simp only [hpre, hpl, hc]
  rw [← hrb.2]

/-- the chunk loop of the total model on the output of `ans0EncodeChunks`, from ANY decoder object -/
theorem readLoop_enc0 (cs lr v : Nat) (hlr : 8 ≤ lr ∧ lr ≤ 15) (hcs0 : 0 < cs) (hcs : cs < 2 ^ 26) (hv : v ≠ 1) :
    ∀ (fuel : Nat) (blk : List Nat), blk.length ≤ fuel → (∀ b ∈ blk, b < 256) →
    ∃ enc, ans0EncodeChunks fuel cs lr blk = some enc ∧ ∀ rest, LoopReturns ⟨0, cs, v⟩ blk (enc ++ rest) rest := by
  refine chunkLoop_rt cs hcs0 (fun fuel blk => ans0EncodeChunks fuel cs lr blk)
    (fun _ bs blk rest => LoopReturns ⟨0, cs, v⟩ blk bs rest)
    (fun fuel => ⟨by cases fuel <;> rfl, fun rest => .nil _ rest⟩) ?_
  intro fuel blk h0 hb hclen hcne hdl
  obtain ⟨o, ho, hasz, ht, hsumA, hin⟩ := oneChunk_table (blk.take cs) lr hlr hcne
    (fun b h => hb b (List.mem_of_mem_take h))
  have hneA := ht.nonempty
  have hfl : o.freqs.length ≤ 256 := Nat.le_of_eq ht.len
  have hfs := table_sum _ _ lr ht hsumA
  have hsym : ∀ a ∈ blk.take cs, SymOk o.freqs a := fun b hbc => symOk_of_table _ _ lr ht b (hin b hbc)
  refine ⟨ansEncodeHeader o.alphabet o.freqs lr
      ++ (if o.size > 1 then ans0EncodeChunk (blk.take cs) (mkEncSyms o.freqs lr) else []), ?_, ?_⟩
  · intro tl htl
    simp only [ans0EncodeChunks, if_neg h0, ans0EncodeOneChunk, ho, htl]
  · intro tl rest hdec fuel' acc syms f2s buf hinv hbb hfu
    have hsy : 256 ≤ syms.size := by have := hinv.syms; rw [dimOf_zero] at this; omega
    have hbf := hinv.bytes
    cases fuel' with
    | zero => exact (Nat.not_succ_le_zero _ hfu).elim
    | succ k =>
      have hk := fuel_step cs blk.length k hcs0 h0 hfu
      rw [hdl] at hk
      have hH := ans_header_roundtrip _ _ lr hlr ht hsumA
        ((if o.size > 1 then ans0EncodeChunk (blk.take cs) (mkEncSyms o.freqs lr) else []) ++ (tl ++ rest))
      obtain ⟨l, r0, hd, h3, hlr', hbody, hres, ha0, hrest, hrel, _, _, hfsz, hssz, hbf'⟩ :=
        hdr0_agree _ _ _ _ _ hH hneA f2s syms hsy hbf
      subst hlr'
      have hA0 : ¬ hd.res = 0 := by rw [hres]; exact length_ne_zero_of_ne_nil _ hneA
      simp only [readLoop, if_neg h0, List.append_assoc]
      unfold chunkStep
      simp only [h3, dimOf_zero, hbody, if_neg hA0]
      by_cases h1 : o.alphabet.length = 1
      · have hs1 : ¬ o.size > 1 := by omega
        rw [if_pos ⟨trivial, by rw [hres]; exact h1⟩]
        simp only
        rw [if_neg hs1, List.nil_append] at hrest
        rw [hrest, hdl, ha0]
        have hrep : List.replicate (min cs blk.length) (o.alphabet.headD 0) = blk.take cs := by
          rw [← hclen]; exact (single_alphabet _ _ hin h1).symm
        rw [hrep]
        have g := hdec k (acc ++ blk.take cs) hd.syms hd.f2s buf ⟨by rw [hssz]; exact hinv.syms, hbf'⟩ hbb hk
        rw [List.append_assoc, List.take_append_drop] at g
        exact g
      · have hs1 : o.size > 1 := by
          have : o.alphabet.length ≠ 0 := length_ne_zero_of_ne_nil _ hneA
          omega
        rw [if_neg (by rw [hres]; intro hh; exact h1 hh.2), if_neg hv]
        rw [if_pos hs1] at hrest
        have hszc : (blk.take cs).length < 2 ^ 26 := by
          rw [hclen]; exact Nat.lt_of_le_of_lt (Nat.min_le_left _ _) hcs
        obtain ⟨v, _, hpl⟩ := final_facts (blk.take cs) o.freqs (8 + l) hlr hfl hfs hsym
        obtain ⟨buf', hstep, hbb'⟩ := stepV2_enc 0 (8 + l) (blk.take cs) _ v hpl hszc hd (tl ++ rest)
          (by rw [hrest, ans0EncodeChunk_eq])
          (fun b J hb hL hbuf => chunkBody_enc0 (blk.take cs) o.freqs (8 + l) hlr hfl hfs hsym hd.f2s hd.syms b J
            hrel hfsz (by rw [hssz]; exact hsy) hb hL hbuf _ rfl rfl rfl rfl)
          buf hbb (blk.length - min cs blk.length) acc
          (ansEncodeHeader o.alphabet o.freqs (8 + l)
            ++ (ans0EncodeChunk (blk.take cs) (mkEncSyms o.freqs (8 + l)) ++ (tl ++ rest)))
          (f2sSizeAfter 1 (8 + l) f2s.size)
        rw [hclen] at hstep
        rw [if_pos hs1]
        simp only [hstep]
        rw [hdl]
        have g := hdec k (acc ++ blk.take cs) hd.syms hd.f2s buf' ⟨by rw [hssz]; exact hinv.syms, hbf'⟩ hbb' hk
        rw [List.append_assoc, List.take_append_drop] at g
        exact g

theorem read_raw (p : Params) (s : St) (blk : List Nat) (rest : Bits) (h32 : blk.length ≤ 32)
    (hb : ∀ b ∈ blk, b < 256) : Returns (read p s (arrayBits blk (8 * blk.length) ++ rest) blk.length) blk rest := by
  unfold read
  rw [if_pos h32, raw_rt blk rest hb]
  exact ⟨rfl, rfl, rfl⟩

/-- from the chunk loop to `Read`: a block of at most 32 bytes is copied, a longer one goes through the loop -/
theorem read_of_loop (p : Params) (hcs : 0 < p.chunkSize) (blk : List Nat) (hb : ∀ b ∈ blk, b < 256)
    (chunks : Option Bits) (h : ∃ enc, chunks = some enc ∧ ∀ rest, LoopReturns p blk (enc ++ rest) rest) :
    ∃ enc, (if blk.length ≤ 32 then some (arrayBits blk (8 * blk.length)) else chunks) = some enc ∧
      ∀ (rest : Bits) (s : St), Inv p.order s.syms s.f2s → Bytes s.buf →
        Returns (read p s (enc ++ rest) blk.length) blk rest := by
  by_cases h32 : blk.length ≤ 32
  · rw [if_pos h32]
    exact ⟨_, rfl, fun rest s _ _ => read_raw p s blk rest h32 hb⟩
  · rw [if_neg h32]
    obtain ⟨enc, he, hdec⟩ := h
    refine ⟨enc, he, fun rest s hinv hbb => ?_⟩
    unfold read
    rw [if_neg h32]
    exact hdec rest _ [] s.syms s.f2s s.buf hinv hbb (chunksOf_enough _ _ hcs)

/-- **the whole order-0 block.**  `ANSRangeEncoder.Write` then `Read` of the TOTAL decoder model, from
    any decoder object (a new one, or one that has decoded other blocks before) -/
theorem read_enc0 (blk : List Nat) (cs lr v : Nat) (hlr : 8 ≤ lr ∧ lr ≤ 15) (hcs0 : 0 < cs) (hcs : cs < 2 ^ 26)
    (hv : v ≠ 1) (hb : ∀ b ∈ blk, b < 256) :
    ∃ enc, ans0Encode blk cs lr = some enc ∧
      ∀ (rest : Bits) (s : St), Inv 0 s.syms s.f2s → Bytes s.buf →
        Returns (read ⟨0, cs, v⟩ s (enc ++ rest) blk.length) blk rest :=
  read_of_loop ⟨0, cs, v⟩ hcs0 blk hb _ (readLoop_enc0 cs lr v hlr hcs0 hcs hv blk.length blk (Nat.le_refl _) hb)

/-! ### G. order 1: the chain of rounds -/

open Kanzi.Ans1 in
/-- context `k` has been (re)built by the header of this chunk from the table `fs[k]` -/
def CtxGood (lr : Nat) (f2s : Array Nat) (syms : Array DecSym) (fs : List (List Nat)) (k : Nat) : Prop :=
  k < 256 ∧ TabRel f2s syms (k * 2 ^ lr) (k * 256) (decTblL lr 0 0 (fs.getD k [])) ∧
    TabOk lr (decTblL lr 0 0 (fs.getD k []))

def QuadGood (lr : Nat) (f2s : Array Nat) (syms : Array DecSym) (fs : List (List Nat)) (p : Quad) : Prop :=
  CtxGood lr f2s syms fs p.1 ∧ CtxGood lr f2s syms fs p.2.1 ∧ CtxGood lr f2s syms fs p.2.2.1 ∧
    CtxGood lr f2s syms fs p.2.2.2

theorem CtxGood.lane {lr : Nat} {f2s : Array Nat} {syms : Array DecSym} {fs : List (List Nat)} {prv : Nat}
    (hg : CtxGood lr f2s syms fs prv) (buf : Array Nat) (hf : 256 * 2 ^ lr ≤ f2s.size)
    (hs : 256 * 256 ≤ syms.size) (hb : Bytes buf) :
    LaneAgree lr f2s syms buf prv (Kanzi.Ans1.decLook (Kanzi.Ans1.mkDecTabs fs lr) prv) :=
  sym_agree lr f2s syms buf _ prv hg.2.1 hg.2.2 (Nat.le_trans (Nat.mul_le_mul_right _ hg.1) hf)
    (Nat.le_trans (Nat.mul_le_mul_right _ hg.1) hs) hb _
    (fun slot => by rw [Kanzi.Ans1.decLook_eq, mkDecTable_eq])

/-- every context used by the rows (all rows but the last are contexts of the next one) is good -/
def GoodChain (lr : Nat) (f2s : Array Nat) (syms : Array DecSym) (fs : List (List Nat)) : Quad → List Quad → Prop
  | _, [] => True
  | p, r :: rs => QuadGood lr f2s syms fs p ∧ GoodChain lr f2s syms fs r rs

theorem rounds1_agree (lr : Nat) (f2s : Array Nat) (syms : Array DecSym) (buf : Array Nat) (fs : List (List Nat))
    (hf : 256 * 2 ^ lr ≤ f2s.size) (hs : 256 * 256 ≤ syms.size) (hb : Bytes buf) :
    ∀ (rows : List Quad) (p : Quad) (x0 x1 x2 x3 n : Nat) (S : DecSt),
    Kanzi.Ans1.dec1Rounds (Kanzi.Ans1.mkDecTabs fs lr) lr rows.length p ⟨x0, x1, x2, x3, buf.toList.drop n⟩ = (rows, S) →
    GoodChain lr f2s syms fs p rows →
    x0 < 2 ^ 32 → x1 < 2 ^ 32 → x2 < 2 ^ 32 → x3 < 2 ^ 32 → n + 8 * rows.length ≤ buf.size →
    ∃ (y0 y1 y2 y3 n' : Nat),
      rounds1 lr f2s syms buf rows.length p ⟨x0, x1, x2, x3, n⟩ = .ok (rows, ⟨(y0 : Int), y1, y2, y3, n'⟩) ∧
      S = ⟨y0, y1, y2, y3, buf.toList.drop n'⟩ ∧ n ≤ n' ∧ n' ≤ n + 8 * rows.length := by
  intro rows
  induction rows with
  | nil =>
    intro p x0 x1 x2 x3 n S hd _ _ _ _ _ _
    simp only [List.length_nil, Kanzi.Ans1.dec1Rounds, Prod.mk.injEq, true_and] at hd
    exact ⟨x0, x1, x2, x3, n, rfl, hd.symm, by omega, by omega⟩
  | cons r rs ih =>
    intro p x0 x1 x2 x3 n S hd hg h0 h1 h2 h3 hn
    simp only [List.length_cons] at hn
    obtain ⟨y0, y1, y2, y3, n', c, hr, ho, b0, b1, b2, b3, k, k'⟩ :=
      round_agree lr f2s syms buf p _ _ _ _ (hg.1.1.lane buf hf hs hb) (hg.1.2.1.lane buf hf hs hb)
        (hg.1.2.2.1.lane buf hf hs hb) (hg.1.2.2.2.lane buf hf hs hb) x0 x1 x2 x3 n h0 h1 h2 h3 (by omega)
    have ho : Kanzi.Ans1.dec1Round (Kanzi.Ans1.mkDecTabs fs lr) lr p ⟨x0, x1, x2, x3, buf.toList.drop n⟩
        = (c, ⟨y0, y1, y2, y3, buf.toList.drop n'⟩) := ho
    simp only [List.length_cons, Kanzi.Ans1.dec1Rounds, ho, Prod.mk.injEq, List.cons.injEq] at hd
    obtain ⟨⟨hc, hrs⟩, hS⟩ := hd
    subst hc
    have hd' : Kanzi.Ans1.dec1Rounds (Kanzi.Ans1.mkDecTabs fs lr) lr rs.length c ⟨y0, y1, y2, y3, buf.toList.drop n'⟩
        = (rs, S) := Prod.ext hrs hS
    obtain ⟨z0, z1, z2, z3, n'', hr2, hS2, k2, k2'⟩ := ih c y0 y1 y2 y3 n' S hd' hg.2 b0 b1 b2 b3 (by omega)
    refine ⟨z0, z1, z2, z3, n'', ?_, hS2, by omega, by simp only [List.length_cons]; omega⟩
    simp only [List.length_cons, rounds1, hr, AnsDec.R.bind, hr2]

end Kanzi.AnsDec
