/-
Text codecs: list-level specifications of the two loops (proof devices, not models: the models of the Go code
are `fwdLoop` / `invLoop` of `Kanzi/Model/Text.lean`, which work on arrays and indices; `TextRefine.lean` proves
that they compute what these specifications compute).  Both codecs, selected by `tc2`.

  * `encL`  the loop of Forward as a recursion over the remaining source bytes; the state keeps the pending
            literals `X = src[emitAnchor : delimAnchor+1]` and the current word `pw = src[delimAnchor+1 : srcIdx]`
            as lists
  * `decL`  the loop of Inverse as a recursion over the remaining encoded bytes; the state keeps the current
            word as a list (`none`: the next byte sits on the position `delimAnchor`); for codec 2 only the
            current token format (`readIdx2`, bsVersion >= 6): the round trip is not about `readIdx2Old`
-/
import Kanzi.Proofs.TextTotal

namespace Kanzi.Text
open Kanzi.RLT (Out Res wr)

/-! ## the loop of Forward over lists -/

/-- state of `encL`: pending literals, current word, `words`, dictionary, `dst[0:dstIdx]` -/
structure ES where
  X : List Nat
  pw : List Nat
  words : Nat
  d : Dict
  out : Array Nat

/-- "Skip space if only delimiter between 2 word references", on the pending literals `X` -/
def emitPendingL (tc2 crlf : Bool) (ssz dstEnd : Nat) (X : List Nat) (out : Array Nat) : Out (Array Nat) :=
  if X ≠ [32] then
    match emitSymbols tc2 crlf ssz dstEnd X out with
    | some o => .ok o
    | none => .err "full"
  else .ok out

def encStep (tc2 : Bool) (dstLen dstEnd : Nat) (crlf : Bool) (s : ES) (c : Nat) : Out ES :=
  if isText c = true then .ok { s with pw := s.pw ++ [c] }
  else if s.pw.length ≥ 2 ∧ isDelimiter c = true ∧ s.pw.length ≤ MAX_WORD_LENGTH then
    match fwdLookup s.d s.pw with
    | .err e => .err e
    | .fault e => .fault e
    | .ok r =>
      match r.1 with
      | none =>
        if (s.pw.length > 3 ∨ (s.pw.length = 3 ∧ s.words < THRESHOLD2)) ∧ r.2 = none then
          match learn s.d s.words s.pw (hashWord s.pw) with
          | .ok p => .ok ⟨s.X ++ s.pw ++ [c], [], p.2, p.1, s.out⟩
          | .err e => .err e
          | .fault e => .fault e
        else .ok ⟨s.X ++ s.pw ++ [c], [], s.words, s.d, s.out⟩
      | some k =>
        match emitPendingL tc2 crlf s.d.ssz dstEnd s.X s.out with
        | .err e => .err e
        | .fault e => .fault e
        | .ok o =>
          if o.size + (if tc2 then 3 else 4) ≥ dstEnd then .err "full"
          else
            match fwdToken tc2 dstLen o (r.2 = some k) ((entryAt s.d k).idx % (MASK_LENGTH + 1)) with
            | .ok o2 => .ok ⟨[c], [], s.words, s.d, o2⟩
            | .err e => .err e
            | .fault e => .fault e
  else .ok ⟨s.X ++ s.pw ++ [c], [], s.words, s.d, s.out⟩

def encL (tc2 : Bool) (dstLen dstEnd : Nat) (crlf : Bool) : List Nat → ES → Out ES
  | [], s => .ok s
  | c :: rest, s =>
    match encStep tc2 dstLen dstEnd crlf s c with
    | .ok s' => encL tc2 dstLen dstEnd crlf rest s'
    | .err e => .err e
    | .fault e => .fault e

/-! ## the loop of Inverse over lists -/

/-- state of `decL`: current word (`none`: the next byte sits on `delimAnchor`), `words`, `wordRun`, dictionary,
    `dst[0:dstIdx]` -/
structure DS where
  pw : Option (List Nat)
  words : Nat
  run : Bool
  d : Dict
  out : List Nat

/-- a letter on the position `delimAnchor` itself (`none`) is not part of the word `src[delimAnchor+1 : srcIdx]` -/
def pwPush (pw : Option (List Nat)) (c : Nat) : Option (List Nat) :=
  match pw with
  | none => some []
  | some w => some (w ++ [c])

/-- Inverse: the dictionary part at the non-letter byte `cur` -/
def learnL (pw : Option (List Nat)) (words : Nat) (d : Dict) (cur : Nat) : Out (Dict × Nat) :=
  match pw with
  | none => .ok (d, words)
  | some word =>
    if word.length ≥ 3 ∧ isDelimiter cur = true ∧ word.length ≤ MAX_WORD_LENGTH then invLearnW word words d
    else .ok (d, words)

/-- Inverse: "Emit word" -/
def emitWordL (dstLen : Nat) (s : DS) (idx flip : Nat) : Out DS :=
  if idx ≥ s.d.list.size then .fault "dict-index"
  else
    match (entryAt s.d idx).ptr with
    | none => .err "data"
    | some w =>
      if (if (entryAt s.d idx).len % 256 > 1 ∧ s.run = true then s.out ++ [32] else s.out).length +
          (entryAt s.d idx).len % 256 ≥ dstLen then .err "data"
      else
        .ok ⟨if (entryAt s.d idx).len % 256 > 1 then none else some [], s.words,
          decide ((entryAt s.d idx).len % 256 > 1), s.d,
          (if (entryAt s.d idx).len % 256 > 1 ∧ s.run = true then s.out ++ [32] else s.out) ++
            flipHead flip (w.take ((entryAt s.d idx).len % 256))⟩

/-- Inverse: an ordinary byte -/
def litL (dstLen : Nat) (crlf : Bool) (s : DS) (cur : Nat) : Out DS :=
  if crlf = true ∧ cur = LF then
    if s.out.length + 1 ≥ dstLen then .err "data"
    else .ok { s with run := false, pw := some [], out := s.out ++ [CR, cur] }
  else .ok { s with run := false, pw := some [], out := s.out ++ [cur] }

/-- Inverse: the rest of one iteration after the dictionary part: the new state and the number of bytes of `l`
    (the input after `cur`) that were consumed -/
def tokL (tc2 : Bool) (dstLen : Nat) (crlf : Bool) (s : DS) (cur : Nat) (l : List Nat) : Out (DS × Nat) :=
  if tc2 then
    if cur ≥ 128 then
      match readIdx2 l.toArray 0 cur s.d.size with
      | .ok p =>
        match emitWordL dstLen s p.1 p.2.2 with
        | .ok s' => .ok (s', p.2.1)
        | .err e => .err e
        | .fault e => .fault e
      | .err e => .err e
      | .fault e => .fault e
    else if cur = ESCAPE_TOKEN1 then
      match l with
      | [] => .fault "src-index"
      | b :: _ => .ok ({ s with run := false, pw := some [], out := s.out ++ [b] }, 1)
    else
      match litL dstLen crlf s cur with
      | .ok s' => .ok (s', 0)
      | .err e => .err e
      | .fault e => .fault e
  else
    if cur = ESCAPE_TOKEN1 ∨ cur = ESCAPE_TOKEN2 then
      match readIdx1 l.toArray 0 s.d.size with
      | .ok p =>
        match emitWordL dstLen s p.1 (if cur = ESCAPE_TOKEN2 then 0x20 else 0) with
        | .ok s' => .ok (s', p.2)
        | .err e => .err e
        | .fault e => .fault e
      | .err e => .err e
      | .fault e => .fault e
    else
      match litL dstLen crlf s cur with
      | .ok s' => .ok (s', 0)
      | .err e => .err e
      | .fault e => .fault e

def decStep (tc2 : Bool) (dstLen : Nat) (crlf : Bool) (s : DS) (cur : Nat) (l : List Nat) : Out (DS × Nat) :=
  if isText cur = true then .ok ({ s with pw := pwPush s.pw cur, out := s.out ++ [cur] }, 0)
  else
    match learnL s.pw s.words s.d cur with
    | .ok p => tokL tc2 dstLen crlf { s with d := p.1, words := p.2 } cur l
    | .err e => .err e
    | .fault e => .fault e

/-- when the destination is full before the input is exhausted the Go code reports "Source index" -/
def decL (tc2 : Bool) (dstLen : Nat) (crlf : Bool) : List Nat → DS → Out DS
  | [], s => .ok s
  | cur :: l, s =>
    if s.out.length < dstLen then
      match decStep tc2 dstLen crlf s cur l with
      | .ok p => decL tc2 dstLen crlf (l.drop p.2) p.1
      | .err e => .err e
      | .fault e => .fault e
    else .err "srcidx"
termination_by l => l.length
decreasing_by
  simp only [List.length_drop, List.length_cons]
  omega

end Kanzi.Text
