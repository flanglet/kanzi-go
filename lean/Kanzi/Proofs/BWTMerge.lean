/-
Correctness of `inverseMergeTPSI` on the SPEC output: the scatter loop builds, for every suffix array
position `a`, the word `psi(a) << 8 | s[SA[a]]` (PSI = inverse LF = position of the next suffix), and
the decoding lanes walk the text forward from the recorded chunk positions.
-/
import Kanzi.Proofs.BWTSpec
import Kanzi.Proofs.BWTTables

namespace Kanzi.BWT

/-! ### the table the scatter loop must produce -/

abbrev prevSym (s : List Nat) (q : Nat) : Nat := s.getD (q - 1) 0

/-- pointer stored for suffix `q`: its position in the suffix array, the marker `0xFF` for the
empty suffix -/
def pay (s : List Nat) (q : Nat) : Nat := if q = s.length then 255 else (sa s).idxOf q

/-- (key, word) scattered for the row holding suffix `q` -/
def entryOf (s : List Nat) (q : Nat) : Nat × Nat := (prevSym s q, pay s q * 256 + prevSym s q)

def entries (s : List Nat) : List (Nat × Nat) := (rowsQ s).map (entryOf s)

/-- word that ends up at the suffix array position holding suffix `j` -/
def wordOf (s : List Nat) (j : Nat) : Nat := pay s (j + 1) * 256 + s.getD j 0

/-- first symbol of suffix `j`: the key by which the suffix array is cut into buckets -/
abbrev skey (s : List Nat) (j : Nat) : Nat := s.getD j 0

theorem idxOf_sa_lt {s : List Nat} {i : Nat} (hi : i < s.length) : (sa s).idxOf i < s.length := by
  have := List.idxOf_lt_length_iff.2 (mem_sa.2 hi)
  rwa [sa_length] at this

theorem pay_of_lt {s : List Nat} {i : Nat} (hi : i < s.length) : pay s i = (sa s).idxOf i := by
  unfold pay
  rw [if_neg (Nat.ne_of_lt hi)]

theorem pay_lt {s : List Nat} {i : Nat} (hi : i < s.length) : pay s i < s.length :=
  pay_of_lt hi ▸ idxOf_sa_lt hi

theorem getLastD_eq (s : List Nat) : s.getLastD 0 = s.getD (s.length - 1) 0 := by
  rw [List.getLastD_eq_getLast?, List.getLast?_eq_getElem?, List.getD_eq_getElem?_getD]

theorem entries_keys (s : List Nat) : (entries s).map (·.1) = bwtData s := by
  simp only [entries, rowsQ, bwtData, List.map_cons, List.map_map, entryOf, getLastD_eq, prevSym]
  congr 1

theorem entries_length (s : List Nat) (hs : 1 ≤ s.length) : (entries s).length = s.length := by
  have := (rowsQ_pred_perm s hs).length_eq
  simp only [List.length_map, sa_length] at this
  simp [entries, this]

theorem ebucket_words (s : List Nat) (hs : 1 ≤ s.length) (c : Nat) :
    (ebucket (entries s) c).map (·.2) = (bucket (skey s) (sa s) c).map (wordOf s) := by
  have h1 : ebucket (entries s) c = ((rowsQ s).filter (fun q => prevSym s q = c)).map (entryOf s) := by
    simp only [ebucket, bucket, entries, List.filter_map]
    rfl
  have h2 : bucket (skey s) (sa s) c = ((rowsQ s).filter (fun q => prevSym s q = c)).map (· - 1) := by
    simp only [bucket]
    exact (lf_bucket s hs c).symm
  rw [h1, h2, List.map_map, List.map_map]
  apply List.map_congr_left
  intro q hq
  have hq1 := (mem_rowsQ hs).1 (List.mem_filter.1 hq).1
  have e : q - 1 + 1 = q := by omega
  simp [entryOf, wordOf, e, prevSym]

theorem entries_keys_perm (s : List Nat) (hs : 1 ≤ s.length) :
    ((entries s).map (·.1)).Perm ((sa s).map (skey s)) := by
  have := (rowsQ_pred_perm s hs).map (skey s)
  simpa [entries, entryOf, List.map_map, Function.comp_def, prevSym, skey] using this

theorem below_entries (s : List Nat) (hs : 1 ≤ s.length) (c : Nat) :
    below (fun e : Nat × Nat => e.1) (entries s) c = below (skey s) (sa s) c := by
  rw [below_map, below_map]
  exact ((entries_keys_perm s hs).filter _).length_eq

theorem ebucket_length (s : List Nat) (hs : 1 ≤ s.length) (c : Nat) :
    (ebucket (entries s) c).length = (bucket (skey s) (sa s) c).length := by
  have := congrArg List.length (ebucket_words s hs c)
  simpa using this

theorem getD_map_of_lt {α β : Type} (f : α → β) (l : List α) (i : Nat) (h : i < l.length) (d : β) (d' : α) :
    (l.map f).getD i d = f (l.getD i d') := by
  simp [List.getD_eq_getElem?_getD, List.getElem?_map, List.getElem?_eq_getElem h]

theorem bwtData_length (s : List Nat) (hs : 1 ≤ s.length) : (bwtData s).length = s.length := by
  rw [← entries_keys, List.length_map, entries_length s hs]

theorem bwtData_size (s : List Nat) (hs : 1 ≤ s.length) : (bwtData s).toArray.size = s.length := by
  rw [List.size_toArray, bwtData_length s hs]

theorem bwtData_lt (s : List Nat) (hb : ∀ x ∈ s, x < 256) : ∀ b ∈ bwtData s, b < 256 := by
  intro b hb'
  rw [← entries_keys, entries, List.map_map] at hb'
  obtain ⟨q, _, rfl⟩ := List.mem_map.1 hb'
  exact getD_lt s hb (q - 1)

/-- `data` holds the word table of `s`: at the suffix array position of suffix `i`, the position of the
next suffix and the symbol `s[i]` -/
def Table (s : List Nat) (data : Array Nat) : Prop :=
  s.length ≤ data.size ∧ ∀ i, i < s.length → rd data (pay s i) = wordOf s i

/-- THE TABLE.  After scattering `entries s` with the bucket starts of the block, position `a` of
`data` holds the word of suffix array position `a`. -/
theorem scatter_words (s : List Nat) (hs : 1 ≤ s.length) (hb : ∀ x ∈ s, x < 256) (data : Array Nat)
    (hsz : s.length ≤ data.size) :
    ∃ bk' data', putList (entries s) (exclSums (histogram (bwtData s).toArray) 0) data = some (bk', data') ∧
      data'.size = data.size ∧ Table s data' := by
  obtain ⟨bk', data', hrun, hsize, hD, _⟩ :=
    putList_histogram (bwtData s).toArray (bwtData_lt s hb) (entries s) (entries_keys s) data
      (by rw [bwtData_size s hs]; exact hsz)
  refine ⟨bk', data', hrun, hsize, by omega, fun i hi => ?_⟩
  -- suffix `i` is the `m`-th of the bucket of its first symbol `c`
  obtain ⟨hm, hpos⟩ := sorted_idxOf (sa s) (skey s) (sa_sorted_key s) (sa_nodup s) i (mem_sa.2 hi)
  have hBm := List.getElem_idxOf hm
  have hc256 : skey s i < 256 := getD_lt s hb i
  generalize skey s i = c at hm hpos hBm hc256
  generalize (bucket (skey s) (sa s) c).idxOf i = m at hm hpos hBm
  have hm' : m < (ebucket (entries s) c).length := by rw [ebucket_length s hs]; exact hm
  rw [pay_of_lt hi, hpos, ← below_entries s hs c, hD c hc256 m hm', ← getD_map_of_lt (·.2) _ m hm' 0 (0, 0),
    ebucket_words s hs c, getD_map_of_lt (wordOf s) _ m hm 0 0, List.getD_eq_getElem?_getD,
    List.getElem?_eq_getElem hm, hBm]
  rfl

/-! ### the three scatter phases of the model are `putList (entries s)` -/

theorem pay_of_getElem (s : List Nat) (a : Nat) (h : a < (sa s).length) : pay s (sa s)[a] = a := by
  rw [pay_of_lt (mem_sa.1 (List.getElem_mem h))]
  exact (sa_nodup s).idxOf_getElem a h

theorem filter_ne_take_drop (L : List Nat) (x : Nat) (hn : L.Nodup) :
    L.filter (· ≠ x) = L.take (L.idxOf x) ++ L.drop (L.idxOf x + 1) := by
  rw [← List.eraseIdx_eq_take_drop_succ, ← List.erase_eq_eraseIdx_of_idxOf rfl, hn.erase_eq_filter]
  exact List.filter_congr fun y _ => Bool.eq_iff_iff.2 (by simp)

abbrev zpos (s : List Nat) : Nat := (sa s).idxOf 0

theorem zpos_lt (s : List Nat) (hs : 1 ≤ s.length) : zpos s < s.length :=
  idxOf_sa_lt hs

theorem rowsQ_split (s : List Nat) :
    rowsQ s = s.length :: ((sa s).take (zpos s) ++ (sa s).drop (zpos s + 1)) := by
  unfold rowsQ
  rw [filter_ne_take_drop (sa s) 0 (sa_nodup s)]

theorem rowsQ_length (s : List Nat) (hs : 1 ≤ s.length) : (rowsQ s).length = s.length := by
  have := entries_length s hs
  simpa [entries] using this

theorem src_eq_prevSym (s : List Nat) (hs : 1 ≤ s.length) (i : Nat) (hi : i < s.length) :
    rd (bwtData s).toArray i = prevSym s ((rowsQ s).getD i 0) := by
  rw [rd_toArray, ← entries_keys, entries]
  have hl : i < (rowsQ s).length := by rw [rowsQ_length s hs]; exact hi
  simp only [List.map_map, List.getD_eq_getElem?_getD, List.getElem?_map, List.getElem?_eq_getElem hl,
    Option.map_some, Option.getD_some, Function.comp, entryOf]

theorem rowsQ_eq_map (s : List Nat) (hs : 1 ≤ s.length) :
    rowsQ s = (List.range s.length).map (fun i => (rowsQ s).getD i 0) := by
  have := (range_map_getD (rowsQ s) 0).symm
  rwa [rowsQ_length s hs] at this

/-- `rowsQ` behind its head is the suffix array without the row of suffix 0 -/
theorem rowsQ_getD (s : List Nat) (hs : 1 ≤ s.length) (i : Nat) :
    (rowsQ s).getD (i + 1) 0 = (sa s).getD (if i < zpos s then i else i + 1) 0 := by
  have hz := zpos_lt s hs
  have hA : ((sa s).take (zpos s)).length = zpos s := by rw [List.length_take, sa_length]; omega
  rw [rowsQ_split s, List.getD_cons_succ, List.getD_eq_getElem?_getD, List.getD_eq_getElem?_getD]
  by_cases hlt : i < zpos s
  · rw [if_pos hlt, List.getElem?_append_left (by rw [hA]; exact hlt), List.getElem?_take_of_lt hlt]
  · rw [if_neg hlt, List.getElem?_append_right (by rw [hA]; omega), hA, List.getElem?_drop]
    congr 2; omega

/-- on the spec output the three loops of `inverseMergeTPSI` scatter `entries s`: row `j` carries the
symbol in front of its suffix and the suffix array position of that suffix -/
theorem model_entries (s : List Nat) (hs : 1 ≤ s.length) :
    rawEntries (bwtData s).toArray (zpos s + 1) = entries s := by
  have hz := zpos_lt s hs
  have hpay : ∀ a, a < s.length → pay s ((sa s).getD a 0) = a := fun a ha => by
    have h : a < (sa s).length := by rw [sa_length]; exact ha
    rw [List.getD_eq_getElem?_getD, List.getElem?_eq_getElem h]
    exact pay_of_getElem s a h
  rw [entries, rowsQ_eq_map s hs, ← range_pieces s.length (zpos s + 1) ⟨by omega, by omega⟩, rawEntries,
    bwtData_size s hs, Nat.add_sub_cancel, List.map_map, List.map_cons, List.map_append]
  congr 1
  · rw [src_eq_prevSym s hs 0 hs]
    simp [entryOf, pay, rowsQ]
  · congr 1
    · refine List.map_congr_left fun j hj => ?_
      obtain ⟨h1, h2⟩ := List.mem_range'_1.1 hj
      obtain ⟨i, rfl⟩ : ∃ i, j = i + 1 := ⟨j - 1, by omega⟩
      rw [src_eq_prevSym s hs _ (by omega), Function.comp, rowsQ_getD s hs i, if_pos (by omega), entryOf,
        hpay i (by omega), Nat.add_sub_cancel]
    · refine List.map_congr_left fun j hj => ?_
      obtain ⟨h1, h2⟩ := List.mem_range'_1.1 hj
      obtain ⟨i, rfl⟩ : ∃ i, j = i + 1 := ⟨j - 1, by omega⟩
      rw [src_eq_prevSym s hs _ (by omega), Function.comp, rowsQ_getD s hs i, if_neg (by omega), entryOf,
        hpay (i + 1) (by omega), Nat.sub_zero]

/-! ### decoding lanes -/

/-- on the word table a lane at the position of suffix `i` walks the text forward from `i` -/
theorem laneIter_table (s : List Nat) (hb : ∀ x ∈ s, x < 256) (data : Array Nat) (hT : Table s data)
    (k i : Nat) (h : i + k ≤ s.length) (d : Array Nat) :
    laneIter data k (pay s i, d) = (pay s (i + k), d ++ ((s.drop i).take k).toArray) := by
  induction k generalizing i d with
  | zero => simp [laneIter]
  | succ k ih =>
    have hi : i < s.length := by omega
    have hsym := getD_lt s hb i
    have e : laneNext data (pay s i, d) = (pay s (i + 1), d.push (s.getD i 0)) := by
      simp only [laneNext, hT.2 i hi, wordOf]
      congr 2
      · omega
      · omega
    rw [laneIter, e, ih (i + 1) (by omega), List.drop_eq_getElem_cons hi, List.take_succ_cons,
      Array.push_eq_append]
    simp [List.getD_eq_getElem?_getD, hi, Nat.add_assoc, Nat.add_comm 1 k]

/-- A lane is described from the text side by (next text position to decode, bytes written so far);
`conc` is the lane the model holds for it: the table position of that suffix in place of the text
position. -/
def conc (s : List Nat) (l : Nat × Array Nat) : Nat × Array Nat := (pay s l.1, l.2)

/-- the text-side lane after decoding `k` more symbols -/
def adv (s : List Nat) (k : Nat) (l : Nat × Array Nat) : Nat × Array Nat :=
  (l.1 + k, l.2 ++ ((s.drop l.1).take k).toArray)

theorem adv_adv (s : List Nat) (k1 k2 : Nat) (l : Nat × Array Nat) :
    adv s k2 (adv s k1 l) = adv s (k1 + k2) l := by
  simp only [adv, Array.append_assoc, List.append_toArray, Nat.add_assoc]
  rw [List.take_add, List.drop_drop]

theorem adv_empty (s : List Nat) (k i : Nat) : adv s k (i, #[]) = (i + k, ((s.drop i).take k).toArray) := by
  simp [adv]

theorem lanesRun_table (s : List Nat) (hb : ∀ x ∈ s, x < 256) (data : Array Nat) (hT : Table s data)
    (k : Nat) (als : List (Nat × Array Nat)) (h : ∀ l ∈ als, l.1 + k ≤ s.length) :
    lanesRun data k (als.map (conc s)) = some ((als.map (adv s k)).map (conc s)) := by
  rw [lanesRun_eq, List.map_map, List.map_map]
  · exact congrArg some (List.map_congr_left fun l hl => laneIter_table s hb data hT k l.1 (h l hl) l.2)
  · intro l hl j hj
    obtain ⟨l0, hl0, rfl⟩ := List.mem_map.1 hl
    have := h l0 hl0
    rw [conc, laneIter_table s hb data hT j l0.1 (by omega)]
    exact Nat.lt_of_lt_of_le (pay_lt (by omega)) hT.1

theorem concatLanes_toList (ls : List (Nat × Array Nat)) :
    (concatLanes ls).toList = (ls.map (fun l => l.2.toList)).flatten := by
  have : ∀ (acc : Array Nat), (ls.foldl (fun acc l => acc ++ l.2) acc).toList
      = acc.toList ++ (ls.map (fun l => l.2.toList)).flatten := by
    induction ls with
    | nil => intro acc; simp
    | cons l ls ih => intro acc; simp [ih, List.append_assoc]
  simpa [concatLanes] using this #[]

theorem flatten_slices (s : List Nat) (ck m : Nat) :
    ((List.range m).map (fun k => (s.drop (k * ck)).take ck)).flatten = s.take (m * ck) := by
  induction m with
  | zero => simp
  | succ m ih =>
    rw [List.range_succ, List.map_append, List.flatten_append, ih]
    simp only [List.map_cons, List.map_nil, List.flatten_cons, List.flatten_nil, List.append_nil]
    rw [Nat.succ_mul, List.take_add]

/-- `m + 1` lanes started at the multiples of `ck`: all run until the last one reaches the end of the
text, then the first `m` run on to where their successor started.  Together they have written `s`. -/
theorem lanesRun_chunks (s : List Nat) (hb : ∀ x ∈ s, x < 256) (data : Array Nat) (hT : Table s data)
    (m ck : Nat) (h1 : ck * m ≤ s.length) (h2 : s.length ≤ ck * m + ck) :
    ∃ ls1 ls2,
      lanesRun data (s.length - ck * m) ((List.range (m + 1)).map fun k => (pay s (k * ck), #[])) = some ls1 ∧
      lanesRun data (ck - (s.length - ck * m)) (ls1.take m) = some ls2 ∧
      concatLanes (ls2 ++ ls1.drop m) = s.toArray := by
  have hmul : ∀ k, k ≤ m → k * ck ≤ ck * m := fun k hk => by
    rw [Nat.mul_comm ck m]; exact Nat.mul_le_mul_right _ hk
  have hrun1 := lanesRun_table s hb data hT (s.length - ck * m)
    ((List.range (m + 1)).map fun k => (k * ck, #[]))
    (by
      intro l hl
      obtain ⟨k, hk, rfl⟩ := List.mem_map.1 hl
      have := hmul k (by have := List.mem_range.1 hk; omega)
      dsimp only; omega)
  have hrun2 := lanesRun_table s hb data hT (ck - (s.length - ck * m))
    (((List.range m).map fun k => (k * ck, #[])).map (adv s (s.length - ck * m)))
    (by
      intro l hl
      obtain ⟨l0, hl0, rfl⟩ := List.mem_map.1 hl
      obtain ⟨k, hk, rfl⟩ := List.mem_map.1 hl0
      have := hmul (k + 1) (List.mem_range.1 hk)
      rw [Nat.succ_mul] at this
      simp only [adv]; omega)
  have htake : ∀ (f : Nat → Nat × Array Nat), ((List.range (m + 1)).map f).take m = (List.range m).map f := by
    intro f
    rw [List.range_succ, List.map_append, List.take_left' (by simp)]
  have hdrop : ∀ (f : Nat → Nat × Array Nat), ((List.range (m + 1)).map f).drop m = [f m] := by
    intro f
    rw [List.range_succ, List.map_append, List.drop_left' (by simp)]
    rfl
  simp only [List.map_map] at hrun1 hrun2
  refine ⟨_, _, hrun1, (htake _).symm ▸ hrun2, ?_⟩
  have hfin : s.length - ck * m + (ck - (s.length - ck * m)) = ck := by omega
  have hlast : (s.drop (m * ck)).take (s.length - ck * m) = s.drop (m * ck) :=
    List.take_of_length_le (by rw [List.length_drop, Nat.mul_comm]; exact Nat.le_refl _)
  apply Array.ext'
  rw [concatLanes_toList, hdrop]
  simp only [List.map_append, List.map_map, List.map_cons, List.map_nil, List.flatten_append,
    Function.comp_def, conc, adv_adv, hfin]
  simp only [adv_empty, List.toList_toArray, hlast]
  rw [flatten_slices, List.flatten_cons, List.flatten_nil, List.append_nil, List.take_append_drop]

end Kanzi.BWT
