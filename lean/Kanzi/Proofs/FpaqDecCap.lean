/-
Proofs about `FPAQDecoder.Read` on ARBITRARY input (property C03), on top of the generic results of
`Kanzi/Proofs/BinDecCap.lean` instantiated with the FPAQ model (`fpaq_safe`).
-/
import Kanzi.Proofs.BinDecCap

namespace Kanzi.Fpaq
open Kanzi.Bits Kanzi.EntSmall Kanzi.BinEnt

theorem fBufAlloc_len (buffer : List Nat) (sz : Nat) :
    (fBufAlloc buffer sz).length = max buffer.length (max (sz + (sz >>> 2)) 1024) := by
  unfold fBufAlloc
  split
  · simp only [List.length_replicate]; omega
  · omega

theorem fBufLoad_len (buf : List Nat) (sz : Nat) (bytes : List Nat) (hb : bytes.length = sz) (hs : sz ≤ buf.length) :
    (fBufLoad buf sz bytes).length = buf.length := by
  unfold fBufLoad
  simp only [List.length_append, List.length_replicate, List.length_drop, hb]
  omega

/-- the largest buffer a chunk size accepted for a block of `total` bytes can ask for -/
def fCapOf (total : Nat) : Nat := max 1024 ((2 * total - 1) + ((2 * total - 1) >>> 2))


theorem fAlloc_bounds (b sz total : Nat) (h : ¬ sz ≥ 2 * total) :
    sz ≤ max b (max (sz + (sz >>> 2)) 1024) ∧ b ≤ max b (max (sz + (sz >>> 2)) 1024) ∧
    max b (max (sz + (sz >>> 2)) 1024) ≤ max b (fCapOf total) := by
  unfold fCapOf
  simp only [Nat.shiftRight_eq_div_pow]
  exact ⟨by omega, Nat.le_max_left _ _, by omega⟩

/-- the version-3 bit decoder is within the predictor contract too: `p < 2^16` gives `p >> 4 < 2^12` -/
theorem fpaq1_safe : fpaqP1.Safe FR := by
  constructor
  · intro s b hs
    exact fpaq_safe.step s b hs
  · intro s hs
    refine ⟨Or.inl rfl, ?_⟩
    have h := hs (256 * s.t + s.ctx)
    show s.get >>> 4 < 2 ^ (8 + 4)
    unfold FState.get
    rw [Nat.shiftRight_eq_div_pow]
    omega

theorem fReadChunkP_v2 (total chunkSize : Nat) (d : Dec FState) (bs : Bits) :
    fReadChunkP fpaqP total chunkSize d bs = fReadChunk total chunkSize d bs := rfl

theorem fReadChunk_any (P : Pred FState) (hP : P.Safe FR) (total chunkSize : Nat) (d : Dec FState) (bs : Bits)
    (hg : Good FR d) :
    CapOk (Good FR) (fCapOf total) d (fReadChunkP P total chunkSize d bs, fChunkCap total d bs) := by
  unfold fChunkCap fReadChunkP
  cases hv : readVarInt bs with
  | none => exact CapOk.error _ (Nat.le_refl _) (Nat.le_max_left _ _)
  | some p =>
    obtain ⟨sz, r⟩ := p
    simp only []
    by_cases hrej : sz ≥ 2 * total
    · rw [if_pos hrej, if_pos hrej]
      exact CapOk.error _ (Nat.le_refl _) (Nat.le_max_left _ _)
    · rw [if_neg hrej, if_neg hrej]
      have hlen := fBufAlloc_len d.buffer sz
      obtain ⟨hsz, hlo, hhi⟩ := fAlloc_bounds d.buffer.length sz total hrej
      rw [← hlen] at hsz hlo hhi
      refine ⟨hlo, hhi, fun c h => ?_⟩
      cases hc : readBits 56 r with
      | none => simp only [hc] at h; cases h
      | some q =>
        obtain ⟨cur, r1⟩ := q
        simp only [hc] at h
        cases hb : readBytes sz r1 with
        | none => simp only [hb] at h; cases h
        | some q2 =>
          obtain ⟨bytes, r2⟩ := q2
          simp only [hb] at h
          have hbl : bytes.length = sz := readBytes_len sz r1 bytes r2 hb
          generalize hd0 : (Dec.mk d.ps.chunkStart d.low d.high cur (fBufLoad (fBufAlloc d.buffer sz) sz bytes) (fBufLoad (fBufAlloc d.buffer sz) sz bytes) : Dec FState) = d0 at h
          have hg0 : Good FR d0 := by subst hd0; exact ⟨fr_chunkStart _ hg.1, hg.2⟩
          have hb0 : d0.buffer.length = (fBufAlloc d.buffer sz).length := by
            subst hd0
            exact fBufLoad_len _ _ _ hbl hsz
          cases hdec : Dec.decodeBytes P chunkSize d0 [] with
          | error x => simp only [hdec] at h; cases h
          | ok res =>
            simp only [hdec] at h
            cases h
            obtain ⟨q1, q2, _, _⟩ := (decodeBytes_any P hP chunkSize d0 [] hg0).2 res.1 res.2 hdec
            exact ⟨q1, by rw [q2, hb0]⟩

theorem fReadChunksCap_eq (P : Pred FState) (C total : Nat) :
    ∀ (fuel : Nat) (d : Dec FState) (count : Nat) (bs : Bits),
    fReadChunksCap P C total fuel d count bs
      = readLoopCap (fReadChunkP P total) (fChunkCap total) C fuel d count bs := by
  intro fuel
  induction fuel with
  | zero => intro d count bs; rfl
  | succ fuel ih =>
    intro d count bs
    simp only [fReadChunksCap, readLoopCap, ih]
    split
    · rfl
    · cases fReadChunkP P total (min C count) d bs with
      | error x => rfl
      | ok c =>
        simp only
        cases readLoopCap (fReadChunkP P total) (fChunkCap total) C fuel c.2.1 (count - min C count) c.2.2 with
        | mk res n => cases res <;> rfl

theorem fReadCap_fst (C : Nat) (d : Dec FState) (bs : Bits) (count : Nat) :
    (fReadCap fpaqP C d bs count).1 = fRead C d bs count := by
  unfold fReadCap fRead
  split
  · rfl
  · rw [fReadChunksCap_eq, fReadChunks_eq]
    exact readLoopCap_fst _ _ _ _ _ _ _

/-- **allocation bound of `FPAQDecoder.Read`, every path** -/
theorem fReadCap_bound (P : Pred FState) (hP : P.Safe FR) (C : Nat) (d : Dec FState) (bs : Bits) (count : Nat)
    (hg : Good FR d) : CapOk (Good FR) (fCapOf count) d (fReadCap P C d bs count) := by
  unfold fReadCap
  split
  · exact CapOk.error _ (Nat.le_refl _) (Nat.le_max_left _ _)
  · rw [fReadChunksCap_eq]
    exact readLoopCap_bound _ C (fun n d bs hg => fReadChunk_any P hP count n d bs hg) count d count bs hg

/-- after one `read()` the top 32 bits of the interval differ: the refill loop of `decodeBitV1`
    (`for (low^high)>>24 == 0 { read() }`) runs at most once -/
theorem read_once {σ : Type} (d d' : Dec σ) (h : d.read = .ok d') : ¬ (d'.low ^^^ d'.high) < 2 ^ 24 := by
  obtain ⟨_, _, _, g4, g5⟩ := read_facts d d' h
  intro hc
  have he := (xor_lt_iff _ _).mp hc
  rw [g4, g5] at he
  omega

theorem fRead_fresh (C : Nat) (bs : Bits) (count : Nat) :
    fpaqDecode C bs count = (match fRead C (Dec.init FState.init) bs count with
      | .error x => .error x
      | .ok r => .ok (r.1, r.2.2)) := by
  unfold fpaqDecode fRead
  split <;> rfl

end Kanzi.Fpaq
