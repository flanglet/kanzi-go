/-
`AliasCodec`, the small-alphabet paths (one symbol, 2 bits per symbol, 4 bits per symbol).  `fwdPack`
never faults when the destination has `len + 1024` bytes and its output is an explicit list
(`packed4` / `packed2`); the unpacking loops of Inverse invert the packing.
-/
import Kanzi.Proofs.AliasBase

namespace Kanzi.Alias
open Kanzi.RLT

/-! ## array bookkeeping -/

theorem appendList_nil (out : Array Nat) : out ++ ([] : List Nat) = out := by
  apply Array.toList_inj.mp; simp

theorem toList_appendList (out : Array Nat) (l : List Nat) : (out ++ l).toList = out.toList ++ l := by simp

/-! ## pure packing -/

def packed4 (syms : List Nat) : List Nat → List Nat
  | a :: b :: c :: d :: tl => pack4 syms a b c d :: packed4 syms tl
  | _ => []

def packed2 (syms : List Nat) : List Nat → List Nat
  | a :: b :: tl => pack2 syms a b :: packed2 syms tl
  | _ => []

theorem packed4_length (syms : List Nat) : ∀ (n : Nat) (l : List Nat), l.length = 4 * n → (packed4 syms l).length = n
  | 0, [], _ => rfl
  | k + 1, a :: b :: c :: d :: tl, hl =>
    congrArg (· + 1) (packed4_length syms k tl (by simp only [List.length_cons] at hl; omega))

theorem packed2_length (syms : List Nat) : ∀ (n : Nat) (l : List Nat), l.length = 2 * n → (packed2 syms l).length = n
  | 0, [], _ => rfl
  | k + 1, a :: b :: tl, hl =>
    congrArg (· + 1) (packed2_length syms k tl (by simp only [List.length_cons] at hl; omega))

theorem pack4Loop_eq (syms : List Nat) (dstEnd : Nat) : ∀ (n : Nat) (l : List Nat) (out : Array Nat),
    l.length = 4 * n → out.size + n ≤ dstEnd → pack4Loop syms dstEnd l out = .ok (out ++ packed4 syms l)
  | 0, [], out, _, _ => congrArg Out.ok (appendList_nil out).symm
  | k + 1, a :: b :: c :: d :: tl, out, hl, hd => by
    unfold pack4Loop
    rw [wr_ok _ _ _ (by simp only [List.length_cons, List.length_nil]; omega)]
    simp only
    rw [pack4Loop_eq syms dstEnd k tl _ (by simp only [List.length_cons] at hl; omega)
      (by simp only [size_appendList, List.length_cons, List.length_nil]; omega), appendList_assoc]
    rfl

theorem pack2Loop_eq (syms : List Nat) (dstEnd : Nat) : ∀ (n : Nat) (l : List Nat) (out : Array Nat),
    l.length = 2 * n → out.size + n ≤ dstEnd → pack2Loop syms dstEnd l out = .ok (out ++ packed2 syms l)
  | 0, [], out, _, _ => congrArg Out.ok (appendList_nil out).symm
  | k + 1, a :: b :: tl, out, hl, hd => by
    unfold pack2Loop
    rw [wr_ok _ _ _ (by simp only [List.length_cons, List.length_nil]; omega)]
    simp only
    rw [pack2Loop_eq syms dstEnd k tl _ (by simp only [List.length_cons] at hl; omega)
      (by simp only [size_appendList, List.length_cons, List.length_nil]; omega), appendList_assoc]
    rfl

/-! ## `fwdPack` is total and has an explicit output -/

theorem presentSyms_length_le (freqs : Array Nat) : (presentSyms freqs).length ≤ 256 := by
  have := absent_present_length freqs; omega

/-- Forward copies the first `len % w` bytes and packs the rest, `w` symbols per byte -/
theorem take_drop_mod (src : List Nat) (w : Nat) :
    (src.take (src.length % w)).length = src.length % w ∧
      (src.drop (src.length % w)).length = w * (src.length / w) :=
  ⟨by rw [List.length_take, Nat.min_eq_left (Nat.mod_le _ _)],
    by rw [List.length_drop]; exact Nat.sub_eq_of_eq_add (Nat.div_add_mod _ w).symm⟩

theorem fwdPack_one (src : List Nat) (s0 : Nat) (tl : List Nat) (dstEnd : Nat) (freqs : Array Nat)
    (hs : src = s0 :: tl) (hdst : 6 ≤ dstEnd) :
    fwdPack src dstEnd freqs 255 = .ok ((#[] : Array Nat) ++ ([255, s0] ++ le32Bytes src.length)) := by
  subst hs
  unfold fwdPack
  rw [wr_ok _ _ _ (by simp; omega)]
  simp only [Out.bind_ok, if_true]
  rw [wr_ok _ _ _ (by simp; omega)]
  simp only [Out.bind_ok]
  rw [wr_ok _ _ _ (by simp [le32Bytes]; omega)]
  rw [appendList_assoc, appendList_assoc]
  rfl

/-- what both packing branches of `fwdPack` do after the alphabet: store `len % w`, copy that many bytes, then run
    the packing loop (`loop`, storing `packed`) over the rest -/
theorem packTail (src : List Nat) (dstEnd w : Nat) (o : Array Nat) (loop : List Nat → Array Nat → Out (Array Nat))
    (packed : List Nat → List Nat)
    (hloop : ∀ (n : Nat) (l : List Nat) (out : Array Nat), l.length = w * n → out.size + n ≤ dstEnd →
      loop l out = .ok (out ++ packed l))
    (hw : 0 < w) (hdst : o.size + src.length + 1 ≤ dstEnd) :
    ((wr dstEnd o [src.length % w]).bind fun o2 =>
      (wr dstEnd o2 (src.take (src.length % w))).bind fun o3 => loop (src.drop (src.length % w)) o3)
      = .ok (o ++ ([src.length % w] ++ (src.take (src.length % w) ++ packed (src.drop (src.length % w))))) := by
  obtain ⟨htake, hdrop⟩ := take_drop_mod src w
  have hq : src.length / w + src.length % w ≤ src.length := by
    have := Nat.div_add_mod src.length w
    have := Nat.le_mul_of_pos_left (src.length / w) hw
    omega
  have hr := Nat.mod_le src.length w
  rw [wr_ok _ _ _ (by simp only [List.length_cons, List.length_nil]; omega), Out.bind_ok,
    wr_ok _ _ _ (by simp only [size_appendList, htake, List.length_cons, List.length_nil]; omega), Out.bind_ok,
    hloop (src.length / w) _ _ hdrop (by simp only [size_appendList, htake, List.length_cons, List.length_nil]; omega),
    appendList_assoc, appendList_assoc]

theorem fwdPack_four (src : List Nat) (dstEnd : Nat) (freqs : Array Nat) (n0 : Nat)
    (h1 : n0 ≠ 255) (h2 : n0 ≥ 252) (hdst : src.length + 1024 ≤ dstEnd) :
    fwdPack src dstEnd freqs n0 = .ok ((#[] : Array Nat) ++ ([n0 % 256] ++ (presentSyms freqs ++ ([src.length % 4] ++
      (src.take (src.length % 4) ++ packed4 (presentSyms freqs) (src.drop (src.length % 4))))))) := by
  have hp := presentSyms_length_le freqs
  unfold fwdPack
  rw [wr_ok _ _ _ (by simp; omega), Out.bind_ok, if_neg h1]
  simp only []
  rw [wr_ok _ _ _ (by simp; omega), Out.bind_ok, if_pos h2,
    packTail src dstEnd 4 _ _ _ (pack4Loop_eq _ _) (by decide) (by simp; omega),
    appendList_assoc, appendList_assoc]

theorem fwdPack_sixteen (src : List Nat) (dstEnd : Nat) (freqs : Array Nat) (n0 : Nat)
    (h1 : n0 ≠ 255) (h2 : ¬ n0 ≥ 252) (hdst : src.length + 1024 ≤ dstEnd) :
    fwdPack src dstEnd freqs n0 = .ok ((#[] : Array Nat) ++ ([n0 % 256] ++ (presentSyms freqs ++ ([src.length % 2] ++
      (src.take (src.length % 2) ++ packed2 (presentSyms freqs) (src.drop (src.length % 2))))))) := by
  have hp := presentSyms_length_le freqs
  unfold fwdPack
  rw [wr_ok _ _ _ (by simp; omega), Out.bind_ok, if_neg h1]
  simp only []
  rw [wr_ok _ _ _ (by simp; omega), Out.bind_ok, if_neg h2,
    packTail src dstEnd 2 _ _ _ (pack2Loop_eq _ _) (by decide) (by simp; omega),
    appendList_assoc, appendList_assoc]

/-! ## unpacking -/

theorem unpackLoop_eq (dec : Nat → List Nat) (dstEnd : Nat) : ∀ (xs : List Nat) (out : Array Nat),
    out.size + (xs.flatMap dec).length ≤ dstEnd → unpackLoop dec dstEnd xs out = .ok (out ++ xs.flatMap dec) := by
  intro xs
  induction xs with
  | nil => intro out _; simp [unpackLoop]
  | cons x tl ih =>
    intro out h
    simp only [List.flatMap_cons, List.length_append] at h
    unfold unpackLoop
    rw [wr_ok _ _ _ (by omega)]
    simp only
    rw [ih _ (by rw [size_appendList]; omega), appendList_assoc]
    simp

theorem decode4_pack4 (syms : List Nat) (hs : syms.length ≤ 4) (a b c d : Nat)
    (ha : a ∈ syms) (hb : b ∈ syms) (hc : c ∈ syms) (hd : d ∈ syms) :
    decode4 syms (pack4 syms a b c d) = [a, b, c, d] := by
  have h := pack4_bits (map8 syms a) (map8 syms b) (map8 syms c) (map8 syms d)
    (by have := map8_lt syms a ha; omega) (by have := map8_lt syms b hb; omega)
    (by have := map8_lt syms c hc; omega) (by have := map8_lt syms d hd; omega)
  unfold decode4 pack4
  rw [h.2.1, h.2.2.1, h.2.2.2.1, h.2.2.2.2, i2s_map8 _ _ ha, i2s_map8 _ _ hb, i2s_map8 _ _ hc, i2s_map8 _ _ hd]

theorem decode2_pack2 (syms : List Nat) (hs : syms.length ≤ 16) (a b : Nat)
    (ha : a ∈ syms) (hb : b ∈ syms) : decode2 syms (pack2 syms a b) = [a, b] := by
  have h := pack2_bits (map8 syms a) (map8 syms b)
    (by have := map8_lt syms a ha; omega) (by have := map8_lt syms b hb; omega)
  unfold decode2 pack2
  rw [h.2.1, h.2.2, i2s_map8 _ _ ha, i2s_map8 _ _ hb]

theorem flatMap_decode4_packed4 (syms : List Nat) (hs : syms.length ≤ 4) : ∀ (n : Nat) (l : List Nat),
    l.length = 4 * n → (∀ x ∈ l, x ∈ syms) → (packed4 syms l).flatMap (decode4 syms) = l
  | 0, [], _, _ => rfl
  | k + 1, a :: b :: c :: d :: tl, hl, hm => by
    simp only [packed4, List.flatMap_cons]
    rw [decode4_pack4 syms hs a b c d (hm a (by simp)) (hm b (by simp)) (hm c (by simp)) (hm d (by simp)),
      flatMap_decode4_packed4 syms hs k tl (by simp only [List.length_cons] at hl; omega)
        (fun x hx => hm x (by simp [hx]))]
    rfl

theorem flatMap_decode2_packed2 (syms : List Nat) (hs : syms.length ≤ 16) : ∀ (n : Nat) (l : List Nat),
    l.length = 2 * n → (∀ x ∈ l, x ∈ syms) → (packed2 syms l).flatMap (decode2 syms) = l
  | 0, [], _, _ => rfl
  | k + 1, a :: b :: tl, hl, hm => by
    simp only [packed2, List.flatMap_cons]
    rw [decode2_pack2 syms hs a b (hm a (by simp)) (hm b (by simp)),
      flatMap_decode2_packed2 syms hs k tl (by simp only [List.length_cons] at hl; omega)
        (fun x hx => hm x (by simp [hx]))]
    rfl

theorem map8_byte (syms : List Nat) (hs : syms.length ≤ 256) (x : Nat) : map8 syms x < 256 := by
  by_cases hx : x ∈ syms
  · exact Nat.lt_of_lt_of_le (map8_lt syms x hx) hs
  · unfold map8
    rw [if_neg hx]
    decide

theorem packed4_lt (syms : List Nat) (hs : syms.length ≤ 256) (l : List Nat) : ∀ y ∈ packed4 syms l, y < 256 := by
  fun_induction packed4 syms l with
  | case1 a b c d tl ih =>
    exact List.forall_mem_cons.mpr ⟨(pack4_lt syms a b c d).resolve_right (not_not_intro (map8_byte syms hs d)), ih⟩
  | case2 => exact fun y hy => nomatch hy

theorem packed2_lt (syms : List Nat) (hs : syms.length ≤ 256) (l : List Nat) : ∀ y ∈ packed2 syms l, y < 256 := by
  fun_induction packed2 syms l with
  | case1 a b tl ih =>
    exact List.forall_mem_cons.mpr ⟨Nat.or_lt_two_pow (n := 8) (Nat.mod_lt _ (by decide)) (map8_byte syms hs b), ih⟩
  | case2 => exact fun y hy => nomatch hy

end Kanzi.Alias

namespace Kanzi.Alias
open Kanzi.RLT

/-! ## Inverse on the packed formats -/

theorem aliasInverse_one (s0 len n : Nat) (hlen : len < 2 ^ 32) (hn : len ≤ n) (hn1 : 1 ≤ n) :
    aliasInverse ([255, s0] ++ le32Bytes len) n = .ok (List.replicate len s0) := by
  have h := le32_roundtrip len hlen
  have hn0 : n ≠ 0 := by omega
  simp only [aliasInverse, le32Bytes, List.cons_append, List.nil_append, List.length_cons, List.length_nil]
  simp [hn0]
  rw [h]
  simp [Nat.not_lt.mpr hn]

/-- Inverse on a packed block: two bits per symbol for an alphabet of at most four symbols, four bits otherwise -/
theorem aliasInverse_packed (n0 s c : Nat) (ss pre packed : List Nat) (n : Nat)
    (hsum : n0 + (s :: ss).length = 256) (hlo : 2 ≤ (s :: ss).length) (hhi : (s :: ss).length ≤ 16)
    (hc : pre.length = c) (hc3 : c ≤ if (s :: ss).length ≤ 4 then 3 else 1) (hn : c ≤ n) (hn1 : 1 ≤ n) :
    aliasInverse (n0 :: ((s :: ss) ++ (c :: (pre ++ packed)))) n =
      (unpackLoop (if (s :: ss).length ≤ 4 then decode4 (s :: ss) else decode2 (s :: ss)) n packed pre.toArray).bind
        fun o => .ok o.toList := by
  subst hc
  have hn0 : 256 - n0 = (s :: ss).length := by omega
  have hnz : n ≠ 0 := by omega
  have h16 : ¬ n0 < 16 := by omega
  have h240 : n0 ≥ 240 := by omega
  have hne1 : ¬ (256 - n0 = 1) := by omega
  have hdrop : List.drop (256 - n0) (s :: (ss ++ pre.length :: (pre ++ packed))) = pre.length :: (pre ++ packed) := by
    rw [hn0, ← List.cons_append]; exact List.drop_left
  have htake : List.take (256 - n0) (s :: (ss ++ pre.length :: (pre ++ packed))) = s :: ss := by
    rw [hn0, ← List.cons_append]; exact List.take_left
  generalize hdec : (if (s :: ss).length ≤ 4 then decode4 (s :: ss) else decode2 (s :: ss)) = dec
  have h2 : ∀ k, ¬ k + 1 + 1 < 2 := fun k => by omega
  simp only [aliasInverse, List.cons_append, List.length_cons]
  simp only [Nat.add_one_ne_zero, h2, hnz, h16, h240, hne1, hdrop, htake, if_false, if_true, or_false]
  by_cases h4 : (s :: ss).length ≤ 4
  · rw [if_pos h4] at hc3 hdec
    subst hdec
    have h4' : 256 - n0 ≤ 4 := by omega
    have hc3' : ¬ pre.length > 3 := by omega
    have hlenpre : ¬ (pre ++ packed).length < pre.length := by simp
    have hadj : ¬ pre.length > n := by omega
    simp only [h4', hc3', hlenpre, hadj, List.take_left, List.drop_left, if_false, if_true]
  · rw [if_neg h4] at hc3 hdec
    subst hdec
    have h4' : ¬ 256 - n0 ≤ 4 := by omega
    have hc3' : ¬ pre.length > 3 := by omega
    simp only [h4', hc3', if_false]
    match pre, hc3 with
    | [], _ => simp
    | [x], _ =>
      simp only [List.length_cons, List.length_nil, ne_eq, Nat.succ_ne_zero, not_false_eq_true, if_true,
        List.cons_append, List.nil_append]
      rw [wr_ok _ _ _ (by simp; omega)]
      simp

/-- Inverse of a packed block as Forward writes it for `src`; `pk` is `packed4` or `packed2` -/
theorem aliasInverse_src (n0 s : Nat) (ss src : List Nat) (w n : Nat) (pk : List Nat → List Nat)
    (hsum : n0 + (s :: ss).length = 256) (hlo : 2 ≤ (s :: ss).length) (hhi : (s :: ss).length ≤ 16)
    (hw : w = if (s :: ss).length ≤ 4 then 4 else 2)
    (hflat : ∀ (k : Nat) (l : List Nat), l.length = w * k → (∀ x ∈ l, x ∈ s :: ss) →
      (pk l).flatMap (if (s :: ss).length ≤ 4 then decode4 (s :: ss) else decode2 (s :: ss)) = l)
    (hmem : ∀ x ∈ src, x ∈ s :: ss) (hn : src.length ≤ n) (hn1 : 1 ≤ n) :
    aliasInverse (n0 :: ((s :: ss) ++ (src.length % w ::
      (src.take (src.length % w) ++ pk (src.drop (src.length % w)))))) n = .ok src := by
  obtain ⟨hpre, hrest⟩ := take_drop_mod src w
  have hflat := hflat _ _ hrest fun x hx => hmem x (List.mem_of_mem_drop hx)
  have hc : src.length % w ≤ if (s :: ss).length ≤ 4 then 3 else 1 := by
    rw [hw]; split <;> exact Nat.le_of_lt_succ (Nat.mod_lt _ (by decide))
  have hr := Nat.mod_le src.length w
  have hlen := congrArg List.length (List.take_append_drop (src.length % w) src)
  rw [List.length_append] at hlen
  rw [aliasInverse_packed n0 s _ ss _ _ n hsum hlo hhi hpre hc (by omega) hn1,
    unpackLoop_eq _ _ _ _ (by rw [hflat, List.size_toArray]; omega), hflat, Out.bind_ok, Array.toList_appendList,
    List.take_append_drop]

end Kanzi.Alias
