/-
BWTS (C13): the array level of `BWTS.Inverse`.

  * `lfOf_spec`      the `lf` array is the standard permutation ("LF mapping") `lfRank t`
  * `invLoop_spec`   the cycle-following loops never fault and compute the pure function `visitGo`
  * `bwtsInverseFill_eq` `bwtsInverseFill fill t d = .ok (decode t)` for every byte string `t` of at most
                     `maxBlockSize` letters and every destination length `d ≥ |t|`
-/
import Kanzi.Model.BWTS
import Kanzi.Proofs.BWTSort
import Mathlib.Data.List.Nodup
import Mathlib.Data.List.Perm.Basic

namespace Kanzi.BWTS

/-! ## `rd` / `wr` -/

theorem size_wr (a : Array Nat) (i v : Nat) : (wr a i v).size = a.size :=
  Array.size_setIfInBounds

theorem rd_wr (a : Array Nat) (i v j : Nat) :
    rd (wr a i v) j = if i = j ∧ i < a.size then v else rd a j :=
  getD_setIfInBounds a i v j 0

theorem rd_zeros (i : Nat) : rd zeros i = 0 :=
  (BWT.rd_replicate 256 0 i).trans (ite_self 0)

theorem size_zeros : zeros.size = 256 := Array.size_replicate

/-! ## histogram, cumulated buckets, `lf` -/

theorem countP_lt_succ (t : List Nat) (c : Nat) :
    t.countP (fun x => decide (x < c + 1)) = t.countP (fun x => decide (x < c)) + t.count c := by
  simpa only [List.countP_eq_length_filter] using BWT.filter_lt_succ_length t c

theorem histo_go (src : List Nat) (b : Array Nat) (hb : b.size = 256) :
    (src.foldl (fun b c => wr b c (rd b c + 1)) b).size = 256 ∧
    ∀ c, c < 256 → rd (src.foldl (fun b c => wr b c (rd b c + 1)) b) c = rd b c + src.count c := by
  induction src generalizing b with
  | nil => simp [hb]
  | cons a src ih =>
    have h := ih (wr b a (rd b a + 1)) (by rw [size_wr, hb])
    refine ⟨h.1, fun c hc => ?_⟩
    rw [List.foldl_cons, h.2 c hc, rd_wr, List.count_cons]
    by_cases hac : a = c
    · subst hac; simp [hb, hc]; omega
    · simp [hac]

theorem histo_spec (t : List Nat) :
    (histo t).size = 256 ∧ ∀ c, c < 256 → rd (histo t) c = t.count c := by
  have h := histo_go t zeros size_zeros
  refine ⟨h.1, fun c hc => ?_⟩
  unfold histo
  rw [h.2 c hc, rd_zeros]; omega

theorem cumul_go (t : List Nat) (k : Nat) (hk : k ≤ 256) :
    let acc := (List.range k).foldl cumulStep (histo t, 0)
    acc.1.size = 256 ∧ acc.2 = t.countP (fun x => decide (x < k)) ∧
      ∀ c, c < 256 → rd acc.1 c = if c < k then t.countP (fun x => decide (x < c)) else t.count c := by
  induction k with
  | zero =>
    have h := histo_spec t
    simp [h.1]
    intro c hc; exact h.2 c hc
  | succ k ih =>
    have h := ih (by omega)
    simp only [List.range_succ, List.foldl_append, List.foldl_cons, List.foldl_nil] at h ⊢
    generalize (List.range k).foldl cumulStep (histo t, 0) = acc at h
    obtain ⟨h1, h2, h3⟩ := h
    have hk' : k < 256 := by omega
    have hrk := h3 k hk'
    simp only [Nat.lt_irrefl, if_false] at hrk
    refine ⟨by simp [cumulStep, size_wr, h1], ?_, ?_⟩
    · simp only [cumulStep]; rw [h2, hrk, countP_lt_succ]
    · intro c hc
      simp only [cumulStep]
      rw [rd_wr, h3 c hc, h1]
      by_cases hkc : k = c
      · subst hkc; simp [hk', h2]
      · rw [if_neg (fun h => hkc h.1)]
        exact if_congr (by omega) rfl rfl

theorem cumul_spec (t : List Nat) :
    (cumul (histo t)).size = 256 ∧
      ∀ c, c < 256 → rd (cumul (histo t)) c = t.countP (fun x => decide (x < c)) := by
  have h := cumul_go t 256 (Nat.le_refl _)
  refine ⟨h.1, fun c hc => ?_⟩
  have := h.2.2 c hc
  simpa [cumul, hc] using this

/-- the standard permutation of `t` (LF mapping): the position of `t[i]` after a stable sort -/
def lfRank (t : List Nat) (i : Nat) : Nat :=
  t.countP (fun x => decide (x < t.getD i 0)) + (t.take i).count (t.getD i 0)

theorem lf_go (t pre rest : List Nat) (ht : t = pre ++ rest) (hb : ∀ x ∈ t, x < 256)
    (acc : Array Int × Array Nat) (h1 : acc.1.size = pre.length) (h2 : acc.2.size = 256)
    (h3 : ∀ i, i < pre.length → acc.1.getD i 0 = Int.ofNat (lfRank t i))
    (h4 : ∀ c, c < 256 → rd acc.2 c = t.countP (fun x => decide (x < c)) + pre.count c) :
    (rest.foldl lfStep acc).1.size = t.length ∧
      ∀ i, i < t.length → (rest.foldl lfStep acc).1.getD i 0 = Int.ofNat (lfRank t i) := by
  induction rest generalizing pre acc with
  | nil =>
    simp only [List.append_nil] at ht
    subst ht
    exact ⟨h1, h3⟩
  | cons a rest ih =>
    have ha : a < 256 := hb a (by simp [ht])
    have hget : t.getD pre.length 0 = a := by simp [ht]
    have htake : t.take pre.length = pre := by simp [ht]
    refine ih (pre ++ [a]) (by simp [ht]) (lfStep acc a) ?_ ?_ ?_ ?_
    · simp [lfStep, h1]
    · simp [lfStep, size_wr, h2]
    · intro i hi
      rw [List.length_append, List.length_singleton] at hi
      show (acc.1.push (Int.ofNat (rd acc.2 a))).getD i 0 = _
      rw [BWT.getD_push, h1]
      split
      · next e => rw [e, h4 a ha, lfRank, hget, htake]
      · exact h3 i (by omega)
    · intro c hc
      simp only [lfStep]
      rw [rd_wr, h2, h4 c hc, List.count_append]
      by_cases hac : a = c
      · subst hac; simp [ha, h4 a ha]; omega
      · simp [hac]

theorem lfOf_spec (t : List Nat) (hb : ∀ x ∈ t, x < 256) :
    (lfOf t).size = t.length ∧ ∀ i, i < t.length → (lfOf t).getD i 0 = Int.ofNat (lfRank t i) := by
  have hc := cumul_spec t
  have h0 : ((#[] : Array Int), cumul (histo t)).1.size = ([] : List Nat).length := by simp
  have h := lf_go t [] t (by simp) hb (#[], cumul (histo t)) h0
  simp only [List.length_nil, Nat.not_lt_zero, false_imp_iff, implies_true, List.count_nil,
    Nat.add_zero, forall_const] at h
  exact h hc.1 hc.2

theorem count_take_lt (t : List Nat) (i : Nat) (hi : i < t.length) :
    (t.take i).count (t.getD i 0) < t.count (t.getD i 0) := by
  have h : t = t.take i ++ t.getD i 0 :: t.drop (i + 1) := by
    simp [List.getD_eq_getElem?_getD, List.getElem?_eq_getElem hi]
  generalize t.getD i 0 = c at h
  conv => rhs; rw [h]
  simp [List.count_append]

theorem lfRank_lt (t : List Nat) (i : Nat) (hi : i < t.length) : lfRank t i < t.length := by
  unfold lfRank
  have h1 := count_take_lt t i hi
  have h2 := countP_lt_succ t (t.getD i 0)
  have h3 : t.countP (fun x => decide (x < t.getD i 0 + 1)) ≤ t.length := List.countP_le_length
  omega

/-! ## the cycle-following loops -/

/-- pure version of the inner loop: push `p`, `π p`, … (newest first) until the next index is marked -/
def cycleGo (π : Nat → Nat) : Nat → List Nat → Nat → List Nat
  | 0, vis, _ => vis
  | f + 1, vis, p => if π p ∈ p :: vis then p :: vis else cycleGo π f (p :: vis) (π p)

/-- pure version of the outer loop: the visited indices, newest first -/
def visitGo (π : Nat → Nat) (n : Nat) : Nat → List Nat → Nat → List Nat
  | 0, vis, _ => vis
  | f + 1, vis, i =>
    if n ≤ vis.length then vis
    else if i ∈ vis then visitGo π n f vis (i + 1)
    else visitGo π n f (cycleGo π (n + 1) vis i) (i + 1)

theorem cycleGo_mono (π : Nat → Nat) (f : Nat) (vis : List Nat) (p x : Nat) (hx : x ∈ vis) :
    x ∈ cycleGo π f vis p := by
  induction f generalizing vis p with
  | zero => exact hx
  | succ f ih =>
    unfold cycleGo
    split
    · exact List.mem_cons_of_mem _ hx
    · exact ih _ _ (List.mem_cons_of_mem _ hx)

theorem cycleGo_self (π : Nat → Nat) (f : Nat) (vis : List Nat) (p : Nat) :
    p ∈ cycleGo π (f + 1) vis p := by
  unfold cycleGo
  split
  · exact List.mem_cons_self
  · exact cycleGo_mono π f _ _ p List.mem_cons_self

theorem below_succ {vis vis' : List Nat} {i : Nat} (h : ∀ q, q < i → q ∈ vis)
    (hs : ∀ q ∈ vis, q ∈ vis') (hi : i ∈ vis') : ∀ q, q < i + 1 → q ∈ vis' := by
  intro q hq
  by_cases hqi : q = i
  · exact hqi ▸ hi
  · exact hs q (h q (by omega))

theorem nodup_length_le {l : List Nat} {n : Nat} (hd : l.Nodup) (hb : ∀ x ∈ l, x < n) :
    l.length ≤ n := by
  have h : l ⊆ List.range n := fun x hx => List.mem_range.2 (hb x hx)
  have := (List.subperm_of_subset hd h).length_le
  simpa using this

theorem length_ge_of_all {l : List Nat} {n : Nat} (h : ∀ q, q < n → q ∈ l) : n ≤ l.length := by
  have hs : List.range n ⊆ l := fun x hx => h x (List.mem_range.1 hx)
  have := (List.subperm_of_subset (List.nodup_range (n := n)) hs).length_le
  simpa using this

/-- loop invariant: `vis` = the marked indices, newest first; `dst[rem ..]` holds their letters -/
structure Inv (π : Nat → Nat) (t : List Nat) (d : Nat) (st : InvSt) (vis : List Nat) : Prop where
  lfsize : st.lf.size = t.length
  lfval : ∀ q, q < t.length → st.lf.getD q 0 = if q ∈ vis then -1 else Int.ofNat (π q)
  nodup : vis.Nodup
  bound : ∀ q ∈ vis, q < t.length
  rem : st.rem + vis.length = t.length
  dsize : st.dst.size = d
  dval : (st.dst.toList.drop st.rem).take vis.length = vis.map (fun q => t.getD q 0)

theorem Inv.push {π : Nat → Nat} {t : List Nat} {d : Nat} {st : InvSt} {vis : List Nat}
    (hI : Inv π t d st vis) (hd : t.length ≤ d) {p : Nat} (hp : p < t.length) (hpv : p ∉ vis) :
    Inv π t d ⟨st.lf.setIfInBounds p (-1),
      st.dst.setIfInBounds (st.rem - 1) (t.toArray.getD p 0), st.rem - 1⟩ (p :: vis) ∧ st.rem ≠ 0 := by
  have hbd : ∀ x ∈ p :: vis, x < t.length := by
    intro x hx; rcases List.mem_cons.1 hx with h | h
    · exact h ▸ hp
    · exact hI.bound x h
  have hlen := nodup_length_le (l := p :: vis) (n := t.length) (List.nodup_cons.2 ⟨hpv, hI.nodup⟩) hbd
  simp only [List.length_cons] at hlen
  have hr := hI.rem
  have hrem : st.rem ≠ 0 := by omega
  refine ⟨⟨by simp [hI.lfsize], ?_, List.nodup_cons.2 ⟨hpv, hI.nodup⟩, hbd, ?_, by simp [hI.dsize], ?_⟩, hrem⟩
  · intro q hq
    show (st.lf.setIfInBounds p (-1)).getD q 0 = _
    rw [getD_setIfInBounds, hI.lfval q hq, hI.lfsize]
    by_cases hqp : p = q
    · subst hqp; simp [hp]
    · have : ¬ q = p := fun h => hqp h.symm
      simp [hqp, this]
  · simp only [List.length_cons]; omega
  · have hdv := hI.dval
    have hds := hI.dsize
    show ((st.dst.setIfInBounds (st.rem - 1) (t.toArray.getD p 0)).toList.drop (st.rem - 1)).take
      (p :: vis).length = _
    rw [Array.toList_setIfInBounds, List.drop_set, if_neg (Nat.lt_irrefl _), Nat.sub_self,
      List.drop_eq_getElem_cons (by simp; omega), List.set_cons_zero]
    have h1 : st.rem - 1 + 1 = st.rem := by omega
    simp only [List.length_cons, List.map_cons, List.take_succ_cons, h1, hdv]
    simp [Array.getD_eq_getD_getElem?, List.getD_eq_getElem?_getD]

theorem invCycle_spec (π : Nat → Nat) (t : List Nat) (d : Nat) (hd : t.length ≤ d)
    (hπ : ∀ q, q < t.length → π q < t.length) (fuel : Nat) :
    ∀ (st : InvSt) (vis : List Nat) (p : Nat), Inv π t d st vis → p < t.length → p ∉ vis →
      t.length ≤ fuel + vis.length →
      ∃ st', invCycle t.toArray fuel st p = some st' ∧ Inv π t d st' (cycleGo π fuel vis p) := by
  induction fuel with
  | zero =>
    intro st vis p hI hp hpv hf
    have := (hI.push hd hp hpv).1.rem
    simp at this; omega
  | succ f ih =>
    intro st vis p hI hp hpv hf
    obtain ⟨hI', hrem⟩ := hI.push hd hp hpv
    have hlfp : st.lf.getD p 0 = Int.ofNat (π p) := by rw [hI.lfval p hp]; simp [hpv]
    have hπp := hπ p hp
    have hr := hI.rem
    have h1 : ¬ (st.rem - 1 ≥ st.dst.size) := by rw [hI.dsize]; omega
    have h2 : ¬ (p ≥ t.toArray.size) := by simp; omega
    have h3 : ¬ (p ≥ st.lf.size) := by rw [hI.lfsize]; omega
    have h4 : ¬ ((Int.ofNat (π p)) < 0) := by simp
    have h5 : ¬ ((Int.ofNat (π p)).toNat ≥ (st.lf.setIfInBounds p (-1)).size) := by
      simp [hI.lfsize]; omega
    have h6 := hI'.lfval (π p) hπp
    simp only at h6
    unfold invCycle cycleGo
    simp only [hrem, if_false, h1, h2, h3, hlfp, h4, h5]
    simp only [Int.toNat_natCast, Int.ofNat_eq_natCast] at h6 ⊢
    rw [h6]
    by_cases hm : π p ∈ p :: vis
    · simp only [hm, if_true]
      exact ⟨_, by simp, hI'⟩
    · simp only [hm, if_false]
      exact ih _ _ _ hI' hπp hm (by simp only [List.length_cons]; omega)

theorem invLoop_spec (π : Nat → Nat) (t : List Nat) (d : Nat) (hd : t.length ≤ d)
    (hπ : ∀ q, q < t.length → π q < t.length) (fuel : Nat) :
    ∀ (st : InvSt) (vis : List Nat) (i : Nat), Inv π t d st vis → (∀ q, q < i → q ∈ vis) →
      t.length + 1 ≤ fuel + i →
      ∃ st', invLoop t.toArray fuel st i = some st' ∧
        Inv π t d st' (visitGo π t.length fuel vis i) ∧ st'.rem = 0 := by
  induction fuel with
  | zero =>
    intro st vis i hI hall hf
    have h1 := length_ge_of_all (l := vis) (n := t.length) (fun q hq => hall q (by omega))
    have h2 := nodup_length_le hI.nodup hI.bound
    have h3 : t.length < i := by omega
    have := hI.bound _ (hall t.length h3)
    omega
  | succ f ih =>
    intro st vis i hI hall hf
    unfold invLoop visitGo
    have hr := hI.rem
    by_cases hz : st.rem = 0
    · have : t.length ≤ vis.length := by omega
      simp only [hz, if_true, this]
      exact ⟨st, rfl, hI, hz⟩
    · have hlt : ¬ t.length ≤ vis.length := by omega
      have hi : i < t.length := by
        by_contra hc
        have := length_ge_of_all (l := vis) (n := t.length) (fun q hq => hall q (by omega))
        omega
      have h1 : ¬ (i ≥ st.lf.size) := by rw [hI.lfsize]; omega
      simp only [hz, if_false, hlt, h1]
      rw [hI.lfval i hi]
      by_cases hm : i ∈ vis
      · simp only [hm, if_true]
        exact ih st vis (i + 1) hI (below_succ hall (fun _ h => h) hm) (by omega)
      · simp only [hm, if_false]
        have : ¬ (Int.ofNat (π i) < 0) := by simp
        simp only [this, if_false]
        obtain ⟨st', hc, hI'⟩ := invCycle_spec π t d hd hπ (t.length + 1) st vis i hI hi hm (by omega)
        have hsz : t.toArray.size = t.length := by simp
        rw [hsz, hc]
        exact ih st' _ (i + 1) hI'
          (below_succ hall (fun q h => cycleGo_mono π _ vis i q h) (cycleGo_self π _ vis i)) (by omega)

/-- what `BWTS.Inverse` computes, as a pure function: the letters of the visited indices (fuel
    `|t| + 2` as in `bwtsInverseFill`) -/
def decode (t : List Nat) : List Nat :=
  (visitGo (lfRank t) t.length (t.length + 2) [] 0).map (fun q => t.getD q 0)

theorem inverse_core (fill : Nat) (t : List Nat) (d : Nat) (hb : ∀ x ∈ t, x < 256)
    (hd : t.length ≤ d) :
    ∃ st, invLoop t.toArray (t.length + 2) ⟨lfOf t, Array.replicate d fill, t.length⟩ 0 = some st ∧
      st.dst.toList.take t.length = decode t ∧ (decode t).length = t.length := by
  have hlf := lfOf_spec t hb
  have hI0 : Inv (lfRank t) t d ⟨lfOf t, Array.replicate d fill, t.length⟩ [] :=
    ⟨hlf.1, fun q hq => by simpa using hlf.2 q hq, List.nodup_nil, by simp, by simp, by simp, by simp⟩
  obtain ⟨st, h1, hI, hz⟩ := invLoop_spec (lfRank t) t d hd (lfRank_lt t) (t.length + 2) _ [] 0 hI0
    (by simp) (by omega)
  have hr := hI.rem
  have hv := hI.dval
  rw [hz] at hr hv
  simp only [Nat.zero_add] at hr
  simp only [List.drop_zero, hr] at hv
  refine ⟨st, h1, hv, ?_⟩
  unfold decode
  rw [List.length_map, hr]

theorem decode_small (t : List Nat) (h : t.length < 2) : decode t = t := by
  match t, h with
  | [], _ => rfl
  | [a], _ => simp [decode, visitGo, cycleGo, lfRank]

theorem bwtsInverseFill_eq (fill : Nat) (t : List Nat) (d : Nat) (hb : ∀ x ∈ t, x < 256)
    (hmax : t.length ≤ maxBlockSize) (hd : t.length ≤ d) :
    bwtsInverseFill fill t d = .ok (decode t) ∧ (decode t).length = t.length := by
  obtain ⟨st, h1, h2, h3⟩ := inverse_core fill t d hb hd
  refine ⟨?_, h3⟩
  unfold bwtsInverseFill
  by_cases h0 : t.length = 0 ∨ d = 0
  · rw [if_pos h0, decode_small t (by omega), List.eq_nil_of_length_eq_zero (by omega : t.length = 0)]
  · rw [if_neg h0, if_neg (Nat.not_lt.2 hmax), if_neg (Nat.not_lt.2 hd)]
    by_cases h2' : t.length < 2
    · rw [if_pos h2', decode_small t h2']
    · simp only [if_neg h2', h1, h2]

end Kanzi.BWTS
