/-
BWTS (C13): the matrix `bwtsMatrix s` (all rotations of the Lyndon factors, sorted by
`omegaLe`) satisfies `SortedRots`.
-/
import Kanzi.Proofs.BWTSSort

namespace Kanzi.BWTS

/-! ## rotations -/

theorem rotations_length (w : List Nat) : (rotations w).length = w.length := by
  simp [rotations]

theorem mem_rotations {w x : List Nat} : x ∈ rotations w ↔ ∃ k, k < w.length ∧ x = rot w k := by
  simp [rotations, eq_comm]

theorem rot_zero (w : List Nat) : rot w 0 = w := by simp [rot]

theorem rot_length_self (w : List Nat) : rot w w.length = w := by simp [rot]

theorem self_mem_rotations {w : List Nat} (hw : w ≠ []) : w ∈ rotations w :=
  mem_rotations.2 ⟨0, List.length_pos_iff.2 hw, (rot_zero w).symm⟩

theorem flatMap_rotations_length (fs : List (List Nat)) :
    (fs.flatMap rotations).length = fs.flatten.length := by
  induction fs with
  | nil => rfl
  | cons w fs ih => simp [rotations_length, ih]

theorem shift_perm {α : Type} (m : Nat) (f : Nat → α) (h : f m = f 0) :
    ((List.range m).map (fun i => f (i + 1))).Perm ((List.range m).map f) := by
  cases m with
  | zero => simp
  | succ k =>
    have h1 : (List.range (k + 1)).map (fun i => f (i + 1)) =
        (List.range k).map (fun i => f (i + 1)) ++ [f 0] := by
      rw [List.range_succ, List.map_append, List.map_singleton, h]
    have h2 : (List.range (k + 1)).map f = f 0 :: (List.range k).map (fun i => f (i + 1)) := by
      rw [List.range_succ_eq_map, List.map_cons, List.map_map]; rfl
    rw [h1, h2]
    exact List.perm_append_singleton _ _

theorem rotR_rot (w : List Nat) (hw : w ≠ []) (k : Nat) (hk : k ≤ w.length) :
    rotR (rot w k) = rot w ((k + w.length - 1) % w.length) := by
  have hm : 0 < w.length := List.length_pos_iff.2 hw
  unfold rotR
  rw [rot_length, rot_rot w hw k _ hk (by omega)]
  congr 2; omega

theorem rotRn_eq_rot (x : List Nat) (hx : x ≠ []) (j : Nat) (hj : j ≤ x.length) :
    rotRn j x = rot x (x.length - j) := by
  induction j with
  | zero => simp [rotRn, rot_length_self]
  | succ j ih =>
    rw [rotRn, ih (by omega), rotR_rot _ hx _ (by omega),
      show x.length - j + x.length - 1 = x.length - (j + 1) + x.length by omega,
      Nat.add_mod_right, Nat.mod_eq_of_lt (by omega)]

theorem rotations_rotR_perm (w : List Nat) (hw : w ≠ []) :
    ((rotations w).map rotR).Perm (rotations w) := by
  unfold rotations
  rw [List.map_map]
  -- shift the index by one: `rotR (rot w (i + 1)) = rot w i`, and `rot w m = w = rot w 0`
  refine (shift_perm w.length (rotR ∘ rot w) ?_).symm.trans
    (List.Perm.of_eq (List.map_congr_left fun i hi => ?_))
  · rw [Function.comp, Function.comp, rot_length_self, rot_zero]
  · have := List.mem_range.1 hi
    show rotR (rot w (i + 1)) = rot w i
    rw [rotR_rot w hw _ (by omega), show i + 1 + w.length - 1 = i + w.length by omega,
      Nat.add_mod_right, Nat.mod_eq_of_lt this]

/-! ## `omegaLe` as a total preorder -/

/-- `omegaLe` with the empty word as least element: a total preorder on ALL words, as
    `List.pairwise_mergeSort` demands (`omegaLe` holds both ways between `[]` and any word, so it is
    not transitive through `[]`) -/
def oLe' (u v : List Nat) : Bool := u.isEmpty || (!v.isEmpty && omegaLe u v)

theorem oLe'_eq (u v : List Nat) (hu : u ≠ []) (hv : v ≠ []) : oLe' u v = omegaLe u v := by
  unfold oLe'
  have h1 : u.isEmpty = false := by simpa using hu
  have h2 : v.isEmpty = false := by simpa using hv
  simp [h1, h2]

theorem oLe'_trans (a b c : List Nat) (h1 : oLe' a b = true) (h2 : oLe' b c = true) :
    oLe' a c = true := by
  by_cases ha : a = []
  · simp [oLe', ha]
  · by_cases hb : b = []
    · subst hb
      have : a.isEmpty = false := by simpa using ha
      simp [oLe', this] at h1
    · by_cases hc : c = []
      · subst hc
        have : b.isEmpty = false := by simpa using hb
        simp [oLe', this] at h2
      · rw [oLe'_eq _ _ ha hb, omegaLe_iff _ _ ha hb] at h1
        rw [oLe'_eq _ _ hb hc, omegaLe_iff _ _ hb hc] at h2
        rw [oLe'_eq _ _ ha hc, omegaLe_iff _ _ ha hc]
        exact h1.trans h2

theorem oLe'_total (a b : List Nat) : (oLe' a b || oLe' b a) = true := by
  by_cases ha : a = []
  · simp [oLe', ha]
  · by_cases hb : b = []
    · simp [oLe', hb]
    · rw [oLe'_eq _ _ ha hb, oLe'_eq _ _ hb ha, Bool.or_eq_true, omegaLe_iff _ _ ha hb,
        omegaLe_iff _ _ hb ha]
      rcases seq_trichotomy (pw a) (pw b) with h | h | h
      · exact Or.inl h.asymm
      · exact Or.inl (seqLe_iff.2 (Or.inr h))
      · exact Or.inr h.asymm

theorem mergeSort_omegaLe_sorted (R : List (List Nat)) (hR : ∀ x ∈ R, x ≠ []) :
    (R.mergeSort omegaLe).Pairwise (fun a b => SeqLe (pw a) (pw b)) := by
  have h1 : R.mergeSort omegaLe = R.mergeSort oLe' := by
    have := List.map_mergeSort (r := omegaLe) (s := oLe') (f := id) (l := R)
      (fun a ha b hb => (oLe'_eq a b (hR a ha) (hR b hb)).symm)
    simpa using this
  have h2 := List.pairwise_mergeSort (le := oLe') oLe'_trans oLe'_total R
  rw [h1]
  have hmem : ∀ x ∈ R.mergeSort oLe', x ≠ [] := fun x hx =>
    hR x ((List.mergeSort_perm R oLe').mem_iff.1 hx)
  refine List.Pairwise.imp_of_mem ?_ h2
  intro a b ha hb hab
  rw [oLe'_eq _ _ (hmem a ha) (hmem b hb), omegaLe_iff _ _ (hmem a ha) (hmem b hb)] at hab
  exact hab

/-! ## the matrix -/

theorem bwtsMatrix_perm (s : List Nat) :
    (bwtsMatrix s).Perm ((lyndonFactors s).flatMap rotations) := List.mergeSort_perm _ _

theorem mem_flatMap_rotations {fs : List (List Nat)} {x : List Nat} :
    x ∈ fs.flatMap rotations ↔ ∃ w ∈ fs, ∃ k, k < w.length ∧ x = rot w k := by
  simp [List.mem_flatMap, mem_rotations]

theorem bwtsMatrix_sortedRots (s : List Nat) : SortedRots (bwtsMatrix s) := by
  have hf := lyndonFactors_spec s
  have hp := bwtsMatrix_perm s
  have hrot : ∀ x ∈ (lyndonFactors s).flatMap rotations, RotL x := by
    intro x hx
    obtain ⟨w, hw, k, hk, rfl⟩ := mem_flatMap_rotations.1 hx
    exact ⟨w, k, hf.2.1 w hw, hk, rfl⟩
  refine ⟨fun x hx => hrot x (hp.mem_iff.1 hx), ?_, ?_⟩
  · exact mergeSort_omegaLe_sorted _ (fun x hx => (hrot x hx).ne_nil)
  · refine ((hp.map rotR).trans ?_).trans hp.symm
    rw [List.map_flatMap]
    exact List.Perm.flatMap_left _ (fun w hw => rotations_rotR_perm w (hf.2.1 w hw).1)

theorem bwtsMatrix_length (s : List Nat) : (bwtsMatrix s).length = s.length := by
  rw [(bwtsMatrix_perm s).length_eq, flatMap_rotations_length, (lyndonFactors_spec s).1]

theorem bwtsSpec_eq (s : List Nat) : bwtsSpec s = (bwtsMatrix s).map lastL := rfl

theorem bwtsSpec_length (s : List Nat) : (bwtsSpec s).length = s.length := by
  rw [bwtsSpec_eq, List.length_map, bwtsMatrix_length]

end Kanzi.BWTS
