/-
For the block codec (`Kanzi/Proofs/BlockGen2Kinds.lean`, `law_lz`): the output of a successful `LZXCodec.Forward`
(`LZ.lzForward`) consists of byte values, which the stages and the entropy coder that follow it need.  Read off the
description of the output as a token stream (`lzForward_encodes`).
-/
import Kanzi.Proofs.LZTotal
import Kanzi.Proofs.LZLen

namespace Kanzi.LZ

theorem put32_bytes (v : Nat) : ∀ x ∈ put32 v, x < 256 := by
  intro x hx
  simp only [put32, List.mem_cons, List.not_mem_nil, or_false] at hx
  rcases hx with h | h | h | h <;> subst h <;> exact Nat.mod_lt _ (by decide)

theorem distCode_bytes (d r0 r1 : Nat) : ∀ x ∈ (distCode d r0 r1).2.2, x < 256 := by
  rcases distCode_cases d r0 r1 with ⟨_, h⟩ | ⟨_, _, h⟩ | ⟨_, _, _, h⟩ | ⟨_, _, _, _, h⟩ | ⟨_, _, _, h⟩
  all_goals
    rw [h]
    simp only [List.mem_cons, List.not_mem_nil, or_false, forall_eq_or_imp, forall_eq, false_imp_iff, implies_true]
  all_goals omega

theorem litBytes_bytes (l : List Nat) (h : ∀ x ∈ l, x < 256) : ∀ x ∈ litBytes l, x < 256 := by
  intro x hx
  unfold litBytes at hx
  rcases List.mem_append.mp hx with h1 | h1
  · split at h1
    · exact emitLength_bytes _ x h1
    · cases h1
  · exact h x h1

/-- what is already decoded stays (as a prefix) in what the rest of the token stream denotes; so the literals of
every token are elements of the decoded block, i.e. bytes -/
theorem mem_denote : ∀ (qs : List Seq) (out : List Nat) (x : Nat), x ∈ out → x ∈ denote out qs := by
  intro qs
  induction qs with
  | nil => intro out x h; exact h
  | cons q qs ih =>
    intro out x h
    simp only [denote]
    apply ih
    have hp := copyMatch_prefix q.dist q.len (out ++ q.lits)
    have : x ∈ (copyMatch (out ++ q.lits) q.dist q.len).take (out ++ q.lits).length := by
      rw [hp]; exact List.mem_append_left _ h
    exact List.mem_of_mem_take this

theorem serSeqs_bytes (mm : Nat) : ∀ (qs : List Seq) (r0 r1 : Nat) (out : List Nat),
    (∀ x ∈ denote out qs, x < 256) →
    (∀ x ∈ (serSeqs mm r0 r1 qs).lit, x < 256) ∧ (∀ x ∈ (serSeqs mm r0 r1 qs).tk, x < 256) ∧
    (∀ x ∈ (serSeqs mm r0 r1 qs).m, x < 256) ∧ (∀ x ∈ (serSeqs mm r0 r1 qs).ml, x < 256) := by
  intro qs
  induction qs with
  | nil =>
    intro r0 r1 out _
    simp [serSeqs]
  | cons q qs ih =>
    intro r0 r1 out h
    simp only [denote] at h
    obtain ⟨h1, h2, h3, h4⟩ := ih q.dist r0 _ h
    have hl : ∀ x ∈ q.lits, x < 256 := by
      intro x hx
      apply h x
      apply mem_denote
      have hp := copyMatch_prefix q.dist q.len (out ++ q.lits)
      have : x ∈ (copyMatch (out ++ q.lits) q.dist q.len).take (out ++ q.lits).length := by
        rw [hp]; exact List.mem_append_right _ hx
      exact List.mem_of_mem_take this
    simp only [serSeqs]
    refine ⟨?_, ?_, ?_, ?_⟩
    · intro x hx
      rcases List.mem_append.mp hx with h | h
      · exact litBytes_bytes _ hl x h
      · exact h1 x h
    · intro x hx
      rcases List.mem_cons.mp hx with h | h
      · subst h; unfold seqTok; exact Nat.mod_lt _ (by decide)
      · exact h2 x h
    · intro x hx
      rcases List.mem_append.mp hx with h | h
      · exact distCode_bytes _ _ _ x h
      · exact h3 x h
    · intro x hx
      rcases List.mem_append.mp hx with h | h
      · unfold seqMl at h
        split at h
        · exact emitLength_bytes _ x h
        · cases h
      · exact h4 x h

theorem stream_bytes (mm far N : Nat) (qs : List Seq) (fl : List Nat) (hfar : far ≤ 1)
    (h : ∀ x ∈ denote [] qs ++ fl, x < 256) : ∀ x ∈ stream mm far N qs fl, x < 256 := by
  obtain ⟨h1, h2, h3, h4⟩ := serSeqs_bytes mm qs N N [] (fun x hx => h x (List.mem_append_left _ hx))
  have hfl := litBytes_bytes fl (fun x hx => h x (List.mem_append_right _ hx))
  intro x hx
  unfold stream at hx
  simp only [List.mem_append, List.mem_cons, List.not_mem_nil, or_false] at hx
  rcases hx with ((((hx | hx) | hx) | hx) | ((hx | hx) | (hx | hx) | hx | hx))
  · exact put32_bytes _ x hx
  · exact put32_bytes _ x hx
  · exact put32_bytes _ x hx
  · subst hx; unfold flagByte; omega
  · exact h1 x hx
  · exact hfl x hx
  · exact h2 x hx
  · subst hx; unfold finTok; exact Nat.mod_lt _ (by decide)
  · exact h3 x hx
  · exact h4 x hx

theorem Encodes.bytes {src : List Nat} {t : Array Nat} (h : Encodes src t) (hb : ∀ x ∈ src, x < 256) :
    ∀ x ∈ t.toList, x < 256 := by
  obtain ⟨mm, far, qs, fl, e1, _, _, e4, _, _, _, e8⟩ := h
  subst e1
  exact stream_bytes mm far src.length qs fl e4 (by rw [e8]; exact hb)

theorem lzForward_bytes {extra : Bool} {dt : Nat} {src t : Array Nat} {dstLen : Nat}
    (hb : ∀ x ∈ src.toList, x < 256) (h : lzForward extra dt src dstLen = .ok t) : ∀ x ∈ t.toList, x < 256 := by
  by_cases hne : src.size = 0 ∨ dstLen = 0
  · rw [lzForward_empty hne] at h
    rw [← Out.ok.inj h]
    intro x hx
    cases hx
  · exact (lzForward_encodes (by omega) (by omega) h).1.bytes hb

end Kanzi.LZ
