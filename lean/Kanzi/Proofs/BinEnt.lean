/-
Proofs for the generic binary arithmetic coder (`Kanzi/Model/BinEnt.lean`, property C12): the pure
coder and the encoder.  The idea of the whole development: a "pure" coder on 56-bit intervals of
`Nat` (`pl1` … `pOut`) is the common reference; the encoder model simulates it (section 4), the
decoder model fed its code string follows it (`Kanzi/Proofs/BinEntDec.lean`, section 5), and bytes,
chunks and blocks are built on the two (`Kanzi/Proofs/BinEntBlock.lean`, sections 6 to 9; the
section numbers run on through the three files).  The property theorems are restated in
`Kanzi/Properties/C12_binary.lean`.

In this file:
  1. bit-operation facts on `Nat` (xor / or / shifts as div, mod, add)
  2. `natBits` / `ofBytes` facts for 4-byte big-endian words
  3. the pure coder on 56-bit intervals (parametric in the first shift of the split computation:
     4 for BinaryEntropyCodec.go, 8 for FPAQCodec.go): invariant `Inv`, the window-in-range lemma
     `win_range`
  4. the encoder model simulates the pure coder (`ERel`: the identical left-over top 8 bits)
-/
import Kanzi.Model.BinEnt
import Kanzi.Proofs.EntSmall

namespace Kanzi.BinEnt
open Kanzi.Bits Kanzi.EntSmall

/-! ## 1. bit operations -/

theorem xor_eq_zero_iff' (a b : Nat) : a ^^^ b = 0 ↔ a = b := by
  constructor
  · intro h
    apply Nat.eq_of_testBit_eq
    intro i
    have := congrArg (fun x => x.testBit i) h
    simp only [Nat.testBit_xor, Nat.zero_testBit] at this
    cases ha : a.testBit i <;> cases hb : b.testBit i <;> simp_all
  · intro h; subst h; exact Nat.xor_self a

/-- the flush test: `(low ^ high) < 1<<24` iff the bits above the low 24 agree -/
theorem xor_lt_iff (a b : Nat) : (a ^^^ b) < 2 ^ 24 ↔ a / 2 ^ 24 = b / 2 ^ 24 := by
  rw [← Nat.shiftRight_eq_div_pow, ← Nat.shiftRight_eq_div_pow, ← xor_eq_zero_iff',
    ← Nat.shiftRight_xor_distrib, Nat.shiftRight_eq_div_pow]
  constructor
  · intro h; exact Nat.div_eq_of_lt h
  · intro h
    rcases Nat.lt_or_ge (a ^^^ b) (2 ^ 24) with hc | hc
    · exact hc
    · have := Nat.div_pos hc (by decide : 0 < 2 ^ 24)
      omega

theorem or_mask (x k : Nat) : x ||| (2 ^ k - 1) = (x / 2 ^ k) * 2 ^ k + (2 ^ k - 1) := by
  have hp : 0 < 2 ^ k := Nat.two_pow_pos k
  have hlt : 2 ^ k - 1 < 2 ^ k := by omega
  rw [Nat.mul_comm, Nat.two_pow_add_eq_or_of_lt hlt]
  apply Nat.eq_of_testBit_eq
  intro i
  rw [Nat.testBit_or, Nat.testBit_or, Nat.testBit_two_pow_sub_one, Nat.testBit_two_pow_mul,
    Nat.testBit_div_two_pow]
  by_cases h : i < k
  · simp [h]
  · have h2 : i ≥ k := by omega
    have h3 : i - k + k = i := by omega
    simp [h, h2, h3]

theorem and_mask56 (x : Nat) : x &&& MASK_0_56 = x % 2 ^ 56 :=
  Nat.and_two_pow_sub_one_eq_mod x 56

/-! ## 2. bit strings -/

theorem testBit_hi_lo (x y b j : Nat) (hy : y < 2 ^ b) :
    (x * 2 ^ b + y).testBit j = if j < b then y.testBit j else x.testBit (j - b) := by
  rw [Nat.mul_comm]; exact Nat.testBit_two_pow_mul_add x hy j

theorem natBits_ext (v w n : Nat) (h : ∀ j, j < n → v.testBit j = w.testBit j) :
    natBits v n = natBits w n := by
  unfold natBits
  apply List.map_congr_left
  intro i hi
  have := List.mem_range.mp hi
  exact h _ (by omega)

theorem ofBytes_four (b0 b1 b2 b3 : Nat) (_h0 : b0 < 256) (h1 : b1 < 256) (h2 : b2 < 256) (h3 : b3 < 256) :
    ofBytes [b0, b1, b2, b3] = natBits (b0 * 2 ^ 24 + b1 * 2 ^ 16 + b2 * 2 ^ 8 + b3) 32 := by
  have e1 : natBits (b0 * 2 ^ 24 + (b1 * 2 ^ 16 + (b2 * 2 ^ 8 + b3))) 32
      = natBits b0 8 ++ natBits (b1 * 2 ^ 16 + (b2 * 2 ^ 8 + b3)) 24 :=
    natBits_append b0 (b1 * 2 ^ 16 + (b2 * 2 ^ 8 + b3)) 8 24 (by omega)
  have e2 : natBits (b1 * 2 ^ 16 + (b2 * 2 ^ 8 + b3)) 24 = natBits b1 8 ++ natBits (b2 * 2 ^ 8 + b3) 16 :=
    natBits_append b1 (b2 * 2 ^ 8 + b3) 8 16 (by omega)
  have e3 : natBits (b2 * 2 ^ 8 + b3) 16 = natBits b2 8 ++ natBits b3 8 :=
    natBits_append b2 b3 8 8 (by omega)
  have a1 : b0 * 2 ^ 24 + b1 * 2 ^ 16 + b2 * 2 ^ 8 + b3 = b0 * 2 ^ 24 + (b1 * 2 ^ 16 + (b2 * 2 ^ 8 + b3)) := by
    omega
  rw [a1, e1, e2, e3]
  simp [ofBytes_cons, Bits.ofBytes_nil]

theorem be32_value (w : Nat) (hw : w < 2 ^ 32) :
    ((w >>> 24) % 256) * 2 ^ 24 + ((w >>> 16) % 256) * 2 ^ 16 + ((w >>> 8) % 256) * 2 ^ 8 + w % 256 = w := by
  simp only [Nat.shiftRight_eq_div_pow]
  omega

theorem ofBytes_be32 (w : Nat) (hw : w < 2 ^ 32) : ofBytes (be32 w) = natBits w 32 := by
  unfold be32
  rw [ofBytes_four _ _ _ _ (Nat.mod_lt _ (by decide)) (Nat.mod_lt _ (by decide))
    (Nat.mod_lt _ (by decide)) (Nat.mod_lt _ (by decide)), be32_value w hw]

theorem be32_lt (w : Nat) : ∀ b ∈ be32 w, b < 256 := by
  intro b hb
  unfold be32 at hb
  simp only [List.mem_cons, List.not_mem_nil, or_false] at hb
  rcases hb with h | h | h | h <;> subst h <;> exact Nat.mod_lt _ (by decide)

theorem be32_length (w : Nat) : (be32 w).length = 4 := rfl

/-! ## 3. the pure coder on 56-bit intervals -/

/-- admissible (shift, probability) pairs: the split computation is
    `(((high - low) >> sh) * p) >> 8` with a `(8 + sh)`-bit probability `p`;
    `sh = 4` (12-bit `p`, BinaryEntropyCodec.go) or `sh = 8` (16-bit `p`, FPAQCodec.go) -/
def OkP (sh p : Nat) : Prop := (sh = 4 ∨ sh = 8) ∧ p < 2 ^ (8 + sh)

/-- the kanzi.Predictor contract, relative to a state invariant `R` chosen by the instance:
    `R` is preserved by `Get(); Update(b)` and on `R` every value returned by `Get()` is in range:
    `0 ≤ p < 2^(8 + shift)`, i.e. the 12-bit range `[0, 4095]` for `kanzi.Predictor`s (`shift = 4`);
    both ends are included: they are safe for the coder -/
structure Pred.Safe (P : Pred σ) (R : σ → Prop) : Prop where
  step : ∀ s b, R s → R (P.update s b)
  range : ∀ s, R s → OkP P.shift (P.get s)

/-- the usual way to establish the contract for a `kanzi.Predictor` (`shift = 4`): `Get() ≤ 4095` -/
theorem Pred.Safe.of12 {P : Pred σ} {R : σ → Prop} (hsh : P.shift = 4)
    (step : ∀ s b, R s → R (P.update s b)) (range : ∀ s, R s → P.get s ≤ 4095) : P.Safe R :=
  ⟨step, fun s hs => ⟨Or.inl hsh, by rw [hsh]; have := range s hs; omega⟩⟩

/-- the special case `R = True` for a `kanzi.Predictor`: every `Get()` is in `[0, 4095]` -/
def Pred.Ok (P : Pred σ) : Prop := P.shift = 4 ∧ ∀ s, P.get s ≤ 4095

theorem Pred.Ok.safe {P : Pred σ} (h : P.Ok) : P.Safe (fun _ => True) :=
  Pred.Safe.of12 h.1 (fun _ _ _ => trivial) (fun s _ => h.2 s)

-- One coding step on the pure interval `[l, h]`, in unbounded `Nat` arithmetic: `psplit` is the offset
-- `(((high - low) >> sh) * p) >> 8` of the split, `p` the probability of a one; `pl1` / `ph1` are the
-- bounds once the part of bit `b` has been chosen (a one takes `[l, l + psplit]`, a zero the rest);
-- `pflush` says that their top 32 bits (of 56) agree, in which case these 32 bits are output and
-- shifted out, which gives `pl2` / `ph2`.
def psplit (sh l h p : Nat) : Nat := ((h - l) / 2 ^ sh * p) / 256
def pl1 (sh l h p : Nat) (b : Bool) : Nat := if b then l else l + psplit sh l h p + 1
def ph1 (sh l h p : Nat) (b : Bool) : Nat := if b then l + psplit sh l h p else h
def pflush (sh l h p : Nat) (b : Bool) : Bool := decide (pl1 sh l h p b / 2 ^ 24 = ph1 sh l h p b / 2 ^ 24)
def pl2 (sh l h p : Nat) (b : Bool) : Nat :=
  if pflush sh l h p b then (pl1 sh l h p b % 2 ^ 24) * 2 ^ 32 else pl1 sh l h p b
def ph2 (sh l h p : Nat) (b : Bool) : Nat :=
  if pflush sh l h p b then (ph1 sh l h p b % 2 ^ 24) * 2 ^ 32 + (2 ^ 32 - 1) else ph1 sh l h p b

/-- the interval invariant between two `EncodeBit` (or `DecodeBit`) calls: the 32 top bits (of 56)
    differ -/
structure Inv (l h : Nat) : Prop where
  lt : l / 2 ^ 24 < h / 2 ^ 24
  hi : h < 2 ^ 56

theorem inv_init : Inv 0 TOP := ⟨by decide, by decide⟩

/-- the product of the split computation for a `(8 + sh)`-bit probability, any `sh`: below `256·(h - l)`,
    since `(h - l) / 2^sh · 2^sh ≤ h - l` and `p < 256 · 2^sh` -/
theorem split_mul_lt (sh l h p : Nat) (hlt : l < h) (hp : p < 2 ^ (8 + sh)) :
    (h - l) / 2 ^ sh * p < 256 * (h - l) := by
  have h1 : (h - l) / 2 ^ sh * 2 ^ sh ≤ h - l := Nat.div_mul_le_self _ _
  rcases Nat.eq_zero_or_pos ((h - l) / 2 ^ sh) with h0 | h0
  · rw [h0, Nat.zero_mul]
    omega
  · calc (h - l) / 2 ^ sh * p < (h - l) / 2 ^ sh * 2 ^ (8 + sh) := Nat.mul_lt_mul_of_pos_left hp h0
      _ = 256 * ((h - l) / 2 ^ sh * 2 ^ sh) := by rw [Nat.pow_add, Nat.mul_left_comm]
      _ ≤ 256 * (h - l) := Nat.mul_le_mul_left _ h1

theorem psplit_lt (sh l h p : Nat) (hlt : l < h) (hp : OkP sh p) : l + psplit sh l h p < h := by
  have := Nat.div_lt_of_lt_mul (split_mul_lt sh l h p hlt hp.2)
  unfold psplit
  omega

theorem psplit_bound (sh l h p : Nat) (hlt : l < h) (hh : h < 2 ^ 56) (hp : OkP sh p) :
    (h - l) / 2 ^ sh * p < 2 ^ 64 := by
  have := split_mul_lt sh l h p hlt hp.2
  omega

/-- one step: the new interval is inside the old one, ordered, and the invariant is restored
    by at most one flush -/
theorem step_facts (sh l h p : Nat) (b : Bool) (hi : Inv l h) (hp : OkP sh p) :
    l ≤ pl1 sh l h p b ∧ pl1 sh l h p b ≤ ph1 sh l h p b ∧ ph1 sh l h p b ≤ h ∧
    Inv (pl2 sh l h p b) (ph2 sh l h p b) := by
  have hlt : l < h := by have := hi.lt; omega
  have hs := psplit_lt sh l h p hlt hp
  have hh := hi.hi
  have h1 : l ≤ pl1 sh l h p b := by unfold pl1; split <;> omega
  have h2 : pl1 sh l h p b ≤ ph1 sh l h p b := by unfold pl1 ph1; split <;> omega
  have h3 : ph1 sh l h p b ≤ h := by unfold ph1; split <;> omega
  refine ⟨h1, h2, h3, ?_⟩
  unfold pl2 ph2 pflush
  by_cases hf : pl1 sh l h p b / 2 ^ 24 = ph1 sh l h p b / 2 ^ 24
  · simp only [hf, decide_true, if_true]
    constructor <;> omega
  · simp only [hf, decide_false]
    constructor
    · simp only [Bool.false_eq_true, if_false]; omega
    · simp only [Bool.false_eq_true, if_false]; omega

theorem p2_noflush (sh l h p : Nat) (b : Bool) (hf : pflush sh l h p b = false) :
    ¬ pl1 sh l h p b / 2 ^ 24 = ph1 sh l h p b / 2 ^ 24 ∧
    pl2 sh l h p b = pl1 sh l h p b ∧ ph2 sh l h p b = ph1 sh l h p b :=
  ⟨by simpa [pflush] using hf, by simp [pl2, hf], by simp [ph2, hf]⟩

theorem p2_flush (sh l h p : Nat) (b : Bool) (hf : pflush sh l h p b = true) :
    pl1 sh l h p b / 2 ^ 24 = ph1 sh l h p b / 2 ^ 24 ∧
    pl2 sh l h p b = (pl1 sh l h p b % 2 ^ 24) * 2 ^ 32 ∧
    ph2 sh l h p b = (ph1 sh l h p b % 2 ^ 24) * 2 ^ 32 + (2 ^ 32 - 1) :=
  ⟨by simpa [pflush] using hf, by simp [pl2, hf], by simp [ph2, hf]⟩

/-- final (predictor state, low, high) after coding `bits` -/
def pFin (P : Pred σ) : σ → Nat → Nat → List Bool → σ × Nat × Nat
  | s, l, h, [] => (s, l, h)
  | s, l, h, b :: bs => pFin P (P.update s b) (pl2 P.shift l h (P.get s) b) (ph2 P.shift l h (P.get s) b) bs

/-- the bytes flushed while coding `bits` -/
def pBytes (P : Pred σ) : σ → Nat → Nat → List Bool → List Nat
  | _, _, _, [] => []
  | s, l, h, b :: bs =>
    (if pflush P.shift l h (P.get s) b then be32 (ph1 P.shift l h (P.get s) b / 2 ^ 24) else [])
      ++ pBytes P (P.update s b) (pl2 P.shift l h (P.get s) b) (ph2 P.shift l h (P.get s) b) bs

/-- the 56-bit trailer `low | MASK_0_24` -/
def trailerVal (l : Nat) : Nat := (l / 2 ^ 24) * 2 ^ 24 + (2 ^ 24 - 1)

/-- the code string of `bits`: the flushed bytes, then the trailer -/
def pOut (P : Pred σ) (s : σ) (l h : Nat) (bits : List Bool) : Bits :=
  ofBytes (pBytes P s l h bits) ++ natBits (trailerVal (pFin P s l h bits).2.1) 56

theorem pFin_append (P : Pred σ) (a b : List Bool) : ∀ (s : σ) (l h : Nat),
    pFin P s l h (a ++ b)
      = pFin P (pFin P s l h a).1 (pFin P s l h a).2.1 (pFin P s l h a).2.2 b := by
  induction a with
  | nil => intro s l h; rfl
  | cons x xs ih => intro s l h; simp only [List.cons_append, pFin]; exact ih _ _ _

theorem pBytes_append (P : Pred σ) (a b : List Bool) : ∀ (s : σ) (l h : Nat),
    pBytes P s l h (a ++ b)
      = pBytes P s l h a ++ pBytes P (pFin P s l h a).1 (pFin P s l h a).2.1 (pFin P s l h a).2.2 b := by
  induction a with
  | nil => intro s l h; rfl
  | cons x xs ih => intro s l h; simp only [List.cons_append, pBytes, pFin, List.append_assoc]; rw [ih]

theorem pFin_inv (P : Pred σ) {R : σ → Prop} (hP : P.Safe R) (bits : List Bool) :
    ∀ (s : σ) (l h : Nat), R s → Inv l h →
    R (pFin P s l h bits).1 ∧ Inv (pFin P s l h bits).2.1 (pFin P s l h bits).2.2 := by
  induction bits with
  | nil => intro s l h hs hi; exact ⟨hs, hi⟩
  | cons b bs ih =>
    intro s l h hs hi
    simp only [pFin]
    exact ih _ _ _ (hP.step s b hs) (step_facts P.shift l h (P.get s) b hi (hP.range s hs)).2.2.2

theorem pBytes_lt (P : Pred σ) (bits : List Bool) : ∀ (s : σ) (l h : Nat),
    ∀ x ∈ pBytes P s l h bits, x < 256 := by
  induction bits with
  | nil => intro s l h x hx; cases hx
  | cons b bs ih =>
    intro s l h x hx
    simp only [pBytes, List.mem_append] at hx
    rcases hx with hx | hx
    · split at hx
      · exact be32_lt _ x hx
      · cases hx
    · exact ih _ _ _ x hx

/-- at most one flush (4 bytes) per coded bit -/
theorem pBytes_length_le (P : Pred σ) (bits : List Bool) : ∀ (s : σ) (l h : Nat),
    (pBytes P s l h bits).length ≤ 4 * bits.length := by
  induction bits with
  | nil => intro s l h; simp [pBytes]
  | cons b bs ih =>
    intro s l h
    simp only [pBytes, List.length_append, List.length_cons]
    have := ih (P.update s b) (pl2 P.shift l h (P.get s) b) (ph2 P.shift l h (P.get s) b)
    split
    · rw [be32_length]; omega
    · simp only [List.length_nil]; omega

theorem pOut_length (P : Pred σ) (s : σ) (l h : Nat) (bits : List Bool) :
    (pOut P s l h bits).length = 8 * (pBytes P s l h bits).length + 56 := by
  unfold pOut
  rw [List.length_append, ofBytes_length, natBits_length]

theorem pOut_nil (P : Pred σ) (s : σ) (l h : Nat) : pOut P s l h [] = natBits (trailerVal l) 56 := by
  simp [pOut, pBytes, pFin, Bits.ofBytes_nil]

theorem pOut_cons_noflush (P : Pred σ) (s : σ) (l h : Nat) (b : Bool) (bs : List Bool)
    (hf : pflush P.shift l h (P.get s) b = false) :
    pOut P s l h (b :: bs) = pOut P (P.update s b) (pl2 P.shift l h (P.get s) b) (ph2 P.shift l h (P.get s) b) bs := by
  simp [pOut, pBytes, pFin, hf]

theorem pOut_cons_flush (P : Pred σ) (s : σ) (l h : Nat) (b : Bool) (bs : List Bool)
    (hh : h < 2 ^ 56) (hle : ph1 P.shift l h (P.get s) b ≤ h)
    (hf : pflush P.shift l h (P.get s) b = true) :
    pOut P s l h (b :: bs) = natBits (ph1 P.shift l h (P.get s) b / 2 ^ 24) 32
      ++ pOut P (P.update s b) (pl2 P.shift l h (P.get s) b) (ph2 P.shift l h (P.get s) b) bs := by
  have hw : ph1 P.shift l h (P.get s) b / 2 ^ 24 < 2 ^ 32 := by omega
  simp only [pOut, pBytes, pFin, hf, if_true, ofBytes_append, ofBytes_be32 _ hw, List.append_assoc]

/-- the first 56 bits of the code string: what the decoder holds in `current` -/
def win (P : Pred σ) (s : σ) (l h : Nat) (bits : List Bool) : Nat :=
  bitsNat ((pOut P s l h bits).take 56)

theorem take_append_len_add {α : Type} (A X : List α) (n k : Nat) (h : A.length = n) :
    (A ++ X).take (n + k) = A ++ X.take k := by
  subst h; exact List.take_length_add_append ..

theorem drop_append_len_add {α : Type} (A X : List α) (n k : Nat) (h : A.length = n) :
    (A ++ X).drop (n + k) = X.drop k := by
  subst h; exact List.drop_length_add_append ..

theorem take24_of_take56 (X : Bits) (hX : 56 ≤ X.length) :
    bitsNat (X.take 24) = bitsNat (X.take 56) / 2 ^ 32 := by
  have e : X.take 56 = X.take 24 ++ (X.drop 24).take 32 := by
    rw [show (56 : Nat) = 24 + 32 from rfl, List.take_add]
  have hl : ((X.drop 24).take 32).length = 32 := by
    rw [List.length_take, List.length_drop]; omega
  have hlt := bitsNat_lt ((X.drop 24).take 32)
  rw [e, bitsNat_append, hl]
  rw [hl] at hlt
  omega

theorem win_cons (P : Pred σ) (s : σ) (l h : Nat) (b : Bool) (bs : List Bool) (hi : Inv l h)
    (hp : OkP P.shift (P.get s))
    (hw : pl2 P.shift l h (P.get s) b ≤ win P (P.update s b) (pl2 P.shift l h (P.get s) b) (ph2 P.shift l h (P.get s) b) bs ∧
          win P (P.update s b) (pl2 P.shift l h (P.get s) b) (ph2 P.shift l h (P.get s) b) bs ≤ ph2 P.shift l h (P.get s) b) :
    pl1 P.shift l h (P.get s) b ≤ win P s l h (b :: bs) ∧ win P s l h (b :: bs) ≤ ph1 P.shift l h (P.get s) b := by
  obtain ⟨f1, f2, f3, _⟩ := step_facts P.shift l h (P.get s) b hi hp
  have hh := hi.hi
  cases hf : pflush P.shift l h (P.get s) b
  · obtain ⟨_, e2, e3⟩ := p2_noflush _ _ _ _ _ hf
    unfold win at hw ⊢
    rw [pOut_cons_noflush P s l h b bs hf]
    rw [e2, e3] at hw
    rw [e2, e3]
    exact hw
  · obtain ⟨hfe, e2, e3⟩ := p2_flush _ _ _ _ _ hf
    have hlen := pOut_length P (P.update s b) (pl2 P.shift l h (P.get s) b) (ph2 P.shift l h (P.get s) b) bs
    have ht := take24_of_take56 (pOut P (P.update s b) (pl2 P.shift l h (P.get s) b) (ph2 P.shift l h (P.get s) b) bs)
      (by omega)
    have hwlt : ph1 P.shift l h (P.get s) b / 2 ^ 24 < 2 ^ 32 := by omega
    have e : win P s l h (b :: bs) = (ph1 P.shift l h (P.get s) b / 2 ^ 24) * 2 ^ 24
        + win P (P.update s b) (pl2 P.shift l h (P.get s) b) (ph2 P.shift l h (P.get s) b) bs / 2 ^ 32 := by
      unfold win
      rw [pOut_cons_flush P s l h b bs hh f3 hf]
      rw [take_append_len_add _ _ 32 24 (natBits_length _ _), bitsNat_append,
        bitsNat_natBits, Nat.mod_eq_of_lt hwlt, ht, List.length_take]
      have : min 24 (pOut P (P.update s b) (pl2 P.shift l h (P.get s) b) (ph2 P.shift l h (P.get s) b) bs).length = 24 := by
        omega
      rw [this]
    rw [e]
    have hw1 := Nat.le_trans (Nat.le_of_eq e2.symm) hw.1
    have hw2 := Nat.le_trans hw.2 (Nat.le_of_eq e3)
    omega

/-- **the code value stays in the interval**: the first 56 bits of what the encoder will still
    produce lie in `[low, high]` -/
theorem win_range (P : Pred σ) {R : σ → Prop} (hP : P.Safe R) (bits : List Bool) :
    ∀ (s : σ) (l h : Nat), R s → Inv l h →
    l ≤ win P s l h bits ∧ win P s l h bits ≤ h := by
  induction bits with
  | nil =>
    intro s l h _ hi
    have h1 := hi.lt
    have h2 := hi.hi
    unfold win
    rw [pOut_nil, List.take_of_length_le (by simp [natBits_length]), bitsNat_natBits]
    unfold trailerVal
    have : (l / 2 ^ 24) * 2 ^ 24 + (2 ^ 24 - 1) < 2 ^ 56 := by omega
    rw [Nat.mod_eq_of_lt this]
    omega
  | cons b bs ih =>
    intro s l h hs hi
    obtain ⟨f1, f2, f3, f4⟩ := step_facts P.shift l h (P.get s) b hi (hP.range s hs)
    have := win_cons P s l h b bs hi (hP.range s hs) (ih _ _ _ (hP.step s b hs) f4)
    omega

theorem win_cons_range (P : Pred σ) {R : σ → Prop} (hP : P.Safe R) (s : σ) (l h : Nat) (b : Bool)
    (bs : List Bool) (hs : R s) (hi : Inv l h) :
    pl1 P.shift l h (P.get s) b ≤ win P s l h (b :: bs) ∧ win P s l h (b :: bs) ≤ ph1 P.shift l h (P.get s) b :=
  win_cons P s l h b bs hi (hP.range s hs)
    (win_range P hP bs _ _ _ (hP.step s b hs) (step_facts P.shift l h (P.get s) b hi (hP.range s hs)).2.2.2)

theorem win_lt (P : Pred σ) (s : σ) (l h : Nat) (bits : List Bool) : win P s l h bits < 2 ^ 56 := by
  unfold win
  have := bitsNat_lt ((pOut P s l h bits).take 56)
  have hl : ((pOut P s l h bits).take 56).length = 56 := by
    rw [List.length_take, pOut_length]; omega
  rw [hl] at this
  exact this

/-! ## 4. the encoder model simulates the pure coder -/

/-- the encoder's `uint64` registers are the pure 56-bit interval plus IDENTICAL left-over top
    8 bits `g` (the Go encoder never masks `low` / `high`) -/
def ERel (e : Enc σ) (l h : Nat) : Prop :=
  ∃ g, g < 256 ∧ e.low = g * 2 ^ 56 + l ∧ e.high = g * 2 ^ 56 + h

theorem erel_init (s0 : σ) : ERel (Enc.init s0) 0 TOP := ⟨0, by decide, rfl, by simp [Enc.init]⟩

theorem enc_split (P : Pred σ) (e : Enc σ) (l h : Nat) (hr : ERel e l h) (hi : Inv l h)
    (hp : OkP P.shift (P.get e.ps)) : e.split P = psplit P.shift l h (P.get e.ps) := by
  obtain ⟨g, hg, h1, h2⟩ := hr
  have hlt := hi.lt
  have hh := hi.hi
  have hb := psplit_bound P.shift l h (P.get e.ps) (by omega) hh hp
  unfold Enc.split psplit
  have e1 : (e.high + 2 ^ 64 - e.low) % 2 ^ 64 = h - l := by rw [h1, h2]; omega
  rw [e1, Nat.shiftRight_eq_div_pow, Nat.shiftRight_eq_div_pow, Nat.mod_eq_of_lt hb]

theorem enc_step (P : Pred σ) (e : Enc σ) (l h : Nat) (b : Bool) (hr : ERel e l h) (hi : Inv l h)
    (hp : OkP P.shift (P.get e.ps)) :
    ERel (e.step P b) (pl1 P.shift l h (P.get e.ps) b) (ph1 P.shift l h (P.get e.ps) b) := by
  have hs := enc_split P e l h hr hi hp
  obtain ⟨g, hg, h1, h2⟩ := hr
  have hlt : l < h := by have := hi.lt; omega
  have hh := hi.hi
  have hsl := psplit_lt P.shift l h (P.get e.ps) hlt hp
  refine ⟨g, hg, ?_, ?_⟩
  · show (if b then e.low else (e.low + (e.split P + 1)) % 2 ^ 64) = _
    rw [hs, h1]
    unfold pl1
    cases b
    · simp only [Bool.false_eq_true, if_false]; omega
    · simp only [if_true]
  · show (if b then (e.low + e.split P) % 2 ^ 64 else e.high) = _
    rw [hs, h1, h2]
    unfold ph1
    cases b
    · simp only [Bool.false_eq_true, if_false]
    · simp only [if_true]; omega

theorem enc_flush_test (e : Enc σ) (l h : Nat) (hr : ERel e l h) :
    ((e.low ^^^ e.high) < 2 ^ 24) ↔ l / 2 ^ 24 = h / 2 ^ 24 := by
  obtain ⟨g, hg, h1, h2⟩ := hr
  rw [xor_lt_iff, h1, h2]
  omega

theorem enc_store (e : Enc σ) (l h : Nat) (n : Nat) (hr : ERel e l h) (hh : h < 2 ^ 56)
    (heq : l / 2 ^ 24 = h / 2 ^ 24) :
    ERel (e.store n) ((l % 2 ^ 24) * 2 ^ 32) ((h % 2 ^ 24) * 2 ^ 32 + (2 ^ 32 - 1)) ∧
    (e.store n).ps = e.ps ∧ (e.store n).rev = (be32 (h / 2 ^ 24)).reverse ++ e.rev ∧
    (e.store n).index = e.index + 4 ∧ (e.store n).bufLen = n ∧
    (e.store n).disposed = e.disposed ∧ (e.store n).grow = e.grow := by
  obtain ⟨g, hg, h1, h2⟩ := hr
  unfold Enc.store
  refine ⟨?_, rfl, ?_, rfl, rfl, rfl, rfl⟩
  · refine ⟨(h / 2 ^ 24) % 256, Nat.mod_lt _ (by decide), ?_, ?_⟩
    · show (e.low <<< 32) % 2 ^ 64 = _
      rw [Nat.shiftLeft_eq, h1]
      omega
    · show ((e.high <<< 32) % 2 ^ 64) ||| MASK_0_32 = _
      rw [show MASK_0_32 = 2 ^ 32 - 1 from rfl, or_mask, Nat.shiftLeft_eq, h2]
      omega
  · have hw : (e.high >>> 24) % 2 ^ 32 = h / 2 ^ 24 := by
      rw [Nat.shiftRight_eq_div_pow, h2]; omega
    show _ :: _ :: _ :: _ :: e.rev = _
    rw [hw]
    rfl

/-- what an encoder state `e'` reached from `e` by flushing the bytes `F` looks like -/
structure Stepped (e e' : Enc σ) (F : List Nat) : Prop where
  rev : e'.rev = F.reverse ++ e.rev
  index : e'.index = e.index + F.length
  disposed : e'.disposed = e.disposed
  grow : e'.grow = e.grow
  /-- the buffer only grows … -/
  mono : e.bufLen ≤ e'.bufLen
  /-- … always holds what has been flushed … -/
  fits : e'.index ≤ e'.bufLen
  /-- … and is untouched when the estimate was sufficient -/
  same : e.index + F.length ≤ e.bufLen → e'.bufLen = e.bufLen

/-- the effect of `flush` on an encoder whose interval has equal top 32 bits: a growing encoder
    (both Go encoders since the repairs d8b7b56, 1e1b76f) always succeeds, a non-growing one (the
    encoders before the repairs) iff 4 bytes are left in the buffer -/
theorem enc_flush (e : Enc σ) (l h : Nat) (hr : ERel e l h) (hh : h < 2 ^ 56)
    (heq : l / 2 ^ 24 = h / 2 ^ 24) (hix : e.index ≤ e.bufLen) :
    ((e.grow = true ∨ e.index + 4 ≤ e.bufLen) → ∃ e', e.flush = .ok e' ∧
        ERel e' ((l % 2 ^ 24) * 2 ^ 32) ((h % 2 ^ 24) * 2 ^ 32 + (2 ^ 32 - 1)) ∧
        e'.ps = e.ps ∧ Stepped e e' (be32 (h / 2 ^ 24))) ∧
    (e.grow = false ∧ ¬ e.index + 4 ≤ e.bufLen → e.flush = .error .index) := by
  constructor
  · intro hc
    unfold Enc.flush
    by_cases hb : e.index + 4 ≤ e.bufLen
    · rw [if_pos hb]
      obtain ⟨s1, s2, s3, s4, s5, s6, s7⟩ := enc_store e l h e.bufLen hr hh heq
      exact ⟨_, rfl, s1, s2, ⟨s3, by rw [s4, be32_length], s6, s7, by rw [s5]; exact Nat.le_refl _,
        by rw [s4, s5]; exact hb, fun _ => s5⟩⟩
    · have hg : e.grow = true := by
        rcases hc with hc | hc
        · exact hc
        · exact absurd hc hb
      rw [if_neg hb, if_pos ⟨hg, hix⟩]
      obtain ⟨s1, s2, s3, s4, s5, s6, s7⟩ := enc_store e l h (2 * e.bufLen + 4) hr hh heq
      exact ⟨_, rfl, s1, s2, ⟨s3, by rw [s4, be32_length], s6, s7, by rw [s5]; omega,
        by rw [s4, s5]; omega, fun hf => absurd (by rw [be32_length] at hf; exact hf) hb⟩⟩
  · intro ⟨hg, hb⟩
    unfold Enc.flush
    rw [if_neg hb, if_neg (by rw [hg]; simp)]

theorem flushBytes_length (c : Bool) (w : Nat) :
    (if c then be32 w else []).length = if c then 4 else 0 := by
  cases c <;> rfl

/-- one `EncodeBit` follows one step of the pure coder; it can only fail in the `flush` of a
    non-growing encoder without room for the 4 bytes -/
theorem enc_bit (P : Pred σ) (e : Enc σ) (l h : Nat) (b : Bool) (hr : ERel e l h) (hi : Inv l h)
    (hp : OkP P.shift (P.get e.ps)) (hix : e.index ≤ e.bufLen) :
    ((e.grow = true ∨ e.index + (if pflush P.shift l h (P.get e.ps) b then 4 else 0) ≤ e.bufLen) →
      ∃ e', e.encodeBit P b = .ok e' ∧
        ERel e' (pl2 P.shift l h (P.get e.ps) b) (ph2 P.shift l h (P.get e.ps) b) ∧
        e'.ps = P.update e.ps b ∧
        Stepped e e' (if pflush P.shift l h (P.get e.ps) b then be32 (ph1 P.shift l h (P.get e.ps) b / 2 ^ 24) else [])) ∧
    (e.grow = false ∧ ¬ e.index + (if pflush P.shift l h (P.get e.ps) b then 4 else 0) ≤ e.bufLen →
      e.encodeBit P b = .error .index) := by
  have hst := enc_step P e l h b hr hi hp
  obtain ⟨f1, f2, f3, f4⟩ := step_facts P.shift l h (P.get e.ps) b hi hp
  have hh := hi.hi
  have ht := enc_flush_test (e.step P b) _ _ hst
  unfold Enc.encodeBit
  cases hf : pflush P.shift l h (P.get e.ps) b
  · obtain ⟨hne, e2, e3⟩ := p2_noflush _ _ _ _ _ hf
    have hnt : ¬ ((e.step P b).low ^^^ (e.step P b).high) < 2 ^ 24 := fun hc => hne (ht.mp hc)
    rw [if_neg hnt]
    constructor
    · intro _
      refine ⟨_, rfl, ?_, rfl, ⟨?_, rfl, rfl, rfl, Nat.le_refl _, hix, fun _ => rfl⟩⟩
      · rw [e2, e3]; exact hst
      · simp [Enc.step]
    · intro ⟨_, hb⟩
      exact absurd (by simpa using hix) hb
  · obtain ⟨heq, e2, e3⟩ := p2_flush _ _ _ _ _ hf
    rw [if_pos (ht.mpr heq)]
    have hfl := enc_flush (e.step P b) _ _ hst (by omega) heq hix
    simp only [if_true]
    constructor
    · intro hb
      obtain ⟨e', he', hr', hps, hs'⟩ := hfl.1 hb
      refine ⟨e', he', ?_, hps, ⟨hs'.rev, hs'.index, hs'.disposed, hs'.grow, hs'.mono, hs'.fits, hs'.same⟩⟩
      rw [e2, e3]; exact hr'
    · intro hb
      exact hfl.2 hb

/-- a run of `EncodeBit`: a growing encoder always succeeds, a non-growing one iff the flushed
    bytes fit in the buffer; in both cases it follows the pure coder -/
theorem enc_bits (P : Pred σ) {R : σ → Prop} (hP : P.Safe R) (bits : List Bool) :
    ∀ (e : Enc σ) (l h : Nat), R e.ps → ERel e l h → Inv l h → e.index ≤ e.bufLen →
    ((e.grow = true ∨ e.index + (pBytes P e.ps l h bits).length ≤ e.bufLen) →
      ∃ e', e.encodeBits P bits = .ok e' ∧
        ERel e' (pFin P e.ps l h bits).2.1 (pFin P e.ps l h bits).2.2 ∧
        e'.ps = (pFin P e.ps l h bits).1 ∧ Stepped e e' (pBytes P e.ps l h bits)) ∧
    (e.grow = false ∧ ¬ e.index + (pBytes P e.ps l h bits).length ≤ e.bufLen →
      e.encodeBits P bits = .error .index) := by
  induction bits with
  | nil =>
    intro e l h _ hr _ hix
    simp only [pBytes, pFin, List.length_nil, Nat.add_zero, Enc.encodeBits]
    exact ⟨fun _ => ⟨e, rfl, hr, rfl, ⟨rfl, rfl, rfl, rfl, Nat.le_refl _, hix, fun _ => rfl⟩⟩,
      fun hc => absurd hix hc.2⟩
  | cons b bs ih =>
    intro e l h hs hr hi hix
    have hb := enc_bit P e l h b hr hi (hP.range _ hs) hix
    have hi' := (step_facts P.shift l h (P.get e.ps) b hi (hP.range _ hs)).2.2.2
    simp only [pBytes, pFin, List.length_append, flushBytes_length, Enc.encodeBits]
    by_cases hc : e.grow = true ∨ e.index + (if pflush P.shift l h (P.get e.ps) b then 4 else 0) ≤ e.bufLen
    · obtain ⟨e1, he1, hr1, hps1, hs1⟩ := hb.1 hc
      rw [he1]
      have hlen1 := hs1.index
      rw [flushBytes_length] at hlen1
      have hih := ih e1 _ _ (by rw [hps1]; exact hP.step _ b hs) hr1 hi' hs1.fits
      rw [hps1] at hih
      constructor
      · intro hfit
        have hfit1 : e1.grow = true ∨ e1.index + (pBytes P (P.update e.ps b) (pl2 P.shift l h (P.get e.ps) b)
            (ph2 P.shift l h (P.get e.ps) b) bs).length ≤ e1.bufLen := by
          rcases hfit with hg | hf
          · exact Or.inl (by rw [hs1.grow]; exact hg)
          · right
            have := hs1.same (by rw [flushBytes_length]; omega)
            omega
        obtain ⟨e', he', hr', hps', hs'⟩ := hih.1 hfit1
        refine ⟨e', he', hr', hps', ⟨?_, ?_, ?_, ?_, ?_, hs'.fits, ?_⟩⟩
        · rw [hs'.rev, hs1.rev, List.reverse_append, List.append_assoc]
        · rw [hs'.index, hlen1, List.length_append, flushBytes_length]; omega
        · rw [hs'.disposed, hs1.disposed]
        · rw [hs'.grow, hs1.grow]
        · exact Nat.le_trans hs1.mono hs'.mono
        · intro hf
          rw [List.length_append, flushBytes_length] at hf
          have h1 := hs1.same (by rw [flushBytes_length]; omega)
          have h2 := hs'.same (by omega)
          omega
      · intro ⟨hg, hnf⟩
        refine hih.2 ⟨by rw [hs1.grow]; exact hg, ?_⟩
        intro hc2
        have := hs1.mono
        by_cases hsm : e.index + (if pflush P.shift l h (P.get e.ps) b then 4 else 0) ≤ e.bufLen
        · have := hs1.same (by rw [flushBytes_length]; exact hsm)
          omega
        · rcases hc with hc | hc
          · rw [hg] at hc; cases hc
          · exact hsm hc
    · have hg : e.grow = false := by
        cases hgg : e.grow
        · rfl
        · exact absurd (Or.inl hgg) hc
      rw [hb.2 ⟨hg, fun hx => hc (Or.inr hx)⟩]
      refine ⟨fun hfit => ?_, fun _ => rfl⟩
      rcases hfit with hfit | hfit
      · rw [hg] at hfit; cases hfit
      · exact absurd (Or.inr (by omega)) hc

end Kanzi.BinEnt
