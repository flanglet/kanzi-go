/-
`inverseMergeTPSI (spec output of s) = s`: assembly of the scatter phase (Proofs/BWTMerge.lean) and the
decoding lanes, for one chunk (blocks below 256 bytes) and eight chunks.
-/
import Kanzi.Proofs.BWTMerge

namespace Kanzi.BWT

theorem usub1_succ (x : Nat) (h : x + 1 < 2 ^ 64) : usub1 (x + 1) = x := by
  unfold usub1
  rw [Nat.add_right_comm, Nat.add_sub_cancel, Nat.add_mod_right, Nat.mod_eq_of_lt (Nat.lt_of_succ_lt h)]

theorem toInt32_small (x : Nat) (h : x < 2 ^ 31) : toInt32 x = Int.ofNat x := by
  unfold toInt32
  have : x % 2 ^ 32 = x := Nat.mod_eq_of_lt (by omega)
  simp only [this, h, ite_true]

theorem indexes_getD (s : List Nat) (rest : List Nat) (k : Nat) (hk : k < getBWTChunks s.length) :
    (bwtIndexes s ++ rest).getD k 0
      = (sa s).idxOf (k * chunkSize s.length (getBWTChunks s.length)) + 1 := by
  have hl : k < (bwtIndexes s).length := by simp [bwtIndexes, hk]
  rw [List.getD_eq_getElem?_getD, List.getElem?_append_left hl]
  simp [bwtIndexes, hk, rowOf]

theorem pay_zero (s : List Nat) (hs : 1 ≤ s.length) : pay s 0 = zpos s :=
  pay_of_lt hs

theorem decode_one (s : List Nat) (hs : 1 ≤ s.length) (hb : ∀ x ∈ s, x < 256) (data : Array Nat)
    (hT : Table s data) (pidx : List Nat) (hc : getBWTChunks s.length ≠ 8) :
    mergeDecode data pidx s.length (zpos s + 1) = .ok s.toArray := by
  have h := lanesRun_table s hb data hT s.length [(0, #[])] (by simp)
  simp only [List.map_cons, List.map_nil, conc, pay_zero s hs, adv_empty] at h
  rw [mergeDecode_one data pidx _ hc, Nat.add_sub_cancel, h]
  simp [concatLanes]

theorem decode_eight (s : List Nat) (hb : ∀ x ∈ s, x < 256) (data : Array Nat)
    (hT : Table s data) (hd : data.size < 2 ^ 31) (rest : List Nat) (hc : getBWTChunks s.length = 8) :
    mergeDecode data (bwtIndexes s ++ rest) s.length (zpos s + 1) = .ok s.toArray := by
  obtain ⟨hck1, hck2, _⟩ := chunkSize8_bounds s.length (getBWTChunks_eq_eight.1 hc)
  have hsz := hT.1
  -- lane `k` starts at the table position of suffix `k * ck`
  have hstart : ∀ k, k < 8 → toInt32 (usub1 ((bwtIndexes s ++ rest).getD k 0))
      = Int.ofNat (pay s (k * chunkSize s.length 8)) ∧ pay s (k * chunkSize s.length 8) < s.length := by
    intro k hk
    have hpos : k * chunkSize s.length 8 < s.length :=
      Nat.lt_of_le_of_lt (Nat.mul_le_mul_right _ (Nat.le_of_lt_succ hk)) hck1
    have hidx := idxOf_sa_lt hpos
    rw [indexes_getD s rest k (hc ▸ hk), hc, usub1_succ _ (by omega), toInt32_small _ (by omega),
      pay_of_lt hpos]
    exact ⟨rfl, hidx⟩
  obtain ⟨ls1, ls2, h1, h2, h3⟩ :=
    lanesRun_chunks s hb data hT 7 (chunkSize s.length 8) (by omega) (by omega)
  have hl : (List.range 8).map (fun k => ((toInt32 (usub1 ((bwtIndexes s ++ rest).getD k 0))).toNat, (#[] : Array Nat)))
      = (List.range (7 + 1)).map fun k => (pay s (k * chunkSize s.length 8), #[]) :=
    List.map_congr_left fun k hk => by rw [(hstart k (List.mem_range.1 hk)).1]; rfl
  rw [← hl] at h1
  rw [mergeDecode_eight_ok data _ _ hc ?_ h1 h2, h3]
  intro k hk
  obtain ⟨e, hlt⟩ := hstart k hk
  rw [e, toInt32_small _ hd]
  simp only [Int.ofNat_eq_natCast]
  omega

/-- `inverseMergeTPSI` on the spec output of `s` restores `s`, whatever the old contents of the work
buffer (shorter than 2^31 entries: the lane starts are checked against `int32(len(buffer))`, which
must not wrap) and of the unused index slots. -/
theorem mergeTPSI_spec (s : List Nat) (hs : 2 ≤ s.length) (hn : s.length < 2 ^ 31)
    (hb : ∀ x ∈ s, x < 256) (buf : Array Nat) (hbuf : buf.size < 2 ^ 31) (rest : List Nat) :
    (mergeTPSI buf (bwtIndexes s ++ rest) (bwtData s).toArray).1 = .ok s.toArray := by
  have hs1 : 1 ≤ s.length := by omega
  have hz := zpos_lt s hs1
  have hp0 : (bwtIndexes s ++ rest).getD 0 0 = zpos s + 1 := by
    rw [indexes_getD s rest 0 (by unfold getBWTChunks; split <;> omega), Nat.zero_mul]
  have hsize := bwtData_size s hs1
  obtain ⟨bk, data, hrun, hd, hT⟩ := scatter_words s hs1 hb (ensureBuf buf (max s.length 256))
    (Nat.le_trans (Nat.le_max_left _ _) (ensureBuf_size_ge _ _))
  have hdec : mergeDecode data (bwtIndexes s ++ rest) s.length (zpos s + 1) = .ok s.toArray := by
    by_cases hc : getBWTChunks s.length = 8
    · refine decode_eight s hb data hT ?_ rest hc
      rw [hd]
      unfold ensureBuf
      split
      · rw [Array.size_replicate]; omega
      · exact hbuf
    · exact decode_one s hs1 hb data hT _ hc
  rw [← model_entries s hs1, ← hp0, ← hsize] at hrun
  rw [mergeTPSI_eq _ _ _ (by omega) (by omega) hrun, hp0, hsize]
  dsimp only
  exact hdec

end Kanzi.BWT
