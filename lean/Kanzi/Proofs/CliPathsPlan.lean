/-
The repaired task planning of the command-line tool (`relativeToInputDir` = `filepath.Rel`,
`checkOutputNames`, `fileOutputName`): stacks of the names the tool computes, inversion of
`planWith`, and what the pre-flight check decides.
-/
import Kanzi.Proofs.CliPathsClean

namespace Kanzi.CliPaths

theorem addSep_ne_nil (s : Str) (h : s ≠ []) : addSep s ≠ [] := by
  unfold addSep
  split <;> simp [h]

theorem stackOf_DOT : stackOf [DOT] = [] := by decide

theorem stackOf_clean (p : Str) : stackOf (clean p) = stackOf p := (clean_stack p).2

theorem isRooted_clean (p : Str) : isRooted (clean p) = isRooted p := (clean_stack p).1

theorem foldl_push_valid (r : Bool) (names : List Str) (st : List Str)
    (hv : ∀ n ∈ names, ValidName n) : names.foldl (cleanStep r) st = names.reverse ++ st := by
  induction names generalizing st with
  | nil => rfl
  | cons n ns ih =>
    rw [List.foldl_cons, cleanStep_valid r st n (hv n (by simp)), ih _ (fun x hx => hv x (by simp [hx]))]
    simp

theorem stackOf_dir_append (p : Str) (names : List Str) (hp : p.getLast? = some SEP)
    (hne : names ≠ []) (hv : ∀ n ∈ names, ValidName n) :
    stackOf (p ++ joinSep names) = names.reverse ++ stackOf p ∧
      isRooted (p ++ joinSep names) = isRooted p := by
  obtain ⟨q, rfl⟩ := List.getLast?_eq_some_iff.mp hp
  have hr := isRooted_append (q ++ [SEP]) (joinSep names) (by simp)
  refine ⟨?_, hr⟩
  unfold stackOf
  rw [hr, List.append_assoc, List.singleton_append, splitSep_append_sep, splitSep_append_sep,
    splitSep_joinSep names hne (noSep_of_valid hv), List.foldl_append, List.foldl_append,
    foldl_push_valid _ _ _ hv]
  simp [splitSep, cleanStep_empty]

theorem pathOf_stack (inp : Str) (rel : List Str) (hi : inp ≠ []) (hrel : rel ≠ [])
    (hv : ∀ n ∈ rel, ValidName n) :
    stackOf (pathOf inp rel) = rel.reverse ++ stackOf (rootOf inp) ∧
      isRooted (pathOf inp rel) = isRooted (rootOf inp) := by
  unfold pathOf rootOf
  by_cases hnr : isNonRec inp = true
  · simp only [hnr, if_true]
    obtain ⟨h1, _, x, hx⟩ := nonRec_shape inp hnr
    have hl : (targetOf inp).getLast? = some SEP := by
      rw [h1, hx, show [SEP, DOT] = [SEP] ++ [DOT] from rfl, ← List.append_assoc, List.dropLast_concat]
      simp
    exact stackOf_dir_append _ rel hl hrel hv
  · simp only [hnr]
    have hroot := addSep_ne_nil inp hi
    rw [walkPath_render _ rel hroot hrel hv]
    have hn := normal_append_valid (isRooted (addSep inp)) (stackOf (addSep inp)) rel hv (stackOf_normal _)
    have := render_stack (isRooted (addSep inp)) (rel.reverse ++ stackOf (addSep inp)) (by simp [hrel]) hn
    exact ⟨this.2, this.1⟩

theorem pathOf_snoc_append (inp : Str) (init : List Str) (last s : Str) (hi : inp ≠ [])
    (hv : ∀ n ∈ init ++ [last], ValidName n) (hv' : ValidName (last ++ s)) :
    pathOf inp (init ++ [last ++ s]) = pathOf inp (init ++ [last]) ++ s := by
  unfold pathOf
  split
  · rw [joinSep_snoc_append]; simp
  · exact walkPath_snoc_append _ init last s (addSep_ne_nil inp hi) hv hv'

theorem relComps_prefix (b rel : List Str) : relComps b (b ++ rel) = some rel := by
  induction b with
  | nil => cases rel <;> simp [relComps]
  | cons x xs ih => simp [relComps, ih]

theorem filepathRel_below (base targ : Str) (rel : List Str) (hrel : rel ≠ [])
    (hs : stackOf targ = rel.reverse ++ stackOf base) (hr : isRooted targ = isRooted base) :
    filepathRel base targ = some (joinSep rel) := by
  unfold filepathRel
  have hne : clean targ ≠ clean base := by
    intro e
    have := congrArg stackOf e
    rw [stackOf_clean, stackOf_clean, hs] at this
    have := congrArg List.length this
    simp at this
    exact hrel this
  have hnd : clean targ ≠ [DOT] := by
    intro e
    have := congrArg stackOf e
    rw [stackOf_clean, hs, stackOf_DOT] at this
    simp at this
    exact hrel this.1
  rw [if_neg hne, isRooted_clean, isRooted_clean, hr]
  simp only [ne_eq, not_true_eq_false, if_false, hnd]
  rw [hs]
  simp [relComps_prefix]

/-- `formattedInName` names the listed directory: same component stack, same rootedness.  It holds
for every spelling of `-i` (`finOK_all`) because `formattedInName` drops a trailing dot only after a
separator; before the fix of F38 any trailing dot was dropped and this failed for `..`, `X/..` and
a directory called `T.` -/
def FinOK (inp : Str) : Prop :=
  stackOf (finOf inp) = stackOf (rootOf inp) ∧ isRooted (finOf inp) = isRooted (rootOf inp)

instance (inp : Str) : Decidable (FinOK inp) := by unfold FinOK; infer_instance

theorem finOf_eq_rootOf (inp : Str) (hi : inp ≠ []) : finOf inp = rootOf inp ∨ inp = [SEP, DOT] := by
  by_cases hnr : isNonRec inp = true
  · left
    obtain ⟨h1, h2, _⟩ := nonRec_shape inp hnr
    rw [h2, rootOf, if_pos hnr, h1]
  · by_cases hstrip : inp.length > 1 ∧ inp.getLast? = some DOT ∧ inp.dropLast.getLast? = some SEP
    · -- ends with `/.` and is not longer than 2 bytes: it is `/.`
      right
      obtain ⟨_, hd, hs⟩ := hstrip
      obtain ⟨ys, rfl⟩ := List.getLast?_eq_some_iff.mp hd
      rw [List.dropLast_concat] at hs
      obtain ⟨x, rfl⟩ := List.getLast?_eq_some_iff.mp hs
      cases x with
      | nil => rfl
      | cons c cs =>
        exact absurd (by simp [isNonRec]) hnr
    · left
      unfold finOf rootOf addSep
      rw [if_neg hstrip]
      by_cases hl : inp.getLast? = some SEP <;> simp [hl, hi, hnr]

theorem finOK_all (inp : Str) (hi : inp ≠ []) : FinOK inp := by
  rcases finOf_eq_rootOf inp hi with h | h
  · unfold FinOK; rw [h]; exact ⟨rfl, rfl⟩
  · subst h; decide

theorem rel_pathOf (inp : Str) (rel : List Str) (hi : inp ≠ []) (hrel : rel ≠ [])
    (hv : ∀ n ∈ rel, ValidName n) :
    relativeToInputDir (finOf inp) (pathOf inp rel) = joinSep rel := by
  obtain ⟨h1, h2⟩ := pathOf_stack inp rel hi hrel hv
  have hf := finOK_all inp hi
  unfold relativeToInputDir
  rw [filepathRel_below (finOf inp) (pathOf inp rel) rel hrel (by rw [h1, hf.1]) (by rw [h2, hf.2])]

/-- an output is an input, or two outputs are the same file (compared as `filepath.Clean` does) -/
def Clash (ts : List (Str × Str)) : Prop :=
  (∃ t ∈ ts, ∃ u ∈ ts, clean t.2 = clean u.1) ∨ ¬ (ts.map fun t => clean t.2).Nodup

theorem checkOuts_iff (seenIn seenOut outs : List Str) :
    checkOuts seenIn seenOut outs = true ↔
      (∀ o ∈ outs, clean o ∉ seenIn ∧ clean o ∉ seenOut) ∧ (outs.map clean).Nodup := by
  induction outs generalizing seenOut with
  | nil => simp [checkOuts]
  | cons o os ih =>
    unfold checkOuts
    simp only
    by_cases h1 : clean o ∈ seenIn
    · simp [h1]
    · by_cases h2 : clean o ∈ seenOut
      · simp [h1, h2]
      · simp only [List.contains_iff_mem, h1, h2, if_false, ih, List.mem_cons, List.map_cons,
          List.nodup_cons, List.mem_map]
        constructor
        · rintro ⟨ha, hb⟩
          refine ⟨?_, ?_, hb⟩
          · intro x hx
            rcases hx with hx | hx
            · subst hx; exact ⟨h1, h2⟩
            · exact ⟨(ha x hx).1, fun e => (ha x hx).2 (Or.inr e)⟩
          · rintro ⟨x, hx, he⟩
            exact (ha x hx).2 (Or.inl he)
        · rintro ⟨ha, hb, hc⟩
          refine ⟨?_, hc⟩
          intro x hx
          refine ⟨(ha x (Or.inr hx)).1, ?_⟩
          intro e
          rcases e with e | e
          · exact hb ⟨x, hx, e⟩
          · exact (ha x (Or.inr hx)).2 e

theorem checkOutputNames_iff (ts : List (Str × Str)) :
    checkOutputNames (ts.map (·.1)) (ts.map (·.2)) = true ↔ ¬ Clash ts := by
  unfold checkOutputNames Clash
  rw [checkOuts_iff]
  have hmap : (ts.map (·.2)).map clean = ts.map fun t => clean t.2 := by
    rw [List.map_map]; rfl
  rw [hmap]
  constructor
  · rintro ⟨ha, hb⟩ hc
    rcases hc with ⟨t, ht, u, hu, e⟩ | hc
    · exact (ha t.2 (List.mem_map.mpr ⟨t, ht, rfl⟩)).1
        (List.mem_map.mpr ⟨u.1, List.mem_map.mpr ⟨u, hu, rfl⟩, e.symm⟩)
    · exact hc hb
  · intro h
    refine ⟨?_, Decidable.of_not_not (fun hn => h (Or.inr hn))⟩
    intro o ho
    obtain ⟨t, ht, rfl⟩ := List.mem_map.mp ho
    refine ⟨?_, by simp⟩
    intro hm
    obtain ⟨i, hi, e⟩ := List.mem_map.mp hm
    obtain ⟨u, hu, rfl⟩ := List.mem_map.mp hi
    exact h (Or.inl ⟨t, ht, u, hu, e.symm⟩)

theorem oNameSingle_eq : @oNameSingle = @oName := rfl

/-- the (input, output) names, before the check -/
def namesOf (decomp isDir sp : Bool) (fin fout : Str) (files : List Str) : List (Str × Str) :=
  files.map fun i => (i, oName decomp isDir sp fin fout i)

theorem namesOf_length (decomp isDir sp : Bool) (fin fout : Str) (files : List Str) :
    (namesOf decomp isDir sp fin fout files).length = files.length := by simp [namesOf]

theorem mkTasks_unchecked (decomp isDir sp : Bool) (fin fout : Str) (files : List Str) :
    mkTasks (fun _ _ => true) decomp isDir sp fin fout files = .tasks (namesOf decomp isDir sp fin fout files) := by
  unfold mkTasks namesOf
  rw [oNameSingle_eq]
  split <;> simp

theorem mkTasks_def (chk : List Str → List Str → Bool) (decomp isDir sp : Bool) (fin fout : Str)
    (files : List Str) :
    mkTasks chk decomp isDir sp fin fout files =
      if files.length = 1 then .tasks (namesOf decomp isDir sp fin fout files)
      else if (!sp && !chk ((namesOf decomp isDir sp fin fout files).map (·.1))
          ((namesOf decomp isDir sp fin fout files).map (·.2))) = true then .err ERR_OVERWRITE_FILE
      else .tasks (namesOf decomp isDir sp fin fout files) := by
  unfold mkTasks namesOf
  rw [oNameSingle_eq]

theorem mkTasks_checked (decomp isDir sp : Bool) (fin fout : Str) (files : List Str) :
    (files.length ≠ 1 ∧ sp = false ∧ Clash (namesOf decomp isDir sp fin fout files) ∧
      mkTasks checkOutputNames decomp isDir sp fin fout files = .err ERR_OVERWRITE_FILE) ∨
    (¬ (files.length ≠ 1 ∧ sp = false ∧ Clash (namesOf decomp isDir sp fin fout files)) ∧
      mkTasks checkOutputNames decomp isDir sp fin fout files = .tasks (namesOf decomp isDir sp fin fout files)) := by
  rw [mkTasks_def]
  by_cases hl : files.length = 1
  · right
    rw [if_pos hl]
    exact ⟨fun h => h.1 hl, rfl⟩
  · rw [if_neg hl]
    have hiff := checkOutputNames_iff (namesOf decomp isDir sp fin fout files)
    cases hc : checkOutputNames ((namesOf decomp isDir sp fin fout files).map (·.1))
        ((namesOf decomp isDir sp fin fout files).map (·.2)) with
    | true =>
      right
      exact ⟨fun h => (hiff.mp hc) h.2.2, by simp⟩
    | false =>
      have hcl : Clash (namesOf decomp isDir sp fin fout files) := by
        apply Classical.byContradiction
        intro hn
        have := hiff.mpr hn
        rw [hc] at this
        exact absurd this (by simp)
      cases sp with
      | true => right; exact ⟨fun h => by simp at h, by simp⟩
      | false => left; exact ⟨hl, rfl, hcl, by simp⟩

/-- what `planWith` returns when it does not reach the task creation -/
def Early (p : Plan) : Prop :=
  p = .unsupported ∨ p = .err ERR_OPEN_FILE ∨ p = .err ERR_CREATE_FILE

theorem planWith_cases (fs : FS) (a : Args) :
    (∃ isDir fin fout files, files ≠ [] ∧
      (isDir = true → fin = finOf a.inp ∧ fout = foutEff a) ∧ (isDir = false → fout = a.out) ∧
      (fs.stat a.inp).map (·.1 == Kind.dir) = some isDir ∧
      createFileList fs (targetOf a.inp) (!isNonRec a.inp) a.noLinks a.noDot = .ok files ∧
      ∀ chk, planWith chk fs a = mkTasks chk a.decomp isDir (isSpecial a.out) fin fout files) ∨
    (∃ p, Early p ∧ ∀ chk, planWith chk fs a = p) := by
  by_cases h0 : a.inp = [] ∨ eqFold a.inp STDIN = true
  · right
    exact ⟨.unsupported, Or.inl rfl, fun chk => by simp [planWith, h0]⟩
  · cases hcf : createFileList fs (targetOf a.inp) (!isNonRec a.inp) a.noLinks a.noDot with
    | error => right; exact ⟨_, Or.inr (Or.inl rfl), fun chk => by simp [planWith, h0, hcf]⟩
    | unsupported => right; exact ⟨_, Or.inl rfl, fun chk => by simp [planWith, h0, hcf]⟩
    | ok files =>
      by_cases hfl : files = []
      · right; exact ⟨_, Or.inr (Or.inl rfl), fun chk => by simp [planWith, h0, hcf, hfl]⟩
      · cases hst : fs.stat a.inp with
        | none => right; exact ⟨_, Or.inr (Or.inl rfl), fun chk => by simp [planWith, h0, hcf, hfl, hst]⟩
        | some kn =>
          obtain ⟨k, n⟩ := kn
          by_cases hk : k = .dir
          · by_cases ho : a.out ≠ [] ∧ ¬ isSpecial a.out = true
            · cases hso : fs.stat a.out with
              | none => right; exact ⟨_, Or.inr (Or.inl rfl), fun chk => by simp [planWith, h0, hcf, hfl, hst, hk, ho, hso]⟩
              | some kon =>
                obtain ⟨ko, m⟩ := kon
                by_cases hko : ko = .dir
                · left
                  refine ⟨true, finOf a.inp, foutOf a.out, files, hfl, fun _ => ⟨rfl, by simp [foutEff, ho]⟩,
                    fun h => by simp at h, by simp [hk], rfl, fun chk => ?_⟩
                  simp [planWith, h0, hcf, hfl, hst, hk, ho, hso, hko]
                · right; exact ⟨_, Or.inr (Or.inr rfl), fun chk => by simp [planWith, h0, hcf, hfl, hst, hk, ho, hso, hko]⟩
            · left
              refine ⟨true, finOf a.inp, a.out, files, hfl, fun _ => ⟨rfl, by simp only [foutEff, ho, if_false]⟩,
                fun h => by simp at h, by simp [hk], rfl, fun chk => ?_⟩
              have ho' : ¬ (¬ a.out = [] ∧ ¬ isSpecial a.out = true) := ho
              simp only [planWith, h0, hcf, hfl, hst, hk, if_false, if_true, ho']
          · by_cases ho : a.out ≠ [] ∧ ¬ isSpecial a.out = true ∧ (fs.stat a.out).map (·.1) = some Kind.dir
            · right; exact ⟨_, Or.inr (Or.inr rfl), fun chk => by simp [planWith, h0, hcf, hfl, hst, hk, ho.1, ho.2.1, ho.2.2]⟩
            · left
              refine ⟨false, [], a.out, files, hfl, fun h => by simp at h, fun _ => rfl,
                by simp [hk], rfl, fun chk => ?_⟩
              simp only [planWith, h0, hcf, hfl, hst, hk, if_false, ho]

end Kanzi.CliPaths
