/-
Proofs about the binary range coder of ROLZX (`rolzEncoder` / `rolzDecoder`, model in `Kanzi/Model/ROLZX.lean`).

The coder is carry-less: `low` / `high` are 64-bit registers whose top 8 bits are identical left-overs (the
encoder never masks them, the decoder does); when the 40 top bits agree the encoder emits the 32 top bits of
`high` (8 left-over bits + 24 new ones) and shifts by 32.  The decoder holds 56 bits of the code in `current`.

Method.  `S` is the COMPLETE output of the encoder (as the decoder will see it).  `Good S e`: the encoder state
`e` has written a prefix of `S`, the byte of `S` at the write position is the left-over byte, and the 56-bit
number that follows (`val7`) lies in `[low, high]` (mod `2^56`).  `Good` propagates BACKWARDS through every
encoder operation (`encodeBit_back`), from the final state (`dispose_good`); the decoder, aligned with the
encoder (`DRel`), then takes the same decision at every bit (`decodeBit_sim`).  The last section lifts this from
bits to the symbols coded bit by bit in an adaptive probability table (`encBits_ok`, `decBits_sim`).
-/
import Kanzi.Model.ROLZX
import Kanzi.Proofs.BinEnt

namespace Kanzi.ROLZ
open Kanzi.BinEnt (xor_lt_iff or_mask)

def Bytes (S : List Nat) : Prop := ∀ k, S.getD k 0 < 256

theorem bytes_nil : Bytes [] := fun k => by simp

/-- the 56-bit big-endian number in `S[i+1 .. i+8)` -/
def val7 (S : List Nat) (i : Nat) : Nat :=
  S.getD (i + 1) 0 * 2 ^ 48 + S.getD (i + 2) 0 * 2 ^ 40 + S.getD (i + 3) 0 * 2 ^ 32 + S.getD (i + 4) 0 * 2 ^ 24
    + S.getD (i + 5) 0 * 2 ^ 16 + S.getD (i + 6) 0 * 2 ^ 8 + S.getD (i + 7) 0

theorem val7_shift {S : List Nat} (hS : Bytes S) (i : Nat) :
    val7 S (i + 4) = (val7 S i % 2 ^ 24) * 2 ^ 32
      + (S.getD (i + 8) 0 * 2 ^ 24 + S.getD (i + 9) 0 * 2 ^ 16 + S.getD (i + 10) 0 * 2 ^ 8 + S.getD (i + 11) 0) := by
  unfold val7
  have h5 := hS (i + 5); have h6 := hS (i + 6); have h7 := hS (i + 7)
  simp only [Nat.add_assoc, Nat.reduceAdd]
  omega

/-- the invariant of the encoder registers between two `encodeBit` calls: identical left-over top bytes, and
    the 40 top bits differ (so `low < high`) -/
structure EInv (e : Enc) : Prop where
  top : e.low / 2 ^ 56 = e.high / 2 ^ 56
  hi : e.high < 2 ^ 64
  lt : e.low / 2 ^ 24 < e.high / 2 ^ 24

theorem einv_lt {e : Enc} (hi : EInv e) : e.low < e.high := by
  have := hi.lt
  omega

theorem einv_init (out : Array Nat) : EInv ⟨0, TOP, out⟩ :=
  ⟨show (0 : Nat) / 2 ^ 56 = TOP / 2 ^ 56 by decide, show TOP < 2 ^ 64 by decide,
   show (0 : Nat) / 2 ^ 24 < TOP / 2 ^ 24 by decide⟩

/-- the split point: no wrap-around in the `uint64` computation -/
theorem splitOf_eq {low high p : Nat} (htop : low / 2 ^ 56 = high / 2 ^ 56) (hhi : high < 2 ^ 64) (hle : low ≤ high)
    (hp : p < 65536) : splitOf low high p = ((high - low) / 16 * (p / 16)) / 256 := by
  unfold splitOf
  have e1 : (high + 2 ^ 64 - low) % 2 ^ 64 = high - low := by omega
  have hR : (high - low) / 16 < 2 ^ 52 := by omega
  have hq : p / 16 ≤ 4095 := by omega
  have hm : (high - low) / 16 * (p / 16) ≤ (high - low) / 16 * 4095 := Nat.mul_le_mul_left _ hq
  rw [e1, Nat.shiftRight_eq_div_pow, Nat.shiftRight_eq_div_pow, Nat.shiftRight_eq_div_pow,
    show (2 : Nat) ^ 4 = 16 from rfl, show (2 : Nat) ^ 8 = 256 from rfl]
  have hlt : (high - low) / 16 * (p / 16) < 2 ^ 64 := by omega
  rw [Nat.mod_eq_of_lt hlt]

theorem splitOf_lt {low high p : Nat} (htop : low / 2 ^ 56 = high / 2 ^ 56) (hhi : high < 2 ^ 64) (hlt : low < high)
    (hp : p < 65536) : low + splitOf low high p < high := by
  rw [splitOf_eq htop hhi (by omega) hp]
  have hq : p / 16 ≤ 4095 := by omega
  have hm : (high - low) / 16 * (p / 16) ≤ (high - low) / 16 * 4095 := Nat.mul_le_mul_left _ hq
  omega

/-- `(x ^ y) >> 24 == 0` iff the bits above the low 24 agree -/
theorem flushTest (a b : Nat) : ((a ^^^ b) >>> 24 = 0) ↔ a / 2 ^ 24 = b / 2 ^ 24 := by
  rw [← xor_lt_iff, Nat.shiftRight_eq_div_pow]
  constructor
  · intro h
    rcases Nat.lt_or_ge (a ^^^ b) (2 ^ 24) with hc | hc
    · exact hc
    · have := Nat.div_pos hc (by decide : 0 < 2 ^ 24)
      omega
  · intro h; exact Nat.div_eq_of_lt h

theorem shl32 (x : Nat) : (x <<< 32) % 2 ^ 64 = (x % 2 ^ 32) * 2 ^ 32 := by
  rw [Nat.shiftLeft_eq]; omega

theorem or32 (y : Nat) : (y * 2 ^ 32) ||| MASK_0_32 = y * 2 ^ 32 + (2 ^ 32 - 1) := by
  rw [show MASK_0_32 = 2 ^ 32 - 1 from rfl, or_mask]
  omega

theorem shl32_or (x : Nat) : ((x <<< 32) % 2 ^ 64) ||| MASK_0_32 = (x % 2 ^ 32) * 2 ^ 32 + (2 ^ 32 - 1) := by
  rw [shl32, or32]

theorem push32_size (out : Array Nat) (w : Nat) : (push32 out w).size = out.size + 4 := by simp [push32]

theorem push32_toList (out : Array Nat) (w : Nat) :
    (push32 out w).toList = out.toList ++ [w / 2 ^ 24 % 256, w / 2 ^ 16 % 256, w / 2 ^ 8 % 256, w % 256] := by
  simp [push32, Nat.shiftRight_eq_div_pow]

theorem getD_append_len (l r : List Nat) (j : Nat) : (l ++ r).getD (l.length + j) 0 = r.getD j 0 := by
  simp [List.getD_eq_getElem?_getD, List.getElem?_append_right]

theorem push32_getD_lt (out : Array Nat) (w k : Nat) (h : k < out.size) : (push32 out w).getD k 0 = out.getD k 0 := by
  rw [← toList_getD, ← toList_getD, push32_toList, List.getD_eq_getElem?_getD,
    List.getElem?_append_left (by rw [Array.length_toList]; exact h), ← List.getD_eq_getElem?_getD]

theorem push32_getD_add (out : Array Nat) (w j : Nat) : (push32 out w).getD (out.size + j) 0 =
    [w / 2 ^ 24 % 256, w / 2 ^ 16 % 256, w / 2 ^ 8 % 256, w % 256].getD j 0 := by
  rw [← toList_getD, push32_toList, ← Array.length_toList, getD_append_len]

def OutBytes (e : Enc) : Prop := ∀ k, e.out.getD k 0 < 256

theorem push32_bytes {out : Array Nat} (h : ∀ k, out.getD k 0 < 256) (w : Nat) : ∀ k, (push32 out w).getD k 0 < 256 := by
  intro k
  by_cases h0 : k < out.size
  · rw [push32_getD_lt _ _ _ h0]
    exact h k
  · obtain ⟨j, rfl⟩ := Nat.exists_eq_add_of_le (Nat.le_of_not_lt h0)
    rw [push32_getD_add]
    match j with
    | 0 | 1 | 2 | 3 => exact Nat.mod_lt _ (by decide)
    | j + 4 => exact Nat.zero_lt_succ 255

/-- the interval after the update of `encodeBit`, before the flush test -/
def low1 (e : Enc) (p : Nat) (bit : Bool) : Nat := if bit then e.low else e.low + splitOf e.low e.high p + 1
def high1 (e : Enc) (p : Nat) (bit : Bool) : Nat := if bit then e.low + splitOf e.low e.high p else e.high

theorem step_order {e : Enc} (hi : EInv e) {p : Nat} (hp : p < 65536) (bit : Bool) :
    e.low ≤ low1 e p bit ∧ low1 e p bit ≤ high1 e p bit ∧ high1 e p bit ≤ e.high ∧
      low1 e p bit / 2 ^ 56 = e.low / 2 ^ 56 ∧ high1 e p bit / 2 ^ 56 = e.low / 2 ^ 56 := by
  have hs := splitOf_lt hi.top hi.hi (einv_lt hi) hp
  have ht := hi.top
  unfold low1 high1
  cases bit <;> simp <;> omega

theorem encodeBit_eq (dstLen : Nat) {e : Enc} (hi : EInv e) {p : Nat} (hp : p < 65536) (bit : Bool) :
    e.encodeBit dstLen p bit =
      if low1 e p bit / 2 ^ 24 = high1 e p bit / 2 ^ 24 then
        (if e.out.size + 4 ≤ dstLen then
          .ok ⟨(low1 e p bit % 2 ^ 32) * 2 ^ 32, (high1 e p bit % 2 ^ 32) * 2 ^ 32 + (2 ^ 32 - 1),
            push32 e.out (high1 e p bit / 2 ^ 32)⟩
        else .fault "dst-slice")
      else .ok ⟨low1 e p bit, high1 e p bit, e.out⟩ := by
  obtain ⟨o1, o2, o3, _⟩ := step_order hi hp bit
  have hh := hi.hi
  have el : (if bit then e.low else (e.low + splitOf e.low e.high p + 1) % 2 ^ 64) = low1 e p bit := by
    unfold low1 at *
    cases bit
    · simp only [Bool.false_eq_true, if_false] at *
      rw [Nat.mod_eq_of_lt (by omega)]
    · simp
  have eh : (if bit then (e.low + splitOf e.low e.high p) % 2 ^ 64 else e.high) = high1 e p bit := by
    unfold high1 at *
    cases bit
    · simp
    · simp only [if_true] at *
      rw [Nat.mod_eq_of_lt (by omega)]
  unfold Enc.encodeBit
  simp only [el, eh, flushTest, shl32, or32]
  have ew : (high1 e p bit >>> 32) % 2 ^ 32 = high1 e p bit / 2 ^ 32 := by
    rw [Nat.shiftRight_eq_div_pow]; omega
  rw [ew]

/-- the registers after a flush: 32 fresh low bits, zeros below `low` and ones below `high` -/
theorem einv_flush {l h : Nat} (out : Array Nat) (hle : l ≤ h) (heq : l / 2 ^ 24 = h / 2 ^ 24) :
    EInv ⟨l % 2 ^ 32 * 2 ^ 32, h % 2 ^ 32 * 2 ^ 32 + (2 ^ 32 - 1), out⟩ :=
  ⟨by show l % 2 ^ 32 * 2 ^ 32 / 2 ^ 56 = (h % 2 ^ 32 * 2 ^ 32 + (2 ^ 32 - 1)) / 2 ^ 56; omega,
   by show h % 2 ^ 32 * 2 ^ 32 + (2 ^ 32 - 1) < 2 ^ 64; omega,
   by show l % 2 ^ 32 * 2 ^ 32 / 2 ^ 24 < (h % 2 ^ 32 * 2 ^ 32 + (2 ^ 32 - 1)) / 2 ^ 24; omega⟩

/-- a successful `encodeBit` either flushed (the 40 top bits agree) or only narrowed the interval -/
theorem encodeBit_cases {dstLen : Nat} {e e' : Enc} (hi : EInv e) {p : Nat} (hp : p < 65536) {bit : Bool}
    (h : e.encodeBit dstLen p bit = .ok e') :
    (low1 e p bit / 2 ^ 24 = high1 e p bit / 2 ^ 24 ∧
      e' = ⟨(low1 e p bit % 2 ^ 32) * 2 ^ 32, (high1 e p bit % 2 ^ 32) * 2 ^ 32 + (2 ^ 32 - 1),
        push32 e.out (high1 e p bit / 2 ^ 32)⟩) ∨
    (low1 e p bit / 2 ^ 24 ≠ high1 e p bit / 2 ^ 24 ∧ e' = ⟨low1 e p bit, high1 e p bit, e.out⟩) := by
  rw [encodeBit_eq dstLen hi hp bit] at h
  by_cases heq : low1 e p bit / 2 ^ 24 = high1 e p bit / 2 ^ 24
  · rw [if_pos heq] at h
    by_cases hfit : e.out.size + 4 ≤ dstLen
    · rw [if_pos hfit] at h
      injection h with h
      exact Or.inl ⟨heq, h.symm⟩
    · rw [if_neg hfit] at h
      cases h
  · rw [if_neg heq] at h
    injection h with h
    exact Or.inr ⟨heq, h.symm⟩

theorem encodeBit_inv {dstLen : Nat} {e e' : Enc} (hi : EInv e) {p : Nat} (hp : p < 65536) {bit : Bool}
    (h : e.encodeBit dstLen p bit = .ok e') :
    EInv e' ∧ e.out.size ≤ e'.out.size ∧ e'.out.size ≤ e.out.size + 4 ∧ (OutBytes e → OutBytes e') := by
  obtain ⟨o1, o2, o3, t1, t2⟩ := step_order hi hp bit
  rcases encodeBit_cases hi hp h with ⟨heq, rfl⟩ | ⟨heq, rfl⟩
  · refine ⟨einv_flush _ o2 heq, ?_, ?_, fun hb => push32_bytes hb _⟩
    · rw [push32_size]
      exact Nat.le_add_right _ _
    · rw [push32_size]
      exact Nat.le_refl _
  · refine ⟨⟨t1.trans t2.symm, Nat.lt_of_le_of_lt o3 hi.hi, ?_⟩, Nat.le_refl _, Nat.le_add_right _ _, id⟩
    show low1 e p bit / 2 ^ 24 < high1 e p bit / 2 ^ 24
    omega

/-! ## the code value stays in the interval (backwards) -/

/-- the encoder state `e` is consistent with the complete output `S` -/
structure Good (S : List Nat) (e : Enc) : Prop where
  pre : ∀ k, k < e.out.size → S.getD k 0 = e.out.getD k 0
  len : e.out.size + 8 ≤ S.length
  top : S.getD e.out.size 0 = e.low / 2 ^ 56
  lo : e.low % 2 ^ 56 ≤ val7 S e.out.size
  hi : val7 S e.out.size ≤ e.high % 2 ^ 56

/-- adding inside the interval does not touch the left-over byte -/
theorem mod56_add {l h s : Nat} (ht : l / 2 ^ 56 = h / 2 ^ 56) (hs : l + s ≤ h) :
    (l + s) % 2 ^ 56 = l % 2 ^ 56 + s := by
  omega

theorem low1_mod {e : Enc} (hi : EInv e) {p : Nat} (hp : p < 65536) (bit : Bool) :
    low1 e p bit % 2 ^ 56 = if bit then e.low % 2 ^ 56 else e.low % 2 ^ 56 + splitOf e.low e.high p + 1 := by
  have hs := splitOf_lt hi.top hi.hi (einv_lt hi) hp
  unfold low1
  cases bit
  · simp only [Bool.false_eq_true, if_false]
    rw [Nat.add_assoc, Nat.add_assoc]
    exact mod56_add hi.top (by omega)
  · simp only [if_true]

theorem high1_mod {e : Enc} (hi : EInv e) {p : Nat} (hp : p < 65536) (bit : Bool) :
    high1 e p bit % 2 ^ 56 = if bit then e.low % 2 ^ 56 + splitOf e.low e.high p else e.high % 2 ^ 56 := by
  have hs := splitOf_lt hi.top hi.hi (einv_lt hi) hp
  unfold high1
  cases bit
  · simp only [Bool.false_eq_true, if_false]
  · simp only [if_true]
    exact mod56_add hi.top (Nat.le_of_lt hs)

/-- the window at `i` and the window 4 bytes later share the 24-bit number `C` -/
theorem val7_window {S : List Nat} (hS : Bytes S) (i : Nat) : ∃ C R, C < 2 ^ 24 ∧ R < 2 ^ 32 ∧
    val7 S i = (S.getD (i + 1) 0 * 2 ^ 24 + S.getD (i + 2) 0 * 2 ^ 16 + S.getD (i + 3) 0 * 2 ^ 8 + S.getD (i + 4) 0)
      * 2 ^ 24 + C ∧ val7 S (i + 4) = C * 2 ^ 32 + R := by
  have h5 := hS (i + 5); have h6 := hS (i + 6); have h7 := hS (i + 7)
  have h8 := hS (i + 8); have h9 := hS (i + 9); have h10 := hS (i + 10); have h11 := hS (i + 11)
  refine ⟨S.getD (i + 5) 0 * 2 ^ 16 + S.getD (i + 6) 0 * 2 ^ 8 + S.getD (i + 7) 0,
    S.getD (i + 8) 0 * 2 ^ 24 + S.getD (i + 9) 0 * 2 ^ 16 + S.getD (i + 10) 0 * 2 ^ 8 + S.getD (i + 11) 0,
    by omega, by omega, ?_, ?_⟩
  · unfold val7
    omega
  · unfold val7
    simp only [Nat.add_assoc, Nat.reduceAdd]
    omega

theorem flush_lo (l : Nat) : (l % 2 ^ 32 * 2 ^ 32) % 2 ^ 56 = l % 2 ^ 24 * 2 ^ 32 ∧
    (l % 2 ^ 32 * 2 ^ 32) / 2 ^ 56 = l / 2 ^ 24 % 256 := by
  omega

/-- a 64-bit register shifted left by 32 with `b` put into the freed bits, as the decoder sees it (mod `2^56`) -/
theorem shift32_mod56 (v : Nat) {b : Nat} (hb : b < 2 ^ 32) : (v % 2 ^ 32 * 2 ^ 32 + b) % 2 ^ 56 = v % 2 ^ 24 * 2 ^ 32 + b := by
  omega

theorem sandwich32 {x y z r : Nat} (hr : r < 2 ^ 32) (h1 : x * 2 ^ 32 ≤ y * 2 ^ 32 + r)
    (h2 : y * 2 ^ 32 + r ≤ z * 2 ^ 32 + (2 ^ 32 - 1)) : x ≤ y ∧ y ≤ z := by
  omega

/-- bits 24..55 of `h` from the three low bytes of its high half and the byte below -/
theorem mid32 {h s1 s2 s3 s4 : Nat} (h1 : s1 = h / 2 ^ 32 / 2 ^ 16 % 256) (h2 : s2 = h / 2 ^ 32 / 2 ^ 8 % 256)
    (h3 : s3 = h / 2 ^ 32 % 256) (h4 : s4 = h / 2 ^ 24 % 256) :
    s1 * 2 ^ 24 + s2 * 2 ^ 16 + s3 * 2 ^ 8 + s4 = h / 2 ^ 24 % 2 ^ 32 := by
  omega

theorem mod56_split (x : Nat) : x % 2 ^ 56 = x / 2 ^ 24 % 2 ^ 32 * 2 ^ 24 + x % 2 ^ 24 := by
  omega

theorem be8_top {x : Nat} (hx : x < 2 ^ 64) : x / 2 ^ 32 / 2 ^ 24 % 256 = x / 2 ^ 56 := by
  omega

/-- undoing a flush: the window before it lies between the registers that were flushed.  `S[n+1..n+3]` are the
    bytes of `h` just written, `S[n+4]` is the new left-over byte, and the window 4 bytes later lies between
    the shifted registers -/
theorem unflush {S : List Nat} (hS : Bytes S) {n l h : Nat} (heq : l / 2 ^ 24 = h / 2 ^ 24)
    (b1 : S.getD (n + 1) 0 = h / 2 ^ 32 / 2 ^ 16 % 256) (b2 : S.getD (n + 2) 0 = h / 2 ^ 32 / 2 ^ 8 % 256)
    (b3 : S.getD (n + 3) 0 = h / 2 ^ 32 % 256) (g3 : S.getD (n + 4) 0 = (l % 2 ^ 32 * 2 ^ 32) / 2 ^ 56)
    (g4 : (l % 2 ^ 32 * 2 ^ 32) % 2 ^ 56 ≤ val7 S (n + 4))
    (g5 : val7 S (n + 4) ≤ (h % 2 ^ 32 * 2 ^ 32 + (2 ^ 32 - 1)) % 2 ^ 56) :
    l % 2 ^ 56 ≤ val7 S n ∧ val7 S n ≤ h % 2 ^ 56 := by
  obtain ⟨C, R, hC, hR, hv, hv'⟩ := val7_window hS n
  rw [hv', (flush_lo l).1] at g4
  rw [hv', shift32_mod56 h (by decide : 2 ^ 32 - 1 < 2 ^ 32)] at g5
  rw [(flush_lo l).2, heq] at g3
  obtain ⟨s1, s2⟩ := sandwich32 hR g4 g5
  rw [hv, mid32 b1 b2 b3 g3, mod56_split l, mod56_split h, heq]
  exact ⟨Nat.add_le_add_left s1 _, Nat.add_le_add_left s2 _⟩

/-- **backward step**: if the state after `encodeBit` is consistent with `S`, so is the state before, and the
    coded bit is what the decoder's comparison `mid >= current` yields -/
theorem encodeBit_back {dstLen : Nat} {S : List Nat} (hS : Bytes S) {e e' : Enc} (hi : EInv e) {p : Nat}
    (hp : p < 65536) {bit : Bool} (h : e.encodeBit dstLen p bit = .ok e') (hg : Good S e') :
    Good S e ∧ (bit = decide (e.low % 2 ^ 56 + splitOf e.low e.high p ≥ val7 S e.out.size)) := by
  obtain ⟨o1, o2, o3, t1, t2⟩ := step_order hi hp bit
  have hs := splitOf_lt hi.top hi.hi (einv_lt hi) hp
  -- the window lies in [low1, high1] (mod 2^56) with the left-over byte of `e`
  have hw : (∀ k, k < e.out.size → S.getD k 0 = e.out.getD k 0) ∧ e.out.size + 8 ≤ S.length ∧
      S.getD e.out.size 0 = e.low / 2 ^ 56 ∧ low1 e p bit % 2 ^ 56 ≤ val7 S e.out.size ∧
      val7 S e.out.size ≤ high1 e p bit % 2 ^ 56 := by
    obtain ⟨g1, g2, g3, g4, g5⟩ := hg
    rcases encodeBit_cases hi hp h with ⟨heq, rfl⟩ | ⟨_, rfl⟩
    · simp only [push32_size] at g1 g2 g3 g4 g5
      have b0 := (g1 e.out.size (by omega)).trans (push32_getD_add e.out _ 0)
      have b1 := (g1 (e.out.size + 1) (by omega)).trans (push32_getD_add e.out _ 1)
      have b2 := (g1 (e.out.size + 2) (by omega)).trans (push32_getD_add e.out _ 2)
      have b3 := (g1 (e.out.size + 3) (by omega)).trans (push32_getD_add e.out _ 3)
      obtain ⟨u1, u2⟩ := unflush hS heq b1 b2 b3 g3 g4 g5
      refine ⟨fun k hk => ?_, by omega, b0.trans ((be8_top (Nat.lt_of_le_of_lt o3 hi.hi)).trans t2), u1, u2⟩
      rw [g1 k (by omega), push32_getD_lt _ _ _ hk]
    · exact ⟨g1, g2, g3.trans t1, g4, g5⟩
  obtain ⟨w1, w2, w3, w4, w5⟩ := hw
  rw [low1_mod hi hp] at w4
  rw [high1_mod hi hp] at w5
  have ht := hi.top
  cases bit
  · simp only [Bool.false_eq_true, if_false] at w4 w5
    refine ⟨⟨w1, w2, w3, by omega, w5⟩, ?_⟩
    symm
    rw [decide_eq_false_iff_not]
    omega
  · simp only [if_true] at w4 w5
    refine ⟨⟨w1, w2, w3, w4, by omega⟩, ?_⟩
    symm
    rw [decide_eq_true_iff]
    exact w5

theorem val7_append (l : List Nat) (b0 b1 b2 b3 b4 b5 b6 b7 : Nat) :
    val7 (l ++ [b0, b1, b2, b3, b4, b5, b6, b7]) l.length =
      b1 * 2 ^ 48 + b2 * 2 ^ 40 + b3 * 2 ^ 32 + b4 * 2 ^ 24 + b5 * 2 ^ 16 + b6 * 2 ^ 8 + b7 := by
  unfold val7
  simp only [getD_append_len]
  rfl

theorem low24 (x : Nat) : x % 2 ^ 32 / 2 ^ 16 % 256 * 2 ^ 16 + x % 2 ^ 32 / 2 ^ 8 % 256 * 2 ^ 8 + x % 2 ^ 32 % 256 = x % 2 ^ 24 := by
  omega

/-- an output that ends with the eight bytes of `low` is consistent with the state -/
theorem good_append {e : Enc} (hi : EInv e) {b0 b1 b2 b3 b4 b5 b6 b7 : Nat} (h0 : b0 = e.low / 2 ^ 56)
    (hm : b1 * 2 ^ 24 + b2 * 2 ^ 16 + b3 * 2 ^ 8 + b4 = e.low / 2 ^ 24 % 2 ^ 32)
    (hl : b5 * 2 ^ 16 + b6 * 2 ^ 8 + b7 = e.low % 2 ^ 24) :
    Good (e.out.toList ++ [b0, b1, b2, b3, b4, b5, b6, b7]) e := by
  have hv7 : val7 (e.out.toList ++ [b0, b1, b2, b3, b4, b5, b6, b7]) e.out.size = e.low % 2 ^ 56 := by
    rw [← Array.length_toList, val7_append, mod56_split e.low, ← hm, ← hl]
    clear hm hl
    omega
  refine ⟨fun k hk => ?_, ?_, ?_, ?_, ?_⟩
  · rw [← toList_getD e.out, List.getD_eq_getElem?_getD, List.getD_eq_getElem?_getD,
      List.getElem?_append_left (by rw [Array.length_toList]; exact hk)]
  · rw [List.length_append, Array.length_toList]
    exact Nat.le_refl _
  · have := getD_append_len e.out.toList [b0, b1, b2, b3, b4, b5, b6, b7] 0
    rw [Nat.add_zero, Array.length_toList] at this
    rw [this, ← h0]
    rfl
  · rw [hv7]
    exact Nat.le_refl _
  · rw [hv7]
    have := hi.top
    have := einv_lt hi
    omega

/-- the final state: `dispose` writes the 8 bytes of `low` -/
theorem dispose_good {dstLen : Nat} {e : Enc} (hi : EInv e) {out : Array Nat} (h : e.dispose dstLen = .ok out) :
    Good out.toList e ∧ out.size = e.out.size + 8 ∧ out.size ≤ dstLen := by
  unfold Enc.dispose at h
  split at h
  · rename_i hfit
    injection h with h
    subst h
    have hlo : e.low < 2 ^ 64 := Nat.lt_trans (einv_lt hi) hi.hi
    have hw : (e.low >>> 32) % 2 ^ 32 = e.low / 2 ^ 32 := by
      rw [Nat.shiftRight_eq_div_pow]
      omega
    refine ⟨?_, by rw [push32_size, push32_size], by rw [push32_size, push32_size]; exact hfit⟩
    rw [hw, push32_toList, push32_toList, List.append_assoc]
    exact good_append hi (be8_top hlo) (mid32 rfl rfl rfl (by omega)) (low24 e.low)
  · cases h

/-- the decoder registers mirror the encoder's (mod `2^56`), `current` is the window of the encoder's write
    position, and the decoder has read 8 bytes ahead -/
structure DRel (S : List Nat) (e : Enc) (d : Dec) : Prop where
  low : d.low = e.low % 2 ^ 56
  high : d.high = e.high % 2 ^ 56
  cur : d.current = val7 S e.out.size
  idx : d.idx = e.out.size + 8

theorem beN4 (S : List Nat) (i : Nat) :
    beN S.toArray i 4 = S.getD i 0 * 2 ^ 24 + S.getD (i + 1) 0 * 2 ^ 16 + S.getD (i + 2) 0 * 2 ^ 8 + S.getD (i + 3) 0 := by
  simp only [beN, toArray_getD, Nat.add_zero]
  omega

theorem shl32_or_lt (c v : Nat) (hv : v < 2 ^ 32) : ((c <<< 32) % 2 ^ 64) ||| v = (c % 2 ^ 32) * 2 ^ 32 + v := by
  rw [shl32]
  have := Kanzi.shl_or (c % 2 ^ 32) v 32 hv
  rw [Nat.shiftLeft_eq] at this
  exact this

/-- the decoder, holding the registers mod `2^56`, computes the same split -/
theorem splitOf_mod56 {e : Enc} (hi : EInv e) {p : Nat} (hp : p < 65536) :
    splitOf (e.low % 2 ^ 56) (e.high % 2 ^ 56) p = splitOf e.low e.high p := by
  have ht := hi.top
  have hh := hi.hi
  have hlt := einv_lt hi
  rw [splitOf_eq (by omega) (by omega) (by omega) hp, splitOf_eq ht hh (Nat.le_of_lt hlt) hp,
    show e.high % 2 ^ 56 - e.low % 2 ^ 56 = e.high - e.low by omega]

theorem flush_mod56 {l h : Nat} (ht : l / 2 ^ 56 = h / 2 ^ 56) :
    l % 2 ^ 56 / 2 ^ 24 = h % 2 ^ 56 / 2 ^ 24 ↔ l / 2 ^ 24 = h / 2 ^ 24 := by
  omega

/-- **one decoded bit**: aligned with an encoder state whose successor is consistent with `S`, the decoder
    returns the coded bit and stays aligned -/
theorem decodeBit_sim {dstLen : Nat} {S : List Nat} (hS : Bytes S) {e e' : Enc} {d : Dec} (hi : EInv e) {p : Nat}
    (hp : p < 65536) {bit : Bool} (h : e.encodeBit dstLen p bit = .ok e') (hg : Good S e') (hr : DRel S e d) :
    ∃ d', d.decodeBit S.toArray p = .ok (bit, d') ∧ DRel S e' d' := by
  obtain ⟨_, hbit⟩ := encodeBit_back hS hi hp h hg
  obtain ⟨o1, o2, o3, t1, t2⟩ := step_order hi hp bit
  obtain ⟨r1, r2, r3, r4⟩ := hr
  have hs := splitOf_lt hi.top hi.hi (einv_lt hi) hp
  have hh := hi.hi
  have hmid : (d.low + splitOf d.low d.high p) % 2 ^ 64 = e.low % 2 ^ 56 + splitOf e.low e.high p := by
    rw [r1, r2, splitOf_mod56 hi hp]
    omega
  have hbd : decide (e.low % 2 ^ 56 + splitOf e.low e.high p ≥ d.current) = bit := by
    rw [r3, hbit]
  -- the decoder's interval is the encoder's mod 2^56
  have el : (if bit = true then d.low else (e.low % 2 ^ 56 + splitOf e.low e.high p + 1) % 2 ^ 64) =
      low1 e p bit % 2 ^ 56 := by
    rw [low1_mod hi hp, r1]
    cases bit
    · simp only [Bool.false_eq_true, if_false]
      omega
    · simp only [if_true]
  have eh : (if bit = true then e.low % 2 ^ 56 + splitOf e.low e.high p else d.high) = high1 e p bit % 2 ^ 56 := by
    rw [high1_mod hi hp, r2]
  have hft := flush_mod56 (t1.trans t2.symm)
  unfold Dec.decodeBit
  simp only [hmid]
  simp only [hbd, flushTest]
  rw [el, eh]
  rcases encodeBit_cases hi hp h with ⟨heq, rfl⟩ | ⟨heq, rfl⟩
  · have g2 := hg.len
    simp only [push32_size] at g2
    rw [if_pos (hft.mpr heq), if_pos (by rw [List.size_toArray]; omega)]
    have hb : beN S.toArray d.idx 4 < 2 ^ 32 := by
      have c0 := hS d.idx; have c1 := hS (d.idx + 1); have c2 := hS (d.idx + 2); have c3 := hS (d.idx + 3)
      rw [beN4]
      omega
    have h56 : ∀ x : Nat, x % 2 ^ 56 % 2 ^ 32 = x % 2 ^ 32 := fun x => Nat.mod_mod_of_dvd x (by decide)
    refine ⟨_, rfl, ⟨?_, ?_, ?_, ?_⟩⟩
    · simp only [shl32, h56]
    · simp only [shl32, or32, h56]
    · simp only [push32_size]
      rw [shl32_or_lt _ _ hb, shift32_mod56 _ hb, val7_shift hS, r3, beN4, r4]
    · simp only [push32_size]
      omega
  · rw [if_neg (fun hc => heq (hft.mp hc))]
    exact ⟨_, rfl, ⟨rfl, rfl, r3, r4⟩⟩

/-! ## symbols: `encodeBits` / `decodeBits` in a probability table -/

/-- every probability is a 16-bit number (so that `p >> 4` is a 12-bit one) -/
def ProbOk (t : Array Nat) : Prop := ∀ k, t.getD k 0 < 65536

theorem probUp_lt {p : Nat} (bit : Bool) (h : p < 65536) : probUp p bit < 65536 := by
  unfold probUp
  cases bit
  · simp only [Bool.false_eq_true, if_false]; omega
  · simp only [if_true]
    split <;> omega

theorem getD_setIfInBounds (t : Array Nat) (i v k : Nat) :
    (t.setIfInBounds i v).getD k 0 = if k = i ∧ i < t.size then v else t.getD k 0 := by
  simp only [Array.getD_eq_getD_getElem?, Array.getElem?_setIfInBounds]
  by_cases h1 : i = k
  · subst h1
    by_cases h2 : i < t.size
    · simp [h2]
    · simp [h2]
  · have : ¬ k = i := fun h => h1 h.symm
    simp [h1, this]

theorem probOk_set {t : Array Nat} (h : ProbOk t) (i v : Nat) (hv : v < 65536) : ProbOk (t.setIfInBounds i v) := by
  intro k
  rw [getD_setIfInBounds]
  split
  · exact hv
  · exact h k

theorem probs0_ok (n : Nat) : ProbOk (probs0 n) := by
  intro k
  unfold probs0
  rw [Array.getD_eq_getD_getElem?, Array.getElem?_replicate]
  split
  · show PSCALE >>> 1 < 65536; decide
  · show 0 < 65536; decide

/-- a symbol of `n` bits: the invariants are kept, at most `4 n` bytes are written, and consistency with the
    complete output flows backwards -/
theorem encBits_ok {dstLen ctx val : Nat} {S : List Nat} (hS : Bytes S) {n c1 : Nat} {e e' : Enc} {t t' : Array Nat}
    (hi : EInv e) (ht : ProbOk t) (h : encBits dstLen ctx val n c1 e t = .ok (e', t')) :
    EInv e' ∧ ProbOk t' ∧ (Good S e' → Good S e) ∧ (OutBytes e → OutBytes e') ∧
      e.out.size ≤ e'.out.size ∧ e'.out.size ≤ e.out.size + 4 * n := by
  induction n generalizing c1 e t with
  | zero =>
    simp only [encBits] at h
    injection h with h
    injection h with h1 h2
    subst h1
    subst h2
    exact ⟨hi, ht, id, id, Nat.le_refl _, Nat.le_refl _⟩
  | succ n ih =>
    simp only [encBits] at h
    split at h
    · rename_i e1 he1
      have hp := ht (ctx + c1)
      obtain ⟨i1, y1, y2, b1⟩ := encodeBit_inv hi hp he1
      obtain ⟨i', p', g', b', z1, z2⟩ := ih i1 (probOk_set ht _ _ (probUp_lt _ hp)) h
      exact ⟨i', p', fun hg => (encodeBit_back hS hi hp he1 (g' hg)).1, fun hb => b' (b1 hb), by omega, by omega⟩
    · cases h
    · cases h

theorem testBit_acc (c1 val n : Nat) :
    (2 * c1 + (val.testBit n).toNat) * 2 ^ n + val % 2 ^ n = c1 * 2 ^ (n + 1) + val % 2 ^ (n + 1) := by
  rw [Nat.mod_pow_succ, Nat.toNat_testBit, Nat.pow_succ]
  have : (2 * c1 + val / 2 ^ n % 2) * 2 ^ n = c1 * (2 ^ n * 2) + 2 ^ n * (val / 2 ^ n % 2) := by
    rw [Nat.add_mul, Nat.mul_comm (val / 2 ^ n % 2), Nat.mul_comm 2 c1, Nat.mul_assoc, Nat.mul_comm 2 (2 ^ n)]
  omega

/-- **one decoded symbol**: the decoder, aligned with the encoder and holding the same table, reads back the
    `n` bits of `val` (accumulated into `c1`), ends aligned and with the same updated table -/
theorem decBits_sim {dstLen ctx val : Nat} {S : List Nat} (hS : Bytes S) {n c1 : Nat} {e e' : Enc} {t t' : Array Nat}
    {d : Dec} (hi : EInv e) (ht : ProbOk t) (h : encBits dstLen ctx val n c1 e t = .ok (e', t')) (hg : Good S e')
    (hr : DRel S e d) :
    ∃ d', decBits S.toArray ctx n c1 d t = .ok (c1 * 2 ^ n + val % 2 ^ n, d', t') ∧ DRel S e' d' := by
  induction n generalizing c1 e t d with
  | zero =>
    simp only [encBits] at h
    injection h with h
    injection h with h1 h2
    subst h1
    subst h2
    refine ⟨d, ?_, hr⟩
    simp [decBits, Nat.mod_one]
  | succ n ih =>
    simp only [encBits] at h
    split at h
    · rename_i e1 he1
      have hp := ht (ctx + c1)
      have i1 := (encodeBit_inv hi hp he1).1
      have ht1 := probOk_set ht (ctx + c1) _ (probUp_lt (val.testBit n) hp)
      obtain ⟨d1, hd1, r1⟩ := decodeBit_sim hS hi hp he1 ((encBits_ok hS i1 ht1 h).2.2.1 hg) hr
      obtain ⟨d', hd', r'⟩ := ih i1 ht1 h r1
      refine ⟨d', ?_, r'⟩
      simp only [decBits, hd1]
      rw [hd', testBit_acc]
    · cases h
    · cases h

end Kanzi.ROLZ
