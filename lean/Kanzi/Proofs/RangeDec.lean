/-
Proofs about the total model of `RangeDecoder.Read` (`Kanzi/Model/RangeDec.lean`), property C03:
termination (no loop of the model runs out of fuel), the failure classes that can occur (never a
division by zero, never an index fault inside `decodeHeader`), the bound on the only allocation
(`f2s`), and agreement with the decoder of the round-trip theorems (`Kanzi.Range.decode`).
Sections: A the renormalisation loop, B one symbol and the payload of a chunk, C `decodeHeader`,
D the reverse mapping `f2s`, E the chunk loop of `Read`.
-/
import Kanzi.Model.RangeDec
import Kanzi.Proofs.RangeChunk

namespace Kanzi.RangeDec
open Kanzi.Bits Kanzi.EntSmall Kanzi.Range

/-! ### A. the renormalisation loop -/

theorem readBits_len (n : Nat) (bs : Bits) (v : Nat) (r : Bits) (h : readBits n bs = some (v, r)) :
    r.length + n = bs.length := by
  unfold readBits at h
  split at h
  · simp only [Option.some.injEq, Prod.mk.injEq] at h
    obtain ⟨_, rfl⟩ := h
    rw [List.length_drop]; omega
  · cases h

/-- every round reads 28 bits: with `len/28 + 1` rounds of fuel the loop never runs dry -/
theorem normC_no_hang (fuel low rng code : Nat) (bs : Bits) (h : bs.length / 28 + 1 ≤ fuel) :
    normC fuel low rng code bs ≠ .fail .hang := by
  fun_induction normC fuel low rng code bs with
  | case1 => omega
  | case2 => intro hc; cases hc
  | case3 => intro hc; cases hc
  | case4 _ _ _ _ bs _ _ w bs' hr ih =>
    have := readBits_len 28 bs w bs' hr
    exact ih (by omega)

theorem normC_cls (fuel low rng code : Nat) (bs : Bits) (c : Cls)
    (h : normC fuel low rng code bs = .fail c) : c = .eos ∨ c = .hang := by
  fun_induction normC fuel low rng code bs with
  | case1 => cases h; exact Or.inr rfl
  | case2 => cases h
  | case3 => cases h; exact Or.inl rfl
  | case4 _ _ _ _ _ _ _ _ _ _ ih => exact ih h

theorem normC_ok_bottom (fuel low rng code : Nat) (bs : Bits) (l g cd : Nat) (bs' : Bits)
    (h : normC fuel low rng code bs = .ok (l, g, cd) bs') : bottomRange < g := by
  fun_induction normC fuel low rng code bs with
  | case1 => cases h
  | case2 _ _ _ _ _ hn => cases h; exact normRng_none _ _ hn
  | case3 => cases h
  | case4 _ _ _ _ _ _ _ _ _ _ ih => exact ih h

theorem normC_ok_inv (fuel low rng code : Nat) (bs : Bits) (l g cd : Nat) (bs' : Bits) (hi : Inv low rng)
    (h : normC fuel low rng code bs = .ok (l, g, cd) bs') : Inv l g := by
  fun_induction normC fuel low rng code bs with
  | case1 => cases h
  | case2 => cases h; exact hi
  | case3 => cases h
  | case4 _ low rng _ _ r hn _ _ _ ih => exact ih (inv_round low rng r hi hn) h

theorem normC_mono (fuel k low rng code : Nat) (bs : Bits) (h : normC fuel low rng code bs ≠ .fail .hang) :
    normC (fuel + k) low rng code bs = normC fuel low rng code bs := by
  fun_induction normC fuel low rng code bs with
  | case1 => exact absurd rfl h
  | case2 fuel _ _ _ _ hn => rw [Nat.succ_add, normC, hn]
  | case3 fuel _ _ _ _ _ hn hr => rw [Nat.succ_add, normC, hn, hr]
  | case4 fuel _ _ _ _ _ hn _ _ hr ih => rw [Nat.succ_add, normC, hn, hr]; exact ih h

/-- `Option` result of the model `Kanzi.Range` as a classified result: there `none` can only be the
    end of the stream -/
def ofOpt {α : Type} : Option (α × Bits) → Res α
  | none => .fail .eos
  | some (v, r) => .ok v r

theorem normC_decNorm (fuel low rng code : Nat) (bs : Bits) (h : normC fuel low rng code bs ≠ .fail .hang) :
    normC fuel low rng code bs = ofOpt (decNorm fuel low rng code bs) := by
  fun_induction normC fuel low rng code bs with
  | case1 => exact absurd rfl h
  | case2 _ _ _ _ _ hn => rw [decNorm, hn]; rfl
  | case3 _ _ _ _ _ _ hn hr => rw [decNorm, hn, hr]; rfl
  | case4 _ _ _ _ _ _ hn _ _ hr ih => rw [decNorm, hn, hr]; exact ih h

theorem normC_inv_no_hang (fuel low rng code : Nat) (bs : Bits) (hi : Inv low rng) (hf : FuelOk rng fuel) :
    normC fuel low rng code bs ≠ .fail .hang := by
  fun_induction normC fuel low rng code bs with
  | case1 => have := hf.2.2; omega
  | case2 => intro hc; cases hc
  | case3 => intro hc; cases hc
  | case4 fuel low rng _ _ r hn _ _ _ ih =>
    exact ih (inv_round low rng r hi hn) (fuelOk_round low rng r fuel hi hn hf)

/-- from a state satisfying the invariant of the round-trip proofs, the loop of this model (fuel
    `len/28 + 1`) and the loop of `Kanzi.Range` (fuel 64) compute the same thing -/
theorem norm_agree (low rng code : Nat) (bs : Bits) (hi : Inv low rng) (v : Nat × Nat × Nat) (r : Bits)
    (h : decNorm normFuel low rng code bs = some (v, r)) :
    normC (normFuelC bs) low rng code bs = .ok v r := by
  have f3 : FuelOk rng 3 := by unfold FuelOk; omega
  have a := normC_inv_no_hang 3 low rng code bs hi f3
  have e1 := normC_decNorm 3 low rng code bs a
  have e2 : decNorm normFuel low rng code bs = decNorm 3 low rng code bs :=
    decNorm_fuel 3 61 low rng code bs hi f3
  have b := normC_no_hang (normFuelC bs) low rng code bs (Nat.le_refl _)
  have e3 : normC (normFuelC bs) low rng code bs = normC 3 low rng code bs := by
    rcases Nat.le_total 3 (normFuelC bs) with hle | hle
    · obtain ⟨k, hk⟩ := Nat.exists_eq_add_of_le hle
      rw [hk]; exact normC_mono 3 k _ _ _ _ a
    · obtain ⟨k, hk⟩ := Nat.exists_eq_add_of_le hle
      have := normC_mono (normFuelC bs) k low rng code bs b
      rw [← hk] at this
      exact this.symm
  rw [e3, e1, ← e2, h]
  rfl

/-! ### B. one symbol, the payload -/

theorem slot_owner : ∀ (f : List Nat) (j : Nat), j < f.sum →
    ∃ s, s < f.length ∧ cumF f s ≤ j ∧ j < cumF f s + f.getD s 0 := by
  intro f
  induction f with
  | nil => intro j h; simp at h
  | cons fi fs ih =>
    intro j h
    by_cases hj : j < fi
    · exact ⟨0, by simp, by simp [cumF], by simpa [cumF] using hj⟩
    · simp only [List.sum_cons] at h
      obtain ⟨s, h1, h2, h3⟩ := ih (j - fi) (by omega)
      refine ⟨s + 1, by simpa using h1, ?_, ?_⟩
      · have hc : cumF (fi :: fs) (s + 1) = fi + cumF fs s := by simp [cumF]
        rw [hc]; omega
      · have hc : cumF (fi :: fs) (s + 1) = fi + cumF fs s := by simp [cumF]
        rw [hc, List.getD_cons_succ]; omega

theorem shift_pos (rng shift : Nat) (hb : bottomRange < rng) (hs : shift ≤ 15) : rng >>> shift ≠ 0 := by
  rw [Nat.shiftRight_eq_div_pow]
  have hp : 2 ^ shift ≤ 2 ^ 15 := Nat.pow_le_pow_right (by decide) hs
  unfold bottomRange at hb
  have : 0 < rng / 2 ^ shift := Nat.div_pos (by omega) (Nat.pow_pos (by decide))
  omega

theorem stepSymC_cls (cum : Array Nat) (shift low rng code : Nat) (bs : Bits) (s0 : Nat) :
    (∀ c, stepSymC cum shift low rng code bs s0 = .fail c → c = .eos) ∧
    (∀ s l g cd bs', stepSymC cum shift low rng code bs s0 = .ok (s, l, g, cd) bs' → bottomRange < g) := by
  unfold stepSymC
  cases hn : normC (normFuelC bs) ((low + cum.getD s0 0 * (rng >>> shift)) % 2 ^ 64)
      (((rng >>> shift) * (cum.getD (s0 + 1) 0 - cum.getD s0 0)) % 2 ^ 64) code bs with
  | fail c =>
    refine ⟨fun c' h => ?_, fun _ _ _ _ _ h => (by cases h)⟩
    cases h
    rcases normC_cls _ _ _ _ _ _ hn with h1 | h1
    · exact h1
    · subst h1
      exact absurd hn (normC_no_hang _ _ _ _ _ (Nat.le_refl _))
  | ok v r =>
    obtain ⟨l, g, cd⟩ := v
    refine ⟨fun c' h => (by cases h), fun s l' g' cd' bs' h => ?_⟩
    cases h
    exact normC_ok_bottom _ _ _ _ _ _ _ _ _ hn

theorem stepC_cls (cum f2s : Array Nat) (shift low rng code : Nat) (bs : Bits)
    (hb : bottomRange < rng) (hs : shift ≤ 15) :
    (∀ c, stepC cum f2s shift low rng code bs = .fail c → c = .eos ∨ c = .fault) ∧
    (∀ s l g cd bs', stepC cum f2s shift low rng code bs = .ok (s, l, g, cd) bs' → bottomRange < g) := by
  have h0 := shift_pos rng shift hb hs
  unfold stepC
  rw [if_neg h0]
  by_cases hsl : slot shift low rng code ≥ f2s.size
  · rw [if_pos hsl]
    exact ⟨fun c h => (by cases h; exact Or.inr rfl), fun _ _ _ _ _ h => (by cases h)⟩
  · rw [if_neg hsl]
    obtain ⟨a1, a2⟩ := stepSymC_cls cum shift low rng code bs (f2s.getD (slot shift low rng code) 0)
    exact ⟨fun c h => Or.inl (a1 c h), a2⟩

theorem symsC_cls (cum f2s : Array Nat) (shift : Nat) (hs : shift ≤ 15) (n low rng code : Nat) (bs : Bits)
    (hb : bottomRange < rng) :
    (∀ c, symsC cum f2s shift n low rng code bs = .fail c → c = .eos ∨ c = .fault) ∧
    (∀ out r, symsC cum f2s shift n low rng code bs = .ok out r → out.length = n) := by
  fun_induction symsC cum f2s shift n low rng code bs with
  | case1 => exact ⟨fun c h => (by cases h), fun out r h => (by cases h; rfl)⟩
  | case2 _ low rng code bs c hst =>
    refine ⟨fun c' h => ?_, fun _ _ h => (by cases h)⟩
    cases h
    exact (stepC_cls cum f2s shift low rng code bs hb hs).1 c hst
  | case3 _ low rng code bs s l g cd bs' hst c hsy ih =>
    refine ⟨fun c' h => ?_, fun _ _ h => (by cases h)⟩
    cases h
    exact (ih ((stepC_cls cum f2s shift low rng code bs hb hs).2 s l g cd bs' hst)).1 c hsy
  | case4 _ low rng code bs s l g cd bs' hst tl r hsy ih =>
    refine ⟨fun c' h => (by cases h), fun out r' h => ?_⟩
    cases h
    rw [List.length_cons, (ih ((stepC_cls cum f2s shift low rng code bs hb hs).2 s l g cd bs' hst)).2 tl r hsy]

theorem payloadC_cls (cum f2s : Array Nat) (lr len : Nat) (bs : Bits) (hs : lr ≤ 15) :
    (∀ c, payloadC cum f2s lr len bs = .fail c → c = .eos ∨ c = .fault) ∧
    (∀ out r, payloadC cum f2s lr len bs = .ok out r → out.length = len) := by
  unfold payloadC
  cases hr : readBits 60 bs with
  | none => exact ⟨fun c h => (by cases h; exact Or.inl rfl), fun _ _ h => (by cases h)⟩
  | some p =>
    obtain ⟨code, r⟩ := p
    exact symsC_cls cum f2s lr hs len 0 topRange code r (by decide)

/-- `t` (the Go slice `f2s` of this model, kept across chunks: possibly longer than `Σ f`, with stale
    entries beyond) agrees on its first `Σ f` entries with the fresh table `mkF2s f` of `Kanzi.Range` -/
def F2sExt (f : List Nat) (t : Array Nat) : Prop :=
  ∀ j, j < f.sum → j < t.size ∧ t.getD j 0 = (mkF2s f).getD j 0

theorem stepSym_agree (cum : Array Nat) (shift low rng code : Nat) (bs : Bits) (s0 : Nat)
    (hi : Inv ((low + cum.getD s0 0 * (rng >>> shift)) % 2 ^ 64)
              (((rng >>> shift) * (cum.getD (s0 + 1) 0 - cum.getD s0 0)) % 2 ^ 64))
    (s l g cd : Nat) (bs' : Bits)
    (h : decStepSym cum shift low rng code bs s0 = some ((s, l, g, cd), bs')) :
    stepSymC cum shift low rng code bs s0 = .ok (s, l, g, cd) bs' ∧ Inv l g ∧ bottomRange < g := by
  unfold decStepSym at h
  unfold stepSymC
  cases hd : decNorm normFuel ((low + cum.getD s0 0 * (rng >>> shift)) % 2 ^ 64)
      (((rng >>> shift) * (cum.getD (s0 + 1) 0 - cum.getD s0 0)) % 2 ^ 64) code bs with
  | none => rw [hd] at h; cases h
  | some p =>
    obtain ⟨v, r⟩ := p
    obtain ⟨l0, g0, cd0⟩ := v
    rw [hd] at h
    simp only [Option.some.injEq, Prod.mk.injEq] at h
    obtain ⟨⟨rfl, rfl, rfl, rfl⟩, rfl⟩ := h
    have hn := norm_agree _ _ code bs hi _ _ hd
    rw [hn]
    exact ⟨rfl, normC_ok_inv _ _ _ _ _ _ _ _ _ hi hn, normC_ok_bottom _ _ _ _ _ _ _ _ _ hn⟩

theorem step_agree (f : List Nat) (t : Array Nat) (lr low rng code : Nat) (bs : Bits)
    (hi : Inv low rng) (hb : bottomRange < rng) (hlr : lr ≤ 16) (hsum : f.sum ≤ 2 ^ lr) (ht : F2sExt f t)
    (s l g cd : Nat) (bs' : Bits)
    (h : decStep (mkCum f) (mkF2s f) lr low rng code bs = some ((s, l, g, cd), bs')) :
    stepC (mkCum f) t lr low rng code bs = .ok (s, l, g, cd) bs' ∧ Inv l g ∧ bottomRange < g := by
  unfold decStep at h
  split at h
  · cases h
  · rename_i h0
    split at h
    · cases h
    · rename_i hsl
      rw [mkF2s_size] at hsl
      have hj : slot lr low rng code < f.sum := by omega
      obtain ⟨s1, q1, q2, q3⟩ := slot_owner f _ hj
      have hs0 : (mkF2s f).getD (slot lr low rng code) 0 = s1 := mkF2s_getD f s1 _ q1 q2 q3
      obtain ⟨t1, t2⟩ := ht _ hj
      rw [hs0] at h t2
      have c1 := mkCum_getD f s1 (by omega)
      have c2 := mkCum_getD f (s1 + 1) (by omega)
      rw [cumF_succ f s1 q1] at c2
      have c3 := cumF_add_le f s1 q1
      have hfr : 0 < (mkCum f).getD (s1 + 1) 0 - (mkCum f).getD s1 0 := by omega
      have hcs : (mkCum f).getD s1 0 + ((mkCum f).getD (s1 + 1) 0 - (mkCum f).getD s1 0) ≤ 2 ^ lr := by omega
      have hsym := stepSym_agree (mkCum f) lr low rng code bs s1
        (inv_step low rng lr _ _ hi hb hlr hfr hcs) s l g cd bs' h
      refine ⟨?_, hsym.2⟩
      unfold stepC
      rw [if_neg h0, if_neg (by omega), t2]
      exact hsym.1

theorem syms_agree (f : List Nat) (t : Array Nat) (lr : Nat) (hlr : lr ≤ 16) (hsum : f.sum ≤ 2 ^ lr)
    (ht : F2sExt f t) (n low rng code : Nat) (bs : Bits) (out : List Nat) (r : Bits)
    (hi : Inv low rng) (hb : bottomRange < rng)
    (h : decSyms (mkCum f) (mkF2s f) lr n low rng code bs = some (out, r)) :
    symsC (mkCum f) t lr n low rng code bs = .ok out r := by
  fun_induction decSyms (mkCum f) (mkF2s f) lr n low rng code bs generalizing out r with
  | case1 => cases h; rfl
  | case2 => cases h
  | case3 => cases h
  | case4 _ low rng code bs s l g cd bs' hst tl r' hsy ih =>
    cases h
    obtain ⟨a1, a2, a3⟩ := step_agree f t lr low rng code bs hi hb hlr hsum ht s l g cd bs' hst
    rw [symsC, a1]
    simp only []
    rw [ih tl r' a2 a3 hsy]

theorem payload_agree (f : List Nat) (t : Array Nat) (lr len : Nat) (bs : Bits) (hlr : lr ≤ 16)
    (hsum : f.sum ≤ 2 ^ lr) (ht : F2sExt f t) (out : List Nat) (r : Bits)
    (h : decodePayload f lr len bs = some (out, r)) :
    payloadC (mkCum f) t lr len bs = .ok out r := by
  unfold decodePayload at h
  unfold payloadC
  cases hr : readBits 60 bs with
  | none => simp only [hr] at h; cases h
  | some p =>
    obtain ⟨code, r1⟩ := p
    simp only [hr] at h ⊢
    exact syms_agree f t lr hlr hsum ht len 0 topRange code r1 out r inv_init (by decide) h

/-! ### C. `decodeHeader` -/

def HdrCls (c : Cls) : Prop := c = .eos ∨ c = .err

theorem decFreqsC_cls (n logMax bound : Nat) (bs : Bits) (c : Cls)
    (h : decFreqsC n logMax bound bs = .fail c) : HdrCls c := by
  fun_induction decFreqsC n logMax bound bs with
  | case1 => cases h
  | case2 _ _ _ _ hd ih => cases h; exact ih hd
  | case3 => cases h
  | case4 => cases h; exact Or.inl rfl
  | case5 => cases h; exact Or.inr rfl
  | case6 _ _ _ _ _ _ _ _ _ _ hd ih => cases h; exact ih hd
  | case7 => cases h

theorem decFreqChunksC_cls (fuel chk llr scale bound count : Nat) (bs : Bits) (c : Cls)
    (h : decFreqChunksC fuel chk llr scale bound count bs = .fail c) : HdrCls c := by
  fun_induction decFreqChunksC fuel chk llr scale bound count bs with
  | case1 => cases h
  | case2 => cases h
  | case3 => cases h; exact Or.inl rfl
  | case4 => cases h; exact Or.inr rfl
  | case5 =>
    rename_i hd
    cases h
    exact decFreqsC_cls _ _ _ _ _ hd
  | case6 =>
    rename_i hc ih
    cases h
    exact ih hc
  | case7 => cases h

theorem sum_set_le : ∀ (t : List Nat) (i v : Nat), (t.set i v).sum ≤ t.sum + v := by
  intro t
  induction t with
  | nil => intro i v; simp
  | cons x xs ih =>
    intro i v
    cases i with
    | zero => simp only [List.set_cons_zero, List.sum_cons]; omega
    | succ k =>
      simp only [List.set_cons_succ, List.sum_cons]
      have := ih k v
      omega

theorem sum_foldl_set_le : ∀ (ps : List (Nat × Nat)) (t : List Nat),
    (ps.foldl (fun t p => t.set p.1 p.2) t).sum ≤ t.sum + (ps.map (·.2)).sum := by
  intro ps
  induction ps with
  | nil => intro t; simp
  | cons p ps ih =>
    intro t
    simp only [List.foldl_cons, List.map_cons, List.sum_cons]
    have h1 := ih (t.set p.1 p.2)
    have h2 := sum_set_le t p.1 p.2
    omega

theorem sum_zip_snd_le : ∀ (a fs : List Nat), ((a.zip fs).map (·.2)).sum ≤ fs.sum := by
  intro a
  induction a with
  | nil => intro fs; simp
  | cons x xs ih =>
    intro fs
    cases fs with
    | nil => simp
    | cons y ys =>
      simp only [List.zip_cons_cons, List.map_cons, List.sum_cons]
      have := ih ys
      omega

/-- whatever alphabet and frequencies the header gives, the table built from them plus one more entry
    `v` sums to at most `fs.sum + v`; with `v = scale - fs.sum` (`freqTableC`) that is at most `scale` -/
theorem setFreqs_sum_le (a fs : List Nat) (i v : Nat) :
    ((setFreqs (List.replicate 256 0) a fs).set i v).sum ≤ fs.sum + v := by
  have h1 := sum_set_le (setFreqs (List.replicate 256 0) a fs) i v
  have h2 := sum_foldl_set_le (a.zip fs) (List.replicate 256 0)
  have h3 := sum_zip_snd_le a fs
  have h4 : (List.replicate 256 0).sum = 256 * 0 := List.sum_replicate_nat
  unfold setFreqs at *
  omega

theorem freqTableC_facts (a : List Nat) (lr : Nat) (bs : Bits) :
    (∀ c, freqTableC a lr bs = .fail c → HdrCls c) ∧
    (∀ f r, freqTableC a lr bs = .ok f r → f.sum ≤ 2 ^ lr) := by
  unfold freqTableC
  cases hd : decFreqChunksC a.length (chkSizeOf a.length) (llrOf lr) (2 ^ lr) (2 ^ lr) (a.length - 1) bs with
  | fail c =>
    simp only []
    exact ⟨fun c' h => (by cases h; exact decFreqChunksC_cls _ _ _ _ _ _ _ _ hd), fun _ _ h => (by cases h)⟩
  | ok fs r =>
    simp only []
    by_cases hs : 2 ^ lr ≤ fs.sum
    · rw [if_pos hs]
      exact ⟨fun c' h => (by cases h; exact Or.inr rfl), fun _ _ h => (by cases h)⟩
    · rw [if_neg hs]
      refine ⟨fun c' h => (by cases h), fun f r' h => ?_⟩
      cases h
      have := setFreqs_sum_le (a.drop 1) fs (a.headD 0) (2 ^ lr - fs.sum)
      omega

theorem headerC_facts (bs : Bits) :
    (∀ c, headerC bs = .fail c → HdrCls c) ∧
    (∀ a f lr r, headerC bs = .ok (a, f, lr) r → lr ≤ 15 ∧ f.sum ≤ 2 ^ lr) := by
  unfold headerC alphabetC
  cases ha : decodeAlphabet bs with
  | none =>
    simp only []
    exact ⟨fun c h => (by cases h; exact Or.inl rfl), fun _ _ _ _ h => (by cases h)⟩
  | some p =>
    obtain ⟨a, r⟩ := p
    simp only []
    by_cases h0 : a.length = 0
    · rw [if_pos h0]
      refine ⟨fun c h => (by cases h), fun a' f lr r' h => ?_⟩
      cases h
      exact ⟨by omega, by rw [List.sum_replicate_nat]; omega⟩
    · rw [if_neg h0]
      cases hr : readBits 3 r with
      | none =>
        simp only []
        exact ⟨fun c h => (by cases h; exact Or.inl rfl), fun _ _ _ _ h => (by cases h)⟩
      | some q =>
        obtain ⟨l, r1⟩ := q
        simp only []
        have hl := readBits_lt 3 r l r1 hr
        obtain ⟨t1, t2⟩ := freqTableC_facts a (8 + l) r1
        cases ht : freqTableC a (8 + l) r1 with
        | fail c =>
          simp only []
          exact ⟨fun c' h => (by cases h; exact t1 c ht), fun _ _ _ _ h => (by cases h)⟩
        | ok tbl r2 =>
          simp only []
          refine ⟨fun c h => (by cases h), fun a' f lr r' h => ?_⟩
          cases h
          exact ⟨by omega, t2 tbl r2 ht⟩

/-! the header of this model without the classes of its failures is the header of `Kanzi.EntSmall` -/

def Res.toOpt {α : Type} : Res α → Option (α × Bits)
  | .ok v r => some (v, r)
  | .fail _ => none

theorem Res.of_toOpt {α : Type} {res : Res α} {x : α} {r : Bits} (h : res.toOpt = some (x, r)) : res = .ok x r := by
  cases res with
  | ok v r' => cases h; rfl
  | fail c => cases h

theorem decFreqsC_toOpt : ∀ (n logMax bound : Nat) (bs : Bits),
    (decFreqsC n logMax bound bs).toOpt = decFreqs n logMax bound bs := by
  intro n
  induction n with
  | zero => intro _ _ _; rfl
  | succ n ih =>
    intro logMax bound bs
    simp only [decFreqsC, decFreqs]
    split
    · rw [← ih]
      cases decFreqsC n logMax bound bs <;> rfl
    · cases readBits logMax bs with
      | none => rfl
      | some p =>
        simp only
        split
        · rfl
        · rw [← ih]
          cases decFreqsC n logMax bound p.2 <;> rfl

theorem decFreqChunksC_toOpt : ∀ (fuel chk llr scale bound count : Nat) (bs : Bits),
    (decFreqChunksC fuel chk llr scale bound count bs).toOpt = decFreqChunks fuel chk llr scale bound count bs := by
  intro fuel
  induction fuel with
  | zero => intro _ _ _ _ _ _; rfl
  | succ fuel ih =>
    intro chk llr scale bound count bs
    simp only [decFreqChunksC, decFreqChunks]
    split
    · rfl
    · cases readBits llr bs with
      | none => rfl
      | some p =>
        simp only
        split
        · rfl
        · rw [← decFreqsC_toOpt]
          cases decFreqsC (min chk count) p.1 bound p.2 with
          | fail c => rfl
          | ok c r1 =>
            simp only [Res.toOpt]
            rw [← ih]
            cases decFreqChunksC fuel chk llr scale bound (count - min chk count) r1 <;> rfl

theorem freqTableC_toOpt (a : List Nat) (lr : Nat) (bs : Bits) :
    (freqTableC a lr bs).toOpt = decodeFreqTable a lr bs := by
  unfold freqTableC decodeFreqTable
  rw [← decFreqChunksC_toOpt]
  cases decFreqChunksC a.length (chkSizeOf a.length) (llrOf lr) (2 ^ lr) (2 ^ lr) (a.length - 1) bs with
  | fail c => rfl
  | ok fs r =>
    simp only [Res.toOpt]
    by_cases hs : 2 ^ lr ≤ fs.sum
    · rw [if_pos hs, if_pos hs]
    · rw [if_neg hs, if_neg hs]

theorem headerC_toOpt (bs : Bits) : (headerC bs).toOpt = rangeDecodeHeader bs := by
  unfold headerC alphabetC rangeDecodeHeader
  cases decodeAlphabet bs with
  | none => rfl
  | some p =>
    simp only
    split
    · rfl
    · cases readBits 3 p.2 with
      | none => rfl
      | some q =>
        simp only
        rw [← freqTableC_toOpt]
        cases freqTableC p.1 (8 + q.1) q.2 <;> rfl

theorem headerC_of_some (bs : Bits) (x : List Nat × List Nat × Nat) (r : Bits)
    (h : rangeDecodeHeader bs = some (x, r)) : headerC bs = .ok x r :=
  Res.of_toOpt (by rw [headerC_toOpt, h])
/-! ### D. the reverse mapping -/

theorem f2sBase_size (old : Array Nat) (lr : Nat) :
    (f2sBase old lr).size = max old.size (2 ^ lr) := by
  unfold f2sBase
  split
  · simp only [Array.size_replicate]; omega
  · omega

theorem buildF2s_ok (old : Array Nat) (f : List Nat) (lr : Nat) (hsum : f.sum ≤ 2 ^ lr) :
    ∃ t, buildF2s old f lr = some t ∧ t.size = max old.size (2 ^ lr) ∧ F2sExt f t := by
  have hb := f2sBase_size old lr
  have hle : f.sum ≤ (f2sBase old lr).size := by omega
  unfold buildF2s
  rw [if_pos hle]
  refine ⟨_, rfl, ?_, ?_⟩
  · simp only [List.size_toArray, List.length_append, f2sList_length, List.length_drop, Array.length_toList]
    omega
  · intro j hj
    constructor
    · simp only [List.size_toArray, List.length_append, f2sList_length, List.length_drop, Array.length_toList]
      omega
    · have hl : j < (f2sList f 0).length := by rw [f2sList_length]; exact hj
      simp only [mkF2s, Array.getD_eq_getD_getElem?, List.getElem?_toArray,
        List.getElem?_append_left hl]

/-! ### E. the chunk loop -/

/-- the failure classes of `Read`: an error return, the bitstream panic, an index panic -/
def ReadCls (c : Cls) : Prop := c = .err ∨ c = .eos ∨ c = .fault

theorem two_pow_le_15 (lr : Nat) (h : lr ≤ 15) : 2 ^ lr ≤ 32768 := by
  have : 2 ^ lr ≤ 2 ^ 15 := Nat.pow_le_pow_right (by decide) h
  omega

/-- the slice after a header (`t = max a p`, `p ≤ 32768`) and whatever later rounds make of it stay
    within the bound stated for the slice `a` before the header -/
theorem cap_step (a p t cap : Nat) (hp : p ≤ 32768) (ht : t = max a p) (h1 : t ≤ cap)
    (h2 : cap ≤ max t 32768) : a ≤ cap ∧ cap ≤ max a 32768 := by
  omega

theorem chunkBody_facts (a f : List Nat) (t : Array Nat) (lr chunkSize count : Nat) (r : Bits) (hlr : lr ≤ 15) :
    (∀ c, (if a.length = 1 then Res.ok (List.replicate (min chunkSize count) (a.headD 0)) r
           else payloadC (mkCum f) t lr (min chunkSize count) r) = .fail c → c = .eos ∨ c = .fault) ∧
    (∀ out r1, (if a.length = 1 then Res.ok (List.replicate (min chunkSize count) (a.headD 0)) r
           else payloadC (mkCum f) t lr (min chunkSize count) r) = .ok out r1 →
        out.length = min chunkSize count) := by
  by_cases h1 : a.length = 1
  · rw [if_pos h1]
    exact ⟨fun c h => (by cases h), fun out r1 h => (by cases h; simp)⟩
  · rw [if_neg h1]
    exact payloadC_cls (mkCum f) t lr (min chunkSize count) r hlr

/-- what `Read(block)` with `len(block) = n`, started with the slice `f2s`, may return: a failure of
    one of the three classes or at most `n` bytes; on EVERY path `len(f2s)` has not shrunk and is at
    most `max(len before, 32768)` -/
def RetOk (n : Nat) (f2s : Array Nat) : Ret → Prop
  | .fail c cap => ReadCls c ∧ f2s.size ≤ cap ∧ cap ≤ max f2s.size 32768
  | .done out t _ => out.length ≤ n ∧ f2s.size ≤ t.size ∧ t.size ≤ max f2s.size 32768

theorem header_slice {bs r : Bits} {a f : List Nat} {lr : Nat} {f2s t : Array Nat}
    (hh : headerC bs = .ok (a, f, lr) r) (ht : buildF2s f2s f lr = some t) :
    lr ≤ 15 ∧ 2 ^ lr ≤ 32768 ∧ t.size = max f2s.size (2 ^ lr) := by
  obtain ⟨hlr, hsum⟩ := (headerC_facts bs).2 a f lr r hh
  obtain ⟨t', ht1, ht2, _⟩ := buildF2s_ok f2s f lr hsum
  cases ht1.symm.trans ht
  exact ⟨hlr, two_pow_le_15 lr hlr, ht2⟩

theorem chunksC_facts (chunkSize : Nat) (hcs : 0 < chunkSize) (fuel count : Nat) (f2s : Array Nat) (bs : Bits)
    (hc : count ≤ fuel) : RetOk count f2s (chunksC fuel chunkSize count f2s bs) := by
  fun_induction chunksC fuel chunkSize count f2s bs with
  | case1 => exact ⟨Nat.le_refl _, Nat.le_refl _, Nat.le_max_left _ _⟩
  | case2 => omega
  | case3 => exact ⟨Nat.le_refl _, Nat.le_refl _, Nat.le_max_left _ _⟩
  | case4 _ _ _ _ bs _ c hh =>
    refine ⟨?_, Nat.le_refl _, Nat.le_max_left _ _⟩
    rcases (headerC_facts bs).1 c hh with e | e
    · exact Or.inr (Or.inl e)
    · exact Or.inl e
  | case5 => exact ⟨Nat.zero_le _, Nat.le_refl _, Nat.le_max_left _ _⟩
  | case6 _ _ _ f2s bs _ a f lr r hh _ hn =>
    obtain ⟨t, ht, _⟩ := buildF2s_ok f2s f lr ((headerC_facts bs).2 a f lr r hh).2
    cases ht.symm.trans hn
  | case7 _ chunkSize count f2s _ _ a f lr r hh _ t ht c hb =>
    obtain ⟨hlr, h15, ht2⟩ := header_slice hh ht
    have hcap := cap_step f2s.size _ t.size t.size h15 ht2 (Nat.le_refl _) (Nat.le_max_left _ _)
    rcases (chunkBody_facts a f t lr chunkSize count r hlr).1 c hb with e | e
    · exact ⟨Or.inr (Or.inl e), hcap⟩
    · exact ⟨Or.inr (Or.inr e), hcap⟩
  | case8 _ _ _ f2s _ _ _ _ _ _ hh _ t ht _ _ _ c' cap hrec ih =>
    obtain ⟨_, h15, ht2⟩ := header_slice hh ht
    rw [hrec] at ih
    obtain ⟨j1, j2, j3⟩ := ih hcs (by omega)
    exact ⟨j1, cap_step f2s.size _ t.size cap h15 ht2 j2 j3⟩
  | case9 _ chunkSize count f2s _ _ a f lr r hh _ t ht c r1 hb tl t' r2 hrec ih =>
    obtain ⟨hlr, h15, ht2⟩ := header_slice hh ht
    rw [hrec] at ih
    obtain ⟨j1, j2, j3⟩ := ih hcs (by omega)
    refine ⟨?_, cap_step f2s.size _ t.size t'.size h15 ht2 j2 j3⟩
    rw [List.length_append, (chunkBody_facts a f t lr chunkSize count r hlr).2 c r1 hb]
    omega

theorem chunkBody_agree (a f : List Nat) (t : Array Nat) (lr n : Nat) (r : Bits) (hlr : lr ≤ 15)
    (hsum : f.sum ≤ 2 ^ lr) (ht : F2sExt f t) (c : List Nat) (r1 : Bits)
    (h : (if a.length = 1 then some (List.replicate n (a.headD 0), r) else decodePayload f lr n r) = some (c, r1)) :
    (if a.length = 1 then Res.ok (List.replicate n (a.headD 0)) r else payloadC (mkCum f) t lr n r)
      = .ok c r1 := by
  by_cases h1 : a.length = 1
  · rw [if_pos h1] at h ⊢
    cases h
    rfl
  · rw [if_neg h1] at h ⊢
    exact payload_agree f t lr n r (by omega) hsum ht c r1 h

/-- **agreement.**  Whenever the decoder of the round-trip theorems (`Kanzi.Range.decode`) returns a
    block, this model returns the same block and the same rest, whatever the slice `f2s` held before. -/
theorem chunksC_agree (chunkSize : Nat) (hcs : 0 < chunkSize) (fuel count : Nat) (f2s : Array Nat)
    (bs : Bits) (out : List Nat) (rest : Bits) (hc : count ≤ fuel)
    (h : decodeChunks fuel chunkSize count bs = some (out, rest)) :
    ∃ t, chunksC fuel chunkSize count f2s bs = .done out t rest := by
  fun_induction decodeChunks fuel chunkSize count bs generalizing f2s out rest with
  | case1 =>
    cases h
    exact ⟨f2s, by rw [chunksC, if_pos (by omega)]⟩
  | case2 =>
    cases h
    exact ⟨f2s, by rw [chunksC, if_pos rfl]⟩
  | case3 => cases h
  | case4 _ _ _ bs h0 a f lr r hh ha =>
    cases h
    refine ⟨f2s, ?_⟩
    rw [chunksC, if_neg h0, headerC_of_some bs _ _ hh]
    simp only []
    rw [if_pos ha]
  | case5 => cases h
  | case6 => cases h
  | case7 _ chunkSize count bs h0 a f lr r hh ha c r1 hb tl r2 hrec ih =>
    cases h
    have hh' := headerC_of_some bs _ _ hh
    obtain ⟨hlr, hsum⟩ := (headerC_facts bs).2 a f lr r hh'
    obtain ⟨t, ht1, _, ht3⟩ := buildF2s_ok f2s f lr hsum
    obtain ⟨t', ht'⟩ := ih hcs t tl r2 (by omega) hrec
    refine ⟨t', ?_⟩
    rw [chunksC, if_neg h0, hh']
    simp only []
    rw [if_neg ha, ht1]
    simp only []
    rw [chunkBody_agree a f t lr _ r hlr hsum ht3 c r1 hb]
    simp only []
    rw [ht']

end Kanzi.RangeDec
