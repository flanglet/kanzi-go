/-
`TextCodec.Inverse` on a codec object that has ALREADY processed blocks (property C03, Properties/C03_text.lean).
After an expansion during an earlier call `dictList` is longer than the `dictSize` chosen by the next `reset`; the
entries beyond `dictSize` are stale and never read before `expandDictionary` re-initialises them.  So the object
`reset` leaves satisfies `DictOKx x` for `x = len(dictList) - dictSize` (`resetReuse_ok`), and the call theorem of
Proofs/TextDec.lean, which holds for every `x`, applies to it as to a fresh object: `codecCallS_reuse`.
-/
import Kanzi.Proofs.TextDec

namespace Kanzi.Text
open Kanzi.RLT (Out Res)

/-- what is known about a codec object that has processed any number of blocks: its dictionary is well formed up
    to `dictSize`, `staticDictSize` and `hashMask` are those of the constructor -/
structure GoodD (sw : Nat) (tc2 : Bool) (hsz : Nat) (d : Dict) : Prop where
  ok : ∃ x w, DictOKx x d w
  ssz : d.ssz = staticSize sw tc2
  hsz : d.hsz = hsz
  size_ge : 128 ≤ d.size

theorem resetReuse_entry (sw : Nat) (sd : Array Entry) (tc2 : Bool) (prev : Dict) (count k : Nat)
    (hk : k < (resetReuse sw sd tc2 prev count).size) :
    entryAt (resetReuse sw sd tc2 prev count) k =
      if prev.list.size < (resetReuse sw sd tc2 prev count).size then
        (resetList sw sd tc2 (resetReuse sw sd tc2 prev count).size).getD k Entry.zero
      else if k < prev.ssz then entryAt prev k else Entry.fresh k := by
  unfold entryAt resetReuse
  simp only
  by_cases c : prev.list.size < (if count ≥ 1024 then dictSizeFor count else prev.size)
  · rw [if_pos c, if_pos c]
  · rw [if_neg c, if_neg c]
    have hk' : k < prev.list.size := by
      have : k < (if count ≥ 1024 then dictSizeFor count else prev.size) := hk
      omega
    rw [Array.getD_eq_getD_getElem?, Array.getElem?_ofFn, dif_pos hk']
    simp only [Option.getD_some]
    have hk2 : k < (if count ≥ 1024 then dictSizeFor count else prev.size) := hk
    by_cases c2 : k < prev.ssz
    · rw [if_pos (Or.inl c2), if_pos c2]
    · rw [if_neg (by omega), if_neg c2]

theorem resetReuse_len (sw : Nat) (sd : Array Entry) (tc2 : Bool) (prev : Dict) (count : Nat) :
    (resetReuse sw sd tc2 prev count).size ≤ (resetReuse sw sd tc2 prev count).list.size := by
  unfold resetReuse
  simp only
  by_cases c : prev.list.size < (if count ≥ 1024 then dictSizeFor count else prev.size)
  · rw [if_pos c, resetList_size]; exact Nat.le_refl _
  · rw [if_neg c, Array.size_ofFn]; omega

/-- Go `reset` on a used object leaves a well-formed dictionary whose ring index is `staticDictSize` -/
theorem resetReuse_ok (sw : Nat) (sd : Array Entry) (hs : StaticOK sw sd) (tc2 : Bool) (hsz : Nat) (prev : Dict)
    (hg : GoodD sw tc2 hsz prev) (count : Nat) :
    ∃ x, DictOKx x (resetReuse sw sd tc2 prev count) (resetReuse sw sd tc2 prev count).ssz ∧
      128 ≤ (resetReuse sw sd tc2 prev count).size ∧
      (resetReuse sw sd tc2 prev count).ssz = staticSize sw tc2 ∧ (resetReuse sw sd tc2 prev count).hsz = hsz := by
  obtain ⟨x0, w, hpe⟩ := hg.ok
  have hssz : prev.ssz ≤ 1026 := by rw [hg.ssz]; exact staticSize_le sw tc2 hs.le
  have hpw := hpe.ssz_le
  have hwl := hpe.words_lt
  have hrs : (resetReuse sw sd tc2 prev count).size = if count ≥ 1024 then dictSizeFor count else prev.size := rfl
  have hge := dictSizeFor_ge count
  have hlen := resetReuse_len sw sd tc2 prev count
  have hm := resetMap_spec prev.hsz (resetReuse sw sd tc2 prev count).list prev.ssz
  refine ⟨(resetReuse sw sd tc2 prev count).list.size - (resetReuse sw sd tc2 prev count).size,
    ⟨by omega, Nat.le_refl _, ?_, ?_, ?_, ?_, hm.1, by show 0 < prev.hsz; exact hpe.hsz_pos, ?_⟩, ?_, hg.ssz, hg.hsz⟩
  · show prev.ssz < (resetReuse sw sd tc2 prev count).size
    rw [hrs]
    split <;> omega
  · rw [hrs]
    split
    · exact Nat.le_trans (dictSizeFor_le count) (by decide)
    · exact hpe.size_le
  · rw [hrs]
    split
    · obtain ⟨a, _, _, ea⟩ := dictSizeFor_spec count
      exact ⟨a, ea⟩
    · exact hpe.size_pow
  · intro k hk
    rw [resetReuse_entry sw sd tc2 prev count k hk]
    split
    · exact resetList_entry sw sd tc2 _ k hs hk
    · by_cases c2 : k < prev.ssz
      · rw [if_pos c2]
        exact hpe.entry k (by omega)
      · rw [if_neg c2]; exact EntryOK_fresh k
  · intro s p hp
    obtain ⟨h1, h2⟩ := hm.2 s p hp
    exact ⟨by show p < (resetReuse sw sd tc2 prev count).size; rw [hrs]; split <;> omega, h2⟩
  · show 128 ≤ (resetReuse sw sd tc2 prev count).size
    rw [hrs]
    have := hg.size_ge
    split <;> omega

/-! ## any number of calls on one object -/

/-- the codec object is in a state reachable by calls (or unused) -/
def GoodC (sw : Nat) (tc2 : Bool) (hsz : Nat) (c : Codec) : Prop :=
  match c with
  | none => True
  | some d => GoodD sw tc2 hsz d

theorem GoodD.of_db {sw : Nat} {tc2 : Bool} {hsz x n D0 : Nat} {d : Dict}
    (hdb : DBX x n D0 (staticSize sw tc2) hsz d) : GoodD sw tc2 hsz d :=
  ⟨hdb.dok.elim fun w hw => ⟨x, w, hw⟩, hdb.ssz_eq, hdb.hsz_eq, hdb.size_ge⟩

/-- `TextCodec.Inverse` on an object in ANY reachable state: same outcome classes as on a fresh object, and the
    object stays in a reachable state -/
theorem codecCallS_reuse (sw : Nat) (sd : Array Entry) (hs : StaticOK sw sd) (tc2 old : Bool) (hsz : Nat)
    (hpos : 0 < hsz) (c : Codec) (hc : GoodC sw tc2 hsz c) (src : List Nat) (n : Nat) :
    WrapPost tc2 old n (codecCallS sw sd tc2 old hsz c src n).1 ∧
    GoodC sw tc2 hsz (codecCallS sw sd tc2 old hsz c src n).2 := by
  rcases codecCallS_cases sw sd tc2 old hsz c src n with ⟨r, h, hr⟩ | ⟨d0, hd0, h⟩
  · rw [h]
    refine ⟨?_, hc⟩
    rcases hr with hr | hr | hr
    · rw [hr]; exact Nat.zero_le _
    · rw [hr]; exact Or.inl rfl
    · rw [hr]; exact Or.inr (Or.inl rfl)
  · -- `reset` leaves a well-formed dictionary, on a fresh object (`x = 0`) and on a used one
    have hstart : ∃ x, DictOKx x d0 d0.ssz ∧ 128 ≤ d0.size ∧ d0.ssz = staticSize sw tc2 ∧ d0.hsz = hsz := by
      rw [hd0]
      cases c with
      | none =>
        exact ⟨0, DictOK_iff.mp (reset_ok sw sd tc2 hsz n hs hpos), Nat.le_trans (by decide) (dictSizeFor_ge n), rfl, rfl⟩
      | some prev => exact resetReuse_ok sw sd hs tc2 hsz prev hc n
    obtain ⟨x, h2, h3, h4, h5⟩ := hstart
    have hgen := invCall_spec tc2 old d0 h2 h3 src n
    rw [h4, h5] at hgen
    rw [h]
    exact ⟨hgen.1.wrap, GoodD.of_db hgen.2⟩

/-- `TextCodec.Inverse` on a fresh object, any source, any `len(dst)`: only the outcomes listed in `WrapPost`
    (which include the panics of `FaultOK`) -/
theorem textInverseS_total (sw : Nat) (sd : Array Entry) (hs : StaticOK sw sd) (tc2 old : Bool) (hsz : Nat)
    (hpos : 0 < hsz) (src : List Nat) (dstLen : Nat) :
    WrapPost tc2 old dstLen (textInverseS sw sd tc2 old hsz src dstLen) := by
  rw [← codecCallS_fst]
  exact (codecCallS_reuse sw sd hs tc2 old hsz hpos none trivial src dstLen).1

theorem runCallsS_good (sw : Nat) (sd : Array Entry) (hs : StaticOK sw sd) (tc2 old : Bool) (hsz : Nat)
    (hpos : 0 < hsz) : ∀ (calls : List (List Nat × Nat)) (c : Codec), GoodC sw tc2 hsz c →
      GoodC sw tc2 hsz (runCallsS sw sd tc2 old hsz c calls)
  | [], _, hc => hc
  | x :: r, c, hc =>
    runCallsS_good sw sd hs tc2 old hsz hpos r _ (codecCallS_reuse sw sd hs tc2 old hsz hpos c hc x.1 x.2).2

/-- what reflection sees on an object in a reachable state: `dictSize <= 2^19`, `len(dictMap) = 1 << logHashSize`,
    `len(dictList) >= dictSize` (NOT bounded: see `resetReuse`) -/
theorem GoodD.sizes {sw : Nat} {tc2 : Bool} {hsz : Nat} {d : Dict} (h : GoodD sw tc2 hsz d) :
    d.size ≤ MAX_DICT_SIZE ∧ d.map.size = hsz ∧ d.size ≤ d.list.size := by
  obtain ⟨x, w, he⟩ := h.ok
  exact ⟨he.size_le, by rw [he.map_size]; exact h.hsz, by rw [he.size_eq]; omega⟩

end Kanzi.Text
