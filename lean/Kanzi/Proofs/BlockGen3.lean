/-
Proofs for `Kanzi/Model/BlockGen3.lean`: decode ∘ encode for ANY list of transforms that satisfy the
per-transform law `Law3` of `Proofs/BlockGen2Seq.lean` (Inverse restores the block into every ADMISSIBLE destination
strictly longer than the block) with an output bound below the common step bound `stepB` (`len + len/16 + 1028`).
The admissibility predicate `P` is threaded to the destination size of the decoding task (`decDstLen B p`: at least
the frame bytes and the task block length).  `block_roundtrip2` below instantiates this with the twelve kinds of
`BlockGen2` and `P = True`, `Proofs/BlockGen3Stream.lean` with the nineteen kinds; the entropy instances follow.
Property statements: `Kanzi/Properties/C01_blockgen2.lean`, `C01_blockgen3.lean`.
-/
import Kanzi.Model.BlockGen3
import Kanzi.Proofs.BlockGen2Kinds
import Kanzi.Proofs.BlockGenInst
import Kanzi.Proofs.BlockGenStream
import Kanzi.Properties.C12_range
import Kanzi.Properties.C12_ans1
import Kanzi.Properties.C12_huffman
import Kanzi.Properties.C12_fpaq
import Kanzi.Properties.C12_cm_codec

namespace Kanzi.BlockGen2
open Kanzi.Bits Kanzi.TrSmall Kanzi.Block Kanzi.BlockGen

/-- the exact-consumption law of an entropy codec at ONE block (of bytes, 1..N of them) -/
def EntLawAt (ent : Ent) (N : Nat) (y : List Nat) : Prop :=
  IsBlock N y → y ≠ [] →
    ∃ e, ent.enc y = some e ∧ ∀ rest : Bits, ent.dec y.length (e ++ rest) = some (y, rest)

theorem entLawAt_of_law (ent : Ent) (N : Nat) (h : EntLaw (IsBlock N) ent) (y : List Nat) : EntLawAt ent N y :=
  fun hy _ => h y hy

end Kanzi.BlockGen2

namespace Kanzi.BlockGen3
open Kanzi.Bits Kanzi.TrSmall Kanzi.Block Kanzi.BlockGen Kanzi.BlockGen2

/-- a common bound on `MaxEncodedLen` of one stage: `len/8 + 8192` more bytes -/
def stepM (m : Nat) : Nat := m + m / 8 + 8192

def MaxOK (ls : List LTr) : Prop := ∀ l ∈ ls, ∀ m, l.t.maxLen m ≤ stepM m

theorem stepM_mono (a b : Nat) (h : a ≤ b) : stepM a ≤ stepM b := by
  unfold stepM
  have : a / 8 ≤ b / 8 := Nat.div_le_div_right h
  omega

theorem runMax_le_iterM : ∀ (ls : List LTr), MaxOK ls → ∀ m, runMax ls m ≤ iter stepM ls.length m := by
  intro ls
  induction ls with
  | nil => intro _ m; exact Nat.le_refl _
  | cons l ls ih =>
    intro h m
    show runMax ls (if l.t.maxLen m > m then l.t.maxLen m else m) ≤ iter stepM ls.length (stepM m)
    have hl := h l (List.mem_cons_self ..) m
    have h2 : (if l.t.maxLen m > m then l.t.maxLen m else m) ≤ stepM m := by
      split
      · exact hl
      · unfold stepM; omega
    exact Nat.le_trans (ih (fun l' h' => h l' (List.mem_cons_of_mem _ h')) _) (iter_mono stepM_mono _ _ _ h2)

/-- the inverse sequence of a decoding task whose frame respects the Reader's bound of 2^34 bits works in buffers
of less than 2^39 bytes -/
theorem invDst_lt (ls : List LTr) (hmax : MaxOK ls) (hn : ls.length ≤ 8) (B : Nat) (hB : B ≤ 2 ^ 30) (p : Bits)
    (hp : p.length ≤ 2 ^ 34) :
    max (decDstLen B p) (seqMaxLen (trsOf (ltrs ls)) (decDstLen B p)) < 2 ^ 39 := by
  have hdl : decDstLen B p ≤ 2 ^ 31 := by
    unfold decDstLen taskBlockLength
    omega
  rw [seqMaxLen_ltrs]
  have h1 := runMax_le_iterM ls hmax (decDstLen B p)
  have h2 := iter_le_of_le stepM_mono (fun a => by unfold stepM; omega) ls.length 8 (decDstLen B p) hn
  have h3 := iter_mono stepM_mono 8 (decDstLen B p) (2 ^ 31) hdl
  have h4 : iter stepM 8 (2 ^ 31) < 2 ^ 39 := by decide
  omega

/-- H_codec for every chain of lawful transforms: for a block of 1..B bytes the encoding task of a Writer
with block size `B` succeeds (whatever the length `obuf` of the task's output buffer) and the decoding task
returns the block — provided the size of its inverse buffers is admissible.  The instance of `block_roundtripS`
for the graded classes `Upto s` (`steps_of_law3`). -/
theorem block_roundtripL (P : Nat → Prop) (c : Cfg2) (ls : List LTr) (hc : c.trs = ltrs ls)
    (hlaws : ∀ l ∈ ls, Law3 l.t l.g lawLim P) (hstep : StepOK ls) (hn : ls.length ≤ 8)
    (B obuf : Nat) (b : List Nat) (hbs : c.bs = some B)
    (hent : EntLawAt c.ent (maxTransformLength B) (postBlock c.trs c.bs obuf b))
    (hb : ∀ x ∈ b, x < 256) (hb0 : 0 < b.length) (hB : b.length ≤ B) (hmax : B ≤ 2 ^ 30) :
    ∃ p, encodeTaskGen2 c obuf b = .ok p ∧
      (P (max (decDstLen B p) (seqMaxLen (trsOf c.trs) (decDstLen B p))) →
        decodeTaskGen2 c B p = ⟨b.length, .ok b⟩) ∧
      (c.ent = noneEnt → FrameFit B p) := by
  have hlim : runG ls b.length ≤ lawLim := runG_le_lawLim ls hstep b.length hn (by omega)
  have hreq0 : 0 < seqMaxLen (trsOf c.trs) b.length := by
    rw [hc, seqMaxLen_ltrs]
    have := le_runMax ls b.length
    omega
  refine block_roundtripS (fun dl => P (max dl (seqMaxLen (trsOf c.trs) dl))) (Upto b.length) (Upto (runG ls b.length))
    c B obuf b (by rw [hc]; simp only [ltrs, List.length_map]; exact hn) (fun dl hdl => ?_) ⟨hb, Nat.le_refl _⟩
    (fun y hy => .inr ⟨hbs, ?_⟩) (fun hE hne hl => hent ⟨hE.1, hl⟩ hne) hb hb0 hB hmax
  · rw [hc]
    refine steps_of_law3 lawLim _ _ _ P _ (by rw [← hc]; exact hreq0) (by rw [← hc]; unfold growTo; split <;> omega)
      ls b.length dl hlaws hlim fun hP => ⟨?_, ?_, hP⟩
    · unfold taskBlockLength at hdl; omega
    · rw [seqMaxLen_ltrs]; omega
  · rw [hc, seqMaxLen_ltrs]
    exact Nat.le_trans hy.2 (runG_le_runMax3 lawLim P ls hlaws b.length b.length (Nat.le_refl _) hlim)

end Kanzi.BlockGen3

namespace Kanzi.BlockGen2
open Kanzi.Bits Kanzi.TrSmall Kanzi.Block Kanzi.BlockGen

/-- H_codec for every chain of modelled transforms: for a block of 1..B bytes the encoding task of a Writer
with block size `B` succeeds (whatever the length `obuf` of the task's output buffer) and the decoding task
returns the block.  The twelve kinds restore a block into EVERY destination of at least its length, so no
destination size needs excluding in `block_roundtripL`. -/
theorem block_roundtrip2 (c : Cfg2) (ks : List Kind) (hc : c.trs = kindTrs ks) (hn : ks.length ≤ 8)
    (B obuf : Nat) (b : List Nat) (hbs : c.bs = some B)
    (hent : EntLawAt c.ent (maxTransformLength B) (postBlock c.trs c.bs obuf b))
    (hb : ∀ x ∈ b, x < 256) (hb0 : 0 < b.length) (hB : b.length ≤ B) (hmax : B ≤ 2 ^ 30) :
    ∃ p, encodeTaskGen2 c obuf b = .ok p ∧ decodeTaskGen2 c B p = ⟨b.length, .ok b⟩ ∧
      (c.ent = noneEnt → FrameFit B p) := by
  obtain ⟨p, h1, h2, h3⟩ := BlockGen3.block_roundtripL (fun _ => True) c (kindLtrs ks)
    (by rw [ltrs_kindLtrs]; exact hc) (kindLtrs_law3 ks _) (kindLtrs_step ks)
    (by simp only [kindLtrs, List.length_map]; exact hn) B obuf b hbs hent hb hb0 hB hmax
  exact ⟨p, h1, h2 trivial, h3⟩

theorem entLaw_range (N : Nat) : EntLaw (IsBlock N) rangeEnt := by
  intro x hx
  obtain ⟨enc, h1, h2⟩ := Kanzi.C12.C12_range_block x Range.defaultChunkSize Range.defaultLogRange
    (by decide) (by decide) hx.1
  exact ⟨enc, h1, h2⟩

theorem entLaw_ans1 (N : Nat) : EntLaw (IsBlock N) ans1Ent := by
  intro x hx
  obtain ⟨enc, h1, h2⟩ := Kanzi.C12.C12_ans1_block_ctor x 16384 12 ⟨ans1Chunk, ans1LogRange⟩ (by decide)
    (by decide) hx.1
  exact ⟨enc, h1, h2⟩

theorem entLaw_huf (N : Nat) : EntLaw (IsBlock N) hufEnt := by
  intro x hx
  obtain ⟨enc, h1, h2⟩ := Kanzi.C12.C12_huf_block x hx.1 hufChunk (by decide) [] (by intro b hb; cases hb)
  exact ⟨enc, h1, h2⟩

/-- FPAQ at one block: under the decoder's own acceptance test `fFits2` -/
theorem entLawAt_fpaq (N : Nat) (hN : N ≤ 2 ^ 30) (y : List Nat)
    (hfit : Fpaq.fFits2 Fpaq.DEFAULT_CHUNK y = true) : EntLawAt fpaqEnt N y := by
  intro hy hne
  obtain ⟨out, h1, h2⟩ := Kanzi.C12.C12_fpaq_block_real y hne hy.1 (Nat.le_trans hy.2 hN) hfit
  refine ⟨out, ?_, fun rest => ?_⟩
  · show (match Fpaq.fpaqEncode Fpaq.DEFAULT_CHUNK y with | .ok o => some o | .error _ => none) = _
    rw [h1]
  · show (match Fpaq.fpaqDecode Fpaq.DEFAULT_CHUNK (out ++ rest) y.length with
      | .ok r => some r | .error _ => none) = _
    rw [h2 rest]

/-- CM at one block: under the decoder's own acceptance test `fits2` -/
theorem entLawAt_cm (N : Nat) (hN : N ≤ 2 ^ 30) (y : List Nat)
    (hfit : BinEnt.fits2 cmPred BinEnt.MAX_CHUNK (CM.cmInit false) y = true) : EntLawAt cmEnt N y := by
  intro hy hne
  have hpe : cmPred = Kanzi.C12.cmPred := rfl
  rw [hpe] at hfit
  obtain ⟨out, h1, h2⟩ := Kanzi.C12.C12_cm_block false y hne hy.1 (Nat.le_trans hy.2 hN) hfit
  rw [← hpe] at h1 h2
  refine ⟨out, ?_, fun rest => ?_⟩
  · show (match BinEnt.encodeBlock cmPred BinEnt.MAX_CHUNK (CM.cmInit false) y with
      | .ok o => some o | .error _ => none) = _
    rw [h1]
  · show (match BinEnt.decodeBlock cmPred BinEnt.MAX_CHUNK (CM.cmInit false) (out ++ rest) y.length with
      | .ok r => some r | .error _ => none) = _
    rw [h2 rest]

/-- the five entropy codecs of `entOf2` whose exact-consumption law holds for EVERY block (`entLaw_modelled`);
FPAQ and CM satisfy it only under the decoder's acceptance test (`entLawAt_fpaq`, `entLawAt_cm`) -/
def IsModelledEnt (e : Ent) : Prop :=
  e = noneEnt ∨ e = ans0Ent ∨ e = ans1Ent ∨ e = rangeEnt ∨ e = hufEnt

theorem entLaw_modelled (e : Ent) (h : IsModelledEnt e) (N : Nat) : EntLaw (IsBlock N) e := by
  rcases h with h | h | h | h | h <;> subst h
  · exact entLaw_none N
  · exact entLaw_ans0 N
  · exact entLaw_ans1 N
  · exact entLaw_range N
  · exact entLaw_huf N

end Kanzi.BlockGen2
