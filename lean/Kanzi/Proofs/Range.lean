/-
Round trip of the order-0 range coder (property C12), up to the payload of one chunk: the carry-less
renormalisation loop (termination, range > 0), one `encodeByte` / `decodeByte` step, all symbols of a
chunk followed by the 60-bit flush.  Tables, header and the whole block are in `RangeChunk.lean`
(sections G, H continue the lettering A..F used here).

The idea: the registers satisfy `Inv`, and the first 60 bits of everything the encoder still writes
from the current state, read as a number, lie in the current interval (`Win`).  The decoder's `code`
is that 60-bit number (`DecInv`), so the slot it computes falls in the sub-interval of the encoded
symbol.
-/
import Kanzi.Model.Range
import Kanzi.Proofs.EntSmall

namespace Kanzi.Range
open Kanzi.Bits Kanzi.EntSmall

/-! ### A. the bit tests of the loop as arithmetic -/

theorem rangeMask_eq : rangeMask = (2 ^ 28 - 1) <<< 32 := by decide

theorem testBit_rangeMask (i : Nat) : rangeMask.testBit i = (decide (32 ≤ i) && decide (i < 60)) := by
  rw [rangeMask_eq, Nat.testBit_shiftLeft, Nat.testBit_two_pow_sub_one]
  by_cases h1 : 32 ≤ i <;> by_cases h2 : i < 60 <;> simp [h1, h2] <;> omega

theorem xor_and_mask_eq_zero (a b : Nat) :
    (a ^^^ b) &&& rangeMask = 0 ↔ (a / 2 ^ 32) % 2 ^ 28 = (b / 2 ^ 32) % 2 ^ 28 := by
  constructor
  · intro h
    apply Nat.eq_of_testBit_eq
    intro i
    rw [Nat.testBit_mod_two_pow, Nat.testBit_mod_two_pow, Nat.testBit_div_two_pow, Nat.testBit_div_two_pow]
    by_cases hi : i < 28
    · have := congrArg (fun x => x.testBit (32 + i)) h
      simp only [Nat.testBit_and, Nat.testBit_xor, testBit_rangeMask, Nat.zero_testBit] at this
      have h1 : decide (32 ≤ 32 + i) = true := by simp
      have h2 : decide (32 + i < 60) = true := by simp; omega
      rw [h1, h2] at this
      simp only [Bool.and_self, Bool.and_true] at this
      have h3 : i + 32 = 32 + i := by omega
      rw [h3]
      simp [hi]
      revert this
      cases a.testBit (32 + i) <;> cases b.testBit (32 + i) <;> simp
    · simp [hi]
  · intro h
    apply Nat.eq_of_testBit_eq
    intro i
    simp only [Nat.testBit_and, Nat.testBit_xor, testBit_rangeMask, Nat.zero_testBit]
    by_cases h1 : 32 ≤ i
    · by_cases h2 : i < 60
      · have := congrArg (fun x => x.testBit (i - 32)) h
        simp only [Nat.testBit_mod_two_pow, Nat.testBit_div_two_pow] at this
        have h3 : i - 32 + 32 = i := by omega
        rw [h3] at this
        have h4 : decide (i - 32 < 28) = true := by simp; omega
        rw [h4] at this
        simp only [Bool.true_and] at this
        rw [this]
        simp
      · simp [h2]
    · simp [h1]

theorem topDiffers_iff (low rng : Nat) :
    topDiffers low rng = true ↔ (low / 2 ^ 32) % 2 ^ 28 ≠ (((low + rng) % 2 ^ 64) / 2 ^ 32) % 2 ^ 28 := by
  unfold topDiffers
  rw [bne_iff_ne, Ne, xor_and_mask_eq_zero]

theorem negLowBottom_eq (low : Nat) : negLowBottom low = (2 ^ 16 - low % 2 ^ 16) % 2 ^ 16 := by
  unfold negLowBottom bottomRange
  have : (0xFFFF : Nat) = 2 ^ 16 - 1 := by decide
  rw [this, Nat.and_two_pow_sub_one_eq_mod]
  omega

/-! ### B. the invariant of `(low, rng)` and one round of the loop -/

/-- invariant of the encoder / decoder registers (`L = low mod 2^60` is the live part of `low`):
    the interval `[L, L+rng)` is not empty and does not leave the 60-bit window; it may touch the
    upper end `2^60` only when `L` is not in the lowest 2^32-block. -/
structure Inv (low rng : Nat) : Prop where
  lt64 : low < 2 ^ 64
  pos : 0 < rng
  le : low % 2 ^ 60 + rng ≤ 2 ^ 60
  top : low % 2 ^ 60 + rng = 2 ^ 60 → 2 ^ 32 ≤ low % 2 ^ 60

theorem inv_init : Inv 0 topRange := ⟨by decide, by decide, by decide, by decide⟩

theorem normRng_none (low rng : Nat) (h : normRng low rng = none) : bottomRange < rng := by
  unfold normRng at h
  split at h
  · split at h
    · assumption
    · cases h
  · cases h

theorem carry_of_topDiffers (low rng : Nat) (h64 : low < 2 ^ 64) (h : topDiffers low rng = true) :
    2 ^ 32 ≤ low % 2 ^ 32 + rng := by
  have hd := (topDiffers_iff low rng).mp h
  omega

/-- here `Inv.top` is needed: an interval ending exactly at 2^60 would wrap to top bits 0 -/
theorem no_carry (low rng : Nat) (hi : Inv low rng) (h : topDiffers low rng = false) :
    low % 2 ^ 32 + rng < 2 ^ 32 := by
  obtain ⟨h64, hpos, hle, htop⟩ := hi
  have hd : (low / 2 ^ 32) % 2 ^ 28 = (((low + rng) % 2 ^ 64) / 2 ^ 32) % 2 ^ 28 :=
    Decidable.byContradiction fun hc => by
      rw [(topDiffers_iff low rng).mpr hc] at h
      cases h
  omega

/-- the range `r` a shifting round goes on with: the interval `[low, low + r)` lies in the 2^32-block
    of `low`; it is the old one unless that was shorter than 2^16 and crossed the block's end, and
    then it ends at the block's end -/
theorem normRng_some (low rng r : Nat) (hi : Inv low rng) (h : normRng low rng = some r) :
    0 < r ∧ r ≤ rng ∧ low % 2 ^ 32 + r ≤ 2 ^ 32 ∧ (low % 2 ^ 32 + r = 2 ^ 32 → r ≤ 2 ^ 16) ∧
    (2 ^ 28 ≤ rng → r = rng) := by
  unfold normRng at h
  cases ht : topDiffers low rng
  · rw [ht] at h
    injection h with h
    subst h
    have := no_carry low rng hi ht
    have := hi.pos
    omega
  · rw [ht, if_pos rfl] at h
    have hc := carry_of_topDiffers low rng hi.lt64 ht
    split at h
    · cases h
    · rename_i hb
      injection h with h
      rw [negLowBottom_eq] at h
      unfold bottomRange at hb
      omega

theorem shl28 (x : Nat) : (x <<< 28) % 2 ^ 64 = (x % 2 ^ 36) * 2 ^ 28 := by
  rw [Nat.shiftLeft_eq]; omega

theorem shl28_of_lt (r : Nat) (h : r < 2 ^ 32) : (r <<< 28) % 2 ^ 64 = r * 2 ^ 28 := by
  rw [shl28, Nat.mod_eq_of_lt (by omega)]

theorem shl28_live (low : Nat) : ((low <<< 28) % 2 ^ 64) % 2 ^ 60 = (low % 2 ^ 32) * 2 ^ 28 := by
  rw [shl28]; omega

theorem inv_round (low rng r : Nat) (hi : Inv low rng) (h : normRng low rng = some r) :
    Inv ((low <<< 28) % 2 ^ 64) ((r <<< 28) % 2 ^ 64) := by
  obtain ⟨h1, _, h3, h4, _⟩ := normRng_some low rng r hi h
  refine ⟨?_, ?_, ?_, ?_⟩
  · rw [shl28]; omega
  · rw [shl28_of_lt r (by omega)]; omega
  · rw [shl28_live, shl28_of_lt r (by omega)]; omega
  · rw [shl28_live, shl28_of_lt r (by omega)]; omega

/-! ### C. the 60-bit window on the encoder's future output -/

theorem bitsNat_take_add (R : Bits) (n k : Nat) (h : n + k ≤ R.length) :
    bitsNat (R.take (n + k)) = bitsNat (R.take n) * 2 ^ k + bitsNat ((R.drop n).take k) := by
  rw [List.take_add, bitsNat_append, List.length_take, List.length_drop, Nat.min_eq_left (by omega)]

/-- `R` is what the encoder still has to write from state `(low, rng)` on (renormalisation words
    and the final 60-bit flush).  `Win`: its first 60 bits, as a number, lie in `[L, L+rng)`. -/
def Win (low rng : Nat) (R : Bits) : Prop :=
  60 ≤ R.length ∧ low % 2 ^ 60 ≤ bitsNat (R.take 60) ∧ bitsNat (R.take 60) < low % 2 ^ 60 + rng

/-- the decoder's `code` register is the 60-bit window on `R`, up to the same stale bits as `low`:
    `code - low` (64-bit) is the offset of the window from `L` -/
def DecInv (low code : Nat) (R : Bits) : Prop :=
  code < 2 ^ 64 ∧ (code + 2 ^ 64 - low) % 2 ^ 64 + low % 2 ^ 60 = bitsNat (R.take 60)

theorem natBits28_val (low : Nat) : bitsNat (natBits (low >>> 32) 28) = (low / 2 ^ 32) % 2 ^ 28 := by
  rw [bitsNat_natBits, Nat.shiftRight_eq_div_pow]

theorem take60_cons (w R : Bits) (hw : w.length = 28) (hR : 32 ≤ R.length) :
    bitsNat ((w ++ R).take 60) = bitsNat w * 2 ^ 32 + bitsNat (R.take 32) := by
  have h : (60 : Nat) = 28 + 32 := rfl
  rw [h, bitsNat_take_add _ _ _ (by rw [List.length_append]; omega)]
  have h1 : (w ++ R).take 28 = w := by rw [← hw]; exact List.take_left
  have h2 : (w ++ R).drop 28 = R := by rw [← hw]; exact List.drop_left
  rw [h1, h2]

theorem take60_split (R : Bits) (hR : 60 ≤ R.length) :
    bitsNat (R.take 60) = bitsNat (R.take 32) * 2 ^ 28 + bitsNat ((R.drop 32).take 28) := by
  have h : (60 : Nat) = 32 + 28 := rfl
  rw [h, bitsNat_take_add _ _ _ (by omega)]

/-- a shifting round seen from the window: if the window of the rest lies in the new interval, the
    window including the written word lies in the old one (nested intervals; the truncation of the
    range only shrinks the interval) -/
theorem win_round (low rng r : Nat) (R : Bits) (hi : Inv low rng) (h : normRng low rng = some r)
    (hw : Win ((low <<< 28) % 2 ^ 64) ((r <<< 28) % 2 ^ 64) R) :
    Win low rng (natBits (low >>> 32) 28 ++ R) := by
  obtain ⟨r1, r2, r3, r4, _⟩ := normRng_some low rng r hi h
  obtain ⟨w1, w2, w3⟩ := hw
  rw [shl28_live, take60_split R w1] at w2 w3
  rw [shl28_of_lt r (by omega)] at w3
  have hz := bitsNat_take_lt 28 (R.drop 32)
  -- the first 32 bits of `R` lie in `[low % 2^32, low % 2^32 + r)`
  have y1 : low % 2 ^ 32 ≤ bitsNat (R.take 32) := by omega
  have y2 : bitsNat (R.take 32) < low % 2 ^ 32 + r := by omega
  have e : low % 2 ^ 60 = low / 2 ^ 32 % 2 ^ 28 * 2 ^ 32 + low % 2 ^ 32 := by omega
  unfold Win
  rw [take60_cons _ _ (natBits_length _ _) (by omega), natBits28_val, List.length_append, e]
  clear w2 w3 e
  exact ⟨by omega, by omega, by omega⟩

theorem shl28_or (code x : Nat) (hx : x < 2 ^ 28) :
    ((code <<< 28) % 2 ^ 64) ||| x = (code % 2 ^ 36) * 2 ^ 28 + x := by
  rw [shl28, ← Nat.shiftLeft_eq, Nat.or_comm, or_shl _ _ _ hx]
  omega

theorem dec_round (low rng r code : Nat) (R rest : Bits) (hi : Inv low rng) (h : normRng low rng = some r)
    (hR : 60 ≤ R.length) (hd : DecInv low code (natBits (low >>> 32) 28 ++ R)) :
    readBits 28 ((natBits (low >>> 32) 28 ++ R).drop 60 ++ rest)
      = some (bitsNat ((R.drop 32).take 28), R.drop 60 ++ rest) ∧
    DecInv ((low <<< 28) % 2 ^ 64) (((code <<< 28) % 2 ^ 64) ||| bitsNat ((R.drop 32).take 28)) R := by
  have hdrop : (natBits (low >>> 32) 28 ++ R).drop 60 = R.drop 32 := by
    have h := List.drop_length_add_append (l₁ := natBits (low >>> 32) 28) (l₂ := R) 32
    rwa [natBits_length] at h
  constructor
  · rw [hdrop]
    unfold readBits
    rw [if_pos (by rw [List.length_append, List.length_drop]; omega)]
    have h1 : (R.drop 32 ++ rest).take 28 = (R.drop 32).take 28 :=
      List.take_append_of_le_length (by rw [List.length_drop]; omega)
    have h2 : (R.drop 32 ++ rest).drop 28 = R.drop 60 ++ rest := by
      rw [List.drop_append_of_le_length (by rw [List.length_drop]; omega), List.drop_drop]
    rw [h1, h2]
  · obtain ⟨d1, d2⟩ := hd
    rw [take60_cons _ _ (natBits_length _ _) (by omega), natBits28_val] at d2
    have hz := bitsNat_take_lt 28 (R.drop 32)
    have hy := bitsNat_take_lt 32 R
    have h64 := hi.lt64
    unfold DecInv
    rw [shl28_or _ _ hz, shl28_live, take60_split R hR, shl28]
    constructor <;> omega

/-! ### D. the whole loop: termination, range > 0, encoder / decoder in step -/

/-- enough fuel for the loop started with range `rng`: three evaluations of the loop head when
    `rng < 2^28`, two when `rng < 2^56`, one otherwise -/
def FuelOk (rng fuel : Nat) : Prop := (rng < 2 ^ 28 → 3 ≤ fuel) ∧ (rng < 2 ^ 56 → 2 ≤ fuel) ∧ 1 ≤ fuel

theorem fuelOk_round (low rng r fuel : Nat) (hi : Inv low rng) (h : normRng low rng = some r)
    (hf : FuelOk rng (fuel + 1)) : FuelOk ((r <<< 28) % 2 ^ 64) fuel := by
  obtain ⟨_, _, r3, r4, r5⟩ := normRng_some low rng r hi h
  obtain ⟨f1, f2, _⟩ := hf
  rw [shl28_of_lt r (by omega)]
  -- a range below 2^28 is shifted twice at most: after one shift it is at least 2^28, and a range
  -- that is shifted at all lies below 2^32
  refine ⟨fun hc => by omega, fun hc => ?_, ?_⟩
  · have := f1 (by omega)
    omega
  · have := f2 (by omega)
    omega

theorem normLoop_fuel (fuel k low rng : Nat) (hi : Inv low rng) (hf : FuelOk rng fuel) :
    normLoop (fuel + k) low rng = normLoop fuel low rng := by
  fun_induction normLoop fuel low rng with
  | case1 => have := hf.2.2; omega
  | case2 fuel low rng hn => rw [Nat.succ_add, normLoop, hn]
  | case3 fuel low rng r hn t ih =>
    rw [Nat.succ_add, normLoop, hn]
    simp only []
    rw [ih (inv_round low rng r hi hn) (fuelOk_round low rng r fuel hi hn hf)]

theorem decNorm_fuel (fuel k low rng code : Nat) (bs : Bits) (hi : Inv low rng) (hf : FuelOk rng fuel) :
    decNorm (fuel + k) low rng code bs = decNorm fuel low rng code bs := by
  fun_induction decNorm fuel low rng code bs with
  | case1 => have := hf.2.2; omega
  | case2 fuel low rng _ _ hn => rw [Nat.succ_add, decNorm, hn]
  | case3 fuel low rng _ _ r hn hr => rw [Nat.succ_add, decNorm, hn, hr]
  | case4 fuel low rng _ _ r hn _ _ hr ih =>
    rw [Nat.succ_add, decNorm, hn, hr]
    exact ih (inv_round low rng r hi hn) (fuelOk_round low rng r fuel hi hn hf)

theorem normLoop_spec : ∀ (fuel low rng : Nat), Inv low rng → FuelOk rng fuel →
    Inv (normLoop fuel low rng).2.1 (normLoop fuel low rng).2.2 ∧
    bottomRange < (normLoop fuel low rng).2.2 ∧
    normRng (normLoop fuel low rng).2.1 (normLoop fuel low rng).2.2 = none ∧
    (normLoop fuel low rng).1.length ≤ 56 ∧
    (2 ^ 28 ≤ rng → (normLoop fuel low rng).1.length ≤ 28) ∧
    (2 ^ 56 ≤ rng → (normLoop fuel low rng).1.length = 0) ∧
    (∀ R, Win (normLoop fuel low rng).2.1 (normLoop fuel low rng).2.2 R →
        Win low rng ((normLoop fuel low rng).1 ++ R)) ∧
    (∀ (R : Bits) (code : Nat) (rest : Bits), 60 ≤ R.length →
        DecInv low code ((normLoop fuel low rng).1 ++ R) →
        ∃ code', decNorm fuel low rng code (((normLoop fuel low rng).1 ++ R).drop 60 ++ rest)
            = some (((normLoop fuel low rng).2.1, (normLoop fuel low rng).2.2, code'), R.drop 60 ++ rest) ∧
          DecInv (normLoop fuel low rng).2.1 code' R) := by
  intro fuel
  induction fuel with
  | zero => intro low rng _ hf; have := hf.2.2; omega
  | succ fuel ih =>
    intro low rng hi hf
    simp only [normLoop, decNorm]
    cases hn : normRng low rng with
    | none =>
      simp only []
      refine ⟨hi, normRng_none low rng hn, hn, by simp, by simp, by simp, ?_, ?_⟩
      · intro R hw; simpa using hw
      · intro R code rest hR hd
        exact ⟨code, by simp, by simpa using hd⟩
    | some r =>
      simp only []
      have hi' := inv_round low rng r hi hn
      obtain ⟨_, _, r3, r4, h8⟩ := normRng_some low rng r hi hn
      have h2 := shl28_of_lt r (by omega)
      have hf' := fuelOk_round low rng r fuel hi hn hf
      obtain ⟨i1, i2, i3, i4, i5, i5b, i6, i7⟩ := ih _ _ hi' hf'
      generalize normLoop fuel ((low <<< 28) % 2 ^ 64) ((r <<< 28) % 2 ^ 64) = t at *
      refine ⟨i1, i2, i3, ?_, ?_, ?_, ?_, ?_⟩
      · rw [List.length_append, natBits_length]
        have := i5 (by rw [h2]; omega)
        omega
      · intro hc
        have := h8 hc
        rw [List.length_append, natBits_length, i5b (by rw [h2]; omega)]
        exact Nat.le_refl _
      · intro hc
        have := h8 (by omega)
        omega
      · intro R hw
        rw [List.append_assoc]
        exact win_round low rng r _ hi hn (i6 R hw)
      · intro R code rest hR hd
        rw [List.append_assoc] at hd ⊢
        obtain ⟨d1, d2⟩ := dec_round low rng r code (t.1 ++ R) rest hi hn
          (by rw [List.length_append]; omega) hd
        rw [d1]
        simp only []
        exact i7 R _ rest hR d2

theorem code_in_range (low rng code : Nat) (R : Bits) (hw : Win low rng R) (hd : DecInv low code R) :
    (code + 2 ^ 64 - low) % 2 ^ 64 < rng := by
  obtain ⟨_, w2, w3⟩ := hw
  obtain ⟨_, d2⟩ := hd
  omega

/-! ### E. one symbol: `encodeByte` / `decodeByte` -/

theorem fuelOk_normFuel (rng : Nat) : FuelOk rng normFuel := by
  unfold FuelOk normFuel; omega

theorem scale_le (rng shift c fr : Nat) (hb : bottomRange < rng) (hs : shift ≤ 16)
    (hc : c + fr ≤ 2 ^ shift) :
    0 < rng >>> shift ∧ c * (rng >>> shift) + (rng >>> shift) * fr ≤ rng := by
  unfold bottomRange at hb
  rw [Nat.shiftRight_eq_div_pow]
  have hp : 0 < 2 ^ shift := Nat.pow_pos (by decide)
  have hp16 : 2 ^ shift ≤ 2 ^ 16 := Nat.pow_le_pow_right (by decide) hs
  have h1 : 2 ^ shift * (rng / 2 ^ shift) ≤ rng := Nat.mul_div_le rng (2 ^ shift)
  have h2 : (c + fr) * (rng / 2 ^ shift) ≤ 2 ^ shift * (rng / 2 ^ shift) := Nat.mul_le_mul_right _ hc
  rw [Nat.add_mul, Nat.mul_comm fr] at h2
  exact ⟨Nat.div_pos (by omega) hp, by omega⟩

theorem sub_interval (low rng X Y : Nat) (hi : Inv low rng) (hY : 0 < Y) (h : X + Y ≤ rng) :
    (low + X) % 2 ^ 64 = low + X ∧ Y % 2 ^ 64 = Y ∧ (low + X) % 2 ^ 60 = low % 2 ^ 60 + X := by
  obtain ⟨h64, _, hle, _⟩ := hi
  exact ⟨by omega, by omega, by omega⟩

theorem inv_sub (low rng X Y : Nat) (hi : Inv low rng) (hY : 0 < Y) (h : X + Y ≤ rng) :
    Inv ((low + X) % 2 ^ 64) (Y % 2 ^ 64) := by
  obtain ⟨e1, e2, e3⟩ := sub_interval low rng X Y hi hY h
  obtain ⟨h64, _, hle, htop⟩ := hi
  rw [e1, e2]
  refine ⟨by omega, hY, by omega, ?_⟩
  rw [e3]
  omega

theorem inv_step (low rng shift c fr : Nat) (hi : Inv low rng) (hb : bottomRange < rng)
    (hs : shift ≤ 16) (hf : 0 < fr) (hc : c + fr ≤ 2 ^ shift) :
    Inv ((low + c * (rng >>> shift)) % 2 ^ 64) (((rng >>> shift) * fr) % 2 ^ 64) := by
  obtain ⟨hr, hle⟩ := scale_le rng shift c fr hb hs hc
  exact inv_sub low rng _ _ hi (Nat.mul_pos hr hf) hle

theorem decInv_add (low code X W : Nat) (h64 : low + X < 2 ^ 64) (hc : code < 2 ^ 64)
    (hd : (code + 2 ^ 64 - low) % 2 ^ 64 + low % 2 ^ 60 = W) (hX : low % 2 ^ 60 + X ≤ W) :
    (code + 2 ^ 64 - (low + X)) % 2 ^ 64 + (low % 2 ^ 60 + X) = W := by
  omega

theorem slot_mem (shift low rng code c fr : Nat) (hr : 0 < rng >>> shift)
    (hlo : c * (rng >>> shift) ≤ (code + 2 ^ 64 - low) % 2 ^ 64)
    (hhi : (code + 2 ^ 64 - low) % 2 ^ 64 < c * (rng >>> shift) + (rng >>> shift) * fr) :
    c ≤ slot shift low rng code ∧ slot shift low rng code < c + fr := by
  unfold slot
  rw [Nat.le_div_iff_mul_le hr, Nat.div_lt_iff_lt_mul hr, Nat.add_mul, Nat.mul_comm fr]
  exact ⟨hlo, hhi⟩

/-- **one step**, for any sub-interval `c + fr ≤ 2^shift`, `fr > 0`.  The encoder writes `n.1`
    and moves to `(n.2.1, n.2.2)`; `R`: whatever the encoder writes afterwards. -/
theorem step_core (shift low rng c fr : Nat) (hi : Inv low rng) (hb : bottomRange < rng)
    (hs : shift ≤ 16) (hf : 0 < fr) (hc : c + fr ≤ 2 ^ shift) (n : Bits × Nat × Nat)
    (hn : encStep shift low rng c fr = n) :
    Inv n.2.1 n.2.2 ∧ bottomRange < n.2.2 ∧ n.1.length ≤ 56 ∧
    ∀ (R : Bits), Win n.2.1 n.2.2 R →
      Win low rng (n.1 ++ R) ∧
      ∀ (code : Nat) (rest : Bits), DecInv low code (n.1 ++ R) →
        (0 < rng >>> shift ∧ c ≤ slot shift low rng code ∧ slot shift low rng code < c + fr) ∧
        ∃ code', decNorm normFuel ((low + c * (rng >>> shift)) % 2 ^ 64) (((rng >>> shift) * fr) % 2 ^ 64)
            code ((n.1 ++ R).drop 60 ++ rest) = some ((n.2.1, n.2.2, code'), R.drop 60 ++ rest) ∧
          DecInv n.2.1 code' R := by
  obtain ⟨p1, p5⟩ := scale_le rng shift c fr hb hs hc
  obtain ⟨p2, p3, p4⟩ := sub_interval low rng _ _ hi (Nat.mul_pos p1 hf) p5
  obtain ⟨n1, n2, _, n4, _, _, n6, n7⟩ := normLoop_spec normFuel _ _
    (inv_step low rng shift c fr hi hb hs hf hc) (fuelOk_normFuel _)
  unfold encStep at hn
  rw [hn] at n1 n2 n4 n6 n7
  refine ⟨n1, n2, n4, fun R hw => ?_⟩
  -- the window lies in the sub-interval of the symbol, hence in the old interval
  obtain ⟨w1, w2, w3⟩ := n6 R hw
  rw [p2, p4] at w2
  rw [p2, p3, p4] at w3
  refine ⟨⟨w1, by omega, by omega⟩, fun code rest hd => ?_⟩
  obtain ⟨d1, d2⟩ := hd
  have h64 := hi.lt64
  refine ⟨⟨p1, slot_mem shift low rng code c fr p1 (by omega) (by omega)⟩, ?_⟩
  -- the decoder is at the same pre-loop state, with the same window
  exact n7 R code rest hw.1 ⟨d1, by rw [p2, p4]; exact decInv_add _ _ _ _ (by omega) d1 d2 w2⟩

/-- what the tables must provide for symbol `s` (they do: `symTab_mk` in RangeChunk) -/
structure SymTab (cum f2s : Array Nat) (shift s : Nat) : Prop where
  pos : cum.getD s 0 < cum.getD (s + 1) 0
  le : cum.getD (s + 1) 0 ≤ 2 ^ shift
  f2s : ∀ j, cum.getD s 0 ≤ j → j < cum.getD (s + 1) 0 → j < f2s.size ∧ f2s.getD j 0 = s

theorem decStep_of_slot (cum f2s : Array Nat) (shift low rng code s : Nat) (bs : Bits)
    (ht : SymTab cum f2s shift s) (hr : 0 < rng >>> shift) (h1 : cum.getD s 0 ≤ slot shift low rng code)
    (h2 : slot shift low rng code < cum.getD s 0 + (cum.getD (s + 1) 0 - cum.getD s 0))
    (v : Nat × Nat × Nat) (bs' : Bits)
    (h : decNorm normFuel ((low + cum.getD s 0 * (rng >>> shift)) % 2 ^ 64)
      (((rng >>> shift) * (cum.getD (s + 1) 0 - cum.getD s 0)) % 2 ^ 64) code bs = some (v, bs')) :
    decStep cum f2s shift low rng code bs = some ((s, v.1, v.2.1, v.2.2), bs') := by
  obtain ⟨t1, t2⟩ := ht.f2s _ h1 (by have := ht.pos; omega)
  unfold decStep
  rw [if_neg (by omega), if_neg (by omega), t2]
  unfold decStepSym
  rw [h]

theorem step_spec (cum f2s : Array Nat) (shift low rng s : Nat) (hi : Inv low rng) (hb : bottomRange < rng)
    (hs : shift ≤ 16) (ht : SymTab cum f2s shift s) (n : Bits × Nat × Nat)
    (hn : encStep shift low rng (cum.getD s 0) (cum.getD (s + 1) 0 - cum.getD s 0) = n) :
    Inv n.2.1 n.2.2 ∧ bottomRange < n.2.2 ∧ n.1.length ≤ 56 ∧
    ∀ (R : Bits), Win n.2.1 n.2.2 R →
      Win low rng (n.1 ++ R) ∧
      ∀ (code : Nat) (rest : Bits), DecInv low code (n.1 ++ R) →
        ∃ code', decStep cum f2s shift low rng code ((n.1 ++ R).drop 60 ++ rest)
          = some ((s, n.2.1, n.2.2, code'), R.drop 60 ++ rest) ∧ DecInv n.2.1 code' R := by
  obtain ⟨n1, n2, n3, n4⟩ := step_core shift low rng _ _ hi hb hs
    (by have := ht.pos; omega) (by have := ht.pos; have := ht.le; omega) n hn
  refine ⟨n1, n2, n3, fun R hw => ⟨(n4 R hw).1, fun code rest hd => ?_⟩⟩
  obtain ⟨⟨hr, s1, s2⟩, code', e1, e2⟩ := (n4 R hw).2 code rest hd
  exact ⟨code', decStep_of_slot cum f2s shift low rng code s _ ht hr s1 s2 _ _ e1, e2⟩

/-! ### F. the payload of a chunk: all symbols, then the flush -/

theorem win_flush (low rng : Nat) (hpos : 0 < rng) : Win low rng (natBits low 60) := by
  have hl := natBits_length low 60
  have ht : (natBits low 60).take 60 = natBits low 60 := List.take_of_length_le (by omega)
  refine ⟨by omega, ?_, ?_⟩
  · rw [ht, bitsNat_natBits]; exact Nat.le_refl _
  · rw [ht, bitsNat_natBits]; omega

theorem tail_rt (cum f2s : Array Nat) (shift : Nat) (hs : shift ≤ 16) :
    ∀ (syms : List Nat) (low rng : Nat), (∀ s ∈ syms, SymTab cum f2s shift s) →
      Inv low rng → bottomRange < rng →
      Win low rng (encTail cum shift syms low rng) ∧
      ∀ (code : Nat) (rest : Bits), DecInv low code (encTail cum shift syms low rng) →
        decSyms cum f2s shift syms.length low rng code ((encTail cum shift syms low rng).drop 60 ++ rest)
          = some (syms, rest) := by
  intro syms
  induction syms with
  | nil =>
    intro low rng _ hi _
    refine ⟨win_flush low rng hi.pos, ?_⟩
    intro code rest _
    have hl := natBits_length low 60
    simp only [encTail, List.length_nil, decSyms]
    rw [List.drop_of_length_le (by omega), List.nil_append]
  | cons s ss ih =>
    intro low rng ht hi hb
    obtain ⟨n1, n2, _, n4⟩ := step_spec cum f2s shift low rng s hi hb hs (ht s List.mem_cons_self) _ rfl
    simp only [encTail, List.length_cons, decSyms]
    generalize encStep shift low rng (cum.getD s 0) (cum.getD (s + 1) 0 - cum.getD s 0) = n at *
    obtain ⟨w, d⟩ := ih n.2.1 n.2.2 (fun x hx => ht x (List.mem_cons_of_mem _ hx)) n1 n2
    obtain ⟨hw, hdec⟩ := n4 _ w
    refine ⟨hw, ?_⟩
    intro code rest hd
    obtain ⟨code', e1, e2⟩ := hdec code rest hd
    rw [e1]
    simp only []
    rw [d code' rest e2]

/-- the decoder's start: `code = ReadBits(60)` is the window on the whole payload -/
theorem payload_rt (cum f2s : Array Nat) (shift : Nat) (hs : shift ≤ 16) (syms : List Nat)
    (ht : ∀ s ∈ syms, SymTab cum f2s shift s) (rest : Bits) :
    ∃ code r, readBits 60 (encTail cum shift syms 0 topRange ++ rest) = some (code, r) ∧
      decSyms cum f2s shift syms.length 0 topRange code r = some (syms, rest) := by
  obtain ⟨w, d⟩ := tail_rt cum f2s shift hs syms 0 topRange ht inv_init (by decide)
  refine ⟨bitsNat ((encTail cum shift syms 0 topRange).take 60),
    (encTail cum shift syms 0 topRange).drop 60 ++ rest, ?_, ?_⟩
  · unfold readBits
    rw [if_pos (by rw [List.length_append]; have := w.1; omega),
      List.take_append_of_le_length w.1, List.drop_append_of_le_length w.1]
  · apply d
    have hlt := bitsNat_take_lt 60 (encTail cum shift syms 0 topRange)
    refine ⟨by omega, ?_⟩
    omega

end Kanzi.Range
