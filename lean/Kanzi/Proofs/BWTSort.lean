/-
Generic machinery for the inverse BWT proofs (both routes) and the inverse BWTS proof (BWTSInv):
* `rd` : total read of an `Array Nat` with its update lemmas;
* lists sorted by a key: the bucket decomposition `L = L.filter (key < c) ++ L.filter (key = c) ++ ...`;
* `putList`: the counting-sort scatter loop (`data[buckets[key]] = word; buckets[key]++`) and its
  specification: bucket `c` of the output holds the words of the entries with key `c` in input order.
-/
import Kanzi.Model.BWT
import Kanzi.Proofs.Base

namespace Kanzi.BWT

/-! ### total reads -/

/-- read with `0` outside the array: the proofs state table contents without carrying bounds around -/
def rd (a : Array Nat) (i : Nat) : Nat := a.getD i 0

theorem rd_eq_getElem {a : Array Nat} {i : Nat} (h : i < a.size) : a[i] = rd a i := by
  simp [rd, h]

theorem rd_of_size_le {a : Array Nat} {i : Nat} (h : a.size ≤ i) : rd a i = 0 := by
  simp [rd, Array.getD_eq_getD_getElem?, h]

theorem rd_lt (src : Array Nat) (hb : ∀ b ∈ src.toList, b < 256) (j : Nat) : rd src j < 256 := by
  by_cases hj : j < src.size
  · rw [← rd_eq_getElem hj]; exact hb _ (by simp)
  · rw [rd_of_size_le (by omega)]; decide

theorem rd_set {a : Array Nat} {i : Nat} (h : i < a.size) (v j : Nat) :
    rd (a.set i v h) j = if i = j then v else rd a j := by
  simp only [rd, Array.getD_eq_getD_getElem?, Array.getElem?_set]
  split <;> simp

theorem getD_lt (s : List Nat) (hb : ∀ x ∈ s, x < 256) (j : Nat) : s.getD j 0 < 256 := by
  rw [List.getD_eq_getElem?_getD]
  cases h : s[j]? with
  | none => simp
  | some v => exact hb v (List.mem_of_getElem? h)

theorem rd_setIfInBounds {a : Array Nat} (i v j : Nat) :
    rd (a.setIfInBounds i v) j = if i = j ∧ i < a.size then v else rd a j :=
  getD_setIfInBounds a i v j 0

theorem getD_push {α} (a : Array α) (v : α) (j : Nat) (d : α) :
    (a.push v).getD j d = if j = a.size then v else a.getD j d := by
  simp only [Array.getD_eq_getD_getElem?, Array.getElem?_push]
  split <;> simp

theorem rd_push (a : Array Nat) (v j : Nat) :
    rd (a.push v) j = if j = a.size then v else rd a j :=
  getD_push a v j 0

theorem rd_modify (a : Array Nat) (i j : Nat) (f : Nat → Nat) (h : i < a.size) :
    rd (a.modify i f) j = if i = j then f (rd a j) else rd a j := by
  simp only [rd, Array.getD_eq_getD_getElem?, Array.getElem?_modify]
  split
  · next e => subst e; simp [h]
  · rfl

theorem rd_replicate (n v i : Nat) : rd (Array.replicate n v) i = if i < n then v else 0 := by
  simp only [rd, Array.getD_eq_getD_getElem?]
  split
  · next h => simp [h]
  · next h =>
    have : (Array.replicate n v).size ≤ i := by simp; omega
    simp [Array.getElem?_eq_none this]

theorem rd_toArray (l : List Nat) (i : Nat) : rd l.toArray i = l.getD i 0 := by
  simp [rd, Array.getD_eq_getD_getElem?, List.getD_eq_getElem?_getD]

theorem range_map_getD {α : Type} (L : List α) (d : α) :
    (List.range L.length).map (fun i => L.getD i d) = L := by
  apply List.ext_getElem
  · simp
  · intro i h1 h2
    simp [List.getD_eq_getElem?_getD, h2]

theorem eq_toArray_of_rd {a : Array Nat} {l : List Nat} (hs : a.size = l.length)
    (h : ∀ i, i < l.length → rd a i = l.getD i 0) : a = l.toArray := by
  apply Array.ext
  · simpa using hs
  · intro i h1 h2
    have := h i (by simpa using h2)
    rw [← rd_eq_getElem h1] at this
    rw [this]
    simp [List.getD_eq_getElem?_getD, (by simpa using h2 : i < l.length)]

theorem filter_lt_succ_length (l : List Nat) (c : Nat) :
    (l.filter (fun x => x < c + 1)).length = (l.filter (fun x => x < c)).length + l.count c := by
  simp only [← List.countP_eq_length_filter]
  induction l with
  | nil => rfl
  | cons a l ih =>
    simp only [List.countP_cons, List.count_cons, ih, decide_eq_true_eq, beq_iff_eq]
    grind

/-! ### lists sorted by key -/

section Sorted
variable {α : Type} (key : α → Nat)

theorem filter_lt_nil_of_forall_ge {L : List α} {c : Nat} (h : ∀ x ∈ L, c ≤ key x) :
    L.filter (fun x => key x < c) = [] := by
  rw [List.filter_eq_nil_iff]
  intro x hx
  have := h x hx
  simp; omega

theorem filter_eq_nil_of_forall_gt {L : List α} {c : Nat} (h : ∀ x ∈ L, c < key x) :
    L.filter (fun x => key x = c) = [] := by
  rw [List.filter_eq_nil_iff]
  intro x hx
  have := h x hx
  simp; omega

theorem sorted_decomp {L : List α} (hs : L.Pairwise (fun a b => key a ≤ key b)) (c : Nat) :
    L = L.filter (fun x => key x < c) ++ L.filter (fun x => key x = c) ++ L.filter (fun x => c < key x) := by
  induction L with
  | nil => simp
  | cons x xs ih =>
    rw [List.pairwise_cons] at hs
    have ih' := ih hs.2
    rcases Nat.lt_trichotomy (key x) c with h | h | h
    · rw [List.filter_cons_of_pos (by simpa using h), List.filter_cons_of_neg (by simp; omega),
        List.filter_cons_of_neg (by simp; omega)]
      exact congrArg (x :: ·) ih'
    · rw [List.filter_cons_of_neg (by simp; omega), List.filter_cons_of_pos (by simpa using h),
        List.filter_cons_of_neg (by simp; omega)]
      rw [filter_lt_nil_of_forall_ge key fun y hy => h ▸ hs.1 y hy] at ih' ⊢
      exact congrArg (x :: ·) ih'
    · have hgt : ∀ y ∈ xs, c < key y := fun y hy => Nat.lt_of_lt_of_le h (hs.1 y hy)
      rw [List.filter_cons_of_neg (by simp; omega), List.filter_cons_of_neg (by simp; omega),
        List.filter_cons_of_pos (by simpa using h)]
      rw [filter_lt_nil_of_forall_ge key fun y hy => Nat.le_of_lt (hgt y hy),
        filter_eq_nil_of_forall_gt key hgt] at ih' ⊢
      exact congrArg (x :: ·) ih'

def below (L : List α) (c : Nat) : Nat := (L.filter (fun x => key x < c)).length

def bucket (L : List α) (c : Nat) : List α := L.filter (fun x => key x = c)

theorem sorted_getD_bucket {L : List α} (hs : L.Pairwise (fun a b => key a ≤ key b)) (c k : Nat)
    (hk : k < (bucket key L c).length) (d : α) :
    L.getD (below key L c + k) d = (bucket key L c).getD k d := by
  have h := sorted_decomp key hs c
  rw [congrArg (fun l => l.getD (below key L c + k) d) h]
  simp only [List.getD_eq_getElem?_getD, below, bucket] at *
  rw [List.append_assoc, List.getElem?_append_right (by omega)]
  simp only [Nat.add_sub_cancel_left]
  rw [List.getElem?_append_left hk]

theorem below_succ_eq (L : List α) (c : Nat) :
    below key L (c + 1) = below key L c + (bucket key L c).length := by
  have := filter_lt_succ_length (L.map key) c
  simp only [List.filter_map, List.length_map, List.count_eq_countP,
    List.countP_eq_length_filter] at this
  exact this

theorem below_mono (L : List α) {c c2 : Nat} (h : c < c2) :
    below key L c + (bucket key L c).length ≤ below key L c2 := by
  rw [← below_succ_eq]
  simp only [below, ← List.countP_eq_length_filter]
  exact List.countP_mono_left fun x _ hx => by
    simp only [decide_eq_true_eq] at hx ⊢
    omega

theorem below_bucket_le_length (L : List α) (c : Nat) : below key L c + (bucket key L c).length ≤ L.length := by
  rw [← below_succ_eq]
  exact List.length_filter_le _ _

end Sorted

theorem bucket_idxOf (L : List Nat) (key : Nat → Nat) (hs : L.Pairwise (fun a b => key a ≤ key b))
    (hn : L.Nodup) (c : Nat) :
    (bucket key L c).map (fun x => L.idxOf x) = List.range' (below key L c) (bucket key L c).length := by
  apply List.ext_getElem
  · simp
  · intro m h1 h2
    have hm : m < (bucket key L c).length := by simpa using h1
    rw [List.getElem_map, List.getElem_range']
    have e := sorted_getD_bucket key hs c m hm 0
    have hlen : below key L c + m < L.length := by
      have := below_bucket_le_length key L c; omega
    rw [List.getD_eq_getElem?_getD, List.getElem?_eq_getElem hlen, List.getD_eq_getElem?_getD,
      List.getElem?_eq_getElem hm] at e
    simp only [Option.getD_some] at e
    rw [← e, hn.idxOf_getElem _ hlen]
    omega

/-- an element of such a list stands in the bucket of its key, at the offset it has inside the bucket -/
theorem sorted_idxOf (L : List Nat) (key : Nat → Nat) (hs : L.Pairwise (fun a b => key a ≤ key b))
    (hn : L.Nodup) (j : Nat) (hj : j ∈ L) :
    (bucket key L (key j)).idxOf j < (bucket key L (key j)).length ∧
    L.idxOf j = below key L (key j) + (bucket key L (key j)).idxOf j := by
  have hm : (bucket key L (key j)).idxOf j < (bucket key L (key j)).length :=
    List.idxOf_lt_length_iff.2 (List.mem_filter.2 ⟨hj, decide_eq_true rfl⟩)
  refine ⟨hm, ?_⟩
  have e := congrArg (fun l => l[(bucket key L (key j)).idxOf j]?) (bucket_idxOf L key hs hn (key j))
  simp only [List.getElem?_map, List.getElem?_eq_getElem hm, Option.map_some, List.getElem_idxOf] at e
  rw [List.getElem?_eq_getElem (by simpa using hm), List.getElem_range'] at e
  simpa using e

/-! ### the counting-sort scatter loop -/

/-- `put` over a list of (key, word) entries -/
def putList : List (Nat × Nat) → Array Nat → Array Nat → Option (Array Nat × Array Nat)
  | [], bk, data => some (bk, data)
  | e :: es, bk, data =>
    match put bk data e.1 e.2 with
    | none => none
    | some r => putList es r.1 r.2

abbrev ebucket (E : List (Nat × Nat)) (c : Nat) : List (Nat × Nat) := bucket (fun e : Nat × Nat => e.1) E c

theorem put_eq {bk data : Array Nat} {v w : Nat} (hv : v < bk.size) (hb : rd bk v < data.size) :
    put bk data v w = some (bk.set v (rd bk v + 1) hv, data.setIfInBounds (rd bk v) w) := by
  simp [put, hv, rd_eq_getElem hv, hb]

theorem putList_append (A B : List (Nat × Nat)) (bk data : Array Nat) :
    putList (A ++ B) bk data = (putList A bk data).bind (fun r => putList B r.1 r.2) := by
  induction A generalizing bk data with
  | nil => simp [putList]
  | cons a as ih =>
    simp only [List.cons_append, putList]
    cases put bk data a.1 a.2 with
    | none => simp
    | some r => simp [ih]

/-- the scatter loop over pairwise disjoint ranges `[C c, C c + |bucket c|)` (`C c` = initial counter of
bucket `c`).  By induction from the right: the last entry `e` goes to the last slot of its bucket,
which no other range contains. -/
theorem putList_spec (E : List (Nat × Nat)) (C : Nat → Nat) (bk data : Array Nat)
    (hkeys : ∀ e ∈ E, e.1 < bk.size) (hC : ∀ c, c < bk.size → rd bk c = C c)
    (hdisj : ∀ c c2, c < bk.size → c2 < bk.size → c ≠ c2 →
      C c + (ebucket E c).length ≤ C c2 ∨ C c2 + (ebucket E c2).length ≤ C c)
    (hfit : ∀ c, c < bk.size → C c + (ebucket E c).length ≤ data.size) :
    ∃ bk' data', putList E bk data = some (bk', data') ∧ data'.size = data.size ∧ bk'.size = bk.size ∧
      (∀ c, c < bk.size → rd bk' c = C c + (ebucket E c).length) ∧
      (∀ c, c < bk.size → ∀ k, k < (ebucket E c).length → rd data' (C c + k) = ((ebucket E c).getD k (0, 0)).2) ∧
      (∀ j, (∀ c, c < bk.size → ¬ (C c ≤ j ∧ j < C c + (ebucket E c).length)) → rd data' j = rd data j) := by
  obtain ⟨R, rfl⟩ : ∃ R, E = R.reverse := ⟨E.reverse, (List.reverse_reverse E).symm⟩
  induction R with
  | nil =>
    refine ⟨bk, data, rfl, rfl, rfl, ?_, ?_, fun _ _ => rfl⟩
    · intro c hc; simp [ebucket, bucket, hC c hc]
    · intro c _ k hk; simp [ebucket, bucket] at hk
  | cons e rs ih =>
    rw [List.reverse_cons] at hkeys hdisj hfit ⊢
    generalize rs.reverse = es at ih hkeys hdisj hfit ⊢
    have hb : ∀ c, ebucket (es ++ [e]) c = ebucket es c ++ (if e.1 = c then [e] else []) := by
      intro c
      simp only [ebucket, bucket, List.filter_append, List.filter_cons, List.filter_nil]
      by_cases h : e.1 = c <;> simp [h]
    have hlen : ∀ c, (ebucket (es ++ [e]) c).length = (ebucket es c).length + (if e.1 = c then 1 else 0) := by
      intro c
      rw [hb c, List.length_append]
      split <;> rfl
    have hv : e.1 < bk.size := hkeys e (List.mem_append_right _ (List.mem_singleton.2 rfl))
    obtain ⟨bk1, data1, hrun, hsz, hbk1, hB, hD, hU⟩ := ih
      (fun x hx => hkeys x (List.mem_append_left _ hx))
      (fun c c2 hc hc2 hne => by
        have := hdisj c c2 hc hc2 hne
        rw [hlen c, hlen c2] at this
        omega)
      (fun c hc => by
        have := hfit c hc
        rw [hlen c] at this
        omega)
    -- the slot of `e`: the last one of its bucket
    have hpos : rd bk1 e.1 = C e.1 + (ebucket es e.1).length := hB e.1 hv
    have hfe := hfit e.1 hv
    rw [hlen e.1, if_pos rfl] at hfe
    have hput := put_eq (bk := bk1) (data := data1) (w := e.2) (by rw [hbk1]; exact hv) (by rw [hpos, hsz]; omega)
    have hother : ∀ c, c < bk.size → c ≠ e.1 → ∀ k, k < (ebucket es c).length → C c + k ≠ rd bk1 e.1 := by
      intro c hc hne k hk
      have := hdisj c e.1 hc hv hne
      rw [hlen c, hlen e.1, if_pos rfl] at this
      omega
    refine ⟨bk1.set e.1 (rd bk1 e.1 + 1) (by rw [hbk1]; exact hv), data1.setIfInBounds (rd bk1 e.1) e.2,
      by rw [putList_append, hrun]; simp only [Option.bind_some, putList, hput], ?_, ?_, ?_, ?_, ?_⟩
    · rw [Array.size_setIfInBounds, hsz]
    · rw [Array.size_set, hbk1]
    · intro c hc
      rw [rd_set, hlen c]
      by_cases h : e.1 = c
      · subst h; rw [if_pos rfl, if_pos rfl, hpos]; omega
      · rw [if_neg h, if_neg h, hB c hc]; rfl
    · intro c hc k hk
      rw [hlen c] at hk
      rw [rd_setIfInBounds, hb c]
      by_cases hlast : e.1 = c ∧ k = (ebucket es c).length
      · obtain ⟨rfl, rfl⟩ := hlast
        rw [if_pos ⟨hpos, by rw [hpos, hsz]; omega⟩, if_pos rfl, List.getD_eq_getElem?_getD,
          List.getElem?_append_right (Nat.le_refl _), Nat.sub_self]
        rfl
      · have hk' : k < (ebucket es c).length := by
          by_cases h : e.1 = c
          · rw [if_pos h] at hk
            have : k ≠ (ebucket es c).length := fun hh => hlast ⟨h, hh⟩
            omega
          · rw [if_neg h] at hk; exact hk
        have hne : rd bk1 e.1 ≠ C c + k := by
          by_cases h : e.1 = c
          · subst h; rw [hpos]; omega
          · exact fun hh => hother c hc (fun x => h x.symm) k hk' hh.symm
        rw [if_neg (fun hh => hne hh.1), hD c hc k hk', List.getD_eq_getElem?_getD, List.getD_eq_getElem?_getD,
          List.getElem?_append_left hk']
    · intro j hj
      have hne : rd bk1 e.1 ≠ j := by
        intro hh
        apply hj e.1 hv
        rw [hlen e.1, if_pos rfl, ← hh, hpos]
        omega
      rw [rd_setIfInBounds, if_neg (fun hh => hne hh.1)]
      apply hU
      intro c hc hin
      apply hj c hc
      rw [hlen c]
      omega

end Kanzi.BWT
