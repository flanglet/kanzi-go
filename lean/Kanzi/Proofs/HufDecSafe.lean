/-
Proofs about the total model of the Huffman decoder (`Kanzi/Model/HufDec.lean`), property C03: the
parts of a `Read`.  Each function of the model has ONE theorem `<fn>_sat` (`R.Sat`: no fuel
exhausted, an index panic only where stated, and what a success delivers).  `readState` never reads
outside `this.buffer` (any table `buildDecodingTable` can build, any buffer of at least `2*count` and
256 bytes, any content); `readLengths` / `generateCanonicalCodes` never fault on what
`DecodeAlphabet` delivers, and `buildDecodingTable` never faults on what `readLengths` accepts; the
header / table part agrees with `Model/Huffman.lean`.
-/
import Kanzi.Model.HufDec
import Kanzi.Proofs.AnsDec
import Kanzi.Proofs.HufCanon

namespace Kanzi.HufDec
open Kanzi.Bits Kanzi.EntSmall Kanzi.Huffman

def R.isFuel {α : Type} : R α → Bool
  | .fuel => true
  | _ => false

def R.isFault {α : Type} : R α → Bool
  | .fault => true
  | _ => false

/-- `r` has not run out of fuel, is an index panic only if `flt`, and a value it delivers satisfies `P` -/
def R.Sat {α : Type} (flt : Prop) (P : α → Prop) : R α → Prop
  | .ok a => P a
  | .fault => flt
  | .fuel => False
  | _ => True

theorem R.Sat.bind {α β : Type} {flt : Prop} {P : α → Prop} {Q : β → Prop} {r : R α} {f : α → R β}
    (h : r.Sat flt P) (hf : ∀ a, P a → (f a).Sat flt Q) : (r.bind f).Sat flt Q := by
  cases r with
  | ok a => exact hf a h
  | _ => exact h

theorem R.Sat.of_false {α : Type} {flt : Prop} {P : α → Prop} {r : R α} (h : r.Sat False P) : r.Sat flt P := by
  cases r with
  | fault => exact h.elim
  | _ => exact h

theorem R.Sat.isFuel {α : Type} {flt : Prop} {P : α → Prop} {r : R α} (h : r.Sat flt P) : r.isFuel = false := by
  cases r with
  | fuel => exact h.elim
  | _ => rfl

theorem R.Sat.isFault {α : Type} {P : α → Prop} {r : R α} (h : r.Sat False P) : r.isFault = false := by
  cases r with
  | fault => exact h.elim
  | _ => rfl

theorem R.Sat.ok {α : Type} {flt : Prop} {P : α → Prop} {r : R α} (h : r.Sat flt P) {a : α} (e : r = .ok a) :
    P a := by
  subst e
  exact h

theorem stopOf_nofuel {α : Type} (r : R α) (h : r.isFuel = false) : stopOf r ≠ .fuel := by
  cases r <;> simp_all [stopOf, R.isFuel]

def TableOK (tbl : Array Nat) : Prop :=
  ∀ i, i < 4096 → 1 ≤ tbl.getD i 0 % 256 ∧ tbl.getD i 0 % 256 ≤ 12

theorem look_ok (tbl : Array Nat) (h : TableOK tbl) (st bs : Nat) :
    1 ≤ look tbl st bs % 256 ∧ look tbl st bs % 256 ≤ 12 := by
  unfold look
  exact h _ (Nat.and_lt_two_pow _ (by decide : 0xFFF < 2 ^ 12))

theorem rsShift_facts : ∀ b, b < 57 → 49 ≤ b + rsShift b ∧ b + rsShift b ≤ 56 := by decide

theorem bits_step (bits sh c0 c1 c2 c3 : Nat) (h : 49 ≤ bits + sh ∧ bits + sh ≤ 56)
    (h0 : 1 ≤ c0 % 256 ∧ c0 % 256 ≤ 12) (h1 : 1 ≤ c1 % 256 ∧ c1 % 256 ≤ 12)
    (h2 : 1 ≤ c2 % 256 ∧ c2 % 256 ≤ 12) (h3 : 1 ≤ c3 % 256 ∧ c3 % 256 ≤ 12) :
    (subBs (subBs (subBs (subBs ((bits + sh + 256 - 12) % 256) c0) c1) c2) c3 + 12) % 256 ≤ 52 := by
  simp only [subBs]
  omega

theorem decGroup_facts (tbl buf : Array Nat) (h : TableOK tbl) (d : DS) (hb : d.bits ≤ 56) :
    (decGroup tbl buf d).2.bits ≤ 52 ∧ (decGroup tbl buf d).2.idx ≤ d.idx + 7 := by
  have hs := rsShift_facts d.bits (by omega)
  have key := look_ok tbl h
  constructor
  · unfold decGroup readState
    simp only []
    exact bits_step _ _ _ _ _ _ hs (key _ _) (key _ _) (key _ _) (key _ _)
  · unfold decGroup readState
    simp only [Nat.shiftRight_eq_div_pow]
    omega

theorem decFragReads_bound (tbl buf : Array Nat) (h : TableOK tbl) : ∀ (f rem : Nat) (d : DS),
    d.bits ≤ 56 → ∀ i ∈ decFragReads tbl buf f rem d, i ≤ d.idx + 7 * (rem / 4) := by
  intro f
  induction f with
  | zero =>
    intro rem d _ i hi
    simp only [decFragReads, List.mem_singleton] at hi
    omega
  | succ f ih =>
    intro rem d hb i hi
    unfold decFragReads at hi
    split at hi
    · rename_i hr
      rcases List.mem_cons.mp hi with e | hi
      · omega
      · have hf := decGroup_facts tbl buf h d hb
        have := ih (rem - 4) (decGroup tbl buf d).2 (by omega) i hi
        omega
    · simp only [List.mem_singleton] at hi
      omega

/-- a sub-stream advances by at most 7 bytes per group of four symbols: its reads stay in a region of
    `S` bytes that holds 8 bytes more than that -/
theorem readsOkAt_true (tbl buf : Array Nat) (h : TableOK tbl) (szFrag off S : Nat)
    (hS : 7 * (szFrag / 4) + 8 ≤ S) (hb : off + S ≤ buf.size) : readsOkAt tbl buf szFrag off = true := by
  unfold readsOkAt
  rw [List.all_eq_true]
  intro i hi
  have := decFragReads_bound tbl buf h szFrag szFrag ⟨0, off, 0⟩ (Nat.zero_le _) i hi
  simp only [decide_eq_true_eq]
  simp only [] at this
  omega

/-- `dst[i:]` receives a list the same way in both any-input decoders -/
theorem writeAt_eq : writeAt = AnsDec.writePrefix := by
  funext l
  induction l with
  | nil => rfl
  | cons b bs ih => funext i a; simp only [writeAt, AnsDec.writePrefix, ih]

theorem setRange_eq : setRange = AnsDec.fill := by
  funext start v c
  induction c with
  | zero => rfl
  | succ c ih => funext a; simp only [setRange, AnsDec.fill, ih]

theorem writeAt_size (l : List Nat) (i : Nat) (a : Array Nat) : (writeAt l i a).size = a.size :=
  writeAt_eq ▸ AnsDec.writePrefix_size l i a

theorem setRange_size (start v c : Nat) (a : Array Nat) : (setRange start v c a).size = a.size :=
  setRange_eq ▸ AnsDec.fill_size start v c a

theorem clearAfter_size (off stride sz : Nat) (a : Array Nat) : (clearAfter off stride sz a).size = a.size := by
  unfold clearAfter
  split
  · exact setRange_size _ _ _ _
  · rfl

theorem loadAt_sat (off sz : Nat) (buf : Array Nat) (bs : Bits) :
    (loadAt off sz buf bs).Sat False (fun x => x.1.size = buf.size) := by
  unfold loadAt
  split
  · trivial
  · split
    · trivial
    · exact writeAt_size _ _ _

theorem read4_sat (bs : Bits) : (read4 bs).Sat False (fun _ => True) := by
  unfold read4
  split
  · trivial
  split
  · trivial
  split
  · trivial
  split <;> trivial

theorem load4_sat (z : Nat × Nat × Nat × Nat) (buf : Array Nat) (bs : Bits) :
    (load4 z buf bs).Sat False (fun x => x.1.size = buf.size) := by
  unfold load4
  refine (loadAt_sat _ _ _ _).bind fun a ha => ?_
  refine (loadAt_sat _ _ _ _).bind fun b hb => ?_
  refine (loadAt_sat _ _ _ _).bind fun c hc => ?_
  refine (loadAt_sat _ _ _ _).bind fun d hd => ?_
  show (clearAfter _ _ _ (clearAfter _ _ _ (clearAfter _ _ _ (clearAfter _ _ _ d.1)))).size = buf.size
  rw [clearAfter_size, clearAfter_size, clearAfter_size, clearAfter_size, hd, hc, hb, ha]

/-- `decodeChunkV6` has no index panic on a table with entries 1..12 and a buffer of at least 256 and
    `2*count` bytes, whatever the buffer holds -/
theorem chunkV6_sat (flt : Prop) (tbl : Array Nat) (count : Nat) (buf : Array Nat) (bs : Bits)
    (h : flt ∨ (TableOK tbl ∧ 256 ≤ buf.size ∧ 2 * count ≤ buf.size)) :
    (chunkV6 tbl count buf bs).Sat flt (fun x => x.2.1.size = buf.size) := by
  unfold chunkV6
  refine (read4_sat bs).of_false.bind fun z _ => ?_
  refine (load4_sat _ _ _).of_false.bind fun b hb => ?_
  split
  · rename_i hr
    rcases h with h | ⟨ht, hL, hc⟩
    · exact h
    · have hq : 7 * (count / 4 / 4) + 8 ≤ buf.size / 4 := by omega
      have h4 : 4 * (buf.size / 4) ≤ b.1.size := by omega
      generalize buf.size / 4 = S at hr hq h4
      exact absurd ⟨readsOkAt_true tbl b.1 ht _ _ S hq (by omega), readsOkAt_true tbl b.1 ht _ _ S hq (by omega),
        readsOkAt_true tbl b.1 ht _ _ S hq (by omega), readsOkAt_true tbl b.1 ht _ _ S hq (by omega)⟩ hr
  · split
    · trivial
    · exact hb

def TblL (tbl : List Nat) : Prop := tbl.length = 4096 ∧ ∀ v ∈ tbl, 1 ≤ v % 256 ∧ v % 256 ≤ 12

theorem shl8_or_mod (s z : Nat) (hz : z < 256) : ((s <<< 8) ||| z) % 256 = z := by
  show ((s <<< 8) ||| z) % 2 ^ 8 = z
  rw [Nat.or_mod_two_pow, Nat.shiftLeft_eq, Nat.mul_mod_left, Nat.zero_or, Nat.mod_eq_of_lt hz]

theorem fillTable_TblL (tbl : List Nat) (i e v : Nat) (h : TblL tbl) (hie : i ≤ e) (he : e ≤ 4096)
    (hv : 1 ≤ v % 256 ∧ v % 256 ≤ 12) : TblL (fillTable tbl i e v) := by
  refine ⟨by rw [fillTable_length tbl i e v hie (by rw [h.1]; exact he)]; exact h.1, ?_⟩
  intro w hw
  simp only [fillTable, List.mem_append] at hw
  rcases hw with (hw | hw) | hw
  · exact h.2 w (List.mem_of_mem_take hw)
  · rw [List.eq_of_mem_replicate hw]; exact hv
  · exact h.2 w (List.mem_of_mem_drop hw)

theorem TblL_TableOK (t : List Nat) (h : TblL t) : TableOK t.toArray := by
  intro i hi
  have hl : i < t.length := by rw [h.1]; exact hi
  have : t.toArray.getD i 0 = t[i] := by simp [Array.getD, hl]
  rw [this]
  exact h.2 _ (List.getElem_mem hl)

theorem replicate7_TblL : TblL (List.replicate 4096 7) := by
  refine ⟨by rw [List.length_replicate], ?_⟩
  intro v hv
  rw [List.eq_of_mem_replicate hv]
  decide

/-! ### D. `readLengths` and `buildDecodingTable` do not fault: `DecodeAlphabet` delivers a strictly
increasing list of bytes; in `buildDecodingTable` the `uint16` arithmetic never wraps before the
first tile that leaves the 4096 indexes, and that one is answered `return false` -/

def SzOK (sizes : List Nat) : Prop := sizes.length = 256 ∧ ∀ v ∈ sizes, 1 ≤ v ∧ v ≤ 12

theorem SzOK_getD (sizes : List Nat) (h : SzOK sizes) (s : Nat) (hs : s < 256) :
    1 ≤ sizes.getD s 0 ∧ sizes.getD s 0 ≤ 12 := by
  have hl : s < sizes.length := by rw [h.1]; exact hs
  have : sizes.getD s 0 = sizes[s] := by simp [List.getD_eq_getElem?_getD, hl]
  rw [this]
  exact h.2 _ (List.getElem_mem hl)

theorem readSizesR_sat : ∀ (a : List Nat) (cur : Nat) (bs : Bits) (sizes : List Nat), SzOK sizes →
    (readSizesR a cur bs sizes).Sat False (fun x => SzOK x.1) := by
  intro a
  induction a with
  | nil => intro cur bs sizes hs; exact hs
  | cons s ss ih =>
    intro cur bs sizes hs
    unfold readSizesR
    split
    · trivial
    · split
      · trivial
      · refine ih _ _ _ ⟨by rw [List.length_set]; exact hs.1, fun v hv => ?_⟩
        rcases List.mem_or_eq_of_mem_set hv with hv | hv
        · exact hs.2 v hv
        · omega

theorem replicate8_SzOK : SzOK (List.replicate 256 8) := by
  refine ⟨by rw [List.length_replicate], ?_⟩
  intro v hv
  rw [List.eq_of_mem_replicate hv]
  decide

theorem buildTableLoopR_sat (sizes codes : List Nat) : ∀ (ord : List Nat) (len P : Nat) (tbl : List Nat),
    (∀ s ∈ ord, 1 ≤ sizes.getD s 0) → TblL tbl → Chain sizes ord len → P ≤ 4096 → CodesOkP sizes codes ord P →
    (buildTableLoopR sizes codes ord len tbl).Sat False TblL := by
  intro ord
  induction ord with
  | nil => intro _ _ tbl _ ht _ _ _; exact ht
  | cons s ss ih =>
    intro len P tbl hsz ht hch hP hc
    obtain ⟨h1, h2, h3⟩ := hch
    have hcc := hc hP
    have hs1 := hsz s List.mem_cons_self
    obtain ⟨hmax, hidx, hend⟩ := tile_bounds sizes codes s len P h1 hP hcc.1
    simp only [buildTableLoopR, hmax, hidx, hend]
    rw [if_neg (Nat.not_lt.mpr h2)]
    by_cases hle : P + slotW sizes s > 4096
    · rw [if_pos hle]
      trivial
    · rw [if_neg hle, if_neg (Nat.not_lt.mpr (Nat.le_add_right _ _))]
      refine ih _ _ _ (fun x hx => hsz x (List.mem_cons_of_mem _ hx)) ?_ h3 (Nat.le_of_not_lt hle) hcc.2
      apply fillTable_TblL _ _ _ _ ht (Nat.le_add_right _ _) (Nat.le_of_not_lt hle)
      rw [shl8_or_mod _ _ (Nat.lt_of_le_of_lt h2 (by decide))]
      exact ⟨hs1, h2⟩

theorem generateCanonicalCodes_ok (sizes a : List Nat) (hp : a.Pairwise (· < ·)) (h256 : ∀ s ∈ a, s < 256)
    (hs : SzOK sizes) :
    ∃ codes ord, generateCanonicalCodes sizes (List.replicate 256 0) a = some (codes, ord) ∧
      (∀ s ∈ ord, s ∈ a) ∧ Chain sizes ord (sizes.getD (ord.headD 0) 0) ∧ CodesOkP sizes codes ord 0 := by
  have hsz : ∀ s ∈ a, 1 ≤ sizes.getD s 0 ∧ sizes.getD s 0 ≤ 12 := fun s hm => SzOK_getD sizes hs s (h256 s hm)
  have hnd := Kanzi.AnsDec.sorted_nodup a hp
  have fin : ∀ ord : List Nat, (∀ s ∈ ord, s ∈ a) → ord.Nodup →
      Chain sizes ord (sizes.getD (ord.headD 0) 0) →
      CodesOkP sizes (assignCodes sizes ord 0 (sizes.getD (ord.headD 0) 0) (List.replicate 256 0)) ord 0 := by
    intro ord hm hn hch
    exact assignCodes_okP sizes ord 0 _ 0 _ hch (fun _ => Nat.zero_mul _) hn
      (fun s hs' => by rw [List.length_replicate]; exact h256 s (hm s hs'))
  by_cases h2 : 2 ≤ a.length
  · rw [genCodes_eq sizes _ a hnd h256 hsz h2]
    exact ⟨_, _, rfl, fun s hs' => ((mem_canonOrder sizes a s).mp hs').2.1, canonOrder_chain sizes a hsz,
      fin _ (fun s hs' => ((mem_canonOrder sizes a s).mp hs').2.1) (canonOrder_nodup sizes a)
        (canonOrder_chain sizes a hsz)⟩
  unfold generateCanonicalCodes
  by_cases hl0 : a.length = 0
  · obtain rfl : a = [] := List.eq_nil_of_length_eq_zero hl0
    exact ⟨_, _, rfl, fun s hs' => hs', trivial, trivial⟩
  rw [if_neg hl0]
  obtain ⟨x, rfl⟩ := List.length_eq_one_iff.mp (show a.length = 1 by omega)
  have hch : Chain sizes [x] (sizes.getD ([x].headD 0) 0) :=
    ⟨Nat.le_refl _, (hsz x List.mem_cons_self).2, trivial⟩
  exact ⟨_, _, rfl, fun s hs' => hs', hch, fin [x] (fun s hs' => hs') hnd hch⟩

/-- what `readLengths` delivers when it succeeds: lengths 1..12 on its alphabet, from which
    `buildDecodingTable` builds a table with entries 1..12, or refuses, without a panic -/
def HdrOK (rl : RL) : Prop :=
  (∀ s ∈ rl.alphabet, 1 ≤ rl.sizes.getD s 0 ∧ rl.sizes.getD s 0 ≤ 12) ∧ (buildTableR rl).Sat False TblL

theorem readLengthsR_sat (bs : Bits) : (readLengthsR bs).Sat False (fun x => HdrOK x.1) := by
  unfold readLengthsR
  cases hda : decodeAlphabet bs with
  | none => trivial
  | some y =>
    obtain ⟨a, r⟩ := y
    have hf := Kanzi.AnsDec.decodeAlphabet_facts bs a r hda
    simp only []
    split
    · exact ⟨fun s hs => absurd hs List.not_mem_nil, replicate7_TblL⟩
    · refine (readSizesR_sat a 2 r _ replicate8_SzOK).bind fun p hs => ?_
      obtain ⟨codes, ord, hg, hmem, hch, hck⟩ := generateCanonicalCodes_ok p.1 a hf.1 hf.2 hs
      rw [hg]
      have hsz : ∀ s ∈ ord, 1 ≤ p.1.getD s 0 ∧ p.1.getD s 0 ≤ 12 :=
        fun s hm => SzOK_getD p.1 hs s (hf.2 s (hmem s hm))
      refine ⟨hsz, ?_⟩
      -- `Chain` from 0 as well: the loop starts with `length = 0`
      cases ord with
      | nil => exact replicate7_TblL
      | cons y ys =>
        exact buildTableLoopR_sat p.1 codes (y :: ys) 0 0 _ (fun s hm => (hsz s hm).1) replicate7_TblL
          ⟨Nat.zero_le _, hch.2.1, hch.2.2⟩ (Nat.zero_le _) hck

theorem readSizesR_toOpt : ∀ (a : List Nat) (cur : Nat) (bs : Bits) (sizes : List Nat),
    (readSizesR a cur bs sizes).toOpt = readSizes a cur bs sizes := by
  intro a
  induction a with
  | nil => intro cur bs sizes; simp [readSizesR, readSizes, R.toOpt]
  | cons s ss ih =>
    intro cur bs sizes
    unfold readSizesR readSizes
    cases egDecodeByte bs with
    | none => rfl
    | some x =>
      simp only [apply_ite R.toOpt, ih]
      rfl

theorem readLengthsR_toOpt (bs : Bits) : (readLengthsR bs).toOpt = readLengths bs := by
  unfold readLengthsR readLengths
  cases decodeAlphabet bs with
  | none => rfl
  | some x =>
    obtain ⟨a, r⟩ := x
    simp only []
    split
    · rfl
    · have h := readSizesR_toOpt a 2 r (List.replicate 256 8)
      generalize readSizesR a 2 r (List.replicate 256 8) = q at h
      cases q with
      | ok x =>
        simp only [R.toOpt] at h
        rw [← h]
        obtain ⟨sz, r1⟩ := x
        simp only [R.bind]
        cases generateCanonicalCodes sz (List.replicate 256 0) a with
        | none => rfl
        | some y => rfl
      | _ => simp only [R.toOpt] at h; rw [← h]; rfl

theorem buildTableLoopR_toOpt (sizes codes : List Nat) : ∀ (a : List Nat) (l : Nat) (tbl : List Nat),
    (buildTableLoopR sizes codes a l tbl).toOpt = buildTableLoop sizes codes a l tbl := by
  intro a
  induction a with
  | nil => intro l tbl; rfl
  | cons s ss ih =>
    intro l tbl
    unfold buildTableLoopR buildTableLoop
    simp only [apply_ite R.toOpt, ih]
    rfl

theorem buildTableR_toOpt (rl : RL) : (buildTableR rl).toOpt = buildTable rl :=
  buildTableLoopR_toOpt _ _ _ _ _

end Kanzi.HufDec
