/-
Huffman codec (C12): the encoder side of a chunk.  The 64-bit `state` register
with its flush every four symbols writes exactly the concatenation of the codes.
-/
import Kanzi.Model.Huffman
import Kanzi.Proofs.EntSmall
import Kanzi.Proofs.BitsIbs
import Kanzi.Proofs.HufCanon

namespace Kanzi.Huffman
open Kanzi.Bits Kanzi.EntSmall

/-- the packed table `(length << 12) | code` agrees with `sizes` / `codes` on the symbols `l` -/
structure Packed (arr : Array Nat) (sizes codes l : List Nat) : Prop where
  len : ∀ b ∈ l, arr.getD b 0 >>> 12 = sizes.getD b 0
  code : ∀ b ∈ l, arr.getD b 0 &&& 0x0FFF = codes.getD b 0
  le12 : ∀ b ∈ l, sizes.getD b 0 ≤ 12
  lt : ∀ b ∈ l, codes.getD b 0 < 2 ^ sizes.getD b 0

/-- the pending bits of the register: the `bits` low bits of `state` are `P` -/
def Pend (st : Nat × Nat) (P : Bits) : Prop := natBits st.1 st.2 = P

theorem Pend.length {st : Nat × Nat} {P : Bits} (h : Pend st P) : P.length = st.2 := by
  rw [← h, natBits_length]

/-- `state << n | w` is an addition: the shifted register has its `n` low bits clear -/
theorem shl_or (a n w : Nat) (hw : w < 2 ^ n) (hn : n ≤ 64) :
    ((a <<< n) % 2 ^ 64) ||| w = (a <<< n) % 2 ^ 64 + w := by
  have h64p : 2 ^ 64 = 2 ^ (64 - n) * 2 ^ n := by rw [← Nat.pow_add]; congr 1; omega
  have hsh : (a <<< n) % 2 ^ 64 = (a % 2 ^ (64 - n)) * 2 ^ n := by
    rw [Nat.shiftLeft_eq, h64p, Nat.mul_mod_mul_right]
  rw [hsh, Nat.or_comm, ← Nat.shiftLeft_eq, or_shl w _ n hw, Nat.shiftLeft_eq, Nat.add_comm]

theorem shl_or_mod (a n w k : Nat) (hw : w < 2 ^ n) (h64 : k + n ≤ 64) :
    (((a <<< n) % 2 ^ 64) ||| w) % 2 ^ (k + n) = (a * 2 ^ n + w) % 2 ^ (k + n) := by
  rw [shl_or a n w hw (by omega), Nat.add_mod, Nat.mod_mod_of_dvd _ (Nat.pow_dvd_pow 2 h64), ← Nat.add_mod,
    Nat.shiftLeft_eq]

theorem encSym_pend (arr : Array Nat) (sizes codes l : List Nat) (hp : Packed arr sizes codes l)
    (st : Nat × Nat) (P : Bits) (b : Nat) (hb : b ∈ l) (h : Pend st P) (h64 : st.2 + sizes.getD b 0 ≤ 64) :
    Pend (encSym arr st b) (P ++ codeBits sizes codes b) := by
  unfold Pend encSym codeBits at *
  simp only
  rw [hp.len b hb, hp.code b hb]
  have hc := hp.lt b hb
  generalize sizes.getD b 0 = n at *
  generalize codes.getD b 0 = c at *
  obtain ⟨a, k⟩ := st
  simp only at h h64 ⊢
  rw [← Kanzi.Bits.natBits_mod, shl_or_mod a n c k hc h64, Kanzi.Bits.natBits_mod,
    Kanzi.Bits.natBits_append a c k n hc, h]

theorem flush_pend (st : Nat × Nat) (P : Bits) (h : Pend st P) (h64 : st.2 ≤ 64) :
    flushBits st = P.take (8 * (st.2 >>> 3)) ∧ Pend (st.1, st.2 &&& 7) (P.drop (8 * (st.2 >>> 3))) := by
  unfold Pend at *
  obtain ⟨a, k⟩ := st
  simp only at h h64 ⊢
  have hk8 : 8 * (k >>> 3) ≤ k := by rw [Nat.shiftRight_eq_div_pow]; omega
  have hand : k &&& 7 = k - 8 * (k >>> 3) := by
    have := Nat.and_two_pow_sub_one_eq_mod k 3
    simp only [Nat.reducePow, Nat.add_one_sub_one] at this
    rw [this, Nat.shiftRight_eq_div_pow]; omega
  constructor
  · unfold flushBits putWord
    simp only
    rw [if_pos h64, Kanzi.Bits.natBits_mod, Nat.shiftLeft_eq]
    have := Kanzi.Bits.natBits_append a 0 k (64 - k) (Nat.pow_pos (by decide))
    rw [Nat.add_zero, show k + (64 - k) = 64 by omega] at this
    rw [this, List.take_append_of_le_length (by rw [natBits_length]; exact hk8), h]
  · rw [hand, ← Kanzi.Bits.natBits_drop a k _ hk8, h]

theorem encSyms_pend (arr : Array Nat) (sizes codes l : List Nat) (hp : Packed arr sizes codes l) :
    ∀ (frag : List Nat) (st : Nat × Nat) (P : Bits), (∀ b ∈ frag, b ∈ l) → Pend st P →
    st.2 + 12 * frag.length ≤ 64 →
    Pend (frag.foldl (encSym arr) st) (P ++ frag.flatMap (codeBits sizes codes)) ∧
    (frag.foldl (encSym arr) st).2 ≤ st.2 + 12 * frag.length := by
  intro frag
  induction frag with
  | nil => intro st P _ h _; simpa using h
  | cons b bs ih =>
    intro st P hb h h64
    have hbl := hb b List.mem_cons_self
    have h12 := hp.le12 b hbl
    have hbits : (encSym arr st b).2 = st.2 + sizes.getD b 0 := by
      simp only [encSym]; rw [hp.len b hbl]
    rw [List.length_cons] at h64
    obtain ⟨i1, i2⟩ := ih (encSym arr st b) (P ++ codeBits sizes codes b)
      (fun x hx => hb x (List.mem_cons_of_mem _ hx))
      (encSym_pend arr sizes codes l hp st P b hbl h (by omega)) (by omega)
    rw [List.append_assoc] at i1
    rw [List.foldl_cons, List.flatMap_cons, List.length_cons]
    exact ⟨i1, by omega⟩

theorem encFragTail_foldl (arr : Array Nat) : ∀ (frag : List Nat) (st : Nat × Nat),
    encFragTail arr st frag = natBits (frag.foldl (encSym arr) st).1 (frag.foldl (encSym arr) st).2
  | [], _ => rfl
  | b :: bs, st => encFragTail_foldl arr bs (encSym arr st b)

theorem encFragTail_eq (arr : Array Nat) (sizes codes l : List Nat) (hp : Packed arr sizes codes l)
    (frag : List Nat) (st : Nat × Nat) (P : Bits) (hb : ∀ b ∈ frag, b ∈ l) (h : Pend st P)
    (h64 : st.2 + 12 * frag.length ≤ 64) :
    encFragTail arr st frag = P ++ frag.flatMap (codeBits sizes codes) := by
  rw [encFragTail_foldl]
  exact (encSyms_pend arr sizes codes l hp frag st P hb h h64).1

theorem encFragLoop_eq (arr : Array Nat) (sizes codes l : List Nat) (hp : Packed arr sizes codes l) :
    ∀ (g : Nat) (frag : List Nat) (st : Nat × Nat) (P : Bits), (∀ b ∈ frag, b ∈ l) → Pend st P →
    st.2 ≤ 7 → frag.length < 4 * (g + 1) →
    encFragLoop arr g st frag = P ++ frag.flatMap (codeBits sizes codes) := by
  intro g
  induction g with
  | zero =>
    intro frag st P hb h h7 hlen
    have : encFragLoop arr 0 st frag = encFragTail arr st frag := by
      cases frag <;> rfl
    rw [this]
    exact encFragTail_eq arr sizes codes l hp frag st P hb h (by omega)
  | succ g ih =>
    intro frag st P hb h h7 hlen
    match frag, hb, hlen with
    | [], hb, _ => exact encFragTail_eq arr sizes codes l hp [] st P hb h (by simp; omega)
    | [b0], hb, _ => exact encFragTail_eq arr sizes codes l hp [b0] st P hb h (by simp; omega)
    | [b0, b1], hb, _ => exact encFragTail_eq arr sizes codes l hp [b0, b1] st P hb h (by simp; omega)
    | [b0, b1, b2], hb, _ => exact encFragTail_eq arr sizes codes l hp [b0, b1, b2] st P hb h (by simp; omega)
    | b0 :: b1 :: b2 :: b3 :: rest, hb, hlen =>
      obtain ⟨p4, e4⟩ := encSyms_pend arr sizes codes l hp [b0, b1, b2, b3] st P
        (fun x hx => hb x (List.mem_append_left rest hx))
        h (by simp only [List.length_cons, List.length_nil]; omega)
      simp only [List.foldl_cons, List.foldl_nil, List.length_cons, List.length_nil] at p4 e4
      simp only [encFragLoop]
      generalize encSym arr (encSym arr (encSym arr (encSym arr st b0) b1) b2) b3 = st4 at e4 p4 ⊢
      obtain ⟨hf1, hf2⟩ := flush_pend st4 _ p4 (by omega)
      rw [hf1, ih rest (st4.1, st4.2 &&& 7) _ (fun x hx => hb x (by simp [hx])) hf2 Nat.and_le_right
        (by simp only [List.length_cons] at hlen; omega)]
      rw [← List.append_assoc, List.take_append_drop]
      simp only [List.flatMap_cons, List.flatMap_nil, List.append_nil, List.append_assoc]

theorem encFrag_eq (arr : Array Nat) (sizes codes l : List Nat) (hp : Packed arr sizes codes l)
    (frag : List Nat) (hb : ∀ b ∈ frag, b ∈ l) :
    encFrag arr frag = frag.flatMap (codeBits sizes codes) := by
  unfold encFrag
  rw [encFragLoop_eq arr sizes codes l hp (frag.length / 4) frag (0, 0) [] hb rfl (by simp) (by omega)]
  rfl

end Kanzi.Huffman
