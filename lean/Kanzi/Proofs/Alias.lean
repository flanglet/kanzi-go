/-
`AliasCodec`, main theorems: `fwdDigram` never faults and has an explicit output (`digramOut`), Inverse on
the digram format, then what the body of Forward ends in (`fwdCore_sat`), from which follow round trip, size bound and byte range
of every accepted block (`alias_roundtrip`) and Forward never faulting with a `MaxEncodedLen` destination
(`aliasForward_ne_fault`).
-/
import Kanzi.Proofs.AliasDigram

namespace Kanzi.Alias
open Kanzi.RLT

/-! ## `fwdDigram` -/

def digramOut (entries : List (Nat × Nat)) (a : Nat) (rest : List Nat) : List Nat :=
  entries.length :: (if (emitP (mkMap16 entries) a rest).2.isSome then 1 else 0) ::
    (headerBytes entries ++ ((emitP (mkMap16 entries) a rest).1 ++ (emitP (mkMap16 entries) a rest).2.toList))

theorem fwdDigram_spec (a : Nat) (rest absent : List Nat) (dstEnd : Nat)
    (hn0 : 16 ≤ absent.length) (hn0' : absent.length < 240)
    (hdst : (a :: rest).length + 1024 ≤ dstEnd)
    (habs : ∀ x ∈ absent, x < 256 ∧ x ∉ a :: rest) (hnd : absent.Nodup) :
    fwdDigram (a :: rest) dstEnd absent = .err "slots" ∨
    fwdDigram (a :: rest) dstEnd absent = .err "savings" ∨
    ∃ (entries : List (Nat × Nat)) (o : Array Nat), GoodEntries entries (a :: rest) ∧
      16 ≤ entries.length ∧ entries.length < 240 ∧
      fwdDigram (a :: rest) dstEnd absent = .ok o ∧ o.toList = digramOut entries a rest := by
  unfold fwdDigram
  simp only []
  generalize hsymb : symbList (pairHist (a :: rest)) = symb
  by_cases hsl : absent.length > symb.length ∧ symb.length < 16
  · left; rw [if_pos hsl]
  · rw [if_neg hsl]
    generalize hn : (if absent.length > symb.length then symb.length else absent.length) = n
    obtain ⟨hn16, hnle1, hnle0⟩ : 16 ≤ n ∧ n ≤ symb.length ∧ n ≤ absent.length := by
      rw [← hn]
      split <;> omega
    have hent : GoodEntries (selectEntries (sortSymb symb) absent n) (a :: rest) := by
      rw [← hsymb]; exact selectEntries_good _ absent (a :: rest) n habs hnd
    have hlen : (selectEntries (sortSymb symb) absent n).length = n :=
      selectEntries_length (sortSymb symb) absent n
        (by rw [sortSymb, List.length_mergeSort]; exact hnle1) hnle0
    generalize selectEntries (sortSymb symb) absent n = entries at hent hlen ⊢
    have hhl := headerBytes_length entries
    have hsrc : (a :: rest).length = rest.length + 1 := List.length_cons
    rw [Nat.mod_eq_of_lt (show n < 256 by omega)]
    rw [wr_ok _ _ _ (by simp only [List.size_toArray, List.length_cons, List.length_nil]; omega)]
    rw [Out.bind_ok]
    rw [wr_ok _ _ _ (by simp only [size_appendList, List.size_toArray, List.length_cons, List.length_nil]; omega)]
    rw [Out.bind_ok]
    by_cases hsav : ((sortSymb symb).take n |>.map (·.2)).sum < (a :: rest).length / 20
    · right; left; rw [if_pos hsav]
    · right; right
      rw [if_neg hsav]
      refine ⟨entries, ?_⟩
      unfold emitLoop
      simp only
      rw [emitFrom_eq _ _ a rest _
        (by simp only [size_appendList, List.size_toArray, List.length_cons, List.length_nil]; omega)]
      rw [Out.bind_ok]
      have hbl := (emitP_spec (mkMap16 entries) a rest).1
      unfold digramOut
      cases hl : (emitP (mkMap16 entries) a rest).2 with
      | none =>
        refine ⟨_, hent, by omega, by omega, rfl, ?_⟩
        rw [Array.toList_appendList, Array.toList_appendList, Array.toList_appendList, hlen, List.append_assoc,
          List.append_assoc, Option.toList_none, List.append_nil]
        rfl
      | some x =>
        refine ⟨_, hent, by omega, by omega, wr_ok _ _ _ (by
          simp only [size_appendList, Array.size_setIfInBounds, List.size_toArray, List.length_cons, List.length_nil]
          omega), ?_⟩
        rw [Array.toList_appendList, Array.toList_setIfInBounds, Array.toList_appendList, Array.toList_appendList,
          Array.toList_appendList, hlen, List.append_assoc, List.append_assoc, Option.toList_some]
        -- `dst[1] = 1` hits the flag byte of the header
        rw [Array.toList_empty, List.nil_append, List.cons_append, List.cons_append, List.nil_append,
          List.set_cons_succ, List.set_cons_zero, List.cons_append, List.cons_append, List.append_assoc]
        rfl

theorem digramOut_length (entries : List (Nat × Nat)) (a : Nat) (rest : List Nat) :
    (digramOut entries a rest).length =
      2 + 3 * entries.length + (emitP (mkMap16 entries) a rest).1.length +
        (emitP (mkMap16 entries) a rest).2.toList.length := by
  simp [digramOut, headerBytes_length]; omega

/-! ## Inverse on the digram format -/

/-- Inverse on a digram block: header, expanded body, and the byte `last` that Forward left over, if any -/
theorem aliasInverse_digram (entries : List (Nat × Nat)) (body : List Nat) (last : Option Nat) (n : Nat)
    (h16 : 16 ≤ entries.length) (h240 : entries.length < 240) (hn : 1 ≤ n) :
    aliasInverse (entries.length :: (if last.isSome then 1 else 0) ::
        (headerBytes entries ++ (body ++ last.toList))) n =
      (expandLoop (mkImap (headerBytes entries) imapInit) n body #[]).bind fun o =>
        match last with
        | none => .ok o.toList
        | some x => (wr n o [x]).bind fun o2 => .ok o2.toList := by
  have hnz : n ≠ 0 := by omega
  have hhl := headerBytes_length entries
  have h1 : ¬ entries.length < 16 := by omega
  have h2 : ¬ entries.length ≥ 240 := by omega
  have h3 : ¬ (headerBytes entries ++ (body ++ last.toList)).length < 3 * entries.length := by
    simp [hhl]
  have htake : List.take (3 * entries.length) (headerBytes entries ++ (body ++ last.toList)) = headerBytes entries := by
    rw [← hhl]; exact List.take_left
  have hdrop : List.drop (3 * entries.length) (headerBytes entries ++ (body ++ last.toList)) = body ++ last.toList := by
    rw [← hhl]; exact List.drop_left
  simp only [aliasInverse, List.length_cons]
  simp only [hnz, h1, h2, h3, htake, hdrop, if_false, or_false]
  cases last with
  | none =>
    simp
    intro h; omega
  | some x =>
    have hk : (body ++ [x]).length - 1 = body.length := by simp
    simp only [Option.isSome_some, if_true, Option.toList_some, hk, List.take_left, List.drop_left]
    simp
    intro h; omega

/-! ## round trip of the two paths -/

theorem le32Bytes_lt (v : Nat) : ∀ y ∈ le32Bytes v, y < 256 := by
  intro y hy
  simp only [le32Bytes, List.mem_cons, List.not_mem_nil, or_false] at hy
  rcases hy with rfl | rfl | rfl | rfl <;> exact Nat.mod_lt _ (by decide)

theorem all_eq_of_mem_singleton (b : List Nat) (s : Nat) (h : ∀ x ∈ b, x ∈ [s]) : b = List.replicate b.length s := by
  apply List.eq_replicate_iff.mpr
  exact ⟨rfl, fun x hx => by simpa using h x hx⟩

theorem packOut_toList (n0 c : Nat) (syms pre packed : List Nat) (hn0 : n0 < 256) :
    ((#[] : Array Nat) ++ ([n0 % 256] ++ (syms ++ ([c] ++ (pre ++ packed))))).toList
      = n0 :: (syms ++ (c :: (pre ++ packed))) := by
  rw [Array.toList_appendList, Nat.mod_eq_of_lt hn0]
  rfl

theorem packOut_bytes (n0 c : Nat) (syms pre packed : List Nat) (hn0 : n0 < 256) (hc : c < 256)
    (hs : ∀ y ∈ syms, y < 256) (hpre : ∀ y ∈ pre, y < 256) (hp : ∀ y ∈ packed, y < 256) :
    ∀ y ∈ n0 :: (syms ++ (c :: (pre ++ packed))), y < 256 := by
  intro y hy
  simp only [List.mem_cons, List.mem_append] at hy
  rcases hy with rfl | hy | rfl | hy | hy
  · exact hn0
  · exact hs y hy
  · exact hc
  · exact hpre y hy
  · exact hp y hy

theorem pack_roundtrip (b : List Nat) (dstLen : Nat) (hne : b ≠ []) (hdst : b.length + 1024 ≤ dstLen)
    (h240 : (absentSyms (histogram b)).length ≥ 240) :
    ∃ o, fwdPack b dstLen (histogram b) (absentSyms (histogram b)).length = .ok o ∧
      ((∀ x ∈ b, x < 256) → b.length < 2 ^ 32 →
        (∀ y ∈ o.toList, y < 256) ∧ ∀ n, b.length ≤ n → aliasInverse o.toList n = .ok b) := by
  have hsum := absent_present_length (histogram b)
  have hmem : (∀ x ∈ b, x < 256) → ∀ x ∈ b, x ∈ presentSyms (histogram b) :=
    fun hb x hx => mem_present_of_mem b hb hx
  generalize hn0 : (absentSyms (histogram b)).length = n0 at *
  generalize hsy : presentSyms (histogram b) = syms at *
  have hsymlt : ∀ s ∈ syms, s < 256 := fun s hs => by rw [← hsy] at hs; exact present_lt hs
  obtain ⟨s0, tl, rfl⟩ : ∃ s0 tl, b = s0 :: tl := by
    cases b with
    | nil => exact absurd rfl hne
    | cons x y => exact ⟨x, y, rfl⟩
  have hlenpos : 1 ≤ (s0 :: tl).length := by simp
  -- with bytes only, the first byte of the block is a present symbol
  have hsyms : (∀ x ∈ s0 :: tl, x < 256) → ∃ s ss, syms = s :: ss := fun hb => by
    cases syms with
    | nil => exact absurd (hmem hb s0 (by simp)) (by simp)
    | cons s ss => exact ⟨s, ss, rfl⟩
  have hpre : (∀ x ∈ s0 :: tl, x < 256) → ∀ c, ∀ y ∈ (s0 :: tl).take c, y < 256 :=
    fun hb c y hy => hb y (List.mem_of_mem_take hy)
  have hle : syms.length ≤ 256 := by rw [← hsum]; exact Nat.le_add_left _ _
  by_cases h255 : n0 = 255
  · -- one symbol
    subst h255
    refine ⟨_, fwdPack_one (s0 :: tl) s0 tl dstLen _ rfl (by omega), fun hb hlen => ⟨?_, ?_⟩⟩
    · intro y hy
      simp only [Array.toList_appendList, List.nil_append, List.mem_append, List.mem_cons] at hy
      rcases hy with (rfl | rfl | hy) | hy
      · decide
      · exact hb _ (by simp)
      · simp at hy
      · exact le32Bytes_lt _ y hy
    · intro n hn
      have hs1 : syms.length = 1 := by omega
      match syms, hs1 with
      | [s], _ =>
        have hall := all_eq_of_mem_singleton (s0 :: tl) s (hmem hb)
        have hs0 : s0 = s := by simpa using hmem hb s0 (by simp)
        subst hs0
        rw [show ((#[] : Array Nat) ++ ([255, s0] ++ le32Bytes (s0 :: tl).length)).toList
          = [255, s0] ++ le32Bytes (s0 :: tl).length from by simp]
        rw [aliasInverse_one s0 _ n hlen hn (by omega)]
        rw [← hall]
  · by_cases h252 : n0 ≥ 252
    · -- 4 symbols or less
      have hf := fwdPack_four (s0 :: tl) dstLen (histogram (s0 :: tl)) n0 h255 h252 hdst
      rw [hsy] at hf
      refine ⟨_, hf, fun hb _ => ?_⟩
      obtain ⟨s, ss, rfl⟩ := hsyms hb
      have hn0lt : n0 < 256 := by rw [← hsum]; exact Nat.lt_add_of_pos_right (Nat.succ_pos _)
      rw [packOut_toList _ _ _ _ _ hn0lt]
      refine ⟨packOut_bytes n0 _ _ _ _ hn0lt (Nat.lt_of_lt_of_le (Nat.mod_lt _ (by decide)) (by decide)) hsymlt
          (hpre hb _) (packed4_lt _ hle _), fun n hn => ?_⟩
      have h4 : (s :: ss).length ≤ 4 := by omega
      refine aliasInverse_src n0 s ss (s0 :: tl) 4 n _ hsum (by omega) (by omega) (if_pos h4).symm ?_ (hmem hb) hn
        (Nat.le_trans hlenpos hn)
      rw [if_pos h4]
      exact flatMap_decode4_packed4 _ h4
    · -- 16 symbols or less
      have hf := fwdPack_sixteen (s0 :: tl) dstLen (histogram (s0 :: tl)) n0 h255 h252 hdst
      rw [hsy] at hf
      refine ⟨_, hf, fun hb _ => ?_⟩
      obtain ⟨s, ss, rfl⟩ := hsyms hb
      have hn0lt : n0 < 256 := by rw [← hsum]; exact Nat.lt_add_of_pos_right (Nat.succ_pos _)
      rw [packOut_toList _ _ _ _ _ hn0lt]
      refine ⟨packOut_bytes n0 _ _ _ _ hn0lt (Nat.lt_of_lt_of_le (Nat.mod_lt _ (by decide)) (by decide)) hsymlt
          (hpre hb _) (packed2_lt _ hle _), fun n hn => ?_⟩
      have h4 : ¬ (s :: ss).length ≤ 4 := by omega
      refine aliasInverse_src n0 s ss (s0 :: tl) 2 n _ hsum (by omega) (by omega) (if_neg h4).symm ?_ (hmem hb) hn
        (Nat.le_trans hlenpos hn)
      rw [if_neg h4]
      exact flatMap_decode2_packed2 _ (by omega)

theorem digram_roundtrip (b absent : List Nat) (dstLen : Nat) (hne : b ≠ []) (hdst : b.length + 1024 ≤ dstLen)
    (hn0 : 16 ≤ absent.length) (hn0' : absent.length < 240)
    (habs : ∀ x ∈ absent, x < 256 ∧ x ∉ b) (hnd : absent.Nodup) :
    (∃ e, fwdDigram b dstLen absent = .err e) ∨ ∃ o, fwdDigram b dstLen absent = .ok o ∧
      ((∀ x ∈ b, x < 256) →
        (∀ y ∈ o.toList, y < 256) ∧ ∀ n, b.length ≤ n → aliasInverse o.toList n = .ok b) := by
  obtain ⟨a, rest, rfl⟩ : ∃ a rest, b = a :: rest := by
    cases b with
    | nil => exact absurd rfl hne
    | cons x y => exact ⟨x, y, rfl⟩
  rcases fwdDigram_spec a rest absent dstLen hn0 hn0' hdst habs hnd with he | he | ⟨entries, o, hg, h16, h240, hok, hout⟩
  · exact .inl ⟨_, he⟩
  · exact .inl ⟨_, he⟩
  · refine .inr ⟨o, hok, fun hb => ?_⟩
    rw [hout]
    have hmaps := maps_ok entries (a :: rest) hg
    have hS : ∀ x ∈ a :: rest, x < 256 ∧ (fun x => x ∈ a :: rest) x := fun x hx => ⟨hb x hx, hx⟩
    obtain ⟨_, hbody, hleft⟩ := emitP_spec (mkMap16 entries) a rest
    constructor
    · intro y hy
      unfold digramOut at hy
      simp only [List.mem_cons, List.mem_append] at hy
      rcases hy with rfl | rfl | hy | hy | hy
      · omega
      · split <;> omega
      · exact headerBytes_lt _ y hy
      · exact hbody y hy
      · cases hl : (emitP (mkMap16 entries) a rest).2 with
        | none => rw [hl] at hy; simp at hy
        | some x =>
          rw [hl] at hy; simp at hy; subst hy
          exact hb _ (hleft _ hl)
    · intro n hn
      obtain ⟨cons, hc1, hc2⟩ := expand_emit _ _ _ hmaps n a rest #[] hS
        (by simp at hn ⊢; omega)
      unfold digramOut
      rw [aliasInverse_digram entries _ _ n h16 h240 (by simp at hn; omega), hc1, Out.bind_ok]
      cases hl : (emitP (mkMap16 entries) a rest).2 with
      | none =>
        rw [hl] at hc2
        simp at hc2 ⊢
        exact hc2
      | some x =>
        rw [hl] at hc2
        have hcl : cons.length + 1 = (a :: rest).length := by
          have := congrArg List.length hc2; simpa using this
        simp only []
        rw [wr_ok _ _ _ (by simp; omega)]
        simp only [Out.bind_ok]
        simp at hc2 ⊢
        exact hc2

/-- the body of Forward after the early declines -/
def fwdCore (b : List Nat) (dstLen : Nat) : Out (Array Nat) :=
  if (absentSyms (histogram b)).length ≥ 240 then
    fwdPack b dstLen (histogram b) (absentSyms (histogram b)).length
  else fwdDigram b dstLen (absentSyms (histogram b))

/-- Forward either stops at one of its guards (`.ok []` for an empty block or destination, an error otherwise)
    or runs `fwdCore` and keeps the output when it is shorter than the block -/
theorem aliasForward_cases (onlyDNA : Bool) (dt : Nat) (b : List Nat) (dstLen : Nat) :
    ((b.length = 0 ∨ dstLen = 0) ∧ aliasForward onlyDNA dt b dstLen = .ok []) ∨
    (∃ e, aliasForward onlyDNA dt b dstLen = .err e) ∨
    (aliasMaxEncodedLen b.length ≤ dstLen ∧ 1024 ≤ b.length ∧ 16 ≤ (absentSyms (histogram b)).length ∧
      aliasForward onlyDNA dt b dstLen = (fwdCore b dstLen).bind fun o =>
        if o.size ≥ b.length then .err "savings" else .ok o.toList) := by
  generalize hr : aliasForward onlyDNA dt b dstLen = r
  unfold aliasForward at hr
  by_cases h0 : b.length = 0 ∨ dstLen = 0
  · rw [if_pos h0] at hr; exact .inl ⟨h0, hr.symm⟩
  rw [if_neg h0] at hr
  by_cases hdst : dstLen < aliasMaxEncodedLen b.length
  · rw [if_pos hdst] at hr; exact .inr (.inl ⟨_, hr.symm⟩)
  rw [if_neg hdst] at hr
  by_cases h1024 : b.length < MIN_BLOCKSIZE
  · rw [if_pos h1024] at hr; exact .inr (.inl ⟨_, hr.symm⟩)
  rw [if_neg h1024] at hr
  by_cases hbin : binaryType dt
  · rw [if_pos hbin] at hr; exact .inr (.inl ⟨_, hr.symm⟩)
  rw [if_neg hbin] at hr
  by_cases hdna : onlyDNA ∧ dt ≠ DT_UNDEFINED ∧ dt ≠ DT_DNA
  · rw [if_pos hdna] at hr; exact .inr (.inl ⟨_, hr.symm⟩)
  rw [if_neg hdna] at hr
  simp only [] at hr
  by_cases h16 : (absentSyms (histogram b)).length < 16
  · rw [if_pos h16] at hr; exact .inr (.inl ⟨_, hr.symm⟩)
  rw [if_neg h16] at hr
  by_cases hdet : dt = DT_UNDEFINED ∧ detectSimpleType b.length (histogram b) ≠ DT_DNA ∧ onlyDNA
  · rw [if_pos hdet] at hr; exact .inr (.inl ⟨_, hr.symm⟩)
  rw [if_neg hdet] at hr
  exact .inr (.inr ⟨by omega, by unfold MIN_BLOCKSIZE at h1024; omega, by omega, hr.symm⟩)

/-- `fwdCore` ends in an error or in an output that, for a block of bytes, is bytes and is taken back by Inverse -/
theorem fwdCore_sat (b : List Nat) (dstLen : Nat) (hne : b ≠ []) (hdst : b.length + 1024 ≤ dstLen)
    (h16 : 16 ≤ (absentSyms (histogram b)).length) :
    (∃ e, fwdCore b dstLen = .err e) ∨ ∃ o, fwdCore b dstLen = .ok o ∧
      ((∀ x ∈ b, x < 256) → b.length < 2 ^ 32 →
        (∀ y ∈ o.toList, y < 256) ∧ ∀ n, b.length ≤ n → aliasInverse o.toList n = .ok b) := by
  unfold fwdCore
  by_cases h240 : (absentSyms (histogram b)).length ≥ 240
  · rw [if_pos h240]
    exact .inr (pack_roundtrip b dstLen hne hdst h240)
  · rw [if_neg h240]
    rcases digram_roundtrip b _ dstLen hne hdst h16 (by omega) (fun x hx => absent_fresh b hx)
      (absentSyms_nodup _) with he | ⟨o, ho, hP⟩
    · exact .inl he
    · exact .inr ⟨o, ho, fun hb _ => hP hb⟩

theorem aliasInverse_nil (n : Nat) : aliasInverse [] n = .ok [] := by simp [aliasInverse]

/-- round trip, size bound and byte range for every accepted block -/
theorem alias_roundtrip (onlyDNA : Bool) (dt : Nat) (b t : List Nat) (dstLen : Nat)
    (hb : ∀ x ∈ b, x < 256) (hlen : b.length < 2 ^ 32) (hdst : aliasMaxEncodedLen b.length ≤ dstLen)
    (h : aliasForward onlyDNA dt b dstLen = .ok t) :
    t.length ≤ b.length ∧ (b ≠ [] → t.length < b.length) ∧ (∀ y ∈ t, y < 256) ∧
      ∀ n, b.length ≤ n → aliasInverse t n = .ok b := by
  unfold aliasMaxEncodedLen at hdst
  rcases aliasForward_cases onlyDNA dt b dstLen with ⟨h0, he⟩ | ⟨e, he⟩ | ⟨_, h1024, h16, heq⟩
  · cases he.symm.trans h
    have : b = [] := List.length_eq_zero_iff.mp (by omega)
    subst this
    exact ⟨Nat.le_refl _, fun h => absurd rfl h, by simp, fun n _ => aliasInverse_nil n⟩
  · cases he.symm.trans h
  · rw [heq] at h
    rcases fwdCore_sat b dstLen (List.ne_nil_of_length_pos (by omega)) hdst h16 with ⟨e, he⟩ | ⟨o, ho, hP⟩
    · rw [he] at h
      cases h
    · rw [ho, Out.bind_ok] at h
      by_cases hsz : o.size ≥ b.length
      · rw [if_pos hsz] at h
        cases h
      · rw [if_neg hsz] at h
        cases h
        have hlt : o.toList.length < b.length := by simpa using hsz
        exact ⟨by omega, fun _ => hlt, hP hb hlen⟩

/-- Forward never faults when the destination has `MaxEncodedLen` bytes (any block, any hints) -/
theorem aliasForward_ne_fault (onlyDNA : Bool) (dt : Nat) (b : List Nat) (dstLen : Nat)
    (hdst : aliasMaxEncodedLen b.length ≤ dstLen) (e : String) :
    aliasForward onlyDNA dt b dstLen ≠ .fault e := by
  rcases aliasForward_cases onlyDNA dt b dstLen with ⟨_, h0⟩ | ⟨e', he⟩ | ⟨_, h1024, h16, heq⟩
  · rw [h0]; simp
  · rw [he]; simp
  · rw [heq]
    unfold aliasMaxEncodedLen at hdst
    rcases fwdCore_sat b dstLen (List.ne_nil_of_length_pos (by omega)) hdst h16 with ⟨e', he⟩ | ⟨o, ho, _⟩
    · rw [he]
      simp [Out.bind]
    · rw [ho, Out.bind_ok]
      split <;> simp

/-! ## non-vacuity: one-symbol blocks are accepted -/

theorem presentSyms_replicate (c k : Nat) (hc : c < 256) (hk : 1 ≤ k) :
    presentSyms (histogram (List.replicate k c)) = [c] := by
  have h1 : (List.range 256).filter (· == c) = [c] := by
    rw [List.filter_beq, List.count_range, if_pos hc]
    rfl
  rw [← h1]
  unfold presentSyms
  apply List.filter_congr
  intro i hi
  have hi' : i < 256 := List.mem_range.mp hi
  rw [fq_histogram _ i hi', List.count_replicate]
  by_cases h : c = i
  · subst h; simp; omega
  · have h' : ¬ i = c := fun e => h e.symm
    simp [h, h']
theorem aliasForward_one_symbol (c k : Nat) (hc : c < 256) (hk : 1024 ≤ k) :
    aliasForward false 0 (List.replicate k c) (aliasMaxEncodedLen k) = .ok ([255, c] ++ le32Bytes k) := by
  have hp := presentSyms_replicate c k hc (by omega)
  have hsum := absent_present_length (histogram (List.replicate k c))
  rw [hp] at hsum
  have h255 : (absentSyms (histogram (List.replicate k c))).length = 255 := by simpa using hsum
  obtain ⟨k', rfl⟩ : ∃ k', k = k' + 1 := ⟨k - 1, by omega⟩
  unfold aliasForward
  simp only [List.length_replicate, aliasMaxEncodedLen, MIN_BLOCKSIZE, binaryType, DT_UNDEFINED, DT_MULTIMEDIA,
    DT_UTF8, DT_EXE, DT_BIN, DT_DNA]
  rw [if_neg (by omega), if_neg (by omega), if_neg (by omega), if_neg (by decide), if_neg (by simp)]
  simp only [h255]
  rw [if_neg (by omega), if_neg (by simp), if_pos (by omega)]
  rw [fwdPack_one (List.replicate (k' + 1) c) c (List.replicate k' c) _ _ (by simp [List.replicate_succ]) (by omega)]
  simp only [Out.bind_ok]
  rw [if_neg (by simp [le32Bytes]; omega)]
  simp

end Kanzi.Alias
