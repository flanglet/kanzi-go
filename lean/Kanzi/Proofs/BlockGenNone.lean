/-
The generic block codec instantiated with the NONE sequence and the NONE entropy codec IS the model
of `Kanzi/Model/Block.lean`: `encodeTaskGen (noneCfg ck) = encodeNone ck` and
`decodeTaskGen (noneCfg ck) = decodeTask ck` (error classes mapped by `Err.toBlock`), for EVERY payload,
well formed or not.  So the theorems about `encodeNone` / `decodeTask` and the `image` correspondence
stream carry over to the generic model.
-/
import Kanzi.Proofs.BlockGen

namespace Kanzi.BlockGen
open Kanzi.Bits Kanzi.TrSmall Kanzi.Block

/-- the configuration of a NONE / NONE stream (no `blockSize` entry: the bound of fix F43 on the
post-transform length is 2^30, which a block of at most 2^30 bytes through the NONE sequence never exceeds) -/
def noneCfg (ck : Nat) : Cfg := ⟨ck, [nullTr], noneEnt, false, none⟩

/-- error classes of the generic decoder seen through the classes of `Kanzi.Block` (both "the entropy
decoder ran out of bits" and "the inverse transform failed" are ERR_PROCESS_BLOCK, like `eos`) -/
def Err.toBlock : Err → Block.Err
  | .eos => .eos
  | .size => .size
  | .entropy => .eos
  | .inverse => .eos
  | .crc => .crc

def DecRes.toBlock (r : DecRes) : Block.DecRes :=
  ⟨r.decoded, match r.out with
    | .ok d => .ok d
    | .error e => .error e.toBlock⟩

theorem mode_none_byte : ∀ d, d < 4 →
    ((0x80 ||| ((d &&& 3) <<< 5)) ||| (0x7F >>> 4)) % 256 = 0x80 ||| ((d &&& 3) <<< 5) ||| (0x7F >>> 4) ∧
    ((0 ||| ((d &&& 3) <<< 5)) ||| (0x7F >>> 4)) % 256 = 0 ||| ((d &&& 3) <<< 5) ||| (0x7F >>> 4) := by decide

theorem encodeWith_none (copy : Bool) (ck sum : Nat) (data : List Nat) (h0 : 0 < data.length)
    (h30 : data.length ≤ 2 ^ 30) :
    encodeWith copy [nullTr] noneEnt (ckWidth ck) sum none data = .ok
      (natBits ((if copy then 0x80 else 0) ||| (((dataSizeOf data.length - 1) &&& 3) <<< 5) |||
          (noneSkipFlags >>> 4)) 8 ++
        natBits data.length (8 * dataSizeOf data.length) ++ natBits sum (ckWidth ck) ++ ofBytes data) := by
  have h32 : data.length < 2 ^ 32 := by omega
  have hf : fallback none (seqMaxLen [nullTr] data.length) data
      (seqForward (fwdStages [nullTr] data.length) data) = (data, 0x7F) := by
    unfold fallback
    have hm : maxLengthOf none = 2 ^ 30 := rfl
    rw [seqMaxLen_null, hm, if_neg (by omega)]
    exact seqForward_null data h0
  unfold encodeWith
  rw [hf, encodeOf_eq copy _ noneEnt (ckWidth ck) sum (data, 0x7F) (ofBytes data) h32 (noneEnt_enc data)]
  have hd : dataSizeOf data.length - 1 < 4 := by have := dataSizeOf_le data.length h32; omega
  obtain ⟨m1, m2⟩ := mode_none_byte _ hd
  unfold encodeMode noneSkipFlags
  simp only [List.length_cons, List.length_nil]
  rw [if_pos (Or.inr (by decide))]
  simp only [extraBits, List.append_nil]
  cases copy with
  | true => simp only [if_true]; rw [m1]
  | false => simp only [Bool.false_eq_true, if_false]; rw [m2]

theorem isCopy_none (ck : Nat) (data : List Nat) : isCopy (noneCfg ck) data = decide (data.length ≤ 15) := by
  simp [isCopy, noneCfg]

theorem encodeTaskGen_none (ck : Nat) (data : List Nat) (h0 : 0 < data.length) (h30 : data.length ≤ 2 ^ 30) :
    encodeTaskGen (noneCfg ck) data = .ok (encodeNone ck data) := by
  unfold encodeTaskGen
  rw [isCopy_none]
  unfold encodeNone encodeNoneWith modeByte
  by_cases h : data.length ≤ 15
  · rw [if_pos (by simpa using h)]
    show encodeWith true [nullTr] noneEnt (ckWidth ck) (checksum ck data) none data = _
    rw [encodeWith_none true ck _ data h0 h30, if_pos h]
    simp only [if_true]
  · rw [if_neg (by simpa using h)]
    show encodeWith false [nullTr] noneEnt (ckWidth ck) (checksum ck data) none data = _
    rw [encodeWith_none false ck _ data h0 h30, if_neg h]
    simp only [Bool.false_eq_true, if_false]

theorem toBytes_spec : ∀ (n : Nat) (l : Bits), l.length = 8 * n →
    (toBytes l).length = n ∧ (∀ x ∈ toBytes l, x < 256) ∧ ofBytes (toBytes l) = l := by
  intro n
  induction n with
  | zero =>
    intro l h
    have : l = [] := List.eq_nil_of_length_eq_zero (by omega)
    subst this
    exact ⟨rfl, by simp [toBytes], rfl⟩
  | succ n ih =>
    intro l h
    obtain ⟨b0, b1, b2, b3, b4, b5, b6, b7, rest, rfl⟩ := cons8_of_length l (by omega)
    obtain ⟨h1, h2, h3⟩ := ih rest (by simp only [List.length_cons] at h; omega)
    rw [toBytes_cons8]
    refine ⟨by rw [List.length_cons, h1], fun x hx => ?_, ?_⟩
    · rcases List.mem_cons.mp hx with rfl | hx
      · have := bitsNat_lt [b0, b1, b2, b3, b4, b5, b6, b7]
        simpa using this
      · exact h2 x hx
    · rw [ofBytes_cons, natBits_bitsNat_len [b0, b1, b2, b3, b4, b5, b6, b7] 8 rfl, h3]
      rfl

theorem nullDecodeAux_short (fuel : Nat) : ∀ (count : Nat) (bs : Bits),
    count ≤ fuel → bs.length < 8 * count → EntSmall.nullDecodeAux fuel count bs = none := by
  induction fuel with
  | zero => intro count bs hc hl; omega
  | succ fuel ih =>
    intro count bs hc hl
    simp only [EntSmall.nullDecodeAux]
    rw [if_neg (by omega)]
    have hpos := EntSmall.nullChunk_pos
    unfold EntSmall.readBytes
    by_cases hk : 8 * min count EntSmall.nullChunk ≤ bs.length
    · rw [if_pos hk]
      simp only
      rw [ih (count - min count EntSmall.nullChunk) _ (by omega) (by rw [List.length_drop]; omega)]
    · rw [if_neg hk]

/-- `NullEntropyDecoder.Read` of `n` bytes on any bit string -/
theorem nullDecode_spec (bs : Bits) (n : Nat) :
    EntSmall.nullDecode bs n =
      if bs.length < 8 * n then none else some (toBytes (bs.take (8 * n)), bs.drop (8 * n)) := by
  unfold EntSmall.nullDecode
  by_cases h : bs.length < 8 * n
  · rw [if_pos h, nullDecodeAux_short n n bs (Nat.le_refl _) h]
  · rw [if_neg h]
    obtain ⟨h1, h2, h3⟩ := toBytes_spec n (bs.take (8 * n)) (by rw [List.length_take]; omega)
    have := EntSmall.nullDecodeAux_ofBytes n n (toBytes (bs.take (8 * n))) (bs.drop (8 * n)) h1 (Nat.le_refl _) h2
    rw [h3, List.take_append_drop] at this
    exact this

theorem readBits_error (n : Nat) (bs : Bits) (e : Block.Err) (h : readBits n bs = .error e) : e = .eos := by
  unfold readBits at h
  split at h
  · injection h with h; exact h.symm
  · cases h

theorem readBits_ok_length (n : Nat) (bs : Bits) (r : Nat × Bits) (h : readBits n bs = .ok r) :
    r.2.length ≤ bs.length := by
  unfold readBits at h
  split at h
  · cases h
  · injection h with h; subst h; simp

theorem padToByte_length (p : Bits) : (padToByte p).length ≤ 8 * ((p.length + 7) / 8) := by
  unfold padToByte
  rw [List.length_append, List.length_replicate]
  omega

theorem decodeBody_none (ck flags pre sum dl : Nat) (bs : Bits) (hpre : pre ≠ 0)
    (hdl : 8 * pre ≤ bs.length → pre ≤ dl) :
    (decodeBody [nullTr] noneEnt ck flags pre sum dl bs).toBlock =
      if bs.length < 8 * pre then Block.DecRes.fail .eos
      else if ckWidth ck ≠ 0 ∧ checksum ck (toBytes (bs.take (8 * pre))) ≠ sum then ⟨pre, .error .crc⟩
      else ⟨pre, .ok (toBytes (bs.take (8 * pre)))⟩ := by
  unfold decodeBody
  have hdec : noneEnt.dec pre bs = EntSmall.nullDecode bs pre := rfl
  rw [hdec, nullDecode_spec]
  by_cases h : bs.length < 8 * pre
  · rw [if_pos h, if_pos h]; rfl
  · rw [if_neg h, if_neg h]
    have hlen := (toBytes_spec pre (bs.take (8 * pre)) (by rw [List.length_take]; omega)).1
    simp only [padZero_of_length _ _ hlen]
    rw [seqInverse_null dl flags _ (by omega) (by rw [hlen]; exact hdl (by omega))]
    simp only
    rw [if_neg (by rw [hlen]; have := hdl (by omega); omega), hlen]
    split <;> rfl

theorem decodeTaskGen_none (ck B : Nat) (p : Bits) :
    (decodeTaskGen (noneCfg ck) B p).toBlock = decodeTask ck B p := by
  unfold decodeTaskGen decodeTask
  have hpl := padToByte_length p
  cases h1 : readBits 8 (padToByte p) with
  | error e => rw [readBits_error _ _ e h1]; rfl
  | ok m =>
    simp only
    have l1 := readBits_ok_length _ _ _ h1
    cases h2 : (if m.1 &&& 0x80 ≠ 0 then (Except.ok (0, m.2) : Except Block.Err (Nat × Bits))
        else if m.1 &&& 0x10 ≠ 0 then readBits 8 m.2
        else Except.ok (((m.1 <<< 4) ||| 0x0F) % 256, m.2)) with
    | error e =>
      have : e = .eos := by
        split at h2
        · cases h2
        · split at h2
          · exact readBits_error _ _ e h2
          · cases h2
      rw [this]; rfl
    | ok sf =>
      simp only
      have l2 : sf.2.length ≤ m.2.length := by
        split at h2
        · injection h2 with h2; subst h2; exact Nat.le_refl _
        · split at h2
          · exact readBits_ok_length _ _ _ h2
          · injection h2 with h2; subst h2; exact Nat.le_refl _
      cases h3 : readBits (8 * (1 + ((m.1 >>> 5) &&& 3))) sf.2 with
      | error e => rw [readBits_error _ _ e h3]; rfl
      | ok l =>
        simp only
        have l3 := readBits_ok_length _ _ _ h3
        by_cases hsz : l.1 = 0 ∨ l.1 > maxTransformLength B
        · rw [if_pos hsz, if_pos hsz]; rfl
        · rw [if_neg hsz, if_neg hsz]
          cases h4 : readBits (ckWidth (noneCfg ck).ck) l.2 with
          | error e =>
            have h4' : readBits (ckWidth ck) l.2 = .error e := h4
            rw [h4', readBits_error _ _ e h4]; rfl
          | ok s =>
            have h4' : readBits (ckWidth ck) l.2 = .ok s := h4
            rw [h4']
            simp only
            have l4 := readBits_ok_length _ _ _ h4
            have hbody : (if m.1 &&& 0x80 ≠ 0 then
                  decodeBody [nullTr] noneEnt (noneCfg ck).ck sf.1 l.1 s.1 (decDstLen B p) s.2
                else decodeBody (noneCfg ck).trs (noneCfg ck).ent (noneCfg ck).ck sf.1 l.1 s.1
                  (decDstLen B p) s.2) = decodeBody [nullTr] noneEnt ck sf.1 l.1 s.1 (decDstLen B p) s.2 := by
              split <;> rfl
            rw [hbody, decodeBody_none ck sf.1 l.1 s.1 (decDstLen B p) s.2 (by omega)
              (by intro h8; unfold decDstLen; omega)]

end Kanzi.BlockGen
