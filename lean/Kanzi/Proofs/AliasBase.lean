/-
`AliasCodec`, basic facts: the order-0 histogram counts occurrences, the absent / present symbol lists
partition the 256 byte values, `map8` inverts `idx2symb` (`i2s`), and the bit arithmetic of the packing
and of the two alias maps.
-/
import Kanzi.Model.Alias
import Kanzi.Proofs.RLTInv

namespace Kanzi.Alias
open Kanzi.RLT

/-! ## histogram -/

theorem hist_fold_size : ∀ (src : List Nat) (a : Array Nat),
    (src.foldl (fun a x => a.modify x (· + 1)) a).size = a.size :=
  Kanzi.hist_fold_size

theorem fq_histogram (src : List Nat) (x : Nat) (hx : x < 256) : fq (histogram src) x = src.count x := by
  unfold fq histogram
  rw [hist_fold_getD _ _ _ (by simpa using hx)]
  simp [hx]

theorem fq_histogram_ne_zero (src : List Nat) (x : Nat) (hx : x < 256) (hm : x ∈ src) :
    fq (histogram src) x ≠ 0 := by
  rw [fq_histogram src x hx]
  exact Nat.ne_of_gt (List.count_pos_iff.mpr hm)

theorem fq_histogram_eq_zero (src : List Nat) (x : Nat) (hx : x < 256) (hm : x ∉ src) :
    fq (histogram src) x = 0 := by
  rw [fq_histogram src x hx]; exact List.count_eq_zero.mpr hm

/-! ## absent / present symbols -/

theorem absent_present_length (freqs : Array Nat) :
    (absentSyms freqs).length + (presentSyms freqs).length = 256 := by
  have := List.length_eq_countP_add_countP (fun i => decide (fq freqs i = 0)) (l := List.range 256)
  simpa [absentSyms, presentSyms, List.countP_eq_length_filter] using this.symm

theorem mem_presentSyms {freqs : Array Nat} {x : Nat} :
    x ∈ presentSyms freqs ↔ x < 256 ∧ fq freqs x ≠ 0 := by simp [presentSyms]

theorem mem_absentSyms {freqs : Array Nat} {x : Nat} :
    x ∈ absentSyms freqs ↔ x < 256 ∧ fq freqs x = 0 := by simp [absentSyms]

theorem absentSyms_nodup (freqs : Array Nat) : (absentSyms freqs).Nodup :=
  List.Nodup.sublist List.filter_sublist List.nodup_range

theorem presentSyms_nodup (freqs : Array Nat) : (presentSyms freqs).Nodup :=
  List.Nodup.sublist List.filter_sublist List.nodup_range

theorem mem_present_of_mem (src : List Nat) (hb : ∀ x ∈ src, x < 256) {x : Nat} (hm : x ∈ src) :
    x ∈ presentSyms (histogram src) :=
  mem_presentSyms.mpr ⟨hb x hm, fq_histogram_ne_zero src x (hb x hm) hm⟩

theorem present_lt {freqs : Array Nat} {x : Nat} (h : x ∈ presentSyms freqs) : x < 256 :=
  (mem_presentSyms.mp h).1

theorem absent_fresh (src : List Nat) {a : Nat} (h : a ∈ absentSyms (histogram src)) : a < 256 ∧ a ∉ src := by
  have h' := mem_absentSyms.mp h
  refine ⟨h'.1, fun hm => ?_⟩
  exact fq_histogram_ne_zero src a h'.1 hm h'.2

/-! ## `map8` / `idx2symb` -/

theorem map8_lt (syms : List Nat) (x : Nat) (hx : x ∈ syms) : map8 syms x < syms.length := by
  unfold map8; simp [hx, List.idxOf_lt_length_iff]

theorem i2s_map8 (syms : List Nat) (x : Nat) (hx : x ∈ syms) : i2s syms (map8 syms x) = x := by
  have hlt : syms.idxOf x < syms.length := List.idxOf_lt_length_iff.mpr hx
  unfold i2s map8
  simp only [hx, if_true]
  rw [List.getD_eq_getElem?_getD, List.getElem?_eq_getElem hlt]
  simp [List.getElem_idxOf hlt]

/-! ## bit arithmetic -/

theorem pack4_bitsF : ∀ a b c d : Fin 4,
    ((((a.val <<< 6) % 256) ||| ((b.val <<< 4) % 256) ||| ((c.val <<< 2) % 256) ||| d.val) < 256) ∧
    (((((a.val <<< 6) % 256) ||| ((b.val <<< 4) % 256) ||| ((c.val <<< 2) % 256) ||| d.val) >>> 6) &&& 3 = a.val) ∧
    (((((a.val <<< 6) % 256) ||| ((b.val <<< 4) % 256) ||| ((c.val <<< 2) % 256) ||| d.val) >>> 4) &&& 3 = b.val) ∧
    (((((a.val <<< 6) % 256) ||| ((b.val <<< 4) % 256) ||| ((c.val <<< 2) % 256) ||| d.val) >>> 2) &&& 3 = c.val) ∧
    ((((a.val <<< 6) % 256) ||| ((b.val <<< 4) % 256) ||| ((c.val <<< 2) % 256) ||| d.val) &&& 3 = d.val) := by
  decide +kernel

theorem pack4_bits (a b c d : Nat) (ha : a < 4) (hb : b < 4) (hc : c < 4) (hd : d < 4) :
    ((((a <<< 6) % 256) ||| ((b <<< 4) % 256) ||| ((c <<< 2) % 256) ||| d) < 256) ∧
    (((((a <<< 6) % 256) ||| ((b <<< 4) % 256) ||| ((c <<< 2) % 256) ||| d) >>> 6) &&& 3 = a) ∧
    (((((a <<< 6) % 256) ||| ((b <<< 4) % 256) ||| ((c <<< 2) % 256) ||| d) >>> 4) &&& 3 = b) ∧
    (((((a <<< 6) % 256) ||| ((b <<< 4) % 256) ||| ((c <<< 2) % 256) ||| d) >>> 2) &&& 3 = c) ∧
    ((((a <<< 6) % 256) ||| ((b <<< 4) % 256) ||| ((c <<< 2) % 256) ||| d) &&& 3 = d) :=
  pack4_bitsF ⟨a, ha⟩ ⟨b, hb⟩ ⟨c, hc⟩ ⟨d, hd⟩

theorem pack2_bitsF : ∀ a b : Fin 16,
    ((((a.val <<< 4) % 256) ||| b.val) < 256) ∧ ((((a.val <<< 4) % 256) ||| b.val) >>> 4 = a.val) ∧
    ((((a.val <<< 4) % 256) ||| b.val) &&& 15 = b.val) := by
  decide +kernel

theorem pack2_bits (a b : Nat) (ha : a < 16) (hb : b < 16) :
    ((((a <<< 4) % 256) ||| b) < 256) ∧ ((((a <<< 4) % 256) ||| b) >>> 4 = a) ∧
    ((((a <<< 4) % 256) ||| b) &&& 15 = b) :=
  pack2_bitsF ⟨a, ha⟩ ⟨b, hb⟩

theorem pack4_lt (syms : List Nat) (a b c d : Nat) : pack4 syms a b c d < 256 ∨ ¬ (map8 syms d < 256) := by
  by_cases h : map8 syms d < 256
  · left
    unfold pack4
    have h1 : (map8 syms a <<< 6) % 256 < 2 ^ 8 := Nat.mod_lt _ (by decide)
    have h2 : (map8 syms b <<< 4) % 256 < 2 ^ 8 := Nat.mod_lt _ (by decide)
    have h3 : (map8 syms c <<< 2) % 256 < 2 ^ 8 := Nat.mod_lt _ (by decide)
    have h4 : map8 syms d < 2 ^ 8 := h
    exact Nat.or_lt_two_pow (Nat.or_lt_two_pow (Nat.or_lt_two_pow h1 h2) h3) h4
  · right; exact h

theorem map8_le (syms : List Nat) (x : Nat) : map8 syms x ≤ syms.length := by
  unfold map8; split
  · exact List.idxOf_le_length
  · omega

/-- the two bytes of a pair value `(a << 8) | b`; the entries `0x100 | a` and `0x200 | a` of `map16` are the cases
    `a = 1`, `a = 2` -/
theorem shl8_or_bytes (a b : Nat) (hb : b < 256) : ((a <<< 8) ||| b) % 256 = b ∧ ((a <<< 8) ||| b) >>> 8 = a := by
  rw [shl8_or a b hb, Nat.shiftRight_eq_div_pow]
  exact ⟨by omega, by omega⟩

theorem pair_bytes (a b : Nat) (ha : a < 256) (hb : b < 256) :
    ((a <<< 8) ||| b) < 65536 ∧ (((a <<< 8) ||| b) >>> 8) % 256 = a ∧ ((a <<< 8) ||| b) % 256 = b ∧
    ((a <<< 8) ||| b) >>> 8 = a := by
  refine ⟨?_, ?_, shl8_or_bytes a b hb⟩
  · rw [shl8_or a b hb]; omega
  · rw [(shl8_or_bytes a b hb).2, Nat.mod_eq_of_lt ha]

theorem lit16 (a : Nat) (ha : a < 256) : (0x100 ||| a) % 256 = a ∧ (0x100 ||| a) >>> 8 = 1 :=
  shl8_or_bytes 1 a ha

theorem ali16 (a : Nat) (ha : a < 256) : (0x200 ||| a) % 256 = a ∧ (0x200 ||| a) >>> 8 = 2 :=
  shl8_or_bytes 2 a ha

theorem lit17 (x : Nat) (hx : x < 256) : (0x10000 ||| x) % 256 = x ∧ (0x10000 ||| x) >>> 16 = 1 := by
  have h : 0x10000 ||| x = 1 <<< 16 + x := by
    rw [Nat.shiftLeft_add_eq_or_of_lt (by omega : x < 2 ^ 16)]; rfl
  rw [h, Nat.shiftLeft_eq, Nat.shiftRight_eq_div_pow]
  refine ⟨by omega, by omega⟩

theorem ali17 (a b : Nat) (ha : a < 256) (hb : b < 256) :
    (0x20000 ||| a ||| (b <<< 8)) % 256 = a ∧ ((0x20000 ||| a ||| (b <<< 8)) >>> 8) % 256 = b ∧
    (0x20000 ||| a ||| (b <<< 8)) >>> 16 = 2 := by
  have h : 0x20000 ||| a ||| (b <<< 8) = 2 <<< 16 + (b <<< 8 + a) := by
    rw [Nat.or_assoc, Nat.or_comm a, Nat.shiftLeft_add_eq_or_of_lt (by omega : a < 2 ^ 8) b,
      Nat.shiftLeft_add_eq_or_of_lt (by
        rw [← Nat.shiftLeft_add_eq_or_of_lt (by omega : a < 2 ^ 8) b, Nat.shiftLeft_eq]; omega)]
    rfl
  rw [h, Nat.shiftLeft_eq, Nat.shiftLeft_eq, Nat.shiftRight_eq_div_pow, Nat.shiftRight_eq_div_pow]
  refine ⟨by omega, by omega, by omega⟩

theorem le32_roundtrip (v : Nat) (hv : v < 2 ^ 32) :
    v % 256 + 256 * ((v >>> 8) % 256) + 65536 * ((v >>> 16) % 256) + 16777216 * ((v >>> 24) % 256) = v := by
  simp only [Nat.shiftRight_eq_div_pow]; omega

end Kanzi.Alias
