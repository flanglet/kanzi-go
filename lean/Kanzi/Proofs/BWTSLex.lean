/-
BWTS (C13): the lexicographic order `lexLt`, Lyndon words, and the Lyndon factorisation
`lyndonFactors` (existence: non-increasing Lyndon factors; uniqueness: Chen–Fox–Lyndon).
-/
import Kanzi.Model.BWTS

namespace Kanzi.BWTS

/-! ## `lexLt` -/

@[simp] theorem lexLt_nil_right (u : List Nat) : lexLt u [] = false := by
  cases u <;> rfl

@[simp] theorem lexLt_nil_cons (b : Nat) (v : List Nat) : lexLt [] (b :: v) = true := rfl

@[simp] theorem lexLt_cons_cons (a b : Nat) (u v : List Nat) :
    lexLt (a :: u) (b :: v) = (decide (a < b) || (decide (a = b) && lexLt u v)) := rfl

theorem lexLt_iff_lt (u v : List Nat) : lexLt u v = true ↔ u < v := by
  induction u generalizing v with
  | nil => cases v <;> simp
  | cons a u ih =>
    cases v with
    | nil => simp
    | cons b v =>
      simp only [lexLt_cons_cons, Bool.or_eq_true, decide_eq_true_eq, Bool.and_eq_true, ih,
        List.cons_lt_cons_iff]

def lexLe (u v : List Nat) : Prop := lexLt v u = false

theorem lexLe_iff_le {u v : List Nat} : lexLe u v ↔ u ≤ v := by
  rw [lexLe, ← List.not_lt, ← lexLt_iff_lt, Bool.not_eq_true]

theorem lexLt_irrefl (u : List Nat) : lexLt u u = false :=
  lexLe_iff_le.2 (List.le_refl u)

theorem lexLt_trans {u v w : List Nat} (h1 : lexLt u v = true) (h2 : lexLt v w = true) :
    lexLt u w = true :=
  (lexLt_iff_lt u w).2 (List.lt_trans ((lexLt_iff_lt u v).1 h1) ((lexLt_iff_lt v w).1 h2))

theorem lexLt_total {u v : List Nat} (h1 : lexLt u v = false) (h2 : lexLt v u = false) : u = v :=
  List.le_antisymm (lexLe_iff_le.1 h2) (lexLe_iff_le.1 h1)

theorem lexLe_iff {u v : List Nat} : lexLe u v ↔ u = v ∨ lexLt u v = true := by
  rw [lexLe_iff_le, List.le_iff_lt_or_eq, lexLt_iff_lt, or_comm]

theorem lexLt_of_le_of_lt {u v w : List Nat} (h1 : lexLe u v) (h2 : lexLt v w = true) :
    lexLt u w = true :=
  (lexLt_iff_lt u w).2 (List.lt_of_le_of_lt (lexLe_iff_le.1 h1) ((lexLt_iff_lt v w).1 h2))

theorem lexLe_trans {u v w : List Nat} (h1 : lexLe u v) (h2 : lexLe v w) : lexLe u w :=
  lexLe_iff_le.2 (List.le_trans (lexLe_iff_le.1 h1) (lexLe_iff_le.1 h2))

theorem lexLt_of_lt_of_le {u v w : List Nat} (h1 : lexLt u v = true) (h2 : lexLe v w) :
    lexLt u w = true := by
  rcases lexLe_iff.1 h2 with h | h
  · exact h ▸ h1
  · exact lexLt_trans h1 h

theorem lexLt_append_left (p u v : List Nat) : lexLt (p ++ u) (p ++ v) = lexLt u v := by
  induction p with
  | nil => rfl
  | cons a p ih => simp [ih]

theorem lexLt_prefix (u v : List Nat) (hv : v ≠ []) : lexLt u (u ++ v) = true := by
  obtain ⟨b, v, rfl⟩ := List.exists_cons_of_ne_nil hv
  simpa using lexLt_append_left u [] (b :: v)

theorem lexLe_prefix (u v : List Nat) : lexLe u (u ++ v) :=
  lexLe_iff_le.2 List.le_append_left

/-- a strict mismatch: common prefix `p`, then a smaller letter on the left -/
def Mis (u v : List Nat) : Prop :=
  ∃ p a b u' v', u = p ++ a :: u' ∧ v = p ++ b :: v' ∧ a < b

theorem Mis.lexLt {u v : List Nat} (h : Mis u v) (x y : List Nat) : lexLt (u ++ x) (v ++ y) = true := by
  obtain ⟨p, a, b, u', v', rfl, rfl, hab⟩ := h
  simp [List.append_assoc, lexLt_append_left, hab]

theorem lexLt_cases {u v : List Nat} (h : lexLt u v = true) :
    Mis u v ∨ ∃ x, x ≠ [] ∧ v = u ++ x := by
  induction u generalizing v with
  | nil =>
    cases v with
    | nil => simp at h
    | cons b v => exact Or.inr ⟨b :: v, by simp, rfl⟩
  | cons a u ih =>
    cases v with
    | nil => simp at h
    | cons b v =>
      simp only [lexLt_cons_cons, Bool.or_eq_true, decide_eq_true_eq, Bool.and_eq_true] at h
      rcases h with h | ⟨h, h'⟩
      · exact Or.inl ⟨[], a, b, u, v, rfl, rfl, h⟩
      · subst h
        rcases ih h' with ⟨p, c, d, u', v', rfl, rfl, hcd⟩ | ⟨x, hx, rfl⟩
        · exact Or.inl ⟨a :: p, c, d, u', v', rfl, rfl, hcd⟩
        · exact Or.inr ⟨x, hx, rfl⟩

theorem lexLt_mis_of_length {u v : List Nat} (h : lexLt u v = true) (hl : v.length ≤ u.length) :
    Mis u v := by
  rcases lexLt_cases h with h | ⟨x, hx, rfl⟩
  · exact h
  · have := List.length_pos_iff.2 hx
    simp at hl; omega

/-! ## Lyndon words -/

theorem lyndon_iff (w : List Nat) :
    Lyndon w ↔ w ≠ [] ∧ ∀ x y, w = x ++ y → x ≠ [] → y ≠ [] → lexLt w y = true := by
  refine and_congr_right fun _ => ⟨?_, fun h k hk hkl => ?_⟩
  · rintro h x y rfl hx hy
    have hx := List.length_pos_iff.2 hx
    have hy := List.length_pos_iff.2 hy
    simpa using h x.length hx (by simp; omega)
  · refine h (w.take k) (w.drop k) (by simp) ?_ ?_
    · simp only [ne_eq, List.take_eq_nil_iff, not_or]
      exact ⟨by omega, fun h0 => by simp [h0] at hkl⟩
    · simp only [ne_eq, List.drop_eq_nil_iff]; omega

theorem isLyndon_iff (w : List Nat) : isLyndon w = true ↔ Lyndon w := by
  unfold isLyndon Lyndon
  simp only [Bool.and_eq_true, Bool.not_eq_true', List.isEmpty_eq_false_iff, List.all_eq_true,
    List.mem_range, Bool.or_eq_true, beq_iff_eq, ne_eq]
  constructor
  · rintro ⟨h0, h⟩
    exact ⟨h0, fun k hk hkl => (h k hkl).resolve_left (by omega)⟩
  · rintro ⟨h0, h⟩
    refine ⟨h0, fun k hkl => ?_⟩
    by_cases hk : k = 0
    · exact Or.inl hk
    · exact Or.inr (h k (by omega) hkl)

theorem lyndon_singleton (c : Nat) : Lyndon [c] := by
  refine ⟨by simp, fun k hk hkl => ?_⟩
  simp at hkl; omega

theorem Lyndon.ne_nil {w : List Nat} (h : Lyndon w) : w ≠ [] := h.1

theorem lyndon_append {u v : List Nat} (hu : Lyndon u) (hv : Lyndon v) (huv : lexLt u v = true) :
    Lyndon (u ++ v) := by
  rw [lyndon_iff] at hu hv ⊢
  obtain ⟨hu0, hu⟩ := hu
  obtain ⟨hv0, hv⟩ := hv
  have huvv : lexLt (u ++ v) v = true := by
    rcases lexLt_cases huv with h | ⟨x, hx, rfl⟩
    · have := h.lexLt v []
      rwa [List.append_nil] at this
    · rw [lexLt_append_left]
      exact hv u x rfl hu0 hx
  refine ⟨by simp [hu0], ?_⟩
  intro x y hxy hx hy
  rcases List.append_eq_append_iff.1 hxy with ⟨a', rfl, hva⟩ | ⟨c', huc, rfl⟩
  · -- `x = u ++ a'`, `v = a' ++ y`: `y` is a suffix of `v`
    by_cases ha : a' = []
    · subst ha
      simp only [List.nil_append] at hva
      subst hva; exact huvv
    · exact lexLt_trans huvv (hv a' y hva ha hy)
  · -- `u = x ++ c'`, `y = c' ++ v`: `c'` is a suffix of `u`
    by_cases hc : c' = []
    · subst hc; simpa using huvv
    · have h1 := hu x c' huc hx hc
      have h2 := lexLt_mis_of_length h1 (by rw [huc]; simp)
      exact h2.lexLt v v

/-! ## the factorisation -/

/-- stack invariant (top first): Lyndon words, every deeper word is `≥` every higher word -/
def GoodStack (st : List (List Nat)) : Prop :=
  (∀ w ∈ st, Lyndon w) ∧ st.Pairwise (fun a b => lexLt b a = false)

theorem pushMerge_spec (st : List (List Nat)) :
    ∀ v, Lyndon v → GoodStack st →
      GoodStack (pushMerge v st) ∧ (pushMerge v st).reverse.flatten = st.reverse.flatten ++ v := by
  induction st with
  | nil =>
    intro v hv _
    exact ⟨⟨by simpa [pushMerge] using hv, by simp [pushMerge]⟩, by simp [pushMerge]⟩
  | cons u st ih =>
    intro v hv hg
    have hu : Lyndon u := hg.1 u (by simp)
    obtain ⟨hbu, hpw⟩ := List.pairwise_cons.1 hg.2
    rw [pushMerge]
    by_cases huv : lexLt u v = true
    · rw [if_pos huv]
      obtain ⟨h1, h2⟩ := ih (u ++ v) (lyndon_append hu hv huv) ⟨fun w hw => hg.1 w (by simp [hw]), hpw⟩
      exact ⟨h1, by rw [h2]; simp⟩
    · rw [if_neg huv]
      have huv' : lexLt u v = false := by simpa using huv
      refine ⟨⟨fun w hw => ?_, List.pairwise_cons.2 ⟨fun b hb => ?_, hg.2⟩⟩, by simp⟩
      · rcases List.mem_cons.1 hw with h | h
        · exact h ▸ hv
        · exact hg.1 w h
      · -- `b ≥ u ≥ v`
        rcases List.mem_cons.1 hb with h | h
        · exact h ▸ huv'
        · exact lexLe_trans (u := v) (v := u) (w := b) huv' (hbu b h)

theorem lyndonStack_spec (s : List Nat) (st : List (List Nat)) (hg : GoodStack st) :
    GoodStack (s.foldl (fun st c => pushMerge [c] st) st) ∧
      (s.foldl (fun st c => pushMerge [c] st) st).reverse.flatten = st.reverse.flatten ++ s := by
  induction s generalizing st with
  | nil => simpa using hg
  | cons c s ih =>
    obtain ⟨h1, h2⟩ := pushMerge_spec st [c] (lyndon_singleton c) hg
    obtain ⟨h3, h4⟩ := ih _ h1
    refine ⟨h3, ?_⟩
    rw [List.foldl_cons, h4, h2]; simp

/-- a Lyndon factorisation of `s`: Lyndon words, non-increasing, whose product is `s` -/
def IsLyndonFactorisation (fs : List (List Nat)) (s : List Nat) : Prop :=
  fs.flatten = s ∧ (∀ w ∈ fs, Lyndon w) ∧ fs.Pairwise (fun a b => lexLt a b = false)

theorem lyndonFactors_spec (s : List Nat) : IsLyndonFactorisation (lyndonFactors s) s := by
  obtain ⟨⟨h1, h2⟩, h3⟩ := lyndonStack_spec s [] ⟨by simp, by simp⟩
  refine ⟨by simpa [lyndonFactors, lyndonStack] using h3, ?_, ?_⟩
  · intro w hw
    exact h1 w (by simpa [lyndonFactors, lyndonStack] using hw)
  · unfold lyndonFactors lyndonStack
    rw [List.pairwise_reverse]
    exact h2

/-! ## uniqueness (Chen–Fox–Lyndon) -/

/-- `v < w`, `w` Lyndon: no proper suffix `y` of `w` starts a product of non-empty words `≤ v` -/
theorem cfl_aux (w v : List Nat) (hw : Lyndon w) (hvw : lexLt v w = true) (F : List Nat) :
    ∀ (gs : List (List Nat)) (y : List Nat), y ≠ [] → (∃ x, x ≠ [] ∧ w = x ++ y) →
      y ++ F = gs.flatten → (∀ g ∈ gs, g ≠ [] ∧ lexLt v g = false) → False := by
  rw [lyndon_iff] at hw
  intro gs
  induction gs with
  | nil =>
    intro y hy _ h _
    simp at h; exact hy h.1
  | cons g gs ih =>
    intro y hy ⟨x, hx, hwxy⟩ h hall
    have hvy : lexLt v y = true := lexLt_trans hvw (hw.2 x y hwxy hx hy)
    have hg := hall g (by simp)
    rw [List.flatten_cons] at h
    rcases List.append_eq_append_iff.1 h with ⟨a', rfl, _⟩ | ⟨c', rfl, hc⟩
    · -- `y` is a prefix of `g`: `v < w < y ≤ g ≤ v`
      have h1 := lexLt_of_lt_of_le hvy (lexLe_prefix y a')
      rw [hg.2] at h1; cases h1
    · by_cases hc0 : c' = []
      · rw [hc0, List.append_nil, hg.2] at hvy; cases hvy
      · exact ih c' hc0 ⟨x ++ g, by simp [hx], by simp [hwxy]⟩ hc.symm
          fun g' hg' => hall g' (by simp [hg'])

theorem IsLyndonFactorisation.tail {w : List Nat} {fs : List (List Nat)} {s : List Nat}
    (h : IsLyndonFactorisation (w :: fs) s) : IsLyndonFactorisation fs fs.flatten :=
  ⟨rfl, fun x hx => h.2.1 x (by simp [hx]), (List.pairwise_cons.1 h.2.2).2⟩

/-- the first factor of a factorisation is not a proper prefix of the first factor of another -/
theorem cfl_head {w v a : List Nat} {fs gs : List (List Nat)} {s : List Nat}
    (hf : IsLyndonFactorisation (w :: fs) s) (hg : IsLyndonFactorisation (v :: gs) s)
    (hva : v = w ++ a) : a = [] := by
  apply Classical.byContradiction
  intro ha
  have heq : a ++ gs.flatten = fs.flatten := by
    have h := hg.1.trans hf.1.symm
    rw [hva, List.flatten_cons, List.flatten_cons, List.append_assoc] at h
    exact List.append_cancel_left h
  exact cfl_aux v w (hva ▸ hg.2.1 v (by simp)) (hva ▸ lexLt_prefix w a ha) gs.flatten fs a ha
    ⟨w, (hf.2.1 w (by simp)).1, hva⟩ heq
    fun g hg' => ⟨(hf.2.1 g (by simp [hg'])).1, (List.pairwise_cons.1 hf.2.2).1 g hg'⟩

theorem cfl_unique_aux (fs : List (List Nat)) :
    ∀ (gs : List (List Nat)) (s : List Nat), IsLyndonFactorisation fs s → IsLyndonFactorisation gs s →
      fs = gs := by
  have hnil : ∀ (w : List Nat) (hs : List (List Nat)), ¬ IsLyndonFactorisation (w :: hs) [] :=
    fun w hs h => (h.2.1 w (by simp)).1 (List.flatten_eq_nil_iff.1 h.1 w (by simp))
  induction fs with
  | nil =>
    intro gs s hf hg
    cases gs with
    | nil => rfl
    | cons g gs => exact absurd ((show [] = s from hf.1) ▸ hg) (hnil g gs)
  | cons w fs ih =>
    intro gs s hf hg
    cases gs with
    | nil => exact absurd ((show [] = s from hg.1) ▸ hf) (hnil w fs)
    | cons v gs =>
      have heq : w ++ fs.flatten = v ++ gs.flatten := hf.1.trans hg.1.symm
      have hwv : w = v := by
        rcases List.append_eq_append_iff.1 heq with ⟨a, hv, _⟩ | ⟨c, hw, _⟩
        · rw [hv, cfl_head hf hg hv, List.append_nil]
        · rw [hw, cfl_head hg hf hw, List.append_nil]
      subst hwv
      rw [ih gs fs.flatten hf.tail (List.append_cancel_left heq ▸ hg.tail)]

/-- Chen–Fox–Lyndon: the factorisation into non-increasing Lyndon words is unique -/
theorem lyndonFactors_unique (s : List Nat) (fs : List (List Nat)) (h : IsLyndonFactorisation fs s) :
    fs = lyndonFactors s :=
  cfl_unique_aux fs (lyndonFactors s) s h (lyndonFactors_spec s)

end Kanzi.BWTS
