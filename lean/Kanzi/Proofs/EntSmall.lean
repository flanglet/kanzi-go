/-
Proofs for the small entropy-coding pieces (property C12): VarInt, the NONE codec, `EncodeAlphabet` /
`DecodeAlphabet`, and the frequency headers shared by the ANS and range codecs (decode ∘ encode, and what the
decoders return when the table does not sum to the scale).  The property theorems are restated in `Kanzi/Properties/C12_small.lean`.
-/
import Kanzi.Model.EntSmall
import Kanzi.Proofs.Bits

namespace Kanzi.EntSmall
open Kanzi.Bits

theorem bitsNat_nil : bitsNat [] = 0 := rfl

theorem readBits_natBits (v n : Nat) (rest : Bits) :
    readBits n (natBits v n ++ rest) = some (v % 2 ^ n, rest) := by
  unfold readBits
  rw [if_pos (by simp), bitsNat_take_natBits, drop_natBits]

theorem readBits_natBits_lt (v n : Nat) (rest : Bits) (h : v < 2 ^ n) :
    readBits n (natBits v n ++ rest) = some (v, rest) := by
  rw [readBits_natBits, Nat.mod_eq_of_lt h]

theorem ofBytes_nil : ofBytes [] = [] := rfl

theorem drop_ofBytes (k : Nat) (l : List Nat) : (ofBytes l).drop (8 * k) = ofBytes (l.drop k) :=
  ofBytes_drop l k

theorem arrayBits_eq (l : List Nat) (k : Nat) : arrayBits l (8 * k) = ofBytes (l.take k) :=
  ofBytes_take l k

theorem bytesOf_ofBytes (l : List Nat) (rest : Bits) (hl : ∀ b ∈ l, b < 256) :
    bytesOf l.length (ofBytes l ++ rest) = l := by
  induction l with
  | nil => rfl
  | cons b l ih =>
    have h8 := natBits_length b 8
    rw [List.length_cons, bytesOf, ofBytes_cons, List.append_assoc, take_append_len _ _ _ h8,
      drop_append_len _ _ _ h8, bitsNat_natBits_of_lt b 8 (hl b List.mem_cons_self),
      ih (fun x hx => hl x (List.mem_cons_of_mem _ hx))]

theorem readBytes_ofBytes (l : List Nat) (rest : Bits) (hl : ∀ b ∈ l, b < 256) :
    readBytes l.length (ofBytes l ++ rest) = some (l, rest) := by
  unfold readBytes
  rw [if_pos (by simp), bytesOf_ofBytes l rest hl, drop_append_len _ _ _ (ofBytes_length l)]

theorem and_7F (v : Nat) : v &&& 0x7F = v % 128 := by
  have := Nat.and_two_pow_sub_one_eq_mod v 7
  simpa using this

theorem and_0F (v : Nat) : v &&& 0x0F = v % 16 := by
  have := Nat.and_two_pow_sub_one_eq_mod v 4
  simpa using this

theorem or_80 (v : Nat) : 0x80 ||| (v &&& 0x7F) = 128 + v % 128 := by
  rw [and_7F]
  have h : v % 128 < 2 ^ 7 := by omega
  have := Nat.two_pow_add_eq_or_of_lt h 1
  simpa using this.symm

theorem readVarIntAux_last (shift res v : Nat) (rest : Bits) (hv : v < 2 ^ 8) :
    readVarIntAux 0 shift res (natBits v 8 ++ rest) = some (res ||| ((v &&& 0x0F) <<< 28), rest) := by
  rw [readVarIntAux, readBits_natBits_lt v 8 rest hv]

theorem readVarIntAux_stop (k shift res v : Nat) (rest : Bits) (hv : v < 128) :
    readVarIntAux (k + 1) shift res (natBits v 8 ++ rest) = some (res ||| ((v &&& 0x7F) <<< shift), rest) := by
  rw [readVarIntAux, readBits_natBits_lt v 8 rest (by omega)]
  exact if_pos hv

theorem readVarIntAux_more (k shift res v : Nat) (rest : Bits) (h1 : 128 ≤ v) (h2 : v < 2 ^ 8) :
    readVarIntAux (k + 1) shift res (natBits v 8 ++ rest)
      = readVarIntAux k (shift + 7) (res ||| ((v &&& 0x7F) <<< shift)) rest := by
  rw [readVarIntAux, readBits_natBits_lt v 8 rest h2]
  exact if_neg (by omega)

theorem varint_aux (k : Nat) : ∀ (shift res v : Nat) (rest : Bits),
    shift + 7 * k = 28 → res < 2 ^ shift → v < 2 ^ (7 * k + 4) →
    readVarIntAux k shift res (writeVarIntAux k v ++ rest) = some (res + v * 2 ^ shift, rest) := by
  induction k with
  | zero =>
    intro shift res v rest hs hres hv
    have hs28 : shift = 28 := by omega
    subst hs28
    have hv16 : v < 16 := hv
    rw [writeVarIntAux, readVarIntAux_last _ _ _ _ (by omega), and_0F, Nat.mod_eq_of_lt hv16,
      or_shl _ _ _ hres]
  | succ k ih =>
    intro shift res v rest hs hres hv
    rw [writeVarIntAux]
    by_cases h128 : v ≥ 128
    · rw [if_pos h128, or_80, List.append_assoc, readVarIntAux_more _ _ _ _ _ (by omega) (by omega),
        and_7F, or_shl _ _ _ hres, Nat.add_mod_left, Nat.mod_mod, Nat.shiftRight_eq_div_pow,
        show (2 : Nat) ^ 7 = 128 from rfl]
      have hres' : res + v % 128 * 2 ^ shift < 2 ^ (shift + 7) := by
        have h2 : (v % 128 + 1) * 2 ^ shift ≤ 128 * 2 ^ shift :=
          Nat.mul_le_mul_right _ (Nat.mod_lt v (by decide))
        rw [Nat.succ_mul] at h2
        rw [Nat.pow_add, Nat.mul_comm (2 ^ shift)]
        omega
      have hv' : v / 128 < 2 ^ (7 * k + 4) := by
        rw [Nat.div_lt_iff_lt_mul (by decide), show (128 : Nat) = 2 ^ 7 from rfl, ← Nat.pow_add]
        exact hv
      rw [ih (shift + 7) _ (v / 128) rest (by omega) hres' hv', Nat.pow_add, Nat.add_assoc,
        ← Nat.mul_assoc, Nat.mul_right_comm, ← Nat.add_mul, show (2 : Nat) ^ 7 = 128 from rfl,
        Nat.mod_add_div']
    · rw [if_neg h128, readVarIntAux_stop _ _ _ _ _ (by omega), and_7F, Nat.mod_eq_of_lt (by omega),
        or_shl _ _ _ hres]
theorem varint_roundtrip (v : Nat) (hv : v < 2 ^ 32) (rest : Bits) :
    readVarInt (writeVarInt v ++ rest) = some (v, rest) := by
  have := varint_aux 4 0 0 v rest (by omega) (by omega) (by simpa using hv)
  simpa [readVarInt, writeVarInt] using this

theorem varint_len_aux (k v : Nat) :
    ∃ n, 1 ≤ n ∧ n ≤ k + 1 ∧ (writeVarIntAux k v).length = 8 * n := by
  induction k generalizing v with
  | zero => exact ⟨1, by omega, by omega, by simp [writeVarIntAux, natBits_length]⟩
  | succ k ih =>
    simp only [writeVarIntAux]
    by_cases h128 : v ≥ 128
    · rw [if_pos h128]
      obtain ⟨n, h1, h2, h3⟩ := ih (v >>> 7)
      exact ⟨n + 1, by omega, by omega, by rw [List.length_append, natBits_length, h3]; omega⟩
    · rw [if_neg h128]
      exact ⟨1, by omega, by omega, by simp [natBits_length]⟩

theorem varint_length (v : Nat) :
    (writeVarInt v).length = 8 * varIntLen v ∧ 1 ≤ varIntLen v ∧ varIntLen v ≤ 5 := by
  obtain ⟨n, h1, h2, h3⟩ := varint_len_aux 4 v
  have : varIntLen v = n := by
    unfold varIntLen writeVarInt
    rw [h3]; omega
  rw [this]
  exact ⟨h3, h1, h2⟩

theorem nullChunk_pos : 0 < nullChunk := by decide

theorem nullEncodeAux_eq (fuel : Nat) : ∀ (b : List Nat), b.length ≤ fuel → nullEncodeAux fuel b = ofBytes b := by
  induction fuel with
  | zero =>
    intro b hb
    have : b = [] := List.eq_nil_of_length_eq_zero (by omega)
    subst this; rfl
  | succ fuel ih =>
    intro b hb
    simp only [nullEncodeAux]
    by_cases h0 : b.length = 0
    · rw [if_pos h0]
      have : b = [] := List.eq_nil_of_length_eq_zero h0
      subst this; rfl
    · rw [if_neg h0, arrayBits_eq, ih]
      · rw [← ofBytes_append, List.take_append_drop]
      · have := nullChunk_pos
        rw [List.length_drop]; omega

theorem nullEncode_eq (b : List Nat) : nullEncode b = ofBytes b :=
  nullEncodeAux_eq b.length b (Nat.le_refl _)

theorem nullDecodeAux_ofBytes (fuel : Nat) : ∀ (count : Nat) (b : List Nat) (rest : Bits),
    b.length = count → count ≤ fuel → (∀ x ∈ b, x < 256) →
    nullDecodeAux fuel count (ofBytes b ++ rest) = some (b, rest) := by
  induction fuel with
  | zero =>
    intro count b rest hb hc _
    have : b = [] := List.eq_nil_of_length_eq_zero (by omega)
    subst this; rfl
  | succ fuel ih =>
    intro count b rest hb hc hlt
    simp only [nullDecodeAux]
    by_cases h0 : count = 0
    · rw [if_pos h0]
      have : b = [] := List.eq_nil_of_length_eq_zero (by omega)
      subst this; rfl
    · rw [if_neg h0]
      have hpos := nullChunk_pos
      subst hb
      have hrb := readBytes_ofBytes (b.take (min b.length nullChunk))
        (ofBytes (b.drop (min b.length nullChunk)) ++ rest) (fun x hx => hlt x (List.mem_of_mem_take hx))
      rw [List.length_take, Nat.min_eq_left (Nat.min_le_left _ _), ← List.append_assoc, ← ofBytes_append,
        List.take_append_drop] at hrb
      rw [hrb]
      simp only
      rw [ih _ (b.drop (min b.length nullChunk)) rest (by rw [List.length_drop]) (by omega)
        (fun x hx => hlt x (List.mem_of_mem_drop hx))]
      simp only [List.take_append_drop]

theorem null_roundtrip (b : List Nat) (hb : ∀ x ∈ b, x < 256) (rest : Bits) :
    nullDecode (nullEncode b ++ rest) b.length = some (b, rest) := by
  rw [nullEncode_eq]
  exact nullDecodeAux_ofBytes b.length b.length b rest rfl (Nat.le_refl _) hb

theorem nullChunksAux_sum (fuel : Nat) : ∀ count, count ≤ fuel →
    (nullChunksAux fuel count).sum = count ∧ ∀ c ∈ nullChunksAux fuel count, 0 < c ∧ c ≤ nullChunk := by
  induction fuel with
  | zero => intro count h; have : count = 0 := by omega
            subst this; simp [nullChunksAux]
  | succ fuel ih =>
    intro count h
    simp only [nullChunksAux]
    by_cases h0 : count = 0
    · rw [if_pos h0]; subst h0; simp
    · rw [if_neg h0]
      have hpos := nullChunk_pos
      obtain ⟨h1, h2⟩ := ih (count - min count nullChunk) (by omega)
      refine ⟨by rw [List.sum_cons, h1]; omega, ?_⟩
      intro c hc
      rcases List.mem_cons.mp hc with rfl | hc
      · omega
      · exact h2 c hc

theorem sorted_ext : ∀ (l1 l2 : List Nat), l1.Pairwise (· < ·) → l2.Pairwise (· < ·) →
    (∀ x, x ∈ l1 ↔ x ∈ l2) → l1 = l2 :=
  fun _ _ h1 h2 h =>
    List.Perm.eq_of_pairwise (fun _ _ _ _ hab hba => absurd hab (Nat.lt_asymm hba)) h1 h2
      ((List.perm_ext_iff_of_nodup (h1.imp Nat.ne_of_lt) (h2.imp Nat.ne_of_lt)).mpr h)

theorem filter_mem_range (a : List Nat) (n : Nat) (hs : a.Pairwise (· < ·)) (hlt : ∀ s ∈ a, s < n) :
    (List.range n).filter (fun i => decide (i ∈ a)) = a := by
  apply sorted_ext _ _ (List.Pairwise.filter _ List.pairwise_lt_range) hs
  intro x
  simp only [List.mem_filter, List.mem_range, decide_eq_true_eq]
  constructor
  · exact fun h => h.2
  · exact fun h => ⟨hlt x h, h⟩

theorem sorted_le_getLastD : ∀ (l : List Nat), l.Pairwise (· < ·) → ∀ x ∈ l, x ≤ l.getLastD 0 := by
  intro l
  induction l with
  | nil => intro _ x hx; simp at hx
  | cons y ys ih =>
    intro hp x hx
    rw [List.pairwise_cons] at hp
    cases ys with
    | nil => simp at hx; simp [hx]
    | cons z zs =>
      have hl : (y :: z :: zs).getLastD 0 = (z :: zs).getLastD 0 := by simp [List.getLastD]
      rw [hl]
      rcases List.mem_cons.mp hx with rfl | hx'
      · have h1 := hp.1 z (by simp)
        have h2 := ih hp.2 z (by simp)
        omega
      · exact ih hp.2 x hx'

theorem setMask_length (m : List Nat) (s : Nat) : (setMask m s).length = m.length := by
  simp [setMask]

theorem setMask_getD (m : List Nat) (s k : Nat) :
    (setMask m s).getD k 0 = if k = s / 8 ∧ k < m.length then m.getD k 0 ||| 2 ^ (s % 8) else m.getD k 0 := by
  have e3 : s >>> 3 = s / 8 := by rw [Nat.shiftRight_eq_div_pow]
  have e7 : s &&& 7 = s % 8 := by
    have := Nat.and_two_pow_sub_one_eq_mod s 3
    simpa using this
  simp only [setMask, e3, e7, Nat.shiftLeft_eq, Nat.one_mul, List.getD_eq_getElem?_getD, List.getElem?_set]
  by_cases h : s / 8 = k
  · subst h
    by_cases hl : s / 8 < m.length
    · simp [hl]
    · simp [hl]
  · have h' : ¬ (k = s / 8) := fun e => h e.symm
    simp [h, h']

theorem foldl_setMask_length (a : List Nat) : ∀ m : List Nat, (a.foldl setMask m).length = m.length := by
  induction a with
  | nil => intro m; rfl
  | cons s a ih => intro m; rw [List.foldl_cons, ih, setMask_length]

theorem foldl_setMask_lt (a : List Nat) : ∀ m : List Nat, (∀ k, m.getD k 0 < 256) →
    ∀ k, (a.foldl setMask m).getD k 0 < 256 := by
  induction a with
  | nil => intro m h; exact h
  | cons s a ih =>
    intro m h
    rw [List.foldl_cons]
    apply ih
    intro k
    rw [setMask_getD]
    split
    · have h1 : m.getD k 0 < 2 ^ 8 := h k
      have h2 : 2 ^ (s % 8) < 2 ^ 8 := Nat.pow_lt_pow_right (by decide) (by omega)
      exact Nat.or_lt_two_pow h1 h2
    · exact h k

theorem foldl_setMask_testBit (a : List Nat) : ∀ (m : List Nat) (k j : Nat), k < m.length → j < 8 →
    (∀ s ∈ a, s < 8 * m.length) →
    ((a.foldl setMask m).getD k 0).testBit j = ((m.getD k 0).testBit j || decide (8 * k + j ∈ a)) := by
  induction a with
  | nil => intro m k j _ _ _; simp
  | cons s a ih =>
    intro m k j hk hj ha
    rw [List.foldl_cons, ih (setMask m s) k j (by rw [setMask_length]; exact hk) hj
      (fun t ht => by rw [setMask_length]; exact ha t (List.mem_cons_of_mem _ ht))]
    rw [setMask_getD]
    have hs := ha s (by simp)
    by_cases h : k = s / 8 ∧ k < m.length
    · rw [if_pos h, Nat.testBit_or, Nat.testBit_two_pow]
      by_cases hj2 : s % 8 = j
      · have : 8 * k + j = s := by omega
        simp [hj2, this]
      · have : 8 * k + j ≠ s := by omega
        simp [hj2, this]
    · rw [if_neg h]
      have : 8 * k + j ≠ s := by omega
      simp [this]

theorem mkMasks_length (a : List Nat) : (mkMasks a).length = 32 := by
  simp [mkMasks, foldl_setMask_length]

theorem mkMasks_lt (a : List Nat) (k : Nat) : (mkMasks a).getD k 0 < 256 := by
  apply foldl_setMask_lt
  intro k
  simp only [List.getD_eq_getElem?_getD, List.getElem?_replicate]
  split <;> simp

theorem mkMasks_testBit (a : List Nat) (ha : ∀ s ∈ a, s < 256) (k j : Nat) (hk : k < 32) (hj : j < 8) :
    ((mkMasks a).getD k 0).testBit j = decide (8 * k + j ∈ a) := by
  have := foldl_setMask_testBit a (List.replicate 32 0) k j (by simpa using hk) hj (by simpa using ha)
  rw [mkMasks, this]
  simp only [List.getD_eq_getElem?_getD, List.getElem?_replicate]
  split <;> simp

theorem and_one_eq_zero_iff (m j : Nat) : ((m >>> j) &&& 1 = 0) ↔ m.testBit j = false := by
  rw [Nat.and_one_is_mod, Nat.shiftRight_eq_div_pow, Nat.testBit_eq_decide_div_mod_eq]
  simp only [decide_eq_false_iff_not]
  omega

theorem mem_maskSyms (m n x : Nat) : x ∈ maskSyms m n ↔ ∃ j, j < 8 ∧ m.testBit j = true ∧ x = n + j := by
  simp only [maskSyms, List.mem_filterMap, List.mem_range]
  constructor
  · rintro ⟨j, hj, h⟩
    by_cases hb : (m >>> j) &&& 1 = 0
    · rw [if_pos hb] at h; cases h
    · rw [if_neg hb] at h
      refine ⟨j, hj, ?_, by simpa using h.symm⟩
      rw [and_one_eq_zero_iff] at hb
      simpa using hb
  · rintro ⟨j, hj, hb, rfl⟩
    refine ⟨j, hj, ?_⟩
    have : ¬ ((m >>> j) &&& 1 = 0) := by rw [and_one_eq_zero_iff]; simp [hb]
    rw [if_neg this]

theorem maskSyms_sorted (m n : Nat) : (maskSyms m n).Pairwise (· < ·) := by
  unfold maskSyms
  apply List.Pairwise.filterMap (R := (· < ·)) _ _ List.pairwise_lt_range
  intro a a' haa b hb b' hb'
  split at hb <;> split at hb' <;> simp_all
  omega

theorem mem_decodeMasksAux : ∀ (ms : List Nat) (i x : Nat),
    x ∈ decodeMasksAux ms i ↔ ∃ k j, k < ms.length ∧ j < 8 ∧ (ms.getD k 0).testBit j = true ∧ x = 8 * (i + k) + j := by
  intro ms
  induction ms with
  | nil => intro i x; simp [decodeMasksAux]
  | cons m ms ih =>
    intro i x
    simp only [decodeMasksAux, List.mem_append, mem_maskSyms, ih]
    constructor
    · rintro (⟨j, hj, hb, rfl⟩ | ⟨k, j, hk, hj, hb, rfl⟩)
      · exact ⟨0, j, by simp, hj, by simpa using hb, by simp⟩
      · exact ⟨k + 1, j, by simpa using hk, hj, by simpa using hb, by omega⟩
    · rintro ⟨k, j, hk, hj, hb, rfl⟩
      cases k with
      | zero => left; exact ⟨j, hj, by simpa using hb, by simp⟩
      | succ k =>
        right
        exact ⟨k, j, by simpa using hk, hj, by simpa using hb, by omega⟩

theorem decodeMasksAux_sorted : ∀ (ms : List Nat) (i : Nat), (decodeMasksAux ms i).Pairwise (· < ·) := by
  intro ms
  induction ms with
  | nil => intro i; simp [decodeMasksAux]
  | cons m ms ih =>
    intro i
    simp only [decodeMasksAux]
    rw [List.pairwise_append]
    refine ⟨maskSyms_sorted _ _, ih _, ?_⟩
    intro a ha b hb
    rw [mem_maskSyms] at ha
    rw [mem_decodeMasksAux] at hb
    obtain ⟨j, hj, _, rfl⟩ := ha
    obtain ⟨k, j', _, _, _, rfl⟩ := hb
    omega

theorem decodeMasks_mkMasks (a : List Nat) (hs : a.Pairwise (· < ·)) (ha : ∀ s ∈ a, s < 256) :
    decodeMasksAux ((mkMasks a).take (a.getLastD 0 / 8 + 1)) 0 = a := by
  apply sorted_ext _ _ (decodeMasksAux_sorted _ _) hs
  intro x
  have hg : ∀ k j, k < min (a.getLastD 0 / 8 + 1) 32 → j < 8 →
      (((mkMasks a).take (a.getLastD 0 / 8 + 1)).getD k 0).testBit j = decide (8 * k + j ∈ a) := by
    intro k j hk hj
    rw [List.getD_eq_getElem?_getD, List.getElem?_take, if_pos (by omega), ← List.getD_eq_getElem?_getD,
      mkMasks_testBit a ha k j (by omega) hj]
  simp only [mem_decodeMasksAux, List.length_take, mkMasks_length, Nat.zero_add]
  constructor
  · rintro ⟨k, j, hk, hj, hb, rfl⟩
    rw [hg k j hk hj] at hb
    exact of_decide_eq_true hb
  · intro hx
    have hx256 := ha x hx
    have hle := Nat.div_le_div_right (c := 8) (sorted_le_getLastD a hs x hx)
    refine ⟨x / 8, x % 8, by omega, by omega, ?_, by omega⟩
    rw [hg _ _ (by omega) (by omega), Nat.div_add_mod]
    exact decide_eq_true hx

theorem getLastD_mem (a : List Nat) (h : a ≠ []) : a.getLastD 0 ∈ a := by
  rw [List.getLastD_eq_getLast?, List.getLast?_eq_some_getLast h]
  exact List.getLast_mem h

theorem alphabet_roundtrip (a : List Nat) (hs : a.Pairwise (· < ·)) (ha : ∀ s ∈ a, s < 256) (rest : Bits) :
    decodeAlphabet (encodeAlphabetBits a ++ rest) = some (a, rest) := by
  unfold encodeAlphabetBits
  by_cases h0 : a.length = 0
  · have : a = [] := List.eq_nil_of_length_eq_zero h0
    subst this
    simp [decodeAlphabet, readBit]
  · rw [if_neg h0]
    by_cases h256 : a.length = 256
    · rw [if_pos h256]
      have e := filter_mem_range a 256 hs ha
      have : a = List.range 256 := e.symm.trans
        (List.filter_eq_self.mpr (List.length_filter_eq_length_iff.mp (by rw [e, h256, List.length_range])))
      simp [decodeAlphabet, readBit, this]
    · rw [if_neg h256]
      have hne : a ≠ [] := fun e => h0 (by simp [e])
      have hlast : a.getLastD 0 < 256 := ha _ (getLastD_mem a hne)
      have e3 : a.getLastD 0 >>> 3 = a.getLastD 0 / 8 := by rw [Nat.shiftRight_eq_div_pow]
      rw [e3, arrayBits_eq]
      simp only [decodeAlphabet, readBit, List.cons_append, List.append_assoc]
      rw [readBits_natBits_lt _ 5 _ (by omega)]
      simp only
      have hlen : ((mkMasks a).take (a.getLastD 0 / 8 + 1)).length = a.getLastD 0 / 8 + 1 := by
        rw [List.length_take, mkMasks_length]; omega
      have hrb := readBytes_ofBytes ((mkMasks a).take (a.getLastD 0 / 8 + 1)) rest (by
        intro b hb
        have hb' := List.mem_of_mem_take hb
        obtain ⟨i, hi, rfl⟩ := List.getElem_of_mem hb'
        have := mkMasks_lt a i
        simpa [List.getD_eq_getElem?_getD, hi] using this)
      rw [hlen] at hrb
      rw [hrb]
      simp only
      rw [decodeMasks_mkMasks a hs ha]

theorem encodeAlphabet_some (a : List Nat) (hs : a.Pairwise (· < ·)) (ha : ∀ s ∈ a, s < 256) :
    encodeAlphabet a = some (encodeAlphabetBits a) := by
  unfold encodeAlphabet
  have : a.length ≤ 256 := by
    have h := List.length_filter_le (fun i => decide (i ∈ a)) (List.range 256)
    rw [filter_mem_range a 256 hs ha, List.length_range] at h
    exact h
  rw [if_neg (by omega)]

theorem logLoop_spec (fuel : Nat) : ∀ (k v : Nat), v < 2 ^ (k + fuel) →
    k ≤ logLoop fuel k v ∧ v < 2 ^ logLoop fuel k v ∧
      (logLoop fuel k v = k ∨ 2 ^ (logLoop fuel k v - 1) ≤ v) := by
  induction fuel with
  | zero =>
    intro k v h
    have e : logLoop 0 k v = k := rfl
    rw [e]
    exact ⟨Nat.le_refl _, by simpa using h, Or.inl rfl⟩
  | succ fuel ih =>
    intro k v h
    have e : logLoop (fuel + 1) k v = if 2 ^ k ≤ v then logLoop fuel (k + 1) v else k := rfl
    rw [e]
    by_cases hk : 2 ^ k ≤ v
    · rw [if_pos hk]
      obtain ⟨h1, h2, h3⟩ := ih (k + 1) v (by rw [show k + 1 + fuel = k + (fuel + 1) by omega]; exact h)
      refine ⟨by omega, h2, ?_⟩
      rcases h3 with h3 | h3
      · right; rw [h3]; simpa using hk
      · right; exact h3
    · rw [if_neg hk]
      exact ⟨Nat.le_refl _, by omega, Or.inl rfl⟩

theorem logMaxOf_spec (mx : Nat) :
    mx < 2 ^ logMaxOf mx ∧ (logMaxOf mx = 0 ∨ 2 ^ (logMaxOf mx - 1) ≤ mx) := by
  have h : mx < 2 ^ (0 + (mx + 1)) := by
    have := @Nat.lt_two_pow_self mx
    rw [Nat.zero_add, Nat.pow_succ]; omega
  have := logLoop_spec (mx + 1) 0 mx h
  exact ⟨this.2.1, this.2.2⟩

theorem logMaxOf_le (mx lr : Nat) (h : mx < 2 ^ lr) : logMaxOf mx ≤ lr := by
  rcases (logMaxOf_spec mx).2 with h0 | h1
  · omega
  · have : 2 ^ (logMaxOf mx - 1) < 2 ^ lr := Nat.lt_of_le_of_lt h1 h
    have := (Nat.pow_lt_pow_iff_right (by decide : 1 < 2)).mp this
    omega

theorem llrOf_eq (lr : Nat) (h8 : 8 ≤ lr) (h15 : lr ≤ 15) : llrOf lr = 4 := by
  have : lr = 8 ∨ lr = 9 ∨ lr = 10 ∨ lr = 11 ∨ lr = 12 ∨ lr = 13 ∨ lr = 14 ∨ lr = 15 := by omega
  rcases this with rfl | rfl | rfl | rfl | rfl | rfl | rfl | rfl <;> rfl

theorem foldl_max_ge (l : List Nat) : ∀ a, a ≤ l.foldl max a ∧ ∀ y ∈ l, y ≤ l.foldl max a := by
  induction l with
  | nil => intro a; simp
  | cons x xs ih =>
    intro a
    rw [List.foldl_cons]
    obtain ⟨h1, h2⟩ := ih (max a x)
    refine ⟨by omega, ?_⟩
    intro y hy
    rcases List.mem_cons.mp hy with rfl | hy
    · omega
    · exact h2 y hy

theorem foldl_max_le (l : List Nat) : ∀ a b, a ≤ b → (∀ y ∈ l, y ≤ b) → l.foldl max a ≤ b := by
  induction l with
  | nil => intro a b h _; simpa using h
  | cons x xs ih =>
    intro a b h hl
    rw [List.foldl_cons]
    apply ih
    · have := hl x (by simp); omega
    · intro y hy; exact hl y (List.mem_cons_of_mem _ hy)

theorem le_chunkMax (c : List Nat) (f : Nat) (hf : f ∈ c) : f - 1 ≤ chunkMax c := by
  unfold chunkMax
  exact (foldl_max_ge _ 0).2 (f - 1) (List.mem_map.mpr ⟨f, hf, rfl⟩)

theorem chunkMax_lt (c : List Nat) (b : Nat) (hb : 0 < b) (h : ∀ f ∈ c, f - 1 < b) : chunkMax c < b := by
  unfold chunkMax
  have := foldl_max_le (c.map (· - 1)) 0 (b - 1) (Nat.zero_le _) (by
    intro y hy
    obtain ⟨f, hf, rfl⟩ := List.mem_map.mp hy
    have := h f hf
    omega)
  omega

theorem decFreqs_enc (logMax bound : Nat) (hb : 1 < bound) (rest : Bits) : ∀ (c : List Nat),
    (∀ f ∈ c, 1 ≤ f ∧ f - 1 < 2 ^ logMax) → (logMax = 0 → ∀ f ∈ c, f = 1) →
    decFreqs c.length logMax bound (encFreqs logMax c ++ rest)
      = if ∀ f ∈ c, f < bound then some (c, rest) else none := by
  intro c
  induction c with
  | nil => intro _ _; simp [decFreqs, encFreqs]
  | cons f c ih =>
    intro h h0
    have ihc := ih (fun x hx => h x (List.mem_cons_of_mem _ hx))
      (fun e x hx => h0 e x (List.mem_cons_of_mem _ hx))
    obtain ⟨hf1, hf2⟩ := h f List.mem_cons_self
    have key : f < bound →
        (match (if ∀ x ∈ c, x < bound then some (c, rest) else none : Option (List Nat × Bits)) with
          | none => none
          | some (tl, r) => some (f :: tl, r))
        = if ∀ x ∈ f :: c, x < bound then some (f :: c, rest) else none := by
      intro hf
      by_cases hall : ∀ x ∈ c, x < bound
      · rw [if_pos hall, if_pos ((List.forall_mem_cons (p := (· < bound))).mpr ⟨hf, hall⟩)]
      · rw [if_neg hall, if_neg (fun hx => hall fun x hm => hx x (List.mem_cons_of_mem _ hm))]
    simp only [List.length_cons, decFreqs]
    by_cases hl : logMax = 0
    · have e1 : encFreqs logMax (f :: c) = encFreqs logMax c := by simp [encFreqs, hl]
      have e2 : f = 1 := h0 hl f List.mem_cons_self
      subst e2
      rw [if_pos hl, e1, ihc]
      exact key hb
    · have e1 : encFreqs logMax (f :: c) = natBits (f - 1) logMax ++ encFreqs logMax c := by
        simp [encFreqs, hl]
      rw [if_neg hl, e1, List.append_assoc, readBits_natBits_lt _ _ _ hf2]
      simp only
      rw [show 1 + (f - 1) = f by omega]
      by_cases hf : f < bound
      · rw [if_neg (by omega), ihc]
        exact key hf
      · rw [if_pos (by omega), if_neg (fun hx => hf (hx f List.mem_cons_self))]

theorem decFreqChunks_enc (chk llr lr bound : Nat) (hchk : 0 < chk) (hllr : lr < 2 ^ llr) (hb : 1 < bound)
    (rest : Bits) : ∀ (fuel : Nat) (fs : List Nat), fs.length ≤ fuel → (∀ f ∈ fs, 1 ≤ f ∧ f ≤ 2 ^ lr) →
    decFreqChunks fuel chk llr (2 ^ lr) bound fs.length (encFreqChunks fuel chk llr fs ++ rest)
      = if ∀ f ∈ fs, f < bound then some (fs, rest) else none := by
  intro fuel
  induction fuel with
  | zero =>
    intro fs hl _
    have : fs = [] := List.eq_nil_of_length_eq_zero (by omega)
    subst this; simp [decFreqChunks, encFreqChunks]
  | succ fuel ih =>
    intro fs hl hf
    simp only [decFreqChunks, encFreqChunks]
    by_cases h0 : fs.length = 0
    · rw [if_pos h0, if_pos h0]
      have : fs = [] := List.eq_nil_of_length_eq_zero h0
      subst this; simp
    · rw [if_neg h0, if_neg h0]
      have hpow : 0 < 2 ^ lr := Nat.two_pow_pos lr
      have hmx : chunkMax (fs.take chk) < 2 ^ lr := chunkMax_lt _ _ hpow (by
        intro f hfm
        have := (hf f (List.mem_of_mem_take hfm)).2
        omega)
      have hlm := (logMaxOf_spec (chunkMax (fs.take chk))).1
      have hle : 2 ^ logMaxOf (chunkMax (fs.take chk)) ≤ 2 ^ lr :=
        Nat.pow_le_pow_right (by decide) (logMaxOf_le _ _ hmx)
      have hlt := Nat.lt_of_le_of_lt (logMaxOf_le _ _ hmx) hllr
      have hdec := decFreqs_enc (logMaxOf (chunkMax (fs.take chk))) bound hb
        (encFreqChunks fuel chk llr (fs.drop chk) ++ rest) (fs.take chk)
        (by
          intro f hfm
          have h1 := le_chunkMax _ f hfm
          exact ⟨(hf f (List.mem_of_mem_take hfm)).1, by omega⟩)
        (by
          intro e f hfm
          have := (hf f (List.mem_of_mem_take hfm)).1
          have h1 := le_chunkMax _ f hfm
          rw [e] at hlm
          omega)
      have hrec := ih (fs.drop chk) (by rw [List.length_drop]; omega)
        (fun f hfm => hf f (List.mem_of_mem_drop hfm))
      rw [List.length_take] at hdec
      rw [List.length_drop] at hrec
      rw [List.append_assoc, List.append_assoc, readBits_natBits_lt _ _ _ hlt]
      simp only
      rw [if_neg (Nat.not_lt.mpr hle), hdec, show fs.length - min chk fs.length = fs.length - chk by omega]
      by_cases h1 : ∀ f ∈ fs.take chk, f < bound
      · rw [if_pos h1]
        simp only
        rw [hrec]
        by_cases h2 : ∀ f ∈ fs.drop chk, f < bound
        · have hall : ∀ f ∈ fs, f < bound := by
            rw [← List.take_append_drop chk fs]
            exact List.forall_mem_append.mpr ⟨h1, h2⟩
          rw [if_pos h2, if_pos hall]
          simp only [List.take_append_drop]
        · rw [if_neg h2, if_neg (fun h => h2 fun f hm => h f (List.mem_of_mem_drop hm))]
      · rw [if_neg h1, if_neg (fun h => h1 fun f hm => h f (List.mem_of_mem_take hm))]

theorem getD_set_self (l : List Nat) (i v : Nat) (h : i < l.length) : (l.set i v).getD i 0 = v := by
  simp [List.getD_eq_getElem?_getD, h]

theorem getD_set_ne (l : List Nat) (i j v : Nat) (h : i ≠ j) : (l.set i v).getD j 0 = l.getD j 0 := by
  simp [List.getD_eq_getElem?_getD, h]

theorem getD_replicate_zero (n i : Nat) : (List.replicate n 0).getD i 0 = 0 := by
  simp only [List.getD_eq_getElem?_getD, List.getElem?_replicate]
  split <;> rfl

theorem mem_le_sum (l : List Nat) (x : Nat) (h : x ∈ l) : x ≤ l.sum := by
  induction l with
  | nil => simp at h
  | cons y ys ih =>
    rw [List.sum_cons]
    rcases List.mem_cons.mp h with rfl | h
    · omega
    · have := ih h; omega

theorem setFreqs_length (a fs : List Nat) : ∀ t : List Nat, (setFreqs t a fs).length = t.length := by
  unfold setFreqs
  generalize a.zip fs = z
  induction z with
  | nil => intro t; rfl
  | cons p z ih => intro t; rw [List.foldl_cons, ih]; simp

theorem setFreqs_getD (g : Nat → Nat) (a : List Nat) : ∀ (t : List Nat) (i : Nat), (∀ s ∈ a, s < t.length) →
    (setFreqs t a (a.map g)).getD i 0 = if i ∈ a then g i else t.getD i 0 := by
  induction a with
  | nil => intro t i _; simp [setFreqs]
  | cons s a ih =>
    intro t i h
    have e : setFreqs t (s :: a) ((s :: a).map g) = setFreqs (t.set s (g s)) a (a.map g) := by
      simp [setFreqs]
    rw [e, ih (t.set s (g s)) i (by intro x hx; simpa using h x (List.mem_cons_of_mem _ hx))]
    have hs : s < t.length := h s (by simp)
    by_cases hia : i ∈ a
    · simp [hia]
    · rw [if_neg hia]
      by_cases his : i = s
      · subst his
        rw [getD_set_self _ _ _ hs]; simp
      · have : s ≠ i := fun e => his e.symm
        rw [getD_set_ne _ _ _ _ this]; simp [his, hia]

theorem ext_getD (l1 l2 : List Nat) (hl : l1.length = l2.length)
    (h : ∀ i, i < l1.length → l1.getD i 0 = l2.getD i 0) : l1 = l2 := by
  apply List.ext_getElem hl
  intro i h1 h2
  have := h i h1
  simpa [List.getD_eq_getElem?_getD, h1, h2] using this

/-- well-formed frequency table for alphabet `a` at log range `lr` (without the sum) -/
structure FreqTable (a f : List Nat) (lr : Nat) : Prop where
  sorted : a.Pairwise (· < ·)
  lt256 : ∀ s ∈ a, s < 256
  nonempty : a ≠ []
  len : f.length = 256
  zero_out : ∀ i, i ∉ a → f.getD i 0 = 0
  pos : ∀ s ∈ a, 1 ≤ f.getD s 0
  le_scale : ∀ s ∈ a, f.getD s 0 ≤ 2 ^ lr

theorem encodeFreqs_single (a f : List Nat) (lr : Nat) (h : a.length ≤ 1) : encodeFreqs a f lr = [] := by
  unfold encodeFreqs
  have : (a.drop 1).map (fun s => f.getD s 0) = [] := by
    rw [List.map_eq_nil_iff, List.drop_eq_nil_iff]; exact h
  rw [this]
  cases a.length <;> simp [encFreqChunks]

theorem chkSizeOf_pos (n : Nat) : 0 < chkSizeOf n := by
  unfold chkSizeOf; split <;> decide

theorem headD_mem (a : List Nat) (h : a ≠ []) : a.headD 0 ∈ a := by
  obtain ⟨x, xs, rfl⟩ := List.exists_cons_of_ne_nil h
  exact List.mem_cons_self

theorem sum_split (a f : List Nat) (hne : a ≠ []) :
    (a.map (fun s => f.getD s 0)).sum
      = f.getD (a.headD 0) 0 + ((a.drop 1).map (fun s => f.getD s 0)).sum := by
  obtain ⟨x, xs, rfl⟩ := List.exists_cons_of_ne_nil hne
  simp

theorem decFreqChunks_table (a f : List Nat) (lr : Nat) (hlr : 8 ≤ lr ∧ lr ≤ 15)
    (ht : FreqTable a f lr) (rest : Bits) :
    decFreqChunks a.length (chkSizeOf a.length) (llrOf lr) (2 ^ lr) (2 ^ lr) (a.length - 1)
        (encodeFreqs a f lr ++ rest)
      = if ∀ x ∈ (a.drop 1).map (fun s => f.getD s 0), x < 2 ^ lr
        then some ((a.drop 1).map (fun s => f.getD s 0), rest) else none := by
  have h := decFreqChunks_enc (chkSizeOf a.length) (llrOf lr) lr (2 ^ lr) (chkSizeOf_pos _)
    (by rw [llrOf_eq lr hlr.1 hlr.2]; omega) (Nat.one_lt_two_pow (by omega)) rest a.length
    ((a.drop 1).map (fun s => f.getD s 0)) (by simp) (by
      intro x hx
      obtain ⟨s, hs, rfl⟩ := List.mem_map.mp hx
      exact ⟨ht.pos s (List.mem_of_mem_drop hs), ht.le_scale s (List.mem_of_mem_drop hs)⟩)
  rw [List.length_map, List.length_drop] at h
  exact h

/-- whatever the sum of `f`: if the table decoder accepts an encoder-produced frequency section, it has read
    exactly the written frequencies and inferred the first one from the scale -/
theorem decodeFreqTable_enc (a f : List Nat) (lr : Nat) (hlr : 8 ≤ lr ∧ lr ≤ 15)
    (ht : FreqTable a f lr) (rest : Bits) (tbl : List Nat) (r : Bits)
    (h : decodeFreqTable a lr (encodeFreqs a f lr ++ rest) = some (tbl, r)) :
    r = rest ∧ ((a.drop 1).map (fun s => f.getD s 0)).sum < 2 ^ lr ∧
    tbl.getD (a.headD 0) 0 = 2 ^ lr - ((a.drop 1).map (fun s => f.getD s 0)).sum := by
  rw [decodeFreqTable, decFreqChunks_table a f lr hlr ht] at h
  by_cases hall : ∀ x ∈ (a.drop 1).map (fun s => f.getD s 0), x < 2 ^ lr
  · rw [if_pos hall] at h
    simp only at h
    by_cases hsum : 2 ^ lr ≤ ((a.drop 1).map (fun s => f.getD s 0)).sum
    · rw [if_pos hsum] at h; cases h
    · rw [if_neg hsum] at h
      injection h with h
      injection h with h1 h2
      refine ⟨h2.symm, by omega, ?_⟩
      rw [← h1]
      apply getD_set_self
      rw [setFreqs_length, List.length_replicate]
      exact ht.lt256 _ (headD_mem a ht.nonempty)
  · rw [if_neg hall] at h; cases h

theorem decodeFreqTable_ok (a f : List Nat) (lr : Nat) (hlr : 8 ≤ lr ∧ lr ≤ 15)
    (ht : FreqTable a f lr) (hsum : (a.map (fun s => f.getD s 0)).sum = 2 ^ lr) (rest : Bits) :
    decodeFreqTable a lr (encodeFreqs a f lr ++ rest) = some (f, rest) := by
  have hsp := sum_split a f ht.nonempty
  have ha0 := headD_mem a ht.nonempty
  have hpos0 := ht.pos _ ha0
  have hall : ∀ x ∈ (a.drop 1).map (fun s => f.getD s 0), x < 2 ^ lr := by
    intro x hx
    have := mem_le_sum _ _ hx
    omega
  rw [decodeFreqTable, decFreqChunks_table a f lr hlr ht, if_pos hall]
  simp only
  rw [if_neg (by omega)]
  congr 2
  have hlenS : (setFreqs (List.replicate 256 0) (a.drop 1) ((a.drop 1).map fun s => f.getD s 0)).length = 256 := by
    rw [setFreqs_length, List.length_replicate]
  apply ext_getD
  · rw [List.length_set, hlenS, ht.len]
  · intro i _
    by_cases hi0 : a.headD 0 = i
    · subst hi0
      rw [getD_set_self _ _ _ (by rw [hlenS]; exact ht.lt256 _ ha0)]
      omega
    · rw [getD_set_ne _ _ _ _ hi0, setFreqs_getD (fun s => f.getD s 0) (a.drop 1) (List.replicate 256 0) i
        (by intro s hs; rw [List.length_replicate]; exact ht.lt256 s (List.mem_of_mem_drop hs))]
      by_cases hia : i ∈ a.drop 1
      · rw [if_pos hia]
      · rw [if_neg hia, getD_replicate_zero, ht.zero_out i]
        intro hmem
        obtain ⟨x, xs, rfl⟩ := List.exists_cons_of_ne_nil ht.nonempty
        rcases List.mem_cons.mp hmem with e | e
        · exact hi0 e.symm
        · exact hia e

theorem encodeFreqs_if (a f : List Nat) (lr : Nat) :
    (if a.length ≤ 1 then [] else encodeFreqs a f lr) = encodeFreqs a f lr := by
  split
  · rename_i h; rw [encodeFreqs_single a f lr h]
  · rfl

theorem length_ne_zero_of_ne_nil (a : List Nat) (h : a ≠ []) : ¬ a.length = 0 := by
  intro e; exact h (List.eq_nil_of_length_eq_zero e)

/-- what both header decoders do once the alphabet and the log range are read -/
def hdrTail (a : List Nat) (lr : Nat) (bs : Bits) : Option ((List Nat × List Nat × Nat) × Bits) :=
  match decodeFreqTable a lr bs with
  | none => none
  | some (tbl, r2) => some ((a, tbl, lr), r2)

theorem ansDecodeHeader_unfold (a f : List Nat) (lr : Nat) (hlr : 8 ≤ lr ∧ lr ≤ 15)
    (ht : FreqTable a f lr) (rest : Bits) :
    ansDecodeHeader (ansEncodeHeader a f lr ++ rest) = hdrTail a lr (encodeFreqs a f lr ++ rest) := by
  unfold ansDecodeHeader ansEncodeHeader
  rw [encodeFreqs_if, List.append_assoc, List.append_assoc, readBits_natBits_lt _ 3 _ (by omega)]
  simp only
  rw [alphabet_roundtrip a ht.sorted ht.lt256]
  simp only
  rw [if_neg (length_ne_zero_of_ne_nil a ht.nonempty), show 8 + (lr - 8) = lr by omega]
  rfl

theorem rangeDecodeHeader_unfold (a f : List Nat) (lr : Nat) (hlr : 8 ≤ lr ∧ lr ≤ 15)
    (ht : FreqTable a f lr) (rest : Bits) :
    rangeDecodeHeader (rangeEncodeHeader a f lr ++ rest) = hdrTail a lr (encodeFreqs a f lr ++ rest) := by
  unfold rangeDecodeHeader rangeEncodeHeader
  rw [if_neg (length_ne_zero_of_ne_nil a ht.nonempty), List.append_assoc,
    alphabet_roundtrip a ht.sorted ht.lt256]
  simp only
  rw [if_neg (length_ne_zero_of_ne_nil a ht.nonempty), List.append_assoc,
    readBits_natBits_lt _ 3 _ (by omega)]
  simp only
  rw [show 8 + (lr - 8) = lr by omega]
  rfl

theorem hdrTail_ok (a f : List Nat) (lr : Nat) (hlr : 8 ≤ lr ∧ lr ≤ 15)
    (ht : FreqTable a f lr) (hsum : (a.map (fun s => f.getD s 0)).sum = 2 ^ lr) (rest : Bits) :
    hdrTail a lr (encodeFreqs a f lr ++ rest) = some ((a, f, lr), rest) := by
  unfold hdrTail
  rw [decodeFreqTable_ok a f lr hlr ht hsum]

theorem hdrTail_dec (a f : List Nat) (lr : Nat) (hlr : 8 ≤ lr ∧ lr ≤ 15)
    (ht : FreqTable a f lr) (rest : Bits) (a' f' : List Nat) (lr' : Nat) (r : Bits)
    (h : hdrTail a lr (encodeFreqs a f lr ++ rest) = some ((a', f', lr'), r)) :
    a' = a ∧ lr' = lr ∧ r = rest ∧
      f'.getD (a.headD 0) 0 + ((a.drop 1).map (fun s => f.getD s 0)).sum = 2 ^ lr := by
  unfold hdrTail at h
  cases hd : decodeFreqTable a lr (encodeFreqs a f lr ++ rest) with
  | none =>
    rw [hd] at h
    cases h
  | some p =>
    rw [hd] at h
    obtain ⟨h1, h2, h3⟩ := decodeFreqTable_enc a f lr hlr ht rest p.1 p.2 hd
    cases h
    exact ⟨rfl, rfl, h1, by omega⟩

theorem ans_header_roundtrip (a f : List Nat) (lr : Nat) (hlr : 8 ≤ lr ∧ lr ≤ 15)
    (ht : FreqTable a f lr) (hsum : (a.map (fun s => f.getD s 0)).sum = 2 ^ lr) (rest : Bits) :
    ansDecodeHeader (ansEncodeHeader a f lr ++ rest) = some ((a, f, lr), rest) := by
  rw [ansDecodeHeader_unfold a f lr hlr ht, hdrTail_ok a f lr hlr ht hsum]

theorem range_header_roundtrip (a f : List Nat) (lr : Nat) (hlr : 8 ≤ lr ∧ lr ≤ 15)
    (ht : FreqTable a f lr) (hsum : (a.map (fun s => f.getD s 0)).sum = 2 ^ lr) (rest : Bits) :
    rangeDecodeHeader (rangeEncodeHeader a f lr ++ rest) = some ((a, f, lr), rest) := by
  rw [rangeDecodeHeader_unfold a f lr hlr ht, hdrTail_ok a f lr hlr ht hsum]

/-! ### sum of a table = sum over its alphabet (bridge to C16) -/

theorem eq_map_getD_range (f : List Nat) : f = (List.range f.length).map (fun i => f.getD i 0) := by
  apply List.ext_getElem
  · simp
  · intro i h1 h2
    simp [List.getD_eq_getElem?_getD, h1]

theorem sum_map_filter_mem (g : Nat → Nat) (a : List Nat) (hz : ∀ i, i ∉ a → g i = 0) :
    ∀ l : List Nat, (l.map g).sum = ((l.filter (fun i => decide (i ∈ a))).map g).sum := by
  intro l
  induction l with
  | nil => rfl
  | cons x xs ih =>
    by_cases hx : x ∈ a
    · simp [hx, ih]
    · simp [hx, ih, hz x hx]

theorem sum_over_alphabet (a f : List Nat) (hs : a.Pairwise (· < ·)) (hlt : ∀ s ∈ a, s < f.length)
    (hz : ∀ i, i ∉ a → f.getD i 0 = 0) : f.sum = (a.map (fun s => f.getD s 0)).sum := by
  conv => lhs; rw [eq_map_getD_range f]
  rw [sum_map_filter_mem (fun i => f.getD i 0) a hz, filter_mem_range a f.length hs hlt]

theorem sum_eq_zero (l : List Nat) (h : ∀ x ∈ l, x = 0) : l.sum = 0 :=
  List.sum_eq_zero_iff_forall_eq_nat.mpr h

theorem getD_eq_getElem {α : Type} (l : List α) (d : α) {i : Nat} (h : i < l.length) : l.getD i d = l[i] := by
  rw [List.getD_eq_getElem?_getD, List.getElem?_eq_getElem h]
  rfl

theorem getD_le_sum (f : List Nat) (i : Nat) : f.getD i 0 ≤ f.sum := by
  by_cases h : i < f.length
  · rw [getD_eq_getElem f 0 h]
    exact mem_le_sum _ _ (List.getElem_mem h)
  · have hn : f[i]? = none := List.getElem?_eq_none (by omega)
    have : f.getD i 0 = 0 := by rw [List.getD_eq_getElem?_getD, hn]; rfl
    omega

theorem readBits_lt (n : Nat) (bs : Bits) (v : Nat) (r : Bits) (h : readBits n bs = some (v, r)) : v < 2 ^ n := by
  unfold readBits at h
  split at h
  · simp only [Option.some.injEq, Prod.mk.injEq] at h
    rw [← h.1]
    exact bitsNat_take_lt n bs
  · cases h

end Kanzi.EntSmall
