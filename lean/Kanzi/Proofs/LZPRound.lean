/-
LZP round trip: one iteration of Forward (`encLit_ok`, `encStep_ok`), the iteration
of Inverse that answers it (`dec_of_lit`, `dec_of_match`), and one statement for each of the two loops of
Forward (`sim_tail`, `sim_main`): the loop does not fault, its output extends what was written before (`Ext`),
and the loop of Inverse on that output runs in lock step with it: same position, same context, same hash table
at every loop head, and the decoder has rebuilt exactly the prefix of the block the encoder has consumed.
The statements are by induction on the encoder's fuel and speak of the FINAL output `r.2` of the encoder
loop: the decoder reads `r.2` from where the encoder was writing (`out.size`), so the encoder's suffix run
must be known before the decoder step in front of it can be stated (`sim_step`).  `lzp_roundtrip` puts the
header bytes in front.
-/
import Kanzi.Proofs.LZP

namespace Kanzi.LZP

/-! ## what the encoder appends -/

/-- `o` is `out` with more bytes after it: byte values, if the block consists of byte values -/
def Ext (src out o : Array Nat) : Prop :=
  ∃ l : List Nat, o.toList = out.toList ++ l ∧ ((∀ y ∈ src.toList, y < 256) → ∀ y ∈ l, y < 256)

theorem Ext.refl (src out : Array Nat) : Ext src out out :=
  ⟨[], (List.append_nil _).symm, fun _ _ h => nomatch h⟩

theorem Ext.trans {src a b c : Array Nat} (h1 : Ext src a b) (h2 : Ext src b c) : Ext src a c := by
  obtain ⟨l1, e1, hb1⟩ := h1
  obtain ⟨l2, e2, hb2⟩ := h2
  exact ⟨l1 ++ l2, by rw [e2, e1, List.append_assoc],
    fun hb y hy => (List.mem_append.1 hy).elim (hb1 hb y) (hb2 hb y)⟩

/-! ## one encoder iteration under the loop invariants -/

def LitShape (src : Array Nat) (i ctx ref : Nat) (out : Array Nat) (s : St) : Prop :=
  ∃ v, src[i]? = some v ∧ s.i = i + 1 ∧ s.ctx = shiftCtx ctx v ∧
    s.out = out ++ (if ref ≠ 0 ∧ v = MATCH_FLAG then [v, 0xFF] else [v])

/-- shape of the state after a match iteration: a verified repeat of `best ≥ 64` bytes, the context reloaded
    from its last four bytes, and the flag followed by length bytes `l` that code `best - 64` - unless
    `emitLen` stopped because the output reached `dstEnd` (last disjunct; Forward then declines the block) -/
def MatchShape (src : Array Nat) (dstEnd i ref : Nat) (out : Array Nat) (s : St) : Prop :=
  ∃ (best : Nat) (l : List Nat), 64 ≤ best ∧ ref ≠ 0 ∧ i + best ≤ src.size ∧
    (∀ k, k < best → src[i + k]? = src[ref + k]?) ∧ le32 src (i + best - 4) = some s.ctx ∧ s.i = i + best ∧
    s.out = out ++ (MATCH_FLAG :: l) ∧ (∀ y ∈ l, y < 256) ∧
    ((∃ k r, best - 64 = 254 * k + r ∧ r < 254 ∧ l = List.replicate k 0xFE ++ [r]) ∨ dstEnd ≤ s.out.size)

theorem encLit_ok (src : Array Nat) (dstLen i ctx ref : Nat) (tbl out : Array Nat) (hi : i < src.size)
    (hd : out.size + 2 ≤ dstLen) :
    ∃ s, encLit src dstLen i ctx ref tbl out = .ok s ∧ s.tbl = tbl ∧ LitShape src i ctx ref out s := by
  have hv := Array.getElem?_eq_getElem hi
  unfold encLit
  rw [hv]
  simp only []
  rw [wr_ok _ _ _ (by simp; omega), Out.bind_ok]
  by_cases hesc : ref ≠ 0 ∧ src[i] = MATCH_FLAG
  · rw [if_pos hesc, wr_ok _ _ _ (by simp; omega), Out.bind_ok, appendList_assoc]
    exact ⟨_, rfl, rfl, _, hv, rfl, rfl, by rw [if_pos hesc]; rfl⟩
  · rw [if_neg hesc, Out.bind_ok]
    exact ⟨_, rfl, rfl, _, hv, rfl, rfl, by rw [if_neg hesc]⟩

theorem bestLen_ok (src : Array Nat) (i ref : Nat) (hi : i + 64 ≤ src.size) (hr : ref ≤ i) :
    ∃ b, bestLen src i ref = .ok b ∧ i + b ≤ src.size ∧ (b ≠ 0 → ref ≠ 0) ∧
      ∀ k, k < b → src[i + k]? = src[ref + k]? := by
  unfold bestLen
  split
  · rename_i hne
    obtain ⟨x, hx⟩ := le64_some src (i + MIN_MATCH64 - 8) (by rw [MIN_MATCH64_eq]; omega)
    obtain ⟨y, hy⟩ := le64_some src (ref + MIN_MATCH64 - 8) (by rw [MIN_MATCH64_eq]; omega)
    rw [hx, hy]
    simp only []
    split
    · obtain ⟨r, hr'⟩ := findMatch_ok src i ref (src.size - i) (by omega) hr ((src.size - i) / 8 + 1) 0
        (by omega) (by omega)
      obtain ⟨_, h2, h3⟩ := findMatch_spec src i ref (src.size - i) _ 0 r hr' (by omega) (by intro k hk; omega)
      exact ⟨r, hr', by omega, fun _ => hne, h3⟩
    · exact ⟨0, rfl, by omega, by simp, by intro k hk; omega⟩
  · exact ⟨0, rfl, by omega, by simp, by intro k hk; omega⟩

theorem encStep_ok (src : Array Nat) (dstLen dstEnd i ctx : Nat) (tbl out : Array Nat)
    (hi : i + 64 < src.size) (ho : out.size < dstEnd) (hd : dstEnd + 2 ≤ dstLen)
    (hinv : ∀ k, tbl.getD k 0 < i) :
    ∃ s, encStep src dstLen dstEnd i ctx tbl out = .ok s ∧ s.tbl = tbl.setIfInBounds (hash ctx) i ∧
      (LitShape src i ctx (tbl.getD (hash ctx) 0) out s ∨ MatchShape src dstEnd i (tbl.getD (hash ctx) 0) out s) := by
  have hr := hinv (hash ctx)
  obtain ⟨b, hb, hb1, hb2, hb3⟩ := bestLen_ok src i (tbl.getD (hash ctx) 0) (by omega) (by omega)
  unfold encStep
  simp only []
  rw [hb]
  simp only []
  split
  · obtain ⟨s, e, et, hl⟩ := encLit_ok src dstLen i ctx (tbl.getD (hash ctx) 0) (tbl.setIfInBounds (hash ctx) i)
      out (by omega) (by omega)
    exact ⟨s, e, et, Or.inl hl⟩
  · rename_i h64
    rw [MIN_MATCH64_eq] at h64 ⊢
    obtain ⟨c, hc⟩ := le32_some src (i + b - 4) (by omega)
    rw [hc]
    simp only []
    rw [wr_ok _ _ _ (by simp; omega), Out.bind_ok]
    obtain ⟨l, e, hne, hlb, hsh⟩ := emitLen_spec dstLen dstEnd hd ((b - 64) / 254 + 1) (b - 64)
      (out ++ [MATCH_FLAG]) (by omega) (by simp; omega)
    rw [e, Out.bind_ok, appendList_assoc]
    refine ⟨_, rfl, rfl, Or.inr ⟨b, l, by omega, hb2 (by omega), hb1, hb3, hc, rfl, rfl, hlb, ?_⟩⟩
    rcases hsh with hsh | hsh
    · exact Or.inl hsh
    · right
      simp at hsh ⊢
      omega

/-! ## after an encoder iteration: progress, table invariant, extension of the output -/

theorem LitShape.ext {src : Array Nat} {i ctx ref : Nat} {out : Array Nat} {s : St}
    (h : LitShape src i ctx ref out s) : Ext src out s.out := by
  obtain ⟨v, hv, _, _, ho⟩ := h
  refine ⟨_, by rw [ho, Array.toList_appendList], fun hb y hy => ?_⟩
  have hlt := hb v (List.mem_of_getElem? (Array.getElem?_toList ▸ hv))
  by_cases hesc : ref ≠ 0 ∧ v = MATCH_FLAG
  · rw [if_pos hesc] at hy
    simp at hy
    omega
  · rw [if_neg hesc] at hy
    simp at hy
    omega

theorem LitShape.next {src : Array Nat} {i ctx ref : Nat} {out : Array Nat} {s : St}
    (h : LitShape src i ctx ref out s) : i < s.i ∧ s.i ≤ src.size := by
  obtain ⟨v, hv, e, _⟩ := h
  have := (Array.getElem?_eq_some_iff.1 hv).1
  omega

theorem MatchShape.ext {src : Array Nat} {dstEnd i ref : Nat} {out : Array Nat} {s : St}
    (h : MatchShape src dstEnd i ref out s) : Ext src out s.out := by
  obtain ⟨_, l, _, _, _, _, _, _, ho, hl, _⟩ := h
  refine ⟨_, by rw [ho, Array.toList_appendList], fun _ y hy => ?_⟩
  rcases List.mem_cons.1 hy with rfl | hy
  · decide
  · exact hl y hy

theorem shape_next {src : Array Nat} {dstEnd i ctx ref h : Nat} {tbl out : Array Nat} {s : St}
    (hinv : ∀ k, tbl.getD k 0 < i) (etbl : s.tbl = tbl.setIfInBounds h i)
    (hs : LitShape src i ctx ref out s ∨ MatchShape src dstEnd i ref out s) :
    i < s.i ∧ s.i ≤ src.size ∧ (∀ k, s.tbl.getD k 0 < s.i) ∧ Ext src out s.out := by
  have hlt : i < s.i ∧ s.i ≤ src.size := by
    rcases hs with hl | ⟨best, _, h64, _, hb, _, _, e, _⟩
    · exact hl.next
    · omega
  refine ⟨hlt.1, hlt.2, ?_, hs.elim LitShape.ext MatchShape.ext⟩
  rw [etbl]
  exact tbl_inv_step tbl _ i _ hinv hlt.1

theorem fuel_step {n f i j : Nat} (h : n < f + 1 + i) (hj : i < j) : n < f + j := by
  omega

/-! ## the lock-step invariant -/

/-- the decoder has rebuilt exactly the `i` bytes the encoder has consumed; every position stored in
    the (common) hash table lies below `i` -/
structure Sync (src : Array Nat) (i : Nat) (tbl dout : Array Nat) : Prop where
  hi : i ≤ src.size
  hinv : ∀ k, tbl.getD k 0 < i
  hout : dout.toList = src.toList.take i

theorem Sync.size {src : Array Nat} {i : Nat} {tbl dout : Array Nat} (h : Sync src i tbl dout) : dout.size = i := by
  rw [← Array.length_toList, h.hout]
  have := h.hi
  simp; omega

theorem dec_of_lit (src a : Array Nat) (n mm i ctx : Nat) (tbl out dout : Array Nat) (s : St) (rest : List Nat)
    (hs : Sync src i tbl dout) (hn : src.size ≤ n) (hl : LitShape src i ctx (tbl.getD (hash ctx) 0) out s)
    (hrest : a.toList = s.out.toList ++ rest) :
    ∃ sd, decStep a n mm out.size ctx tbl dout = .ok sd ∧ sd.i = s.out.size ∧ sd.ctx = s.ctx ∧
      sd.tbl = tbl.setIfInBounds (hash ctx) i ∧ Sync src s.i sd.tbl sd.out ∧ out.size < s.out.size := by
  have hsz := hs.size
  obtain ⟨v, hv, hsi, hsc, hso⟩ := hl
  have hi : i < src.size := (Array.getElem?_eq_some_iff.1 hv).1
  have hsync : Sync src (i + 1) (tbl.setIfInBounds (hash ctx) i) (dout ++ [v]) := by
    refine ⟨by omega, tbl_inv_step tbl _ i (i + 1) hs.hinv (by omega), ?_⟩
    have hi' : i < src.toList.length := by simpa using hi
    rw [Array.toList_appendList, hs.hout, ← List.take_append_getElem hi']
    congr 2
    rw [← Array.getElem?_toList, List.getElem?_eq_getElem hi'] at hv
    exact (Option.some.inj hv).symm
  rw [hso, Array.toList_appendList, List.append_assoc] at hrest
  rw [hso, hsi, hsc]
  by_cases hesc : tbl.getD (hash ctx) 0 ≠ 0 ∧ v = MATCH_FLAG
  · rw [if_pos hesc] at hrest ⊢
    obtain ⟨hr0, rfl⟩ := hesc
    have h0 := get_split' a out _ rest hrest 0 (by simp)
    have h1 := get_split' a out _ rest hrest 1 (by simp)
    simp only [Nat.add_zero, List.getElem?_cons_zero, List.getElem?_cons_succ] at h0 h1
    rw [decStep_esc h0 hr0 h1, wr_ok _ _ _ (by simp; omega), hsz]
    exact ⟨_, rfl, by simp, rfl, rfl, hsync, by simp; omega⟩
  · rw [if_neg hesc] at hrest ⊢
    have h0 := get_split' a out _ rest hrest 0 (by simp)
    simp only [Nat.add_zero, List.getElem?_cons_zero] at h0
    have hc : v ≠ MATCH_FLAG ∨ tbl.getD (hash ctx) 0 = 0 :=
      Decidable.or_iff_not_not_and_not.2 fun h => hesc ⟨h.2, Decidable.not_not.1 h.1⟩
    rw [decStep_lit h0 hc, wr_ok _ _ _ (by simp; omega), hsz]
    exact ⟨_, rfl, by simp, rfl, rfl, hsync, by simp⟩

/-- Inverse reads back the flag and the length bytes Forward wrote for a match -/
theorem read_len (a out : Array Nat) (k r mm : Nat) (rest : List Nat) (hr : r < 254)
    (h : a.toList = out.toList ++ ((MATCH_FLAG :: (List.replicate k 0xFE ++ [r])) ++ rest)) :
    a[out.size]? = some MATCH_FLAG ∧ (∃ y, a[out.size + 1]? = some y ∧ y ≠ 0xFF) ∧
      skipFE a (a.size - (out.size + 1)) (out.size + 1) mm = (out.size + 1 + k, mm + 254 * k) ∧
      a[out.size + 1 + k]? = some r := by
  have hlen : (MATCH_FLAG :: (List.replicate k 0xFE ++ [r])).length = k + 2 := by simp
  have h0 := get_split' a out _ rest h 0 (by rw [hlen]; omega)
  rw [Nat.add_zero, List.getElem?_cons_zero] at h0
  have hfe : ∀ q, q < k → a[out.size + 1 + q]? = some 0xFE := by
    intro q hq
    rw [Nat.add_assoc, get_split' a out _ rest h (1 + q) (by rw [hlen]; omega), Nat.add_comm 1 q,
      List.getElem?_cons_succ, List.getElem?_append_left (by simpa using hq), List.getElem?_replicate, if_pos hq]
  have hlast : a[out.size + 1 + k]? = some r := by
    rw [Nat.add_assoc, get_split' a out _ rest h (1 + k) (by rw [hlen]; omega), Nat.add_comm 1 k,
      List.getElem?_cons_succ, List.getElem?_append_right (by simp)]
    simp
  have hy : ∃ y, a[out.size + 1]? = some y ∧ y ≠ 0xFF := by
    cases k with
    | zero => exact ⟨r, hlast, by omega⟩
    | succ k => exact ⟨0xFE, hfe 0 (by omega), by omega⟩
  have hsz := (Array.getElem?_eq_some_iff.1 hlast).1
  exact ⟨h0, hy, skipFE_spec a r (by omega) k _ _ mm hfe hlast (by omega), hlast⟩

theorem dec_of_match (src a : Array Nat) (n dstEnd i ctx : Nat) (tbl out dout : Array Nat) (s : St)
    (rest : List Nat) (hs : Sync src i tbl dout) (hn : src.size ≤ n)
    (hm : MatchShape src dstEnd i (tbl.getD (hash ctx) 0) out s) (hlt : s.out.size < dstEnd)
    (hrest : a.toList = s.out.toList ++ rest) :
    ∃ sd, decStep a n 64 out.size ctx tbl dout = .ok sd ∧ sd.i = s.out.size ∧ sd.ctx = s.ctx ∧
      sd.tbl = tbl.setIfInBounds (hash ctx) i ∧ Sync src s.i sd.tbl sd.out ∧ out.size < s.out.size := by
  have hsz := hs.size
  obtain ⟨best, l, h64, hr0, hb, hmatch, hc, hsi, hso, _, hsh⟩ := hm
  rcases hsh with ⟨k, r, e1, e2, e3⟩ | hbad
  · have hbest : best = 64 + 254 * k + r := by omega
    subst hbest
    subst e3
    have hsosz : s.out.size = out.size + 1 + (k + 1) := by rw [hso]; simp
    rw [hso, Array.toList_appendList, List.append_assoc] at hrest
    obtain ⟨h0, ⟨y, hy, hyF⟩, hp, hlast⟩ := read_len a out k r 64 rest e2 hrest
    obtain ⟨o, hcopy, ho⟩ := copySeq_spec src.toList (64 + 254 * k + r) _ i dout hs.hout (hs.hinv (hash ctx))
      (by rw [Array.length_toList]; exact hb) (by
        intro q hq
        rw [Array.getElem?_toList, Array.getElem?_toList]
        exact hmatch q hq)
    have hosz : o.size = i + (64 + 254 * k + r) := by
      rw [← Array.length_toList, ho, List.length_take, Array.length_toList]
      omega
    have hctx : le32 o (o.size - 4) = some s.ctx := by
      rw [← hc]
      apply le32_congr
      intro q hq
      rw [← Array.getElem?_toList, ho, List.getElem?_take, if_pos (by omega), Array.getElem?_toList, hosz]
    rw [decStep_match h0 hr0 hy hyF hp hlast (by omega) hcopy hctx, hsz, hsi]
    exact ⟨_, rfl, hsosz.symm, rfl, rfl, ⟨hb, tbl_inv_step tbl _ i _ hs.hinv (by omega), ho⟩, by omega⟩
  · omega  -- the length bytes were cut off at `dstEnd`: excluded by `hlt`

/-- the loop of Inverse on `a`, started at input position `p` with enough fuel, ends with the block `src` and has
    the loop heads `T` -/
def Lock (src a : Array Nat) (n mm p ctx : Nat) (tbl dout : Array Nat) (T : List Snap) : Prop :=
  ∀ F, a.size + 1 ≤ F + p →
    invLoop a n mm F p ctx tbl dout = .ok (a.size, src) ∧ invLoopTr a n mm F p ctx tbl dout = T

theorem sim_step (src a : Array Nat) (n mm i ctx : Nat) (tbl out dout : Array Nat) (s : St) (T : List Snap)
    (hs : Sync src i tbl dout) (etbl : s.tbl = tbl.setIfInBounds (hash ctx) i) (hsize : s.out.size ≤ a.size)
    (hdec : ∃ sd, decStep a n mm out.size ctx tbl dout = .ok sd ∧ sd.i = s.out.size ∧ sd.ctx = s.ctx ∧
      sd.tbl = tbl.setIfInBounds (hash ctx) i ∧ Sync src s.i sd.tbl sd.out ∧ out.size < s.out.size)
    (ih : ∀ dout', Sync src s.i s.tbl dout' → Lock src a n mm s.out.size s.ctx s.tbl dout' T) :
    Lock src a n mm out.size ctx tbl dout ((i, ctx, tbl) :: T) := by
  intro F hF
  obtain ⟨sd, hdec, d1, d2, d3, hs', hgrow⟩ := hdec
  rw [← etbl] at d3
  rw [d3] at hs'
  cases F with
  | zero => omega
  | succ F =>
    have hlt : out.size < a.size := Nat.lt_of_lt_of_le hgrow hsize
    have ih := ih sd.out hs' F (by omega)
    rw [invLoop, invLoopTr, if_pos hlt, if_pos hlt, hdec]
    simp only []
    rw [d1, d2, d3, ih.1, ih.2, hs.size]
    exact ⟨rfl, rfl⟩

theorem sim_tail (src : Array Nat) (dstLen dstEnd mm : Nat) (hd : dstEnd + 2 ≤ dstLen) :
    ∀ (f i ctx : Nat) (tbl out : Array Nat), i ≤ src.size → src.size < f + i →
      ∃ r, fwdTail src dstLen dstEnd f i ctx tbl out = .ok r ∧ Ext src out r.2 ∧
        (r.1 = src.size → ∀ n, src.size ≤ n → ∀ dout, Sync src i tbl dout →
          Lock src r.2 n mm out.size ctx tbl dout (fwdTailTr src dstLen dstEnd f i ctx tbl out)) := by
  intro f
  induction f with
  | zero => intro i ctx tbl out h1 h2; omega
  | succ f ih =>
    intro i ctx tbl out h1 h2
    unfold fwdTail fwdTailTr
    by_cases hc : i < src.size ∧ out.size < dstEnd
    · rw [if_pos hc, if_pos hc]
      obtain ⟨s, e, etbl, hl⟩ := encLit_ok src dstLen i ctx (tbl.getD (hash ctx) 0)
        (tbl.setIfInBounds (hash ctx) i) out hc.1 (by omega)
      rw [e]
      simp only []
      obtain ⟨r, hr, hx, hsim⟩ := ih s.i s.ctx s.tbl s.out hl.next.2 (fuel_step h2 hl.next.1)
      refine ⟨r, hr, hl.ext.trans hx, fun hr1 n hn dout hs => ?_⟩
      obtain ⟨rest, hrest, _⟩ := hx
      exact sim_step src r.2 n mm i ctx tbl out dout s _ hs etbl (size_split' r.2 s.out [] rest hrest)
        (dec_of_lit src r.2 n mm i ctx tbl out dout s rest hs hn hl hrest) (hsim hr1 n hn)
    · rw [if_neg hc, if_neg hc]
      refine ⟨_, rfl, Ext.refl _ _, fun hr1 n hn dout hs F hF => ?_⟩
      simp only [] at hr1 hF ⊢
      cases F with
      | zero => omega
      | succ F =>
        unfold invLoop invLoopTr
        rw [if_neg (Nat.lt_irrefl _), if_neg (Nat.lt_irrefl _)]
        refine ⟨?_, rfl⟩
        have : dout = src := by
          apply Array.toList_inj.1
          rw [hs.hout, hr1]
          exact List.take_of_length_le (by simp)
        rw [this]

theorem sim_main (src : Array Nat) (dstLen dstEnd : Nat) (hd : dstEnd + 2 ≤ dstLen) :
    ∀ (f i ctx : Nat) (tbl out : Array Nat), i ≤ src.size → src.size < f + i → (∀ k, tbl.getD k 0 < i) →
      ∃ r, fwdMain src dstLen dstEnd f i ctx tbl out = .ok r ∧ Ext src out r.2 ∧
        (r.1 = src.size → r.2.size < dstEnd → ∀ n, src.size ≤ n → ∀ dout, Sync src i tbl dout →
          Lock src r.2 n 64 out.size ctx tbl dout (fwdMainTr src dstLen dstEnd f i ctx tbl out)) := by
  intro f
  induction f with
  | zero => intro i ctx tbl out h1 h2; omega
  | succ f ih =>
    intro i ctx tbl out h1 h2 hinv
    unfold fwdMain fwdMainTr
    rw [MIN_MATCH64_eq]
    by_cases hc : i + 64 < src.size ∧ out.size < dstEnd
    · rw [if_pos hc, if_pos hc]
      obtain ⟨s, e, etbl, hshape⟩ := encStep_ok src dstLen dstEnd i ctx tbl out hc.1 hc.2 hd hinv
      obtain ⟨n1, n2, n3, n4⟩ := shape_next hinv etbl hshape
      rw [e]
      simp only []
      obtain ⟨r, hr, hx, hsim⟩ := ih s.i s.ctx s.tbl s.out n2 (fuel_step h2 n1) n3
      refine ⟨r, hr, n4.trans hx, fun hr1 ha n hn dout hs => ?_⟩
      obtain ⟨rest, hrest, _⟩ := hx
      have hsize : s.out.size ≤ r.2.size := size_split' r.2 s.out [] rest hrest
      exact sim_step src r.2 n 64 i ctx tbl out dout s _ hs etbl hsize
        (hshape.elim (fun hl => dec_of_lit src r.2 n 64 i ctx tbl out dout s rest hs hn hl hrest)
          fun hm => dec_of_match src r.2 n dstEnd i ctx tbl out dout s rest hs hn hm (by omega) hrest)
        (hsim hr1 ha n hn)
    · rw [if_neg hc, if_neg hc]
      have h0 := hinv 0
      obtain ⟨r, hr, hx, hsim⟩ := sim_tail src dstLen dstEnd 64 hd src.size i ctx tbl out h1 (by omega)
      exact ⟨r, hr, hx, fun hr1 _ => hsim hr1⟩

theorem lzpForward_ok (b t : List Nat) (dstLen : Nat) (hne : b ≠ []) (hdst : lzpMaxEncodedLen b.length ≤ dstLen)
    (h : lzpForward b dstLen = .ok t) :
    128 ≤ b.length ∧ t.length < b.length - (b.length >>> 6) ∧ ∃ b0 b1 b2 b3 rest, b = b0 :: b1 :: b2 :: b3 :: rest ∧
      fwdMain b.toArray dstLen (b.length - (b.length >>> 6)) b.length 4
        (b0 + 256 * b1 + 65536 * b2 + 16777216 * b3) tbl0 #[b0, b1, b2, b3] = .ok (b.length, t.toArray) := by
  have hlen : b.length ≠ 0 := by simpa using hne
  have hm := lzpMaxEncodedLen_ge b.length
  have h128 : 128 ≤ b.length := by
    apply Decidable.byContradiction
    intro hlt
    have hlt : b.length < MIN_BLOCK_LENGTH := Nat.not_le.1 hlt
    rw [lzpForward, if_neg (by omega), if_neg (by omega), if_pos hlt] at h
    cases h
  obtain ⟨b0, b1, b2, b3, rest, hb, e⟩ := lzpForward_eq b dstLen h128 hdst
  rw [e] at h
  obtain ⟨hmain, hlt⟩ := fwdFinish_ok _ _ _ t h
  exact ⟨h128, hlt, b0, b1, b2, b3, rest, hb, hmain⟩

/-- the destination bound `dstEnd + 2 ≤ len(dst)` of Forward's loops -/
theorem dstEnd_le (c dstLen : Nat) (h128 : 128 ≤ c) (hdst : lzpMaxEncodedLen c ≤ dstLen) :
    c - (c >>> 6) + 2 ≤ dstLen := by
  have hm := lzpMaxEncodedLen_ge c
  rw [Nat.shiftRight_eq_div_pow]
  have : 2 ≤ c / 2 ^ 6 := by
    rw [Nat.le_div_iff_mul_le (by decide)]; omega
  omega

/-- C13_lzp, C13_lzp_shorter, C13_lzp_bytes, C13_lzp_sync in one statement (in this order) -/
theorem lzp_roundtrip (b t : List Nat) (dstLen : Nat) (hdst : lzpMaxEncodedLen b.length ≤ dstLen)
    (h : lzpForward b dstLen = .ok t) :
    t.length ≤ lzpMaxEncodedLen b.length ∧ (b ≠ [] → t.length < b.length) ∧
      ((∀ x ∈ b, x < 256) → ∀ y ∈ t, y < 256) ∧
      ∀ n, b.length ≤ n → lzpInverse false t n = .ok b ∧ lzpInvTrace false t n = lzpFwdTrace b dstLen := by
  by_cases hne : b = []
  · subst hne
    rw [lzpForward, if_pos (Or.inl List.length_nil)] at h
    injection h with h
    subst h
    exact ⟨Nat.zero_le _, fun h => absurd rfl h, fun _ _ hy => (List.not_mem_nil hy).elim, fun n _ => ⟨rfl, rfl⟩⟩
  · obtain ⟨h128, hlt, b0, b1, b2, b3, rest, hb, hmain⟩ := lzpForward_ok b t dstLen hne hdst h
    have hlen : t.length < b.length := Nat.lt_of_lt_of_le hlt (Nat.sub_le _ _)
    obtain ⟨r, hr, ⟨trest, htr, hbytes⟩, hlock⟩ := sim_main b.toArray dstLen _ (dstEnd_le _ dstLen h128 hdst) b.length 4
      (b0 + 256 * b1 + 65536 * b2 + 16777216 * b3) tbl0 #[b0, b1, b2, b3] (by simp; omega) (by simp)
      fun k => by rw [tbl0_get]; omega
    rw [hmain] at hr
    cases hr
    simp only [List.cons_append, List.nil_append] at htr
    subst hb
    subst htr
    refine ⟨Nat.le_of_lt (Nat.lt_of_lt_of_le hlen (lzpMaxEncodedLen_ge _)), fun _ => hlen, ?_, ?_⟩
    · intro hx
      simp only [List.forall_mem_cons] at hx ⊢
      exact ⟨hx.1, hx.2.1, hx.2.2.1, hx.2.2.2.1, hbytes (by simpa [List.forall_mem_cons] using hx)⟩
    · intro n hn
      have hsync : Sync (b0 :: b1 :: b2 :: b3 :: rest).toArray 4 tbl0 #[b0, b1, b2, b3] :=
        ⟨by simp, fun k => by rw [tbl0_get]; omega, by simp⟩
      have hsim : invLoop (b0 :: b1 :: b2 :: b3 :: trest).toArray n (minMatch false) (trest.length + 4) 4
            (b0 + 256 * b1 + 65536 * b2 + 16777216 * b3) tbl0 #[b0, b1, b2, b3] =
            .ok (trest.length + 4, (b0 :: b1 :: b2 :: b3 :: rest).toArray) ∧
          lzpInvTrace false (b0 :: b1 :: b2 :: b3 :: trest) n = lzpFwdTrace (b0 :: b1 :: b2 :: b3 :: rest) dstLen :=
        hlock (by simp) (by simpa using hlt) n (by simpa using hn) #[b0, b1, b2, b3] hsync _ (by simp)
      rw [lzpInverse_eq false b0 b1 b2 b3 trest n (by simp at hn; omega), hsim.1]
      exact ⟨by simp [invFinish], hsim.2⟩

end Kanzi.LZP
