/-
`EXECodec`, the whole transform: an accepted `exeForward` fits `MaxEncodedLen` and is restored by `exeInverse`
(`exe_roundtrip`, from `fwdX86_roundtrip` and `fwdARM_roundtrip`), and it sets the data type entry of the ctx.
-/
import Kanzi.Proofs.EXEARM

namespace Kanzi.EXE
open Kanzi.RLT (Out wr wr_ok wr_cases)

theorem exeInverse_nil (v2 : Bool) (n : Nat) : exeInverse v2 [] n = .ok [] :=
  if_pos (Or.inl rfl)

theorem exeForward_ok {dt : Option Nat} {src t : List Nat} {dstLen : Nat}
    (h : exeForward dt src dstLen = .ok t) (hne : ¬ (src.length = 0 ∨ dstLen = 0)) :
    ¬ src.length < MIN_BLOCK_SIZE ∧ ¬ src.length > MAX_BLOCK_SIZE ∧ ¬ dstLen < exeMaxEncodedLen src.length ∧
    ¬ dtAccepted dt = false ∧
    ∃ d, detectExeType (src.take (src.length - 4)).toArray 0 ((src.length : Int) - 8) = .ok d ∧
      ¬ d.1 &&& NOT_EXE ≠ 0 ∧ (fwdX86 src dstLen d.2.1 d.2.2 = .ok t ∨ fwdARM src dstLen d.2.1 d.2.2 = .ok t) := by
  unfold exeForward at h
  rw [if_neg hne] at h
  obtain ⟨hmin, h⟩ := ok_of_ite_err h
  obtain ⟨hmax, h⟩ := ok_of_ite_err h
  obtain ⟨hdst, h⟩ := ok_of_ite_err h
  obtain ⟨hdt, h⟩ := ok_of_ite_err h
  obtain ⟨d, hd, h⟩ := (Out.bind_eq_ok _ _ _).mp h
  obtain ⟨hnot, h⟩ := ok_of_ite_err h
  refine ⟨hmin, hmax, hdst, hdt, d, hd, hnot, ?_⟩
  by_cases hx : d.1 &&& 0xF0 = X86
  · rw [if_pos hx] at h
    exact Or.inl h
  · rw [if_neg hx] at h
    by_cases ha : d.1 &&& 0xF0 = ARM64
    · rw [if_pos ha] at h
      exact Or.inr h
    · rw [if_neg ha] at h
      cases h

/-- the 2 % expansion cap of both section encoders is below `MaxEncodedLen` -/
theorem exeMaxEncodedLen_ge (n : Nat) : n + n / 50 ≤ exeMaxEncodedLen n := by
  unfold exeMaxEncodedLen
  split <;> omega

theorem exe_roundtrip (dt : Option Nat) (src t : List Nat) (dstLen : Nat)
    (hb : ∀ x ∈ src, x < 256) (hdst : exeMaxEncodedLen src.length ≤ dstLen)
    (h : exeForward dt src dstLen = .ok t) :
    t.length ≤ exeMaxEncodedLen src.length ∧ (∀ y ∈ t, y < 256) ∧
      ∀ n, src.length ≤ n → exeInverse false t n = .ok src := by
  have hmx := exeMaxEncodedLen_ge src.length
  by_cases h0 : src.length = 0 ∨ dstLen = 0
  · have hs : src = [] := List.length_eq_zero_iff.1 (by omega)
    unfold exeForward at h
    rw [if_pos h0] at h
    cases h
    subst hs
    exact ⟨Nat.zero_le _, fun y hy => absurd hy List.not_mem_nil, fun n _ => exeInverse_nil false n⟩
  · obtain ⟨_, hmax, _, _, d, _, _, hf⟩ := exeForward_ok h h0
    rcases hf with hf | hf
    · obtain ⟨h1, _, h3, h4⟩ := fwdX86_roundtrip src dstLen _ _ t hb (by omega) hf
      exact ⟨by omega, h3, h4⟩
    · obtain ⟨h1, _, h3, h4⟩ := fwdARM_roundtrip src dstLen _ _ t hb (by omega) hf
      exact ⟨by omega, h3, h4⟩

theorem exeCtxWrite_ok (dt : Option Nat) (src t : List Nat) (dstLen : Nat)
    (hne : src ≠ []) (hd : dstLen ≠ 0) (h : exeForward dt src dstLen = .ok t) :
    exeCtxWrite dt src dstLen = some DT_EXE := by
  have hl : src.length ≠ 0 := fun h0 => hne (List.length_eq_zero_iff.1 h0)
  obtain ⟨hmin, hmax, hdst, hdt, d, hdet, hnot, _⟩ := exeForward_ok h (by omega)
  unfold exeCtxWrite
  rw [if_neg]
  · simp only [hdet]
    rw [if_neg hnot, h]
  · rintro (hc | hc | hc | hc | hc | hc)
    · exact hl hc
    · exact hd hc
    · exact hmin hc
    · exact hmax hc
    · exact hdst hc
    · exact hdt hc

end Kanzi.EXE
