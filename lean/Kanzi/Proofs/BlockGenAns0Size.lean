/-
Size of an order-0 ANS block as the factory configures the codec (chunks of 16384 bytes, log range 12):
at most 2 bytes per input byte (`final_facts` of `Proofs/Ans0.lean`, the content of property
`C12_ans0_payload_le`) plus at most 575 bytes of header, VarInt and
states per chunk.  For block sizes up to 128 KiB this is below the reader's `maxFrameLength` bound, so
the frame-size hypothesis of the ANS0 stream theorems can be discharged there.
-/
import Kanzi.Proofs.Ans0
import Kanzi.Proofs.BlockGenStream

namespace Kanzi.BlockGen.Ans0Size
open Kanzi.Bits Kanzi.EntSmall

theorem logMaxOf_chunk_le (c : List Nat) (hc : ∀ x ∈ c, x ≤ 2 ^ 12) : logMaxOf (chunkMax c) ≤ 12 :=
  logMaxOf_le _ 12 (chunkMax_lt c _ (by decide) fun f hf => by have := hc f hf; omega)

theorem flatMap_natBits_length (w : Nat) : ∀ (c : List Nat),
    (c.flatMap (fun f => natBits (f - 1) w)).length = c.length * w := by
  intro c
  induction c with
  | nil => simp
  | cons x xs ih =>
    rw [List.flatMap_cons, List.length_append, ih, Bits.natBits_length, List.length_cons,
      Nat.succ_mul, Nat.add_comm]

theorem encFreqs_length_le (lm : Nat) (c : List Nat) (hlm : lm ≤ 12) : (encFreqs lm c).length ≤ 12 * c.length := by
  unfold encFreqs
  split
  · simp
  · rw [flatMap_natBits_length, Nat.mul_comm]
    exact Nat.mul_le_mul_right _ hlm

theorem encFreqChunks_length_le (chk : Nat) (hchk : 0 < chk) : ∀ (fuel : Nat) (fs : List Nat),
    (∀ x ∈ fs, x ≤ 2 ^ 12) → (encFreqChunks fuel chk 4 fs).length ≤ 16 * fs.length := by
  intro fuel
  induction fuel with
  | zero => intro fs _; simp [encFreqChunks]
  | succ fuel ih =>
    intro fs hfs
    rw [encFreqChunks]
    split
    · simp
    · rename_i h0
      have h1 := encFreqs_length_le (logMaxOf (chunkMax (fs.take chk))) (fs.take chk)
        (logMaxOf_chunk_le _ (fun x hx => hfs x (List.mem_of_mem_take hx)))
      have h2 := ih (fs.drop chk) (fun x hx => hfs x (List.mem_of_mem_drop hx))
      simp only [List.length_append, Bits.natBits_length]
      rw [List.length_take] at h1
      rw [List.length_drop] at h2
      omega

theorem llrOf_12 : llrOf 12 = 4 := by decide

theorem encodeAlphabetBits_length_le (a : List Nat) : (encodeAlphabetBits a).length ≤ 262 := by
  unfold encodeAlphabetBits
  split
  · simp
  · split
    · simp
    · have : (arrayBits (mkMasks a) (8 * ((a.getLastD 0 >>> 3) + 1))).length ≤ 256 := by
        unfold arrayBits
        rw [List.length_take, Bits.ofBytes_length, mkMasks_length]
        exact Nat.min_le_right _ _
      simp only [List.length_cons, List.length_append, Bits.natBits_length]
      omega

/-- 4345 bits = 3 (log range) + 262 (alphabet) + 255 frequencies of at most 16 bits (12 + their share of the 4-bit
    chunk widths) -/
theorem ansEncodeHeader_length_le (a f : List Nat) (ha : a.length ≤ 256)
    (hf : ∀ s ∈ a, f.getD s 0 ≤ 2 ^ 12) : (ansEncodeHeader a f 12).length ≤ 4345 := by
  unfold ansEncodeHeader
  have h1 := encodeAlphabetBits_length_le a
  simp only [List.length_append, Bits.natBits_length]
  split
  · simp; omega
  · unfold encodeFreqs
    rw [llrOf_12]
    have h2 := encFreqChunks_length_le (chkSizeOf a.length) (by unfold chkSizeOf; split <;> omega) a.length
      ((a.drop 1).map (fun s => f.getD s 0)) (by
        intro x hx
        obtain ⟨s, hs, rfl⟩ := List.mem_map.mp hx
        exact hf s (List.mem_of_mem_drop hs))
    rw [List.length_map, List.length_drop] at h2
    omega

theorem writeVarIntAux_length_le (k v : Nat) : (writeVarIntAux k v).length ≤ 8 * (k + 1) := by
  obtain ⟨n, _, h2, h3⟩ := varint_len_aux k v
  omega

theorem ans0EncodeChunk_length_le (blk f : List Nat) (lr : Nat) (hlr : 8 ≤ lr ∧ lr ≤ 15)
    (hlen : f.length ≤ 256) (hsum : f.sum = 2 ^ lr) (hsym : ∀ a ∈ blk, SymOk f a) :
    (ans0EncodeChunk blk (mkEncSyms f lr)).length ≤ 168 + 16 * blk.length := by
  have hp := (final_facts blk f lr hlr hlen hsum hsym).2.2
  unfold ans0PayloadLen at hp
  rw [ans0EncodeChunk_eq]
  have hv := writeVarIntAux_length_le 4 (ans0Final blk (mkEncSyms f lr)).out.length
  simp only [List.length_append, Bits.natBits_length, Bits.ofBytes_length]
  unfold writeVarInt
  omega

/-- 4600 bits (575 bytes) cover the header (4345) and the VarInt and four 32-bit states in front of the payload (168) -/
theorem oneChunk_length_le (c : List Nat) (hne : c ≠ []) (hb : ∀ b ∈ c, b < 256) (bits : Bits)
    (h : ans0EncodeOneChunk c 12 = some bits) : bits.length ≤ 4600 + 16 * c.length := by
  obtain ⟨o, ho, _, ht, hsumA, hin⟩ := oneChunk_table c 12 (by omega) hne hb
  have hal : o.alphabet.length ≤ 256 := by
    have h1 := congrArg List.length (filter_mem_range o.alphabet 256 ht.sorted ht.lt256)
    have h2 := List.length_filter_le (fun i => decide (i ∈ o.alphabet)) (List.range 256)
    rw [List.length_range] at h2
    omega
  unfold ans0EncodeOneChunk at h
  rw [ho] at h
  simp only [Option.some.injEq] at h
  subst h
  have h1 := ansEncodeHeader_length_le o.alphabet o.freqs hal ht.le_scale
  rw [List.length_append]
  split
  · have h2 := ans0EncodeChunk_length_le c o.freqs 12 (by omega) (Nat.le_of_eq ht.len)
      (table_sum _ _ 12 ht hsumA) (fun b hbc => symOk_of_table _ _ 12 ht b (hin b hbc))
    omega
  · simp; omega

theorem chunks_length_le : ∀ (fuel : Nat) (blk : List Nat) (enc : Bits), (∀ b ∈ blk, b < 256) →
    ans0EncodeChunks fuel 16384 12 blk = some enc →
    enc.length ≤ 16 * blk.length + 4600 * ((blk.length + 16383) / 16384) := by
  intro fuel
  induction fuel with
  | zero =>
    intro blk enc _ h
    simp only [ans0EncodeChunks, Option.some.injEq] at h
    subst h; simp
  | succ fuel ih =>
    intro blk enc hb h
    rw [ans0EncodeChunks] at h
    by_cases h0 : blk.length = 0
    · rw [if_pos h0] at h
      simp only [Option.some.injEq] at h
      subst h; simp
    · rw [if_neg h0] at h
      have hclen : (blk.take 16384).length = min 16384 blk.length := List.length_take
      have hcne : blk.take 16384 ≠ [] := by
        intro hx
        rw [hx] at hclen
        simp only [List.length_nil] at hclen
        omega
      cases h1 : ans0EncodeOneChunk (blk.take 16384) 12 with
      | none => rw [h1] at h; cases h
      | some b1 =>
        cases h2 : ans0EncodeChunks fuel 16384 12 (blk.drop 16384) with
        | none => rw [h1, h2] at h; cases h
        | some tl =>
          rw [h1, h2] at h
          simp only [Option.some.injEq] at h
          subst h
          have i1 := oneChunk_length_le (blk.take 16384) hcne (fun b hx => hb b (List.mem_of_mem_take hx)) b1 h1
          have i2 := ih (blk.drop 16384) tl (fun b hx => hb b (List.mem_of_mem_drop hx)) h2
          rw [List.length_append]
          rw [hclen] at i1
          rw [List.length_drop] at i2
          omega

theorem ans0Encode_length_le (blk : List Nat) (enc : Bits) (hb : ∀ b ∈ blk, b < 256)
    (h : ans0Ent.enc blk = some enc) :
    enc.length ≤ 16 * blk.length + 4600 * ((blk.length + 16383) / 16384) := by
  have h' : ans0Encode blk 16384 12 = some enc := h
  unfold ans0Encode at h'
  split at h'
  · simp only [Option.some.injEq] at h'
    subst h'
    unfold arrayBits
    rw [List.length_take]
    omega
  · exact chunks_length_le blk.length blk enc hb h'

end Kanzi.BlockGen.Ans0Size

namespace Kanzi.BlockGen
open Kanzi.Bits Kanzi.TrSmall Kanzi.Block

theorem small_ans0_fit (c : Cfg) (B : Nat) (b : List Nat) (p : Bits)
    (hn : c.trs.length ≤ 8) (hs : ∀ t ∈ c.trs, IsSmallTr t) (hent : c.ent = ans0Ent)
    (hbytes : ∀ x ∈ b, x < 256) (hb0 : 0 < b.length) (hB : b.length ≤ B) (hmax : B ≤ 2 ^ 17)
    (h : encodeTaskGen c b = .ok p) : FrameFit B p := by
  unfold encodeTaskGen at h
  split at h
  · exact copy_fit B c.ck _ c.bs b p hb0 hB (by omega) h
  · rw [hent] at h
    obtain ⟨h8, e, he, hle⟩ := encodeOf_shape _ _ _ _ _ _ _ h
    obtain ⟨hpb, hpl⟩ := small_post c b hn hs hbytes hb0 (by omega)
    have hsz := Ans0Size.ans0Encode_length_le _ e hpb he
    have hck := ckWidth_le c.ck
    have hmB : 262144 ≤ max (maxTransformLength B) (256 * 1024) := by omega
    refine frameFit_of_le h8 ?_
    simp only [maxFrameBits]
    omega

theorem small_block (h : Header.Header) (sb : Bool) (cd : Cfg) (hcfg : cfgOfHeader h false = some cd) (b : List Nat)
    (hx : ∀ x ∈ b, x < 256) (h0 : 0 < b.length) (hB : b.length ≤ h.blockSize) (hmax : h.blockSize ≤ 2 ^ 30) :
    ∃ p, encodeTaskGen { cd with skipBlocks := sb } b = .ok p ∧
      decodeTaskGen cd h.blockSize p = ⟨b.length, .ok b⟩ ∧
      (h.entropyType = 0 ∨ h.blockSize ≤ 2 ^ 17 ∨
        (payloadOf { cd with skipBlocks := sb } b).length ≤ maxFrameBits h.blockSize → FrameFit h.blockSize p) := by
  obtain ⟨_, _, hn, hs, he⟩ := cfgOfHeader_spec h false cd hcfg
  have hent : EntLaw (IsBlock b.length) cd.ent := by
    rcases he with ⟨_, he⟩ | ⟨_, he⟩ <;> rw [he]
    · exact entLaw_none _
    · exact entLaw_ans0 _
  obtain ⟨p, hp, hd⟩ := small_roundtrip { cd with skipBlocks := sb } h.blockSize b hn hs hent hx h0 hB hmax
  refine ⟨p, hp, hd, fun hfit => ?_⟩
  rcases he with ⟨_, he⟩ | ⟨h5, he⟩
  · exact small_none_fit { cd with skipBlocks := sb } h.blockSize b p hn hs he hx h0 hB hmax hp
  · rcases hfit with hE | h17 | hf
    · omega
    · exact small_ans0_fit { cd with skipBlocks := sb } h.blockSize b p hn hs he hx h0 hB h17 hp
    · rw [payloadOf_of_ok _ b p hp] at hf
      exact frameFit_of_le (encodeTaskGen_length_ge hp) hf

end Kanzi.BlockGen
