/-
inverseBiPSIv2: the tables on the SPEC output of a block `s`.  The level-1 rows are the LF mapping
(`posOf_spec`), the BWT symbol of a row is the symbol in front of its suffix (`Lrow_spec`), the entry
scattered for the row holding suffix `q` carries the bigram at `q-2` and the row of `q`.
The two-step LF fact (`lf2_bucket`, from `lf_steps` with `k = 2`) then gives `table2`: for every position
`j` with `j + 2 <= n`, the row of suffix `j` lies in the bucket range of its bigram and
`data[row of j] = row of suffix j+2`.
-/
import Kanzi.Proofs.BWTBiTables
import Kanzi.Proofs.BWTMergeThm
import Kanzi.Proofs.BWTBlock

namespace Kanzi.BWT

/-! ## level 1 on the spec output -/

/-- row (in `SA'`) of suffix `q`, `q = n` (the empty suffix) included -/
def rowS (s : List Nat) (q : Nat) : Nat := if q = s.length then 0 else rowOf s q

/-- flat key of the bigram at position `j` -/
def big (s : List Nat) (j : Nat) : Nat := flat (s.getD j 0) (s.getD (j + 1) 0)

theorem rowOf_getElem (s : List Nat) (a : Nat) (h : a < (sa s).length) : rowOf s (sa s)[a] = a + 1 := by
  unfold rowOf
  rw [(sa_nodup s).idxOf_getElem a h]

theorem sa_rowOf (s : List Nat) (j : Nat) (hj : j < s.length) : (sa s).getD (rowOf s j - 1) 0 = j := by
  have hm : j ∈ sa s := mem_sa.2 hj
  have hidx : (sa s).idxOf j < (sa s).length := List.idxOf_lt_length_iff.2 hm
  unfold rowOf
  rw [Nat.add_sub_cancel, List.getD_eq_getElem?_getD, List.getElem?_eq_getElem hidx, List.getElem_idxOf]
  rfl

variable (s : List Nat)

theorem rowsQ_getD_mem (hs : 1 ≤ s.length) (i : Nat) (hi : i < s.length) :
    1 ≤ (rowsQ s).getD i 0 ∧ (rowsQ s).getD i 0 ≤ s.length := by
  have hl : i < (rowsQ s).length := by rw [rowsQ_length s hs]; exact hi
  rw [List.getD_eq_getElem?_getD, List.getElem?_eq_getElem hl]
  exact (mem_rowsQ hs).1 (List.getElem_mem hl)

theorem filter_idx_rows (hs : 1 ≤ s.length) (c : Nat) :
    ((List.range s.length).filter (fun i => rd (bwtData s).toArray i = c)).map (fun i => (rowsQ s).getD i 0)
      = (rowsQ s).filter (fun q => prevSym s q = c) := by
  conv => rhs; rw [rowsQ_eq_map s hs]
  rw [List.filter_map]
  congr 1
  apply List.filter_congr
  intro i hi
  have hi' := List.mem_range.1 hi
  simp only [Function.comp, src_eq_prevSym s hs i hi']

theorem fC_spec (hs : 1 ≤ s.length) (c : Nat) :
    fC (bwtData s).toArray c = 1 + below (skey s) (sa s) c := by
  unfold fC
  rw [below_map]
  dsimp only
  rw [← entries_keys]
  exact congrArg (1 + ·) ((entries_keys_perm s hs).filter _).length_eq

/-- LEVEL 1 IS LF: the row handed to source index `i` is the row of the suffix one position before
the suffix of row `i`. -/
theorem posOf_spec (hs : 1 ≤ s.length) (i : Nat) (hi : i < s.length) :
    posOf (bwtData s).toArray i = rowOf s ((rowsQ s).getD i 0 - 1) := by
  have hsize := bwtData_size s hs
  generalize hc : rd (bwtData s).toArray i = c
  -- both maps agree on the list of indexes holding symbol c
  have h1 := idxs_pos (bwtData s).toArray c s.length (by rw [hsize]; exact Nat.le_refl _)
  have h2 : ((List.range s.length).filter (fun i => rd (bwtData s).toArray i = c)).map
      (fun i => rowOf s ((rowsQ s).getD i 0 - 1))
      = List.range' (fC (bwtData s).toArray c) (seen (bwtData s).toArray s.length c) := by
    have e1 : ((List.range s.length).filter (fun i => rd (bwtData s).toArray i = c)).map
        (fun i => rowOf s ((rowsQ s).getD i 0 - 1))
        = ((bucket (skey s) (sa s) c).map (fun x => (sa s).idxOf x)).map (· + 1) := by
      rw [show bucket (skey s) (sa s) c = ((rowsQ s).filter (fun q => prevSym s q = c)).map (· - 1) from
        (lf_bucket s hs c).symm, ← filter_idx_rows s hs c]
      simp only [List.map_map]
      rfl
    rw [e1, bucket_idxOf (sa s) (skey s) (sa_sorted_key s) (sa_nodup s) c, fC_spec s hs c]
    have hlen : (bucket (skey s) (sa s) c).length = seen (bwtData s).toArray s.length c := by
      have := congrArg List.length h1
      rw [List.length_map, List.length_range'] at this
      rw [← this, ← ebucket_length s hs c]
      have e2 := congrArg List.length (filter_idx_rows s hs c)
      rw [List.length_map] at e2
      rw [e2]
      simp only [ebucket, bucket, entries, List.filter_map, List.length_map]
      rfl
    rw [hlen]
    apply List.ext_getElem
    · simp
    · intro m h3 h4
      simp only [List.getElem_map, List.getElem_range']
      omega
  have hmem : i ∈ (List.range s.length).filter (fun i => rd (bwtData s).toArray i = c) := by
    rw [List.mem_filter]; exact ⟨List.mem_range.2 hi, by simpa using hc⟩
  have := List.map_inj_left.1 (h1.trans h2.symm) i hmem
  exact this

theorem Lrow_spec (hs : 1 ≤ s.length) (r : Nat) (h1 : 1 ≤ r) (h2 : r ≤ s.length) (hne : r ≠ zpos s + 1) :
    Lrow (bwtData s).toArray (zpos s + 1) r = prevSym s ((sa s).getD (r - 1) 0) := by
  have hz := zpos_lt s hs
  unfold Lrow
  by_cases hlt : r < zpos s + 1
  · obtain ⟨i, rfl⟩ : ∃ i, r = i + 1 := ⟨r - 1, by omega⟩
    rw [if_pos hlt, src_eq_prevSym s hs _ (by omega), rowsQ_getD s hs i, if_pos (by omega), Nat.add_sub_cancel]
  · obtain ⟨i, rfl⟩ : ∃ i, r = i + 2 := ⟨r - 2, by omega⟩
    have e : i + 2 - 1 = i + 1 := by omega
    rw [if_neg hlt, e, src_eq_prevSym s hs _ (by omega), rowsQ_getD s hs i, if_neg (by omega)]

theorem rowS_sa (j : Nat) (hj : j < s.length) : rowS s ((sa s).getD j 0) = j + 1 := by
  have hl : j < (sa s).length := by rw [sa_length]; exact hj
  have hm : (sa s)[j] < s.length := mem_sa.1 (List.getElem_mem hl)
  rw [List.getD_eq_getElem?_getD, List.getElem?_eq_getElem hl, Option.getD_some]
  unfold rowS
  rw [if_neg (by omega), rowOf_getElem s j hl]

theorem rowOfIdx_spec (hs : 1 ≤ s.length) (i : Nat) (hi : i < s.length) :
    rowOfIdx (zpos s + 1) i = rowS s ((rowsQ s).getD i 0) := by
  unfold rowOfIdx
  cases i with
  | zero => simp [rowsQ, rowS]
  | succ i =>
    rw [rowsQ_getD s hs i]
    by_cases hlt : i < zpos s
    · rw [if_pos hlt, if_pos (by omega), rowS_sa s i (by omega)]
    · rw [if_neg hlt, if_neg (by omega), rowS_sa s (i + 1) hi]

/-! ## level 2 on the spec output -/

/-- sort key of a suffix by its first two symbols; the suffix of length one sorts in front -/
def key2 (j : Nat) : Nat := s.getD j 0 * 257 + (if j + 1 < s.length then s.getD (j + 1) 0 + 1 else 0)

/-- `key2` value of the bigram with flat key `kk` -/
def K2 (kk : Nat) : Nat := (kk / 256) * 257 + kk % 256 + 1

theorem big_lt (hb : ∀ x ∈ s, x < 256) (j : Nat) : big s j < 65536 := by
  have h1 := getD_lt s hb j
  have h2 := getD_lt s hb (j + 1)
  unfold big flat; omega

theorem sa_sorted_key2 (hb : ∀ x ∈ s, x < 256) : (sa s).Pairwise (fun a b => key2 s a ≤ key2 s b) := by
  have h := List.Pairwise.and_mem.1 (sa_sorted s)
  refine h.imp ?_
  intro a b ⟨ha, hb', hlt⟩
  have ha' := mem_sa.1 ha
  have hb'' := mem_sa.1 hb'
  rw [suf_getD_cons ha', suf_getD_cons hb''] at hlt
  have t1 := getD_lt s hb (a + 1)
  have t2 := getD_lt s hb (b + 1)
  unfold key2
  rcases List.cons_lt_cons_iff.1 hlt with h1 | ⟨h1, h2⟩
  · split <;> split <;> omega
  · rw [h1]
    by_cases ha1 : a + 1 < s.length
    · rw [suf_getD_cons ha1] at h2
      by_cases hb1 : b + 1 < s.length
      · rw [suf_getD_cons hb1] at h2
        simp only [ha1, hb1, ite_true]
        rcases List.cons_lt_cons_iff.1 h2 with h3 | ⟨h3, _⟩ <;> omega
      · have : suf s (b + 1) = [] := by simp [suf]; omega
        rw [this] at h2
        exact absurd h2 (by simp)
    · simp only [ha1, ite_false]; omega

theorem key2_eq_iff (hb : ∀ x ∈ s, x < 256) (j kk : Nat) (hj : j < s.length) :
    key2 s j = K2 kk ↔ (j + 2 ≤ s.length ∧ big s j = kk) := by
  have t1 := getD_lt s hb j
  have t2 := getD_lt s hb (j + 1)
  unfold key2 K2 big flat
  split <;> omega

theorem key2_lt_iff (hb : ∀ x ∈ s, x < 256) (j kk : Nat) (hj : j + 2 ≤ s.length) :
    key2 s j < K2 kk ↔ big s j < kk := by
  have t1 := getD_lt s hb j
  have t2 := getD_lt s hb (j + 1)
  unfold key2 K2 big flat
  have : j + 1 < s.length := by omega
  simp only [this, ite_true]
  omega

/-! ### the entries on the spec output -/

theorem rowOf_inj (a b : Nat) (ha : a < s.length) (hb : b < s.length) (h : rowOf s a = rowOf s b) : a = b := by
  have h1 := sa_rowOf s a ha
  have h2 := sa_rowOf s b hb
  rw [h] at h1; rw [h1] at h2; exact h2

theorem rowOf_zero : rowOf s 0 = zpos s + 1 := rfl

/-- the scattered entries, by the suffix of their row: bigram two positions back, row of the suffix -/
theorem entries2_spec (hs : 1 ≤ s.length) :
    entries2 (bwtData s).toArray (zpos s + 1)
      = ((rowsQ s).filter (fun q => 2 ≤ q)).map (fun q => (Tix (big s (q - 2)), rowS s q)) := by
  have hsize := bwtData_size s hs
  conv => rhs; rw [rowsQ_eq_map s hs]
  rw [List.filter_map, List.map_map, entries2, liveIdx, hsize]
  have hlive : ∀ i, i < s.length →
      (posOf (bwtData s).toArray i ≠ zpos s + 1 ↔ 2 ≤ (rowsQ s).getD i 0) := by
    intro i hi
    have hq := rowsQ_getD_mem s hs i hi
    rw [posOf_spec s hs i hi, ← rowOf_zero s]
    constructor
    · intro h
      refine Classical.byContradiction fun hlt => h ?_
      have : (rowsQ s).getD i 0 - 1 = 0 := by omega
      rw [this]
    · intro h e
      have := rowOf_inj s _ _ (by omega) (by omega) e
      omega
  have hfilter : (List.range s.length).filter (fun i => posOf (bwtData s).toArray i ≠ zpos s + 1)
      = (List.range s.length).filter ((fun q => decide (2 ≤ q)) ∘ fun i => (rowsQ s).getD i 0) := by
    apply List.filter_congr
    intro i hi
    have := hlive i (List.mem_range.1 hi)
    simp only [Function.comp]
    exact decide_eq_decide.2 this
  rw [hfilter]
  apply List.map_congr_left
  intro i hi
  obtain ⟨hi1, hi2⟩ := List.mem_filter.1 hi
  have hi' := List.mem_range.1 hi1
  have h2 : 2 ≤ (rowsQ s).getD i 0 := by simpa using hi2
  have hq := rowsQ_getD_mem s hs i hi'
  simp only [Function.comp]
  rw [rowOfIdx_spec s hs i hi']
  have hne : rowOf s ((rowsQ s).getD i 0 - 1) ≠ zpos s + 1 := by
    rw [← posOf_spec s hs i hi']
    exact (hlive i hi').2 h2
  have hr := rowOf_bounds s ((rowsQ s).getD i 0 - 1) (by omega)
  have hkey : keyOf (bwtData s).toArray (zpos s + 1) i = big s ((rowsQ s).getD i 0 - 2) := by
    unfold keyOf big
    rw [src_eq_prevSym s hs i hi', posOf_spec s hs i hi', Lrow_spec s hs _ hr.1 hr.2 hne, sa_rowOf s _ (by omega)]
    have e1 : (rowsQ s).getD i 0 - 1 - 1 = (rowsQ s).getD i 0 - 2 := by omega
    have e2 : (rowsQ s).getD i 0 - 2 + 1 = (rowsQ s).getD i 0 - 1 := by omega
    simp only [prevSym, e1, e2]
  rw [hkey]

/-! ### permutations -/

theorem rowsQ_pred2_perm (hs : 1 ≤ s.length) :
    (((rowsQ s).filter (fun q => 2 ≤ q)).map (· - 2)).Perm ((sa s).filter (fun j => j + 2 ≤ s.length)) := by
  apply rowsQ_sub_perm s hs 2 (by decide)
  · intro q _ h2
    simp only [decide_eq_true_eq]
    omega
  · intro j _ h
    exact of_decide_eq_true h

/-- THE TWO-STEP LF FACT: among the rows `q >= 2` whose bigram two positions back is `kk`, in row order,
the positions `q - 2` are exactly the positions with that bigram, in suffix array order. -/
theorem lf2_bucket (hs : 1 ≤ s.length) (hb : ∀ x ∈ s, x < 256) (kk : Nat) :
    ((rowsQ s).filter (fun q => 2 ≤ q ∧ big s (q - 2) = kk)).map (· - 2)
      = (sa s).filter (fun j => j + 2 ≤ s.length ∧ big s j = kk) := by
  apply lf_steps s hs 2 (by decide)
  · intro q _ h2
    simp only [decide_eq_true_eq]
    omega
  · intro j _ h
    exact (of_decide_eq_true h).1
  · intro a b ha hb' hak hbk
    have hsame := (of_decide_eq_true hak).2.trans (of_decide_eq_true hbk).2.symm
    unfold big at hsame
    have hinj := (flat_inj (getD_lt s hb (a + 1)) (getD_lt s hb (b + 1))).1 hsame
    rw [suf_getD_cons (i := a) (by omega), suf_getD_cons (i := b) (by omega),
      suf_getD_cons (i := a + 1) (by omega), suf_getD_cons (i := b + 1) (by omega), hinj.1, hinj.2]
    rfl

/-! ### bucket ranges of the bigrams in the suffix array -/

theorem bucket_key2 (hb : ∀ x ∈ s, x < 256) (kk : Nat) :
    bucket (key2 s) (sa s) (K2 kk) = (sa s).filter (fun j => j + 2 ≤ s.length ∧ big s j = kk) := by
  unfold bucket
  apply List.filter_congr
  intro j hj
  exact decide_eq_decide.2 (key2_eq_iff s hb j kk (mem_sa.1 hj))

theorem ebucket_spec (hs : 1 ≤ s.length) (hb : ∀ x ∈ s, x < 256) (kk : Nat) (hk : kk < 65536) :
    ebucket (entries2 (bwtData s).toArray (zpos s + 1)) (Tix kk)
      = ((rowsQ s).filter (fun q => 2 ≤ q ∧ big s (q - 2) = kk)).map (fun q => (Tix (big s (q - 2)), rowS s q)) := by
  rw [entries2_spec s hs]
  simp only [ebucket, bucket, List.filter_map, List.filter_filter]
  congr 1
  apply List.filter_congr
  intro q _
  simp only [Function.comp]
  have hbl := big_lt s hb (q - 2)
  by_cases h1 : 2 ≤ q <;> by_cases h2 : big s (q - 2) = kk
  · simp [h1, h2]
  · have : ¬ Tix (big s (q - 2)) = Tix kk := fun e => h2 (Tix_inj _ _ hbl hk e)
    simp [h1, h2, this]
  · simp [h1]
  · simp [h1]

theorem cntK_spec (hs : 1 ≤ s.length) (hb : ∀ x ∈ s, x < 256) (kk : Nat) (hk : kk < 65536) :
    cntK (bwtData s).toArray (zpos s + 1) kk = (bucket (key2 s) (sa s) (K2 kk)).length := by
  have hbsrc : ∀ b ∈ (bwtData s).toArray.toList, b < 256 := bwtData_lt s hb
  have h1 := ebucket_entries2 (bwtData s).toArray hbsrc (zpos s + 1) (Tix kk) (Tix_lt kk hk)
  rw [Tix_Tix kk hk] at h1
  rw [← h1, ebucket_spec s hs hb kk hk, List.length_map, bucket_key2 s hb kk, ← lf2_bucket s hs hb kk,
    List.length_map]

/-- the first byte of the output is the last byte of the block (BWT symbol of the empty suffix) -/
theorem bwtData_head (hs : 1 ≤ s.length) : rd (bwtData s).toArray 0 = s.getD (s.length - 1) 0 := by
  rw [src_eq_prevSym s hs 0 (by omega)]
  simp [rowsQ, prevSym]

theorem length_filter_split {α : Type} (l : List α) (p q : α → Bool) :
    (l.filter p).length = (l.filter (fun x => p x && q x)).length + (l.filter (fun x => p x && !q x)).length := by
  rw [← List.countP_eq_length_filter, List.countP_eq_countP_filter_add l p q, List.countP_eq_length_filter,
    List.countP_eq_length_filter, List.filter_filter, List.filter_filter]

theorem length_filter_eq_one (L : List Nat) (hn : L.Nodup) (a : Nat) (ha : a ∈ L) :
    (L.filter (fun x => x == a)).length = 1 := by
  rw [← List.count_eq_length_filter, hn.count, if_pos ha]

/-- the bigram starts computed by the second loop are the bucket starts of the suffix array -/
theorem below_key2 (hs : 2 ≤ s.length) (hb : ∀ x ∈ s, x < 256) (kk : Nat) :
    below (key2 s) (sa s) (K2 kk) + 1 = startK (bwtData s).toArray (zpos s + 1) kk := by
  have hs1 : 1 ≤ s.length := by omega
  have hbsrc : ∀ b ∈ (bwtData s).toArray.toList, b < 256 := bwtData_lt s hb
  have hps : psum (cntK (bwtData s).toArray (zpos s + 1)) kk
      = ((sa s).filter (fun j => j + 2 ≤ s.length ∧ big s j < kk)).length := by
    rw [psum_cntK _ hbsrc _ kk]
    have hkeys : (liveIdx (bwtData s).toArray (zpos s + 1)).map (keyOf (bwtData s).toArray (zpos s + 1))
        = (((rowsQ s).filter (fun q => 2 ≤ q)).map (· - 2)).map (big s) := by
      have e := congrArg (List.map (fun e : Nat × Nat => Tix e.1)) (entries2_spec s hs1)
      simp only [entries2, List.map_map] at e
      rw [List.map_map]
      refine Eq.trans ?_ (e.trans ?_)
      · apply List.map_congr_left
        intro j _
        simp only [Function.comp]
        rw [Tix_Tix _ (keyOf_lt _ hbsrc _ j)]
      · apply List.map_congr_left
        intro q _
        simp only [Function.comp]
        rw [Tix_Tix _ (big_lt s hb _)]
    rw [hkeys, List.filter_map, List.length_map]
    have p := (rowsQ_pred2_perm s hs1).filter ((fun k => decide (k < kk)) ∘ big s)
    rw [p.length_eq, List.filter_filter]
    congr 1
    apply List.filter_congr
    intro j _
    simp only [Function.comp]
    by_cases h1 : j + 2 ≤ s.length <;> by_cases h2 : big s j < kk <;> simp [h1, h2]
  have hlast := bwtData_head s hs1
  unfold startK sumAt below
  rw [hps, hlast]
  rw [length_filter_split ((sa s)) (fun j => decide (key2 s j < K2 kk)) (fun j => decide (j + 2 ≤ s.length))]
  have h1 : (sa s).filter (fun x => decide (key2 s x < K2 kk) && decide (x + 2 ≤ s.length))
      = (sa s).filter (fun j => decide (j + 2 ≤ s.length ∧ big s j < kk)) := by
    apply List.filter_congr
    intro j _
    by_cases hj : j + 2 ≤ s.length
    · have := key2_lt_iff s hb j kk hj
      by_cases h2 : big s j < kk
      · simp [hj, h2, this.2 h2]
      · have : ¬ key2 s j < K2 kk := fun hh => h2 (this.1 hh)
        simp [hj, h2, this]
    · simp [hj]
  have h2 : ((sa s).filter (fun x => decide (key2 s x < K2 kk) && !decide (x + 2 ≤ s.length))).length
      = if s.getD (s.length - 1) 0 ≤ kk / 256 then 1 else 0 := by
    -- only the last suffix has no bigram; its key is below `K2 kk` iff its symbol is at most `kk / 256`
    have hp : ∀ j ∈ sa s, (decide (key2 s j < K2 kk) && !decide (j + 2 ≤ s.length))
        = (decide (s.getD (s.length - 1) 0 ≤ kk / 256) && j == s.length - 1) := by
      intro j hj
      have hj' := mem_sa.1 hj
      have t1 := getD_lt s hb (s.length - 1)
      by_cases he : j = s.length - 1
      · subst he
        have hk2 : key2 s (s.length - 1) < K2 kk ↔ s.getD (s.length - 1) 0 ≤ kk / 256 := by
          unfold key2 K2
          rw [if_neg (by omega)]
          omega
        simp [hk2]
        omega
      · have : j + 2 ≤ s.length := by omega
        simp [this, he]
    rw [List.filter_congr hp]
    by_cases hle : s.getD (s.length - 1) 0 ≤ kk / 256
    · simp only [hle, decide_true, Bool.true_and, ite_true]
      exact length_filter_eq_one (sa s) (sa_nodup s) (s.length - 1) (mem_sa.2 (by omega))
    · simp only [hle, decide_false, Bool.false_and, ite_false]
      rw [List.filter_eq_nil_iff.2 (fun _ _ => Bool.false_ne_true)]
      rfl
  rw [h1, h2]
  omega

/-! ### `buckets` and `data` on the spec output -/

/-- With the tables (`Tables`) built from the spec output of `s`: the row of every suffix `j`
that has a bigram lies in the range of that bigram, and `data` sends it to the row of suffix `j + 2`. -/
theorem table2 (hs : 2 ≤ s.length) (hb : ∀ x ∈ s, x < 256) (data0 bk data : Array Nat)
    (htab : Tables (bwtData s).toArray (zpos s + 1) data0 bk data) (j : Nat) (hj : j + 2 ≤ s.length) :
    startK (bwtData s).toArray (zpos s + 1) (big s j) ≤ rowOf s j ∧
    rowOf s j < endK (bwtData s).toArray (zpos s + 1) (big s j) ∧
    rd data (rowOf s j) = rowS s (j + 2) := by
  have hs1 : 1 ≤ s.length := by omega
  have hk := big_lt s hb j
  generalize hkk : big s j = kk at hk
  have hB := bucket_key2 s hb kk
  obtain ⟨hm, hpos⟩ := sorted_idxOf (sa s) (key2 s) (sa_sorted_key2 s hb) (sa_nodup s) j (mem_sa.2 (by omega))
  rw [(key2_eq_iff s hb j kk (by omega)).2 ⟨hj, hkk⟩] at hm hpos
  have hBm := List.getElem_idxOf hm
  generalize (bucket (key2 s) (sa s) (K2 kk)).idxOf j = m at hm hpos hBm
  have hrow : rowOf s j = startK (bwtData s).toArray (zpos s + 1) kk + m := by
    unfold rowOf
    rw [hpos, ← below_key2 s hs hb kk]; omega
  have hcnt := cntK_spec s hs1 hb kk hk
  refine ⟨by omega, by unfold endK; omega, ?_⟩
  rw [hrow, htab.rows kk hk m (by omega), ebucket_spec s hs1 hb kk hk]
  -- the m-th row q of the bucket has q - 2 = j
  have hlf := lf2_bucket s hs1 hb kk
  rw [← hB] at hlf
  have hlen : m < ((rowsQ s).filter (fun q => 2 ≤ q ∧ big s (q - 2) = kk)).length := by
    have := congrArg List.length hlf
    rw [List.length_map] at this
    omega
  rw [getD_map_of_lt _ _ m hlen (0, 0) 0]
  simp only
  have hq : ((rowsQ s).filter (fun q => 2 ≤ q ∧ big s (q - 2) = kk)).getD m 0 - 2 = j := by
    have e := congrArg (fun l => l.getD m 0) hlf
    rw [getD_map_of_lt _ _ m hlen 0 0] at e
    rw [e, List.getD_eq_getElem?_getD, List.getElem?_eq_getElem hm, hBm]
    rfl
  have hq2 : 2 ≤ ((rowsQ s).filter (fun q => 2 ≤ q ∧ big s (q - 2) = kk)).getD m 0 := by
    rw [List.getD_eq_getElem?_getD, List.getElem?_eq_getElem hlen]
    have := (List.mem_filter.1 (List.getElem_mem hlen)).2
    simp only [Option.getD_some]
    exact (of_decide_eq_true this).1
  congr 1
  omega

end Kanzi.BWT
