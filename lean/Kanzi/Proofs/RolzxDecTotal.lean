/-
ROLZX (`rolzCodec2.Inverse`, model `rolzxInverse` of Model/ROLZX.lean) on ARBITRARY input: the fuel of the
chunk loop and of the main loop is never exhausted, and the only run-time faults are three classes of index
errors.  Property C03.
-/
import Kanzi.Model.ROLZX
import Kanzi.Model.RolzDec
import Kanzi.Proofs.RolzTab

namespace Kanzi.ROLZ

def Out.faultIs {α : Type} (o : Out α) (k : String) : Bool :=
  match o with
  | .fault k' => k' == k
  | _ => false

/-- the fault classes of the loops of ROLZX Inverse: the refill of the range decoder reads past `src`
    ("src-slice"), a store / key read / overlapping copy leaves the chunk or `dst` ("dst-index") -/
def IFaults : List String := ["src-slice", "dst-index"]

/-- the fault classes of ROLZX Inverse: those of the loops and `newRolzDecoder` reading 8 bytes past a short `src` -/
def XFaults : List String := "src-index" :: IFaults

/-- `o` is a value satisfying `P`, an error, or a run-time fault of a class in `F`.  Each function of the two
    decoders has one theorem of this form (`…_sat`); termination ("fuel" is not in `F`), the classes of the faults
    and the facts about a successful result are read off it. -/
def Out.Sat {α : Type} (F : List String) (P : α → Prop) : Out α → Prop
  | .ok a => P a
  | .err _ => True
  | .fault k => k ∈ F

theorem Out.Sat.ok {α : Type} {F : List String} {P : α → Prop} {o : Out α} {a : α} (h : o.Sat F P) (e : o = .ok a) :
    P a := by
  rw [e] at h
  exact h

theorem Out.Sat.fault {α : Type} {F : List String} {P : α → Prop} {o : Out α} {k : String} (h : o.Sat F P)
    (e : o = .fault k) : k ∈ F := by
  rw [e] at h
  exact h

theorem Out.Sat.nf {α : Type} {P : α → Prop} {o : Out α} (h : o.Sat [] P) (k : String) : o ≠ .fault k :=
  fun e => nomatch h.fault e

theorem Out.Sat.of_mem {α : Type} {F : List String} {P : α → Prop} {k : String} (h : k ∈ F) :
    (Out.fault k : Out α).Sat F P :=
  h

theorem Out.Sat.mono {α : Type} {F : List String} {P Q : α → Prop} {o : Out α} (h : o.Sat F P)
    (hpq : ∀ a, P a → Q a) : o.Sat F Q := by
  cases o with
  | ok a => exact hpq a h
  | err e => trivial
  | fault k => exact h

theorem Out.Sat.ite {α : Type} {F : List String} {P : α → Prop} {c : Prop} [Decidable c] {a b : Out α}
    (ha : c → a.Sat F P) (hb : ¬c → b.Sat F P) : (if c then a else b).Sat F P := by
  split
  · exact ha ‹_›
  · exact hb ‹_›

/-- the refill reads `src[idx:idx+4]` -/
theorem decodeBit_sat (src : Array Nat) (d : Dec) (p : Nat) :
    (d.decodeBit src p).Sat IFaults (fun r => d.idx ≤ r.2.idx ∧ r.2.idx ≤ max d.idx src.size) := by
  unfold Dec.decodeBit
  dsimp only
  refine .ite (fun _ => .ite (fun h => ?_) fun _ => ?_) fun _ => ?_
  · exact ⟨Nat.le_add_right _ _, by dsimp only; omega⟩
  · exact .of_mem (by simp [IFaults])
  · exact ⟨Nat.le_refl _, Nat.le_max_left _ _⟩

/-- after one pass of the refill (`low <<= 32`, `high = high<<32 | 0xFFFFFFFF`, both masked to 56 bits) bit 24 of
    `low` is 0 and bit 24 of `high` is 1: the condition `(low ^ high) >> 24 == 0` of the Go `for` is false -/
theorem refill_once (low1 high1 : Nat) :
    ((((low1 <<< 32) % 2 ^ 64) % 2 ^ 56) ^^^ ((((high1 <<< 32) % 2 ^ 64) ||| MASK_0_32) % 2 ^ 56)) >>> 24 ≠ 0 := by
  intro h0
  -- bit 0 of the left side is bit 24 of the xor
  have hb := congrArg (fun x => x.testBit 0) h0
  have hm : MASK_0_32.testBit 24 = true := by decide
  simp only [Nat.testBit_shiftRight, Nat.testBit_xor, Nat.testBit_mod_two_pow, Nat.testBit_shiftLeft,
    Nat.testBit_or, hm, Nat.zero_testBit] at hb
  simp at hb

theorem decBits_sat {src : Array Nat} {ctx : Nat} : ∀ (n c1 : Nat) (d : Dec) (t : Array Nat),
    (decBits src ctx n c1 d t).Sat IFaults (fun _ => True)
  | 0, _, _, _ => trivial
  | n + 1, c1, d, t => by
    rw [decBits]
    split
    · exact decBits_sat n _ _ _
    · trivial
    · rename_i k hk
      exact (decodeBit_sat src d _).fault hk

theorem decLit9_sat (src : Array Nat) (c : Nat) (s : ISt) : (decLit9 src c s).Sat IFaults (fun r => r.2.dst = s.dst) := by
  unfold decLit9
  dsimp only
  split
  · rfl
  · trivial
  · rename_i k hk
    exact (decBits_sat _ _ _ _).fault hk

theorem emitCopy_sat {F : List String} (hF : "dst-index" ∈ F) (dst : Array Nat) (lim d r n : Nat) :
    (emitCopy dst lim d r n).Sat F (fun q => q.2 = d + n ∧ q.1.size = dst.size) := by
  unfold emitCopy
  refine .ite (fun _ => ?_) fun _ => .ite (fun _ => ?_) fun _ => ?_
  · exact ⟨rfl, copyLoop_size _ _ _ _⟩
  · exact ⟨rfl, copyLoop_size _ _ _ _⟩
  · exact hF

/-! ## first literals -/

theorem invFirst_sat {src : Array Nat} {lim : Nat} : ∀ (k i : Nat) (s : ISt),
    (invFirst src lim k i s).Sat IFaults (fun s' => s'.dst.size = s.dst.size)
  | 0, _, _ => rfl
  | k + 1, i, s => by
    rw [invFirst]
    split
    · rename_i val s1 hs1
      have hd : s1.dst = s.dst := (decLit9_sat src 0 s).ok hs1
      dsimp only
      refine .ite (fun _ => trivial) fun _ => .ite (fun _ => ?_) fun _ => .of_mem (by simp [IFaults])
      refine (invFirst_sat k _ _).mono fun s' h => ?_
      rw [h, Array.size_setIfInBounds, hd]
    · trivial
    · rename_i e he
      exact (decLit9_sat src 0 s).fault he

/-! ## one step of the main loop: progress -/

theorem invStep_sat {src : Array Nat} {dstEnd base lim mm delta lpc i : Nat} {s : ISt} (hmm : 0 < mm) :
    (invStep src dstEnd base lim mm delta lpc i s).Sat IFaults (fun r => i < r.1 ∧ r.2.dst.size = s.dst.size) := by
  unfold invStep
  split
  · split
    · rename_i val s1 hs1
      have hd : s1.dst = s.dst := (decLit9_sat src _ s).ok hs1
      dsimp only
      refine .ite (fun _ => ?_) fun _ => .ite (fun _ => trivial) fun _ => ?_
      · exact ⟨Nat.lt_succ_self _, by rw [Array.size_setIfInBounds, hd]⟩
      · split
        · split
          · rename_i dst' i' he
            have ze := (emitCopy_sat (F := IFaults) (by simp [IFaults]) _ _ _ _ _).ok he
            dsimp only at ze
            exact ⟨by omega, by rw [← hd]; exact ze.2⟩
          · trivial
          · rename_i e he
            exact (emitCopy_sat (by simp [IFaults]) _ _ _ _ _).fault he
        · trivial
        · rename_i e he
          exact (decBits_sat _ _ _ _).fault he
    · trivial
    · rename_i e he
      exact (decLit9_sat src _ s).fault he
  · exact .of_mem (by simp [IFaults])

/-! ## the main loop of a chunk -/

theorem invLoop_sat {src : Array Nat} {dstEnd base lim mm delta lpc : Nat} (hmm : 0 < mm) : ∀ (f i : Nat) (s : ISt),
    lim + 1 ≤ f + i → 1 ≤ f →
    (invLoop src dstEnd base lim mm delta lpc f i s).Sat IFaults (fun r => r.2.dst.size = s.dst.size)
  | 0, _, _, _, hf => by omega
  | f + 1, i, s, hf, _ => by
    rw [invLoop]
    refine .ite (fun hi => ?_) fun _ => rfl
    split
    · rename_i r hr
      have z := (invStep_sat hmm).ok hr
      exact (invLoop_sat hmm f r.1 r.2 (by omega) (by omega)).mono fun r' h => h.trans z.2
    · trivial
    · rename_i e he
      exact (invStep_sat hmm).fault he

/-! ## the chunk loop

Stated for any list `F` of fault classes that contains `IFaults`, under the hypothesis that "fuel" is one of them or
the fuel suffices: with `F = IFaults` this is termination and the fault classes; with "fuel" in `F` it says what a
successful run returns, whatever the fuel. -/

/-- progress of the chunk loops of both decoders (`limit` = end of the chunked part; every chunk but the last has
    `sizeChunk` bytes) -/
theorem chunk_progress {startChunk sizeChunk limit endChunk : Nat} (hlt : startChunk < limit)
    (hec : (if startChunk + sizeChunk > limit then limit else startChunk + sizeChunk) = endChunk) :
    startChunk ≤ endChunk ∧ ∀ {f q : Nat}, 0 < sizeChunk ∧ q + 1 ≤ f + 1 ∧ limit ≤ startChunk + q * sizeChunk →
      0 < endChunk - startChunk ∧ q - 1 + 1 ≤ f ∧ limit ≤ endChunk + (q - 1) * (endChunk - startChunk) := by
  subst hec
  refine ⟨by split <;> omega, fun {f q} ⟨hsz, hq, hce⟩ => ?_⟩
  cases q with
  | zero => omega
  | succ q' =>
    rw [Nat.succ_mul] at hce
    rw [Nat.add_sub_cancel]
    split
    · exact ⟨by omega, by omega, Nat.le_add_right _ _⟩
    · rw [Nat.add_sub_cancel_left]
      exact ⟨hsz, by omega, by omega⟩

theorem invChunks_sat {F : List String} (hF : ∀ k ∈ IFaults, k ∈ F) {src : Array Nat}
    {dstEnd chunksEnd mm delta lpc fl : Nat} (hmm : 0 < mm) :
    ∀ (f startChunk sizeChunk dstIdx : Nat) (s : ISt) (q : Nat),
      "fuel" ∈ F ∨ (0 < sizeChunk ∧ q + 1 ≤ f ∧ chunksEnd ≤ startChunk + q * sizeChunk) →
      (invChunks src dstEnd chunksEnd mm delta lpc fl f startChunk sizeChunk dstIdx s).Sat F
        (fun r => r.2.2.2.dst.size = s.dst.size)
  | 0, _, _, _, _, _, hf => hf.elim id fun h => by omega
  | f + 1, startChunk, sizeChunk, dstIdx, s, q, hf => by
    rw [invChunks]
    refine .ite (fun hlt => ?_) fun _ => rfl
    dsimp only
    generalize hec : (if startChunk + sizeChunk > chunksEnd then chunksEnd else startChunk + sizeChunk) = endChunk
    obtain ⟨hle, hstep⟩ := chunk_progress hlt hec
    have hfl : endChunk + 1 ≤ endChunk - startChunk + 1 + (startChunk + min fl (endChunk - startChunk)) := by omega
    split
    · rename_i s1 hs1
      have z1 := (invFirst_sat _ _ _).ok hs1
      split
      · rename_i r hr
        have z2 := (invLoop_sat hmm _ _ _ hfl (Nat.le_add_left _ _)).ok hr
        exact (invChunks_sat hF hmm f _ _ _ _ (q - 1) (hf.imp_right hstep)).mono fun r' h => h.trans (z2.trans z1)
      · trivial
      · rename_i e he
        exact hF _ ((invLoop_sat hmm _ _ _ hfl (Nat.le_add_left _ _)).fault he)
    · trivial
    · rename_i e he
      exact hF _ ((invFirst_sat _ _ _).fault he)

/-! ## last literals -/

theorem invLast_sat {src : Array Nat} {n : Nat} : ∀ (k i : Nat) (s : ISt), s.dst.size = n →
    (invLast src k i s).Sat IFaults (fun r => r.2.dst.size = n ∧ (0 < k → r.1 ≤ n) ∧ r.1 = i + k)
  | 0, _, _, hs => ⟨hs, fun h => absurd h (Nat.lt_irrefl _), rfl⟩
  | k + 1, i, s, hs => by
    rw [invLast]
    refine .ite (fun _ => .of_mem (by simp [IFaults])) fun _ => ?_
    split
    · exact .of_mem (by simp [IFaults])
    · split
      · rename_i val s1 hs1
        have hd : s1.dst = s.dst := (decLit9_sat src _ s).ok hs1
        dsimp only
        refine .ite (fun _ => trivial) fun _ => .ite (fun hlt => ?_) fun _ => .of_mem (by simp [IFaults])
        refine (invLast_sat k _ _ (by rw [Array.size_setIfInBounds, hd, hs])).mono fun r h => ?_
        rw [hd, hs] at hlt
        exact ⟨h.1, fun _ => by omega, by omega⟩
      · trivial
      · rename_i e he
        exact (decLit9_sat src _ s).fault he

/-! ## the whole call -/

theorem invParams2_mm (bsv flags : Nat) : 0 < (invParams2 bsv flags).1 := by
  unfold invParams2
  repeat' split
  all_goals decide

theorem invParams2_idx (bsv flags : Nat) : (invParams2 bsv flags).2.2.1 = if bsv ≥ 3 then 5 else 4 := by
  unfold invParams2
  repeat' split
  all_goals first | rfl | omega

theorem div_fuel (a b : Nat) (hb : 0 < b) : a ≤ 0 + (a / b + 1) * b := by
  have := Nat.lt_mul_div_succ a hb
  rw [Nat.mul_comm] at this
  omega

theorem rolzxReaches_iff {srcLen dstLen hdr : Nat} : rolzxReaches srcLen dstLen hdr = true ↔
    ¬(srcLen = 0 ∨ dstLen = 0) ∧ ¬srcLen < 5 ∧ ¬srcLen > MAX_BLOCK_SIZE ∧ ¬(hdr = 0 ∨ hdr > dstLen) := by
  simp only [rolzxReaches, wrapperPasses, Bool.and_eq_true, Bool.not_eq_true', Bool.or_eq_false_iff,
    decide_eq_false_iff_not, not_or, and_assoc]

/-- `newRolzDecoder` reads `src[srcIdx .. srcIdx+8)` unchecked -/
theorem rolzxInverse_short {cs lpc bsv : Nat} {src : List Nat} {dst0 : Array Nat}
    (hr : rolzxReaches src.length dst0.size (beN src.toArray 0 4) = true)
    (hs : src.length < (invParams2 bsv (src.toArray.getD 4 0)).2.2.1 + 8) :
    rolzxInverse cs lpc bsv src dst0 = .fault "src-index" := by
  obtain ⟨h1, h2, h3, h4⟩ := rolzxReaches_iff.1 hr
  rw [rolzxInverse, if_neg h1, if_neg h2, if_neg h3]
  dsimp only
  rw [if_neg h4, Dec.init, if_neg (by rw [List.size_toArray]; omega)]

theorem rolzxInverse_sat {F : List String} (hF : ∀ k ∈ IFaults, k ∈ F) {cs lpc bsv : Nat} {src : List Nat}
    {dst0 : Array Nat} (hcs : "fuel" ∈ F ∨ 0 < cs)
    (hl : ¬(rolzxReaches src.length dst0.size (beN src.toArray 0 4) = true ∧
      src.length < (invParams2 bsv (src.toArray.getD 4 0)).2.2.1 + 8)) :
    (rolzxInverse cs lpc bsv src dst0).Sat F (fun r => r.2.size = dst0.size ∧ (4 ≤ bsv → r.1 ≤ dst0.size)) := by
  unfold rolzxInverse
  refine .ite (fun _ => ⟨rfl, fun _ => Nat.zero_le _⟩) fun h1 => .ite (fun _ => trivial) fun h2 =>
    .ite (fun _ => trivial) fun h3 => ?_
  dsimp only
  refine .ite (fun _ => trivial) fun h4 => ?_
  have hinit := Nat.le_of_not_lt fun hlt => hl ⟨rolzxReaches_iff.2 ⟨h1, h2, h3, h4⟩, hlt⟩
  rw [Dec.init, if_pos (by rw [List.size_toArray]; exact hinit)]
  dsimp only
  refine .ite (fun _ => trivial) fun _ => ?_
  generalize hco : invChunks _ _ _ _ _ _ _ _ _ _ _ _ = o
  have hch : o.Sat F fun r => r.2.2.2.dst.size = dst0.size := by
    rw [← hco]
    exact invChunks_sat hF (invParams2_mm _ _) _ _ _ _ _ (beN src.toArray 0 4 / min dst0.size cs + 1)
      (hcs.imp_right fun hcs =>
        ⟨by omega, Nat.le_refl _, Nat.le_trans (Nat.sub_le _ _) (div_fuel _ _ (by omega))⟩)
  rcases o with ⟨dstIdx, startChunk, sizeChunk, s⟩ | e | e
  · dsimp only
    refine .ite (fun _ => .of_mem (hF _ (by simp [IFaults]))) fun _ => ?_
    split
    · rename_i w s' hl
      obtain ⟨a, b, _⟩ := (invLast_sat _ _ _ hch).ok hl
      refine .ite (fun _ => trivial) fun _ => ⟨a, fun hb => b ?_⟩
      rw [if_pos hb]
      decide
    · trivial
    · rename_i e he
      exact hF _ ((invLast_sat _ _ _ hch).fault he)
  · trivial
  · exact hch

theorem rolzxInverse_fault {cs lpc bsv : Nat} {src : List Nat} {dst0 : Array Nat} (hcs : 0 < cs) {e : String}
    (h : rolzxInverse cs lpc bsv src dst0 = .fault e) : e ∈ XFaults := by
  by_cases hs : rolzxReaches src.length dst0.size (beN src.toArray 0 4) = true ∧
      src.length < (invParams2 bsv (src.toArray.getD 4 0)).2.2.1 + 8
  · rw [rolzxInverse_short hs.1 hs.2] at h
    injection h with h
    rw [← h]
    decide
  · exact List.mem_cons_of_mem _ ((rolzxInverse_sat (fun _ h => h) (.inr hcs) hs).fault h)

theorem rolzxInverse_ok {cs lpc bsv : Nat} {src : List Nat} {dst0 : Array Nat} {w : Nat} {dst : Array Nat}
    (h : rolzxInverse cs lpc bsv src dst0 = .ok (w, dst)) : dst.size = dst0.size ∧ (4 ≤ bsv → w ≤ dst0.size) := by
  by_cases hs : rolzxReaches src.length dst0.size (beN src.toArray 0 4) = true ∧
      src.length < (invParams2 bsv (src.toArray.getD 4 0)).2.2.1 + 8
  · rw [rolzxInverse_short hs.1 hs.2] at h
    cases h
  · exact (rolzxInverse_sat (F := "fuel" :: IFaults) (fun _ h => List.mem_cons_of_mem _ h)
      (.inl (List.mem_cons_self ..)) hs).ok h

theorem rolzxInverse_srcindex {cs lpc bsv : Nat} {src : List Nat} {dst0 : Array Nat} (hcs : 0 < cs) :
    rolzxInverse cs lpc bsv src dst0 = .fault "src-index" ↔
      (rolzxReaches src.length dst0.size (beN src.toArray 0 4) = true ∧ src.length < (if bsv ≥ 3 then 5 else 4) + 8) := by
  rw [← invParams2_idx bsv (src.toArray.getD 4 0)]
  refine ⟨fun h => Classical.byContradiction fun hn => ?_, fun h => rolzxInverse_short h.1 h.2⟩
  exact absurd ((rolzxInverse_sat (fun _ h => h) (.inr hcs) hn).fault h) (by decide)

end Kanzi.ROLZ
