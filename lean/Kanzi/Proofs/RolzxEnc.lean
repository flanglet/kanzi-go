/-
ROLZX (`rolzCodec2`), encoder only: every piece of Forward preserves the coder invariants (`EncOk`) and lets the
consistency with the complete output (`Good S`) flow BACKWARDS from the final state to every intermediate one.
-/
import Kanzi.Proofs.RolzxStep

namespace Kanzi.ROLZ

structure EncOk (s : FSt) : Prop where
  einv : EInv s.enc
  plok : ProbOk s.pl
  pmok : ProbOk s.pm
  bytes : OutBytes s.enc

theorem encLit9_enc {dstLen c val : Nat} {S : List Nat} (hS : Bytes S) {s s' : FSt} (h : encLit9 dstLen c val s = .ok s')
    (ho : EncOk s) : EncOk s' ∧ (Good S s'.enc → Good S s.enc) ∧ s'.tab = s.tab ∧
      s.enc.out.size ≤ s'.enc.out.size ∧ s'.enc.out.size ≤ s.enc.out.size + 36 := by
  obtain ⟨he, ht, hpm⟩ := encLit9_ok h
  obtain ⟨i1, p1, g1, b1, z1, z2⟩ := encBits_ok hS ho.einv ho.plok he
  exact ⟨⟨i1, p1, by rw [hpm]; exact ho.pmok, b1 ho.bytes⟩, g1, ht, z1, z2⟩

theorem fwdStep_enc {S : List Nat} (hS : Bytes S) {a : Array Nat} {dstLen base lim mm delta lpc i i' : Nat} {s s' : FSt}
    (h : fwdStep a dstLen base lim mm delta lpc i s = .ok (i', s')) (ho : EncOk s) :
    EncOk s' ∧ (Good S s'.enc → Good S s.enc) := by
  obtain ⟨c, key, fm, t, _, _, _, hlit | hmat⟩ := fwdStep_ok h
  · obtain ⟨v, _, _, hs1, _⟩ := hlit
    obtain ⟨o1, b1, _⟩ := encLit9_enc hS hs1 ⟨ho.einv, ho.plok, ho.pmok, ho.bytes⟩
    exact ⟨o1, b1⟩
  · obtain ⟨mi, ml, s1, r, _, hs1, hr, rfl, _⟩ := hmat
    obtain ⟨o1, b1, _⟩ := encLit9_enc hS hs1 ⟨ho.einv, ho.plok, ho.pmok, ho.bytes⟩
    obtain ⟨i2, p2, g2, b2, _⟩ := encBits_ok hS o1.einv o1.pmok (e' := r.1) (t' := r.2) hr
    exact ⟨⟨i2, o1.plok, p2, b2 o1.bytes⟩, fun hg => b1 (g2 hg)⟩

theorem fwdLoop_enc {S : List Nat} (hS : Bytes S) {a : Array Nat} {dstLen base lim mm delta lpc f i : Nat} {s : FSt}
    {r : Nat × FSt} (h : fwdLoop a dstLen base lim mm delta lpc f i s = .ok r) (ho : EncOk s) :
    EncOk r.2 ∧ (Good S r.2.enc → Good S s.enc) := by
  induction f generalizing i s with
  | zero => simp [fwdLoop] at h
  | succ f ih =>
    simp only [fwdLoop] at h
    split at h
    · split at h
      · rename_i r1 hr1
        obtain ⟨o1, b1⟩ := fwdStep_enc hS (i' := r1.1) (s' := r1.2) hr1 ho
        obtain ⟨o2, b2⟩ := ih h o1
        exact ⟨o2, fun hg => b1 (b2 hg)⟩
      · cases h
      · cases h
    · injection h with h
      subst h
      exact ⟨ho, id⟩

theorem fwdFirst_enc {S : List Nat} (hS : Bytes S) {a : Array Nat} {dstLen lim k i : Nat} {s s' : FSt}
    (h : fwdFirst a dstLen lim k i s = .ok s') (ho : EncOk s) :
    EncOk s' ∧ (Good S s'.enc → Good S s.enc) ∧ s'.tab = s.tab := by
  induction k generalizing i s with
  | zero =>
    simp only [fwdFirst] at h
    injection h with h
    subst h
    exact ⟨ho, id, rfl⟩
  | succ k ih =>
    simp only [fwdFirst] at h
    split at h
    · cases h
    · split at h
      · rename_i s1 hs1
        obtain ⟨o1, b1, t1, _⟩ := encLit9_enc hS hs1 ho
        obtain ⟨o2, b2, t2⟩ := ih h o1
        exact ⟨o2, fun hg => b1 (b2 hg), by rw [t2, t1]⟩
      · cases h
      · cases h

theorem fwdLast_enc {S : List Nat} (hS : Bytes S) {a : Array Nat} {dstLen : Nat} :
    ∀ (k i : Nat) (s s' : FSt), fwdLast a dstLen k i s = .ok s' → EncOk s →
    EncOk s' ∧ (Good S s'.enc → Good S s.enc) := by
  intro k
  induction k with
  | zero =>
    intro i s s' h ho
    simp only [fwdLast] at h
    injection h with h
    subst h
    exact ⟨ho, id⟩
  | succ k ih =>
    intro i s s' h ho
    simp only [fwdLast] at h
    split at h
    · cases h
    · split at h
      · split at h
        · rename_i s1 hs1
          obtain ⟨o1, b1, _⟩ := encLit9_enc hS hs1 ho
          obtain ⟨o2, b2⟩ := ih _ _ _ h o1
          exact ⟨o2, fun hg => b1 (b2 hg)⟩
        · cases h
        · cases h
      · cases h

theorem fwdChunks_enc {S : List Nat} (hS : Bytes S) {a : Array Nat} {dstLen srcEnd mm delta lpc : Nat} :
    ∀ (f startChunk sizeChunk srcIdx : Nat) (s : FSt) (r : Nat × Nat × Nat × FSt),
    fwdChunks a dstLen srcEnd mm delta lpc f startChunk sizeChunk srcIdx s = .ok r → EncOk s →
    EncOk r.2.2.2 ∧ (Good S r.2.2.2.enc → Good S s.enc) := by
  intro f
  induction f with
  | zero => intro st sz si s r h; simp [fwdChunks] at h
  | succ f ih =>
    intro st sz si s r h ho
    simp only [fwdChunks] at h
    split at h
    · split at h
      · rename_i s1 hs1
        split at h
        · rename_i r1 hr1
          have ho0 : EncOk ⟨⟨matches0 lpc, s.tab.counters⟩, s.enc, probs0 9, probs0 lpc⟩ :=
            ⟨ho.einv, probs0_ok 9, probs0_ok lpc, ho.bytes⟩
          obtain ⟨o1, b1, _⟩ := fwdFirst_enc hS hs1 ho0
          obtain ⟨o2, b2⟩ := fwdLoop_enc hS hr1 o1
          obtain ⟨o3, b3⟩ := ih _ _ _ _ _ h o2
          exact ⟨o3, fun hg => b1 (b2 (b3 hg))⟩
        · cases h
        · cases h
      · cases h
      · cases h
    · injection h with h
      subst h
      exact ⟨ho, id⟩

end Kanzi.ROLZ
