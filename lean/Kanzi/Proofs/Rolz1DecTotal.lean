/-
ROLZ (`rolzCodec1.Inverse`, model `rolzInverse` of Model/ROLZ1.lean) on ARBITRARY input: the fuel of the
registration loop, of the main loop of a chunk and of the chunk loop is never exhausted; the run-time faults
are index errors of nine classes (`R1Faults`).  Property C03 (`Kanzi/Properties/C03_rolz.lean`).
-/
import Kanzi.Model.ROLZ1
import Kanzi.Model.RolzDec
import Kanzi.Proofs.RolzxDecTotal

namespace Kanzi.ROLZ

def R1Faults : List String :=
  ["tk-index", "len-slice", "dst-slice", "lit-slice", "matches-index", "mix-index", "matches-slice", "dst-index", "first-index"]

theorem copyFrom_size (src : Array Nat) (lim : Nat) : ∀ (n : Nat) (dst : Array Nat) (d s : Nat),
    (copyFrom dst lim d src s n).size = dst.size := by
  intro n
  induction n with
  | zero => intro dst d s; rfl
  | succ n ih =>
    intro dst d s
    rw [copyFrom]
    split
    · rw [ih, Array.size_setIfInBounds]
    · rfl

theorem regRun_sat {mm delta lpc base lim i litLen : Nat} : ∀ (f n inc : Nat) (s : I1),
    litLen + 1 ≤ f + n → 1 ≤ f →
    (regRun mm delta lpc base lim i litLen f n inc s).Sat R1Faults (fun s' => s'.dst = s.dst)
  | 0, _, _, _, _, hf => by omega
  | f + 1, n, inc, s, hf, _ => by
    rw [regRun]
    refine .ite (fun _ => ?_) fun _ => rfl
    dsimp only
    split
    · exact .of_mem (by simp [R1Faults])
    · refine .ite (fun _ => ?_) fun _ => .of_mem (by simp [R1Faults])
      exact regRun_sat f _ _ _ (by omega) (by omega)

/-- the literal part of one step (the `let afterLits` of `inv1Step`) -/
def afterLitsE (sd : Side) (base lim mm delta lpc : Nat) (j : J1) (litLen : Nat) : Out (Nat × I1 × Bool) :=
  if litLen > 0 then
    if (j.i - base) + litLen > sd.lit.size then .err "invalid"
    else if j.i < base + delta then .fault "dst-slice"
    else if j.litIdx + litLen > sd.lit.size then .fault "lit-slice"
    else
      match regRun mm delta lpc base lim j.i litLen (litLen + 1) 0 0 ⟨j.st.tab, copyFrom j.st.dst lim j.i sd.lit j.litIdx litLen⟩ with
      | .ok s1 =>
        if j.i + litLen ≥ lim then (if j.i + litLen = lim then .ok (j.i + litLen, s1, true) else .err "invalid")
        else .ok (j.i + litLen, s1, false)
      | .err e => .err e
      | .fault e => .fault e
  else .ok (j.i, ⟨j.st.tab, j.st.dst⟩, false)

theorem afterLitsE_sat {sd : Side} {base lim mm delta lpc : Nat} {j : J1} {litLen : Nat} :
    (afterLitsE sd base lim mm delta lpc j litLen).Sat R1Faults
      (fun r => j.i ≤ r.1 ∧ r.2.1.dst.size = j.st.dst.size) := by
  unfold afterLitsE
  refine .ite (fun _ => .ite (fun _ => trivial) fun _ => .ite (fun _ => .of_mem (by simp [R1Faults])) fun _ =>
    .ite (fun _ => .of_mem (by simp [R1Faults])) fun _ => ?_) fun _ => ⟨Nat.le_refl _, rfl⟩
  split
  · rename_i s1 hs1
    have hd : s1.dst.size = j.st.dst.size := by
      rw [(regRun_sat _ _ _ _ (by omega) (by omega)).ok hs1]
      exact copyFrom_size _ _ _ _ _ _
    exact .ite (fun _ => .ite (fun _ => ⟨Nat.le_add_right _ _, hd⟩) fun _ => trivial) fun _ =>
      ⟨Nat.le_add_right _ _, hd⟩
  · trivial
  · rename_i e he
    exact (regRun_sat _ _ _ _ (by omega) (by omega)).fault he

/-- one iteration keeps the length of the destination and, unless it `break`s, advances `dstIdx` -/
theorem inv1Step_sat {sd : Side} {dstEnd base lim mm delta lpc : Nat} {j : J1} (hmm : 0 < mm) :
    (inv1Step sd dstEnd base lim mm delta lpc j).Sat R1Faults
      (fun r => r.1.st.dst.size = j.st.dst.size ∧ (r.2 = false → j.i < r.1.i)) := by
  unfold inv1Step
  dsimp only
  split
  · exact .of_mem (by simp [R1Faults])
  · split
    · exact .of_mem (by simp [R1Faults])
    · split
      · exact .of_mem (by simp [R1Faults])
      · split
        · trivial
        · rename_i e he
          exact (afterLitsE_sat (j := j)).fault he
        · rename_i i1 s1 hal
          exact ⟨((afterLitsE_sat (j := j)).ok hal).2, fun h => by cases h⟩
        · rename_i i1 s1 hal
          have z := (afterLitsE_sat (j := j)).ok hal
          refine .ite (fun _ => trivial) fun _ => ?_
          split
          · exact .of_mem (by simp [R1Faults])
          · split
            · exact .of_mem (by simp [R1Faults])
            · refine .ite (fun _ => .of_mem (by simp [R1Faults])) fun _ => ?_
              split
              · rename_i dst' i2 he
                have ze := (emitCopy_sat (F := R1Faults) (by simp [R1Faults]) _ _ _ _ _).ok he
                dsimp only at ze z
                exact ⟨ze.2.trans z.2, fun _ => by dsimp only; omega⟩
              · trivial
              · rename_i e he
                exact (emitCopy_sat (by simp [R1Faults]) _ _ _ _ _).fault he

theorem inv1Loop_sat {sd : Side} {dstEnd base lim mm delta lpc : Nat} (hmm : 0 < mm) : ∀ (f : Nat) (j : J1),
    lim + 1 ≤ f + j.i → 1 ≤ f →
    (inv1Loop sd dstEnd base lim mm delta lpc f j).Sat R1Faults (fun j' => j'.st.dst.size = j.st.dst.size)
  | 0, _, _, hf => by omega
  | f + 1, j, hf, _ => by
    rw [inv1Loop]
    refine .ite (fun _ => ?_) fun _ => rfl
    split
    · rename_i j' hj
      exact ((inv1Step_sat hmm).ok hj).1
    · rename_i j' hj
      have z := (inv1Step_sat hmm).ok hj
      have hlt : j.i < j'.i := z.2 rfl
      exact (inv1Loop_sat hmm f j' (by omega) (by omega)).mono fun _ h => h.trans z.1
    · trivial
    · rename_i e he
      exact (inv1Step_sat hmm).fault he

/-! ## the chunk loop

Stated, like `invChunks_sat`, for any list `F` of fault classes that contains `R1Faults`, "fuel" being one of them
or the fuel sufficient: the first reading gives `rolzInverse_ok` without a hypothesis on the chunk size, the second
`rolzInverse_fault` (`"fuel" ∉ R1Faults`). -/

theorem inv1Chunks_sat {F : List String} (hF : ∀ k ∈ R1Faults, k ∈ F) {src : Array Nat}
    {dstEnd mm delta lpc litOrder fl : Nat} {old : Bool} (hmm : 0 < mm) :
    ∀ (f startChunk sizeChunk0 dstIdx srcIdx : Nat) (sd : Side) (tab : Tab) (dst : Array Nat) (q : Nat),
      "fuel" ∈ F ∨ (0 < sizeChunk0 ∧ q + 1 ≤ f ∧ dstEnd ≤ startChunk + q * sizeChunk0) →
      (inv1Chunks src dstEnd mm delta lpc litOrder fl old f startChunk sizeChunk0 dstIdx srcIdx sd tab dst).Sat F
        (fun r => r.2.2.2.2.size = dst.size)
  | 0, _, _, _, _, _, _, _, _, hf => hf.elim id fun h => by omega
  | f + 1, startChunk, sizeChunk0, dstIdx, srcIdx, sd, tab, dst, q, hf => by
    rw [inv1Chunks]
    refine .ite (fun hlt => ?_) fun _ => rfl
    dsimp only
    generalize hec : (if startChunk + sizeChunk0 > dstEnd then dstEnd else startChunk + sizeChunk0) = endChunk
    obtain ⟨hle, hstep⟩ := chunk_progress hlt hec
    have hfl : endChunk + 1 ≤ endChunk - startChunk + 1 + (startChunk + fl) := by omega
    split
    · trivial
    · refine .ite (fun _ => trivial) fun _ => .ite (fun _ => trivial) fun _ => .ite (fun _ => trivial) fun _ => ?_
      split
      · trivial
      · split
        · trivial
        · split
          · trivial
          · split
            · trivial
            · refine .ite (fun _ => .ite (fun _ => trivial) fun _ => ?_) fun _ =>
                .ite (fun _ => .of_mem (hF _ (by simp [R1Faults]))) fun _ => ?_
              · refine (inv1Chunks_sat hF hmm f _ _ _ _ _ _ _ (q - 1) (hf.imp_right hstep)).mono fun r h => ?_
                rw [h]
                exact copyFrom_size _ _ _ _ _ _
              · split
                · rename_i j hj
                  have z := (inv1Loop_sat hmm _ _ hfl (Nat.le_add_left _ _)).ok hj
                  refine (inv1Chunks_sat hF hmm f _ _ _ _ _ _ _ (q - 1) (hf.imp_right hstep)).mono fun r h => ?_
                  rw [h, z]
                  exact copyFrom_size _ _ _ _ _ _
                · trivial
                · rename_i e he
                  exact hF _ ((inv1Loop_sat hmm _ _ hfl (Nat.le_add_left _ _)).fault he)

theorem invParams1_mm (bsv flags : Nat) : 0 < (invParams1 bsv flags).1 := by
  unfold invParams1
  repeat' split
  all_goals decide

theorem rolzInverse_sat {F : List String} (hF : ∀ k ∈ R1Faults, k ∈ F) {cs lpc0 : Nat} {hasBsv : Bool} {bsv : Nat}
    {src : List Nat} {dst0 : Array Nat} (hcs : "fuel" ∈ F ∨ 0 < cs) :
    (rolzInverse cs lpc0 hasBsv bsv src dst0).Sat F (fun r => r.2.size = dst0.size ∧ r.1 ≤ dst0.size) := by
  unfold rolzInverse
  refine .ite (fun _ => ⟨rfl, Nat.zero_le _⟩) fun h1 => .ite (fun _ => trivial) fun _ => .ite (fun _ => trivial) fun _ => ?_
  dsimp only
  refine .ite (fun _ => trivial) fun _ => .ite (fun _ => trivial) fun _ => ?_
  generalize hco : inv1Chunks _ _ _ _ _ _ _ _ _ _ _ _ _ _ _ _ = o
  have hch : o.Sat F fun r => r.2.2.2.2.size = dst0.size := by
    rw [← hco]
    exact inv1Chunks_sat hF (invParams1_mm _ _) _ _ _ _ _ _ _ _ ((beN src.toArray 0 4 - 4) / min dst0.size cs + 1)
      (hcs.imp_right fun hcs => ⟨by omega, Nat.le_refl _, div_fuel _ _ (by omega)⟩)
  rcases o with ⟨dstIdx, startChunk, sizeChunk, srcIdx, dst⟩ | e | e
  · dsimp only
    refine .ite (fun _ => trivial) fun hno => ?_
    have hch : dst.size = dst0.size := hch
    simp only [Out.Sat, Array.size_setIfInBounds]
    omega
  · trivial
  · exact hch

/-- ROLZ Inverse on arbitrary input (positive chunk size): the fuel of none of its three loops is exhausted
    (`"fuel" ∉ R1Faults`); a run-time fault is an index error of one of the classes `R1Faults`.  The ANS calls inside
    are Option-valued functions with a fuel of their own (RolzAnsLink.lean) -/
theorem rolzInverse_fault {cs lpc0 : Nat} {hasBsv : Bool} {bsv : Nat} {src : List Nat} {dst0 : Array Nat} (hcs : 0 < cs)
    {e : String} (h : rolzInverse cs lpc0 hasBsv bsv src dst0 = .fault e) : e ∈ R1Faults :=
  (rolzInverse_sat (fun _ h => h) (.inr hcs)).fault h

/-- on success the destination keeps its length and the reported number of bytes written is at most `len(dst)` -/
theorem rolzInverse_ok {cs lpc0 : Nat} {hasBsv : Bool} {bsv : Nat} {src : List Nat} {dst0 : Array Nat} {w : Nat}
    {dst : Array Nat} (h : rolzInverse cs lpc0 hasBsv bsv src dst0 = .ok (w, dst)) :
    dst.size = dst0.size ∧ w ≤ dst0.size :=
  (rolzInverse_sat (F := "fuel" :: R1Faults) (fun _ h => List.mem_cons_of_mem _ h) (.inl (List.mem_cons_self ..))).ok h

/-- a chunk whose header announces a sub-stream longer than the buffer made for it is rejected before any
    entropy decoding -/
theorem inv1Chunks_length {src : Array Nat} {dstEnd mm delta lpc litOrder fl : Nat} {old : Bool}
    {f startChunk sizeChunk0 dstIdx srcIdx : Nat} {sd : Side} {tab : Tab} {dst : Array Nat} (hlt : startChunk < dstEnd)
    {a b c d : Nat} {r0 : Kanzi.Bits.Bits}
    (hh : readHdr (Kanzi.Bits.ofBytes (src.extract srcIdx src.size).toList) = some ((a, b, c, d), r0))
    (hbig : a > sd.lit.size ∨ b > sd.tk.size ∨ c > sd.len.size ∨ d > sd.mix.size) :
    inv1Chunks src dstEnd mm delta lpc litOrder fl old (f + 1) startChunk sizeChunk0 dstIdx srcIdx sd tab dst = .err "length" := by
  rw [inv1Chunks, if_pos hlt]
  dsimp only
  rw [hh]
  dsimp only
  rw [if_pos hbig]

theorem rolzInverse_length {cs lpc0 : Nat} {hasBsv : Bool} {bsv : Nat} {src : List Nat} {dst0 : Array Nat}
    (hreach : rolz1Reaches src.length dst0.size (beN src.toArray 0 4) = true)
    (hlpc : 2 ≤ src.toArray.getD 4 0 >>> 4 ∧ src.toArray.getD 4 0 >>> 4 ≤ 8)
    {a b c d : Nat} {r0 : Kanzi.Bits.Bits}
    (hh : readHdr (Kanzi.Bits.ofBytes (src.toArray.extract 5 src.toArray.size).toList) = some ((a, b, c, d), r0))
    (hbig : a > min dst0.size cs ∨ b > min dst0.size cs / 4 ∨ c > min dst0.size cs / 5 ∨ d > min dst0.size cs / 4) :
    rolzInverse cs lpc0 hasBsv bsv src dst0 = .err "length" := by
  unfold rolz1Reaches wrapperPasses at hreach
  simp only [Bool.and_eq_true, Bool.not_eq_true', Bool.or_eq_false_iff, decide_eq_false_iff_not] at hreach
  obtain ⟨⟨⟨⟨h1, h2⟩, h3⟩, h4⟩, h5, h6⟩ := hreach
  unfold rolzInverse
  rw [if_neg (by omega), if_neg h3, if_neg h4]
  dsimp only
  rw [if_neg (by omega), if_neg (by omega)]
  rw [inv1Chunks_length (by omega) hh (by simpa using hbig)]

theorem rolz1Allocs_bound (cs lpc0 srcLen dstLen hdr mLen : Nat) :
    (∀ x ∈ rolz1Allocs cs lpc0 srcLen dstLen hdr mLen, x ≤ dstLen ∨ x = HASH_SIZE * 2 ^ lpc0) ∧
    (rolz1Allocs cs lpc0 srcLen dstLen hdr mLen).sum ≤ 2 * dstLen + HASH_SIZE * 2 ^ lpc0 := by
  unfold rolz1Allocs
  have hm : min dstLen cs ≤ dstLen := Nat.min_le_left _ _
  generalize min dstLen cs = m at hm
  generalize HASH_SIZE * 2 ^ lpc0 = tbl
  split
  · split
    · simp only [List.cons_append, List.nil_append, List.mem_cons, List.not_mem_nil, or_false, forall_eq_or_imp,
        forall_eq, List.sum_cons, List.sum_nil, or_true, and_true]
      omega
    · simp only [List.append_nil, List.mem_cons, List.not_mem_nil, or_false, forall_eq_or_imp, forall_eq,
        List.sum_cons, List.sum_nil]
      omega
  · exact ⟨fun _ hx => (List.not_mem_nil hx).elim, Nat.zero_le _⟩

theorem rolzxAllocs_bound (lpc bsv srcLen dstLen hdr : Nat) :
    ∀ x ∈ rolzxAllocs lpc bsv srcLen dstLen hdr, x = 256 <<< lpc ∨ x = 256 <<< 9 := by
  intro x hx
  unfold rolzxAllocs at hx
  by_cases hc : (rolzxReaches srcLen dstLen hdr && decide ((if bsv ≥ 3 then 5 else 4) + 8 ≤ srcLen)) = true
  · rw [if_pos hc] at hx; simpa using hx
  · rw [if_neg hc] at hx; simp at hx

end Kanzi.ROLZ
