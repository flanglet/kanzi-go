/-
Proofs about the total ANS decoder model `Kanzi/Model/AnsDec.lean` (property C03), on ARBITRARY input
and, where sizes matter, from any decoder object that satisfies `Inv`: sizes and byte invariants of
the object, `decodeHeader` and the decoding part of `decodeChunkV2` never fault, the chunk loop ends within
`ceil(count/chunkSize) + 1` iterations (every bitstream version), `Read` neither faults nor allocates
beyond a bound in the block length (bitstream version other than 1; `read_good`), the exact condition
of the oversize `ReadArray`.  Each piece of the model has one theorem `…_sat` (`R.Sat`: a value with a property,
or a stop of a listed class); loops over `readLoop` go through the one invariant rule `readLoop_rule`.
Core Lean only.
-/
import Kanzi.Model.AnsDec
import Kanzi.Proofs.EntSmall
import Kanzi.Proofs.Ans0

namespace Kanzi.AnsDec
open Kanzi.Bits Kanzi.EntSmall

/-! ### A. the outcome type -/

/-- the piece returns a value satisfying `P` or stops, and then for a reason in `A`.  Each piece of the decoder
    has one theorem `…_sat` of this form: `[.err, .eos]` for what reads the header (a clean error return and the
    end of the input are allowed, a fault or an overrun is not), `[]` for what reads no bits (it always returns) -/
def R.Sat {α : Type} (A : List Stop) (P : α → Prop) : R α → Prop
  | .ok a => P a
  | e => stopOf e ∈ A

theorem R.Sat.bind {α β : Type} {A : List Stop} {P : α → Prop} {Q : β → Prop} {x : R α} {f : α → R β}
    (hx : x.Sat A P) (hf : ∀ a, P a → (f a).Sat A Q) : (x.bind f).Sat A Q := by
  cases x with
  | ok a => exact hf a hx
  | _ => exact hx

theorem R.Sat.mono {α : Type} {A : List Stop} {P Q : α → Prop} {x : R α} (hx : x.Sat A P) (h : ∀ a, P a → Q a) :
    x.Sat A Q := by
  cases x with
  | ok a => exact h a hx
  | _ => exact hx

theorem R.Sat.of_ok {α : Type} {A : List Stop} {P : α → Prop} {x : R α} {a : α} (hx : x.Sat A P) (h : x = .ok a) :
    P a := by
  subst h; exact hx

theorem R.Sat.err {α : Type} {P : α → Prop} : (R.err : R α).Sat [.err, .eos] P := .head _

theorem R.Sat.eos {α : Type} {P : α → Prop} : (R.eos : R α).Sat [.err, .eos] P := .tail _ (.head _)

theorem rBits_sat (n : Nat) (bs : Bits) : (rBits n bs).Sat [.err, .eos] (fun _ => True) := by
  unfold rBits
  cases readBits n bs with
  | none => exact .eos
  | some q => trivial

/-! ### B. arrays: sizes and bytes -/

theorem fill_size (start v : Nat) : ∀ (c : Nat) (arr : Array Nat), (fill start v c arr).size = arr.size := by
  intro c
  induction c with
  | zero => intro arr; rfl
  | succ c ih => intro arr; simp only [fill]; rw [ih]; simp

theorem writePrefix_size : ∀ (bs : List Nat) (i : Nat) (arr : Array Nat), (writePrefix bs i arr).size = arr.size := by
  intro bs
  induction bs with
  | nil => intro i arr; rfl
  | cons b bs ih => intro i arr; simp only [writePrefix]; rw [ih]; simp

/-- every entry is a byte (Go: the element type of `this.f2s` / `this.buffer`) -/
def Bytes (a : Array Nat) : Prop := ∀ i, a.getD i 0 < 256

theorem Bytes.set {a : Array Nat} (h : Bytes a) (i v : Nat) (hv : v < 256) : Bytes (a.setIfInBounds i v) := by
  intro j
  rw [getD_setIfInBounds]
  split
  · exact hv
  · exact h j

theorem Bytes.fill {start v : Nat} (hv : v < 256) : ∀ (c : Nat) (a : Array Nat), Bytes a → Bytes (fill start v c a) := by
  intro c
  induction c with
  | zero => intro a h; exact h
  | succ c ih => intro a h; simp only [AnsDec.fill]; exact ih _ (h.set _ _ hv)

theorem Bytes.replicate (n : Nat) : Bytes (Array.replicate n 0) := by
  intro i
  simp only [Array.getD_eq_getD_getElem?, Array.getElem?_replicate]
  split <;> simp

theorem Bytes.empty : Bytes #[] := by
  intro i; simp [Array.getD_eq_getD_getElem?]

theorem Bytes.writePrefix : ∀ (bs : List Nat) (i : Nat) (a : Array Nat), (∀ b ∈ bs, b < 256) → Bytes a →
    Bytes (writePrefix bs i a) := by
  intro bs
  induction bs with
  | nil => intro i a _ h; exact h
  | cons b bs ih =>
    intro i a hb h
    simp only [AnsDec.writePrefix]
    exact ih _ _ (fun x hx => hb x (List.mem_cons_of_mem _ hx)) (h.set _ _ (hb b List.mem_cons_self))

theorem Bytes.mem_toList {a : Array Nat} (h : Bytes a) : ∀ b ∈ a.toList, b < 256 := by
  intro b hb
  obtain ⟨i, hi, rfl⟩ := List.getElem_of_mem hb
  have := h i
  simp only [Array.length_toList] at hi
  simpa [Array.getD_eq_getD_getElem?, Array.getElem?_eq_getElem hi] using this

theorem getD_fill (start v : Nat) : ∀ (c : Nat) (a : Array Nat) (x : Nat),
    (fill start v c a).getD x 0 = if start ≤ x ∧ x < start + c ∧ x < a.size then v else a.getD x 0 := by
  intro c
  induction c with
  | zero => intro a x; simp only [fill]; rw [if_neg (by omega)]
  | succ c ih =>
    intro a x
    simp only [fill]
    rw [ih, getD_setIfInBounds]
    simp only [Array.size_setIfInBounds]
    by_cases h1 : start ≤ x ∧ x < start + c ∧ x < a.size
    · rw [if_pos h1, if_pos ⟨h1.1, by omega, h1.2.2⟩]
    · rw [if_neg h1]
      by_cases h2 : start + c = x ∧ start + c < a.size
      · rw [if_pos h2, if_pos ⟨by omega, by omega, by omega⟩]
      · rw [if_neg h2, if_neg (by omega)]

theorem getD_writePrefix : ∀ (bs : List Nat) (i : Nat) (a : Array Nat) (x : Nat),
    (writePrefix bs i a).getD x 0
      = if i ≤ x ∧ x < i + bs.length ∧ x < a.size then bs.getD (x - i) 0 else a.getD x 0 := by
  intro bs
  induction bs with
  | nil => intro i a x; simp only [writePrefix, List.length_nil]; rw [if_neg (by omega)]
  | cons b bs ih =>
    intro i a x
    simp only [writePrefix]
    rw [ih, getD_setIfInBounds]
    simp only [Array.size_setIfInBounds, List.length_cons]
    by_cases h1 : i + 1 ≤ x ∧ x < i + 1 + bs.length ∧ x < a.size
    · rw [if_pos h1, if_pos ⟨by omega, by omega, h1.2.2⟩]
      have : x - i = (x - (i + 1)) + 1 := by omega
      rw [this, List.getD_cons_succ]
    · rw [if_neg h1]
      by_cases h2 : i = x ∧ i < a.size
      · rw [if_pos h2, if_pos ⟨by omega, by omega, by omega⟩]
        have : x - i = 0 := by omega
        rw [this, List.getD_cons_zero]
      · rw [if_neg h2, if_neg (by omega)]

/-! ### C. the frequency table of one context on ARBITRARY input -/

theorem decFreqsR_sat (logMax scale : Nat) : ∀ (n : Nat) (bs : Bits),
    (decFreqsR n logMax scale bs).Sat [.err, .eos] (fun p => p.1.length = n) := by
  intro n
  induction n with
  | zero => intro bs; simp [decFreqsR, R.Sat]
  | succ n ih =>
    intro bs
    have hcons : ∀ (v : Nat) (p : List Nat × Bits), p.1.length = n →
        (R.ok ((1 + v) :: p.1, p.2) : R (List Nat × Bits)).Sat [.err, .eos] (fun p => p.1.length = n + 1) :=
      fun v p hp => congrArg (· + 1) hp
    simp only [decFreqsR]
    split
    · exact (ih bs).bind (hcons 0)
    · cases readBits logMax bs with
      | none => exact .eos
      | some q =>
        obtain ⟨v, r⟩ := q
        simp only
        split
        · exact .err
        · exact (ih r).bind (hcons v)

theorem decFreqChunksR_sat (chk llr scale : Nat) (hchk : 0 < chk) : ∀ (fuel count : Nat) (bs : Bits),
    count ≤ fuel → (decFreqChunksR fuel chk llr scale count bs).Sat [.err, .eos] (fun p => p.1.length = count) := by
  intro fuel
  induction fuel with
  | zero =>
    intro count bs h
    have : count = 0 := by omega
    subst this
    simp [decFreqChunksR, R.Sat]
  | succ fuel ih =>
    intro count bs h
    simp only [decFreqChunksR]
    split
    · rename_i h0; simp [R.Sat, h0]
    · rename_i h0
      cases readBits llr bs with
      | none => exact .eos
      | some q =>
        obtain ⟨logMax, r⟩ := q
        simp only
        split
        · exact .err
        · refine (decFreqsR_sat logMax scale _ r).bind ?_
          intro c hc
          refine (ih (count - min chk count) c.2 (by omega)).bind ?_
          intro t ht
          simp only [R.Sat, List.length_append]
          omega

theorem sum_set_zero (l : List Nat) (i v : Nat) (hi : i < l.length) (h0 : l.getD i 0 = 0) :
    (l.set i v).sum = l.sum + v := by
  have := Kanzi.Normalize.sum_set l i v hi
  rw [h0] at this
  exact this

theorem setFreqs_cons (t : List Nat) (s : Nat) (a : List Nat) (f : Nat) (fs : List Nat) :
    setFreqs t (s :: a) (f :: fs) = setFreqs (t.set s f) a fs := by
  simp [setFreqs]

theorem setFreqs_nil_left (t fs : List Nat) : setFreqs t [] fs = t := by simp [setFreqs]
theorem setFreqs_nil_right (t a : List Nat) : setFreqs t a [] = t := by simp [setFreqs]

theorem setFreqs_getD_notMem : ∀ (a fs t : List Nat) (i : Nat), i ∉ a →
    (setFreqs t a fs).getD i 0 = t.getD i 0 := by
  intro a
  induction a with
  | nil => intro fs t i _; rw [setFreqs_nil_left]
  | cons s a ih =>
    intro fs t i hi
    cases fs with
    | nil => rw [setFreqs_nil_right]
    | cons f fs =>
      rw [setFreqs_cons, ih fs _ i (fun h => hi (List.mem_cons_of_mem _ h))]
      exact getD_set_ne _ _ _ _ (fun e => hi (e ▸ List.mem_cons_self))

theorem setFreqs_sum : ∀ (a fs t : List Nat), a.Nodup → (∀ s ∈ a, s < t.length) → (∀ s ∈ a, t.getD s 0 = 0) →
    fs.length = a.length → (setFreqs t a fs).sum = t.sum + fs.sum := by
  intro a
  induction a with
  | nil =>
    intro fs t _ _ _ hl
    have : fs = [] := List.length_eq_zero_iff.mp (by simpa using hl)
    subst this
    rw [setFreqs_nil_left]; simp
  | cons s a ih =>
    intro fs t hnd hlt hz hl
    cases fs with
    | nil => simp at hl
    | cons f fs =>
      rw [setFreqs_cons]
      have hsn : s ∉ a := (List.nodup_cons.mp hnd).1
      rw [ih fs (t.set s f) (List.nodup_cons.mp hnd).2
        (by intro x hx; rw [List.length_set]; exact hlt x (List.mem_cons_of_mem _ hx))
        (by
          intro x hx
          rw [getD_set_ne _ _ _ _ (fun e => by subst e; exact hsn hx)]
          exact hz x (List.mem_cons_of_mem _ hx))
        (by simpa using hl)]
      rw [sum_set_zero t s f (hlt s List.mem_cons_self) (hz s List.mem_cons_self)]
      simp only [List.sum_cons]
      omega

theorem bytesOf_length : ∀ (n : Nat) (bs : Bits), (bytesOf n bs).length = n := by
  intro n
  induction n with
  | zero => intro bs; rfl
  | succ n ih => intro bs; simp [bytesOf, ih]

theorem bytesOf_lt : ∀ (n : Nat) (bs : Bits), ∀ b ∈ bytesOf n bs, b < 256 := by
  intro n
  induction n with
  | zero => intro bs b hb; simp [bytesOf] at hb
  | succ n ih =>
    intro bs b hb
    simp only [bytesOf, List.mem_cons] at hb
    rcases hb with rfl | hb
    · exact bitsNat_take_lt 8 bs
    · exact ih _ b hb

theorem readBytes_facts (n : Nat) (bs : Bits) (bytes : List Nat) (r : Bits) (h : readBytes n bs = some (bytes, r)) :
    bytes.length = n ∧ ∀ b ∈ bytes, b < 256 := by
  unfold readBytes at h
  split at h
  · simp only [Option.some.injEq, Prod.mk.injEq] at h
    rw [← h.1]
    exact ⟨bytesOf_length _ _, bytesOf_lt _ _⟩
  · cases h

theorem sorted_nodup (a : List Nat) (h : a.Pairwise (· < ·)) : a.Nodup :=
  List.Pairwise.imp (fun hlt => Nat.ne_of_lt hlt) h

/-- what `decodeAlphabet` returns on ANY input: a strictly increasing list of bytes -/
theorem decodeAlphabet_facts (bs : Bits) (a : List Nat) (r : Bits) (h : decodeAlphabet bs = some (a, r)) :
    a.Pairwise (· < ·) ∧ (∀ s ∈ a, s < 256) := by
  unfold decodeAlphabet at h
  cases h1 : readBit bs with
  | none => rw [h1] at h; cases h
  | some q =>
    obtain ⟨b, r1⟩ := q
    rw [h1] at h
    cases b with
    | false =>
      simp only at h
      cases h2 : readBit r1 with
      | none => rw [h2] at h; cases h
      | some q2 =>
        obtain ⟨b2, r2⟩ := q2
        rw [h2] at h
        cases b2 with
        | true =>
          simp only [Option.some.injEq, Prod.mk.injEq] at h
          rw [← h.1]; exact ⟨List.Pairwise.nil, by simp⟩
        | false =>
          simp only [Option.some.injEq, Prod.mk.injEq] at h
          rw [← h.1]
          exact ⟨List.pairwise_lt_range, by intro s hs; exact List.mem_range.mp hs⟩
    | true =>
      simp only at h
      cases h2 : readBits 5 r1 with
      | none => rw [h2] at h; cases h
      | some q2 =>
        obtain ⟨lastMask, r2⟩ := q2
        rw [h2] at h
        simp only at h
        cases h3 : readBytes (lastMask + 1) r2 with
        | none => rw [h3] at h; cases h
        | some q3 =>
          obtain ⟨masks, r3⟩ := q3
          rw [h3] at h
          simp only [Option.some.injEq, Prod.mk.injEq] at h
          rw [← h.1]
          refine ⟨decodeMasksAux_sorted _ _, ?_⟩
          intro s hs
          rw [mem_decodeMasksAux] at hs
          obtain ⟨k, j, hk, hj, _, rfl⟩ := hs
          -- masks has lastMask+1 ≤ 32 entries
          have hlm : lastMask < 2 ^ 5 := readBits_lt 5 r1 lastMask r2 h2
          have hml := (readBytes_facts _ _ _ _ h3).1
          omega

theorem freqTableR_sat (a : List Nat) (lr : Nat) (bs : Bits) (hs : a.Pairwise (· < ·))
    (hlt : ∀ s ∈ a, s < 256) (hne : a ≠ []) :
    (freqTableR a lr bs).Sat [.err, .eos] (fun p => p.1.length = 256 ∧ p.1.sum = 2 ^ lr) := by
  unfold freqTableR
  refine (decFreqChunksR_sat (chkSizeOf a.length) (llrOf lr) (2 ^ lr) (chkSizeOf_pos _) a.length (a.length - 1)
    bs (by omega)).bind ?_
  intro p hp
  split
  · exact .err
  · rename_i hsum
    simp only [R.Sat]
    have hnd : (a.drop 1).Nodup := sorted_nodup _ (List.Pairwise.sublist (List.drop_sublist 1 a) hs)
    have hlt' : ∀ s ∈ a.drop 1, s < (List.replicate 256 0).length := by
      intro s h; rw [List.length_replicate]; exact hlt s (List.mem_of_mem_drop h)
    have hlen : (setFreqs (List.replicate 256 0) (a.drop 1) p.1).length = 256 := by
      rw [setFreqs_length, List.length_replicate]
    have hsumS := setFreqs_sum (a.drop 1) p.1 (List.replicate 256 0) hnd hlt'
      (fun s _ => getD_replicate_zero 256 s) (by rw [hp, List.length_drop])
    have ha0 : a.headD 0 < 256 := hlt _ (headD_mem a hne)
    have ha0n : a.headD 0 ∉ a.drop 1 := by
      obtain ⟨x, xs, rfl⟩ := List.exists_cons_of_ne_nil hne
      exact (List.nodup_cons.mp (sorted_nodup _ hs)).1
    refine ⟨by rw [List.length_set, hlen], ?_⟩
    rw [sum_set_zero _ _ _ (by rw [hlen]; exact ha0)
      (by rw [setFreqs_getD_notMem _ _ _ _ ha0n]; exact getD_replicate_zero 256 _), hsumS]
    have : (List.replicate 256 0).sum = 0 := sum_replicate_zero 256
    omega

/-! ### D. `decodeHeader` never faults -/

theorem mapLoop_sat (base sbase lr : Nat) : ∀ (fs : List Nat) (i sum : Nat) (f2s : Array Nat) (syms : Array DecSym),
    sum + fs.sum ≤ 2 ^ lr → i + fs.length ≤ 256 → Bytes f2s →
    (mapLoop base sbase lr fs i sum f2s syms).Sat [.err, .eos]
      (fun m => m.1.size = f2s.size ∧ m.2.size = syms.size ∧ Bytes m.1) := by
  intro fs
  induction fs with
  | nil => intro i sum f2s syms _ _ hb; exact ⟨rfl, rfl, hb⟩
  | cons fi fs ih =>
    intro i sum f2s syms hsum hi hb
    simp only [List.sum_cons, List.length_cons] at hsum hi
    simp only [mapLoop]
    split
    · exact ih (i + 1) sum f2s syms (by omega) (by omega) hb
    · split
      · omega
      · refine (ih (i + 1) (sum + fi) _ _ (by omega) (by omega) (Bytes.fill (by omega) _ _ hb)).mono ?_
        intro m hm
        rw [fill_size] at hm
        simp only [Array.size_setIfInBounds] at hm
        exact hm

theorem hdrCtx_sat (k lr : Nat) (f2s : Array Nat) (syms : Array DecSym) (bs : Bits)
    (hsy : (k + 1) * 256 ≤ syms.size) (hf : (k + 1) * 2 ^ lr ≤ f2s.size) (hb : Bytes f2s) :
    (hdrCtx k lr f2s syms bs).Sat [.err, .eos]
      (fun c => c.f2s.size = f2s.size ∧ c.syms.size = syms.size ∧ Bytes c.f2s) := by
  unfold hdrCtx
  cases hd : decodeAlphabet bs with
  | none => exact .eos
  | some q =>
    obtain ⟨a, r⟩ := q
    simp only
    obtain ⟨hs, hlt⟩ := decodeAlphabet_facts bs a r hd
    split
    · exact ⟨rfl, rfl, hb⟩
    · rename_i hne
      have hne' : a ≠ [] := fun e => hne (by rw [e]; rfl)
      refine (freqTableR_sat a lr r hs hlt hne').bind ?_
      intro t ht
      rw [if_neg (by omega), if_neg (by omega)]
      refine (mapLoop_sat (k * 2 ^ lr) (k * 256) lr t.1 0 0 f2s syms (by omega) (by omega) hb).bind ?_
      intro m hm
      exact hm

theorem hdrCtxs_sat (lr : Nat) : ∀ (m k res a0 : Nat) (f2s : Array Nat) (syms : Array DecSym) (bs : Bits),
    (k + m) * 256 ≤ syms.size → (k + m) * 2 ^ lr ≤ f2s.size → Bytes f2s →
    (hdrCtxs lr m k res a0 f2s syms bs).Sat [.err, .eos]
      (fun h => h.f2s.size = f2s.size ∧ h.syms.size = syms.size ∧ Bytes h.f2s) := by
  intro m
  induction m with
  | zero => intro k res a0 f2s syms bs _ _ hb; exact ⟨rfl, rfl, hb⟩
  | succ m ih =>
    intro k res a0 f2s syms bs hsy hf hb
    simp only [hdrCtxs]
    have hk : k + 1 ≤ k + (m + 1) := by omega
    have h1 : (k + 1) * 256 ≤ syms.size := Nat.le_trans (Nat.mul_le_mul_right 256 hk) hsy
    have h2 : (k + 1) * 2 ^ lr ≤ f2s.size := Nat.le_trans (Nat.mul_le_mul_right (2 ^ lr) hk) hf
    refine (hdrCtx_sat k lr f2s syms bs h1 h2 hb).bind ?_
    intro c hc
    refine (ih (k + 1) _ _ c.f2s c.syms c.rest (by rw [hc.2.1]; rw [show k + 1 + m = k + (m + 1) by omega]; exact hsy)
      (by rw [hc.1]; rw [show k + 1 + m = k + (m + 1) by omega]; exact hf) hc.2.2).mono ?_
    intro h hh
    rw [hc.1, hc.2.1] at hh
    exact hh

theorem f2sAlloc_size (dim lr : Nat) (f2s : Array Nat) :
    (f2sAlloc dim lr f2s).size = f2sSizeAfter dim lr f2s.size := by
  unfold f2sAlloc f2sSizeAfter
  split <;> simp

theorem f2sSizeAfter_ge (dim lr sz : Nat) : dim * 2 ^ lr ≤ f2sSizeAfter dim lr sz := by
  unfold f2sSizeAfter; split <;> omega

theorem f2sAlloc_bytes (dim lr : Nat) (f2s : Array Nat) (hb : Bytes f2s) : Bytes (f2sAlloc dim lr f2s) := by
  unfold f2sAlloc
  split
  · exact Bytes.replicate _
  · exact hb

/-- **`decodeHeader` is fault free on every input** (it may return an error or run out of input),
    keeps `len(this.symbols)`, leaves `len(this.f2s) = f2sSizeAfter dim lr (old length)`, which is
    `≥ dim·2^lr` (`f2sSizeAfter_ge`), and bytes in `f2s` -/
theorem hdrBody_sat (dim lr : Nat) (f2s : Array Nat) (syms : Array DecSym) (bs : Bits)
    (hsy : dim * 256 ≤ syms.size) (hb : Bytes f2s) :
    (hdrBody dim lr f2s syms bs).Sat [.err, .eos]
      (fun h => h.f2s.size = f2sSizeAfter dim lr f2s.size ∧ h.syms.size = syms.size ∧ Bytes h.f2s) := by
  unfold hdrBody
  have := hdrCtxs_sat lr dim 0 0 0 (f2sAlloc dim lr f2s) syms bs (by rw [Nat.zero_add]; exact hsy)
    (by rw [f2sAlloc_size, Nat.zero_add]; exact f2sSizeAfter_ge dim lr f2s.size) (f2sAlloc_bytes dim lr f2s hb)
  rw [f2sAlloc_size] at this
  exact this

/-! ### E. the decoding part of `decodeChunkV2` always returns -/

theorem slot_lt (st : Int) (lr : Nat) : (st % (2 ^ lr : Int)).toNat < 2 ^ lr := by
  have hpos : (0 : Int) < 2 ^ lr := Int.pow_pos (by decide)
  have h1 := Int.emod_nonneg st (Int.ne_of_gt hpos)
  have h2 := Int.emod_lt_of_pos st hpos
  have h3 : ((2 ^ lr : Nat) : Int) = (2 : Int) ^ lr := by simp
  omega

theorem stepSym_sat (lr : Nat) (buf : Array Nat) (n : Nat) (st : Int) (sym : DecSym) (h : n + 1 < buf.size) :
    (stepSym lr buf n st sym).Sat [] (fun d => n ≤ d.1 ∧ d.1 ≤ n + 2) := by
  unfold stepSym
  simp only
  split <;> simp only [R.Sat] <;> omega

theorem look_sat (lr : Nat) (f2s : Array Nat) (syms : Array DecSym) (prv : Nat) (st : Int)
    (hf : (prv + 1) * 2 ^ lr ≤ f2s.size) (hs : (prv + 1) * 256 ≤ syms.size) (hb : Bytes f2s) :
    (look lr f2s syms prv st).Sat [] (fun c => c.1 < 256) := by
  unfold look
  simp only
  have hslot := slot_lt st lr
  have hidx : prv * 2 ^ lr + (st % (2 ^ lr : Int)).toNat < f2s.size := by
    have : (prv + 1) * 2 ^ lr = prv * 2 ^ lr + 2 ^ lr := by rw [Nat.add_mul, Nat.one_mul]
    omega
  rw [if_pos hidx]
  have hcur := hb (prv * 2 ^ lr + (st % (2 ^ lr : Int)).toNat)
  have : (prv + 1) * 256 = prv * 256 + 256 := by omega
  rw [if_pos ⟨hcur, by omega⟩]
  exact hcur

def QuadLt (p : Quad) (d : Nat) : Prop := p.1 < d ∧ p.2.1 < d ∧ p.2.2.1 < d ∧ p.2.2.2 < d

theorem round_sat (lr dim : Nat) (f2s : Array Nat) (syms : Array DecSym) (buf : Array Nat) (p : Quad) (s : Sts)
    (hf : dim * 2 ^ lr ≤ f2s.size) (hs : dim * 256 ≤ syms.size) (hb : Bytes f2s) (hp : QuadLt p dim)
    (hn : s.n + 8 ≤ buf.size) :
    (round lr f2s syms buf p s).Sat [] (fun r => QuadLt r.1 256 ∧ s.n ≤ r.2.n ∧ r.2.n ≤ s.n + 8) := by
  have hfk : ∀ k, k < dim → (k + 1) * 2 ^ lr ≤ f2s.size := fun k hk =>
    Nat.le_trans (Nat.mul_le_mul_right _ hk) hf
  have hsk : ∀ k, k < dim → (k + 1) * 256 ≤ syms.size := fun k hk =>
    Nat.le_trans (Nat.mul_le_mul_right _ hk) hs
  unfold round
  refine (look_sat lr f2s syms _ _ (hfk _ hp.2.2.2) (hsk _ hp.2.2.2) hb).bind ?_
  intro c3 h3
  refine (stepSym_sat lr buf s.n s.st3 c3.2 (by omega)).bind ?_
  intro d3 hd3
  refine (look_sat lr f2s syms _ _ (hfk _ hp.2.2.1) (hsk _ hp.2.2.1) hb).bind ?_
  intro c2 h2
  refine (stepSym_sat lr buf d3.1 s.st2 c2.2 (by omega)).bind ?_
  intro d2 hd2
  refine (look_sat lr f2s syms _ _ (hfk _ hp.2.1) (hsk _ hp.2.1) hb).bind ?_
  intro c1 h1
  refine (stepSym_sat lr buf d2.1 s.st1 c1.2 (by omega)).bind ?_
  intro d1 hd1
  refine (look_sat lr f2s syms _ _ (hfk _ hp.1) (hsk _ hp.1) hb).bind ?_
  intro c0 h0
  refine (stepSym_sat lr buf d1.1 s.st0 c0.2 (by omega)).bind ?_
  intro d0 hd0
  simp only [R.Sat, QuadLt]
  omega

theorem rounds0_sat (lr : Nat) (f2s : Array Nat) (syms : Array DecSym) (buf : Array Nat)
    (hf : 2 ^ lr ≤ f2s.size) (hs : 256 ≤ syms.size) (hb : Bytes f2s) : ∀ (m : Nat) (s : Sts),
    s.n + 8 * m ≤ buf.size →
    (rounds0 lr f2s syms buf m s).Sat [] (fun d => d.1.length = 4 * m ∧ d.2.n ≤ s.n + 8 * m) := by
  intro m
  induction m with
  | zero => intro s _; simp [rounds0, R.Sat]
  | succ m ih =>
    intro s hn
    simp only [rounds0]
    refine (round_sat lr 1 f2s syms buf (0, 0, 0, 0) s (by omega) (by omega) hb
      (by simp [QuadLt]) (by omega)).bind ?_
    intro r hr
    refine (ih r.2 (by omega)).bind ?_
    intro t ht
    simp only [R.Sat, List.length_cons]
    omega

theorem rounds1_sat (lr : Nat) (f2s : Array Nat) (syms : Array DecSym) (buf : Array Nat)
    (hf : 256 * 2 ^ lr ≤ f2s.size) (hs : 256 * 256 ≤ syms.size) (hb : Bytes f2s) : ∀ (m : Nat) (p : Quad) (s : Sts),
    QuadLt p 256 → s.n + 8 * m ≤ buf.size →
    (rounds1 lr f2s syms buf m p s).Sat [] (fun d => d.1.length = m ∧ d.2.n ≤ s.n + 8 * m) := by
  intro m
  induction m with
  | zero => intro p s _ _; simp [rounds1, R.Sat]
  | succ m ih =>
    intro p s hp hn
    simp only [rounds1]
    refine (round_sat lr 256 f2s syms buf p s hf hs hb hp (by omega)).bind ?_
    intro r hr
    refine (ih r.1 r.2 hr.1 (by omega)).bind ?_
    intro t ht
    simp only [R.Sat, List.length_cons]
    omega

theorem tailBytes_sat (buf : Array Nat) : ∀ (c n : Nat), n + c ≤ buf.size →
    (tailBytes buf c n).Sat [] (fun t => t.length = c) := by
  intro c
  induction c with
  | zero => intro n _; simp [tailBytes, R.Sat]
  | succ c ih =>
    intro n h
    simp only [tailBytes]
    rw [if_pos (by omega)]
    refine (ih (n + 1) (by omega)).bind ?_
    intro t ht
    simp only [R.Sat, List.length_cons]
    omega

theorem quartersOf_length (rows : List Quad) : (Kanzi.Ans1.quartersOf rows).length = 4 * rows.length := by
  simp only [Kanzi.Ans1.quartersOf, List.length_append, List.length_map]
  omega

theorem dimOf_zero : dimOf 0 = 1 := rfl

theorem dimOf_ge (order : Nat) (h : order ≠ 0) : 256 ≤ dimOf order := by
  unfold dimOf; omega

/-- **the decoding part of `decodeChunkV2` always returns** (`Sat []`), and it yields `len` bytes, whatever
    the states, the payload and the tables contain, as soon as the
    object has the sizes `decodeHeader` and the buffer rule give it.  `2 * len ≤ len(buffer)` is what
    keeps the reads in range: a round of four symbols reads at most 8 bytes (`round_sat`) -/
theorem chunkBody_sat (order lr len : Nat) (f2s : Array Nat) (syms : Array DecSym) (buf : Array Nat) (p : Pre)
    (hf : dimOf order * 2 ^ lr ≤ f2s.size) (hs : dimOf order * 256 ≤ syms.size) (hb : Bytes f2s)
    (hbuf : 2 * len ≤ buf.size) :
    (chunkBody order lr len f2s syms buf p).Sat [] (fun c => c.length = len) := by
  unfold chunkBody
  simp only
  have hq : 8 * (len / 4) + len % 4 ≤ buf.size := by omega
  split
  · rename_i h0
    subst h0
    rw [dimOf_zero] at hf hs
    rw [if_neg (by omega)]
    refine (rounds0_sat lr f2s syms buf (by omega) (by omega) hb (len / 4) _ (by simp only; omega)).bind ?_
    intro d hd
    refine (tailBytes_sat buf (len % 4) d.2.n (by simp only at hd; omega)).bind ?_
    intro t ht
    simp only [R.Sat, List.length_append]
    omega
  · rename_i h0
    have hd := dimOf_ge order h0
    have hf' : 256 * 2 ^ lr ≤ f2s.size := Nat.le_trans (Nat.mul_le_mul_right _ hd) hf
    have hs' : 256 * 256 ≤ syms.size := Nat.le_trans (Nat.mul_le_mul_right _ hd) hs
    refine (rounds1_sat lr f2s syms buf hf' hs' hb (len / 4) (0, 0, 0, 0) _ (by simp [QuadLt])
      (by simp only; omega)).bind ?_
    intro d hd
    refine (tailBytes_sat buf (len % 4) d.2.n (by simp only at hd; omega)).bind ?_
    intro t ht
    simp only [R.Sat, List.length_append, quartersOf_length]
    omega

/-! ### F. one iteration of `Read`'s loop, and the loop -/

theorem bufAlloc_size (len : Nat) (buf : Array Nat) : (bufAlloc len buf).size = bufSizeAfter len buf.size := by
  unfold bufAlloc bufSizeAfter
  split <;> simp

theorem bufSizeAfter_ge (len sz : Nat) : max (2 * len) 256 ≤ bufSizeAfter len sz := by
  unfold bufSizeAfter; split <;> omega

theorem bufSizeAfter_le (len sz B : Nat) (h1 : sz ≤ B) (h2 : max (2 * len) 256 ≤ B) : bufSizeAfter len sz ≤ B := by
  unfold bufSizeAfter; split <;> omega

theorem f2sSizeAfter_le (dim lr sz F : Nat) (h1 : sz ≤ F) (h2 : dim * 2 ^ lr ≤ F) : f2sSizeAfter dim lr sz ≤ F := by
  unfold f2sSizeAfter; split <;> omega

theorem loadPayload_sat (sz : Nat) (buf : Array Nat) (bs : Bits) :
    (loadPayload sz buf bs).Sat [.eos, .overrun] (fun pl => pl.1.size = buf.size) := by
  unfold loadPayload
  split
  · exact (by decide : Stop.overrun ∈ [Stop.eos, .overrun])
  · cases readBytes sz bs with
    | none => exact (by decide : Stop.eos ∈ [Stop.eos, .overrun])
    | some q => simp only [R.Sat, fill_size, writePrefix_size]

theorem chunkPre_sat (bs : Bits) : (chunkPre bs).Sat [.err, .eos] (fun _ => True) := by
  unfold chunkPre
  cases readVarInt bs with
  | none => exact .eos
  | some q =>
    obtain ⟨sz, r⟩ := q
    simp only
    split
    · exact .err
    · refine (rBits_sat 32 r).bind ?_
      intro x0 _
      refine (rBits_sat 32 x0.2).bind ?_
      intro x1 _
      refine (rBits_sat 32 x1.2).bind ?_
      intro x2 _
      refine (rBits_sat 32 x2.2).bind ?_
      intro x3 _
      trivial

/-- `Q` of the result if the call ends in this iteration, `I` of the count and the object the loop
    goes on with otherwise -/
def Step.Holds (Q : Result → Prop) (I : Nat → Array DecSym → Array Nat → Array Nat → Prop) : Step → Prop
  | .done r => Q r
  | .next c _ s f b _ => I c s f b

theorem Step.Holds.mono {Q Q' : Result → Prop} {I I' : Nat → Array DecSym → Array Nat → Array Nat → Prop}
    {s : Step} (h : s.Holds Q I) (hq : ∀ r, Q r → Q' r) (hi : ∀ c s f b, I c s f b → I' c s f b) :
    s.Holds Q' I' := by
  cases s with
  | done r => exact hq r h
  | next c a s f b r => exact hi c s f b h

theorem Step.Holds.and {Q Q' : Result → Prop} {I I' : Nat → Array DecSym → Array Nat → Array Nat → Prop}
    {s : Step} (h : s.Holds Q I) (h' : s.Holds Q' I') :
    s.Holds (fun r => Q r ∧ Q' r) (fun c s f b => I c s f b ∧ I' c s f b) := by
  cases s with
  | done r => exact ⟨h, h'⟩
  | next c a s f b r => exact ⟨h, h'⟩

/-- the chunk loop by its invariant `I` (of the fuel left, the count and the object before an
    iteration): `Q` holds of the result, whether the loop ends for lack of fuel (`hfuel`), by its own
    test (`hret`) or inside an iteration (`hstep`) -/
theorem readLoop_rule (p : Params) {Q : Result → Prop}
    {I : Nat → Nat → Array DecSym → Array Nat → Array Nat → Prop}
    (hfuel : ∀ count acc syms f2s buf bs, I 0 count syms f2s buf →
      Q ⟨.fuel, acc, ⟨syms, f2s, buf⟩, bs, f2s.size, buf.size⟩)
    (hret : ∀ fuel acc syms f2s buf bs, I (fuel + 1) 0 syms f2s buf →
      Q ⟨.ret acc.length false, acc, ⟨syms, f2s, buf⟩, bs, f2s.size, buf.size⟩)
    (hstep : ∀ fuel count acc syms f2s buf bs, count ≠ 0 → I (fuel + 1) count syms f2s buf →
      (chunkStep p count acc syms f2s buf bs).Holds Q (I fuel)) :
    ∀ (fuel count : Nat) (acc : List Nat) (syms : Array DecSym) (f2s buf : Array Nat) (bs : Bits),
      I fuel count syms f2s buf → Q (readLoop p fuel count acc syms f2s buf bs) := by
  intro fuel
  induction fuel with
  | zero => intro count acc syms f2s buf bs h; exact hfuel count acc syms f2s buf bs h
  | succ fuel ih =>
    intro count acc syms f2s buf bs h
    simp only [readLoop]
    split
    · rename_i hc
      subst hc
      exact hret fuel acc syms f2s buf bs h
    · rename_i hc
      have hs := hstep fuel count acc syms f2s buf bs hc h
      cases hst : chunkStep p count acc syms f2s buf bs with
      | done r => rw [hst] at hs; exact hs
      | next c a s f b r => rw [hst] at hs; exact ih c a s f b r hs

/-! ### G. termination of the chunk loop for EVERY bitstream version -/

/-- an iteration that does not end the call consumes `min(chunkSize, count)` bytes of the count -/
abbrev StepShape (p : Params) (count : Nat) : Step → Prop :=
  Step.Holds (fun r => r.cls ≠ .fuel) (fun c _ _ _ => c = count - min p.chunkSize count)

theorem stepV2_shape (p : Params) (count lr : Nat) (acc : List Nat) (h : Hdr) (buf : Array Nat) (bs0 : Bits) (fsz : Nat) :
    StepShape p count (stepV2 p.order lr (min p.chunkSize count) (count - min p.chunkSize count) acc h buf bs0 fsz) := by
  unfold stepV2
  simp only
  split
  · simp [Step.Holds]
  · split
    · split <;> simp [Step.Holds]
    · simp [Step.Holds]
  · simp [Step.Holds]

theorem stepV1_shape (p : Params) (count lr : Nat) (acc : List Nat) (h : Hdr) (buf : Array Nat) (bs0 : Bits) (fsz : Nat) :
    StepShape p count (stepV1 p.order lr (min p.chunkSize count) (count - min p.chunkSize count) acc h buf bs0 fsz) := by
  unfold stepV1
  simp only
  split
  · simp [Step.Holds]
  · split
    · simp [Step.Holds]
    · split
      · split <;> simp [Step.Holds]
      · simp [Step.Holds]
  · simp [Step.Holds]

theorem chunkStep_shape (p : Params) (count : Nat) (acc : List Nat) (syms : Array DecSym) (f2s buf : Array Nat)
    (bs : Bits) : StepShape p count (chunkStep p count acc syms f2s buf bs) := by
  unfold chunkStep
  simp only
  split
  · simp [Step.Holds]
  · split
    · split
      · simp [Step.Holds]
      · split
        · simp [Step.Holds]
        · split
          · exact stepV1_shape p count _ acc _ buf bs _
          · exact stepV2_shape p count _ acc _ buf bs _
    · simp [Step.Holds]
    · simp [Step.Holds]

/-- the fuel bound `ceil(count/chunkSize) + 1 ≤ fuel` passes from one iteration to the next (the
    `+ 1` is the last turn of the loop, which only finds `count = 0`) -/
theorem fuel_step (cs count fuel : Nat) (hcs : 0 < cs) (hc : count ≠ 0)
    (h : (count + cs - 1) / cs + 1 ≤ fuel + 1) :
    (count - min cs count + cs - 1) / cs + 1 ≤ fuel := by
  by_cases hlt : count < cs
  · rw [Nat.min_eq_right (Nat.le_of_lt hlt), Nat.sub_self, Nat.zero_add, Nat.div_eq_of_lt (Nat.sub_lt hcs Nat.one_pos)]
    have : 1 ≤ (count + cs - 1) / cs := (Nat.le_div_iff_mul_le hcs).mpr (by omega)
    omega
  · rw [Nat.min_eq_left (Nat.le_of_not_lt hlt)]
    have e : count + cs - 1 = (count - cs + cs - 1) + cs := by omega
    rw [e, Nat.add_div_right _ hcs] at h
    omega

theorem chunkBound_step (cs count : Nat) :
    max (2 * min cs (count - min cs count)) 256 ≤ max (2 * min cs count) 256 := by
  have h : min cs (count - min cs count) ≤ min cs count :=
    Nat.le_min.mpr ⟨Nat.min_le_left _ _, Nat.le_trans (Nat.min_le_right _ _) (Nat.sub_le _ _)⟩
  generalize min cs (count - min cs count) = a at h
  generalize min cs count = b at h
  omega

/-- **the chunk loop of `Read` ends within `ceil(count/chunkSize) + 1` iterations**, whatever the
    input and the bitstream version -/
theorem readLoop_terminates (p : Params) (hcs : 0 < p.chunkSize) (fuel count : Nat) (acc : List Nat)
    (syms : Array DecSym) (f2s buf : Array Nat) (bs : Bits)
    (hfu : (count + p.chunkSize - 1) / p.chunkSize + 1 ≤ fuel) :
    (readLoop p fuel count acc syms f2s buf bs).cls ≠ .fuel :=
  readLoop_rule p (Q := fun r => r.cls ≠ .fuel)
    (I := fun fuel count _ _ _ => (count + p.chunkSize - 1) / p.chunkSize + 1 ≤ fuel)
    (fun _ _ _ _ _ _ h => (Nat.not_succ_le_zero _ h).elim) (fun _ _ _ _ _ _ _ => nofun)
    (fun fuel count acc syms f2s buf bs hc h =>
      (chunkStep_shape p count acc syms f2s buf bs).mono (fun _ hr => hr)
        (fun c _ _ _ e => by rw [e]; exact fuel_step p.chunkSize count fuel hcs hc h))
    fuel count acc syms f2s buf bs hfu

theorem chunksOf_enough (cs count : Nat) (hcs : 0 < cs) : (count + cs - 1) / cs + 1 ≤ chunksOf cs count := by
  unfold chunksOf
  have : (count + cs - 1) / cs ≤ count / cs + 1 := by
    have e : count + cs - 1 ≤ count + cs := by omega
    have := Nat.div_le_div_right (c := cs) e
    rw [Nat.add_div_right _ hcs] at this
    exact this
  omega

theorem read_terminates (p : Params) (hcs : 0 < p.chunkSize) (s : St) (bs : Bits) (count : Nat) :
    (read p s bs count).cls ≠ .fuel := by
  unfold read
  split
  · cases readBytes count bs <;> nofun
  · exact readLoop_terminates p hcs _ count [] s.syms s.f2s s.buf bs (chunksOf_enough _ _ hcs)

/-! ### H. no fault, bounded allocation (bitstream version other than 1) -/

/-- invariant of the decoder object: `len(this.symbols) ≥ dim*256` (it is `= dim*256`, never
    reallocated) and `this.f2s` holds bytes -/
structure Inv (order : Nat) (syms : Array DecSym) (f2s : Array Nat) : Prop where
  syms : dimOf order * 256 ≤ syms.size
  bytes : Bytes f2s

/-- what is claimed of a finished `Read` (bitstream version other than 1): no fault, no `.err`
    stop, fuel not exhausted, `len(this.f2s) ≤ F` and `len(this.buffer) ≤ B` at the largest, and
    after a return without error the object satisfies `Inv` again -/
structure ResGood (p : Params) (F B : Nat) (r : Result) : Prop where
  noFault : r.cls ≠ .stop .fault
  noErrStop : r.cls ≠ .stop .err
  noFuel : r.cls ≠ .fuel
  f2sLe : r.f2sSz ≤ F
  bufLe : r.bufSz ≤ B
  inv : ∀ n, r.cls = .ret n false → Inv p.order r.st.syms r.st.f2s ∧ r.st.f2s.size = r.f2sSz ∧ r.st.buf.size = r.bufSz

/-- a call that ends with an error return or in a panic of the bitstream: only the sizes are claimed -/
theorem ResGood.of_ended {p : Params} {F B fsz bz : Nat} {c : Cls} {acc : List Nat} {st : St} {bs : Bits}
    (hc : (∃ n, c = .ret n true) ∨ c = .stop .eos ∨ c = .stop .overrun) (hf : fsz ≤ F) (hb : bz ≤ B) :
    ResGood p F B ⟨c, acc, st, bs, fsz, bz⟩ := by
  rcases hc with ⟨n, rfl⟩ | rfl | rfl <;> exact ⟨nofun, nofun, nofun, hf, hb, nofun⟩

/-- the catch-all branches `| e => .done ⟨.stop (stopOf e), …⟩` of an iteration, where `e` is what a piece with
    `Sat A` returned -/
theorem ResGood.stop {p : Params} {F B fsz bz : Nat} {A : List Stop} {s : Stop} {acc : List Nat} {st : St}
    {bs : Bits} (hs : s ∈ A) (hA : ∀ t ∈ A, t = .eos ∨ t = .overrun) (hf : fsz ≤ F) (hb : bz ≤ B) :
    ResGood p F B ⟨.stop s, acc, st, bs, fsz, bz⟩ :=
  .of_ended (.inr ((hA s hs).imp (congrArg _) (congrArg _))) hf hb

abbrev StepGood (p : Params) (F B : Nat) : Step → Prop :=
  Step.Holds (ResGood p F B) (fun _ s f b => Inv p.order s f ∧ f.size ≤ F ∧ b.size ≤ B)

theorem stopOf_ne_err {α : Type} (e : R α) (h : e ≠ .err) : stopOf e ≠ .err := by
  cases e <;> simp [stopOf] at * 

theorem stepV2_good (p : Params) (F B lr len rem : Nat) (acc : List Nat) (h : Hdr) (buf : Array Nat) (bs0 : Bits)
    (fsz : Nat) (hinv : Inv p.order h.syms h.f2s) (hf : dimOf p.order * 2 ^ lr ≤ h.f2s.size)
    (hfs : h.f2s.size ≤ F) (hfsz : fsz ≤ F) (hB : buf.size ≤ B) (hB2 : max (2 * len) 256 ≤ B) :
    StepGood p F B (stepV2 p.order lr len rem acc h buf bs0 fsz) := by
  unfold stepV2
  simp only
  have hpre := chunkPre_sat h.rest
  cases hq : chunkPre h.rest with
  | err => exact .of_ended (.inl ⟨_, rfl⟩) hfsz hB
  | ok q =>
    simp only
    have hbs := bufSizeAfter_le len buf.size B hB hB2
    have hload := loadPayload_sat q.sz (bufAlloc len buf) q.rest
    cases hl : loadPayload q.sz (bufAlloc len buf) q.rest with
    | ok pl =>
      simp only
      have hps : pl.1.size = bufSizeAfter len buf.size := by rw [hload.of_ok hl, bufAlloc_size]
      have hge := bufSizeAfter_ge len buf.size
      have hbody := chunkBody_sat p.order lr len h.f2s h.syms pl.1 q hf hinv.syms hinv.bytes (by omega)
      cases hc : chunkBody p.order lr len h.f2s h.syms pl.1 q with
      | ok c => exact ⟨hinv, hfs, by omega⟩
      | _ => rw [hc] at hbody; exact absurd hbody List.not_mem_nil
    | _ => rw [hl] at hload; exact .stop hload (by decide) hfsz hbs
  -- `.err` has its branch above
  | _ => rw [hq] at hpre; exact .stop ((List.mem_cons.mp hpre).resolve_left (by decide)) (by decide) hfsz hB

theorem two_pow_le_15 (l : Nat) (h : l < 8) : 2 ^ (8 + l) ≤ 2 ^ 15 := Nat.pow_le_pow_right (by omega) (by omega)

/-- one iteration of the loop (bitstream version other than 1) keeps the invariant, does not fault,
    and allocates within `F` / `B` -/
theorem chunkStep_good (p : Params) (hv : p.bsVersion ≠ 1) (F B count : Nat) (acc : List Nat)
    (syms : Array DecSym) (f2s buf : Array Nat) (bs : Bits) (hinv : Inv p.order syms f2s)
    (hF : f2s.size ≤ F) (hF2 : dimOf p.order * 2 ^ 15 ≤ F) (hB : buf.size ≤ B)
    (hB2 : max (2 * min p.chunkSize count) 256 ≤ B) :
    StepGood p F B (chunkStep p count acc syms f2s buf bs) := by
  unfold chunkStep
  simp only
  cases h3 : readBits 3 bs with
  | none => exact .of_ended (.inr (.inl rfl)) hF hB
  | some q =>
    obtain ⟨l, r⟩ := q
    simp only
    have hl : l < 2 ^ 3 := readBits_lt 3 bs l r h3
    have hdim : dimOf p.order * 2 ^ (8 + l) ≤ F :=
      Nat.le_trans (Nat.mul_le_mul_left _ (two_pow_le_15 l hl)) hF2
    have hfa := f2sSizeAfter_le (dimOf p.order) (8 + l) f2s.size F hF hdim
    have hhdr := hdrBody_sat (dimOf p.order) (8 + l) f2s syms r hinv.syms hinv.bytes
    cases hh : hdrBody (dimOf p.order) (8 + l) f2s syms r with
    | err => exact .of_ended (.inl ⟨_, rfl⟩) hfa hB
    | ok h =>
      have hsafe := hhdr.of_ok hh
      have hinv' : Inv p.order h.syms h.f2s := ⟨by rw [hsafe.2.1]; exact hinv.syms, hsafe.2.2⟩
      have hfs : h.f2s.size ≤ F := by rw [hsafe.1]; exact hfa
      have hfge : dimOf p.order * 2 ^ (8 + l) ≤ h.f2s.size := by
        rw [hsafe.1]; exact f2sSizeAfter_ge _ _ _
      simp only
      split
      · exact ⟨nofun, nofun, nofun, hfa, hB, fun n _ => ⟨hinv', hsafe.1, rfl⟩⟩
      · split
        · exact ⟨hinv', hfs, hB⟩
        -- `split` has decided the test `bsVersion = 1` with `hv` from the context: only `stepV2` is left
        · exact stepV2_good p F B (8 + l) _ _ acc h buf bs _ hinv' hfge hfs hfa hB hB2
    | _ => rw [hh] at hhdr; exact .stop ((List.mem_cons.mp hhdr).resolve_left (by decide)) (by decide) hfa hB

theorem readLoop_good (p : Params) (hv : p.bsVersion ≠ 1) (hcs : 0 < p.chunkSize) (F B : Nat)
    (hF2 : dimOf p.order * 2 ^ 15 ≤ F) (fuel count : Nat) (acc : List Nat) (syms : Array DecSym)
    (f2s buf : Array Nat) (bs : Bits) (hinv : Inv p.order syms f2s) (hF : f2s.size ≤ F) (hB : buf.size ≤ B)
    (hB2 : max (2 * min p.chunkSize count) 256 ≤ B) (hfu : (count + p.chunkSize - 1) / p.chunkSize + 1 ≤ fuel) :
    ResGood p F B (readLoop p fuel count acc syms f2s buf bs) :=
  readLoop_rule p (Q := ResGood p F B)
    (I := fun fuel count syms f2s buf => (Inv p.order syms f2s ∧ f2s.size ≤ F ∧ buf.size ≤ B) ∧
      max (2 * min p.chunkSize count) 256 ≤ B ∧ (count + p.chunkSize - 1) / p.chunkSize + 1 ≤ fuel)
    (fun _ _ _ _ _ _ h => (Nat.not_succ_le_zero _ h.2.2).elim)
    (fun _ _ _ _ _ _ h => ⟨nofun, nofun, nofun, h.1.2.1, h.1.2.2, fun _ _ => ⟨h.1.1, rfl, rfl⟩⟩)
    (fun fuel count acc syms f2s buf bs hc h =>
      ((chunkStep_good p hv F B count acc syms f2s buf bs h.1.1 h.1.2.1 hF2 h.1.2.2 h.2.1).and
        (chunkStep_shape p count acc syms f2s buf bs)).mono (fun _ hr => hr.1)
        (fun c _ _ _ hn => ⟨hn.1, by rw [hn.2]; exact Nat.le_trans (chunkBound_step _ _) h.2.1,
          by rw [hn.2]; exact fuel_step p.chunkSize count fuel hcs hc h.2.2⟩))
    fuel count acc syms f2s buf bs ⟨⟨hinv, hF, hB⟩, hB2, hfu⟩

/-- **`Read` (bitstream version other than 1) on any input, from any object satisfying `Inv`**:
    `ResGood` with `F = max(len(f2s) before, dim·2^15)` (the log range is `8 +` three bits of the
    stream, hence `≤ 15`) and `B = max(len(buffer) before, 2·min(chunkSize, count), 256)` -/
theorem read_good (p : Params) (hv : p.bsVersion ≠ 1) (hcs : 0 < p.chunkSize) (s : St) (bs : Bits) (count : Nat)
    (hinv : Inv p.order s.syms s.f2s) :
    ResGood p (max s.f2s.size (dimOf p.order * 2 ^ 15)) (max s.buf.size (max (2 * min p.chunkSize count) 256))
      (read p s bs count) := by
  unfold read
  split
  · cases readBytes count bs with
    | none => exact .of_ended (.inr (.inl rfl)) (Nat.le_max_left _ _) (Nat.le_max_left _ _)
    | some q =>
      exact ⟨nofun, nofun, nofun, Nat.le_max_left _ _, Nat.le_max_left _ _, fun n _ => ⟨hinv, rfl, rfl⟩⟩
  · exact readLoop_good p hv hcs _ _ (Nat.le_max_right _ _) _ count [] s.syms s.f2s s.buf bs hinv
      (Nat.le_max_left _ _) (Nat.le_max_left _ _) (Nat.le_max_right _ _) (chunksOf_enough _ _ hcs)

theorem fresh_inv (order : Nat) : Inv order (fresh order).syms (fresh order).f2s :=
  ⟨by simp [fresh], Bytes.empty⟩

/-! ### I. the constructors -/

theorem mkParams_facts (o c v : Option Nat) (p : Params) (h : mkParams o c v = some p) :
    (p.order = 0 ∨ p.order = 1) ∧ 1024 ≤ p.chunkSize ∧ p.chunkSize ≤ 2 ^ 27 ∧ p.bsVersion = v.getD 6 := by
  -- only the range of the default chunk size matters
  have hd : 16384 ≤ (if v.getD 6 < 4 then 32768 else 16384) ∧ (if v.getD 6 < 4 then 32768 else 16384) ≤ 32768 := by
    split <;> omega
  unfold mkParams at h
  simp only at h
  generalize (if v.getD 6 < 4 then 32768 else 16384) = dflt at h hd
  cases o with
  | none =>
    simp only [Option.some.injEq] at h
    subst h
    exact ⟨Or.inl rfl, by simp only; omega, by simp only; omega, rfl⟩
  | some order =>
    simp only at h
    by_cases ho : order ≠ 0 ∧ order ≠ 1
    · rw [if_pos ho] at h; cases h
    · rw [if_neg ho] at h
      have ho' : order = 0 ∨ order = 1 := by omega
      cases c with
      | none =>
        simp only [Option.some.injEq] at h
        subst h
        refine ⟨ho', ?_, ?_, rfl⟩ <;> (simp only; split <;> omega)
      | some chk =>
        simp only at h
        by_cases hc : chk < 1024 ∨ chk > 2 ^ 27
        · rw [if_pos hc] at h; cases h
        · rw [if_neg hc] at h
          simp only [Option.some.injEq] at h
          subst h
          refine ⟨ho', ?_, ?_, rfl⟩ <;> (simp only; split <;> omega)

/-! ### J. the oversize payload: exact condition -/

theorem loadPayload_overrun_iff (sz : Nat) (buf : Array Nat) (bs : Bits) :
    loadPayload sz buf bs = .overrun ↔ buf.size < sz := by
  unfold loadPayload
  constructor
  · intro h
    split at h
    · assumption
    · cases hr : readBytes sz bs <;> rw [hr] at h <;> cases h
  · intro h
    rw [if_pos h]

/-- `decodeChunkV2` ends in the oversize `ReadArray` exactly when the VarInt is accepted (`< 2^27`),
    the four states are present, and the size exceeds the buffer the code has just (re)allocated -/
theorem stepV2_overrun_iff (p : Params) (lr len rem : Nat) (acc : List Nat) (h : Hdr) (buf : Array Nat) (bs0 : Bits)
    (fsz : Nat) (hinv : Inv p.order h.syms h.f2s) (hf : dimOf p.order * 2 ^ lr ≤ h.f2s.size) :
    (∃ r, stepV2 p.order lr len rem acc h buf bs0 fsz = .done r ∧ r.cls = .stop .overrun) ↔
    ∃ q, chunkPre h.rest = .ok q ∧ bufSizeAfter len buf.size < q.sz := by
  unfold stepV2
  simp only
  have hpre := chunkPre_sat h.rest
  cases hq : chunkPre h.rest with
  | err => simp
  | ok q =>
    simp only [R.ok.injEq, exists_eq_left']
    rw [← bufAlloc_size, ← loadPayload_overrun_iff q.sz (bufAlloc len buf) q.rest]
    have hload := loadPayload_sat q.sz (bufAlloc len buf) q.rest
    cases hl : loadPayload q.sz (bufAlloc len buf) q.rest with
    | ok pl =>
      simp only
      have hps : pl.1.size = bufSizeAfter len buf.size := by rw [hload.of_ok hl, bufAlloc_size]
      have hge := bufSizeAfter_ge len buf.size
      have hbody := chunkBody_sat p.order lr len h.f2s h.syms pl.1 q hf hinv.syms hinv.bytes (by omega)
      cases hc : chunkBody p.order lr len h.f2s h.syms pl.1 q with
      | ok c => simp
      | _ => rw [hc] at hbody; exact absurd hbody List.not_mem_nil
    | _ => rw [hl] at hload; revert hload; simp [R.Sat, stopOf]
  | _ => rw [hq] at hpre; revert hpre; simp [R.Sat, stopOf]

end Kanzi.AnsDec
