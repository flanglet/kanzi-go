/-
Round trip of the order-0 range coder (property C12) for a whole block, `block_rt`: the tables
`cumFreqs` / `f2s` built from a frequency table provide what `SymTab` asks for, then one chunk
(header + payload), then the chunk loop.  Builds on `Kanzi/Proofs/Range.lean` (step / payload,
sections A..F; the lettering goes on here), the header round trip `range_header_roundtrip`
(`Kanzi/Proofs/EntSmall.lean`), and from `Kanzi/Proofs/Ans0.lean` the facts about the normalised
table of a chunk (`oneChunk_table`) and the generic chunk loop (`chunkLoop_rt`), which the ANS coder
shares.
-/
import Kanzi.Model.Range
import Kanzi.Proofs.Range
import Kanzi.Proofs.EntSmall
import Kanzi.Proofs.Ans0
import Kanzi.Proofs.Normalize

namespace Kanzi.Range
open Kanzi.Bits Kanzi.EntSmall

/-! ### G. `cumFreqs` and `f2s` -/

theorem cumList_getD : ∀ (f : List Nat) (c s : Nat), s ≤ f.length →
    (cumList c f).getD s 0 = c + (f.take s).sum := by
  intro f
  induction f with
  | nil => intro c s hs; have : s = 0 := by simpa using hs
           subst this; simp [cumList]
  | cons fi fs ih =>
    intro c s hs
    cases s with
    | zero => simp [cumList]
    | succ k =>
      simp only [cumList, List.getD_cons_succ, List.take_succ_cons, List.sum_cons]
      rw [ih (c + fi) k (by simpa using hs)]
      omega

theorem mkCum_getD (f : List Nat) (s : Nat) (hs : s ≤ f.length) : (mkCum f).getD s 0 = cumF f s := by
  unfold mkCum cumF
  have := cumList_getD f 0 s hs
  simp only [Nat.zero_add] at this
  rw [← this]
  simp [Array.getD_eq_getD_getElem?, List.getD_eq_getElem?_getD]

theorem cumF_succ (f : List Nat) (s : Nat) (hs : s < f.length) : cumF f (s + 1) = cumF f s + f.getD s 0 := by
  unfold cumF
  rw [List.take_add_one, List.sum_append]
  simp [List.getD_eq_getElem?_getD, hs]

theorem f2sList_length : ∀ (f : List Nat) (i : Nat), (f2sList f i).length = f.sum := by
  intro f
  induction f with
  | nil => intro i; rfl
  | cons fi fs ih => intro i; simp [f2sList, ih]

theorem f2sList_get : ∀ (f : List Nat) (i s j : Nat), s < f.length → cumF f s ≤ j →
    j < cumF f s + f.getD s 0 → (f2sList f i)[j]? = some (i + s) := by
  intro f
  induction f with
  | nil => intro i s j hs; simp at hs
  | cons fi fs ih =>
    intro i s j hs hlo hhi
    cases s with
    | zero =>
      simp only [cumF, List.take_zero, List.sum_nil, List.getD_cons_zero, Nat.zero_add] at hlo hhi
      simp only [f2sList]
      rw [List.getElem?_append_left (by simpa using hhi)]
      simp [hhi]
    | succ k =>
      have hc : cumF (fi :: fs) (k + 1) = fi + cumF fs k := by simp [cumF]
      rw [hc] at hlo hhi
      simp only [List.getD_cons_succ] at hhi
      simp only [f2sList]
      rw [List.getElem?_append_right (by simp; omega)]
      simp only [List.length_replicate]
      rw [ih (i + 1) k (j - fi) (by simpa using hs) (by omega) (by omega)]
      congr 1; omega

theorem mkF2s_size (f : List Nat) : (mkF2s f).size = f.sum := by
  unfold mkF2s; simp [f2sList_length]

theorem mkF2s_getD (f : List Nat) (s j : Nat) (hs : s < f.length) (hlo : cumF f s ≤ j)
    (hhi : j < cumF f s + f.getD s 0) : (mkF2s f).getD j 0 = s := by
  unfold mkF2s
  have := f2sList_get f 0 s j hs hlo hhi
  simp [Array.getD_eq_getD_getElem?, this]

theorem symTab_mk (f : List Nat) (lr s : Nat) (hsum : f.sum = 2 ^ lr) (hs : s < f.length)
    (hpos : 0 < f.getD s 0) : SymTab (mkCum f) (mkF2s f) lr s := by
  have h1 := mkCum_getD f s (by omega)
  have h2 := mkCum_getD f (s + 1) (by omega)
  rw [cumF_succ f s hs] at h2
  have h3 := cumF_add_le f s hs
  refine ⟨by omega, by omega, ?_⟩
  intro j hlo hhi
  rw [h1] at hlo
  rw [h2] at hhi
  exact ⟨by rw [mkF2s_size]; omega, mkF2s_getD f s j hs hlo hhi⟩

theorem payload_table_rt (f : List Nat) (lr : Nat) (hlr : lr ≤ 16) (hsum : f.sum = 2 ^ lr)
    (c : List Nat) (hsym : ∀ a ∈ c, a < f.length ∧ 0 < f.getD a 0) (rest : Bits) :
    decodePayload f lr c.length (encTail (mkCum f) lr c 0 topRange ++ rest) = some (c, rest) := by
  obtain ⟨code, r, h1, h2⟩ := payload_rt (mkCum f) (mkF2s f) lr hlr c
    (fun s hs => symTab_mk f lr s hsum (hsym s hs).1 (hsym s hs).2) rest
  unfold decodePayload
  rw [h1]
  exact h2

/-! ### H. one chunk of `Write`, the whole block -/

theorem lowerLr_bounds : ∀ (k lr len : Nat), 8 ≤ lr → 8 ≤ lowerLr k lr len ∧ lowerLr k lr len ≤ lr := by
  intro k
  induction k with
  | zero => intro lr len h; exact ⟨h, Nat.le_refl _⟩
  | succ k ih =>
    intro lr len h
    simp only [lowerLr]
    split
    · rename_i hc
      have := ih (lr - 1) len (by omega)
      omega
    · exact ⟨h, Nat.le_refl _⟩

theorem chunkLr_bounds (logRange len : Nat) (h : 8 ≤ logRange) :
    8 ≤ chunkLr logRange len ∧ chunkLr logRange len ≤ logRange :=
  lowerLr_bounds logRange logRange len h

theorem oneChunk_facts (c : List Nat) (lr : Nat) (hlr : 8 ≤ lr ∧ lr ≤ 15) (hne : c ≠ [])
    (hb : ∀ b ∈ c, b < 256) :
    ∃ o, Kanzi.Normalize.normalize (histogram c) c.length (2 ^ lr) = .ok o ∧
      o.alphabet.length = o.size ∧ o.alphabet ≠ [] ∧
      (∀ rest : Bits, rangeDecodeHeader (rangeEncodeHeader o.alphabet o.freqs lr ++ rest)
          = some ((o.alphabet, o.freqs, lr), rest)) ∧
      (o.alphabet.length = 1 → c = List.replicate c.length (o.alphabet.headD 0)) ∧
      (∀ rest : Bits, decodePayload o.freqs lr c.length (encTail (mkCum o.freqs) lr c 0 topRange ++ rest)
          = some (c, rest)) := by
  obtain ⟨o, ho, hasz, ht, hsumA, hin⟩ := oneChunk_table c lr hlr hne hb
  refine ⟨o, ho, hasz, ht.nonempty, fun rest => range_header_roundtrip _ _ lr hlr ht hsumA rest, ?_, ?_⟩
  · intro h1
    apply eq_replicate_of_all
    intro b hbc
    obtain ⟨s, hs⟩ := List.length_eq_one_iff.mp h1
    have := hin b hbc
    rw [hs] at this ⊢
    exact List.mem_singleton.mp this
  · intro rest
    have hlen := ht.len
    exact payload_table_rt o.freqs lr (by omega) (table_sum _ _ lr ht hsumA) c
      (fun b hbc => ⟨by have := ht.lt256 b (hin b hbc); omega, ht.pos b (hin b hbc)⟩) rest

theorem chunks_rt (chunkSize logRange : Nat) (hlr : 8 ≤ logRange ∧ logRange ≤ 15) (hcs0 : 0 < chunkSize) :
    ∀ (fuel : Nat) (blk : List Nat), blk.length ≤ fuel → (∀ b ∈ blk, b < 256) →
    ∃ enc, encodeChunks fuel chunkSize logRange blk = some enc ∧
      ∀ rest : Bits, decodeChunks fuel chunkSize blk.length (enc ++ rest) = some (blk, rest) := by
  refine chunkLoop_rt chunkSize hcs0 (fun fuel blk => encodeChunks fuel chunkSize logRange blk)
    (fun fuel bs blk rest => decodeChunks fuel chunkSize blk.length bs = some (blk, rest))
    (fun fuel => by cases fuel <;> exact ⟨rfl, fun _ => rfl⟩) ?_
  intro fuel blk h0 hb hclen hcne hdl
  have hlrc := chunkLr_bounds logRange (blk.take chunkSize).length hlr.1
  obtain ⟨o, ho, hasz, hneA, hhdr, hone, hchunk⟩ := oneChunk_facts (blk.take chunkSize)
    (chunkLr logRange (blk.take chunkSize).length) ⟨hlrc.1, by omega⟩ hcne
    (fun b h => hb b (List.mem_of_mem_take h))
  have hA0 : ¬ o.alphabet.length = 0 := length_ne_zero_of_ne_nil _ hneA
  generalize hlrv : chunkLr logRange (blk.take chunkSize).length = lr at *
  refine ⟨rangeEncodeHeader o.alphabet o.freqs lr
      ++ (if o.size ≤ 1 then [] else encTail (mkCum o.freqs) lr (blk.take chunkSize) 0 topRange), ?_, ?_⟩
  · intro tl htl
    simp only [encodeChunks, if_neg h0, encodeChunk, hlrv, ho, htl]
  · intro tl rest hdec
    simp only [decodeChunks, if_neg h0, List.append_assoc]
    rw [hhdr]
    simp only [if_neg hA0]
    by_cases h1 : o.alphabet.length = 1
    · have hs : o.size ≤ 1 := by omega
      simp only [if_pos h1, if_pos hs, List.nil_append]
      rw [hdl, hdec, ← hclen, ← hone h1]
      simp only [List.take_append_drop]
    · have hs : ¬ o.size ≤ 1 := by omega
      simp only [if_neg h1, if_neg hs]
      rw [← hclen, hchunk]
      simp only
      rw [hclen, hdl, hdec]
      simp only [List.take_append_drop]

/-- the whole `Write` (+ `Dispose`) / `Read` -/
theorem block_rt (blk : List Nat) (chunkSize logRange : Nat) (hlr : 8 ≤ logRange ∧ logRange ≤ 15)
    (hcs0 : 0 < chunkSize) (hb : ∀ b ∈ blk, b < 256) :
    ∃ enc, encode blk chunkSize logRange = some enc ∧
      ∀ rest : Bits, decode (enc ++ rest) blk.length chunkSize = some (blk, rest) :=
  chunks_rt chunkSize logRange hlr hcs0 blk.length blk (Nat.le_refl _) hb

end Kanzi.Range
