/-
Huffman codec (C12), the whole block: `HuffmanEncoder.Write` / `HuffmanDecoder.Read` on a whole
block, for every block of bytes, every length and every legal chunk size; then the statements of
`Properties/C12_huffman.lean` that need the whole chain (prefix-freeness of the canonical codes,
the header for every alphabet size, the encoder's packed table).
-/
import Kanzi.Model.Huffman
import Kanzi.Proofs.EntSmall
import Kanzi.Proofs.Ans0
import Kanzi.Proofs.HufChunk

namespace Kanzi.Huffman
open Kanzi.Bits Kanzi.EntSmall Kanzi.Normalize

theorem readLengths_one (sizes : List Nat) (s : Nat) (hs : s < 256)
    (hsz : 1 ≤ sizes.getD s 0 ∧ sizes.getD s 0 ≤ 12) :
    ∃ codes, ∀ rest, readLengths (encodeAlphabetBits [s] ++ encodeSizes sizes [s] 2 ++ rest)
      = some (⟨[s], storeSizes sizes [s] (List.replicate 256 8), codes⟩, rest) := by
  apply Exists.intro
  intro rest
  unfold readLengths
  rw [List.append_assoc, alphabet_roundtrip [s] (List.pairwise_singleton _ _)
    (fun x hx => by rw [List.mem_singleton.mp hx]; exact hs)]
  simp only
  rw [if_neg (by simp), readSizes_enc sizes rest [s] 2 _
    (fun x hx => by rw [List.mem_singleton.mp hx]; exact hsz) (by omega)]
  simp only [generateCanonicalCodes, List.length_cons, List.length_nil]
  rfl

/-- what a round of the encoder's chunk loop emits, as the header routines of the decoder see it -/
theorem encodeOneChunk_cases (c : List Nat) (hb : ∀ b ∈ c, b < 256) (hlen : 1 ≤ c.length) :
    ∃ e br, encodeOneChunk c = some (e, br) ∧
      if c.length < 32 then e = ofBytes c
      else ∃ hdr rl, (∀ rest, readLengths (hdr ++ rest) = some (rl, rest)) ∧ 1 ≤ rl.alphabet.length ∧
        if rl.alphabet.length = 1 then
          e = hdr ∧ rl.alphabet.headD 0 < 256 ∧ c = List.replicate c.length (rl.alphabet.headD 0)
        else ∃ arr tbl sizes codes a, e = hdr ++ encodeChunk arr c ∧ buildTable rl = some tbl ∧
          ChunkCtx arr tbl sizes codes a ∧ ∀ b ∈ c, b ∈ a := by
  unfold encodeOneChunk
  by_cases h32 : c.length < 32
  · simp only [if_pos h32]
    exact ⟨_, _, rfl, rfl⟩
  simp only [if_neg h32]
  obtain ⟨u, hu, hok⟩ := updateFrequencies_spec (histogram c) (histogram_length c)
  rw [hu]
  refine ⟨_, _, rfl, u.bits, ?_⟩
  have hmem : ∀ b ∈ c, b ∈ support (histogram c) := by
    intro b hbc
    rw [mem_support, histogram_length]
    have := histogram_pos c b hbc (hb b hbc)
    exact ⟨hb b hbc, by omega⟩
  have ha := support_alpha (histogram c) (histogram_length c)
  generalize support (histogram c) = a at hok hmem ha
  obtain ⟨x, hx⟩ := List.exists_mem_of_length_pos hlen
  have hane : 1 ≤ a.length := List.length_pos_of_mem (hmem x hx)
  rw [hok.bits, hok.count]
  by_cases h1 : a.length = 1
  · obtain ⟨s, rfl⟩ := List.length_eq_one_iff.mp h1
    obtain ⟨codes, hrl⟩ := readLengths_one u.sizes s (ha.lt s List.mem_cons_self)
      (hok.lens.range s List.mem_cons_self)
    refine ⟨_, hrl, hane, ?_⟩
    dsimp only
    rw [if_pos h1, if_neg (by rw [h1]; exact Nat.lt_irrefl 1), List.append_nil]
    exact ⟨rfl, ha.lt s List.mem_cons_self,
      eq_replicate_of_all c s (fun b hbc => List.mem_singleton.mp (hmem b hbc))⟩
  · have h2 : 2 ≤ a.length := by omega
    obtain ⟨codes, tbl, hg, hrl, hbt, htok, htf, hclt, hcl, _⟩ := decoder_tables u.sizes a ha.sorted hok.lens h2
    obtain ⟨codes', ord', hg', hpk⟩ := hok.codes h2
    rw [hg] at hg'
    obtain ⟨rfl, _⟩ := Prod.mk.inj (Option.some.inj hg')
    have hco : (canonOrder u.sizes a).length = a.length :=
      (canonOrder_perm u.sizes a hok.lens.nodup hok.lens.lt256 hok.lens.range).length_eq
    refine ⟨_, hrl, by rw [hco]; exact hane, ?_⟩
    rw [hco, if_neg h1, if_pos (by omega)]
    exact ⟨_, tbl, u.sizes, codes, a, rfl, hbt,
      ⟨hpk ▸ packCodes_packed u.sizes a codes hok.lens hcl hclt, htok, htf, ha.lt⟩, hmem⟩

theorem oneChunk_roundtrip (c : List Nat) (hb : ∀ b ∈ c, b < 256) (chunkSize : Nat)
    (hcs : 1024 ≤ chunkSize ∧ chunkSize ≤ 16384) (hlen : 1 ≤ c.length ∧ c.length ≤ chunkSize)
    (junk : List Nat) (hj : ∀ b ∈ junk, b < 256) :
    ∃ e br, encodeOneChunk c = some (e, br) ∧
      ∀ rest, decodeOneChunk chunkSize c.length junk (e ++ rest) = some ((c, true), rest) := by
  obtain ⟨e, br, he, h⟩ := encodeOneChunk_cases c hb hlen.1
  refine ⟨e, br, he, fun rest => ?_⟩
  unfold decodeOneChunk
  by_cases h32 : c.length < 32
  · rw [if_pos h32] at h ⊢
    rw [h, readBytes_ofBytes c rest hb]
  rw [if_neg h32] at h ⊢
  obtain ⟨hdr, rl, hrl, hpos, h⟩ := h
  by_cases h1 : rl.alphabet.length = 1
  · rw [if_pos h1] at h
    obtain ⟨rfl, _, hrep⟩ := h
    rw [hrl rest]
    simp only
    rw [if_neg (by omega), if_pos h1, ← hrep]
  rw [if_neg h1] at h
  obtain ⟨arr, tbl, sizes, codes, a, rfl, hbt, ctx, hmem⟩ := h
  rw [List.append_assoc, hrl]
  simp only
  rw [if_neg (by omega), if_neg h1, hbt]
  simp only
  rw [chunk_roundtrip arr tbl sizes codes a ctx junk hj c hmem (2 * chunkSize) (by omega) (by omega) rest]

theorem chunks_roundtrip (chunkSize : Nat) (hcs : 1024 ≤ chunkSize ∧ chunkSize ≤ 16384)
    (junk : List Nat) (hj : ∀ b ∈ junk, b < 256) :
    ∀ (fuel : Nat) (blk : List Nat), blk.length ≤ fuel → (∀ b ∈ blk, b < 256) →
    ∃ e brs, encodeChunks fuel chunkSize blk = some (e, brs) ∧
      ∀ rest, decodeChunks fuel chunkSize blk.length junk (e ++ rest) = some (blk, rest) := by
  intro fuel
  induction fuel with
  | zero =>
    intro blk hl _
    have : blk = [] := List.length_eq_zero_iff.mp (by omega)
    subst this
    exact ⟨[], [], rfl, fun rest => rfl⟩
  | succ fuel ih =>
    intro blk hl hb
    simp only [encodeChunks, decodeChunks]
    by_cases h0 : blk.length = 0
    · rw [if_pos h0]
      have : blk = [] := List.length_eq_zero_iff.mp h0
      subst this
      exact ⟨[], [], rfl, fun rest => by simp⟩
    · rw [if_neg h0]
      have hct : (blk.take chunkSize).length = min chunkSize blk.length := List.length_take
      obtain ⟨e1, br, he1, hd1⟩ := oneChunk_roundtrip (blk.take chunkSize)
        (fun b hb' => hb b (List.mem_of_mem_take hb')) chunkSize hcs (by rw [hct]; omega) junk hj
      obtain ⟨e2, brs, he2, hd2⟩ := ih (blk.drop chunkSize) (by rw [List.length_drop]; omega)
        (fun b hb' => hb b (List.mem_of_mem_drop hb'))
      rw [he1]
      simp only
      rw [he2]
      simp only
      refine ⟨_, _, rfl, fun rest => ?_⟩
      rw [if_neg h0, ← hct, List.append_assoc, hd1 (e2 ++ rest)]
      simp only [if_true]
      have hdl : blk.length - (blk.take chunkSize).length = (blk.drop chunkSize).length := by
        rw [List.length_drop, hct]; omega
      rw [hdl, hd2 rest]
      simp only [List.take_append_drop]

/-- **whole block.**  Whatever the decoder's buffer held before: `Write` succeeds and `Read` of as many
    bytes returns the block and stops exactly where the encoder stopped. -/
theorem block_roundtrip (blk : List Nat) (hb : ∀ b ∈ blk, b < 256) (chunkSize : Nat)
    (hcs : ctorOk chunkSize = true) (junk : List Nat) (hj : ∀ b ∈ junk, b < 256) :
    ∃ e brs, encodeB blk chunkSize = some (e, brs) ∧ encode blk chunkSize = some e ∧
      ∀ rest, decode (e ++ rest) blk.length chunkSize junk = some (blk, rest) := by
  have hcs' : 1024 ≤ chunkSize ∧ chunkSize ≤ 16384 := by
    simp only [ctorOk, Bool.and_eq_true, decide_eq_true_eq] at hcs
    exact hcs
  obtain ⟨e, brs, he, hd⟩ := chunks_roundtrip chunkSize hcs' junk hj blk.length blk (Nat.le_refl _) hb
  have he' : encodeB blk chunkSize = some (e, brs) := he
  exact ⟨e, brs, he', by simp only [encode, he'], hd⟩

/-- the tiles of `s` and `t` both contain the index made of the code of `t` (zero padded) -/
theorem canonical_prefix_free (sizes a : List Nat) (hlo : LensOk sizes a) (codes : List Nat)
    (hco : CodesOk sizes codes (canonOrder sizes a) 0)
    (s t : Nat) (hs : s ∈ a) (ht : t ∈ a) (hpre : codeBits sizes codes s <+: codeBits sizes codes t) : s = t := by
  have hperm := canonOrder_perm sizes a hlo.nodup hlo.lt256 hlo.range
  have hlt := code_lt_of_codesOk sizes codes a hlo hco
  obtain ⟨r, hr⟩ := hpre
  have p1 := peek_code (codes.getD t 0) (sizes.getD t 0) (hlo.range t ht).2 (hlt t ht) []
  have p2 := peek_code (codes.getD s 0) (sizes.getD s 0) (hlo.range s hs).2 (hlt s hs) r
  simp only [codeBits] at hr
  rw [List.append_nil, ← hr] at p1
  have f1 := findSlot_hit sizes codes t (peek 12 (natBits (codes.getD s 0) (sizes.getD s 0) ++ r))
    (canonOrder sizes a) 0 hco (hperm.mem_iff.mpr ht) (by rw [slotW]; exact p1.1) (by rw [slotW]; exact p1.2)
  have f2 := findSlot_hit sizes codes s (peek 12 (natBits (codes.getD s 0) (sizes.getD s 0) ++ r))
    (canonOrder sizes a) 0 hco (hperm.mem_iff.mpr hs) (by rw [slotW]; exact p2.1) (by rw [slotW]; exact p2.2)
  rw [f1] at f2
  exact (Option.some.inj f2).symm

theorem readLengths_header (sizes a : List Nat) (hs : a.Pairwise (· < ·)) (hlo : LensOk sizes a) (rest : Bits) :
    ∃ rl, readLengths (encodeAlphabetBits a ++ encodeSizes sizes a 2 ++ rest) = some (rl, rest) ∧
      rl.alphabet.Perm a ∧ (∀ s ∈ a, rl.sizes.getD s 0 = sizes.getD s 0) ∧
      (2 ≤ a.length → generateCanonicalCodes sizes (List.replicate 256 0) a = some (rl.codes, rl.alphabet)) := by
  by_cases h0 : a.length = 0
  · have : a = [] := List.length_eq_zero_iff.mp h0
    subst this
    refine ⟨⟨[], List.replicate 256 8, List.replicate 256 0⟩, ?_, List.Perm.refl _, fun _ h => (by cases h),
      fun h => (by simp at h)⟩
    unfold readLengths
    rw [List.append_assoc, alphabet_roundtrip [] List.Pairwise.nil (fun _ h => (by cases h))]
    simp only [List.length_nil, if_true]
    rfl
  · by_cases h1 : a.length = 1
    · obtain ⟨s, rfl⟩ := List.length_eq_one_iff.mp h1
      obtain ⟨codes, hrl⟩ := readLengths_one sizes s (hlo.lt256 s List.mem_cons_self)
        (hlo.range s List.mem_cons_self)
      refine ⟨_, hrl rest, List.Perm.refl _, fun x hx => ?_, fun h => (by simp at h)⟩
      simp only
      rw [storeSizes_getD _ _ _ _ (by rw [List.length_replicate]; exact hlo.lt256 x hx), if_pos hx]
    · have h2 : 2 ≤ a.length := by omega
      obtain ⟨codes, tbl, hg, hrl, _, _, _, _, _, _⟩ := decoder_tables sizes a hs hlo h2
      refine ⟨_, hrl rest, canonOrder_perm sizes a hlo.nodup hlo.lt256 hlo.range, ?_, fun _ => hg⟩
      intro x hx
      simp only
      rw [storeSizes_getD _ _ _ _ (by rw [List.length_replicate]; exact hlo.lt256 x hx), if_pos hx]

theorem encoder_codes (freqs : List Nat) (hl : freqs.length = 256) (h2 : 2 ≤ (support freqs).length) :
    ∃ u codes ord, updateFrequencies freqs = some u ∧
      generateCanonicalCodes u.sizes (List.replicate 256 0) (support freqs) = some (codes, ord) ∧
      ∀ s ∈ support freqs,
        u.codes.getD s 0 >>> 12 = u.sizes.getD s 0 ∧ u.codes.getD s 0 &&& 0x0FFF = codes.getD s 0 := by
  obtain ⟨u, hu, hok⟩ := updateFrequencies_spec freqs hl
  obtain ⟨codes, ord, hg, hpk⟩ := hok.codes h2
  obtain ⟨hcl, hco⟩ := genCodes_inv _ _ hok.lens h2 codes ord hg
  have hp := packCodes_packed u.sizes _ codes hok.lens hcl (code_lt_of_codesOk _ codes _ hok.lens hco)
  refine ⟨u, codes, ord, hu, hg, fun s hs => ?_⟩
  rw [hpk, ← toArray_getD]
  exact ⟨hp.len s hs, hp.code s hs⟩

end Kanzi.Huffman
