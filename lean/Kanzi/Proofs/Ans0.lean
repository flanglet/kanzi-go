/-
Whole-chunk / whole-block round trip of the order-0 rANS codec (`ANSRangeCodec.go`, model in section
`Ans0` of Kanzi/Model/EntSmall.lean); the property statements are in Kanzi/Properties/C12_ans0.lean.
Builds on the single step theorem `ans_step` (Kanzi/Proofs/EntSmallAns.lean), the header round trip
`ans_header_roundtrip` (Kanzi/Proofs/EntSmall.lean) and `normalize_valid` (Kanzi/Proofs/Normalize.lean).

The idea: the encoder walks the chunk backwards and pushes its 16-bit words in FRONT of the payload, so
the decoder, walking forwards, pops them in exactly the reverse order and each `decodeStepB` undoes one
`encodeStep`.  Section C isolates this in `LaneOk` / `round4_rt`, stated over arbitrary encoder
symbols and slot tables so that the order-1 codec (Kanzi/Proofs/Ans1.lean) reuses it with one table
per context; `frameBits` / `decodeFrame` (section E) and `chunkLoop_rt` (section G) are shared with
other codecs in the same way.
The proofs here use core Lean only (Mathlib enters through the imported EntSmallAns).
-/
import Kanzi.Model.EntSmall
import Kanzi.Proofs.EntSmall
import Kanzi.Proofs.EntSmallAns
import Kanzi.Proofs.Normalize

namespace Kanzi.EntSmall
open Kanzi.Bits

/-! ### A. the two symbol tables as lists -/

def cumF (f : List Nat) (s : Nat) : Nat := (f.take s).sum

/-- `mkEncSyms` as a list, from cumulated frequency `c`: a zero record for an absent symbol -/
def encSymsL (lr : Nat) : Nat → List Nat → List EncSym
  | _, [] => []
  | c, fi :: fs =>
    (if fi = 0 then (⟨0, 0, 0, 0, 0⟩ : EncSym) else encSymReset c fi lr) :: encSymsL lr (c + fi) fs

theorem mkEncSyms_fold (lr : Nat) : ∀ (f : List Nat) (arr : Array EncSym) (c : Nat),
    (f.foldl (fun (p : Array EncSym × Nat) fi =>
      if fi = 0 then (p.1.push ⟨0, 0, 0, 0, 0⟩, p.2)
      else (p.1.push (encSymReset p.2 fi lr), p.2 + fi)) (arr, c)).1
      = arr ++ (encSymsL lr c f).toArray := by
  intro f
  induction f with
  | nil => intro arr c; simp [encSymsL]
  | cons fi fs ih =>
    intro arr c
    rw [List.foldl_cons]
    by_cases h0 : fi = 0
    · subst h0
      simp only [if_true]
      rw [ih]
      simp [encSymsL]
    · simp only [if_neg h0]
      rw [ih]
      simp [encSymsL, h0]

theorem mkEncSyms_eq (f : List Nat) (lr : Nat) : mkEncSyms f lr = (encSymsL lr 0 f).toArray := by
  unfold mkEncSyms
  rw [mkEncSyms_fold]
  simp

theorem encSymsL_get (lr : Nat) : ∀ (f : List Nat) (c i : Nat), i < f.length → f.getD i 0 ≠ 0 →
    (encSymsL lr c f)[i]? = some (encSymReset (c + cumF f i) (f.getD i 0) lr) := by
  intro f
  induction f with
  | nil => intro c i h; simp at h
  | cons fi fs ih =>
    intro c i hi hne
    cases i with
    | zero =>
      simp only [List.getD_cons_zero] at hne
      simp [encSymsL, cumF, hne]
    | succ j =>
      simp only [List.getD_cons_succ] at hne
      simp only [encSymsL, List.getElem?_cons_succ, List.getD_cons_succ]
      rw [ih (c + fi) j (by simpa using hi) hne]
      simp [cumF, Nat.add_assoc]

theorem mkEncSyms_getD (f : List Nat) (lr s : Nat) (hs : s < f.length) (hne : f.getD s 0 ≠ 0) :
    (mkEncSyms f lr).getD s ⟨0, 0, 0, 0, 0⟩ = encSymReset (cumF f s) (f.getD s 0) lr := by
  rw [mkEncSyms_eq]
  have := encSymsL_get lr f 0 s hs hne
  simp [Array.getD_eq_getD_getElem?, this]

/-- `mkDecTable` as a list, from cumulated frequency `c` and symbol `k`: symbol `k + i` owns the
    `f[i]` consecutive slots starting at `c + cumF f i` -/
def decTblL (lr : Nat) : Nat → Nat → List Nat → List (Nat × DecSym)
  | _, _, [] => []
  | c, k, fi :: fs => List.replicate fi (k, decSymReset c fi lr) ++ decTblL lr (c + fi) (k + 1) fs

theorem mkDecTable_fold (lr : Nat) : ∀ (f : List Nat) (arr : Array (Nat × DecSym)) (c k : Nat),
    (f.foldl (fun (p : Array (Nat × DecSym) × Nat × Nat) fi =>
      if fi = 0 then (p.1, p.2.1, p.2.2 + 1)
      else (p.1 ++ Array.replicate fi (p.2.2, decSymReset p.2.1 fi lr), p.2.1 + fi, p.2.2 + 1))
      (arr, c, k)).1 = arr ++ (decTblL lr c k f).toArray := by
  intro f
  induction f with
  | nil => intro arr c k; simp [decTblL]
  | cons fi fs ih =>
    intro arr c k
    rw [List.foldl_cons]
    by_cases h0 : fi = 0
    · subst h0
      simp only [if_true]
      rw [ih]
      simp [decTblL]
    · simp only [if_neg h0]
      rw [ih, Array.append_assoc]
      congr 1
      apply Array.toList_inj.mp
      simp [decTblL]

theorem mkDecTable_eq (f : List Nat) (lr : Nat) : mkDecTable f lr = (decTblL lr 0 0 f).toArray := by
  unfold mkDecTable
  rw [mkDecTable_fold]
  simp

theorem decTblL_get (lr : Nat) : ∀ (f : List Nat) (c k i slot : Nat), i < f.length →
    cumF f i ≤ slot → slot < cumF f i + f.getD i 0 →
    (decTblL lr c k f)[slot]? = some (k + i, decSymReset (c + cumF f i) (f.getD i 0) lr) := by
  intro f
  induction f with
  | nil => intro c k i slot h; simp at h
  | cons fi fs ih =>
    intro c k i slot hi hlo hhi
    cases i with
    | zero =>
      simp only [cumF, List.take_zero, List.sum_nil, List.getD_cons_zero, Nat.zero_add] at hlo hhi
      simp only [decTblL]
      rw [List.getElem?_append_left (by simpa using hhi)]
      simp [cumF, hhi]
    | succ j =>
      have hc : cumF (fi :: fs) (j + 1) = fi + cumF fs j := by simp [cumF]
      rw [hc] at hlo hhi
      simp only [List.getD_cons_succ] at hhi
      simp only [decTblL, List.getD_cons_succ]
      rw [List.getElem?_append_right (by simpa using (by omega : fi ≤ slot))]
      simp only [List.length_replicate]
      rw [ih (c + fi) (k + 1) j (slot - fi) (by simpa using hi) (by omega) (by omega), hc]
      simp [Nat.add_assoc, Nat.add_comm 1 j]

theorem mkDecTable_getD (f : List Nat) (lr s slot : Nat) (hs : s < f.length)
    (hlo : cumF f s ≤ slot) (hhi : slot < cumF f s + f.getD s 0) :
    (mkDecTable f lr).getD slot (0, ⟨0, 0⟩) = (s, decSymReset (cumF f s) (f.getD s 0) lr) := by
  rw [mkDecTable_eq]
  have := decTblL_get lr f 0 0 s slot hs hlo hhi
  simp [Array.getD_eq_getD_getElem?, this]

theorem cumF_add_le (f : List Nat) (s : Nat) (hs : s < f.length) : cumF f s + f.getD s 0 ≤ f.sum := by
  have h1 : (f.take (s + 1)).sum = cumF f s + f.getD s 0 := by
    rw [List.take_add_one, List.sum_append]
    simp [cumF, List.getD_eq_getElem?_getD, hs]
  have h2 : f.sum = (f.take (s + 1)).sum + (f.drop (s + 1)).sum := by
    rw [← List.sum_append, List.take_append_drop]
  omega

/-! ### B. one step on the byte buffer -/

theorem word_split (w : Nat) : ((w >>> 8) <<< 8) ||| (w &&& 0xFF) = w := by
  have h1 : w &&& 0xFF = w % 2 ^ 8 := by
    have := Nat.and_two_pow_sub_one_eq_mod w 8
    simpa using this
  have hlt : w % 2 ^ 8 < 2 ^ 8 := Nat.mod_lt _ (by decide)
  rw [h1, ← Nat.shiftLeft_add_eq_or_of_lt hlt, Nat.shiftLeft_eq, Nat.shiftRight_eq_div_pow]
  have := Nat.div_add_mod w (2 ^ 8)
  rw [Nat.mul_comm]; exact this

theorem wordBytes_lt (ws : List Nat) (h : ∀ w ∈ ws, w < 2 ^ 16) : ∀ b ∈ wordBytes ws, b < 256 := by
  intro b hb
  unfold wordBytes at hb
  rw [List.mem_flatMap] at hb
  obtain ⟨w, hw, hbw⟩ := hb
  have hw16 := h w hw
  simp only [List.mem_cons, List.mem_nil_iff, or_false] at hbw
  rcases hbw with rfl | rfl
  · rw [Nat.shiftRight_eq_div_pow]
    omega
  · have := Nat.and_two_pow_sub_one_eq_mod w 8
    have e : w &&& 0xFF = w % 2 ^ 8 := by simpa using this
    rw [e]; omega

theorem wordBytes_length (ws : List Nat) : (wordBytes ws).length = 2 * ws.length := by
  induction ws with
  | nil => rfl
  | cons w ws ih =>
    simp only [wordBytes, List.flatMap_cons, List.length_append, List.length_cons, List.length_nil] at ih ⊢
    omega

/-- `ans_step` (stated on a list of 16-bit words) on the byte buffer `decodeStepB` reads.  `ans_step`
    is used at the rests `[]` and `[0]`: when no word was pushed, the latter forces the branch of the
    decoder that pops nothing. -/
theorem ans_stepB (lr c f x : Nat) (rest : List Nat) (hlr : 8 ≤ lr ∧ lr ≤ 15) (hf : 0 < f)
    (hc : c + f ≤ 2 ^ lr) (hx : 2 ^ 15 ≤ x ∧ x < 2 ^ 31) :
    decodeStepB (encodeStep x (encSymReset c f lr)).2 (decSymReset c f lr) lr
        (wordBytes (encodeStep x (encSymReset c f lr)).1 ++ rest) = (x, rest) := by
  obtain ⟨_, _, _, _, _, hl, hd⟩ := ans_step lr c f x [] hlr hf hc hx
  obtain ⟨_, _, _, _, _, _, hd0⟩ := ans_step lr c f x [0] hlr hf hc hx
  generalize (encodeStep x (encSymReset c f lr)).1 = ws at *
  generalize (encodeStep x (encSymReset c f lr)).2 = x' at *
  generalize decSymReset c f lr = ds at *
  match ws, hl with
  | [], _ =>
    simp only [decodeStep, List.nil_append] at hd0
    simp only [wordBytes, List.flatMap_nil, List.nil_append, decodeStepB]
    split at hd0
    · simp at hd0
    · rename_i hnlt
      rw [if_neg hnlt]
      simp only [Prod.mk.injEq, and_true] at hd0
      rw [hd0]
  | [w], _ =>
    simp only [decodeStep, List.append_nil] at hd
    simp only [wordBytes, List.flatMap_cons, List.flatMap_nil, List.append_nil, decodeStepB,
      List.cons_append, List.nil_append, List.headD_cons, List.tail_cons]
    split at hd
    · rename_i hlt
      rw [if_pos hlt]
      simp only [List.headD_cons, List.tail_cons, Prod.mk.injEq, and_true] at hd
      rw [Nat.or_assoc, word_split, hd]
    · simp at hd

/-! ### C. one symbol through the real tables, one round of four symbols -/

/-- `encodeSymbol(st, symb[s])` with the encoder table built from `f` -/
def encS (f : List Nat) (lr s x : Nat) : List Nat × Nat :=
  encodeStep x ((mkEncSyms f lr).getD s ⟨0, 0, 0, 0, 0⟩)

/-- the decoder's state when its buffer holds the encoder's output followed by any other bytes `J` -/
def toDec (s : EncSt) (J : List Nat) : DecSt := ⟨s.st0, s.st1, s.st2, s.st3, s.out ++ J⟩

theorem toDec_nil (s : EncSt) : toDec s [] = ⟨s.st0, s.st1, s.st2, s.st3, s.out⟩ := by
  rw [toDec, List.append_nil]

/-- the interval a rANS state is in between two steps (`2^15 = _ANS_TOP`; kept by `ans_step`) -/
def StOk (x : Nat) : Prop := 2 ^ 15 ≤ x ∧ x < 2 ^ 31

/-- invariant of the encoder loop: four normalised states, and `out` holds bytes -/
structure ValidSt (s : EncSt) : Prop where
  h0 : StOk s.st0
  h1 : StOk s.st1
  h2 : StOk s.st2
  h3 : StOk s.st3
  bytes : ∀ b ∈ s.out, b < 256

/-- `a` is a symbol the table `f` can code: it has an entry, with a positive frequency -/
def SymOk (f : List Nat) (a : Nat) : Prop := a < f.length ∧ 0 < f.getD a 0

/-- one lane of an interleaved round: the encoder symbol `y` and the decoder's slot table `t` agree on
    symbol `a`, for every normalised state -/
def LaneOk (y : EncSym) (t : Nat → Nat × DecSym) (lr a : Nat) : Prop :=
  ∀ x, StOk x →
    StOk (encodeStep x y).2 ∧ (∀ b ∈ wordBytes (encodeStep x y).1, b < 256) ∧
    (wordBytes (encodeStep x y).1).length ≤ 2 ∧
    ∀ rest, decodeStepB (encodeStep x y).2 (t ((encodeStep x y).2 &&& (2 ^ lr - 1))).2 lr
        (wordBytes (encodeStep x y).1 ++ rest) = (x, rest) ∧
      (t ((encodeStep x y).2 &&& (2 ^ lr - 1))).1 = a

theorem laneOk_of_table (f : List Nat) (lr s : Nat) (hlr : 8 ≤ lr ∧ lr ≤ 15) (hsum : f.sum = 2 ^ lr)
    (hs : SymOk f s) :
    LaneOk ((mkEncSyms f lr).getD s ⟨0, 0, 0, 0, 0⟩) (fun slot => (mkDecTable f lr).getD slot (0, ⟨0, 0⟩)) lr s := by
  intro x hx
  have hc : cumF f s + f.getD s 0 ≤ 2 ^ lr := by
    rw [← hsum]
    exact cumF_add_le f s hs.1
  rw [mkEncSyms_getD f lr s hs.1 (Nat.ne_of_gt hs.2)]
  obtain ⟨h1, h2, h3, h4, h5, h6, _⟩ := ans_step lr (cumF f s) (f.getD s 0) x [] hlr hs.2 hc hx
  refine ⟨⟨h1, h2⟩, wordBytes_lt _ h5, by rw [wordBytes_length]; omega, fun rest => ?_⟩
  show decodeStepB _ ((mkDecTable f lr).getD _ _).2 lr _ = _ ∧ ((mkDecTable f lr).getD _ _).1 = s
  rw [Nat.and_two_pow_sub_one_eq_mod, mkDecTable_getD f lr s _ hs.1 h3 h4]
  exact ⟨ans_stepB lr (cumF f s) (f.getD s 0) x rest hlr hs.2 hc hx, rfl⟩

/-- the four `encodeSymbol` calls of one iteration, on explicit symbols -/
def encRound4 (y0 y1 y2 y3 : EncSym) (s : EncSt) : EncSt :=
  let e0 := encodeStep s.st0 y0
  let o0 := wordBytes e0.1 ++ s.out
  let e1 := encodeStep s.st1 y1
  let o1 := wordBytes e1.1 ++ o0
  let e2 := encodeStep s.st2 y2
  let o2 := wordBytes e2.1 ++ o1
  let e3 := encodeStep s.st3 y3
  let o3 := wordBytes e3.1 ++ o2
  ⟨e0.2, e1.2, e2.2, e3.2, o3⟩

/-- the four `decodeSymbol` calls of one iteration, each with its own slot table -/
def decRound4 (t0 t1 t2 t3 : Nat → Nat × DecSym) (lr : Nat) (s : DecSt) : (Nat × Nat × Nat × Nat) × DecSt :=
  let mask := 2 ^ lr - 1
  let c3 := t3 (s.st3 &&& mask)
  let d3 := decodeStepB s.st3 c3.2 lr s.ws
  let c2 := t2 (s.st2 &&& mask)
  let d2 := decodeStepB s.st2 c2.2 lr d3.2
  let c1 := t1 (s.st1 &&& mask)
  let d1 := decodeStepB s.st1 c1.2 lr d2.2
  let c0 := t0 (s.st0 &&& mask)
  let d0 := decodeStepB s.st0 c0.2 lr d1.2
  ((c0.1, c1.1, c2.1, c3.1), ⟨d0.1, d1.1, d2.1, d3.1, d0.2⟩)

/-- one interleaved round: the decoder pops for st3, st2, st1, st0, the reverse of the encoder's pushes,
    so each lane finds its own bytes in front of the buffer -/
theorem round4_rt (y0 y1 y2 y3 : EncSym) (t0 t1 t2 t3 : Nat → Nat × DecSym) (lr a0 a1 a2 a3 : Nat)
    (s : EncSt) (k0 : LaneOk y0 t0 lr a0) (k1 : LaneOk y1 t1 lr a1) (k2 : LaneOk y2 t2 lr a2)
    (k3 : LaneOk y3 t3 lr a3) (hv : ValidSt s) :
    ValidSt (encRound4 y0 y1 y2 y3 s) ∧
    (∀ J, decRound4 t0 t1 t2 t3 lr (toDec (encRound4 y0 y1 y2 y3 s) J) = ((a0, a1, a2, a3), toDec s J)) ∧
    (encRound4 y0 y1 y2 y3 s).out.length ≤ s.out.length + 8 := by
  obtain ⟨x0, b0, l0, d0⟩ := k0 s.st0 hv.h0
  obtain ⟨x1, b1, l1, d1⟩ := k1 s.st1 hv.h1
  obtain ⟨x2, b2, l2, d2⟩ := k2 s.st2 hv.h2
  obtain ⟨x3, b3, l3, d3⟩ := k3 s.st3 hv.h3
  have hb := hv.bytes
  simp only [encRound4, toDec, decRound4]
  generalize encodeStep s.st0 y0 = e0 at *
  generalize encodeStep s.st1 y1 = e1 at *
  generalize encodeStep s.st2 y2 = e2 at *
  generalize encodeStep s.st3 y3 = e3 at *
  refine ⟨⟨x0, x1, x2, x3, ?_⟩, ?_, ?_⟩
  · intro b hb'
    simp only [List.mem_append] at hb'
    rcases hb' with h | h | h | h | h
    · exact b3 b h
    · exact b2 b h
    · exact b1 b h
    · exact b0 b h
    · exact hb b h
  · intro J
    simp only [List.append_assoc]
    rw [(d3 _).1, (d2 _).1, (d1 _).1, (d0 _).1, (d3 s.out).2, (d2 s.out).2, (d1 s.out).2, (d0 s.out).2]
  · simp only [List.length_append]
    omega

theorem encRound_eq (blk : Array Nat) (syms : Array EncSym) (i : Nat) (s : EncSt) :
    encRound blk syms i s
      = encRound4 (syms.getD (blk.getD i 0) ⟨0, 0, 0, 0, 0⟩) (syms.getD (blk.getD (i - 1) 0) ⟨0, 0, 0, 0, 0⟩)
          (syms.getD (blk.getD (i - 2) 0) ⟨0, 0, 0, 0, 0⟩) (syms.getD (blk.getD (i - 3) 0) ⟨0, 0, 0, 0, 0⟩) s := rfl

theorem decRound_eq (tbl : Array (Nat × DecSym)) (lr : Nat) (t : DecSt) :
    decRound tbl lr t
      = (fun r : (Nat × Nat × Nat × Nat) × DecSt => ([r.1.2.2.2, r.1.2.2.1, r.1.2.1, r.1.1], r.2))
          (decRound4 (fun slot => tbl.getD slot (0, ⟨0, 0⟩)) (fun slot => tbl.getD slot (0, ⟨0, 0⟩))
            (fun slot => tbl.getD slot (0, ⟨0, 0⟩)) (fun slot => tbl.getD slot (0, ⟨0, 0⟩)) lr t) := rfl

/-! ### D. all the rounds of a chunk -/

theorem decRounds_succ_right (tbl : Array (Nat × DecSym)) (lr : Nat) : ∀ (n : Nat) (s : DecSt),
    decRounds tbl lr (n + 1) s
      = ((decRounds tbl lr n s).1 ++ (decRound tbl lr (decRounds tbl lr n s).2).1,
         (decRound tbl lr (decRounds tbl lr n s).2).2) := by
  intro n
  induction n with
  | zero => intro s; simp [decRounds]
  | succ n ih =>
    intro s
    have e : ∀ m t, decRounds tbl lr (m + 1) t
        = ((decRound tbl lr t).1 ++ (decRounds tbl lr m (decRound tbl lr t).2).1,
           (decRounds tbl lr m (decRound tbl lr t).2).2) := fun _ _ => rfl
    rw [e (n + 1) s, ih, e n s]
    simp only [List.append_assoc]

theorem take_four (l : List Nat) (n : Nat) (h : n + 4 ≤ l.length) :
    l.take (n + 4) = l.take n ++ [l.getD n 0, l.getD (n + 1) 0, l.getD (n + 2) 0, l.getD (n + 3) 0] := by
  have e : ∀ k, k < l.length → l.take (k + 1) = l.take k ++ [l.getD k 0] := by
    intro k hk
    rw [List.take_add_one]
    simp [List.getD_eq_getElem?_getD, hk]
  rw [show n + 4 = n + 3 + 1 from rfl, e (n + 3) (by omega), show n + 3 = n + 2 + 1 from rfl,
    e (n + 2) (by omega), show n + 2 = n + 1 + 1 from rfl, e (n + 1) (by omega), e n (by omega)]
  simp

/-- one iteration of `for i := end4-1; i > 0; i -= 4` at `i = 4m + 3`: symbols `4m+3 … 4m` go to states 0 … 3 -/
theorem encRounds_step (blk : List Nat) (syms : Array EncSym) (fuel m : Nat) (s : EncSt) :
    encRounds blk.toArray syms (fuel + 1) (4 * (m + 1) - 1) s
      = encRounds blk.toArray syms fuel (4 * m - 1)
          (encRound4 (syms.getD (blk.getD (4 * m + 3) 0) ⟨0, 0, 0, 0, 0⟩) (syms.getD (blk.getD (4 * m + 2) 0) ⟨0, 0, 0, 0, 0⟩)
            (syms.getD (blk.getD (4 * m + 1) 0) ⟨0, 0, 0, 0, 0⟩) (syms.getD (blk.getD (4 * m) 0) ⟨0, 0, 0, 0, 0⟩) s) := by
  have hg : ∀ j, blk.toArray.getD j 0 = blk.getD j 0 := by
    intro j; simp [Array.getD_eq_getD_getElem?, List.getD_eq_getElem?_getD]
  rw [show 4 * (m + 1) - 1 = 4 * m + 3 by omega]
  simp only [encRounds]
  rw [if_pos (by omega), show 4 * m + 3 - 4 = 4 * m - 1 by omega, encRound_eq, hg, hg, hg, hg,
    show 4 * m + 3 - 1 = 4 * m + 2 by omega, show 4 * m + 3 - 2 = 4 * m + 1 by omega,
    show 4 * m + 3 - 3 = 4 * m by omega]

/-- `m` rounds: the encoder walks rounds `m-1 … 0`, the decoder `0 … m-1`; the bytes pushed by
    the encoder in front of `s.out` are exactly what the decoder pops. -/
theorem rounds_rt (blk f : List Nat) (lr : Nat) (hlr : 8 ≤ lr ∧ lr ≤ 15) (hsum : f.sum = 2 ^ lr)
    (hsym : ∀ a ∈ blk, SymOk f a) : ∀ (m fuel : Nat) (s : EncSt), m ≤ fuel → 4 * m ≤ blk.length →
    ValidSt s →
    ValidSt (encRounds blk.toArray (mkEncSyms f lr) fuel (4 * m - 1) s) ∧
    (∀ J, decRounds (mkDecTable f lr) lr m (toDec (encRounds blk.toArray (mkEncSyms f lr) fuel (4 * m - 1) s) J)
      = (blk.take (4 * m), toDec s J)) ∧
    (encRounds blk.toArray (mkEncSyms f lr) fuel (4 * m - 1) s).out.length ≤ s.out.length + 8 * m := by
  have lane : ∀ j, j < blk.length → LaneOk _ _ lr (blk.getD j 0) := fun j hj =>
    laneOk_of_table f lr _ hlr hsum (hsym _ (by
      rw [show blk.getD j 0 = blk[j] by simp [List.getD_eq_getElem?_getD, hj]]
      exact List.getElem_mem hj))
  intro m
  induction m with
  | zero =>
    intro fuel s _ _ hv
    have e : encRounds blk.toArray (mkEncSyms f lr) fuel (4 * 0 - 1) s = s := by
      cases fuel with
      | zero => rfl
      | succ k => simp [encRounds]
    rw [e]
    exact ⟨hv, fun J => by simp [decRounds], by omega⟩
  | succ m ih =>
    intro fuel s hfuel hlen hv
    cases fuel with
    | zero => omega
    | succ fuel =>
      have h4 : 4 * m + 4 ≤ blk.length := hlen
      obtain ⟨rv, rd, rl⟩ := round4_rt _ _ _ _ _ _ _ _ lr _ _ _ _ s (lane (4 * m + 3) h4)
        (lane (4 * m + 2) (by omega)) (lane (4 * m + 1) (by omega)) (lane (4 * m) (by omega)) hv
      rw [encRounds_step]
      obtain ⟨iv, id, il⟩ := ih fuel _ (Nat.le_of_succ_le_succ hfuel) (by omega) rv
      refine ⟨iv, fun J => ?_, by omega⟩
      rw [decRounds_succ_right, id J]
      simp only
      rw [decRound_eq, rd J, Nat.mul_succ, take_four blk (4 * m) h4]

/-! ### E. one chunk (`encodeChunk` / `decodeChunkV2`) -/

/-- the encoder state at the end of `encodeChunk`: final ANS states and payload bytes -/
def ans0Final (blk : List Nat) (syms : Array EncSym) : EncSt :=
  encRounds blk.toArray syms (blk.length / 4 + 1) ((blk.length / 4) * 4 - 1)
    ⟨ansTop, ansTop, ansTop, ansTop, blk.drop ((blk.length / 4) * 4)⟩

/-- number of payload bytes of a chunk (the value sent as VarInt) -/
def ans0PayloadLen (blk f : List Nat) (lr : Nat) : Nat := (ans0Final blk (mkEncSyms f lr)).out.length

theorem ans0EncodeChunk_eq (blk : List Nat) (syms : Array EncSym) :
    ans0EncodeChunk blk syms
      = writeVarInt (ans0Final blk syms).out.length ++ natBits (ans0Final blk syms).st0 32
        ++ natBits (ans0Final blk syms).st1 32 ++ natBits (ans0Final blk syms).st2 32
        ++ natBits (ans0Final blk syms).st3 32 ++ ofBytes (ans0Final blk syms).out := rfl

theorem stOk_top : StOk ansTop := by unfold StOk ansTop; omega

theorem StOk.lt32 {x : Nat} (h : StOk x) : x < 2 ^ 32 := Nat.lt_trans h.2 (by decide)

/-- the state `encodeChunk` starts from -/
theorem validSt_top (out : List Nat) (h : ∀ b ∈ out, b < 256) : ValidSt ⟨ansTop, ansTop, ansTop, ansTop, out⟩ :=
  ⟨stOk_top, stOk_top, stOk_top, stOk_top, h⟩

theorem final_facts (blk f : List Nat) (lr : Nat) (hlr : 8 ≤ lr ∧ lr ≤ 15) (hlen : f.length ≤ 256)
    (hsum : f.sum = 2 ^ lr) (hsym : ∀ a ∈ blk, SymOk f a) :
    ValidSt (ans0Final blk (mkEncSyms f lr)) ∧
    (∀ J, decRounds (mkDecTable f lr) lr (blk.length / 4) (toDec (ans0Final blk (mkEncSyms f lr)) J)
      = (blk.take ((blk.length / 4) * 4),
         ⟨ansTop, ansTop, ansTop, ansTop, blk.drop ((blk.length / 4) * 4) ++ J⟩)) ∧
    ans0PayloadLen blk f lr ≤ 2 * blk.length := by
  have hinit := validSt_top (blk.drop ((blk.length / 4) * 4)) (fun b hb =>
    Nat.lt_of_lt_of_le (hsym b (List.mem_of_mem_drop hb)).1 hlen)
  have hm : 4 * (blk.length / 4) ≤ blk.length := by omega
  obtain ⟨v, d, l⟩ := rounds_rt blk f lr hlr hsum hsym (blk.length / 4) (blk.length / 4 + 1) _
    (by omega) hm hinit
  have hc : 4 * (blk.length / 4) = blk.length / 4 * 4 := Nat.mul_comm _ _
  rw [hc] at v d l
  refine ⟨v, d, ?_⟩
  unfold ans0PayloadLen ans0Final
  simp only [List.length_drop] at l
  omega

/-- what `encodeChunk` writes (order 0 and order 1 alike) for its final state: VarInt payload size,
    the four states, the payload -/
def frameBits (S : EncSt) : Bits :=
  writeVarInt S.out.length ++ natBits S.st0 32 ++ natBits S.st1 32 ++ natBits S.st2 32
    ++ natBits S.st3 32 ++ ofBytes S.out

/-- `decodeChunkV2` (order 0 and order 1 alike) with its decoding loop abstracted as `k` -/
def decodeFrame (len : Nat) (k : DecSt → List Nat) (bs : Bits) : Option (List Nat × Bits) :=
  match readVarInt bs with
  | none => none
  | some (sz, r) =>
    if sz ≥ 2 ^ 27 then none
    else
      match readBits 32 r with
      | none => none
      | some (st0, r0) =>
      match readBits 32 r0 with
      | none => none
      | some (st1, r1) =>
      match readBits 32 r1 with
      | none => none
      | some (st2, r2) =>
      match readBits 32 r2 with
      | none => none
      | some (st3, r3) =>
        if len = 0 then some ([], r3)
        else
          match readBytes sz r3 with
          | none => none
          | some (buf, r4) => some (k ⟨st0, st1, st2, st3, buf⟩, r4)

theorem frameBits_append (S : EncSt) (rest : Bits) :
    frameBits S ++ rest = writeVarInt S.out.length ++ (natBits S.st0 32 ++ (natBits S.st1 32
      ++ (natBits S.st2 32 ++ (natBits S.st3 32 ++ (ofBytes S.out ++ rest))))) := by
  unfold frameBits
  simp only [List.append_assoc]

theorem decodeFrame_frameBits (S : EncSt) (hv : ValidSt S) (hsz : S.out.length < 2 ^ 27) (len : Nat)
    (k : DecSt → List Nat) (rest : Bits) :
    decodeFrame len k (frameBits S ++ rest)
      = if len = 0 then some ([], ofBytes S.out ++ rest)
        else some (k ⟨S.st0, S.st1, S.st2, S.st3, S.out⟩, rest) := by
  unfold decodeFrame
  rw [frameBits_append, varint_roundtrip _ (Nat.lt_trans hsz (by decide))]
  simp only
  rw [if_neg (Nat.not_le.mpr hsz), readBits_natBits_lt _ _ _ hv.h0.lt32]
  simp only
  rw [readBits_natBits_lt _ _ _ hv.h1.lt32]
  simp only
  rw [readBits_natBits_lt _ _ _ hv.h2.lt32]
  simp only
  rw [readBits_natBits_lt _ _ _ hv.h3.lt32]
  simp only
  rw [readBytes_ofBytes _ _ hv.bytes]

theorem ans0EncodeChunk_frame (blk : List Nat) (syms : Array EncSym) :
    ans0EncodeChunk blk syms = frameBits (ans0Final blk syms) := rfl

theorem ans0DecodeChunk_eq (tbl : Array (Nat × DecSym)) (lr len : Nat) (bs : Bits) :
    ans0DecodeChunk tbl lr len bs
      = decodeFrame len (fun s => (decRounds tbl lr (len / 4) s).1
          ++ ((decRounds tbl lr (len / 4) s).2.ws ++ List.replicate 4 0).take (len % 4)) bs := rfl

/-- chunk round trip, most general form: the only size condition is the decoder's own limit on
    the payload size (`sz >= _ANS_MAX_CHUNK_SIZE` is rejected). -/
theorem chunk_rt_sz (blk f : List Nat) (lr : Nat) (hlr : 8 ≤ lr ∧ lr ≤ 15) (hlen : f.length ≤ 256)
    (hsum : f.sum = 2 ^ lr) (hsym : ∀ a ∈ blk, SymOk f a) (hsz : ans0PayloadLen blk f lr < 2 ^ 27)
    (rest : Bits) :
    ans0DecodeChunk (mkDecTable f lr) lr blk.length (ans0EncodeChunk blk (mkEncSyms f lr) ++ rest)
      = some (blk, rest) := by
  obtain ⟨v, d, l⟩ := final_facts blk f lr hlr hlen hsum hsym
  have d := d []
  rw [toDec_nil, List.append_nil] at d
  rw [ans0DecodeChunk_eq, ans0EncodeChunk_frame, decodeFrame_frameBits _ v hsz]
  by_cases h0 : blk.length = 0
  · have hout : (ans0Final blk (mkEncSyms f lr)).out = [] := List.length_eq_zero_iff.mp (by
      unfold ans0PayloadLen at l
      omega)
    rw [if_pos h0, hout, List.length_eq_zero_iff.mp h0]
    rfl
  · have hdl : (blk.drop (blk.length / 4 * 4)).length = blk.length % 4 := by
      rw [List.length_drop]
      omega
    rw [if_neg h0, d]
    simp only
    rw [List.take_left' hdl, List.take_append_drop]

/-- chunk round trip for every chunk shorter than 2^26 bytes (each symbol pushes at most one
    16-bit word, so the payload is at most `2·len < 2^27` bytes) -/
theorem chunk_rt (blk f : List Nat) (lr : Nat) (hlr : 8 ≤ lr ∧ lr ≤ 15) (hlen : f.length ≤ 256)
    (hsum : f.sum = 2 ^ lr) (hsym : ∀ a ∈ blk, SymOk f a) (hsz : blk.length < 2 ^ 26)
    (rest : Bits) :
    ans0DecodeChunk (mkDecTable f lr) lr blk.length (ans0EncodeChunk blk (mkEncSyms f lr) ++ rest)
      = some (blk, rest) := by
  have := (final_facts blk f lr hlr hlen hsum hsym).2.2
  exact chunk_rt_sz blk f lr hlr hlen hsum hsym (by omega) rest

/-! ### F. the histogram of a chunk -/

def histL (blk : List Nat) (h0 : List Nat) : List Nat := blk.foldl (fun h b => h.modify b (· + 1)) h0

theorem histogram_fold : ∀ (blk : List Nat) (arr : Array Nat),
    (blk.foldl (fun (h : Array Nat) b => h.modify b (· + 1)) arr).toList = histL blk arr.toList := by
  intro blk
  induction blk with
  | nil => intro arr; rfl
  | cons b bs ih =>
    intro arr
    rw [List.foldl_cons, ih, Array.toList_modify]
    rfl

theorem histogram_eq (blk : List Nat) : histogram blk = histL blk (List.replicate 256 0) := by
  unfold histogram
  rw [histogram_fold, Array.toList_replicate]

theorem modify_getD {α : Type} (l : List α) (f : α → α) (i j : Nat) (d : α) :
    (l.modify i f).getD j d = if i = j ∧ j < l.length then f (l.getD j d) else l.getD j d := by
  by_cases hj : j < l.length
  · by_cases hij : i = j
    · subst hij
      simp [List.getD_eq_getElem?_getD, hj]
    · simp [List.getD_eq_getElem?_getD, hj, hij]
  · simp [List.getD_eq_getElem?_getD, hj]

theorem modify_sum : ∀ (l : List Nat) (i : Nat), i < l.length → (l.modify i (· + 1)).sum = l.sum + 1 := by
  intro l
  induction l with
  | nil => intro i h; simp at h
  | cons x xs ih =>
    intro i hi
    cases i with
    | zero => simp; omega
    | succ k =>
      simp only [List.modify_succ_cons, List.sum_cons]
      rw [ih k (by simpa using hi)]
      omega

theorem histL_length : ∀ (blk h0 : List Nat), (histL blk h0).length = h0.length := by
  intro blk
  induction blk with
  | nil => intro h0; rfl
  | cons b bs ih =>
    intro h0
    show (histL bs (h0.modify b (· + 1))).length = _
    rw [ih, List.length_modify]

theorem histL_sum : ∀ (blk h0 : List Nat), (∀ b ∈ blk, b < h0.length) →
    (histL blk h0).sum = h0.sum + blk.length := by
  intro blk
  induction blk with
  | nil => intro h0 _; rfl
  | cons b bs ih =>
    intro h0 hb
    show (histL bs (h0.modify b (· + 1))).sum = _
    rw [ih _ (by intro x hx; rw [List.length_modify]; exact hb x (List.mem_cons_of_mem _ hx)),
      modify_sum _ _ (hb b List.mem_cons_self), List.length_cons]
    omega

theorem histL_getD : ∀ (blk h0 : List Nat) (j : Nat), j < h0.length →
    (histL blk h0).getD j 0 = h0.getD j 0 + blk.count j := by
  intro blk
  induction blk with
  | nil => intro h0 j _; rfl
  | cons b bs ih =>
    intro h0 j hj
    show (histL bs (h0.modify b (· + 1))).getD j 0 = _
    rw [ih _ j (by rw [List.length_modify]; exact hj), modify_getD, List.count_cons]
    by_cases hb : b = j
    · rw [if_pos ⟨hb, hj⟩, hb, beq_self_eq_true, if_pos rfl]
      omega
    · rw [if_neg (fun h => hb h.1), if_neg (by simpa using hb)]
      rfl

/-! ### G. header + chunk for a valid table; one chunk of `Write`; the whole block -/

theorem symOk_of_table (a f : List Nat) (lr : Nat) (ht : FreqTable a f lr) (b : Nat) (hb : b ∈ a) :
    SymOk f b := by
  have h1 := ht.lt256 b hb
  have h2 := ht.pos b hb
  have h3 := ht.len
  exact ⟨by omega, by omega⟩

theorem table_sum (a f : List Nat) (lr : Nat) (ht : FreqTable a f lr)
    (hsum : (a.map (fun s => f.getD s 0)).sum = 2 ^ lr) : f.sum = 2 ^ lr := by
  rw [sum_over_alphabet a f ht.sorted (by intro s hs; have := ht.lt256 s hs; have := ht.len; omega)
    ht.zero_out, hsum]

/-- header + chunk for any valid table whose alphabet contains the symbols of the chunk
    (`C12_ans0_chunk`) -/
theorem hdr_chunk_rt (a f blk : List Nat) (lr : Nat) (hlr : 8 ≤ lr ∧ lr ≤ 15) (ht : FreqTable a f lr)
    (hsum : (a.map (fun s => f.getD s 0)).sum = 2 ^ lr) (hblk : ∀ b ∈ blk, b ∈ a)
    (hsz : blk.length < 2 ^ 26) (rest : Bits) :
    ansDecodeHeader (ansEncodeHeader a f lr ++ (ans0EncodeChunk blk (mkEncSyms f lr) ++ rest))
      = some ((a, f, lr), ans0EncodeChunk blk (mkEncSyms f lr) ++ rest) ∧
    ans0DecodeChunk (mkDecTable f lr) lr blk.length (ans0EncodeChunk blk (mkEncSyms f lr) ++ rest)
      = some (blk, rest) :=
  ⟨ans_header_roundtrip a f lr hlr ht hsum _,
   chunk_rt blk f lr hlr (Nat.le_of_eq ht.len) (table_sum a f lr ht hsum)
     (fun b hb => symOk_of_table a f lr ht b (hblk b hb)) hsz rest⟩

theorem histogram_length (c : List Nat) : (histogram c).length = 256 := by
  rw [histogram_eq, histL_length, List.length_replicate]

theorem sum_replicate_zero (n : Nat) : (List.replicate n 0).sum = 0 :=
  sum_eq_zero _ (fun _ hx => (List.mem_replicate.mp hx).2)

theorem histogram_sum (c : List Nat) (hb : ∀ b ∈ c, b < 256) : (histogram c).sum = c.length := by
  rw [histogram_eq, histL_sum _ _ (by intro b h; rw [List.length_replicate]; exact hb b h),
    sum_replicate_zero, Nat.zero_add]

theorem histogram_pos (c : List Nat) (a : Nat) (ha : a ∈ c) (h256 : a < 256) :
    0 < (histogram c).getD a 0 := by
  rw [histogram_eq, histL_getD _ _ a (by rw [List.length_replicate]; exact h256)]
  exact Nat.lt_of_lt_of_le (List.count_pos_iff.mpr ha) (Nat.le_add_left _ _)

theorem eq_replicate_of_all (c : List Nat) (s : Nat) (h : ∀ b ∈ c, b = s) : c = List.replicate c.length s :=
  List.eq_replicate_iff.mpr ⟨rfl, h⟩

theorem single_alphabet (c a : List Nat) (hin : ∀ b ∈ c, b ∈ a) (h1 : a.length = 1) :
    c = List.replicate c.length (a.headD 0) := by
  obtain ⟨s, hs⟩ := List.length_eq_one_iff.mp h1
  rw [hs] at hin ⊢
  exact eq_replicate_of_all c s (fun b hb => List.mem_singleton.mp (hin b hb))

/-- C16 feeds the header codecs: the table `NormalizeFrequencies` makes of a 256-entry histogram with a
    positive total is a `FreqTable` summing to `2^lr`, over the symbols the histogram counts. -/
theorem normalize_table (h : List Nat) (lr : Nat) (hlr : 8 ≤ lr ∧ lr ≤ 15) (hlen : h.length = 256)
    (htot : 0 < h.sum) :
    ∃ o, Kanzi.Normalize.normalize h h.sum (2 ^ lr) = .ok o ∧ o.alphabet.length = o.size ∧
      FreqTable o.alphabet o.freqs lr ∧ (o.alphabet.map (fun s => o.freqs.getD s 0)).sum = 2 ^ lr ∧
      ∀ a, a ∈ o.alphabet ↔ (a < 256 ∧ h.getD a 0 ≠ 0) := by
  have hp8 : 2 ^ 8 ≤ 2 ^ lr := Nat.pow_le_pow_right (by decide) hlr.1
  have hp16 : 2 ^ lr ≤ 2 ^ 16 := Nat.pow_le_pow_right (by decide) (by omega)
  obtain ⟨o, ho, hl, hsum, hsup, _, hasz, hsorted, hmem⟩ :=
    Kanzi.Normalize.normalize_valid h (2 ^ lr) (by omega) ⟨by omega, by omega⟩ htot
  rw [hlen] at hmem hsup
  have halt : ∀ s ∈ o.alphabet, s < 256 := fun s hs => ((hmem s).mp hs).1
  have hz : ∀ i, i ∉ o.alphabet → o.freqs.getD i 0 = 0 := by
    intro i hi
    by_cases hi256 : i < 256
    · have hh : h.getD i 0 = 0 := Classical.not_not.mp fun hc => hi ((hmem i).mpr ⟨hi256, hc⟩)
      have := hsup i hi256
      omega
    · exact Kanzi.Normalize.getD_of_le o.freqs i (by omega)
  have hposA : ∀ s ∈ o.alphabet, 1 ≤ o.freqs.getD s 0 := by
    intro s hs
    obtain ⟨h1, h2⟩ := (hmem s).mp hs
    exact (hsup s h1).mp (by omega)
  have hsumF := sum_over_alphabet o.alphabet o.freqs hsorted (fun s hs => by rw [hl, hlen]; exact halt s hs) hz
  have hsumA : (o.alphabet.map (fun s => o.freqs.getD s 0)).sum = 2 ^ lr := by rw [← hsumF, hsum]
  have hle : ∀ s ∈ o.alphabet, o.freqs.getD s 0 ≤ 2 ^ lr := by
    intro s hsa
    rw [← hsumA]
    exact mem_le_sum _ _ (List.mem_map.mpr ⟨s, hsa, rfl⟩)
  have hneA : o.alphabet ≠ [] := by
    intro hnil
    rw [hnil] at hsumA
    exact Nat.ne_of_lt (Nat.two_pow_pos lr) hsumA
  exact ⟨o, ho, hasz, ⟨hsorted, halt, hneA, by rw [hl, hlen], hz, hposA, hle⟩, hsumA, hmem⟩

/-- `rebuildStatistics` on a non-empty chunk: the table sent in the header covers every byte of the chunk -/
theorem oneChunk_table (c : List Nat) (lr : Nat) (hlr : 8 ≤ lr ∧ lr ≤ 15) (hne : c ≠ [])
    (hb : ∀ b ∈ c, b < 256) :
    ∃ o, Kanzi.Normalize.normalize (histogram c) c.length (2 ^ lr) = .ok o ∧ o.alphabet.length = o.size ∧
      FreqTable o.alphabet o.freqs lr ∧ (o.alphabet.map (fun s => o.freqs.getD s 0)).sum = 2 ^ lr ∧
      ∀ b ∈ c, b ∈ o.alphabet := by
  have hsumh := histogram_sum c hb
  obtain ⟨o, ho, hasz, ht, hsumA, hmem⟩ := normalize_table (histogram c) lr hlr (histogram_length c)
    (by rw [hsumh]; exact List.length_pos_iff.mpr hne)
  rw [hsumh] at ho
  exact ⟨o, ho, hasz, ht, hsumA, fun b hbc =>
    (hmem b).mpr ⟨hb b hbc, Nat.ne_of_gt (histogram_pos c b hbc (hb b hbc))⟩⟩

/-- everything `rebuildStatistics` + `encodeChunk` guarantee for one non-empty chunk -/
theorem oneChunk_facts (c : List Nat) (lr : Nat) (hlr : 8 ≤ lr ∧ lr ≤ 15) (hne : c ≠ [])
    (hb : ∀ b ∈ c, b < 256) (hsz : c.length < 2 ^ 26) :
    ∃ o, Kanzi.Normalize.normalize (histogram c) c.length (2 ^ lr) = .ok o ∧
      o.alphabet.length = o.size ∧ o.alphabet ≠ [] ∧
      (∀ rest : Bits, ansDecodeHeader (ansEncodeHeader o.alphabet o.freqs lr ++ rest)
          = some ((o.alphabet, o.freqs, lr), rest)) ∧
      (o.alphabet.length = 1 → c = List.replicate c.length (o.alphabet.headD 0)) ∧
      (∀ rest : Bits, ans0DecodeChunk (mkDecTable o.freqs lr) lr c.length
          (ans0EncodeChunk c (mkEncSyms o.freqs lr) ++ rest) = some (c, rest)) := by
  obtain ⟨o, ho, hasz, ht, hsumA, hin⟩ := oneChunk_table c lr hlr hne hb
  exact ⟨o, ho, hasz, ht.nonempty, fun rest => ans_header_roundtrip _ _ lr hlr ht hsumA rest,
    single_alphabet c _ hin, fun rest => chunk_rt c o.freqs lr hlr (Nat.le_of_eq ht.len)
      (table_sum _ _ lr ht hsumA) (fun b hbc => symOk_of_table _ _ lr ht b (hin b hbc)) hsz rest⟩

/-- each symbol pushes at most one 16-bit word: the payload of a chunk is at most twice its length -/
theorem oneChunk_payload (c : List Nat) (lr : Nat) (hlr : 8 ≤ lr ∧ lr ≤ 15) (hne : c ≠ [])
    (hb : ∀ b ∈ c, b < 256) (o : Kanzi.Normalize.Out)
    (ho : Kanzi.Normalize.normalize (histogram c) c.length (2 ^ lr) = .ok o) :
    ans0PayloadLen c o.freqs lr ≤ 2 * c.length := by
  obtain ⟨o', ho', _, ht, hsumA, hin⟩ := oneChunk_table c lr hlr hne hb
  rw [ho] at ho'
  cases ho'
  exact (final_facts c o.freqs lr hlr (Nat.le_of_eq ht.len) (table_sum _ _ lr ht hsumA)
    (fun b hbc => symOk_of_table _ _ lr ht b (hin b hbc))).2.2

/-- The chunk loop of `Write` against a chunk loop of `Read`.  `enc fuel blk` is the encoder's loop and
    `D fuel bs blk rest` says that the decoder's loop, asked for `blk.length` bytes, reads `blk` from `bs`
    and leaves `rest` (`D` may quantify over the state of the decoder object, as the order-1 instance does
    over the tables left by the previous chunk).  It is enough to treat one
    non-empty chunk `blk.take chunkSize` in front of a tail that round trips. -/
theorem chunkLoop_rt (chunkSize : Nat) (hcs0 : 0 < chunkSize) (enc : Nat → List Nat → Option Bits)
    (D : Nat → Bits → List Nat → Bits → Prop)
    (hnil : ∀ fuel, enc fuel [] = some [] ∧ ∀ rest, D fuel ([] ++ rest) [] rest)
    (hstep : ∀ (fuel : Nat) (blk : List Nat), ¬ blk.length = 0 → (∀ b ∈ blk, b < 256) →
      (blk.take chunkSize).length = min chunkSize blk.length → blk.take chunkSize ≠ [] →
      blk.length - min chunkSize blk.length = (blk.drop chunkSize).length →
      ∃ hd, (∀ tl, enc fuel (blk.drop chunkSize) = some tl → enc (fuel + 1) blk = some (hd ++ tl)) ∧
        ∀ tl rest, D fuel (tl ++ rest) (blk.drop chunkSize) rest → D (fuel + 1) (hd ++ (tl ++ rest)) blk rest) :
    ∀ (fuel : Nat) (blk : List Nat), blk.length ≤ fuel → (∀ b ∈ blk, b < 256) →
    ∃ e, enc fuel blk = some e ∧ ∀ rest, D fuel (e ++ rest) blk rest := by
  intro fuel
  induction fuel with
  | zero =>
    intro blk hl _
    rw [List.length_eq_zero_iff.mp (Nat.le_zero.mp hl)]
    exact ⟨[], hnil 0⟩
  | succ fuel ih =>
    intro blk hl hb
    by_cases h0 : blk.length = 0
    · rw [List.length_eq_zero_iff.mp h0]
      exact ⟨[], hnil (fuel + 1)⟩
    · have hclen : (blk.take chunkSize).length = min chunkSize blk.length := List.length_take
      have hcne : blk.take chunkSize ≠ [] := by
        intro h
        rw [h, List.length_nil] at hclen
        omega
      have hdl : blk.length - min chunkSize blk.length = (blk.drop chunkSize).length := by
        rw [List.length_drop]
        omega
      obtain ⟨hd, henc, hdec⟩ := hstep fuel blk h0 hb hclen hcne hdl
      obtain ⟨tl, htl, htd⟩ := ih (blk.drop chunkSize) (by rw [← hdl]; omega)
        (fun b h => hb b (List.mem_of_mem_drop h))
      exact ⟨hd ++ tl, henc tl htl, fun rest => by
        rw [List.append_assoc]
        exact hdec tl rest (htd rest)⟩

theorem chunks_rt (chunkSize lr : Nat) (hlr : 8 ≤ lr ∧ lr ≤ 15) (hcs0 : 0 < chunkSize)
    (hcs : chunkSize < 2 ^ 26) : ∀ (fuel : Nat) (blk : List Nat), blk.length ≤ fuel →
    (∀ b ∈ blk, b < 256) →
    ∃ enc, ans0EncodeChunks fuel chunkSize lr blk = some enc ∧
      ∀ rest : Bits, ans0DecodeChunks fuel chunkSize blk.length (enc ++ rest) = some (blk, rest) := by
  refine chunkLoop_rt chunkSize hcs0 (fun fuel blk => ans0EncodeChunks fuel chunkSize lr blk)
    (fun fuel bs blk rest => ans0DecodeChunks fuel chunkSize blk.length bs = some (blk, rest))
    (fun fuel => by cases fuel <;> exact ⟨rfl, fun _ => rfl⟩) ?_
  intro fuel blk h0 hb hclen hcne hdl
  obtain ⟨o, ho, hasz, hneA, hhdr, hone, hchunk⟩ := oneChunk_facts (blk.take chunkSize) lr hlr hcne
    (fun b h => hb b (List.mem_of_mem_take h)) (by omega)
  have hA0 : ¬ o.alphabet.length = 0 := length_ne_zero_of_ne_nil _ hneA
  refine ⟨ansEncodeHeader o.alphabet o.freqs lr
      ++ (if o.size > 1 then ans0EncodeChunk (blk.take chunkSize) (mkEncSyms o.freqs lr) else []), ?_, ?_⟩
  · intro tl htl
    simp only [ans0EncodeChunks, if_neg h0, ans0EncodeOneChunk, ho, htl]
  · intro tl rest hdec
    simp only [ans0DecodeChunks, if_neg h0, List.append_assoc]
    rw [hhdr]
    simp only [if_neg hA0]
    by_cases h1 : o.alphabet.length = 1
    · have hs : ¬ o.size > 1 := by omega
      simp only [if_pos h1, if_neg hs, List.nil_append]
      rw [hdl, hdec, ← hclen, ← hone h1]
      simp only [List.take_append_drop]
    · have hs : o.size > 1 := by omega
      simp only [if_neg h1, if_pos hs]
      rw [← hclen, hchunk]
      simp only
      rw [hclen, hdl, hdec]
      simp only [List.take_append_drop]

/-- a block of at most 32 bytes is written and read raw (`WriteArray` / `ReadArray`), whatever the order -/
theorem raw_rt (blk : List Nat) (rest : Bits) (hb : ∀ b ∈ blk, b < 256) :
    readBytes blk.length (arrayBits blk (8 * blk.length) ++ rest) = some (blk, rest) := by
  rw [arrayBits_eq, List.take_of_length_le (Nat.le_refl _)]
  exact readBytes_ofBytes blk rest hb

/-- the whole `Write` / `Read` of the order-0 codec -/
theorem block_rt (blk : List Nat) (chunkSize lr : Nat) (hlr : 8 ≤ lr ∧ lr ≤ 15) (hcs0 : 0 < chunkSize)
    (hcs : chunkSize < 2 ^ 26) (hb : ∀ b ∈ blk, b < 256) :
    ∃ enc, ans0Encode blk chunkSize lr = some enc ∧
      ∀ rest : Bits, ans0Decode (enc ++ rest) blk.length chunkSize = some (blk, rest) := by
  unfold ans0Encode ans0Decode
  by_cases h32 : blk.length ≤ 32
  · simp only [if_pos h32]
    exact ⟨_, rfl, fun rest => raw_rt blk rest hb⟩
  · simp only [if_neg h32]
    exact chunks_rt chunkSize lr hlr hcs0 hcs blk.length blk (Nat.le_refl _) hb

/-! ### H. ONE state, a list of symbols (`C12_ans0_single_state`; nothing above depends on it) -/

/-- rANS encoding of a list of symbols with a single state: the LAST symbol is encoded first
    (as every loop of `encodeChunk` does); returns the final state and the bytes in stream order -/
def encList1 (f : List Nat) (lr : Nat) : List Nat → Nat × List Nat
  | [] => (ansTop, [])
  | a :: as =>
    ((encS f lr a (encList1 f lr as).1).2,
     wordBytes (encS f lr a (encList1 f lr as).1).1 ++ (encList1 f lr as).2)

/-- decoding of `n` symbols with a single state: returns the symbols, the state and the unread bytes -/
def decList1 (tbl : Array (Nat × DecSym)) (lr : Nat) : Nat → Nat → List Nat → List Nat × Nat × List Nat
  | 0, st, buf => ([], st, buf)
  | n + 1, st, buf =>
    ((tbl.getD (st &&& (2 ^ lr - 1)) (0, ⟨0, 0⟩)).1 ::
        (decList1 tbl lr n
          (decodeStepB st (tbl.getD (st &&& (2 ^ lr - 1)) (0, ⟨0, 0⟩)).2 lr buf).1
          (decodeStepB st (tbl.getD (st &&& (2 ^ lr - 1)) (0, ⟨0, 0⟩)).2 lr buf).2).1,
     (decList1 tbl lr n
          (decodeStepB st (tbl.getD (st &&& (2 ^ lr - 1)) (0, ⟨0, 0⟩)).2 lr buf).1
          (decodeStepB st (tbl.getD (st &&& (2 ^ lr - 1)) (0, ⟨0, 0⟩)).2 lr buf).2).2)

theorem single_rt (f : List Nat) (lr : Nat) (hlr : 8 ≤ lr ∧ lr ≤ 15) (hsum : f.sum = 2 ^ lr) :
    ∀ (syms : List Nat), (∀ a ∈ syms, SymOk f a) →
    StOk (encList1 f lr syms).1 ∧ (∀ b ∈ (encList1 f lr syms).2, b < 256) ∧
    (encList1 f lr syms).2.length ≤ 2 * syms.length ∧
    ∀ rest : List Nat, decList1 (mkDecTable f lr) lr syms.length (encList1 f lr syms).1
        ((encList1 f lr syms).2 ++ rest) = (syms, ansTop, rest) := by
  intro syms
  induction syms with
  | nil => intro _; exact ⟨stOk_top, by simp [encList1], by simp [encList1], fun rest => rfl⟩
  | cons a as ih =>
    intro hs
    obtain ⟨i1, i2, i3, i4⟩ := ih (fun x hx => hs x (List.mem_cons_of_mem _ hx))
    have ha := hs a List.mem_cons_self
    obtain ⟨x0, b0, l0, d0⟩ := laneOk_of_table f lr a hlr hsum ha (encList1 f lr as).1 i1
    simp only [encList1, List.length_cons, decList1, encS]
    generalize encodeStep (encList1 f lr as).1 ((mkEncSyms f lr).getD a ⟨0, 0, 0, 0, 0⟩) = e at *
    refine ⟨x0, ?_, ?_, ?_⟩
    · intro b hb
      rcases List.mem_append.mp hb with h | h
      · exact b0 b h
      · exact i2 b h
    · rw [List.length_append]; omega
    · intro rest
      rw [List.append_assoc, (d0 _).1, (d0 rest).2, i4 rest]

end Kanzi.EntSmall
