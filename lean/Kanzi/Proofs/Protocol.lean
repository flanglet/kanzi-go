/-
Proofs for `Kanzi/Properties/C07.lean` (block hand-off protocol).  Core Lean only.

Each side has a table (`encTask`, `decTask`) saying where task `j` may be, given the counter and the
length of the log: behind the counter, at it, or ahead of it.  A step of task `i` touches only `i`'s
own components (`Frame`), so the table is preserved if `i`'s new entry fits and the other entries
survive the change of counter and log (`Local.step`; only `ioEnd`, `pub`, `dpub` and `cancel` change
those).  `EncInv` / `DecInv` list what the tables imply; all safety theorems are projections of them,
and progress uses them to find the task whose turn it is.  The measure lemmas, `firstFailed_*`
and `runTrace_sound` need no reachability.
-/
import Kanzi.Model.Protocol
namespace Kanzi.Protocol

/-- in the critical section; `Kanzi.C07.holds` is the same predicate (the property file imports this one) -/
def holds' (p : Pc) : Prop := p = .crit ∨ p = .io

/-- the token is held from the acquiring load to the publishing compare-and-swap -/
def tok (p : Pc) : Prop := (p = .crit ∨ p = .io) ∨ p = .pub

/-- What every step of task `i` guarantees, in any state: the other tasks' components stay, no
failure or end-of-stream flag is cleared, `i`'s rank does not rise, a cancelled counter stays
cancelled and lets nobody take the token, and only the token holder sets `critFail` or `eos`. -/
structure Frame (i : Nat) (s t : St) : Prop where
  other : ∀ j, j ≠ i →
    t.pc j = s.pc j ∧ t.failed j = s.failed j ∧ t.critFail j = s.critFail j ∧ t.eos j = s.eos j
  mono : ∀ j, (s.failed j = true → t.failed j = true) ∧ (s.eos j = true → t.eos j = true)
  rank_le : rank (t.pc i) ≤ rank (s.pc i)
  log_le : t.log.length ≤ s.log.length + 1
  cancel : s.ctr = none → t.ctr = none
  acquire : t.ctr = none →
    ∀ j, (holds' (t.pc j) → holds' (s.pc j)) ∧ (tok (t.pc j) → tok (s.pc j))
  flag : ∀ j, t.critFail j = true ∨ t.eos j = true →
    holds' (s.pc j) ∨ s.critFail j = true ∨ s.eos j = true

/-- both step functions: the walk over the events is the same -/
theorem step_frame {s t : St} {e : Ev} (he : encStep s e = some t ∨ decStep s e = some t) :
    Frame e.task s t := by
  cases e <;> simp only [encStep, decStep] at he
  all_goals rcases he with he | he
  all_goals repeat' split at he
  all_goals cases he
  all_goals simp only [Ev.task]
  all_goals exact ⟨fun j hj => by simp [upd_other _ _ _ _ hj],
    fun j => by grind [upd], by grind [rank, upd_same],
    by simp, by grind [cas], by grind [upd, holds', tok], by grind [upd, holds']⟩

theorem log_snoc {l : List Nat} {i : Nat} (hs : l = List.range' 1 l.length) (hl : l.length = i) :
    l ++ [i + 1] = List.range' 1 (l ++ [i + 1]).length := by
  rw [List.length_append, List.length_singleton, List.range'_concat, ← hs, hl]
  simp [Nat.add_comm]

/-- The invariant of either side, for its table `T` (`encTask N`, `decTask N`): the entry of task `j`
depends on the counter, the length of the log and `j`'s own components.  Once the counter is
cancelled the tables no longer give mutual exclusion (on the decode side `pub` at `j` and `crit` at
`j + 1` agree on the log length), hence `uniq`. -/
structure Local (T : Option Nat → Nat → Nat → Pc → Bool → Bool → Bool → Prop) (N : Nat) (s : St) :
    Prop where
  sorted : s.log = List.range' 1 s.log.length
  bound : s.log.length ≤ N
  cancelled : s.ctr = none → ∃ i, i < N ∧ (s.failed i = true ∨ s.eos i = true)
  task : ∀ j, T s.ctr s.log.length j (s.pc j) (s.failed j) (s.critFail j) (s.eos j)
  uniq : s.ctr = none → ∀ i j, tok (s.pc i) →
    tok (s.pc j) ∨ s.critFail j = true ∨ s.eos j = true → i = j

section
variable {T : Option Nat → Nat → Nat → Pc → Bool → Bool → Bool → Prop} {N : Nat} {s t : St} {i : Nat}
  (hT : ∀ c len j p f cf eo, T (some c) len j p f cf eo → tok p ∨ cf = true ∨ eo = true → j = c)
include hT

theorem Local.uniq' (hL : Local T N s) {i j : Nat} (hi : tok (s.pc i))
    (hj : tok (s.pc j) ∨ s.critFail j = true ∨ s.eos j = true) : i = j := by
  cases hc : s.ctr with
  | none => exact hL.uniq hc i j hi hj
  | some c =>
    exact (hT _ _ _ _ _ _ _ (hc ▸ hL.task i) (.inl hi)).trans
      (hT _ _ _ _ _ _ _ (hc ▸ hL.task j) hj).symm

/-- A step of task `i` keeps the invariant if `i`'s new entry fits (`hi`) and every other entry
survives the new counter and log length (`ho`); there one may use that the other task neither holds
the token nor failed holding it if `i` holds it. -/
theorem Local.step (hL : Local T N s) (hfr : Frame i s t)
    (hs : t.log = List.range' 1 t.log.length) (hb : t.log.length ≤ N)
    (hc : t.ctr = none → s.ctr = none ∨ ∃ k, k < N ∧ (t.failed k = true ∨ t.eos k = true))
    (hi : T t.ctr t.log.length i (t.pc i) (t.failed i) (t.critFail i) (t.eos i))
    (ho : ∀ j p f cf eo, j ≠ i → (tok (s.pc i) → ¬ (tok p ∨ cf = true ∨ eo = true)) →
      T s.ctr s.log.length j p f cf eo → T t.ctr t.log.length j p f cf eo) :
    Local T N t := by
  refine ⟨hs, hb, fun h => ?_, fun j => ?_, fun h i j hi hj => ?_⟩
  · rcases hc h with h | h
    · obtain ⟨k, hk, hf⟩ := hL.cancelled h
      exact ⟨k, hk, hf.imp (hfr.mono k).1 (hfr.mono k).2⟩
    · exact h
  · by_cases hj : j = i
    · exact hj ▸ hi
    · obtain ⟨h1, h2, h3, h4⟩ := hfr.other j hj
      rw [h1, h2, h3, h4]
      exact ho _ _ _ _ _ hj (fun hi hj' => hj (hL.uniq' hT hi hj').symm) (hL.task j)
  · exact hL.uniq' hT ((hfr.acquire h i).2 hi)
      (hj.elim (.inl ∘ (hfr.acquire h j).2) fun hf => (hfr.flag j hf).imp .inl id)

theorem Local.step_local (hL : Local T N s) (hfr : Frame i s t) (hc : t.ctr = s.ctr)
    (hl : t.log = s.log)
    (hi : T s.ctr s.log.length i (t.pc i) (t.failed i) (t.critFail i) (t.eos i)) : Local T N t :=
  hL.step hT hfr (hl ▸ hL.sorted) (hl ▸ hL.bound) (fun h => .inl (hc ▸ h)) (hc ▸ hl ▸ hi)
    (fun _ _ _ _ _ _ _ h => hc ▸ hl ▸ h)

end

structure EncInv (N : Nat) (s : St) : Prop where
  idle : ∀ i, N ≤ i → s.pc i = .work
  low : ∀ c, s.ctr = some c → ∀ i, i < c → s.pc i = .fin ∨ s.pc i = .done
  high : ∀ c, s.ctr = some c → ∀ i, c < i → s.pc i = .work ∨ s.pc i = .wait ∨ s.pc i = .dErr
  cur : ∀ c, s.ctr = some c →
    s.pc c = .work ∨ s.pc c = .wait ∨ s.pc c = .crit ∨ s.pc c = .io ∨ s.pc c = .dOk ∨ s.pc c = .dErr
  len : ∀ c, s.ctr = some c →
    (s.pc c = .dOk → s.log.length = c + 1) ∧ (s.pc c ≠ .dOk → s.log.length = c)
  mutex : ∀ i j, (s.pc i = .crit ∨ s.pc i = .io) → (s.pc j = .crit ∨ s.pc j = .io) → i = j
  hlen : ∀ i, (s.pc i = .crit ∨ s.pc i = .io) → s.log.length = i
  sorted : s.log = List.range' 1 s.log.length
  bound : s.log.length ≤ N
  derr : ∀ i, s.pc i = .dErr → s.failed i = true
  cancelled : s.ctr = none → ∃ i, i < N ∧ s.failed i = true
  nopub : ∀ i, s.pc i ≠ .pub ∧ s.pc i ≠ .post
  cf : ∀ i, s.critFail i = true →
    s.log.length = i ∧ (∀ j, ¬ (s.pc j = .crit ∨ s.pc j = .io)) ∧
      (s.ctr = none ∨ (s.ctr = some i ∧ s.pc i = .dErr))

theorem EncInv.holder {N : Nat} {s : St} (hI : EncInv N s) {c i : Nat} (hc : s.ctr = some c)
    (hp : s.pc i = .crit ∨ s.pc i = .io ∨ s.pc i = .dOk) : i = c := by
  have h1 := hI.low c hc i
  have h2 := hI.high c hc i
  grind

/-- Where task `j` may be and what its flags say, by its position relative to the counter.  A token
holder's index is the length of the log whatever the counter; once the counter is cancelled only
that and the failure flags are left. -/
def encTask (N : Nat) (ctr : Option Nat) (len j : Nat) (p : Pc) (failed critFail eos : Bool) :
    Prop :=
  (N ≤ j → p = .work) ∧ (p = .dErr → failed = true) ∧ eos = false ∧
  (p = .crit ∨ p = .io → len = j) ∧
  match ctr with
  | some c =>
    (j < c → p = .fin ∨ p = .done) ∧
    (j = c → (p = .work ∨ p = .wait ∨ p = .crit ∨ p = .io ∨ p = .dOk ∨ p = .dErr) ∧
      (p = .dOk → len = c + 1) ∧ (p ≠ .dOk → len = c)) ∧
    (c < j → p = .work ∨ p = .wait ∨ p = .dErr) ∧
    (critFail = true → j = c ∧ p = .dErr)
  | none =>
    p ≠ .pub ∧ p ≠ .post ∧
    (critFail = true → len = j ∧ (p = .dErr ∨ p = .fin ∨ p = .done))

theorem encTask.atCtr {N : Nat} : ∀ c len j p f cf eo, encTask N (some c) len j p f cf eo →
    tok p ∨ cf = true ∨ eo = true → j = c := by
  unfold encTask tok
  grind

theorem encLocal_init (N : Nat) : Local (encTask N) N encInit := by
  constructor <;> simp [encInit, encTask]

theorem encLocal_step {N : Nat} {s t : St} (hL : Local (encTask N) N s) (hs : Step encStep N s t) :
    Local (encTask N) N t := by
  obtain ⟨e, hN, he⟩ := hs
  have hfr := step_frame (.inl he)
  have hi := hL.task e.task
  unfold encTask at hi
  cases e <;>
    simp only [encStep, Option.ite_none_right_eq_some, Option.some.injEq, reduceCtorEq] at he
  all_goals simp only [Ev.task] at hN hfr hi
  all_goals obtain ⟨hp, he⟩ := he
  all_goals repeat' split at he
  all_goals cases he
  case ioEnd i =>
    have hl : s.log.length = i := by grind
    refine hL.step encTask.atCtr hfr (log_snoc hL.sorted hl) ?_ .inl ?_ ?_
    · simp only [List.length_append, List.length_singleton]
      omega
    · simp only [upd_same, List.length_append, List.length_singleton, encTask]
      grind
    · -- an entry mentions the log only at the counter, for a holder or after a failure in the
      -- critical section, and then its index is the length of the log, which is `i`
      intro j p f cf eo hj _ h
      simp only [List.length_append, List.length_singleton]
      unfold encTask at h ⊢
      grind
  case dpub i =>
    -- `dOk` under a live counter is the counter's own task, so the compare-and-swap succeeds
    refine hL.step encTask.atCtr hfr hL.sorted hL.bound (fun h => .inl ?_) ?_ ?_
    · grind [cas]
    · simp only [upd_same, encTask]
      grind [cas]
    · intro j p f cf eo hj _ h
      simp only [cas]
      unfold encTask at h ⊢
      grind
  case cancel i =>
    refine hL.step encTask.atCtr hfr hL.sorted hL.bound
      (fun _ => .inr ⟨i, hN, .inl (hi.2.1 hp)⟩) ?_ ?_
    · simp only [upd_same, encTask]
      grind
    · intro j p f cf eo hj _ h
      unfold encTask at *
      grind
  all_goals refine hL.step_local encTask.atCtr hfr rfl rfl ?_
  all_goals simp only [upd_same, encTask]
  all_goals grind

theorem enc_inv_of_local {N : Nat} {s : St} (hL : Local (encTask N) N s) : EncInv N s where
  idle i := (hL.task i).1
  low c hc i := ((hc ▸ hL.task i).2.2.2.2 : _).1
  high c hc i := ((hc ▸ hL.task i).2.2.2.2 : _).2.2.1
  cur c hc := (((hc ▸ hL.task c).2.2.2.2 : _).2.1 rfl).1
  len c hc := (((hc ▸ hL.task c).2.2.2.2 : _).2.1 rfl).2
  -- a holder's index is the length of the log
  mutex i j hi hj := ((hL.task i).2.2.2.1 hi).symm.trans ((hL.task j).2.2.2.1 hj)
  hlen i := (hL.task i).2.2.2.1
  sorted := hL.sorted
  bound := hL.bound
  derr i := (hL.task i).2.1
  cancelled hc :=
    (hL.cancelled hc).imp fun i hi => ⟨hi.1, by simpa [(hL.task i).2.2.1] using hi.2⟩
  nopub i := by
    have := hL.task i
    unfold encTask at this
    grind
  cf i hi := by
    have hi' := hL.task i
    unfold encTask at hi'
    refine ⟨by grind, fun j hj => ?_, by grind⟩
    -- a holder's index is the length of the log as well, so the holder would be `i`
    obtain rfl : j = i := ((hL.task j).2.2.2.1 hj).symm.trans (by grind)
    grind

theorem enc_local {N : Nat} {s : St} (h : Reach encStep encInit N s) : Local (encTask N) N s := by
  induction h with
  | init => exact encLocal_init N
  | step _ hs ih => exact encLocal_step ih hs

theorem enc_inv {N : Nat} {s : St} (h : Reach encStep encInit N s) : EncInv N s :=
  enc_inv_of_local (enc_local h)

theorem enc_terminal_ok (N : Nat) (s : St) (h : Reach encStep encInit N s) (hd : allDone N s)
    (hok : ∀ i, i < N → s.failed i = false) : s.log = List.range' 1 N ∧ s.ctr = some N := by
  have hI := enc_inv h
  have hw := hI.idle N (Nat.le_refl N)
  cases hc : s.ctr with
  | none =>
    obtain ⟨i, hi, hf⟩ := hI.cancelled hc
    rw [hok i hi] at hf
    cases hf
  | some c =>
    obtain rfl : c = N := by
      have hcur := hI.cur c hc
      have hlow := hI.low c hc N
      have hdone : c < N → s.pc c = .done := hd c
      grind
    exact ⟨(hI.len c hc).2 (by rw [hw]; decide) ▸ hI.sorted, rfl⟩

structure DecInv (N : Nat) (s : St) : Prop where
  idle : ∀ i, N ≤ i → s.pc i = .wait
  low : ∀ c, s.ctr = some c → ∀ i, i < c →
    s.pc i = .post ∨ s.pc i = .dOk ∨ s.pc i = .dErr ∨ s.pc i = .fin ∨ s.pc i = .done
  high : ∀ c, s.ctr = some c → ∀ i, c < i → s.pc i = .wait
  cur : ∀ c, s.ctr = some c →
    s.pc c = .wait ∨ s.pc c = .crit ∨ s.pc c = .io ∨ s.pc c = .pub ∨ s.pc c = .dErr
  len : ∀ c, s.ctr = some c →
    (s.pc c = .pub → s.log.length = c + 1) ∧ (s.pc c ≠ .pub → s.log.length = c)
  mutex : ∀ i j, ((s.pc i = .crit ∨ s.pc i = .io) ∨ s.pc i = .pub) →
    ((s.pc j = .crit ∨ s.pc j = .io) ∨ s.pc j = .pub) → i = j
  hlen : ∀ i, (s.pc i = .crit ∨ s.pc i = .io) → s.log.length = i
  plen : ∀ i, s.pc i = .pub → s.log.length = i + 1
  sorted : s.log = List.range' 1 s.log.length
  bound : s.log.length ≤ N
  derr : ∀ i, s.pc i = .dErr → s.failed i = true ∨ s.eos i = true ∨ s.ctr = none
  cancelled : s.ctr = none → ∃ i, i < N ∧ (s.failed i = true ∨ s.eos i = true)
  nowork : ∀ i, s.pc i ≠ .work
  cf : ∀ i, (s.critFail i = true ∨ s.eos i = true) →
    s.log.length = i ∧ (∀ j, ¬ ((s.pc j = .crit ∨ s.pc j = .io) ∨ s.pc j = .pub)) ∧
      (s.ctr = none ∨ (s.ctr = some i ∧ s.pc i = .dErr))

/-- The decode-side table.  A task at `pub` has logged its block and not yet advanced the counter, so
the log is one longer than its index; end-of-stream counts like a failure in the critical section. -/
def decTask (N : Nat) (ctr : Option Nat) (len j : Nat) (p : Pc) (failed critFail eos : Bool) :
    Prop :=
  (N ≤ j → p = .wait) ∧ p ≠ .work ∧
  (p = .crit ∨ p = .io → len = j) ∧ (p = .pub → len = j + 1) ∧
  match ctr with
  | some c =>
    (j < c → p = .post ∨ p = .dOk ∨ p = .dErr ∨ p = .fin ∨ p = .done) ∧
    (j = c → (p = .wait ∨ p = .crit ∨ p = .io ∨ p = .pub ∨ p = .dErr) ∧
      (p = .pub → len = c + 1) ∧ (p ≠ .pub → len = c)) ∧
    (c < j → p = .wait) ∧
    (critFail = true ∨ eos = true → j = c ∧ p = .dErr) ∧
    (p = .dErr → failed = true ∨ eos = true)
  | none => critFail = true ∨ eos = true → len = j ∧ (p = .dErr ∨ p = .fin ∨ p = .done)

theorem decTask.atCtr {N : Nat} : ∀ c len j p f cf eo, decTask N (some c) len j p f cf eo →
    tok p ∨ cf = true ∨ eo = true → j = c := by
  unfold decTask tok
  grind

theorem decLocal_init (N : Nat) : Local (decTask N) N decInit := by
  constructor <;> simp [decInit, decTask]

theorem decLocal_step {N : Nat} {s t : St} (hL : Local (decTask N) N s) (hs : Step decStep N s t) :
    Local (decTask N) N t := by
  obtain ⟨e, hN, he⟩ := hs
  have hfr := step_frame (.inr he)
  have hi := hL.task e.task
  unfold decTask at hi
  cases e <;> simp only [decStep, Option.ite_none_right_eq_some, Option.some.injEq] at he
  all_goals simp only [Ev.task] at hN hfr hi
  all_goals obtain ⟨hp, he⟩ := he
  all_goals repeat' split at he
  all_goals cases he
  case ioEnd i =>
    have hl : s.log.length = i := by grind
    refine hL.step decTask.atCtr hfr (log_snoc hL.sorted hl) ?_ .inl ?_ ?_
    · simp only [List.length_append, List.length_singleton]
      omega
    · simp only [upd_same, List.length_append, List.length_singleton, decTask]
      grind
    · -- `i` holds the token, so by `hu` task `j` is not at `pub`, where the table would not do
      intro j p f cf eo hj hu h
      simp only [List.length_append, List.length_singleton]
      unfold decTask at h ⊢
      unfold tok at hu
      grind
  case pub i =>
    -- `pub` under a live counter is the counter's own task, so the compare-and-swap succeeds
    refine hL.step decTask.atCtr hfr hL.sorted hL.bound (fun h => .inl ?_) ?_ ?_
    · grind [cas]
    · simp only [upd_same, decTask]
      grind [cas]
    · intro j p f cf eo hj _ h
      simp only [cas]
      unfold decTask at h ⊢
      grind
  case dpub i =>
    -- `dOk` lies behind a live counter: the in-line publish has already advanced it
    have hc : cas s.ctr i = s.ctr := if_neg (by grind)
    refine hL.step_local decTask.atCtr hfr hc rfl ?_
    simp only [upd_same, decTask]
    grind
  case cancel i =>
    refine hL.step decTask.atCtr hfr hL.sorted hL.bound (fun _ => ?_) ?_ ?_
    · cases hc : s.ctr with
      | none => exact .inl rfl
      | some c => exact .inr ⟨i, hN, ((hc ▸ hi).2.2.2.2 : _).2.2.2.2 hp⟩
    · simp only [upd_same, decTask]
      grind
    · intro j p f cf eo hj _ h
      unfold decTask at *
      grind
  all_goals refine hL.step_local decTask.atCtr hfr rfl rfl ?_
  all_goals simp only [upd_same, decTask]
  all_goals grind

theorem dec_inv_of_local {N : Nat} {s : St} (hL : Local (decTask N) N s) : DecInv N s where
  idle i := (hL.task i).1
  low c hc i := ((hc ▸ hL.task i).2.2.2.2 : _).1
  high c hc i := ((hc ▸ hL.task i).2.2.2.2 : _).2.2.1
  cur c hc := (((hc ▸ hL.task c).2.2.2.2 : _).2.1 rfl).1
  len c hc := (((hc ▸ hL.task c).2.2.2.2 : _).2.1 rfl).2
  mutex i j hi hj := hL.uniq' decTask.atCtr hi (.inl hj)
  hlen i := (hL.task i).2.2.1
  plen i := (hL.task i).2.2.2.1
  sorted := hL.sorted
  bound := hL.bound
  derr i hp := by
    have := hL.task i
    unfold decTask at this
    grind
  cancelled := hL.cancelled
  nowork i := (hL.task i).2.1
  cf i hi := by
    have hi' := hL.task i
    unfold decTask at hi'
    refine ⟨by grind, fun j hj => ?_, by grind⟩
    obtain rfl : j = i := hL.uniq' decTask.atCtr hj (.inr hi)
    grind

theorem dec_local {N : Nat} {s : St} (h : Reach decStep decInit N s) : Local (decTask N) N s := by
  induction h with
  | init => exact decLocal_init N
  | step _ hs ih => exact decLocal_step ih hs

theorem dec_inv {N : Nat} {s : St} (h : Reach decStep decInit N s) : DecInv N s :=
  dec_inv_of_local (dec_local h)

theorem dec_terminal_ok (N : Nat) (s : St) (h : Reach decStep decInit N s) (hd : allDone N s)
    (hok : ∀ i, i < N → s.failed i = false ∧ s.eos i = false) :
    s.log = List.range' 1 N ∧ s.ctr = some N := by
  have hI := dec_inv h
  have hw := hI.idle N (Nat.le_refl N)
  cases hc : s.ctr with
  | none =>
    obtain ⟨i, hi, hf⟩ := hI.cancelled hc
    have := hok i hi
    grind
  | some c =>
    obtain rfl : c = N := by
      have hcur := hI.cur c hc
      have hlow := hI.low c hc N
      have hdone : c < N → s.pc c = .done := hd c
      grind
    exact ⟨(hI.len c hc).2 (by rw [hw]; decide) ▸ hI.sorted, rfl⟩

theorem measure_congr (N : Nat) (s s' : St) (h : ∀ j, j < N → s'.pc j = s.pc j) :
    measure N s' = measure N s := by
  induction N with
  | zero => rfl
  | succ n ih =>
    simp only [measure]
    rw [ih (fun j hj => h j (by omega)), h n (by omega)]

theorem Frame.measure_eq {N i : Nat} {s t : St} (hfr : Frame i s t) (hi : i < N) :
    measure N t + rank (s.pc i) = measure N s + rank (t.pc i) := by
  induction N with
  | zero => omega
  | succ n ih =>
    simp only [measure]
    by_cases hin : i = n
    · subst hin
      have := measure_congr i s t fun j hj => (hfr.other j (by omega)).1
      omega
    · have := ih (by omega)
      rw [(hfr.other n (Ne.symm hin)).1]
      omega

theorem Frame.measure_le {N i : Nat} {s t : St} (hfr : Frame i s t) (hi : i < N) :
    measure N t ≤ measure N s := by
  have := hfr.measure_eq hi
  have := hfr.rank_le
  omega

theorem enc_measure_init (N : Nat) : measure N encInit = 9 * N := by
  induction N with
  | zero => rfl
  | succ n ih => simp only [measure, ih]; simp [encInit, rank]; omega

theorem dec_measure_init (N : Nat) : measure N decInit = 8 * N := by
  induction N with
  | zero => rfl
  | succ n ih => simp only [measure, ih]; simp [decInit, rank]; omega

/-- the event a task at `p` takes next (for `wait`: the load, which moves on only when it sees
`none` or the task's own index) -/
def nextEv (p : Pc) (i : Nat) (ctr : Option Nat) : Ev :=
  match p with
  | .work => .fail i | .wait => .load i ctr | .crit => .ioBegin i | .io => .ioEnd i | .pub => .pub i
  | .post => .postDone i | .dOk => .dpub i | .dErr => .cancel i | .fin | .done => .exit i

theorem nextEv_task (p : Pc) (i : Nat) (ctr : Option Nat) : (nextEv p i ctr).task = i := by
  cases p <;> rfl

theorem nextEv_enabled (s : St) (i : Nat) (hd : s.pc i ≠ .done)
    (hw : s.pc i = .wait → s.ctr = none ∨ s.ctr = some i) :
    (s.pc i ≠ .pub ∧ s.pc i ≠ .post →
      ∃ t, encStep s (nextEv (s.pc i) i s.ctr) = some t ∧ rank (t.pc i) < rank (s.pc i)) ∧
    (s.pc i ≠ .work →
      ∃ t, decStep s (nextEv (s.pc i) i s.ctr) = some t ∧ rank (t.pc i) < rank (s.pc i)) := by
  cases h : s.pc i
  case wait => rcases hw h with hc | hc <;> simp [nextEv, encStep, decStep, h, hc, rank]
  all_goals simp_all [nextEv, encStep, decStep, rank]

/-- Some task `i` is not done.  If it is not spinning it can move; if it spins on `some c` then `c`
is below it (the tasks behind the counter do not wait), and task `c` can move. -/
theorem progress_of_enabled {step : St → Ev → Option St} {N : Nat} {s : St} (hnd : ¬ allDone N s)
    (hfr : ∀ e t, step s e = some t → Frame e.task s t)
    (hen : ∀ i, s.pc i ≠ .done → (s.pc i = .wait → s.ctr = none ∨ s.ctr = some i) →
      ∃ t, step s (nextEv (s.pc i) i s.ctr) = some t ∧ rank (t.pc i) < rank (s.pc i))
    (hlow : ∀ c, s.ctr = some c → ∀ i, i < c → s.pc i ≠ .wait)
    (hcur : ∀ c, s.ctr = some c → s.pc c ≠ .done) :
    ∃ t, Step step N s t ∧ measure N t < measure N s := by
  have hmove (i : Nat) (hi : i < N) (hd : s.pc i ≠ .done)
      (hw : s.pc i = .wait → s.ctr = none ∨ s.ctr = some i) :
      ∃ t, Step step N s t ∧ measure N t < measure N s := by
    obtain ⟨t, he, hr⟩ := hen i hd hw
    have hfr := hfr _ t he
    rw [nextEv_task] at hfr
    have := hfr.measure_eq hi
    exact ⟨t, ⟨_, (nextEv_task ..).symm ▸ hi, he⟩, by omega⟩
  obtain ⟨i, hi, hd⟩ : ∃ i, i < N ∧ s.pc i ≠ .done := by simpa [allDone] using hnd
  cases hc : s.ctr with
  | none => exact hmove i hi hd fun _ => .inl hc
  | some c =>
    rcases Nat.lt_trichotomy c i with hlt | rfl | hgt
    · exact hmove c (by omega) (hcur c hc) fun _ => .inr hc
    · exact hmove c hi hd fun _ => .inr hc
    · exact hmove i hi hd fun hw => absurd hw (hlow c hc i hgt)

theorem enc_progress (N : Nat) (s : St) (h : Reach encStep encInit N s) (hnd : ¬ allDone N s) :
    ∃ t, Step encStep N s t ∧ measure N t < measure N s := by
  have hI := enc_inv h
  refine progress_of_enabled hnd (fun _ _ he => step_frame (.inl he))
    (fun i hd hw => (nextEv_enabled s i hd hw).1 (hI.nopub i)) ?_ ?_
  · intro c hc i hi hw
    simpa [hw] using hI.low c hc i hi
  · intro c hc hd
    simpa [hd] using hI.cur c hc

theorem dec_progress (N : Nat) (s : St) (h : Reach decStep decInit N s) (hnd : ¬ allDone N s) :
    ∃ t, Step decStep N s t ∧ measure N t < measure N s := by
  have hI := dec_inv h
  refine progress_of_enabled hnd (fun _ _ he => step_frame (.inr he))
    (fun i hd hw => (nextEv_enabled s i hd hw).2 (hI.nowork i)) ?_ ?_
  · intro c hc i hi hw
    simpa [hw] using hI.low c hc i hi
  · intro c hc hd
    simpa [hd] using hI.cur c hc

theorem firstFailed_eq_none (N : Nat) (f : Nat → Bool) :
    firstFailed N f = none ↔ ∀ i, i < N → f i = false := by
  induction N with
  | zero => simp [firstFailed]
  | succ n ih =>
    rw [Nat.forall_lt_succ_right, ← ih, firstFailed]
    cases firstFailed n f <;> simp

theorem firstFailed_spec (N : Nat) (f : Nat → Bool) (i : Nat) (h : firstFailed N f = some i) :
    i < N ∧ f i = true ∧ ∀ j, j < i → f j = false := by
  induction N with
  | zero => cases h
  | succ n ih =>
    rw [firstFailed] at h
    split at h
    next k hff =>
      cases h
      exact ⟨Nat.lt_succ_of_lt (ih hff).1, (ih hff).2⟩
    next hff =>
      obtain ⟨hfn, hni⟩ := Option.ite_none_right_eq_some.mp h
      cases hni
      exact ⟨Nat.lt_succ_self _, hfn, (firstFailed_eq_none _ f).1 hff⟩

theorem firstFailed_isSome (N : Nat) (f : Nat → Bool) :
    (firstFailed N f).isSome ↔ ∃ i, i < N ∧ f i = true := by
  rw [Option.isSome_iff_ne_none, Ne, firstFailed_eq_none]
  simp

theorem runTrace_sound (step : St → Ev → Option St) (init : St) (N : Nat) (s t : St) (es : List Ev)
    (hs : Reach step init N s) (h : runTrace step N s es = some t) : Reach step init N t := by
  induction es generalizing s with
  | nil => simp only [runTrace] at h; cases h; exact hs
  | cons e es ih =>
    simp only [runTrace] at h
    split at h
    · cases hse : step s e with
      | none => rw [hse] at h; cases h
      | some u =>
        rw [hse] at h
        exact ih u (Reach.step hs ⟨e, by assumption, hse⟩) h
    · cases h

/-! ## Non-vacuity: concrete runs of the model -/

/-- an interleaved failure-free encode run of 3 tasks (task 2 and 1 load first and spin) -/
def exEncOk : List Ev :=
  [.load 2 (some 0), .load 1 (some 0), .load 0 (some 0), .ioBegin 0, .load 2 (some 0), .ioEnd 0,
   .dpub 0, .load 1 (some 1), .exit 0, .ioBegin 1, .load 2 (some 1), .ioEnd 1, .dpub 1, .exit 1,
   .load 2 (some 2), .ioBegin 2, .ioEnd 2, .dpub 2, .exit 2]

def pcsDone (N : Nat) (s : St) : Bool := (List.range N).all (fun i => s.pc i == .done)

example : (runTrace encStep 3 encInit exEncOk).map (·.log) = some [1, 2, 3] := by decide
example : (runTrace encStep 3 encInit exEncOk).map (·.ctr) = some (some 3) := by decide
example : (runTrace encStep 3 encInit exEncOk).map (pcsDone 3) = some true := by decide
example : (runTrace encStep 3 encInit exEncOk).map (fun s => firstFailed 3 s.failed) = some none := by
  decide
/-- the final state of that run is reachable, so the theorems apply to it -/
example : ∃ s, runTrace encStep 3 encInit exEncOk = some s ∧ Reach encStep encInit 3 s := by
  cases h : runTrace encStep 3 encInit exEncOk with
  | none => exact absurd (congrArg Option.isSome h) (by decide)
  | some s => exact ⟨s, rfl, runTrace_sound _ _ _ _ _ _ .init h⟩

/-- task 1 fails while holding the token; task 2 (already spinning) sees the cancel value -/
def exEncFail : List Ev :=
  [.load 0 (some 0), .ioBegin 0, .ioEnd 0, .dpub 0, .exit 0, .load 1 (some 1), .ioBegin 1,
   .load 2 (some 1), .ioFail 1, .load 2 (some 1), .cancel 1, .load 2 none, .dpub 2, .exit 2, .exit 1]

example : (runTrace encStep 3 encInit exEncFail).map (·.log) = some [1] := by decide
example : (runTrace encStep 3 encInit exEncFail).map (·.ctr) = some none := by decide
example : (runTrace encStep 3 encInit exEncFail).map (pcsDone 3) = some true := by decide
example : (runTrace encStep 3 encInit exEncFail).map (fun s => firstFailed 3 s.failed) = some (some 1) := by
  decide
example : (runTrace encStep 3 encInit exEncFail).map (fun s => s.critFail 1) = some true := by decide
/-- after the failure task 2 cannot acquire the token: this event is not an enabled transition -/
example : (runTrace encStep 3 encInit
    [.load 0 (some 0), .ioBegin 0, .ioEnd 0, .dpub 0, .load 1 (some 1), .ioFail 1, .cancel 1,
     .load 2 (some 2)]).isNone = true := by decide
/-- events of tasks outside the batch are rejected -/
example : (runTrace encStep 3 encInit [.load 3 (some 0)]).isNone = true := by decide

/-- decode, 3 tasks: frame 1 and 2 are read, task 2 finds the end marker -/
def exDecEos : List Ev :=
  [.load 1 (some 0), .load 0 (some 0), .ioBegin 0, .ioEnd 0, .pub 0, .load 1 (some 1), .postDone 0,
   .ioBegin 1, .ioEnd 1, .dpub 0, .pub 1, .load 2 (some 2), .ioBegin 2, .ioEos 2, .fail 1, .exit 0,
   .cancel 2, .cancel 1, .exit 1, .exit 2]

example : (runTrace decStep 3 decInit exDecEos).map (·.log) = some [1, 2] := by decide
example : (runTrace decStep 3 decInit exDecEos).map (·.ctr) = some none := by decide
example : (runTrace decStep 3 decInit exDecEos).map (pcsDone 3) = some true := by decide
example : (runTrace decStep 3 decInit exDecEos).map (fun s => (s.eos 2, firstFailed 3 s.failed)) =
    some (true, some 1) := by decide

/-- decode, failure-free run of 2 tasks -/
def exDecOk : List Ev :=
  [.load 0 (some 0), .ioBegin 0, .load 1 (some 0), .ioEnd 0, .pub 0, .load 1 (some 1), .ioBegin 1,
   .postDone 0, .ioEnd 1, .pub 1, .dpub 0, .postDone 1, .dpub 1, .exit 1, .exit 0]

example : (runTrace decStep 2 decInit exDecOk).map (·.log) = some [1, 2] := by decide
example : (runTrace decStep 2 decInit exDecOk).map (·.ctr) = some (some 2) := by decide
example : (runTrace decStep 2 decInit exDecOk).map (pcsDone 2) = some true := by decide

end Kanzi.Protocol
