/-
inverseBiPSIv2: the second loop (`biStarts`): prefix sums of the bigram counts in the order `x y` (first
symbol major), written at the transposed index, and the fast-bits table.
-/
import Kanzi.Proofs.BWTBiCount

namespace Kanzi.BWT

/-- index of the bigram with flat key `kk = x*256 + y` in `buckets` before the transposition: `(y<<8)|x` -/
def Tix (kk : Nat) : Nat := kk / 256 + (kk % 256) * 256

theorem Tix_lt (kk : Nat) (h : kk < 65536) : Tix kk < 65536 := by unfold Tix; omega

theorem Tix_Tix (kk : Nat) (h : kk < 65536) : Tix (Tix kk) = kk := by unfold Tix; omega

theorem Tix_inj (a b : Nat) (ha : a < 65536) (hb : b < 65536) (h : Tix a = Tix b) : a = b := by
  rw [← Tix_Tix a ha, h, Tix_Tix b hb]

/-- running sum while symbol `c` is the outer symbol, before key `kk`.  The leading 1 is row 0 (the
empty suffix); the conditional 1 is the `sum++` at `c = lastc = src[0]`: the one-symbol suffix has a
row among those of `lastc` but no bigram. -/
def sumAt (src : Array Nat) (p0 c kk : Nat) : Nat :=
  1 + (if rd src 0 ≤ c then 1 else 0) + psum (cntK src p0) kk

/-- first row of the suffixes starting with the bigram `kk` -/
def startK (src : Array Nat) (p0 kk : Nat) : Nat := sumAt src p0 (kk / 256) kk

def endK (src : Array Nat) (p0 kk : Nat) : Nat := startK src p0 kk + cntK src p0 kk

theorem psum_mono (f : Nat → Nat) {a b : Nat} (h : a ≤ b) : psum f a ≤ psum f b := by
  induction h with
  | refl => exact Nat.le_refl _
  | step _ ih => exact Nat.le_trans ih (Nat.le_add_right _ _)

theorem endK_le_startK (src : Array Nat) (p0 : Nat) {a b : Nat} (h : a < b) : endK src p0 a ≤ startK src p0 b := by
  unfold endK startK sumAt
  have h1 : psum (cntK src p0) (a + 1) ≤ psum (cntK src p0) b := psum_mono _ h
  rw [psum_succ] at h1
  have h2 : a / 256 ≤ b / 256 := Nat.div_le_div_right (Nat.le_of_lt h)
  by_cases h3 : rd src 0 ≤ a / 256
  · have h4 : rd src 0 ≤ b / 256 := by omega
    simp only [h3, h4, ite_true]; omega
  · simp only [h3, ite_false]; split <;> omega

theorem startK_le_endK (src : Array Nat) (p0 a : Nat) : startK src p0 a ≤ endK src p0 a := by
  unfold endK; omega

theorem endK_le (src : Array Nat) (hb : ∀ b ∈ src.toList, b < 256) (p0 : Nat) (hp : 1 ≤ p0 ∧ p0 ≤ src.size)
    (kk : Nat) (hk : kk < 65536) : endK src p0 kk ≤ src.size + 1 := by
  unfold endK startK sumAt
  have h1 : psum (cntK src p0) (kk + 1) ≤ psum (cntK src p0) 65536 := psum_mono _ (by omega)
  rw [psum_succ, total_cnt src hb p0 hp] at h1
  split <;> omega

theorem startK_pos (src : Array Nat) (p0 a : Nat) : 1 ≤ startK src p0 a := by
  unfold startK sumAt; omega

/-! ### the shift of the fast-bits table -/

theorem shiftLoop_spec (count fuel shift : Nat) (h : count < 2 ^ (17 + fuel + shift)) :
    count >>> (shiftLoop count fuel shift) ≤ MASK_FASTBITS := by
  induction fuel generalizing shift with
  | zero =>
    simp only [shiftLoop]
    rw [Nat.shiftRight_eq_div_pow]
    have : count / 2 ^ shift < 2 ^ 17 := by
      rw [Nat.div_lt_iff_lt_mul (Nat.two_pow_pos _), ← Nat.pow_add]
      simpa using h
    unfold MASK_FASTBITS NB_FASTBITS
    have e : (1 <<< 17) - 1 = 2 ^ 17 - 1 := by decide
    rw [e]; omega
  | succ f ih =>
    simp only [shiftLoop]
    split
    · apply ih
      have : 17 + f + (shift + 1) = 17 + (f + 1) + shift := by omega
      rw [this]; exact h
    · omega

theorem shiftOf_spec (count : Nat) (h : count < 2 ^ 64) : count >>> shiftOf count ≤ MASK_FASTBITS := by
  apply shiftLoop_spec
  exact Nat.lt_of_lt_of_le h (Nat.pow_le_pow_right (by decide) (by omega))

/-! ### fbFill -/

theorem fbFill_spec (fb ve : Nat) (fuel v : Nat) (fbs : Array Nat) (hf : fuel = ve + 1 - v) (hve : ve < fbs.size) :
    ∃ fbs', fbFill fb ve fuel v fbs = some (max v (ve + 1), fbs') ∧ fbs'.size = fbs.size ∧
      (∀ u, v ≤ u → u ≤ ve → rd fbs' u = fb) ∧ (∀ u, (u < v ∨ ve < u) → rd fbs' u = rd fbs u) := by
  induction fuel generalizing v fbs with
  | zero =>
    refine ⟨fbs, ?_, rfl, ?_, fun _ _ => rfl⟩
    · simp only [fbFill]; congr 2; omega
    · intro u h1 h2; omega
  | succ f ih =>
    have hv : v ≤ ve := by omega
    have hv2 : v < fbs.size := by omega
    obtain ⟨fbs', h1, h2, h3, h4⟩ := ih (v + 1) (fbs.setIfInBounds v fb) (by omega)
      (by rw [Array.size_setIfInBounds]; exact hve)
    refine ⟨fbs', ?_, by rw [h2, Array.size_setIfInBounds], ?_, ?_⟩
    · simp only [fbFill, hv, ite_true, hv2, h1]
      congr 2; omega
    · intro u hu1 hu2
      by_cases huv : u = v
      · subst huv
        rw [h4 u (Or.inl (by omega)), rd_setIfInBounds]; simp [hv2]
      · exact h3 u (by omega) hu2
    · intro u hu
      rw [h4 u (by omega), rd_setIfInBounds]
      have : ¬ v = u := by omega
      simp [this]

/-! ### the loop invariant -/

/-- state before the flat key `kk` (keys below `kk` processed).  `v` is the first fast-bits slot not yet
filled; a filled slot `u` holds the first non-empty bigram whose last row lies in slot `u` or above
(`fb`), which is where the decoder's `scan` may start. -/
structure StInv (src : Array Nat) (p0 shift kk v : Nat) (bk fbs : Array Nat) : Prop where
  bksize : bk.size = 65536
  fbsize : fbs.size = 131072
  done : ∀ t, t < kk → rd bk (Tix t) = startK src p0 t
  todo : ∀ t, kk ≤ t → t < 65536 → rd bk (Tix t) = cntK src p0 t
  vhi : ∀ t, t < kk → cntK src p0 t ≠ 0 → (endK src p0 t - 1) >>> shift < v
  fblt : ∀ u, rd fbs u < 65536
  fb : ∀ u, u < v → rd fbs u < kk ∧ cntK src p0 (rd fbs u) ≠ 0 ∧ u ≤ (endK src p0 (rd fbs u) - 1) >>> shift ∧
        ∀ t, t < rd fbs u → cntK src p0 t ≠ 0 → (endK src p0 t - 1) >>> shift < u

theorem shr_mono (a b s : Nat) (h : a ≤ b) : a >>> s ≤ b >>> s := by
  rw [Nat.shiftRight_eq_div_pow, Nat.shiftRight_eq_div_pow]
  exact Nat.div_le_div_right h

theorem MASK_FASTBITS_eq : MASK_FASTBITS = 131071 := by decide

/-- every row up to `n` has a slot in the fast-bits table (`MASK_FASTBITS + 1` entries) -/
theorem fastBits_idx {p n shift : Nat} (hp : p ≤ n) (h : n >>> shift ≤ MASK_FASTBITS) : p >>> shift < 131072 := by
  have := shr_mono p n shift hp
  rw [MASK_FASTBITS_eq] at h
  omega

/-- one key: `buckets[Tix kk]` holds its count and is replaced by the running sum; a non-empty bigram
fills its fast-bits slots -/
theorem stInv_step (src : Array Nat) (hb : ∀ b ∈ src.toList, b < 256) (p0 : Nat) (hp : 1 ≤ p0 ∧ p0 ≤ src.size)
    (shift : Nat) (hshift : src.size >>> shift ≤ MASK_FASTBITS)
    (kk v : Nat) (hkk : kk < 65536) (bk fbs : Array Nat) (hinv : StInv src p0 shift kk v bk fbs) :
    rd bk (Tix kk) = cntK src p0 kk ∧ Tix kk < bk.size ∧
    (cntK src p0 kk = 0 → StInv src p0 shift (kk + 1) v (bk.setIfInBounds (Tix kk) (startK src p0 kk)) fbs) ∧
    (cntK src p0 kk ≠ 0 →
      ∃ fbs', fbFill kk ((endK src p0 kk - 1) >>> shift) ((endK src p0 kk - 1) >>> shift + 1 - v) v fbs
          = some (max v ((endK src p0 kk - 1) >>> shift + 1), fbs') ∧
        StInv src p0 shift (kk + 1) (max v ((endK src p0 kk - 1) >>> shift + 1))
          (bk.setIfInBounds (Tix kk) (startK src p0 kk)) fbs') := by
  have hTlt : Tix kk < bk.size := by rw [hinv.bksize]; exact Tix_lt kk hkk
  have hsize : (bk.setIfInBounds (Tix kk) (startK src p0 kk)).size = 65536 := by
    rw [Array.size_setIfInBounds]; exact hinv.bksize
  have hdone' : ∀ t, t < kk + 1 → rd (bk.setIfInBounds (Tix kk) (startK src p0 kk)) (Tix t) = startK src p0 t := by
    intro t ht
    rw [rd_setIfInBounds]
    by_cases htk : t = kk
    · subst htk; rw [if_pos ⟨rfl, hTlt⟩]
    · have : ¬ Tix kk = Tix t := fun e => htk (Tix_inj t kk (by omega) hkk e.symm)
      rw [if_neg (fun h => this h.1)]
      exact hinv.done t (by omega)
  have htodo' : ∀ t, kk + 1 ≤ t → t < 65536 →
      rd (bk.setIfInBounds (Tix kk) (startK src p0 kk)) (Tix t) = cntK src p0 t := by
    intro t ht1 ht2
    have : ¬ Tix kk = Tix t := fun e => by have := Tix_inj kk t hkk ht2 e; omega
    rw [rd_setIfInBounds, if_neg (fun h => this h.1)]
    exact hinv.todo t (by omega) ht2
  refine ⟨hinv.todo kk (Nat.le_refl _) hkk, hTlt, ?_, ?_⟩
  · intro hz
    refine ⟨hsize, hinv.fbsize, hdone', htodo', ?_, hinv.fblt, ?_⟩
    · intro t ht hne
      by_cases htk : t = kk
      · subst htk; exact absurd hz hne
      · exact hinv.vhi t (by omega) hne
    · intro u hu
      obtain ⟨h1, h2, h3, h4⟩ := hinv.fb u hu
      exact ⟨by omega, h2, h3, h4⟩
  · intro hnz
    have hend := endK_le src hb p0 hp kk hkk
    have hve : (endK src p0 kk - 1) >>> shift < fbs.size := by
      rw [hinv.fbsize]
      exact fastBits_idx (by omega) hshift
    obtain ⟨fbs', r1, s1, f1, u1⟩ := fbFill_spec kk ((endK src p0 kk - 1) >>> shift)
      ((endK src p0 kk - 1) >>> shift + 1 - v) v fbs rfl hve
    refine ⟨fbs', r1, hsize, by rw [s1]; exact hinv.fbsize, hdone', htodo', ?_, ?_, ?_⟩
    · intro t ht hne
      by_cases htk : t = kk
      · subst htk; omega
      · have := hinv.vhi t (by omega) hne
        omega
    · intro u
      by_cases h1 : v ≤ u ∧ u ≤ (endK src p0 kk - 1) >>> shift
      · rw [f1 u h1.1 h1.2]; exact hkk
      · rw [u1 u (by omega)]; exact hinv.fblt u
    · intro u hu
      by_cases huv : u < v
      · rw [u1 u (Or.inl huv)]
        obtain ⟨h1, h2, h3, h4⟩ := hinv.fb u huv
        exact ⟨by omega, h2, h3, h4⟩
      · have hu2 : u ≤ (endK src p0 kk - 1) >>> shift := by omega
        rw [f1 u (by omega) hu2]
        refine ⟨by omega, hnz, hu2, ?_⟩
        intro t ht hne
        have := hinv.vhi t ht hne
        omega

/-! ### inner and outer loop -/

theorem sumAt_succ (src : Array Nat) (p0 c kk : Nat) :
    sumAt src p0 c (kk + 1) = sumAt src p0 c kk + cntK src p0 kk := by
  unfold sumAt; rw [psum_succ]; omega

theorem biStartsD_spec (src : Array Nat) (hb : ∀ b ∈ src.toList, b < 256) (p0 : Nat) (hp : 1 ≤ p0 ∧ p0 ≤ src.size)
    (shift : Nat) (hshift : src.size >>> shift ≤ MASK_FASTBITS) (c : Nat) (hc : c < 256)
    (k d v : Nat) (hkd : k + d = 256) (bk fbs : Array Nat)
    (hinv : StInv src p0 shift (c * 256 + d) v bk fbs) :
    ∃ v' bk' fbs', biStartsD c shift k d v (sumAt src p0 c (c * 256 + d)) bk fbs
        = some (v', sumAt src p0 c ((c + 1) * 256), bk', fbs') ∧
      StInv src p0 shift ((c + 1) * 256) v' bk' fbs' := by
  induction k generalizing d v bk fbs with
  | zero =>
    have : d = 256 := by omega
    subst this
    refine ⟨v, bk, fbs, ?_, ?_⟩
    · simp only [biStartsD, succ_mul256]
    · rw [succ_mul256]; exact hinv
  | succ k ih =>
    have hd : d < 256 := by omega
    have hT : Tix (c * 256 + d) = c + (d <<< 8) := by rw [shl8]; unfold Tix; omega
    have hstep := stInv_step src hb p0 hp shift hshift (c * 256 + d) v (by omega) bk fbs hinv
    rw [hT] at hstep
    obtain ⟨hval, hlt, hzero, hnz⟩ := hstep
    have hstart : sumAt src p0 c (c * 256 + d) = startK src p0 (c * 256 + d) := by
      unfold startK
      have : (c * 256 + d) / 256 = c := by omega
      rw [this]
    have hnext : c * 256 + d + 1 = c * 256 + (d + 1) := Nat.add_assoc _ _ _
    have hset : bk.set (c + (d <<< 8)) (sumAt src p0 c (c * 256 + d)) hlt
        = bk.setIfInBounds (c + (d <<< 8)) (startK src p0 (c * 256 + d)) := by
      rw [hstart]; simp [Array.setIfInBounds, hlt]
    simp only [biStartsD, hlt, dite_true, rd_eq_getElem hlt, hval, shl8_or c d hd]
    have hs : sumAt src p0 c (c * 256 + d) + cntK src p0 (c * 256 + d) = sumAt src p0 c (c * 256 + (d + 1)) := by
      rw [← hnext, sumAt_succ]
    have hE : endK src p0 (c * 256 + d) = sumAt src p0 c (c * 256 + (d + 1)) := by
      rw [← hs, hstart]; rfl
    by_cases hz : cntK src p0 (c * 256 + d) = 0
    · have hinv' := hzero hz
      rw [hnext] at hinv'
      obtain ⟨v', bk', fbs', r, i⟩ := ih (d + 1) v (by omega)
        (bk.set (c + (d <<< 8)) (sumAt src p0 c (c * 256 + d)) hlt) fbs (by rw [hset]; exact hinv')
      refine ⟨v', bk', fbs', ?_, i⟩
      have hne : ¬ cntK src p0 (c * 256 + d) ≠ 0 := by omega
      rw [if_neg hne, hs]
      exact r
    · obtain ⟨fbs1, rf, hinv'⟩ := hnz hz
      rw [hnext] at hinv'
      obtain ⟨v', bk', fbs', r, i⟩ := ih (d + 1) _ (by omega)
        (bk.set (c + (d <<< 8)) (sumAt src p0 c (c * 256 + d)) hlt) fbs1 (by rw [hset]; exact hinv')
      refine ⟨v', bk', fbs', ?_, i⟩
      rw [hE] at rf r
      rw [if_pos hz, hs, rf]
      exact r

theorem biStarts_spec (src : Array Nat) (hb : ∀ b ∈ src.toList, b < 256) (p0 : Nat) (hp : 1 ≤ p0 ∧ p0 ≤ src.size)
    (shift : Nat) (hshift : src.size >>> shift ≤ MASK_FASTBITS)
    (k c v : Nat) (hkc : k + c = 256) (bk fbs : Array Nat)
    (hinv : StInv src p0 shift (c * 256) v bk fbs) :
    ∃ v' bk' fbs', biStarts (rd src 0) shift k c v
        (1 + (if rd src 0 < c then 1 else 0) + psum (cntK src p0) (c * 256)) bk fbs = some (bk', fbs') ∧
      StInv src p0 shift 65536 v' bk' fbs' := by
  induction k generalizing c v bk fbs with
  | zero =>
    have : c = 256 := by omega
    subst this
    exact ⟨v, bk, fbs, rfl, hinv⟩
  | succ k ih =>
    have hc : c < 256 := by omega
    have hsum : (if c = rd src 0 then 1 + (if rd src 0 < c then 1 else 0) + psum (cntK src p0) (c * 256) + 1
        else 1 + (if rd src 0 < c then 1 else 0) + psum (cntK src p0) (c * 256)) = sumAt src p0 c (c * 256 + 0) := by
      show _ = 1 + (if rd src 0 ≤ c then 1 else 0) + psum (cntK src p0) (c * 256 + 0)
      have e0 : c * 256 + 0 = c * 256 := Nat.add_zero _
      rw [e0]
      by_cases h1 : c = rd src 0
      · rw [if_pos h1, if_neg (show ¬ rd src 0 < c by omega), if_pos (show rd src 0 ≤ c by omega)]
        omega
      · rw [if_neg h1]
        by_cases h2 : rd src 0 < c
        · rw [if_pos h2, if_pos (show rd src 0 ≤ c by omega)]
        · rw [if_neg h2, if_neg (show ¬ rd src 0 ≤ c by omega)]
    obtain ⟨v1, bk1, fbs1, r1, i1⟩ := biStartsD_spec src hb p0 hp shift hshift c hc 256 0 v rfl bk fbs
      (by rw [Nat.add_zero]; exact hinv)
    have hnext : sumAt src p0 c ((c + 1) * 256)
        = 1 + (if rd src 0 < c + 1 then 1 else 0) + psum (cntK src p0) ((c + 1) * 256) := by
      simp only [sumAt, Nat.lt_succ_iff]
    obtain ⟨v', bk', fbs', r2, i2⟩ := ih (c + 1) v1 (by omega) bk1 fbs1 i1
    refine ⟨v', bk', fbs', ?_, i2⟩
    simp only [biStarts, hsum, r1]
    rw [hnext]; exact r2

end Kanzi.BWT
