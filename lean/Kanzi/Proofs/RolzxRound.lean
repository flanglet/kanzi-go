/-
ROLZX (`rolzCodec2`): the decoder follows the encoder through the first literals of a chunk, the main loop, the
chunk loop and the last literals; the whole round trip (`rolzx_roundtrip`).  Last section: the binary coder of
`rolzCodec2` alone, on an arbitrary sequence of symbols (`coder_roundtrip`).
-/
import Kanzi.Proofs.RolzxEnc

namespace Kanzi.ROLZ

/-! ## first literals of a chunk -/

theorem first_sim {S : List Nat} {a : Array Nat} {dstLen lim lpc k i : Nat} (hS : Bytes S) (ha : ∀ k, a.getD k 0 < 256)
    {sF sF' : FSt} {sI : ISt} (ho : EncOk sF) (hrel : Rel S a lpc i sF sI) (hik : i + k ≤ lim) (hsz : lim ≤ sI.dst.size)
    (h : fwdFirst a dstLen lim k i sF = .ok sF') (hg : Good S sF'.enc) :
    ∃ sI', invFirst S.toArray lim k i sI = .ok sI' ∧ Rel S a lpc (i + k) sF' sI' ∧ sI'.dst.size = sI.dst.size ∧
      sI'.tab = sI.tab := by
  induction k generalizing i sF sI with
  | zero =>
    simp only [fwdFirst] at h
    injection h with h
    subst h
    exact ⟨sI, by simp [invFirst], hrel, rfl, rfl⟩
  | succ k ih =>
    simp only [fwdFirst] at h
    split at h
    · cases h
    · rename_i v hv
      obtain ⟨hilt, hvv⟩ := rd1_some hv
      split at h
      · rename_i s1 hs1
        obtain ⟨o1, _⟩ := encLit9_enc hS hs1 ho
        obtain ⟨_, b2, _⟩ := fwdFirst_enc hS h o1
        obtain ⟨val, sI1, hd1, hfl, rel1, z1, e3, _⟩ :=
          lit_sim hS hrel hvv (by rw [hvv]; exact ha i) (by omega) hs1 (b2 hg)
        obtain ⟨sI', hd', r', z', t'⟩ := ih o1 rel1 (by omega)
          (by simp only [Array.size_setIfInBounds, z1]; exact hsz) h
        refine ⟨sI', ?_, by rw [show i + (k + 1) = i + 1 + k by omega]; exact r', ?_, ?_⟩
        · simp only [invFirst, hd1]
          rw [if_neg (by rw [hfl]; exact Nat.one_ne_zero), if_pos hilt]
          exact hd'
        · rw [z']
          simp only [Array.size_setIfInBounds, z1]
        · rw [t']
          exact e3
      · cases h
      · cases h

/-! ## the main loop of a chunk -/

theorem loop_sim {S : List Nat} {a : Array Nat} {dstLen dstEnd base lim mm delta lpc f i : Nat} (hS : Bytes S)
    (ha : ∀ k, a.getD k 0 < 256) (hpar : ParamsOk mm delta) (hmm : 3 ≤ mm ∧ mm ≤ 7)
    (hlimE : lim ≤ dstEnd) (hchunk : lim - base ≤ 2 ^ 24) {sF : FSt} {r : Nat × FSt} (fD : Nat) {sI : ISt}
    (hbi : base + 8 ≤ i ∨ lim ≤ i) (hile : i ≤ lim) (hfD : lim - i + 1 ≤ fD) (ho : EncOk sF) (hrel : Rel S a lpc i sF sI)
    (htr : TRel lpc base lim mm i sF.tab sI.tab) (hsz : lim ≤ sI.dst.size)
    (h : fwdLoop a dstLen base lim mm delta lpc f i sF = .ok r) (hg : Good S r.2.enc) :
    ∃ sI', invLoop S.toArray dstEnd base lim mm delta lpc fD i sI = .ok (r.1, sI') ∧ Rel S a lpc r.1 r.2 sI' ∧
      sI'.dst.size = sI.dst.size ∧ r.1 = lim := by
  induction f generalizing i sF fD sI with
  | zero => simp [fwdLoop] at h
  | succ f ih =>
    simp only [fwdLoop] at h
    match fD, hfD with
    | fD + 1, hfD =>
    simp only [invLoop]
    split at h
    · rename_i hil
      rw [if_pos hil]
      split at h
      · rename_i r1 hr1
        have hbi' : base + 8 ≤ i := by omega
        obtain ⟨o1, _⟩ := fwdStep_enc hS (i' := r1.1) (s' := r1.2) hr1 ho
        obtain ⟨sI1, hd1, rel1, z1, tr1, hlt1, hle1, _⟩ :=
          step_sim hS ha hpar hmm hbi' hlimE hchunk hrel hsz htr (i' := r1.1) (sF' := r1.2) hr1
            ((fwdLoop_enc hS h o1).2 hg)
        obtain ⟨sI', hd', rel', z', hfin⟩ := ih fD (Or.inl (by omega)) hle1 (by omega) o1 rel1 tr1
          (by rw [z1]; exact hsz) h
        refine ⟨sI', ?_, rel', by rw [z', z1], hfin⟩
        rw [hd1]
        exact hd'
      · cases h
      · cases h
    · rename_i hil
      injection h with h
      subst h
      rw [if_neg hil]
      exact ⟨sI, rfl, hrel, rfl, by simp only; omega⟩

/-! ## the last literals -/

theorem last_sim {S : List Nat} {a : Array Nat} {dstLen lpc k i : Nat} (hS : Bytes S) (ha : ∀ k, a.getD k 0 < 256)
    {sF sF' : FSt} {sI : ISt} (ho : EncOk sF) (hrel : Rel S a lpc i sF sI) (hi0 : 0 < i) (hsz : i + k ≤ sI.dst.size)
    (h : fwdLast a dstLen k i sF = .ok sF') (hg : Good S sF'.enc) :
    ∃ sI', invLast S.toArray k i sI = .ok (i + k, sI') ∧ Rel S a lpc (i + k) sF' sI' ∧ sI'.dst.size = sI.dst.size := by
  induction k generalizing i sF sI with
  | zero =>
    simp only [fwdLast] at h
    injection h with h
    subst h
    exact ⟨sI, by simp [invLast], hrel, rfl⟩
  | succ k ih =>
    simp only [fwdLast] at h
    rw [if_neg (by omega)] at h
    split at h
    · rename_i c v hc hv
      obtain ⟨_, hcv⟩ := rd1_some hc
      obtain ⟨_, hvv⟩ := rd1_some hv
      split at h
      · rename_i s1 hs1
        obtain ⟨o1, _, _⟩ := encLit9_enc hS hs1 ho
        obtain ⟨_, b2⟩ := fwdLast_enc hS _ _ _ _ h o1
        obtain ⟨val, sI1, hd1, hfl, rel1, z1, _⟩ :=
          lit_sim hS hrel hvv (by rw [hvv]; exact ha i) (by omega) hs1 (b2 hg)
        obtain ⟨sI', hd', r', z'⟩ := ih o1 rel1 (by omega) (by simp only [Array.size_setIfInBounds, z1]; omega) h
        refine ⟨sI', ?_, by rw [show i + (k + 1) = i + 1 + k by omega]; exact r', ?_⟩
        · simp only [invLast]
          rw [if_neg (by omega), rd1_eq (by omega : i - 1 < sI.dst.size), hrel.agree (i - 1) (by omega), ← hcv]
          simp only [hd1]
          rw [if_neg (by rw [hfl]; exact Nat.one_ne_zero), if_pos (by rw [z1]; omega),
            show i + (k + 1) = i + 1 + k by omega]
          exact hd'
        · rw [z']
          simp only [Array.size_setIfInBounds, z1]
      · cases h
      · cases h
    · cases h

/-! ## the chunk loop -/

/-- both chunk loops cut the chunk `[st, min srcEnd (st + sz))` -/
theorem endChunk_fwd (st sz srcEnd : Nat) : (if st + sz ≥ srcEnd then srcEnd else st + sz) = min srcEnd (st + sz) := by
  by_cases h : st + sz ≥ srcEnd
  · rw [if_pos h]
    omega
  · rw [if_neg h]
    omega

theorem endChunk_inv (st sz srcEnd : Nat) : (if st + sz > srcEnd then srcEnd else st + sz) = min srcEnd (st + sz) := by
  by_cases h : st + sz > srcEnd
  · rw [if_pos h]
    omega
  · rw [if_neg h]
    omega

/-- fuel for `g + 1` chunks of `sz` bytes, one chunk `[st, e)` done: fuel for `g` chunks of `e - st` bytes is left
    (`e - st = sz`, or the chunk was the last one) -/
theorem chunk_fuel_step {srcEnd st sz e g : Nat} (hfuel : (srcEnd - st) + sz ≤ (g + 1) * sz) (hlt : st < srcEnd)
    (he1 : st < e) (he2 : e ≤ srcEnd) (he4 : e = srcEnd ∨ e = st + sz) : (srcEnd - e) + (e - st) ≤ g * (e - st) := by
  rw [Nat.add_mul, Nat.one_mul] at hfuel
  rcases he4 with he4 | he4
  · rcases g with _ | g
    · rw [Nat.zero_mul] at hfuel
      omega
    · have := Nat.le_mul_of_pos_left (e - st) (by omega : 0 < g + 1)
      omega
  · have e1 : e - st = sz := by omega
    rw [e1]
    omega

theorem chunks_sim {S : List Nat} {a : Array Nat} {dstLen dstEnd srcEnd mm delta lpc f st szE si : Nat} (hS : Bytes S)
    (ha : ∀ k, a.getD k 0 < 256) (hpar : ParamsOk mm delta) (hmm : 3 ≤ mm ∧ mm ≤ 7) (hse : srcEnd ≤ dstEnd)
    {sF : FSt} {r : Nat × Nat × Nat × FSt} (fD szD di : Nat) {sI : ISt}
    (hsz : szE = szD ∨ (st + szE ≥ srcEnd ∧ st + szD ≥ srcEnd)) (hE0 : 0 < szE) (hD0 : 0 < szD) (hE24 : szE ≤ 2 ^ 24)
    (hst : st ≤ srcEnd) (hfuel : (srcEnd - st) + szD ≤ fD * szD) (ho : EncOk sF) (hrel : Rel S a lpc st sF sI)
    (hdsz : srcEnd ≤ sI.dst.size) (hpos : st < srcEnd ∨ (si = szE ∧ di = szD))
    (h : fwdChunks a dstLen srcEnd mm delta lpc f st szE si sF = .ok r) (hg : Good S r.2.2.2.enc) :
    ∃ rD, invChunks S.toArray dstEnd srcEnd mm delta lpc 8 fD st szD di sI = .ok rD ∧
      Rel S a lpc srcEnd r.2.2.2 rD.2.2.2 ∧ rD.2.2.2.dst.size = sI.dst.size ∧
      r.1 = r.2.2.1 ∧ r.2.1 = srcEnd ∧ rD.1 = rD.2.2.1 ∧ rD.2.1 = srcEnd := by
  induction f generalizing st szE si sF fD szD di sI with
  | zero => simp [fwdChunks] at h
  | succ f ih =>
    simp only [fwdChunks] at h
    rcases fD with _ | g
    · rw [Nat.zero_mul] at hfuel
      omega
    simp only [invChunks]
    split at h
    · rename_i hlt
      rw [if_pos hlt]
      rw [endChunk_inv, show min srcEnd (st + szD) = min srcEnd (st + szE) by omega]
      rw [endChunk_fwd] at h
      generalize hedef : min srcEnd (st + szE) = e at h ⊢
      obtain ⟨he1, he2, he3, he4⟩ : st < e ∧ e ≤ srcEnd ∧ e - st ≤ szE ∧ (e = srcEnd ∨ (e = st + szE ∧ szE = szD)) := by
        omega
      clear hedef
      split at h
      · rename_i s1 hs1
        split at h
        · rename_i r1 hr1
          have ho0 : EncOk ⟨⟨matches0 lpc, sF.tab.counters⟩, sF.enc, probs0 9, probs0 lpc⟩ :=
            ⟨ho.einv, probs0_ok 9, probs0_ok lpc, ho.bytes⟩
          have hrel0 : Rel S a lpc st ⟨⟨matches0 lpc, sF.tab.counters⟩, sF.enc, probs0 9, probs0 lpc⟩
              ⟨⟨matches0 lpc, sI.tab.counters⟩, sI.dec, probs0 9, probs0 lpc, sI.dst⟩ :=
            ⟨hrel.einv, hrel.drel, rfl, rfl, probs0_ok 9, probs0_ok lpc, hrel.agree,
              tabOk_clear _ _ hrel.tokE.cnt, tabOk_clear _ _ hrel.tokD.cnt⟩
          obtain ⟨o1, _, tF1⟩ := fwdFirst_enc hS hs1 ho0
          obtain ⟨o2, b2⟩ := fwdLoop_enc hS hr1 o1
          obtain ⟨_, b3⟩ := fwdChunks_enc hS _ _ _ _ _ _ h o2
          have g2 := b3 hg
          have g1 := b2 g2
          obtain ⟨sI1, hd1, rel1, z1, tI1⟩ := first_sim hS ha ho0 hrel0 (by omega) (by simp only; omega) hs1 g1
          have htr : TRel lpc st e mm (st + min 8 (e - st)) s1.tab sI1.tab := by
            intro _
            rw [tF1, tI1]
            exact ⟨ringEq_clear _ _ _, entLt_clear _ _ _ (by omega)⟩
          obtain ⟨sI2, hd2, rel2, z2, hfin⟩ := loop_sim hS ha hpar hmm (Nat.le_trans he2 hse) (by omega)
            (e - st + 1) (by omega) (by omega) (by omega) o1 rel1 htr
            (by rw [z1]; simp only; omega) hr1 g2
          have hfuel' : (srcEnd - e) + (e - st) ≤ g * (e - st) :=
            chunk_fuel_step hfuel hlt he1 he2 (he4.imp id fun ⟨h1, h2⟩ => h2 ▸ h1)
          obtain ⟨rD, hd3, rel3, z3, q1, q2, q3, q4⟩ := ih g (e - st) (r1.1 - st) (Or.inl rfl) (by omega) (by omega)
            (by omega) he2 hfuel' o2 (by rw [← hfin]; exact rel2) (by rw [z2, z1]; exact hdsz)
            (Or.inr ⟨by rw [hfin], by rw [hfin]⟩) h
          refine ⟨rD, ?_, rel3, by rw [z3, z2, z1], q1, q2, q3, q4⟩
          rw [hd1]
          simp only
          rw [hd2]
          exact hd3
        · cases h
        · cases h
      · cases h
      · cases h
    · rename_i hge
      injection h with h
      subst h
      rw [if_neg hge]
      have : st = srcEnd := by omega
      rcases hpos with hp | ⟨hp1, hp2⟩
      · omega
      · exact ⟨_, rfl, by rw [← this]; exact hrel, rfl, hp1, this, hp2, this⟩

/-! ## the whole block -/

/-- the parameters chosen by Forward are recovered by Inverse from the flags byte (bitstream version 4 and later) -/
theorem fwdParams2_spec (ty : Nat) :
    ParamsOk (fwdParams2 ty).1 (fwdParams2 ty).2.1 ∧ 3 ≤ (fwdParams2 ty).1 ∧ (fwdParams2 ty).1 ≤ 7 ∧
    (fwdParams2 ty).2.2 < 256 ∧
    ∀ bsv, 4 ≤ bsv → invParams2 bsv (fwdParams2 ty).2.2 = ((fwdParams2 ty).1, (fwdParams2 ty).2.1, 5, 8) := by
  unfold fwdParams2
  split
  · refine ⟨Or.inl ⟨rfl, Or.inr rfl⟩, by decide, by decide, by decide, fun bsv hb => ?_⟩
    unfold invParams2
    rw [if_pos hb]
    rfl
  · split
    · refine ⟨Or.inr ⟨by decide, rfl⟩, by decide, by decide, by decide, fun bsv hb => ?_⟩
      unfold invParams2
      rw [if_pos hb]
      rfl
    · refine ⟨Or.inl ⟨rfl, Or.inl rfl⟩, by decide, by decide, by decide, fun bsv hb => ?_⟩
      unfold invParams2
      rw [if_pos hb]
      rfl

theorem header_getD (b0 b1 b2 b3 b4 : Nat) (h0 : b0 < 256) (h1 : b1 < 256) (h2 : b2 < 256) (h3 : b3 < 256)
    (h4 : b4 < 256) : ∀ k, (#[b0, b1, b2, b3, b4] : Array Nat).getD k 0 < 256 := by
  intro k
  match k with
  | 0 => exact h0
  | 1 => exact h1
  | 2 => exact h2
  | 3 => exact h3
  | 4 => exact h4
  | k + 5 =>
    rw [Array.getD_eq_getD_getElem?, Array.getElem?_eq_none (by simp)]
    decide

theorem beN8 (S : List Nat) (i : Nat) : beN S.toArray i 8 = S.getD i 0 * 2 ^ 56 + val7 S i := by
  simp only [beN, toArray_getD, Nat.add_zero, val7]
  omega

theorem dispose_bytes {dstLen : Nat} {e : Enc} {out : Array Nat} (h : e.dispose dstLen = .ok out) (hb : OutBytes e) :
    ∀ k, out.getD k 0 < 256 := by
  unfold Enc.dispose at h
  split at h
  · injection h with h
    subst h
    exact push32_bytes (push32_bytes hb _) _
  · cases h

theorem toArray_bytes {src : List Nat} (hb : ∀ x ∈ src, x < 256) : ∀ k, src.toArray.getD k 0 < 256 := by
  intro k
  rw [toArray_getD, List.getD_eq_getElem?_getD]
  by_cases hk : k < src.length
  · rw [List.getElem?_eq_getElem hk]
    exact hb _ (List.getElem_mem hk)
  · rw [List.getElem?_eq_none (by omega)]
    decide

/-- the state Forward enters the chunk loop with: block length (big endian) and flags byte written -/
def fwdInit (lpc n flags : Nat) : FSt :=
  ⟨⟨matches0 lpc, Array.replicate HASH_SIZE 0⟩,
    ⟨0, TOP, #[(n >>> 24) % 256, (n >>> 16) % 256, (n >>> 8) % 256, n % 256, flags]⟩, probs0 9, probs0 lpc⟩

theorem fwdInit_ok (lpc n : Nat) {flags : Nat} (hfl : flags < 256) : EncOk (fwdInit lpc n flags) :=
  ⟨einv_init _, probs0_ok 9, probs0_ok lpc,
    header_getD _ _ _ _ _ (Nat.mod_lt _ (by decide)) (Nat.mod_lt _ (by decide)) (Nat.mod_lt _ (by decide))
      (Nat.mod_lt _ (by decide)) hfl⟩

theorem Out.bind_eq_ok {α β : Type} {x : Out α} {f : α → Out β} {b : β} (h : x.bind f = .ok b) :
    ∃ a, x = .ok a ∧ f a = .ok b := by
  cases x with
  | ok a => exact ⟨a, rfl, h⟩
  | err e => cases h
  | fault k => cases h

/-- Forward after the chunk loop (result `x`): the last literals, `dispose`, and the two final tests -/
def fwdTail (a : Array Nat) (dstLen : Nat) (x : Out (Nat × Nat × Nat × FSt)) : Out (List Nat) :=
  x.bind fun r =>
  (fwdLast a dstLen 4 (r.1 + r.2.1 - r.2.2.1) r.2.2.2).bind fun s' =>
  (s'.enc.dispose dstLen).bind fun out =>
  if r.1 + r.2.1 - r.2.2.1 + 4 ≠ a.size then .err "dstsmall"
  else if out.size ≥ a.size then .err "nocomp"
  else .ok out.toList

/-- Forward past its guards -/
def fwdBlock (cs lpc : Nat) (prm : Nat × Nat × Nat) (a : Array Nat) (dstLen : Nat) : Out (List Nat) :=
  fwdTail a dstLen (fwdChunks a dstLen (a.size - 4) prm.1 prm.2.1 lpc (a.size / min a.size cs + 2) 0 (min a.size cs) 0
    (fwdInit lpc a.size prm.2.2))

theorem rolzxForward_cases (cs lpc : Nat) (hasCtx : Bool) (dt : Nat) (src : List Nat) (dstLen : Nat) :
    (rolzxForward cs lpc hasCtx dt src dstLen = .ok [] ∧ (src.length = 0 ∨ dstLen = 0)) ∨
    (∃ e, rolzxForward cs lpc hasCtx dt src dstLen = .err e) ∨
    (64 ≤ src.length ∧ src.length ≤ MAX_BLOCK_SIZE ∧ maxEncodedLen2 src.length ≤ dstLen ∧
      rolzxForward cs lpc hasCtx dt src dstLen =
        fwdBlock cs lpc (fwdParams2 (effType hasCtx dt src)) src.toArray dstLen) := by
  unfold rolzxForward
  by_cases h0 : src.length = 0 ∨ dstLen = 0
  · rw [if_pos h0]
    exact Or.inl ⟨rfl, h0⟩
  rw [if_neg h0]
  by_cases hmin : src.length < MIN_BLOCK_SIZE
  · rw [if_pos hmin]
    exact Or.inr (Or.inl ⟨_, rfl⟩)
  rw [if_neg hmin]
  by_cases hmax : src.length > MAX_BLOCK_SIZE
  · rw [if_pos hmax]
    exact Or.inr (Or.inl ⟨_, rfl⟩)
  rw [if_neg hmax]
  by_cases hdst : dstLen < maxEncodedLen2 src.length
  · rw [if_pos hdst]
    exact Or.inr (Or.inl ⟨_, rfl⟩)
  rw [if_neg hdst]
  refine Or.inr (Or.inr ⟨Nat.le_of_not_lt hmin, Nat.le_of_not_lt hmax, Nat.le_of_not_lt hdst, ?_⟩)
  unfold fwdBlock fwdTail fwdInit
  dsimp only
  generalize fwdChunks _ _ _ _ _ _ _ _ _ _ _ = x
  cases x with
  | ok r =>
    obtain ⟨r1, r2, r3, r4⟩ := r
    dsimp only [Out.bind]
    generalize fwdLast _ _ _ _ _ = y
    cases y with
    | ok s' =>
      dsimp only
      generalize Enc.dispose _ _ = z
      cases z <;> rfl
    | err e => rfl
    | fault k => rfl
  | err e => rfl
  | fault k => rfl

theorem fwdTail_ok {a : Array Nat} {dstLen : Nat} {x : Out (Nat × Nat × Nat × FSt)} {t : List Nat}
    (h : fwdTail a dstLen x = .ok t) :
    ∃ r s' out, x = .ok r ∧ fwdLast a dstLen 4 (r.1 + r.2.1 - r.2.2.1) r.2.2.2 = .ok s' ∧
      s'.enc.dispose dstLen = .ok out ∧ r.1 + r.2.1 - r.2.2.1 + 4 = a.size ∧ out.size < a.size ∧ t = out.toList := by
  obtain ⟨r, hch, h⟩ := Out.bind_eq_ok h
  obtain ⟨s', hlast, h⟩ := Out.bind_eq_ok h
  obtain ⟨out, hdisp, h⟩ := Out.bind_eq_ok h
  by_cases hpos : r.1 + r.2.1 - r.2.2.1 + 4 ≠ a.size
  · rw [if_pos hpos] at h
    cases h
  rw [if_neg hpos] at h
  by_cases hlen : out.size ≥ a.size
  · rw [if_pos hlen] at h
    cases h
  rw [if_neg hlen] at h
  injection h with h
  exact ⟨r, s', out, hch, hlast, hdisp, Decidable.of_not_not hpos, Nat.lt_of_not_le hlen, h.symm⟩

theorem fwdTail_nf {a : Array Nat} {dstLen : Nat} {x : Out (Nat × Nat × Nat × FSt)}
    (h : (∃ e, x = .err e) ∨ ∃ r s' out, x = .ok r ∧
      fwdLast a dstLen 4 (r.1 + r.2.1 - r.2.2.1) r.2.2.2 = .ok s' ∧ s'.enc.dispose dstLen = .ok out) :
    ∀ k, fwdTail a dstLen x ≠ .fault k := by
  intro k
  unfold fwdTail
  rcases h with ⟨e, he⟩ | ⟨r, s', out, hch, hlast, hdisp⟩
  · rw [he]
    intro hc
    cases hc
  · rw [hch]
    dsimp only [Out.bind]
    rw [hlast]
    dsimp only
    rw [hdisp]
    dsimp only
    split
    · exact nofun
    · split
      · exact nofun
      · exact nofun

theorem rolzxForward_nf_of {cs lpc : Nat} {hasCtx : Bool} {dt : Nat} {src : List Nat} {dstLen : Nat}
    (h : 64 ≤ src.length → maxEncodedLen2 src.length ≤ dstLen →
      ∀ k, fwdBlock cs lpc (fwdParams2 (effType hasCtx dt src)) src.toArray dstLen ≠ .fault k) :
    ∀ k, rolzxForward cs lpc hasCtx dt src dstLen ≠ .fault k := by
  intro k
  rcases rolzxForward_cases cs lpc hasCtx dt src dstLen with ⟨h0, _⟩ | ⟨e, he⟩ | ⟨h64, _, hdst, hb⟩
  · rw [h0]
    intro hc
    cases hc
  · rw [he]
    intro hc
    cases hc
  · rw [hb]
    exact h h64 hdst k

/-- a successful Forward output is shorter than the block (otherwise Forward declines with "no compression") -/
theorem rolzxForward_len {cs lpc : Nat} {hasCtx : Bool} {dt : Nat} {src t : List Nat} {dstLen : Nat}
    (h : rolzxForward cs lpc hasCtx dt src dstLen = .ok t) : t = [] ∨ t.length < src.length := by
  rcases rolzxForward_cases cs lpc hasCtx dt src dstLen with ⟨h0, _⟩ | ⟨e, he⟩ | ⟨_, _, _, hb⟩
  · rw [h0] at h
    injection h with h
    exact Or.inl h.symm
  · rw [he] at h
    cases h
  · rw [hb] at h
    obtain ⟨_, _, out, _, _, _, _, hlen, ht⟩ := fwdTail_ok h
    right
    rw [ht, Array.length_toList]
    exact hlen

theorem be4_digits (w : Nat) :
    (w >>> 24) % 256 * 2 ^ 24 + (w >>> 16) % 256 * 2 ^ 16 + (w >>> 8) % 256 * 2 ^ 8 + w % 256 = w % 2 ^ 32 := by
  simp only [Nat.shiftRight_eq_div_pow]
  omega

theorem header_sim {S : List Nat} {lpc n fl : Nat} (hn : n < 2 ^ 32) (hg : Good S (fwdInit lpc n fl).enc) :
    beN S.toArray 0 4 = n ∧ S.getD 4 0 = fl ∧ 13 ≤ S.length ∧
      DRel S (fwdInit lpc n fl).enc ⟨0, TOP, beN S.toArray 5 8, 13⟩ := by
  obtain ⟨p0, l0, t0, _, _⟩ := hg
  have q0 : S.getD 0 0 = (n >>> 24) % 256 := p0 0 (show 0 < 5 by decide)
  have q1 : S.getD 1 0 = (n >>> 16) % 256 := p0 1 (show 1 < 5 by decide)
  have q2 : S.getD 2 0 = (n >>> 8) % 256 := p0 2 (show 2 < 5 by decide)
  have q3 : S.getD 3 0 = n % 256 := p0 3 (show 3 < 5 by decide)
  have t0' : S.getD 5 0 = 0 / 2 ^ 56 := t0
  refine ⟨?_, p0 4 (show 4 < 5 by decide), l0, rfl, rfl, ?_, rfl⟩
  · rw [beN4, Nat.zero_add, q0, q1, q2, q3, be4_digits, Nat.mod_eq_of_lt hn]
  · show beN S.toArray 5 8 = val7 S 5
    rw [beN8, t0', Nat.zero_div, Nat.zero_mul, Nat.zero_add]

/-- the fuel the chunk loops are given (`n / m + 2` for a length `n`) covers up to `n` bytes in chunks of `m` -/
theorem chunk_fuel {n' n m : Nat} (h : n' ≤ n) (hm : 0 < m) : (n' - 0) + m ≤ (n / m + 2) * m := by
  have h1 := Nat.div_add_mod n m
  have h2 := Nat.mod_lt n hm
  rw [Nat.add_mul, Nat.mul_comm (n / m)]
  omega

theorem rolzxInverse_parts {cs lpc bsv mm delta n w : Nat} {t : List Nat} {dst0 : Array Nat}
    {rD : Nat × Nat × Nat × ISt} {sI : ISt} (hbsv : 4 ≤ bsv) (hlen : 13 ≤ t.length) (hmax : t.length ≤ MAX_BLOCK_SIZE)
    (hde : beN t.toArray 0 4 = n) (h4 : 4 ≤ n) (hd : n ≤ dst0.size)
    (hprm : invParams2 bsv (t.getD 4 0) = (mm, delta, 5, 8))
    (hdc : invChunks t.toArray n (n - 4) mm delta lpc 8 (n / min dst0.size cs + 2) 0 (min dst0.size cs) 0
      ⟨⟨matches0 lpc, Array.replicate HASH_SIZE 0⟩, ⟨0, TOP, beN t.toArray 5 8, 13⟩, probs0 9, probs0 lpc, dst0⟩ = .ok rD)
    (c3 : rD.1 = rD.2.2.1) (c4 : rD.2.1 = n - 4) (hdl : invLast t.toArray 4 (n - 4) rD.2.2.2 = .ok (w, sI))
    (hidx : sI.dec.idx = t.length) : rolzxInverse cs lpc bsv t dst0 = .ok (w, sI.dst) := by
  have hinit : Dec.init t.toArray 5 = .ok ⟨0, TOP, beN t.toArray 5 8, 13⟩ := by
    unfold Dec.init
    rw [if_pos (by rw [List.size_toArray]; omega)]
  have hi : rD.1 + rD.2.1 - rD.2.2.1 = n - 4 := by omega
  unfold rolzxInverse
  rw [if_neg (by omega), if_neg (by omega), if_neg (by omega)]
  dsimp only
  rw [hde, if_neg (by omega), toArray_getD, hprm]
  simp only [hinit]
  rw [if_neg (by omega), if_pos hbsv, hdc]
  obtain ⟨rd1, rd2, rd3, rd4⟩ := rD
  dsimp only at c3 hi hdl ⊢
  rw [if_neg (by omega), hi, hdl]
  dsimp only
  rw [if_neg (by rw [List.size_toArray]; exact fun hc => hc hidx)]

theorem block_sim {a : Array Nat} {n cs lpc bsv mm delta fl dstLen : Nat} {r : Nat × Nat × Nat × FSt} {s' : FSt}
    {out : Array Nat} (dst0 : Array Nat) (ha : ∀ k, a.getD k 0 < 256) (hpar : ParamsOk mm delta)
    (hmm : 3 ≤ mm ∧ mm ≤ 7) (hfl : fl < 256) (hcs : 0 < cs ∧ cs ≤ 2 ^ 24) (h64 : 64 ≤ n) (hmax : n < 2 ^ 32)
    (hd : n ≤ dst0.size) (hbsv : 4 ≤ bsv) (hprm : invParams2 bsv fl = (mm, delta, 5, 8))
    (hout : out.size ≤ MAX_BLOCK_SIZE)
    (hch : fwdChunks a dstLen (n - 4) mm delta lpc (n / min n cs + 2) 0 (min n cs) 0 (fwdInit lpc n fl) = .ok r)
    (hlast : fwdLast a dstLen 4 (r.1 + r.2.1 - r.2.2.1) r.2.2.2 = .ok s') (hdisp : s'.enc.dispose dstLen = .ok out) :
    ∃ dst, rolzxInverse cs lpc bsv out.toList dst0 = .ok (n, dst) ∧ dst.size = dst0.size ∧
      ∀ k, k < n → dst.getD k 0 = a.getD k 0 := by
  have ho0 := fwdInit_ok lpc n hfl
  -- the invariants of the encoder states do not depend on the output
  obtain ⟨o1, _⟩ := fwdChunks_enc bytes_nil _ _ _ _ _ _ hch ho0
  obtain ⟨o2, _⟩ := fwdLast_enc bytes_nil _ _ _ _ hlast o1
  obtain ⟨g3, hosz, _⟩ := dispose_good o2.einv hdisp
  have hS : Bytes out.toList := fun k => by
    rw [toList_getD]
    exact dispose_bytes hdisp o2.bytes k
  -- consistency with the output flows back to the initial state
  have g2 := (fwdLast_enc hS _ _ _ _ hlast o1).2 g3
  have g0 := (fwdChunks_enc hS _ _ _ _ _ _ hch ho0).2 g2
  obtain ⟨hde, hf4, hlen, hdrel⟩ := header_sim hmax g0
  have hrel0 : Rel out.toList a lpc 0 (fwdInit lpc n fl)
      ⟨⟨matches0 lpc, Array.replicate HASH_SIZE 0⟩, ⟨0, TOP, beN out.toList.toArray 5 8, 13⟩, probs0 9, probs0 lpc,
        dst0⟩ :=
    ⟨ho0.einv, hdrel, rfl, rfl, ho0.plok, ho0.pmok, fun k hk => absurd hk (Nat.not_lt_zero k),
      tabOk_clear _ _ (Array.size_replicate ..), tabOk_clear _ _ (Array.size_replicate ..)⟩
  obtain ⟨rD, hdc, relc, zc, c1, c2, c3, c4⟩ := chunks_sim hS ha hpar hmm (Nat.sub_le n 4)
    (n / min dst0.size cs + 2) (min dst0.size cs) 0 (by omega) (by omega) (by omega) (by omega) (Nat.zero_le _)
    (chunk_fuel (Nat.sub_le n 4) (by omega)) ho0 hrel0 (Nat.le_trans (Nat.sub_le n 4) hd) (Or.inl (by omega)) hch g2
  have hi4 : r.1 + r.2.1 - r.2.2.1 = n - 4 := by omega
  rw [hi4] at hlast
  have zc' : rD.2.2.2.dst.size = dst0.size := zc
  obtain ⟨sI, hdl, rell, zl⟩ := last_sim hS ha o1 relc (by omega) (by omega) hlast g3
  have hn4 : n - 4 + 4 = n := by omega
  rw [hn4] at hdl rell
  refine ⟨sI.dst, ?_, by rw [zl, zc'], fun k hk => rell.agree k hk⟩
  exact rolzxInverse_parts hbsv hlen (by rw [Array.length_toList]; exact hout) hde (by omega) hd
    (by rw [hf4]; exact hprm) hdc c3 c4 hdl (by rw [Array.length_toList, rell.drel.idx, hosz])

/-- **ROLZX round trip.**  If Forward accepts the block, Inverse (bitstream version 4 or later) of its output
    into any destination of at least the original size restores the block and reports its length. -/
theorem rolzx_roundtrip {cs lpc : Nat} {hasCtx : Bool} {dt : Nat} {src t : List Nat} {dstLen : Nat} (bsv : Nat)
    (dst0 : Array Nat) (hcs : 0 < cs ∧ cs ≤ 2 ^ 24) (hb : ∀ x ∈ src, x < 256) (hbsv : 4 ≤ bsv)
    (hdst : maxEncodedLen2 src.length ≤ dstLen) (hd : src.length ≤ dst0.size)
    (h : rolzxForward cs lpc hasCtx dt src dstLen = .ok t) :
    ∃ dst, rolzxInverse cs lpc bsv t dst0 = .ok (src.length, dst) ∧ dst.size = dst0.size ∧
      ∀ k, k < src.length → dst.getD k 0 = src.getD k 0 := by
  rcases rolzxForward_cases cs lpc hasCtx dt src dstLen with ⟨ht, h0⟩ | ⟨e, he⟩ | ⟨h64, hmax, _, hb'⟩
  · rw [ht] at h
    injection h with h
    have hn : src.length = 0 := by
      rcases h0 with h0 | h0
      · exact h0
      · unfold maxEncodedLen2 at hdst; split at hdst <;> omega
    refine ⟨dst0, ?_, rfl, fun k hk => by omega⟩
    unfold rolzxInverse
    rw [← h, if_pos (Or.inl List.length_nil), hn]
  · rw [he] at h
    cases h
  · rw [hb'] at h
    obtain ⟨r, s', out, hch, hlast, hdisp, _, hlt, rfl⟩ := fwdTail_ok h
    rw [List.size_toArray] at hch hlt
    obtain ⟨hpar, hmm3, hmm7, hfl, hinv⟩ := fwdParams2_spec (effType hasCtx dt src)
    have hM : MAX_BLOCK_SIZE = 2 ^ 30 := rfl
    obtain ⟨dst, hinvr, hsz, hag⟩ := block_sim dst0 (toArray_bytes hb) hpar ⟨hmm3, hmm7⟩ hfl hcs h64 (by omega) hd hbsv
      (hinv bsv hbsv) (Nat.le_trans (Nat.le_of_lt hlt) hmax) hch hlast hdisp
    exact ⟨dst, hinvr, hsz, fun k hk => by rw [hag k hk, toArray_getD]⟩

/-! ## the coder on its own: a sequence of symbols -/

/-- one coded symbol: the table (`lit`: literal table with 9-bit contexts, else the match table with `lpc`-bit
    contexts), the context byte, the number of bits and the value -/
structure Sym where
  lit : Bool
  c : Nat
  n : Nat
  val : Nat

/-- `setContext; encodeBits` for each symbol -/
def encSyms (dstLen lpc : Nat) : List Sym → Enc → Array Nat → Array Nat → Out (Enc × Array Nat × Array Nat)
  | [], e, pl, pm => .ok (e, pl, pm)
  | y :: ys, e, pl, pm =>
    if y.lit then
      match encBits dstLen (y.c <<< 9) y.val y.n 1 e pl with
      | .ok r => encSyms dstLen lpc ys r.1 r.2 pm
      | .err x => .err x
      | .fault k => .fault k
    else
      match encBits dstLen (y.c <<< lpc) y.val y.n 1 e pm with
      | .ok r => encSyms dstLen lpc ys r.1 pl r.2
      | .err x => .err x
      | .fault k => .fault k

/-- `setContext; decodeBits` for each symbol shape; the decoded values (low `n` bits of `c1`) in order -/
def decSyms (src : Array Nat) (lpc : Nat) : List Sym → Dec → Array Nat → Array Nat → Out (List Nat × Dec)
  | [], d, _, _ => .ok ([], d)
  | y :: ys, d, pl, pm =>
    if y.lit then
      match decBits src (y.c <<< 9) y.n 1 d pl with
      | .ok r =>
        match decSyms src lpc ys r.2.1 r.2.2 pm with
        | .ok q => .ok (r.1 % 2 ^ y.n :: q.1, q.2)
        | .err x => .err x
        | .fault k => .fault k
      | .err x => .err x
      | .fault k => .fault k
    else
      match decBits src (y.c <<< lpc) y.n 1 d pm with
      | .ok r =>
        match decSyms src lpc ys r.2.1 pl r.2.2 with
        | .ok q => .ok (r.1 % 2 ^ y.n :: q.1, q.2)
        | .err x => .err x
        | .fault k => .fault k
      | .err x => .err x
      | .fault k => .fault k

theorem encSyms_back {dstLen lpc : Nat} {S : List Nat} (hS : Bytes S) {ys : List Sym} {e : Enc} {pl pm : Array Nat}
    {r : Enc × Array Nat × Array Nat} (hi : EInv e) (hpl : ProbOk pl) (hpm : ProbOk pm)
    (h : encSyms dstLen lpc ys e pl pm = .ok r) :
    EInv r.1 ∧ (OutBytes e → OutBytes r.1) ∧ (Good S r.1 → Good S e) := by
  induction ys generalizing e pl pm with
  | nil =>
    simp only [encSyms] at h
    injection h with h
    subst h
    exact ⟨hi, id, id⟩
  | cons y ys ih =>
    simp only [encSyms] at h
    split at h
    · split at h
      · rename_i r1 hr1
        obtain ⟨i1, p1, g1, b1, _⟩ := encBits_ok hS hi hpl (e' := r1.1) (t' := r1.2) hr1
        obtain ⟨i2, b2, g2⟩ := ih i1 p1 hpm h
        exact ⟨i2, fun hb => b2 (b1 hb), fun hg => g1 (g2 hg)⟩
      · cases h
      · cases h
    · split at h
      · rename_i r1 hr1
        obtain ⟨i1, p1, g1, b1, _⟩ := encBits_ok hS hi hpm (e' := r1.1) (t' := r1.2) hr1
        obtain ⟨i2, b2, g2⟩ := ih i1 hpl p1 h
        exact ⟨i2, fun hb => b2 (b1 hb), fun hg => g1 (g2 hg)⟩
      · cases h
      · cases h

theorem decSyms_sim {dstLen lpc : Nat} {S : List Nat} (hS : Bytes S) {ys : List Sym} {e : Enc} {pl pm : Array Nat}
    {r : Enc × Array Nat × Array Nat} {d : Dec} (hi : EInv e) (hpl : ProbOk pl) (hpm : ProbOk pm)
    (h : encSyms dstLen lpc ys e pl pm = .ok r) (hg : Good S r.1) (hr : DRel S e d) :
    ∃ d', decSyms S.toArray lpc ys d pl pm = .ok (ys.map (fun y => y.val % 2 ^ y.n), d') ∧ DRel S r.1 d' := by
  induction ys generalizing e pl pm d with
  | nil =>
    simp only [encSyms] at h
    injection h with h
    subst h
    exact ⟨d, rfl, hr⟩
  | cons y ys ih =>
    simp only [encSyms] at h
    have hmod : ∀ n v : Nat, (1 * 2 ^ n + v % 2 ^ n) % 2 ^ n = v % 2 ^ n := by
      intro n v
      rw [Nat.one_mul, Nat.add_mod_left, Nat.mod_mod]
    split at h
    · rename_i hlit
      split at h
      · rename_i r1 hr1
        obtain ⟨i1, p1, _⟩ := encBits_ok hS hi hpl (e' := r1.1) (t' := r1.2) hr1
        obtain ⟨d1, hd1, rel1⟩ :=
          decBits_sim hS hi hpl (e' := r1.1) (t' := r1.2) hr1 ((encSyms_back hS i1 p1 hpm h).2.2 hg) hr
        obtain ⟨d', hd', rel'⟩ := ih i1 p1 hpm h rel1
        refine ⟨d', ?_, rel'⟩
        simp only [decSyms, hlit, if_true, hd1, hd', List.map_cons, hmod]
      · cases h
      · cases h
    · rename_i hlit
      split at h
      · rename_i r1 hr1
        obtain ⟨i1, p1, _⟩ := encBits_ok hS hi hpm (e' := r1.1) (t' := r1.2) hr1
        obtain ⟨d1, hd1, rel1⟩ :=
          decBits_sim hS hi hpm (e' := r1.1) (t' := r1.2) hr1 ((encSyms_back hS i1 hpl p1 h).2.2 hg) hr
        obtain ⟨d', hd', rel'⟩ := ih i1 hpl p1 h rel1
        refine ⟨d', ?_, rel'⟩
        simp only [decSyms, hlit, hd1, hd', List.map_cons, hmod]
        simp
      · cases h
      · cases h

/-- **the coder round trip**: any sequence of symbols coded after a header `out0` (of bytes), then `dispose`:
    a decoder started right after the header, driven with the same symbol shapes and the same initial tables,
    returns the values and stops exactly at the end of the output -/
theorem coder_roundtrip {dstLen lpc : Nat} (out0 : Array Nat) (hout0 : ∀ k, out0.getD k 0 < 256)
    (ys : List Sym) (pl pm : Array Nat) (hpl : ProbOk pl) (hpm : ProbOk pm)
    {r : Enc × Array Nat × Array Nat} (h : encSyms dstLen lpc ys ⟨0, TOP, out0⟩ pl pm = .ok r)
    {out : Array Nat} (hd : r.1.dispose dstLen = .ok out) :
    ∃ d0 d', Dec.init out.toList.toArray out0.size = .ok d0 ∧
      decSyms out.toList.toArray lpc ys d0 pl pm = .ok (ys.map (fun y => y.val % 2 ^ y.n), d') ∧
      d'.idx = out.size := by
  obtain ⟨i1, b1, _⟩ := encSyms_back bytes_nil (einv_init out0) hpl hpm h
  obtain ⟨g1, hsz, _⟩ := dispose_good i1 hd
  have hS : Bytes out.toList := by
    intro k
    rw [toList_getD]
    exact dispose_bytes hd (b1 hout0) k
  have gi := (encSyms_back hS (einv_init out0) hpl hpm h).2.2 g1
  have hlen : out.toList.length = out.size := Array.length_toList
  have hrel : DRel out.toList ⟨0, TOP, out0⟩ ⟨0, TOP, beN out.toList.toArray out0.size 8, out0.size + 8⟩ := by
    refine ⟨rfl, rfl, ?_, rfl⟩
    show beN out.toList.toArray out0.size 8 = val7 out.toList out0.size
    rw [beN8, gi.top]
    simp
  obtain ⟨d', hd', rel'⟩ := decSyms_sim hS (einv_init out0) hpl hpm h g1 hrel
  refine ⟨_, d', ?_, hd', by rw [rel'.idx, hsz]⟩
  unfold Dec.init
  have := gi.len
  simp only at this
  rw [if_pos (by simp only [List.size_toArray, hlen]; omega)]

end Kanzi.ROLZ
