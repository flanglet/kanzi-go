/-
`WriteArray`: the byte-aligned branch (byte loop, bulk copy loop, trailing copy), the unaligned
branch (256-bit and 64-bit word loops), the tail, and the full operation.
-/
import Kanzi.Proofs.OBSCore

namespace Kanzi.OBS
open Kanzi.Bits

theorem Step.refl (s : St) (h : Inv s) : Step s s [] :=
  { toProg := Prog.refl s, inv := h, sabs := by simp }

/-- result of one of the loops of `WriteArray`: on success the bytes `c` were consumed from `rest`
    and appended, and `post` holds.  The unaligned loops overwrite `availBits` and restore it
    afterwards; `v` is the view under which the stream satisfies its invariant meanwhile. -/
def LRes (v : St → St) (s : St) (rest : List Byte) (rem : Nat) (l : LS) (post : LS → Prop) : Prop :=
  (l.out = .ok ∧ (∃ c, rest = c ++ l.rest ∧ rem = 8 * c.length + l.rem ∧
      Step (v s) (v l.st) (byteBits c)) ∧ post l) ∨
  (l.out = .panic .io ∧ IoFail s l.st)

theorem LRes.refl {v : St → St} {s : St} {rest : List Byte} {rem : Nat} {post : LS → Prop}
    (h : Inv (v s)) (hp : post ⟨s, rest, rem, .ok⟩) : LRes v s rest rem ⟨s, rest, rem, .ok⟩ post :=
  Or.inl ⟨rfl, ⟨[], rfl, by simp, Step.refl _ h⟩, hp⟩

theorem LRes.trans {v : St → St} {s p : St} {c r rest : List Byte} {rem rem' : Nat} {l : LS}
    {post : LS → Prop} (h1 : rest = c ++ r) (h2 : rem = 8 * c.length + rem')
    (st : Step (v s) (v p) (byteBits c)) (pg : Prog s p) (h : LRes v p r rem' l post) :
    LRes v s rest rem l post := by
  rcases h with ⟨e, ⟨c', hc1, hc2, hc3⟩, hp⟩ | ⟨e, f⟩
  · refine Or.inl ⟨e, ⟨c ++ c', ?_, ?_, ?_⟩, hp⟩
    · rw [List.append_assoc, ← hc1, h1]
    · rw [List.length_append]; omega
    · rw [byteBits_append]; exact st.trans hc3
  · exact Or.inr ⟨e, IoFail.after pg f⟩

theorem LRes.step {v : St → St} {s p : St} {rest : List Byte} {rem n : Nat} {l : LS}
    {post : LS → Prop} (st : Step (v s) (v p) (byteBits (rest.take n))) (pg : Prog s p)
    (hn : n ≤ rest.length) (hr : 8 * n ≤ rem) (h : LRes v p (rest.drop n) (rem - 8 * n) l post) :
    LRes v s rest rem l post :=
  LRes.trans (List.take_append_drop n rest).symm (by rw [List.length_take]; omega) st pg h

theorem Res.after {s p : St} {r : St × Outcome} {b1 b2 : Bits} (st : Step s p b1) (h : Res p r b2) :
    Res s r (b1 ++ b2) :=
  h.imp (fun ⟨e, f⟩ => ⟨e, st.trans f⟩) (fun ⟨e, f⟩ => ⟨e, IoFail.after st.toProg f⟩)

theorem rem_le_of_split {c r rest : List Byte} {rem rem' : Nat} (h1 : rest = c ++ r)
    (h2 : rem = 8 * c.length + rem') (hr : rem ≤ 8 * rest.length) : rem' ≤ 8 * r.length := by
  subst h1
  rw [List.length_append] at hr
  omega

theorem take_bits_of_split {c r rest : List Byte} {rem rem' : Nat} (h1 : rest = c ++ r)
    (h2 : rem = 8 * c.length + rem') :
    (byteBits rest).take rem = byteBits c ++ (byteBits r).take rem' := by
  rw [h1, h2, byteBits_append, ← byteBits_length c, List.take_length_add_append]

theorem byteBits_one (b : Byte) : byteBits [b] = natBits b.toNat 8 := List.append_nil _

theorem natBits_byte (b : Byte) : natBits (b.setWidth 64).toNat 8 = byteBits [b] := by
  rw [toNat_setWidth64, byteBits_one]

theorem byteLoop_spec (u : Bool) (rest : List Byte) : ∀ (s : St) (rem : Nat), Inv s → rem ≤ 8 * rest.length →
    LRes id s rest rem (byteLoop u s rest rem)
      (fun l => (u = true ∧ l.st.availBits = 64) ∨ l.rem < 8) := by
  induction rest with
  | nil =>
    intro s rem h hr
    have : rem = 0 := by simpa using hr
    subst this
    unfold byteLoop
    simp only [Nat.zero_lt_succ, decide_true, Bool.or_true, if_true]
    exact LRes.refl h (Or.inr (by simp))
  | cons b tl ih =>
    intro s rem h hr
    unfold byteLoop
    by_cases hc : ((u && s.availBits == 64) || decide (rem < 8)) = true
    · rw [if_pos hc]
      simp only [Bool.or_eq_true, Bool.and_eq_true, beq_iff_eq, decide_eq_true_eq] at hc
      exact LRes.refl h hc
    · rw [if_neg hc]
      simp only [Bool.or_eq_true, Bool.and_eq_true, beq_iff_eq, decide_eq_true_eq, not_or] at hc
      have hw := writeBits_spec s (b.setWidth 64) 8 h (by omega)
      rw [natBits_byte] at hw
      rcases hw with ⟨e, f⟩ | ⟨e, f⟩
      · simp only [e]
        exact LRes.step (n := 1) f f.toProg (by simp) (by omega)
          (ih _ (rem - 8) f.inv (by simp at hr; omega))
      · simp only [e]
        exact Or.inr ⟨rfl, f⟩

theorem curBits_def (s : St) : curBits s = (wordBits s.current).take (64 - s.availBits) := rfl

theorem BStep.toStep {s s' : St} {bits : Bits} (h : Inv s) (hb : BStep s s' bits)
    (hc : s.availBits = 64 ∨ bits = []) : Step s s' bits := by
  refine ⟨hb.toProg, ⟨hb.binv, by rw [hb.av]; exact h.av1, by rw [hb.av]; exact h.av64,
    by rw [hb.av, hb.cur]; exact h.low⟩, ?_⟩
  have e : curBits s' = curBits s := by rw [curBits_def, curBits_def, hb.av, hb.cur]
  unfold abs
  rw [hb.babs, e]
  rcases hc with hc | hc
  · have : curBits s = [] := by rw [curBits_def, hc]; simp
    simp [this]
  · simp [hc]

theorem bulkStep_spec (s : St) (rest : List Byte) (h : BufInv s)
    (hn : s.buffer.length - 8 - s.position ≤ rest.length) :
    ((bulkStep s rest).2 = .ok ∧
        BStep s (bulkStep s rest).1 (byteBits (rest.take (s.buffer.length - 8 - s.position))) ∧
        (bulkStep s rest).1.position = 0) ∨
    ((bulkStep s rest).2 = .panic .io ∧ IoFail s (bulkStep s rest).1) := by
  have hl := h.posle
  have h16 := h.len16
  unfold bulkStep
  have hlen : (rest.take (s.buffer.length - 8 - s.position)).length = s.buffer.length - 8 - s.position := by
    simp; omega
  rcases flush_spec { s with buffer := copyInto s.buffer s.position (rest.take (s.buffer.length - 8 - s.position)),
                             position := s.buffer.length - 8 } h.open_ (by simp) with ⟨e, f⟩ | ⟨e, _, f⟩
  · left
    refine ⟨e, ⟨⟨by rw [f.len]; simp, f.plan, f.calls, f.nofail, f.counted, f.sinkPre⟩, ?_, ?_, f.cur, f.av⟩, f.pos⟩
    · refine ⟨by rw [f.cl]; exact h.open_, by rw [f.buf]; simpa using h16, by rw [f.buf]; simpa using h.len8,
        by rw [f.pos], by rw [f.pos, f.buf]; simp; omega⟩
    · rw [f.fabs]
      exact absBuf_copy s _ _ (by omega) rfl rfl (by show s.buffer.length - 8 = _; omega)
  · right
    exact ⟨e, f.plan, f.lt, f.failed, f.before⟩

/-- a round of the bulk copy takes the `k` bytes that fill the buffer; `rem / 8 ≥ k` of the `n` bytes at
    hand are wanted -/
theorem bulk_arith {rem n k : Nat} (hx : ¬ rem / 8 < k) (hr : rem ≤ 8 * n) :
    k ≤ n ∧ 8 * k ≤ rem ∧ rem - 8 * k ≤ 8 * (n - k) ∧ (rem < 8 → k = 0) := by
  omega

/-- the fuel of the bulk copy: a round that starts with an empty buffer takes at least 8 bytes -/
theorem bulk_fuel {n f pos len : Nat} (hf : n + 1 < f + 1 + (if pos = 0 then 1 else 0))
    (h16 : 16 ≤ len) (hk : len - 8 - pos ≤ n) : n - (len - 8 - pos) + 1 < f + 1 := by
  split at hf <;> omega

theorem bulkLoop_spec : ∀ (f : Nat) (s : St) (rest : List Byte) (rem : Nat), Inv s →
    (s.availBits = 64 ∨ rem < 8) → rem ≤ 8 * rest.length →
    rest.length + 1 < f + (if s.position = 0 then 1 else 0) →
    LRes id s rest rem (bulkLoop f s rest rem)
      (fun l => l.rem / 8 < s.buffer.length - 8 - l.st.position ∧ l.st.availBits = s.availBits) := by
  intro f
  induction f with
  | zero =>
    intro s rest rem h ha hr hf
    split at hf <;> omega
  | succ f ih =>
    intro s rest rem h ha hr hf
    unfold bulkLoop
    rw [if_neg (Nat.not_lt.2 (Nat.le_sub_of_add_le h.posle))]
    by_cases hx : rem / 8 < s.buffer.length - 8 - s.position
    · rw [if_pos hx]
      exact LRes.refl h ⟨hx, rfl⟩
    · obtain ⟨b1, b2, b3, b4⟩ := bulk_arith hx hr
      rw [if_neg hx, if_neg (Nat.not_lt.2 b1)]
      rcases bulkStep_spec s rest h.toBufInv b1 with ⟨e, fb, hp0⟩ | ⟨e, fb⟩
      · simp only [e]
        -- a round either fills a whole buffer (word aligned stream) or copies nothing
        have st : Step s (bulkStep s rest).1 (byteBits (rest.take (s.buffer.length - 8 - s.position))) :=
          fb.toStep h (ha.imp id fun h1 => by rw [b4 h1]; rfl)
        refine LRes.step st st.toProg b1 b2 ?_
        have := ih _ (rest.drop (s.buffer.length - 8 - s.position))
          (rem - 8 * (s.buffer.length - 8 - s.position)) st.inv
          (by rw [fb.av]; exact ha.imp id fun h1 => Nat.lt_of_le_of_lt (Nat.sub_le _ _) h1)
          (by rw [List.length_drop]; exact b3)
          (by rw [hp0, if_pos rfl, List.length_drop]; exact bulk_fuel hf h.len16 b1)
        rw [fb.len, fb.av] at this
        exact this
      · simp only [e]
        exact Or.inr ⟨rfl, fb⟩


/-- arithmetic of the trailing copy: `m = rem / 64` groups of 8 bytes, `q = rem / 8` whole bytes, `pos`
    bytes buffered, `n` bytes at hand -/
theorem tailCopy_arith {rem m q pos len n : Nat} (h1 : 64 * m ≤ rem) (h2 : rem < 64 * m + 64)
    (h3 : rem < 8 * q + 8) (hx : q < len - 8 - pos) (hr : rem ≤ 8 * n) (hm : m * 8 > 0) :
    m * 8 ≤ n ∧ rem = 8 * (m * 8) + (rem - 8 * (m * 8)) ∧ rem - 8 * (m * 8) < 64 ∧
    pos + m * 8 + 8 ≤ len ∧ ¬ rem < 8 := by
  omega

theorem tailCopy_spec (b : LS) (h : Inv b.st) (ha : b.st.availBits = 64 ∨ b.rem < 8)
    (hr : b.rem ≤ 8 * b.rest.length) (hx : b.rem / 8 < b.st.buffer.length - 8 - b.st.position)
    (ho : b.out = .ok) : LRes id b.st b.rest b.rem (tailCopy b) (fun l => l.rem < 64) := by
  left
  unfold tailCopy
  have h1 : 64 * (b.rem / 64) ≤ b.rem := Nat.mul_div_le _ _
  have h2 : b.rem < 64 * (b.rem / 64) + 64 := Nat.lt_mul_div_succ _ (by decide)
  have h3 : b.rem < 8 * (b.rem / 8) + 8 := Nat.lt_mul_div_succ _ (by decide)
  generalize b.rem / 64 = m at *
  generalize b.rem / 8 = q at *
  by_cases hpos : m * 8 > 0
  · rw [if_pos hpos]
    obtain ⟨a1, a2, a3, a5, a6⟩ := tailCopy_arith h1 h2 h3 hx hr hpos
    have hlen : (b.rest.take (m * 8)).length = m * 8 := by
      rw [List.length_take]; exact Nat.min_eq_left a1
    refine ⟨rfl, ⟨b.rest.take (m * 8), (List.take_append_drop _ _).symm, by rw [hlen]; exact a2, ?_⟩, a3⟩
    apply BStep.toStep h _ (Or.inl (ha.resolve_right a6))
    refine ⟨⟨by simp, rfl, Nat.le_refl _, fun k a b => by simp at b; omega, id, ⟨[], by simp⟩⟩,
      ⟨h.open_, by simpa using h.len16, by simpa using h.len8,
        (Nat.add_mul_mod_self_right _ _ _).trans h.pos8,
        by show b.st.position + m * 8 + 8 ≤ (copyInto _ _ _).length; rw [copyInto_length]; exact a5⟩,
      absBuf_copy b.st _ _ (by rw [hlen]; exact Nat.le_trans (Nat.le_add_right _ 8) a5) rfl rfl
        (by rw [hlen]; rfl), rfl, rfl⟩
  · rw [if_neg hpos]
    exact ⟨ho, ⟨[], rfl, by simp, Step.refl _ h⟩, by omega⟩

theorem alignedPart_spec (s : St) (bytes : List Byte) (count : Nat) (h : Inv s)
    (hc : count ≤ 8 * bytes.length) :
    LRes id s bytes count (alignedPart s bytes count) (fun l => l.rem < 64) := by
  unfold alignedPart
  have hA := byteLoop_spec true bytes s count h hc
  generalize byteLoop true s bytes count = a at hA
  rcases hA with ⟨ea, ⟨ca, ha1, ha2, ha3⟩, hpa⟩ | ⟨ea, fa⟩
  · simp only [ea]
    refine LRes.trans ha1 ha2 ha3 ha3.toProg ?_
    have hra := rem_le_of_split ha1 ha2 hc
    have hav : a.st.availBits = 64 ∨ a.rem < 8 := hpa.imp And.right id
    have hB := bulkLoop_spec (a.rest.length + 2) a.st a.rest a.rem ha3.inv hav hra (by split <;> omega)
    generalize bulkLoop (a.rest.length + 2) a.st a.rest a.rem = b at hB
    rcases hB with ⟨eb, ⟨cb, hb1, hb2, hb3⟩, hpb1, hpb2⟩ | ⟨eb, fb⟩
    · simp only [eb]
      have hlen : b.st.buffer.length = a.st.buffer.length := hb3.len
      exact LRes.trans hb1 hb2 hb3 hb3.toProg (tailCopy_spec b hb3.inv (by rw [hpb2]; omega)
        (rem_le_of_split hb1 hb2 hra) (by rw [hlen]; exact hpb1) eb)
    · simp only [eb]
      exact Or.inr ⟨eb, fb⟩
  · simp only [ea]
    exact Or.inr ⟨ea, fa⟩

/-! ### the unaligned branch -/

/-- the stream as the unaligned loops see it: `availBits` is `a` throughout (the field is
    overwritten with 64 inside the loops and restored afterwards) -/
def setAvail (a : Nat) (s : St) : St := { s with availBits := a }

theorem Prog.of_setAvail {a : Nat} {s p : St} (h : Prog (setAvail a s) (setAvail a p)) : Prog s p :=
  ⟨h.len, h.plan, h.calls, h.nofail, h.counted, h.sinkPre⟩

theorem lenLt_iff (l : List Byte) (n : Nat) (hn : 1 ≤ n) : lenLt l n = true ↔ l.length < n := by
  unfold lenLt
  rw [List.isEmpty_iff, List.drop_eq_nil_iff]
  omega

/-- word-level merge of the unaligned loops: `x | v>>r` -/
theorem pair_merge (x v : BitVec 64) (a : Nat) (ha : a ≤ 64) (hz : LowZero x a) :
    wordBits (x ||| (v >>> (64 - a))) = (wordBits x).take (64 - a) ++ (wordBits v).take a := by
  have := wordBits_merge_ge x v a 64 ha (Nat.le_refl _) hz
  unfold merge at this
  simpa [wordBits] using this

theorem shift_take (v : BitVec 64) (a : Nat) (ha : a ≤ 64) :
    (wordBits (v <<< a)).take (64 - a) = (wordBits v).drop a := by
  have := curBits_shift v a 64 ha (Nat.le_refl _)
  have e : 64 - (64 - a) = a := by omega
  rw [e] at this
  exact this

theorem wordStep_spec (a : Nat) (s : St) (rest : List Byte) (h : Inv (setAvail a s)) (hl : 8 ≤ rest.length) :
    ((wordStep a s rest).2 = .ok ∧
      Step (setAvail a s) (setAvail a (wordStep a s rest).1) (byteBits (rest.take 8))) ∨
    ((wordStep a s rest).2 = .panic .io ∧ IoFail s (wordStep a s rest).1) := by
  have ha64 : a ≤ 64 := h.av64
  have hz : LowZero s.current a := h.low
  unfold wordStep
  have hb : BufInv s := h.toBufInv.congr rfl rfl rfl
  have hp := push_spec s (s.current ||| (be64 rest >>> (64 - a))) hb
  rcases hres : push s (s.current ||| (be64 rest >>> (64 - a))) with ⟨p, o⟩
  rw [hres] at hp
  rcases hp with ⟨e, f⟩ | ⟨e, f⟩
  · left
    simp only at e f
    subst e
    refine ⟨rfl, ⟨f.len, f.plan, f.calls, f.nofail, f.counted, f.sinkPre⟩,
      ⟨f.binv.congr rfl rfl rfl, h.av1, ha64, lowZero_shift _ _⟩, ?_⟩
    have fb := f.babs
    simp only [absBuf_def] at fb
    simp only [abs_def, setAvail, fb]
    rw [pair_merge _ _ _ ha64 hz, shift_take _ _ ha64, wordBits_be64 _ hl]
    simp only [List.append_assoc]
    rw [List.take_append_drop]
  · right
    simp only at e f
    subst e
    exact ⟨rfl, f⟩

theorem wordLoop_spec (a : Nat) : ∀ (f : Nat) (s : St) (rest : List Byte) (rem : Nat),
    Inv (setAvail a s) → rem ≤ 8 * rest.length → rem / 64 < f →
    LRes (setAvail a) s rest rem (wordLoop a f s rest rem) (fun l => l.rem < 64) := by
  intro f
  induction f with
  | zero => intro s rest rem _ _ hf; omega
  | succ f ih =>
    intro s rest rem h hr hf
    unfold wordLoop
    by_cases hx : rem < 64
    · rw [if_pos hx]
      exact LRes.refl h hx
    · rw [if_neg hx]
      have hl : ¬ lenLt rest 8 = true := by rw [lenLt_iff _ _ (by omega)]; omega
      rw [if_neg hl]
      rcases wordStep_spec a s rest h (by omega) with ⟨e, st⟩ | ⟨e, fb⟩
      · simp only [e]
        exact LRes.step st st.toProg.of_setAvail (by omega) (by omega)
          (ih _ (rest.drop 8) (rem - 64) st.inv (by simp only [List.length_drop]; omega) (by omega))
      · simp only [e]
        exact Or.inr ⟨rfl, fb⟩


theorem putWords_spec : ∀ (ws : List (BitVec 64)) (buf : List Byte) (pos : Nat),
    pos + 8 * ws.length ≤ buf.length →
    (putWords buf pos ws).2 = true ∧ (putWords buf pos ws).1.length = buf.length ∧
    (putWords buf pos ws).1.take (pos + 8 * ws.length) = buf.take pos ++ ws.flatMap wordBytes := by
  intro ws
  induction ws with
  | nil => intro buf pos _; simp [putWords]
  | cons w ws ih =>
    intro buf pos h
    simp only [List.length_cons] at h
    unfold putWords
    rw [if_neg (by omega)]
    have hw : (wordBytes w).length = 8 := rfl
    obtain ⟨h1, h2, h3⟩ := ih (copyInto buf pos (wordBytes w)) (pos + 8) (by simp; omega)
    refine ⟨h1, by rw [h2]; simp, ?_⟩
    have e : pos + 8 * (w :: ws).length = pos + 8 + 8 * ws.length := by simp; omega
    rw [e, h3]
    have := copyInto_take buf pos (wordBytes w) (by rw [hw]; omega)
    rw [hw] at this
    rw [this]
    simp

/-- a step that only (possibly) flushed -/
structure Kept (s s' : St) : Prop extends Prog s s' where
  fabs : absBuf s' = absBuf s
  buf : s'.buffer = s.buffer
  cur : s'.current = s.current
  av : s'.availBits = s.availBits
  cl : s'.closed = s.closed

theorem flush32_spec (s : St) (h : BufInv s) (h40 : 40 ≤ s.buffer.length) :
    ((flush32 s).2 = .ok ∧ Kept s (flush32 s).1 ∧ (flush32 s).1.position % 8 = 0 ∧
      (flush32 s).1.position + 40 ≤ s.buffer.length) ∨
    ((flush32 s).2 = .panic .io ∧ IoFail s (flush32 s).1) := by
  unfold flush32
  by_cases hx : s.buffer.length ≤ s.position + 32
  · rw [if_pos hx]
    rcases flush_spec s h.open_ (by have := h.posle; omega) with ⟨e, f⟩ | ⟨e, _, f⟩
    · left; exact ⟨e, ⟨f.toProg, f.fabs, f.buf, f.cur, f.av, f.cl⟩, by rw [f.pos], by rw [f.pos]; omega⟩
    · right; exact ⟨e, f⟩
  · rw [if_neg hx]
    left
    have := h.pos8
    have := h.len8
    exact ⟨rfl, ⟨Prog.refl s, rfl, rfl, rfl, rfl, rfl⟩, h.pos8, by show s.position + 40 ≤ _; omega⟩

theorem take32 (l : List Byte) :
    l.take 32 = l.take 8 ++ ((l.drop 8).take 8 ++ ((l.drop 16).take 8 ++ (l.drop 24).take 8)) := by
  have e1 : l.take 32 = l.take 8 ++ (l.drop 8).take 24 := by
    rw [show (32 : Nat) = 8 + 24 from rfl, List.take_add]
  have e2 : (l.drop 8).take 24 = (l.drop 8).take 8 ++ (l.drop 16).take 16 := by
    rw [show (24 : Nat) = 8 + 16 from rfl, List.take_add, List.drop_drop]
  have e3 : (l.drop 16).take 16 = (l.drop 16).take 8 ++ (l.drop 24).take 8 := by
    rw [show (16 : Nat) = 8 + 8 from rfl, List.take_add, List.drop_drop]
  rw [e1, e2, e3]


theorem take_drop_append {α : Type} (a : Nat) (l r : List α) : l.take a ++ (l.drop a ++ r) = l ++ r := by
  rw [← List.append_assoc, List.take_append_drop]

theorem words4_bits (cur : BitVec 64) (a : Nat) (rest : List Byte) (ha : a ≤ 64) (hz : LowZero cur a)
    (hl : 32 ≤ rest.length) :
    byteBits ((words4 (cur ||| (be64 rest >>> (64 - a))) a rest).flatMap wordBytes) ++
      (wordBits (be64 (rest.drop 24) <<< a)).take (64 - a) =
    (wordBits cur).take (64 - a) ++ byteBits (rest.take 32) := by
  simp only [words4, List.flatMap_cons, List.flatMap_nil, List.append_nil, byteBits_append,
    byteBits_wordBytes]
  rw [pair_merge _ _ _ ha hz, pair_merge _ _ _ ha (lowZero_shift _ _),
    pair_merge _ _ _ ha (lowZero_shift _ _), pair_merge _ _ _ ha (lowZero_shift _ _)]
  simp only [shift_take _ _ ha]
  rw [take32, byteBits_append, byteBits_append, byteBits_append,
    ← wordBits_be64 rest (by omega), ← wordBits_be64 (rest.drop 8) (by simp; omega),
    ← wordBits_be64 (rest.drop 16) (by simp; omega), ← wordBits_be64 (rest.drop 24) (by simp; omega)]
  simp only [List.append_assoc, take_drop_append]
  rw [List.take_append_drop]

theorem word4Step_spec (a : Nat) (s : St) (rest : List Byte) (h : Inv (setAvail a s))
    (h40 : 40 ≤ s.buffer.length) (hl : 32 ≤ rest.length) :
    ((word4Step a s rest).2 = .ok ∧
      Step (setAvail a s) (setAvail a (word4Step a s rest).1) (byteBits (rest.take 32))) ∨
    ((word4Step a s rest).2 = .panic .io ∧ IoFail s (word4Step a s rest).1) := by
  have ha64 : a ≤ 64 := h.av64
  have hz : LowZero s.current a := h.low
  unfold word4Step
  dsimp only
  have hb : BufInv { s with current := s.current ||| (be64 rest >>> (64 - a)) } :=
    h.toBufInv.congr rfl rfl rfl
  have hf := flush32_spec _ hb h40
  rcases hres : flush32 { s with current := s.current ||| (be64 rest >>> (64 - a)) } with ⟨q, o⟩
  rw [hres] at hf
  rcases hf with ⟨e, k, hq8, hq40⟩ | ⟨e, f⟩
  · simp only at e k hq8 hq40
    subst e
    simp only
    have hqb : q.buffer = s.buffer := k.buf
    have hfit : q.position + 8 * (words4 (s.current ||| (be64 rest >>> (64 - a))) a rest).length ≤ q.buffer.length := by
      rw [hqb]; simp only [words4, List.length_cons, List.length_nil]; omega
    obtain ⟨p1, p2, p3⟩ := putWords_spec _ q.buffer q.position hfit
    rcases hpw : putWords q.buffer q.position (words4 (s.current ||| (be64 rest >>> (64 - a))) a rest) with ⟨nb, okb⟩
    rw [hpw] at p1 p2 p3
    simp only at p1 p2 p3
    subst p1
    rw [if_pos rfl]
    left
    have hnl : nb.length = s.buffer.length := by rw [p2, hqb]
    refine ⟨rfl, ⟨by show nb.length = _; exact hnl, k.plan, k.calls, k.nofail, k.counted, k.sinkPre⟩,
      ⟨⟨by show q.closed = false; rw [k.cl]; exact h.open_, by show 16 ≤ nb.length; omega,
        by show nb.length % 8 = 0; rw [hnl]; exact h.len8, by show (q.position + 32) % 8 = 0; omega,
        by show q.position + 32 + 8 ≤ nb.length; omega⟩, h.av1, ha64, lowZero_shift _ _⟩, ?_⟩
    have fb := k.fabs
    simp only [absBuf_def] at fb
    simp only [abs_def, setAvail]
    have e32 : q.position + 32 = q.position + 8 * (words4 (s.current ||| (be64 rest >>> (64 - a))) a rest).length := rfl
    rw [e32, p3, byteBits_append, ← List.append_assoc (byteBits q.sink), fb]
    simp only [List.append_assoc]
    rw [words4_bits _ _ _ ha64 hz hl]
  · right
    simp only at e f
    subst e
    exact ⟨rfl, f.plan, f.lt, f.failed, f.before⟩

theorem word4Loop_spec (a : Nat) : ∀ (f : Nat) (s : St) (rest : List Byte) (rem : Nat),
    Inv (setAvail a s) → 40 ≤ s.buffer.length → rem ≤ 8 * rest.length → rem / 256 < f →
    LRes (setAvail a) s rest rem (word4Loop a f s rest rem) (fun l => l.rem < 256) := by
  intro f
  induction f with
  | zero => intro s rest rem _ _ _ hf; omega
  | succ f ih =>
    intro s rest rem h h40 hr hf
    unfold word4Loop
    by_cases hx : rem < 256
    · rw [if_pos hx]
      exact LRes.refl h hx
    · rw [if_neg hx]
      have hl : ¬ lenLt rest 32 = true := by rw [lenLt_iff _ _ (by omega)]; omega
      rw [if_neg hl]
      rcases word4Step_spec a s rest h h40 (by omega) with ⟨e, st⟩ | ⟨e, fb⟩
      · simp only [e]
        have hlen : (word4Step a s rest).1.buffer.length = s.buffer.length := st.len
        exact LRes.step st st.toProg.of_setAvail (by omega) (by omega)
          (ih _ (rest.drop 32) (rem - 256) st.inv (by omega)
            (by simp only [List.length_drop]; omega) (by omega))
      · simp only [e]
        exact Or.inr ⟨rfl, fb⟩


theorem setAvail_self (s : St) : setAvail s.availBits s = s := by cases s; rfl

theorem unalignedPart_spec (s : St) (bytes : List Byte) (count : Nat) (h : Inv s)
    (h40 : 40 ≤ s.buffer.length) (hc : count ≤ 8 * bytes.length) :
    LRes id s bytes count (unalignedPart s bytes count) (fun l => l.rem < 64) := by
  unfold unalignedPart
  dsimp only
  have hs : Inv (setAvail s.availBits s) := by rw [setAvail_self]; exact h
  have hC := word4Loop_spec s.availBits (count / 256 + 1) s bytes count hs h40 hc (by omega)
  generalize word4Loop s.availBits (count / 256 + 1) s bytes count = c at hC
  rcases hC with ⟨ec, ⟨cc, hc1, hc2, hc3⟩, _⟩ | ⟨ec, fc⟩
  · simp only [ec]
    have hrc := rem_le_of_split hc1 hc2 hc
    have hD := wordLoop_spec s.availBits (c.rem / 64 + 1) c.st c.rest c.rem hc3.inv hrc (by omega)
    generalize wordLoop s.availBits (c.rem / 64 + 1) c.st c.rest c.rem = d at hD
    rcases hD with ⟨ed, ⟨cd, hd1, hd2, hd3⟩, hpd⟩ | ⟨ed, fd⟩
    · simp only [ed]
      refine Or.inl ⟨rfl, ⟨cc ++ cd, ?_, ?_, ?_⟩, hpd⟩
      · show bytes = cc ++ cd ++ d.rest
        rw [List.append_assoc, ← hd1, ← hc1]
      · show count = 8 * (cc ++ cd).length + d.rem
        simp only [List.length_append]; omega
      · rw [byteBits_append]
        have := hc3.trans hd3
        rw [setAvail_self] at this
        exact this
    · simp only [ed]
      exact Or.inr ⟨ed, IoFail.after hc3.toProg.of_setAvail fd⟩
  · simp only [ec]
    exact Or.inr ⟨ec, fc⟩

theorem arrayMain_spec (s : St) (bytes : List Byte) (count : Nat) (h : Inv s)
    (h40 : 40 ≤ s.buffer.length) (hc : count ≤ 8 * bytes.length) :
    LRes id s bytes count (arrayMain s bytes count) (fun l => l.rem < 64) := by
  unfold arrayMain
  by_cases h1 : s.availBits % 8 = 0
  · rw [if_pos h1]; exact alignedPart_spec s bytes count h hc
  · rw [if_neg h1]
    by_cases h2 : count ≥ 64
    · rw [if_pos h2]; exact unalignedPart_spec s bytes count h h40 hc
    · rw [if_neg h2]
      exact LRes.refl h (by show count < 64; omega)

/-- the last, partial byte: `WriteBits(bits[start] >> (8-remaining), remaining)` -/
theorem natBits_partial (b : Byte) (m : Nat) (hm : m ≤ 8) :
    natBits ((b.setWidth 64 >>> (8 - m)).toNat) m = (byteBits [b]).take m := by
  rw [BitVec.toNat_ushiftRight, toNat_setWidth64, Nat.shiftRight_eq_div_pow, byteBits_one,
    natBits_take _ _ _ hm]

theorem arrayTail_spec (l : LS) (h : Inv l.st) (hr : l.rem ≤ 8 * l.rest.length) :
    Res l.st (arrayTail l) ((byteBits l.rest).take l.rem) := by
  unfold arrayTail
  dsimp only
  have hE := byteLoop_spec false l.rest l.st l.rem h hr
  generalize byteLoop false l.st l.rest l.rem = e at hE
  rcases hE with ⟨ee, ⟨c, he1, he2, he3⟩, hpe⟩ | ⟨ee, fe⟩
  · simp only [ee]
    have hlt : e.rem < 8 := by
      rcases hpe with ⟨h1, _⟩ | h1
      · exact absurd h1 (by simp)
      · exact h1
    have hre := rem_le_of_split he1 he2 hr
    rw [take_bits_of_split he1 he2]
    by_cases hpos : e.rem > 0
    · rw [if_pos hpos]
      cases hrest : e.rest with
      | nil => rw [hrest] at hre; simp at hre; omega
      | cons b tl =>
        simp only
        have hw := writeBits_spec e.st (b.setWidth 64 >>> (8 - e.rem)) e.rem he3.inv (by omega)
        rw [natBits_partial b e.rem (by omega)] at hw
        have e2 : (byteBits (b :: tl)).take e.rem = (byteBits [b]).take e.rem := by
          rw [show b :: tl = [b] ++ tl from rfl, byteBits_append, List.take_append_of_le_length (by simp; omega)]
        rw [e2]
        exact Res.after he3 hw
    · rw [if_neg hpos]
      left
      have : e.rem = 0 := by omega
      rw [this]
      simp only [List.take_zero, List.append_nil]
      exact ⟨trivial, he3⟩
  · right
    simp only [ee]
    exact ⟨trivial, fe⟩

theorem writeArray_spec (s : St) (bytes : List Byte) (count : Nat) (h : Inv s)
    (h40 : 40 ≤ s.buffer.length) (hc : count ≤ 8 * bytes.length) :
    Res s (writeArray s bytes count) ((byteBits bytes).take count) := by
  unfold writeArray
  rw [if_neg (by simp [h.open_]), if_neg (by omega)]
  have hM := arrayMain_spec s bytes count h h40 hc
  generalize arrayMain s bytes count = m at hM
  rcases hM with ⟨em, ⟨c, hm1, hm2, hm3⟩, _⟩ | ⟨em, fm⟩
  · simp only [em]
    rw [take_bits_of_split hm1 hm2]
    exact Res.after hm3 (arrayTail_spec m hm3.inv (rem_le_of_split hm1 hm2 hc))
  · right
    simp only [em]
    exact ⟨trivial, fm⟩

end Kanzi.OBS
