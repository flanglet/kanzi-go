/-
Instances of the generic block codec theorem (`Kanzi/Proofs/BlockGen.lean`) with NO remaining
hypothesis: every chain of 1..8 transforms drawn from NullTransform, ZRLT, SBRT (MTFT = mode 1, RANK =
mode 2; in fact any mode), with the NONE entropy codec and with ANS order 0 as the factory builds it
(chunks of 16384 bytes, log range 12).

The order-0 ANS decoder with the buffer bound of `decodeChunkV2` (`Kanzi.BlockGen.ans0DecodeB`, see
`Kanzi/Model/BlockGen.lean`) satisfies the exact-consumption law: on what the encoder wrote, the declared
payload size of every chunk is at most twice the chunk length (`oneChunk_payload`), so the bound
never fires and every chunk is decoded by `EntSmall.ans0DecodeChunk`.
-/
import Kanzi.Proofs.BlockGen
import Kanzi.Proofs.Ans0

namespace Kanzi.BlockGen.Ans0Dec
open Kanzi.Bits Kanzi.EntSmall

theorem chunkB_eq (tbl : Array (Nat × DecSym)) (c f : List Nat) (lr buf : Nat)
    (hp : ans0PayloadLen c f lr ≤ 2 * c.length) (hsz : c.length < 2 ^ 26) (hbuf : 2 * c.length ≤ buf) (rest : Bits) :
    ans0ChunkB tbl lr c.length buf (ans0EncodeChunk c (mkEncSyms f lr) ++ rest) =
      ans0DecodeChunk tbl lr c.length (ans0EncodeChunk c (mkEncSyms f lr) ++ rest) := by
  unfold ans0PayloadLen at hp
  have hv : readVarInt (ans0EncodeChunk c (mkEncSyms f lr) ++ rest) =
      some ((ans0Final c (mkEncSyms f lr)).out.length,
        natBits (ans0Final c (mkEncSyms f lr)).st0 32 ++ (natBits (ans0Final c (mkEncSyms f lr)).st1 32 ++
          (natBits (ans0Final c (mkEncSyms f lr)).st2 32 ++ (natBits (ans0Final c (mkEncSyms f lr)).st3 32 ++
            (ofBytes (ans0Final c (mkEncSyms f lr)).out ++ rest))))) := by
    rw [ans0EncodeChunk_eq]
    simp only [List.append_assoc]
    exact varint_roundtrip _ (by omega) _
  unfold ans0ChunkB
  rw [hv]
  simp only
  rw [if_neg (by omega)]

theorem chunksB_rt (chunkSize lr buf : Nat) (hlr : 8 ≤ lr ∧ lr ≤ 15) (hcs0 : 0 < chunkSize)
    (hcs : chunkSize < 2 ^ 26) : ∀ (fuel : Nat) (blk : List Nat), blk.length ≤ fuel → (∀ b ∈ blk, b < 256) →
    ∃ enc, ans0EncodeChunks fuel chunkSize lr blk = some enc ∧ ∀ rest : Bits, 2 * min chunkSize blk.length ≤ buf →
      ans0DecodeChunksB fuel chunkSize buf blk.length (enc ++ rest) = some (blk, rest) := by
  refine chunkLoop_rt chunkSize hcs0 (fun fuel blk => ans0EncodeChunks fuel chunkSize lr blk)
    (fun fuel bs blk rest => 2 * min chunkSize blk.length ≤ buf →
      ans0DecodeChunksB fuel chunkSize buf blk.length bs = some (blk, rest))
    (fun fuel => by cases fuel <;> exact ⟨rfl, fun _ _ => rfl⟩) ?_
  intro fuel blk h0 hb hclen hcne hdl
  have hbc : ∀ b ∈ blk.take chunkSize, b < 256 := fun b h => hb b (List.mem_of_mem_take h)
  obtain ⟨o, ho, hasz, hneA, hhdr, hone, hchunk⟩ := oneChunk_facts (blk.take chunkSize) lr hlr hcne hbc (by omega)
  have hpay := oneChunk_payload (blk.take chunkSize) lr hlr hcne hbc o ho
  have hA0 : ¬ o.alphabet.length = 0 := length_ne_zero_of_ne_nil _ hneA
  refine ⟨ansEncodeHeader o.alphabet o.freqs lr
      ++ (if o.size > 1 then ans0EncodeChunk (blk.take chunkSize) (mkEncSyms o.freqs lr) else []), ?_, ?_⟩
  · intro tl htl
    simp only [ans0EncodeChunks, if_neg h0, ans0EncodeOneChunk, ho, htl]
  · intro tl rest hdec hbuf
    have hdec := hdec (by omega)
    simp only [ans0DecodeChunksB, if_neg h0, List.append_assoc]
    rw [hhdr]
    simp only [if_neg hA0]
    by_cases h1 : o.alphabet.length = 1
    · have hs : ¬ o.size > 1 := by omega
      simp only [if_pos h1, if_neg hs, List.nil_append]
      rw [hdl, hdec, ← hclen, ← hone h1]
      simp only [List.take_append_drop]
    · have hs : o.size > 1 := by omega
      simp only [if_neg h1, if_pos hs]
      rw [← hclen, chunkB_eq _ _ o.freqs lr buf hpay (by omega) (by omega), hchunk]
      simp only
      rw [hclen, hdl, hdec]
      simp only [List.take_append_drop]

/-- `ANSRangeEncoder.Write` then `ANSRangeDecoder.Read` with the buffer bound: exact consumption -/
theorem blockB_rt (blk : List Nat) (chunkSize lr : Nat) (hlr : 8 ≤ lr ∧ lr ≤ 15) (hcs0 : 0 < chunkSize)
    (hcs : chunkSize < 2 ^ 26) (hb : ∀ b ∈ blk, b < 256) :
    ∃ enc, ans0Encode blk chunkSize lr = some enc ∧
      ∀ rest : Bits, ans0DecodeB (enc ++ rest) blk.length chunkSize = some (blk, rest) := by
  unfold ans0Encode ans0DecodeB
  by_cases h32 : blk.length ≤ 32
  · simp only [if_pos h32]
    exact ⟨_, rfl, fun rest => raw_rt blk rest hb⟩
  · simp only [if_neg h32]
    obtain ⟨enc, henc, hdec⟩ := chunksB_rt chunkSize lr _ hlr hcs0 hcs blk.length blk (Nat.le_refl _) hb
    exact ⟨enc, henc, fun rest => hdec rest (by omega)⟩

end Kanzi.BlockGen.Ans0Dec

namespace Kanzi.BlockGen
open Kanzi.Bits Kanzi.TrSmall Kanzi.Block

def IsSmallTr (t : Tr) : Prop := t = nullTr ∨ t = zrltTr ∨ ∃ mode, t = sbrtTr mode

theorem smallTr_stage (t : Tr) (h : IsSmallTr t) (req n : Nat) : IsSmallStage req n (t.stage req n) := by
  rcases h with h | h | ⟨m, h⟩ <;> subst h
  · exact Or.inl rfl
  · exact Or.inr (Or.inl rfl)
  · exact Or.inr (Or.inr ⟨m, rfl⟩)

theorem seqLaw_small (trs : List Tr) (hn : trs.length ≤ 8) (hs : ∀ t ∈ trs, IsSmallTr t)
    (len dmin : Nat) (hlen : len + 1 < 2 ^ 32) (hd : len ≤ dmin) :
    SeqLaw (IsBlock len) trs len dmin := by
  refine ⟨hn, ?_⟩
  intro t ht req n hreq hdn
  -- MaxEncodedLen of the stage is below MaxEncodedLen of the sequence
  have hmono : ∀ s ∈ stagesOf trs req n, ∀ a b, a ≤ b → s.maxLen a ≤ s.maxLen b := by
    intro s hsm
    obtain ⟨u, hu, rfl⟩ := List.mem_map.mp hsm
    exact smallStage_mono req n _ (smallTr_stage u (hs u hu) req n)
  have hmem : t.stage req n ∈ stagesOf trs req n := List.mem_map.mpr ⟨t, ht, rfl⟩
  have hmax := maxLen_le_seqMaxEncodedLen (stagesOf trs req n) hmono len (t.stage req n) hmem
  rw [seqMaxEncodedLen_stagesOf] at hmax
  have hmax' := Nat.le_trans hmax hreq
  rcases hs t ht with h | h | ⟨m, h⟩ <;> subst h
  · exact null_good len req n (by omega)
  · have : len ≤ req := hmax'
    exact zrlt_good len req n (by omega) hlen this
  · have : len + 33 ≤ req := hmax'
    exact sbrt_good m len req n (by omega) this

theorem entLaw_none (N : Nat) : EntLaw (IsBlock N) noneEnt :=
  fun x hx => ⟨_, noneEnt_enc x, noneEnt_dec x hx.1⟩

theorem entLaw_ans0 (N : Nat) : EntLaw (IsBlock N) ans0Ent :=
  fun x hx => Ans0Dec.blockB_rt x ans0Chunk ans0LogRange (by decide) (by decide) (by decide) hx.1

theorem small_roundtrip (c : Cfg) (B : Nat) (b : List Nat)
    (hn : c.trs.length ≤ 8) (hs : ∀ t ∈ c.trs, IsSmallTr t) (hent : EntLaw (IsBlock b.length) c.ent)
    (hbytes : ∀ x ∈ b, x < 256) (hb0 : 0 < b.length) (hB : b.length ≤ B) (hmax : B ≤ 2 ^ 30) :
    ∃ p, encodeTaskGen c b = .ok p ∧ decodeTaskGen c B p = ⟨b.length, .ok b⟩ := by
  apply block_roundtrip c B (IsBlock b.length) b
    (seqLaw_small c.trs hn hs b.length (taskBlockLength B) (by omega)
      (Nat.le_trans hB (taskBlockLength_ge B)))
    hent ?_ ⟨hbytes, Nat.le_refl _⟩ hbytes hb0 hB hmax
  intro x hx
  exact le_maxTransformLength x.length B (Nat.le_trans hx.2 hB) (by have := hx.2; omega)

theorem small_fwd_dst_indep (t : Tr) (h : IsSmallTr t) (b : List Nat) (req req' : Nat)
    (h1 : t.maxLen b.length ≤ req) (h2 : t.maxLen b.length ≤ req') : t.fwd b req = t.fwd b req' := by
  rcases h with h | h | ⟨m, h⟩ <;> subst h
  · simp only [nullTr, nullMaxEncodedLen] at h1 h2 ⊢
    rw [(null_roundtrip b req b.length h1 (Nat.le_refl _)).1,
      (null_roundtrip b req' b.length h2 (Nat.le_refl _)).1]
  · simp only [zrltTr, zrltMaxEncodedLen] at h1 h2 ⊢
    have e : ∀ r, b.length ≤ r → zrltForward b r =
        if b.length = 0 then .ok [] else
          match zrltFwdGo b.length b 0 #[] with
          | none => .error "declined"
          | some o => .ok o.toList := by
      intro r hr
      unfold zrltForward zrltMaxEncodedLen
      by_cases h0 : b.length = 0
      · rw [if_pos (Or.inl h0), if_pos h0]
      · rw [if_neg (by omega), if_neg (by omega), if_neg h0]
        cases zrltFwdGo b.length b 0 #[] <;> rfl
    rw [e req h1, e req' h2]
  · simp only [sbrtTr, sbrtMaxEncodedLen] at h1 h2 ⊢
    have e : ∀ r, b.length + 33 ≤ r → sbrtForward m b r =
        if b.length = 0 then .ok [] else
          .ok (sbrtFwdGo m b 0 (Array.range 256) (Array.range 256)
              (Array.replicate 256 0) (Array.replicate 256 0) #[]).toList := by
      intro r hr
      unfold sbrtForward sbrtMaxEncodedLen
      by_cases h0 : b.length = 0
      · rw [if_pos (Or.inl h0), if_pos h0]
      · rw [if_neg (by omega), if_neg (by omega), if_neg h0]
    rw [e req h1, e req' h2]

end Kanzi.BlockGen
