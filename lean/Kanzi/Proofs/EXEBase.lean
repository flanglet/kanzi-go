/-
`EXECodec`, the common ground: the constants, byte order, the address arithmetic of the x86 and ARM64 branch
rewriting (one instruction: decode ∘ encode = id), and the shape shared by the two architectures: `fwdLoop`,
`invLoop`, `invSection` are the forward loops, the inverse loops and the section decoders of the model with the loop
body as a parameter (`x86FwdLoop_eq` … `invARM_eq`), so that what holds of "a loop over a step" is proved once.
-/
import Kanzi.Model.EXE
import Kanzi.Proofs.RLTInv

namespace Kanzi.EXE
open Kanzi.RLT (Out wr wr_ok wr_cases)

@[simp] theorem X86_MASK_JUMP_eq : X86_MASK_JUMP = 254 := rfl
@[simp] theorem X86_INSTRUCTION_JUMP_eq : X86_INSTRUCTION_JUMP = 232 := rfl
@[simp] theorem X86_INSTRUCTION_JCC_eq : X86_INSTRUCTION_JCC = 128 := rfl
@[simp] theorem X86_TWO_BYTE_PREFIX_eq : X86_TWO_BYTE_PREFIX = 15 := rfl
@[simp] theorem X86_MASK_JCC_eq : X86_MASK_JCC = 240 := rfl
@[simp] theorem X86_ESCAPE_eq : X86_ESCAPE = 155 := rfl
@[simp] theorem X86_eq : X86 = 64 := rfl
@[simp] theorem ARM64_eq : ARM64 = 32 := rfl
@[simp] theorem MASK_ADDRESS_eq : MASK_ADDRESS = 4042322160 := rfl
@[simp] theorem MIN_BLOCK_SIZE_eq : MIN_BLOCK_SIZE = 4096 := rfl
@[simp] theorem MAX_BLOCK_SIZE_eq : MAX_BLOCK_SIZE = 268435455 := rfl

theorem ok_of_ite_err {α : Type} {c : Prop} [Decidable c] {e : String} {x : Out α} {a : α}
    (h : (if c then Out.err e else x) = .ok a) : ¬ c ∧ x = .ok a := by
  by_cases hc : c
  · rw [if_pos hc] at h
    cases h
  · rw [if_neg hc] at h
    exact ⟨hc, h⟩

theorem exists_cons4 {l : List Nat} (h : 4 ≤ l.length) : ∃ a b c d r, l = a :: b :: c :: d :: r := by
  refine ⟨l[0], l[1], l[2], l[3], l.drop 4, ?_⟩
  rw [← Kanzi.RLT.drop_cons l 3 h, ← Kanzi.RLT.drop_cons l 2 (by omega), ← Kanzi.RLT.drop_cons l 1 (by omega),
    ← Kanzi.RLT.drop_cons l 0 (by omega), List.drop_zero]

theorem exists_cons5 {l : List Nat} (h : 5 ≤ l.length) : ∃ a b c d e r, l = a :: b :: c :: d :: e :: r := by
  obtain ⟨a, b, c, d, r, rfl⟩ := exists_cons4 (Nat.le_of_succ_le h)
  obtain ⟨e, r, rfl⟩ := List.exists_cons_of_length_pos (l := r) (by simp only [List.length_cons] at h; omega)
  exact ⟨a, b, c, d, e, r, rfl⟩

theorem leVal4 (a b c d : Nat) : leVal [a, b, c, d] = a + 256 * (b + 256 * (c + 256 * d)) := by
  simp [leVal]

theorem split256 (a x : Nat) (ha : a < 256) : (a + 256 * x) % 256 = a ∧ (a + 256 * x) / 256 = x := by
  omega

theorem le32Bytes_nested (v : Nat) :
    le32Bytes v = [v % 256, v / 256 % 256, v / 256 / 256 % 256, v / 256 / 256 / 256 % 256] := by
  simp only [le32Bytes, Nat.div_div_eq_div_mul]

theorem le32Bytes_leVal (a b c d : Nat) (ha : a < 256) (hb : b < 256) (hc : c < 256) (hd : d < 256) :
    le32Bytes (leVal [a, b, c, d]) = [a, b, c, d] := by
  obtain ⟨m0, d0⟩ := split256 a (b + 256 * (c + 256 * d)) ha
  obtain ⟨m1, d1⟩ := split256 b (c + 256 * d) hb
  obtain ⟨m2, d2⟩ := split256 c d hc
  rw [leVal4, le32Bytes_nested, m0, d0, m1, d1, m2, d2, Nat.mod_eq_of_lt hd]

theorem leVal_le32Bytes (v : Nat) (h : v < 2 ^ 32) : leVal (le32Bytes v) = v := by
  rw [le32Bytes_nested, leVal4, Nat.mod_eq_of_lt (a := v / 256 / 256 / 256) (by omega), Nat.mod_add_div,
    Nat.mod_add_div, Nat.mod_add_div]

theorem beVal4 (a b c d : Nat) : beVal [a, b, c, d] = 256 * (256 * (256 * a + b) + c) + d := by
  simp [beVal]

theorem be32Bytes_nested (v : Nat) :
    be32Bytes v = [v / 256 / 256 / 256 % 256, v / 256 / 256 % 256, v / 256 % 256, v % 256] := by
  simp only [be32Bytes, Nat.div_div_eq_div_mul]

theorem beVal_be32Bytes (v : Nat) (h : v < 2 ^ 32) : beVal (be32Bytes v) = v := by
  rw [be32Bytes_nested, beVal4, Nat.mod_eq_of_lt (a := v / 256 / 256 / 256) (by omega), Nat.div_add_mod,
    Nat.div_add_mod, Nat.div_add_mod]

theorem leVal4_lt (a b c d : Nat) (ha : a < 256) (hb : b < 256) (hc : c < 256) (hd : d < 256) :
    leVal [a, b, c, d] < 2 ^ 32 := by
  simp only [leVal4]; omega

theorem le32Bytes_lt (v : Nat) : ∀ y ∈ le32Bytes v, y < 256 := by
  intro y hy; simp only [le32Bytes, List.mem_cons, List.not_mem_nil, or_false] at hy
  rcases hy with h | h | h | h <;> omega

theorem be32Bytes_lt (v : Nat) : ∀ y ∈ be32Bytes v, y < 256 := by
  intro y hy; simp only [be32Bytes, List.mem_cons, List.not_mem_nil, or_false] at hy
  rcases hy with h | h | h | h <;> omega

@[simp] theorem le32Bytes_length (v : Nat) : (le32Bytes v).length = 4 := rfl
@[simp] theorem be32Bytes_length (v : Nat) : (be32Bytes v).length = 4 := rfl

theorem xor_mask_cancel (x : Nat) : (x ^^^ MASK_ADDRESS) ^^^ MASK_ADDRESS = x := by
  rw [Nat.xor_assoc, Nat.xor_self, Nat.xor_zero]

theorem xor_mask_lt (x : Nat) (h : x < 2 ^ 32) : x ^^^ MASK_ADDRESS < 2 ^ 32 :=
  Nat.xor_lt_two_pow h (by decide)

/-- `inverseX86` recovers the distance to a target `T` (possibly negative: stored wrapped to uint32) less
    than 2^24 away, as a uint32 -/
theorem x86Off_emod (d : Nat) (T : Int) (hd : d < 2 ^ 31) (h1 : -2 ^ 24 < T - d) (h2 : T - d < 2 ^ 24) :
    x86Off d (T % 2 ^ 32).toNat = ((T - d) % 2 ^ 32).toNat := by
  unfold x86Off
  by_cases hT : 0 ≤ T
  · rw [Int.emod_eq_of_lt hT (by omega), Int.toNat_of_nonneg hT]
    by_cases hδ : T - d ≥ 0
    · rw [if_pos hδ]
    · rw [if_neg hδ, Int.emod_eq_of_lt (a := -(T - d)) (by omega) (by omega), Int.neg_neg]
  · have hw : T % 2 ^ 32 = T + 2 ^ 32 := by omega
    have hs : T + 2 ^ 32 - d = T - d + 2 ^ 32 := by omega
    rw [hw, Int.toNat_of_nonneg (by omega), if_pos (by omega), hs, Int.add_emod_right]

/-- the address arithmetic of `forwardX86` followed by that of `inverseX86` restores the operand `off`: a
    forward distance below 2^24 (sign byte 0) or a backward one (sign byte FF, i.e. `FF000000 < off`) -/
theorem x86Off_x86Addr (i off sgn : Nat) (hi : i < 2 ^ 31)
    (h : sgn = 0 ∧ off < 2 ^ 24 ∨ sgn ≠ 0 ∧ 0xFF000000 < off ∧ off < 2 ^ 32) :
    x86Addr i off sgn < 2 ^ 32 ∧ x86Off i (x86Addr i off sgn) = off := by
  unfold x86Addr
  generalize hT : (if sgn = 0 then (i : Int) + (off : Int) else (i : Int) - (-(off : Int)) % 2 ^ 24) = T
  have hT' : -2 ^ 24 < T - i ∧ T - i < 2 ^ 24 ∧ (T - i) % 2 ^ 32 = off := by
    rcases h with ⟨h0, h⟩ | ⟨h0, h⟩
    · rw [if_pos h0] at hT
      omega
    · rw [if_neg h0] at hT
      omega
  refine ⟨by omega, ?_⟩
  rw [x86Off_emod i T hi hT'.1 hT'.2.1, hT'.2.2, Int.toNat_natCast]

theorem x86_addr_roundtrip (i o0 o1 o2 sgn : Nat) (h0 : o0 < 256) (h1 : o1 < 256) (h2 : o2 < 256)
    (hs : sgn = 0 ∨ sgn = 255) (hne : leVal [o0, o1, o2, sgn] ≠ 0xFF000000) (hi : i < 2 ^ 31) :
    x86Addr i (leVal [o0, o1, o2, sgn]) sgn < 2 ^ 32 ∧
    le32Bytes (x86Off i (x86Addr i (leVal [o0, o1, o2, sgn]) sgn)) = [o0, o1, o2, sgn] := by
  have h := x86Off_x86Addr i (leVal [o0, o1, o2, sgn]) sgn hi (by rw [leVal4] at hne ⊢; omega)
  rw [h.2]
  exact ⟨h.1, le32Bytes_leVal _ _ _ _ h0 h1 h2 (by omega)⟩

theorem and_addrmask (x : Nat) : x &&& 67108863 = x % 67108864 :=
  Nat.and_two_pow_sub_one_eq_mod x 26

theorem and_field (x m k : Nat) : x &&& ((2 ^ k - 1) * 2 ^ m) = x / 2 ^ m % 2 ^ k * 2 ^ m := by
  have h1 : (x &&& (2 ^ k - 1) * 2 ^ m) / 2 ^ m = x / 2 ^ m &&& (2 ^ k - 1) * 2 ^ m / 2 ^ m := Nat.and_div_two_pow
  have h2 : (x &&& (2 ^ k - 1) * 2 ^ m) % 2 ^ m = x % 2 ^ m &&& (2 ^ k - 1) * 2 ^ m % 2 ^ m := Nat.and_mod_two_pow
  rw [Nat.mul_div_cancel _ (Nat.two_pow_pos m), Nat.and_two_pow_sub_one_eq_mod] at h1
  rw [Nat.mul_mod_left, Nat.and_zero] at h2
  rw [← Nat.div_add_mod (x &&& (2 ^ k - 1) * 2 ^ m) (2 ^ m), h1, h2, Nat.add_zero, Nat.mul_comm]

theorem and_opmask (x : Nat) (h : x < 2 ^ 32) : x &&& 4227858432 = x / 67108864 * 67108864 := by
  rw [show (4227858432 : Nat) = (2 ^ 6 - 1) * 2 ^ 26 by decide, and_field]
  omega

theorem and_sgn (x : Nat) : x &&& 33554432 = x / 33554432 % 2 * 33554432 :=
  and_field x 25 1
/-- OR of a field that spills one bit into an odd value above it.  forwardARM does not mask `addr >> 2` (27 bits)
    before the OR with the opcode, whose lowest bit is 1: hence the bound one bit above the field. -/
theorem or_spill (h b k : Nat) (hh : h % 2 = 1) (hb : b < 2 ^ (k + 1)) :
    h * 2 ^ k ||| b = h * 2 ^ k + b % 2 ^ k := by
  have hq : b / 2 ^ k < 2 := Nat.div_lt_of_lt_mul (by rw [← Nat.pow_succ]; exact hb)
  have hodd : h = (h / 2) <<< 1 ||| 1 := by
    rw [← Nat.shiftLeft_add_eq_or_of_lt (by decide), Nat.shiftLeft_eq, Nat.pow_one]; omega
  have e3 : h ||| b / 2 ^ k = h := by
    generalize b / 2 ^ k = q at hq
    obtain rfl | rfl : q = 0 ∨ q = 1 := by omega
    · exact Nat.or_zero h
    · rw [hodd, Nat.or_assoc, Nat.or_self]
  have h1 : (h * 2 ^ k ||| b) / 2 ^ k = h := by
    rw [Nat.or_div_two_pow, Nat.mul_div_cancel _ (Nat.two_pow_pos k), e3]
  have h2 : (h * 2 ^ k ||| b) % 2 ^ k = b % 2 ^ k := by
    rw [Nat.or_mod_two_pow, Nat.mul_mod_left, Nat.zero_or]
  rw [← Nat.div_add_mod' (h * 2 ^ k ||| b) (2 ^ k), h1, h2]

theorem isBL_iff (instr : Nat) (h : instr < 2 ^ 32) :
    isBL instr = true ↔ (instr / 67108864 = 5 ∨ instr / 67108864 = 37) := by
  simp only [isBL, decide_eq_true_eq]
  show instr &&& 4227858432 = 335544320 ∨ instr &&& 4227858432 = 2483027968 ↔ _
  rw [and_opmask instr h]; omega

/-- the opcode field of B / BL (`000101`, `100101`): six bits, the lowest is 1 -/
theorem isBL_odd (instr : Nat) (h : instr < 2 ^ 32) (hbl : isBL instr = true) :
    instr / 67108864 % 2 = 1 ∧ instr / 67108864 < 64 := by
  obtain h5 | h37 := (isBL_iff instr h).1 hbl
  · rw [h5]
    exact ⟨rfl, by decide⟩
  · rw [h37]
    exact ⟨rfl, by decide⟩

theorem armAddr_def (i instr : Nat) :
    armAddr i instr =
      if (if instr &&& 33554432 = 0 then (i : Int) + 4 * ((instr &&& 67108863 : Nat) : Int)
          else (i : Int) - 4 * ((-((instr &&& 67108863 : Nat) : Int)) % 67108864)) < 0 then 0
      else (if instr &&& 33554432 = 0 then (i : Int) + 4 * ((instr &&& 67108863 : Nat) : Int)
          else (i : Int) - 4 * ((-((instr &&& 67108863 : Nat) : Int)) % 67108864)).toNat := rfl

theorem armAddr_pos (i instr : Nat) (h : instr % 67108864 < 33554432) :
    armAddr i instr = i + 4 * (instr % 67108864) := by
  have hs : instr &&& 33554432 = 0 := by rw [and_sgn]; omega
  rw [armAddr_def, if_pos hs, and_addrmask, if_neg (by omega)]; omega

theorem armAddr_neg (i instr : Nat) (h : 33554432 ≤ instr % 67108864) :
    armAddr i instr = i - 4 * (67108864 - instr % 67108864) := by
  have hs : instr &&& 33554432 ≠ 0 := by rw [and_sgn]; omega
  rw [armAddr_def, if_neg hs, and_addrmask]
  have hm : (-((instr % 67108864 : Nat) : Int)) % 67108864 = 67108864 - ((instr % 67108864 : Nat) : Int) := by omega
  rw [hm]
  by_cases hneg : (i : Int) - 4 * (67108864 - ((instr % 67108864 : Nat) : Int)) < 0
  · rw [if_pos hneg]; omega
  · rw [if_neg hneg]; omega

theorem armEnc_def (i instr : Nat) :
    armEnc i instr = (((instr &&& 4227858432) ||| (armAddr i instr >>> 2)) % 4294967296,
      decide (armAddr i instr = 0 ∨ (armAddr i instr >>> 2) &&& 67108863 = 0)) := rfl

theorem armDec_def (d instr : Nat) :
    armDec d instr = (((instr &&& 4227858432) |||
        (((((instr &&& 67108863) <<< 2 : Nat) : Int) - (d : Int)) / 4 % 67108864).toNat) % 4294967296,
      decide ((instr &&& 67108863) <<< 2 = 0)) := rfl

theorem armEnc_val (i instr : Nat) (hin : instr < 2 ^ 32) (hbl : isBL instr = true) (hi : i < 2 ^ 28) :
    (armEnc i instr).1 = instr / 67108864 * 67108864 + armAddr i instr / 4 % 67108864 ∧
    ((armEnc i instr).2 = true ↔ armAddr i instr / 4 % 67108864 = 0) := by
  have hA : armAddr i instr < 2 ^ 28 + 2 ^ 27 := by
    by_cases hs : instr % 67108864 < 33554432
    · rw [armAddr_pos i instr hs]; omega
    · rw [armAddr_neg i instr (by omega)]; omega
  have hsh : armAddr i instr >>> 2 = armAddr i instr / 4 := Nat.shiftRight_eq_div_pow _ 2
  rw [armEnc_def, hsh, and_opmask instr hin, and_addrmask]
  have hor : instr / 67108864 * 67108864 ||| armAddr i instr / 4 =
      instr / 67108864 * 67108864 + armAddr i instr / 4 % 67108864 :=
    or_spill _ _ 26 (isBL_odd instr hin hbl).1 (show armAddr i instr / 4 < 2 ^ 27 by omega)
  constructor
  · show (instr / 67108864 * 67108864 ||| armAddr i instr / 4) % 4294967296 = _
    rw [hor]; omega
  · show decide (armAddr i instr = 0 ∨ armAddr i instr / 4 % 67108864 = 0) = true ↔ _
    rw [decide_eq_true_eq]
    constructor
    · rintro (h | h)
      · rw [h]
      · exact h
    · intro h; exact Or.inr h

theorem armDec_val (d h f : Nat) (hh : h % 2 = 1) (hh6 : h < 64) (hf : f < 67108864) (hd : d % 4 = 0) :
    armDec d (h * 67108864 + f) =
      (h * 67108864 + (((f : Int) - ((d / 4 : Nat) : Int)) % 67108864).toNat, decide (f = 0)) := by
  have hor : ∀ b, b < 2 ^ 27 → h * 67108864 ||| b = h * 67108864 + b % 67108864 := fun b => or_spill h b 26 hh
  have hv : h * 67108864 + f < 2 ^ 32 := by omega
  have h1 : (h * 67108864 + f) &&& 4227858432 = h * 67108864 := by rw [and_opmask _ hv]; omega
  have h2 : (h * 67108864 + f) &&& 67108863 = f := by rw [and_addrmask]; exact Nat.mul_add_mod_of_lt hf
  have h3 : f <<< 2 = f * 4 := by rw [Nat.shiftLeft_eq]
  rw [armDec_def, h1, h2, h3]
  have h4 : (((f * 4 : Nat) : Int) - (d : Int)) / 4 = (f : Int) - ((d / 4 : Nat) : Int) := by omega
  rw [h4]
  have hb : (((f : Int) - ((d / 4 : Nat) : Int)) % 67108864).toNat < 67108864 := by omega
  rw [hor _ (Nat.lt_trans hb (by decide))]
  congr 1
  · omega
  · rw [decide_eq_decide]; omega

/-- the address field stored by forwardARM, when it is not the escape value 0, is `i / 4 + offset` mod 2^26:
    also for a backward branch (a target below 0 is clamped to 0 and hence escaped) -/
theorem armAddr_field (i instr : Nat) (hi4 : i % 4 = 0) (hne : armAddr i instr / 4 % 67108864 ≠ 0) :
    armAddr i instr / 4 % 67108864 = (i / 4 + instr % 67108864) % 67108864 := by
  by_cases hs : instr % 67108864 < 33554432
  · rw [armAddr_pos i instr hs]
    omega
  · rw [armAddr_neg i instr (by omega)] at hne ⊢
    omega

theorem emod_sub_cancel (q f : Nat) (hf : f < 67108864) :
    ((((q + f) % 67108864 : Nat) : Int) - (q : Int)) % 67108864 = (f : Int) := by
  omega

theorem arm_roundtrip (i instr : Nat) (hin : instr < 2 ^ 32) (hbl : isBL instr = true) (hi4 : i % 4 = 0)
    (hi : i < 2 ^ 28) :
    (armEnc i instr).1 < 2 ^ 32 ∧ isBL (armEnc i instr).1 = true ∧
    ((armEnc i instr).2 = true → (armDec i (armEnc i instr).1).2 = true) ∧
    ((armEnc i instr).2 = false → armDec i (armEnc i instr).1 = (instr, false)) := by
  obtain ⟨hv, hflag⟩ := armEnc_val i instr hin hbl hi
  have hf : armAddr i instr / 4 % 67108864 < 67108864 := Nat.mod_lt _ (by decide)
  have hlt : (armEnc i instr).1 < 2 ^ 32 := by rw [hv]; omega
  have hbl' : isBL (armEnc i instr).1 = true := by
    have hh := (isBL_iff instr hin).1 hbl
    rw [isBL_iff _ hlt, hv]
    omega
  have hdec := armDec_val i (instr / 67108864) (armAddr i instr / 4 % 67108864) (isBL_odd instr hin hbl).1
    (isBL_odd instr hin hbl).2 hf hi4
  refine ⟨hlt, hbl', ?_, ?_⟩
  · intro he; rw [hv, hdec]; simp only [decide_eq_true_eq]; exact hflag.1 he
  · intro he
    have hne : armAddr i instr / 4 % 67108864 ≠ 0 := by
      intro h0; have := hflag.2 h0; rw [he] at this; exact Bool.noConfusion this
    rw [hv, hdec]
    rw [armAddr_field i instr hi4 hne, emod_sub_cancel _ _ (Nat.mod_lt _ (by decide)), Int.toNat_natCast]
    congr 1
    · exact Nat.div_add_mod' instr 67108864
    · rw [← armAddr_field i instr hi4 hne]
      exact decide_eq_false hne

/-- `x86InvLoop` and `armInvLoop` with the loop body as a parameter -/
def invLoop (step : List Nat → Nat → Nat → IStep) (ce dstLen : Nat) :
    Nat → List Nat → Nat → Array Nat → Out (Nat × Array Nat)
  | 0, _, i, out => if i < ce then .fault "fuel" else .ok (i, out)
  | f + 1, rest, i, out =>
    if i < ce then
      match step rest i out.size with
      | .emit e c => (wr dstLen out e).bind fun o => invLoop step ce dstLen f (rest.drop c) (i + c) o
      | .last e c => (wr dstLen out e).bind fun o => .ok (i + c, o)
      | .err s => .err s
      | .fault s => .fault s
    else .ok (i, out)

theorem x86InvLoop_eq (ce dstLen f : Nat) (rest : List Nat) (i : Nat) (out : Array Nat) :
    x86InvLoop ce dstLen f rest i out = invLoop (x86InvStep ce dstLen) ce dstLen f rest i out := by
  induction f generalizing rest i out with
  | zero => rfl
  | succ f ih =>
    simp only [x86InvLoop, invLoop, ih]
    rfl

theorem armInvLoop_eq (ce dstLen f : Nat) (rest : List Nat) (i : Nat) (out : Array Nat) :
    armInvLoop ce dstLen f rest i out = invLoop (armInvStep ce dstLen) ce dstLen f rest i out := by
  induction f generalizing rest i out with
  | zero => rfl
  | succ f ih =>
    simp only [armInvLoop, invLoop, ih]
    rfl

/-- `x86FwdLoop` and `armFwdLoop` with the loop condition `go srcIdx dstIdx` and the loop body as parameters -/
def fwdLoop (go : Nat → Nat → Prop) [∀ i d, Decidable (go i d)] (step : List Nat → Nat → Step) (dstLen : Nat) :
    Nat → List Nat → Nat → Array Nat → Nat → Out FwdSt
  | 0, _, i, out, m => if go i out.size then .fault "fuel" else .ok ⟨i, out, m, false⟩
  | f + 1, rest, i, out, m =>
    if go i out.size then
      match step rest i with
      | .stop => .ok ⟨i, out, m, true⟩
      | .emit e c dm => (wr dstLen out e).bind fun o => fwdLoop go step dstLen f (rest.drop c) (i + c) o (m + dm)
      | .emitStop e c => (wr dstLen out e).bind fun o => .ok ⟨i + c, o, m, true⟩
      | .fault s => .fault s
    else .ok ⟨i, out, m, false⟩

theorem x86FwdLoop_eq (ce dstLen f : Nat) (rest : List Nat) (i : Nat) (out : Array Nat) (m : Nat) :
    x86FwdLoop ce dstLen f rest i out m =
      fwdLoop (fun i d => i < ce ∧ d + 5 < dstLen) (x86FwdStep ce) dstLen f rest i out m := by
  induction f generalizing rest i out m with
  | zero => rfl
  | succ f ih =>
    simp only [x86FwdLoop, fwdLoop, ih]
    rfl

theorem armFwdLoop_eq (ce dstLen f : Nat) (rest : List Nat) (i : Nat) (out : Array Nat) (m : Nat) :
    armFwdLoop ce dstLen f rest i out m =
      fwdLoop (fun i d => i + 4 ≤ ce ∧ d + 8 < dstLen) armFwdStep dstLen f rest i out m := by
  induction f generalizing rest i out m with
  | zero => rfl
  | succ f ih =>
    simp only [armFwdLoop, fwdLoop, ih]
    rfl
/-- `invX86` and `invARM` with the loop body as a parameter -/
def invSection (step : Nat → Nat → List Nat → Nat → Nat → IStep) (src : List Nat) (dstLen : Nat) : Res :=
  match invHeader src dstLen with
  | none => .err "data"
  | some (cs, ce) =>
    (wr dstLen #[] ((src.drop 9).take cs)).bind fun o =>
      (invLoop (step ce dstLen) ce dstLen (src.length + 1) (src.drop (9 + cs)) (9 + cs) o).bind fun r =>
        invFinish src dstLen r

theorem invX86_eq (src : List Nat) (dstLen : Nat) : invX86 src dstLen = invSection x86InvStep src dstLen := by
  simp only [invX86, invSection, x86InvLoop_eq]
  rfl

theorem invARM_eq (src : List Nat) (dstLen : Nat) : invARM src dstLen = invSection armInvStep src dstLen := by
  simp only [invARM, invSection, armInvLoop_eq]
  rfl

theorem exeInverse_cons (m : Nat) (r : List Nat) (n : Nat) (h9 : 9 ≤ (m :: r).length) (hn : n ≠ 0) :
    exeInverse false (m :: r) n =
      if m = X86 then invSection x86InvStep (m :: r) n
      else if m = ARM64 then invSection armInvStep (m :: r) n else .err "type" := by
  unfold exeInverse
  rw [if_neg (by rw [List.length_cons]; omega), if_neg Bool.false_ne_true, if_neg (by omega), invX86_eq, invARM_eq]
  rfl

end Kanzi.EXE
