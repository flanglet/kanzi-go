/-
`FSDCodec`: the emission loops of Forward.  For EVERY `(mode, dist)` the output
of `fsdEncode` is decoded by `fsdInverse` to the block (`fsdEncode_roundtrip`), fits the loop bound
`dstEnd` and never faults; the counted sampling loops never fault on a block of at least 1024 bytes.
-/
import Kanzi.Proofs.FSDInv

namespace Kanzi.FSD
open Kanzi.RLT (Out Res wr wr_ok wr_cases)

theorem Out.bind_eq_fault {α β : Type} (x : Out α) (f : α → Out β) (e : String) :
    x.bind f = .fault e ↔ x = .fault e ∨ ∃ a, x = .ok a ∧ f a = .fault e := by
  cases x <;> simp [Out.bind]

theorem rdBack_some (a : Array Nat) (base i d : Nat) (h1 : d ≤ i) (h2 : base + (i - d) < a.size) :
    rdBack a base i d = some (a[base + (i - d)]'h2) := by
  unfold rdBack
  rw [if_neg (by omega)]
  exact Array.getElem?_eq_getElem h2

theorem rdBack0_some (a : Array Nat) (i d : Nat) (h1 : d ≤ i) (h2 : i < a.size) :
    rdBack a 0 i d = some (a[i - d]'(by omega)) := by
  rw [rdBack_some a 0 i d h1 (by omega)]
  simp

theorem prefix_size (a d : Array Nat) (i : Nat) (h : d.toList = a.toList.take i) (hi : i ≤ a.size) :
    d.size = i := by
  rw [← Array.length_toList, h, List.length_take, Array.length_toList]; omega

theorem prefix_push (a d : Array Nat) (i : Nat) (h : d.toList = a.toList.take i) (hi : i < a.size) :
    (d.push (a[i]'hi)).toList = a.toList.take (i + 1) := by
  rw [Array.toList_push, h, List.take_add_one, Array.getElem?_toList, Array.getElem?_eq_getElem hi]
  rfl

theorem prefix_back (a d : Array Nat) (i dist : Nat) (h : d.toList = a.toList.take i) (h1 : 1 ≤ dist)
    (hd : dist ≤ i) (hi : i < a.size) : back d dist = some (a[i - dist]'(by omega)) := by
  unfold back
  rw [if_neg (by rw [prefix_size a d i h (by omega)]; omega), prefix_size a d i h (by omega),
    ← Array.getElem?_toList, h, List.getElem?_take_of_lt (by omega), Array.getElem?_toList]
  exact Array.getElem?_eq_getElem (by omega)

/-! `encDelta` and `encXor` are the same loop up to the bytes `tok x p` stored for `src[i] = x`,
`src[i-dist] = p` and the test `room dstIdx` made besides `srcIdx < count`. -/

def encLoop (a : Array Nat) (dist dstLen : Nat) (tok : Nat → Nat → List Nat) (room : Nat → Prop)
    [DecidablePred room] : Nat → Nat → Array Nat → Out (Nat × Array Nat)
  | 0, i, out => if i < a.size ∧ room out.size then .fault "fuel" else .ok (i, out)
  | f + 1, i, out =>
    if i < a.size ∧ room out.size then
      match a[i]?, rdBack a 0 i dist with
      | some x, some p => (wr dstLen out (tok x p)).bind fun o => encLoop a dist dstLen tok room f (i + 1) o
      | _, _ => .fault "src-index"
    else .ok (i, out)

theorem encDelta_eq (a : Array Nat) (dist dstEnd dstLen : Nat) : ∀ (f i : Nat) (out : Array Nat),
    encDelta a dist dstEnd dstLen f i out =
      encLoop a dist dstLen deltaToken (fun s => s + 1 < dstEnd) f i out := by
  intro f
  induction f with
  | zero => intro i out; rfl
  | succ f ih =>
    intro i out
    simp only [encDelta, encLoop, ih]
    rfl

theorem encXor_eq (a : Array Nat) (dist dstLen : Nat) : ∀ (f i : Nat) (out : Array Nat),
    encXor a dist dstLen f i out = encLoop a dist dstLen (fun x p => [x ^^^ p]) (fun _ => True) f i out := by
  intro f
  induction f with
  | zero => intro i out; simp only [encXor, encLoop, and_true]
  | succ f ih =>
    intro i out
    simp only [encXor, encLoop, ih, and_true]
    rfl

section
variable {a : Array Nat} {dist dstLen : Nat} {tok : Nat → Nat → List Nat} {room : Nat → Prop}
  [DecidablePred room] {f i : Nat} {out : Array Nat}

theorem encLoop_stop (hc : ¬ (i < a.size ∧ room out.size)) :
    encLoop a dist dstLen tok room f i out = .ok (i, out) := by
  cases f <;> exact if_neg hc

theorem encLoop_step (hi : i < a.size) (hr : room out.size) (hdi : dist ≤ i) :
    encLoop a dist dstLen tok room (f + 1) i out =
      (wr dstLen out (tok a[i] (a[i - dist]'(by omega)))).bind fun o =>
        encLoop a dist dstLen tok room f (i + 1) o := by
  rw [encLoop, if_pos ⟨hi, hr⟩, Array.getElem?_eq_getElem hi, rdBack0_some a i dist hdi hi]

end

/-- Round trip of the loop against ANY decoding loop `inv` that ends on the empty input and undoes one token
    per iteration: the tokens emitted from position `i` on are decoded by `inv` started on the prefix `a[0:i]`;
    they are bytes. -/
theorem encLoop_dec (a : Array Nat) (dist dstLen : Nat) (tok : Nat → Nat → List Nat) (room : Nat → Prop)
    [DecidablePred room] (inv : Nat → List Nat → Array Nat → Res) (h1 : 1 ≤ dist)
    (hb : ∀ (i : Nat) (h : i < a.size), a[i] < 256)
    (hbytes : ∀ x p, x < 256 → p < 256 → ∀ y ∈ tok x p, y < 256)
    (hnil : ∀ n d, inv n [] d = .ok d.toList)
    (htok : ∀ n x p rest d, x < 256 → p < 256 → d.size < n → back d dist = some p →
      inv n (tok x p ++ rest) d = inv n rest (d.push x)) :
    ∀ (f i : Nat) (out : Array Nat) (r : Nat × Array Nat), dist ≤ i → i ≤ a.size →
      encLoop a dist dstLen tok room f i out = .ok r → r.1 = a.size →
      ∃ toks : List Nat, r.2 = out ++ toks ∧ (∀ y ∈ toks, y < 256) ∧
        ∀ (n : Nat) (d : Array Nat), a.size ≤ n → d.toList = a.toList.take i →
          inv n toks d = .ok a.toList := by
  have stop : ∀ (f i : Nat) (out : Array Nat) (r : Nat × Array Nat), ¬ (i < a.size ∧ room out.size) →
      encLoop a dist dstLen tok room f i out = .ok r → r.1 = a.size →
      ∃ toks : List Nat, r.2 = out ++ toks ∧ (∀ y ∈ toks, y < 256) ∧
        ∀ (n : Nat) (d : Array Nat), a.size ≤ n → d.toList = a.toList.take i →
          inv n toks d = .ok a.toList := by
    intro f i out r hc h hr
    rw [encLoop_stop hc] at h
    cases h
    refine ⟨[], Array.appendList_nil.symm, nofun, fun n d _ hd => ?_⟩
    rw [hnil, hd, show i = a.size from hr, ← Array.length_toList, List.take_length]
  intro f
  induction f with
  | zero =>
    intro i out r _ _ h hr
    by_cases hc : i < a.size ∧ room out.size
    · rw [encLoop, if_pos hc] at h
      cases h
    · exact stop 0 i out r hc h hr
  | succ f ih =>
    intro i out r hdi hia h hr
    by_cases hc : ¬ (i < a.size ∧ room out.size)
    · exact stop _ i out r hc h hr
    obtain ⟨hi, hroom⟩ := Decidable.not_not.mp hc
    have hid : i - dist < a.size := by omega
    have hx := hb i hi
    have hp := hb (i - dist) hid
    rw [encLoop_step hi hroom hdi] at h
    rcases wr_cases dstLen out (tok a[i] (a[i - dist]'hid)) with hw | ⟨e, hw⟩
    · rw [hw, Kanzi.RLT.Out.bind_ok] at h
      obtain ⟨toks, h2, hby, hdec⟩ := ih (i + 1) _ r (by omega) (by omega) h hr
      refine ⟨_ ++ toks, by rw [h2, appendList_assoc], ?_, fun n d hn hd => ?_⟩
      · intro y hy
        rcases List.mem_append.mp hy with hy | hy
        · exact hbytes _ _ hx hp y hy
        · exact hby y hy
      · rw [htok n _ _ toks d hx hp (by rw [prefix_size a d i hd hia]; omega)
          (prefix_back a d i dist hd h1 hdi hi)]
        exact hdec n _ hn (prefix_push a d i hd hi)
    · rw [hw] at h
      cases h

/-- Sizes and stores of the loop: a relation `I srcIdx dstIdx` kept by every iteration holds at the end, and
    if (given `F`) it makes every store fit in `dst`, the loop does not fault. -/
theorem encLoop_inv (a : Array Nat) (dist dstLen : Nat) (tok : Nat → Nat → List Nat) (room : Nat → Prop)
    [DecidablePred room] (F : Prop) (I : Nat → Nat → Prop)
    (hstep : ∀ i s x p, i < a.size → room s → I i s → I (i + 1) (s + (tok x p).length))
    (hfit : F → ∀ i s x p, i < a.size → room s → I i s → s + (tok x p).length ≤ dstLen) :
    ∀ (f i : Nat) (out : Array Nat), dist ≤ i → I i out.size →
      (∀ r, encLoop a dist dstLen tok room f i out = .ok r → I r.1 r.2.size) ∧
      (F → a.size - i ≤ f → ∀ e, encLoop a dist dstLen tok room f i out ≠ .fault e) := by
  have stop : ∀ (f i : Nat) (out : Array Nat), ¬ (i < a.size ∧ room out.size) → I i out.size →
      (∀ r, encLoop a dist dstLen tok room f i out = .ok r → I r.1 r.2.size) ∧
      (F → a.size - i ≤ f → ∀ e, encLoop a dist dstLen tok room f i out ≠ .fault e) := by
    intro f i out hc hI
    rw [encLoop_stop hc]
    exact ⟨fun r h => by cases h; exact hI, fun _ _ _ h => nomatch h⟩
  intro f
  induction f with
  | zero =>
    intro i out _ hI
    by_cases hc : i < a.size ∧ room out.size
    · rw [encLoop, if_pos hc]
      exact ⟨fun r h => (nomatch h), fun _ hf => absurd hc.1 (by omega)⟩
    · exact stop 0 i out hc hI
  | succ f ih =>
    intro i out hdi hI
    by_cases hc : ¬ (i < a.size ∧ room out.size)
    · exact stop _ i out hc hI
    obtain ⟨hi, hroom⟩ := Decidable.not_not.mp hc
    have hid : i - dist < a.size := by omega
    rw [encLoop_step hi hroom hdi]
    rcases wr_cases dstLen out (tok a[i] (a[i - dist]'hid)) with hw | ⟨e, hw⟩
    · rw [hw, Kanzi.RLT.Out.bind_ok]
      have := ih (i + 1) (out ++ tok a[i] (a[i - dist]'hid)) (by omega)
        (by rw [size_appendList]; exact hstep i _ _ _ hi hroom hI)
      exact ⟨this.1, fun hF hf => this.2 hF (by omega)⟩
    · rw [hw]
      refine ⟨fun r h => (nomatch h), fun hF _ => ?_⟩
      rw [wr_ok dstLen out _ (hfit hF i _ _ _ hi hroom hI)] at hw
      cases hw

theorem copyFirst_ok (a : Array Nat) (dstLen : Nat) :
    ∀ (n i : Nat) (out : Array Nat), i + n ≤ a.size → out.size + n ≤ dstLen →
      copyFirst a dstLen n i out = .ok (out ++ (a.toList.drop i).take n) := by
  intro n
  induction n with
  | zero => intro i out _ _; simp [copyFirst]
  | succ n ih =>
    intro i out hi ho
    unfold copyFirst
    rw [Array.getElem?_eq_getElem (by omega : i < a.size)]
    simp only
    rw [wr_ok dstLen out _ (by simp; omega)]
    simp only [Kanzi.RLT.Out.bind_ok]
    rw [ih (i + 1) _ (by omega) (by rw [size_appendList]; simp; omega), appendList_assoc]
    congr 2
    rw [List.drop_eq_getElem_cons (by simp; omega : i < a.toList.length)]
    simp

/-- the state of Forward when the coding loop starts -/
def encStart (a : Array Nat) (mode dist : Nat) : Array Nat :=
  ((#[] : Array Nat) ++ [mode, dist % 256]) ++ (a.toList.take dist)

theorem encStart_size (a : Array Nat) (mode dist : Nat) (h : dist ≤ a.size) :
    (encStart a mode dist).size = 2 + dist := by
  unfold encStart
  rw [size_appendList, size_appendList]
  simp; omega

theorem fsdEncode_eq (a : Array Nat) (mode dist dstEnd dstLen : Nat) (hda : dist ≤ a.size)
    (hlen : dist + 2 ≤ dstLen) :
    fsdEncode a mode dist dstEnd dstLen =
      if mode = DELTA_CODING then
        encLoop a dist dstLen deltaToken (fun s => s + 1 < dstEnd) (a.size - dist) dist (encStart a mode dist)
      else encLoop a dist dstLen (fun x p => [x ^^^ p]) (fun _ => True) (a.size - dist) dist
        (encStart a mode dist) := by
  unfold fsdEncode
  rw [wr_ok dstLen #[] _ (by simp; omega)]
  simp only [Kanzi.RLT.Out.bind_ok]
  rw [copyFirst_ok a dstLen dist 0 _ (by omega) (by rw [size_appendList]; simp; omega)]
  simp only [Kanzi.RLT.Out.bind_ok, List.drop_zero, encDelta_eq, encXor_eq]
  rfl

theorem validDist (dist : Nat) (hd : dist = 1 ∨ dist = 2 ∨ dist = 3 ∨ dist = 4 ∨ dist = 8 ∨ dist = 16) :
    ¬ (dist < 1 ∨ (dist > 4 ∧ dist ≠ 8 ∧ dist ≠ 16)) := by omega

theorem fsdEncode_roundtrip (a : Array Nat) (mode dist dstEnd dstLen : Nat)
    (hm : mode = DELTA_CODING ∨ mode = XOR_CODING)
    (hd : dist = 1 ∨ dist = 2 ∨ dist = 3 ∨ dist = 4 ∨ dist = 8 ∨ dist = 16)
    (hda : dist ≤ a.size) (hlen : dist + 2 ≤ dstLen)
    (hb : ∀ (i : Nat) (h : i < a.size), a[i] < 256)
    (r : Nat × Array Nat) (h : fsdEncode a mode dist dstEnd dstLen = .ok r) (hr : r.1 = a.size) :
    (∀ y ∈ r.2.toList, y < 256) ∧ (∀ n, a.size ≤ n → fsdInverse r.2.toList n = .ok a.toList) := by
  rw [fsdEncode_eq a mode dist dstEnd dstLen hda hlen] at h
  have h1 : 1 ≤ dist := by omega
  -- the output is the state at the start of the loop and tokens that the loop of Inverse for `mode` decodes
  obtain ⟨toks, h2, hby, hdec⟩ : ∃ toks : List Nat, r.2 = encStart a mode dist ++ toks ∧ (∀ y ∈ toks, y < 256) ∧
      ∀ n, a.size ≤ n →
        (if mode = DELTA_CODING then invDelta dist n toks (a.toList.take dist).toArray
         else if mode = XOR_CODING then invXor dist n toks (a.toList.take dist).toArray
         else .err "mode") = .ok a.toList := by
    by_cases hmode : mode = DELTA_CODING
    · rw [if_pos hmode] at h
      obtain ⟨toks, h2, hby, hdec⟩ := encLoop_dec a dist dstLen deltaToken _ (invDelta dist) h1 hb
        deltaToken_bytes (fun _ _ => rfl) (invDelta_token dist) _ dist _ r (Nat.le_refl _) hda h hr
      refine ⟨toks, h2, hby, fun n hn => ?_⟩
      rw [if_pos hmode]
      exact hdec n _ hn (by simp)
    · rw [if_neg hmode] at h
      obtain ⟨toks, h2, hby, hdec⟩ := encLoop_dec a dist dstLen (fun x p => [x ^^^ p]) _ (invXor dist) h1 hb
        (fun x p hx hp y hy => by rw [List.mem_singleton.mp hy]; exact Nat.xor_lt_two_pow (n := 8) hx hp)
        (fun _ _ => rfl) (fun n x p rest d _ _ => invXor_token dist n x p rest d) _ dist _ r (Nat.le_refl _) hda h hr
      refine ⟨toks, h2, hby, fun n hn => ?_⟩
      rw [if_neg hmode, if_pos (hm.resolve_left hmode)]
      exact hdec n _ hn (by simp)
  have hl : r.2.toList = mode :: dist :: (a.toList.take dist ++ toks) := by
    simp [h2, encStart, show dist % 256 = dist by omega]
  constructor
  · intro y hy
    rw [hl] at hy
    simp only [List.mem_cons, List.mem_append] at hy
    rcases hy with hy | hy | hy | hy
    · subst hy; rcases hm with hm | hm <;> simp [hm, DELTA_CODING, XOR_CODING]
    · omega
    · obtain ⟨k, hk, rfl⟩ := List.getElem_of_mem (List.mem_of_mem_take hy)
      simp only [Array.length_toList] at hk
      simpa using hb k hk
    · exact hby y hy
  · intro n hn
    have hlt : (List.take dist a.toList).length = dist := by simp; omega
    rw [hl, fsdInverse_valid mode dist n _ (by omega) (validDist dist hd) (by simp; omega) (by omega),
      List.take_left' hlt, List.drop_left' hlt]
    exact hdec n hn

theorem fsdEncode_size (a : Array Nat) (mode dist dstEnd dstLen : Nat)
    (hda : dist ≤ a.size) (hlen : dist + 2 ≤ dstLen) (hend : a.size + 2 ≤ dstEnd) :
    (∀ r, fsdEncode a mode dist dstEnd dstLen = .ok r → r.1 = a.size →
      r.2.size ≤ dstEnd ∧ a.size + 2 ≤ r.2.size) ∧
    (dstEnd ≤ dstLen → ∀ e, fsdEncode a mode dist dstEnd dstLen ≠ .fault e) := by
  rw [fsdEncode_eq a mode dist dstEnd dstLen hda hlen]
  have hs := encStart_size a mode dist hda
  split
  · have := encLoop_inv a dist dstLen deltaToken (fun s => s + 1 < dstEnd) (dstEnd ≤ dstLen)
      (fun i s => s ≤ dstEnd ∧ i + 2 ≤ s)
      (fun i s x p _ hs hI => by have := deltaToken_length x p; omega)
      (fun hF i s x p _ hs hI => by have := deltaToken_length x p; omega)
      (a.size - dist) dist (encStart a mode dist) (Nat.le_refl _) (by omega)
    exact ⟨fun r h hr => by have := this.1 r h; omega, fun hF => this.2 hF (Nat.le_refl _)⟩
  · have := encLoop_inv a dist dstLen (fun x p => [x ^^^ p]) (fun _ => True) (dstEnd ≤ dstLen)
      (fun i s => s = i + 2)
      (fun i s x p _ _ hI => by rw [List.length_singleton, hI])
      (fun hF i s x p hi _ hI => by rw [List.length_singleton]; omega)
      (a.size - dist) dist (encStart a mode dist) (Nat.le_refl _) (by omega)
    exact ⟨fun r h hr => by have := this.1 r h; omega, fun hF => this.2 hF (Nat.le_refl _)⟩

theorem sampleAt_ok (a : Array Nat) (base i : Nat) (h : Hist) (h16 : 16 ≤ i) (hi : base + i < a.size) :
    ∃ h', sampleAt a base i h = .ok h' := by
  unfold sampleAt
  rw [Array.getElem?_eq_getElem hi, rdBack_some a base i 1 (by omega) (by omega),
    rdBack_some a base i 2 (by omega) (by omega), rdBack_some a base i 3 (by omega) (by omega),
    rdBack_some a base i 4 (by omega) (by omega), rdBack_some a base i 8 (by omega) (by omega),
    rdBack_some a base i 16 (by omega) (by omega)]
  exact ⟨_, rfl⟩

theorem sampleLoop_ok (a : Array Nat) (c5 : Nat) :
    ∀ (n i : Nat) (h : Hist), 16 ≤ i → 4 * c5 + i + n ≤ a.size → ∃ h', sampleLoop a c5 n i h = .ok h' := by
  intro n
  induction n with
  | zero => intro i h _ _; exact ⟨h, rfl⟩
  | succ n ih =>
    intro i h h16 hn
    unfold sampleLoop
    obtain ⟨h1, e1⟩ := sampleAt_ok a 0 i h h16 (by omega)
    obtain ⟨h2, e2⟩ := sampleAt_ok a (2 * c5) i h1 h16 (by omega)
    obtain ⟨h3, e3⟩ := sampleAt_ok a (4 * c5) i h2 h16 (by omega)
    rw [e1]; simp only [Kanzi.RLT.Out.bind_ok]
    rw [e2]; simp only [Kanzi.RLT.Out.bind_ok]
    rw [e3]; simp only [Kanzi.RLT.Out.bind_ok]
    exact ih (i + 1) h3 (by omega) (by omega)

theorem largeDeltas_ok (a : Array Nat) (dist : Nat) :
    ∀ (n i acc : Nat), dist ≤ i → i + n ≤ a.size → ∃ v, largeDeltas a dist n i acc = .ok v := by
  intro n
  induction n with
  | zero => intro i acc _ _; exact ⟨acc, rfl⟩
  | succ n ih =>
    intro i acc hd hn
    unfold largeDeltas
    rw [Array.getElem?_eq_getElem (by omega : i < a.size), rdBack0_some a i dist hd (by omega)]
    exact ih (i + 1) _ (by omega) (by omega)

theorem finalHisto_ok (o : Array Nat) (c5 : Nat) :
    ∀ (n i : Nat) (h : Array Nat), 3 * c5 + i + n ≤ o.size → ∃ h', finalHisto o c5 n i h = .ok h' := by
  intro n
  induction n with
  | zero => intro i h _; exact ⟨h, rfl⟩
  | succ n ih =>
    intro i h hn
    unfold finalHisto
    rw [Array.getElem?_eq_getElem (by omega : c5 + i < o.size),
      Array.getElem?_eq_getElem (by omega : 3 * c5 + i < o.size)]
    exact ih (i + 1) _ (by omega)

end Kanzi.FSD
