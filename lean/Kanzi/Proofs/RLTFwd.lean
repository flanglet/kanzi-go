/-
The model of `RLT.Forward` (`Kanzi/Model/RLT.lean`) from its main loop on.  Token lemmas for the list
decoder `decL`; then one lemma per function of the model (`scan_cases`, `emitRun_cases`, `fwdTail_ok`,
`fwdFinish_sat`, `fwdLoop_sat`) saying at once that it does not fault, what it stores, and (on bytes)
that the decoder turns what it stores back into the block (`FwdSat` for the last two).
-/
import Kanzi.Proofs.RLTInv

namespace Kanzi.RLT

/-- a byte emitted as a literal: the escape symbol is followed by 0 -/
def encLit (esc x : Nat) : List Nat := if x = esc then [esc, 0] else [x]

def encLits (esc : Nat) : List Nat → List Nat
  | [] => []
  | x :: l => encLit esc x ++ encLits esc l

/-- the literal as the model stores it -/
theorem encLit_eq (esc x : Nat) : x :: (if x = esc then [0] else []) = encLit esc x := by
  unfold encLit
  by_cases h : x = esc
  · rw [if_pos h, if_pos h, h]
  · rw [if_neg h, if_neg h]

theorem encLit_length (esc x : Nat) : (encLit esc x).length ≤ 2 := by
  unfold encLit
  split
  · exact Nat.le_refl 2
  · exact Nat.le_succ 1

theorem encLits_append (esc : Nat) (l m : List Nat) : encLits esc (l ++ m) = encLits esc l ++ encLits esc m := by
  induction l with
  | nil => rfl
  | cons x l ih => simp [encLits, ih]

theorem encLits_replicate_ne (esc p : Nat) (h : p ≠ esc) (k : Nat) :
    encLits esc (List.replicate k p) = List.replicate k p := by
  induction k with
  | zero => rfl
  | succ k ih => simp [List.replicate_succ, encLits, encLit, h, ih]

theorem encLits_replicate_esc (esc : Nat) (k : Nat) :
    encLits esc (List.replicate k esc) = escLits esc k := by
  induction k with
  | zero => rfl
  | succ k ih => simp [List.replicate_succ, encLits, encLit, escLits, ih]

theorem decL_encLits (n esc : Nat) : ∀ (l rest d : List Nat), d.length + l.length ≤ n →
    decL n esc (encLits esc l ++ rest) d = decL n esc rest (d ++ l) := by
  intro l
  induction l with
  | nil => intro rest d _; simp [encLits]
  | cons x l ih =>
    intro rest d h
    simp only [List.length_cons] at h
    have hlt : ¬ d.length ≥ n := by omega
    by_cases hx : x = esc
    · subst hx
      simp only [encLits, encLit, if_true, List.cons_append, List.nil_append]
      rw [decL_esc0, if_neg hlt, ih _ _ (by simp; omega)]
      simp
    · simp only [encLits, encLit, hx, if_false, List.cons_append, List.nil_append]
      rw [decL_lit _ _ _ _ _ hx, if_neg hlt, ih _ _ (by simp; omega)]
      simp

theorem runLenBytes_length (run : Nat) : (runLenBytes run).length ≤ 3 := by
  unfold runLenBytes
  simp only []
  split
  · simp
  · split <;> simp

theorem runLenBytes_bytes (run : Nat) : ∀ y ∈ runLenBytes run, y < 256 := by
  unfold runLenBytes
  simp only []
  intro y hy
  split at hy
  · simp at hy; omega
  · split at hy
    · simp at hy; omega
    · simp at hy; omega

theorem runLenBytes_1 (run : Nat) (h : run - 3 < 224) : runLenBytes run = [run - 3] := by
  unfold runLenBytes
  dsimp only
  rw [RUN_THRESHOLD_eq, RUN_LEN_ENCODE1_eq, if_pos h, Nat.mod_eq_of_lt (by omega)]

theorem runLenBytes_2 (run : Nat) (h1 : ¬ run - 3 < 224) (h2 : run - 3 < 7936) :
    runLenBytes run = [224 + (run - 3 - 224) / 256, (run - 3 - 224) % 256] := by
  unfold runLenBytes
  dsimp only
  rw [RUN_THRESHOLD_eq, RUN_LEN_ENCODE1_eq, RUN_LEN_ENCODE2_eq, if_neg h1, if_pos h2, Nat.shiftRight_eq_div_pow,
    Nat.mod_eq_of_lt (a := 224 + _) (by omega)]

theorem runLenBytes_3 (run : Nat) (h1 : ¬ run - 3 < 224) (h2 : ¬ run - 3 < 7936) (h3 : run < 73473) :
    runLenBytes run = [0xFF, (run - 3 - 7936) / 256, (run - 3 - 7936) % 256] := by
  unfold runLenBytes
  dsimp only
  rw [RUN_THRESHOLD_eq, RUN_LEN_ENCODE1_eq, RUN_LEN_ENCODE2_eq, if_neg h1, if_neg h2, Nat.shiftRight_eq_div_pow,
    Nat.mod_eq_of_lt (a := _ / 2 ^ 8) (by omega)]

/-- a run token: escape + run length code; the previous byte is repeated `run - 1` times -/
theorem decL_runTok (n esc run prev : Nat) (rest d : List Nat) (hrun : 3 < run) (hmax : run < MAX_RUN)
    (hd : d.getLastD 0 = prev) (hlen : d.length + (run - 1) < n) :
    decL n esc (esc :: (runLenBytes run ++ rest)) d = decL n esc rest (d ++ List.replicate (run - 1) prev) := by
  rw [MAX_RUN_eq] at hmax
  have hbad : runBad n d (run - 1) = false := by
    unfold runBad; rw [MAX_RUN_eq]; simp; omega
  suffices h : decL n esc (esc :: (runLenBytes run ++ rest)) d = runStep n esc rest d (run - 1) by
    rw [h, runStep, hbad, if_neg Bool.false_ne_true, hd]
  by_cases h1 : run - 3 < 224
  · rw [runLenBytes_1 run h1, List.singleton_append, decL_run1 _ _ _ _ _ (by omega) h1]
    congr 1
    rw [RUN_THRESHOLD_eq]
    omega
  · by_cases h2 : run - 3 < 7936
    · have hq : (run - 3 - 224) / 256 < 31 := Nat.div_lt_of_lt_mul (by omega)
      rw [runLenBytes_2 run h1 h2]
      simp only [List.cons_append, List.nil_append]
      rw [decL_run2 _ _ _ _ _ _ (by omega) (by omega) (by omega)]
      congr 1
      rw [shl8_or _ _ (Nat.mod_lt _ (by decide)), RUN_THRESHOLD_eq, RUN_LEN_ENCODE1_eq,
        Nat.add_sub_cancel_left, Nat.div_add_mod']
      omega
    · rw [runLenBytes_3 run h1 h2 hmax]
      simp only [List.cons_append, List.nil_append]
      rw [decL_runFF]
      congr 1
      rw [shl8_or _ _ (Nat.mod_lt _ (by decide)), RUN_THRESHOLD_eq, RUN_LEN_ENCODE2_eq, Nat.div_add_mod']
      omega

/-- the arithmetic test `0x01010101 * prev == LittleEndian.Uint32(src[i:])` on bytes -/
theorem le32_eq (p a b c d : Nat) (hp : p < 256) (ha : a < 256) (hb : b < 256) (hc : c < 256) (hd : d < 256)
    (h : (0x01010101 * p) % 2 ^ 32 = a + 256 * b + 65536 * c + 16777216 * d) : a = p ∧ b = p ∧ c = p ∧ d = p := by
  rw [Nat.mod_eq_of_lt (by omega)] at h
  obtain rfl : a = p := by omega
  obtain rfl : b = a := by omega
  obtain rfl : c = b := by omega
  obtain rfl : d = c := by omega
  exact ⟨rfl, rfl, rfl, rfl⟩

theorem scan_cases (b : List Nat) (prev i run : Nat) (hi : i + 4 < b.length) :
    ∃ k c, k ≤ 4 ∧ scan b.toArray prev i run = .ok ⟨c, i + k, run + k⟩ ∧
      (c = true → 0 < k ∧ run + k < MAX_RUN4 ∧ i + k < b.length - 4) ∧
      ((∀ x ∈ b, x < 256) → prev < 256 → (b.drop i).take k = List.replicate k prev) := by
  obtain ⟨x0, x1, x2, x3, rest, hw⟩ : ∃ x0 x1 x2 x3 rest, b.drop i = x0 :: x1 :: x2 :: x3 :: rest :=
    ⟨_, _, _, _, _, by
      rw [drop_cons b i (by omega), drop_cons b (i + 1) (by omega), drop_cons b (i + 2) (by omega),
        drop_cons b (i + 3) (by omega)]⟩
  have g : ∀ k x, (x0 :: x1 :: x2 :: x3 :: rest)[k]? = some x → b.toArray[i + k]? = some x := fun k x hx => by
    rw [List.getElem?_toArray, ← List.getElem?_drop, hw, hx]
  have hm : (∀ x ∈ b, x < 256) → ∀ x ∈ x0 :: x1 :: x2 :: x3 :: rest, x < 256 :=
    fun hb x hx => hb x (List.mem_of_mem_drop (hw ▸ hx))
  rw [hw]
  unfold scan le32
  rw [show b.toArray[i]? = some x0 from g 0 x0 rfl, g 1 x1 rfl, g 2 x2 rfl, g 3 x3 rfl]
  dsimp only
  by_cases e0 : prev = x0
  · rw [if_pos e0]
    by_cases ew : (0x01010101 * prev) % 2 ^ 32 = x0 + 256 * x1 + 65536 * x2 + 16777216 * x3
    · rw [if_pos ew]
      refine ⟨4, _, by decide, rfl, fun hc => ⟨by decide, of_decide_eq_true hc⟩, fun hb hp => ?_⟩
      obtain ⟨rfl, rfl, rfl, rfl⟩ := le32_eq prev x0 x1 x2 x3 hp (hm hb _ (by simp)) (hm hb _ (by simp))
        (hm hb _ (by simp)) (hm hb _ (by simp)) ew
      rfl
    · rw [if_neg ew]
      by_cases e1 : prev = x1
      · rw [if_pos e1]
        by_cases e2 : prev = x2
        · rw [if_pos e2]
          refine ⟨3, _, by decide, rfl, fun hc => ⟨by decide, of_decide_eq_true hc⟩, fun _ _ => ?_⟩
          subst e0 e1 e2
          rfl
        · rw [if_neg e2]
          refine ⟨2, false, by decide, rfl, nofun, fun _ _ => ?_⟩
          subst e0 e1
          rfl
      · rw [if_neg e1]
        refine ⟨1, false, by decide, rfl, nofun, fun _ _ => ?_⟩
        subst e0
        rfl
  · rw [if_neg e0]
    exact ⟨0, false, by decide, rfl, nofun, fun _ _ => rfl⟩

theorem escLits_length (esc k : Nat) : (escLits esc k).length = 2 * k := by
  induction k with
  | zero => rfl
  | succ k ih => rw [escLits, List.length_cons, List.length_cons, ih]; omega

theorem wr_lits_ne (dstEnd esc prev run : Nat) (out : Array Nat) (hp : prev ≠ esc) (h : out.size + run ≤ dstEnd) :
    ∃ o, wr dstEnd out (List.replicate run prev) = .ok o ∧
      o.toList = out.toList ++ encLits esc (List.replicate run prev) :=
  ⟨_, wr_ok _ _ _ (by rw [List.length_replicate]; exact h),
    by rw [Array.toList_appendList, encLits_replicate_ne _ _ hp]⟩

theorem wr_lits_esc (dstEnd esc run : Nat) (out : Array Nat) (h : out.size + 2 * run ≤ dstEnd) :
    ∃ o, wr dstEnd out (escLits esc run) = .ok o ∧
      o.toList = out.toList ++ encLits esc (List.replicate run esc) :=
  ⟨_, wr_ok _ _ _ (by rw [escLits_length]; exact h),
    by rw [Array.toList_appendList, encLits_replicate_esc]⟩

/-- the bytes stored by `emitRun` for `run` pending copies of `prev` -/
def emitTok (esc prev run : Nat) : List Nat :=
  if run > 3 then encLit esc prev ++ esc :: runLenBytes run
  else encLits esc (List.replicate run prev)

/-- the guards of `emitRun` imply the bounds checks of its stores -/
theorem emitRun_cases (dstEnd esc prev run : Nat) (out : Array Nat) :
    emitRun dstEnd esc prev run out = .err "dst" ∨
    ∃ o, emitRun dstEnd esc prev run out = .ok o ∧ o.toList = out.toList ++ emitTok esc prev run := by
  unfold emitRun emitTok
  rw [RUN_THRESHOLD_eq]
  by_cases hr : run > 3
  · rw [if_pos hr, if_pos hr]
    by_cases hd : out.size + 6 ≥ dstEnd
    · exact .inl (if_pos hd)
    · have hl := runLenBytes_length run
      have hx := encLit_length esc prev
      rw [if_neg hd, ← List.cons_append, encLit_eq,
        wr_ok _ _ _ (by rw [List.length_append, List.length_singleton]; omega), Out.bind_ok,
        wr_ok _ _ _ (by rw [size_appendList, List.length_append, List.length_singleton]; omega)]
      exact .inr ⟨_, rfl, by
        rw [Array.toList_appendList, Array.toList_appendList, List.append_assoc, List.append_assoc]
        rfl⟩
  · rw [if_neg hr, if_neg hr]
    by_cases hp : prev = esc
    · rw [if_neg (fun h => h hp)]
      by_cases hd : out.size + 2 * run ≥ dstEnd
      · exact .inl (if_pos hd)
      · rw [if_neg hd, hp]
        exact .inr (wr_lits_esc dstEnd esc run out (by omega))
    · rw [if_pos hp]
      by_cases hd : out.size + run ≥ dstEnd
      · exact .inl (if_pos hd)
      · rw [if_neg hd]
        exact .inr (wr_lits_ne dstEnd esc prev run out hp (by omega))

theorem encLit_bytes (esc x : Nat) (he : esc < 256) (hx : x < 256) : ∀ y ∈ encLit esc x, y < 256 := by
  unfold encLit; intro y hy
  split at hy <;> simp at hy <;> omega

theorem encLits_bytes (esc : Nat) (he : esc < 256) : ∀ l : List Nat, (∀ x ∈ l, x < 256) →
    ∀ y ∈ encLits esc l, y < 256 := by
  intro l
  induction l with
  | nil => intro _ y hy; simp [encLits] at hy
  | cons x l ih =>
    intro h y hy
    simp only [encLits, List.mem_append] at hy
    rcases hy with hy | hy
    · exact encLit_bytes esc x he (h x (by simp)) y hy
    · exact ih (fun z hz => h z (by simp [hz])) y hy

theorem emitTok_bytes (esc prev run : Nat) (he : esc < 256) (hp : prev < 256) :
    ∀ y ∈ emitTok esc prev run, y < 256 := by
  unfold emitTok
  intro y hy
  split at hy
  · simp only [List.mem_append, List.mem_cons] at hy
    rcases hy with hy | hy | hy
    · exact encLit_bytes esc prev he hp y hy
    · omega
    · exact runLenBytes_bytes run y hy
  · exact encLits_bytes esc he _ (by intro x hx; rw [List.eq_of_mem_replicate hx]; exact hp) y hy

theorem decL_emitTok (n esc prev run : Nat) (rest d : List Nat) (hmax : run < MAX_RUN)
    (hlen : d.length + run < n) :
    decL n esc (emitTok esc prev run ++ rest) d = decL n esc rest (d ++ List.replicate run prev) := by
  unfold emitTok
  by_cases hr : run > 3
  · simp only [hr, if_true]
    have h1 := decL_encLits n esc [prev] (esc :: (runLenBytes run ++ rest)) d (by simp; omega)
    simp only [encLits, List.append_nil] at h1
    rw [List.append_assoc, List.cons_append, h1,
      decL_runTok n esc run prev rest (d ++ [prev]) hr hmax (by simp) (by simp; omega),
      List.append_assoc, List.singleton_append, ← List.replicate_succ, Nat.sub_add_cancel (Nat.one_le_of_lt hr)]
  · simp only [hr, if_false]
    rw [decL_encLits _ _ _ _ _ (by simp; omega)]

theorem fwdTail_ok (b : List Nat) (dstEnd esc : Nat) :
    ∀ (f i : Nat) (out : Array Nat), b.length - i ≤ f →
      ∃ k o, fwdTail b.toArray dstEnd esc f i out = .ok (i + k, o) ∧
        o.toList = out.toList ++ encLits esc ((b.drop i).take k) := by
  intro f
  induction f with
  | zero =>
    intro i out hf
    have hc : ¬ (i < b.toArray.size ∧ out.size < dstEnd) := fun h =>
      Nat.not_le_of_lt h.1 (by rw [List.size_toArray]; omega)
    exact ⟨0, out, by rw [fwdTail, if_neg hc]; rfl, (List.append_nil _).symm⟩
  | succ f ih =>
    intro i out hf
    rw [fwdTail]
    by_cases hc : i < b.toArray.size ∧ out.size < dstEnd
    · obtain ⟨hlt, hroom⟩ := hc
      rw [List.size_toArray] at hlt
      rw [if_pos ⟨hlt, hroom⟩, get_toArray b i hlt]
      dsimp only
      have step : out.size + (encLit esc b[i]).length ≤ dstEnd →
          ∃ k o, (wr dstEnd out (encLit esc b[i])).bind (fun o => fwdTail b.toArray dstEnd esc f (i + 1) o)
              = .ok (i + k, o) ∧ o.toList = out.toList ++ encLits esc ((b.drop i).take k) := by
        intro hfit
        obtain ⟨k, o, h1, h3⟩ := ih (i + 1) (out ++ encLit esc b[i]) (by omega)
        refine ⟨k + 1, o, by rw [wr_ok _ _ _ hfit, Out.bind_ok, h1, Nat.add_assoc, Nat.add_comm 1 k], ?_⟩
        rw [h3, drop_cons b i hlt, List.take_succ_cons, encLits, Array.toList_appendList, List.append_assoc]
      unfold encLit at step
      by_cases hs : b[i] = esc
      · rw [if_pos hs] at step ⊢
        by_cases hd : out.size + 2 ≥ dstEnd
        · rw [if_pos hd]
          exact ⟨0, out, rfl, (List.append_nil _).symm⟩
        · rw [if_neg hd]
          exact step (by simp only [List.length_cons, List.length_nil]; omega)
      · rw [if_neg hs] at step ⊢
        exact step (by simp only [List.length_cons, List.length_nil]; omega)
    · rw [if_neg hc]
      exact ⟨0, out, rfl, (List.append_nil _).symm⟩

/-- What Forward returns from a state with output `out` and `run` copies of `prev` pending at `p`
    (`srcIdx = p + run`): a decline, or `out` extended by a `tail`, shorter than the block.  On bytes,
    when the pending bytes are indeed `b[p .. p + run)`, `tail` consists of bytes and the decoder turns
    it, after `b[0 .. p)`, into the block, for any destination of at least `len(b)` bytes.  (The byte
    facts sit behind an implication because `C13_rlt_total` speaks of arbitrary `Nat` lists.) -/
def FwdSat (b : List Nat) (esc p run prev : Nat) (out : List Nat) (r : Res) : Prop :=
  (∃ e, r = .err e) ∨ ∃ tail, r = .ok (out ++ tail) ∧ (out ++ tail).length < b.length ∧
    ((∀ x ∈ b, x < 256) → esc < 256 → prev < 256 → b.take (p + run) = b.take p ++ List.replicate run prev →
      (∀ y ∈ tail, y < 256) ∧ ∀ n, b.length ≤ n → decL n esc tail (b.take p) = .ok b)

theorem FwdSat.scan {b : List Nat} {esc p run k prev : Nat} {out : List Nat} {r : Res}
    (hrep : (∀ x ∈ b, x < 256) → prev < 256 → (b.drop (p + run)).take k = List.replicate k prev)
    (h : FwdSat b esc p (run + k) prev out r) : FwdSat b esc p run prev out r :=
  h.imp id fun ⟨tail, ht, hl, hdec⟩ => ⟨tail, ht, hl, fun hb he hp htk => hdec hb he hp (by
    rw [← Nat.add_assoc, List.take_add, htk, hrep hb hp, List.append_assoc, List.replicate_append_replicate])⟩

theorem FwdSat.emit {b : List Nat} {esc p run prev : Nat} {out : List Nat} {r : Res} (hmax : run < MAX_RUN)
    (hlt : p + run < b.length) (h : FwdSat b esc (p + run) 1 b[p + run] (out ++ emitTok esc prev run) r) :
    FwdSat b esc p run prev out r := by
  rcases h with he | ⟨tail, ht, hl, hdec⟩
  · exact .inl he
  rw [List.append_assoc] at ht hl
  refine .inr ⟨_, ht, hl, fun hb he hp htk => ?_⟩
  obtain ⟨hby, hd⟩ := hdec hb he (hb _ (List.getElem_mem hlt)) (by
    rw [List.take_add_one, List.getElem?_eq_getElem hlt]
    rfl)
  refine ⟨fun y hy => ?_, fun n hn => ?_⟩
  · rcases List.mem_append.1 hy with hy | hy
    · exact emitTok_bytes esc prev run he hp y hy
    · exact hby y hy
  · have hlen : (b.take p).length + run < n := by
      have := List.length_take_le p b
      omega
    rw [decL_emitTok n esc prev run tail _ hmax hlen, ← htk]
    exact hd n hn

theorem fwdFinish_sat (b : List Nat) (esc dstEnd p run prev : Nat) (out : Array Nat) :
    FwdSat b esc p run prev out.toList (fwdFinish b.toArray dstEnd esc (p + run) run prev out) := by
  unfold fwdFinish
  have rest : ∀ o1 : Array Nat, o1.toList = out.toList ++ encLits esc (List.replicate run prev) →
      FwdSat b esc p run prev out.toList
        ((fwdTail b.toArray dstEnd esc (b.toArray.size - (p + run)) (p + run) o1).bind fun r =>
          if r.1 ≠ b.toArray.size then .err "dst" else if r.2.size ≥ r.1 then .err "nocomp" else .ok r.2.toList) := by
    intro o1 e1
    obtain ⟨k, o2, h2, e2⟩ := fwdTail_ok b dstEnd esc (b.toArray.size - (p + run)) (p + run) o1 (Nat.le_refl _)
    rw [h2, Out.bind_ok]
    dsimp only
    by_cases hj : p + run + k ≠ b.toArray.size
    · rw [if_pos hj]
      exact .inl ⟨_, rfl⟩
    rw [if_neg hj]
    by_cases hsz : o2.size ≥ p + run + k
    · rw [if_pos hsz]
      exact .inl ⟨_, rfl⟩
    rw [if_neg hsz]
    have hj' : p + run + k = b.length := Decidable.not_not.mp hj
    have e3 : o2.toList = out.toList ++ encLits esc (List.replicate run prev ++ b.drop (p + run)) := by
      rw [e2, e1, List.take_of_length_le (by rw [List.length_drop]; omega), encLits_append, List.append_assoc]
    refine .inr ⟨_, congrArg Out.ok e3, by rw [← e3, Array.length_toList]; omega, fun hb he hp htk => ⟨?_, ?_⟩⟩
    · apply encLits_bytes esc he
      intro x hx
      rcases List.mem_append.1 hx with hx | hx
      · rw [List.eq_of_mem_replicate hx]; exact hp
      · exact hb x (List.mem_of_mem_drop hx)
    · intro n hn
      have hd := decL_encLits n esc (List.replicate run prev ++ b.drop (p + run)) [] (b.take p) (by
        rw [← List.length_append, ← List.append_assoc, ← htk, List.take_append_drop]
        exact hn)
      rw [List.append_nil] at hd
      rw [hd, decL_nil, ← List.append_assoc, ← htk, List.take_append_drop]
  by_cases hp : prev = esc
  · subst hp
    rw [if_neg (fun h => h rfl)]
    by_cases hd : out.size + 2 * run < dstEnd
    · obtain ⟨o1, h1, e1⟩ := wr_lits_esc dstEnd prev run out (by omega)
      rw [if_pos hd, h1]
      exact rest o1 e1
    · rw [if_neg hd]
      exact .inl ⟨_, rfl⟩
  · rw [if_pos hp]
    by_cases hd : out.size + run < dstEnd
    · obtain ⟨o1, h1, e1⟩ := wr_lits_ne dstEnd esc prev run out hp (by omega)
      rw [if_pos hd, h1]
      exact rest o1 e1
    · rw [if_neg hd]
      exact .inl ⟨_, rfl⟩

theorem fwdLoop_sat (b : List Nat) (esc dstEnd : Nat) :
    ∀ (f p run prev : Nat) (out : Array Nat), b.length ≤ p + run + f → p + run + 4 < b.length →
      run < MAX_RUN4 → FwdSat b esc p run prev out.toList (fwdLoop b.toArray dstEnd esc f (p + run) run prev out) := by
  intro f
  induction f with
  | zero => intro p run prev out hf hi; omega
  | succ f ih =>
    intro p run prev out hf hi hmax
    obtain ⟨k, c, hk, hs, hc, hrep⟩ := scan_cases b prev (p + run) run hi
    rw [fwdLoop, hs, Out.bind_ok]
    dsimp only
    rw [Nat.add_assoc p run k]
    refine .scan hrep ?_
    cases c with
    | true =>
      obtain ⟨hk0, hmax', hi'⟩ := hc rfl
      rw [if_pos rfl]
      exact ih p (run + k) prev out (by omega) (by omega) hmax'
    | false =>
      rw [if_neg Bool.false_ne_true]
      rcases emitRun_cases dstEnd esc prev (run + k) out with he | ⟨o, ho, hol⟩
      · rw [he]
        exact .inl ⟨_, rfl⟩
      rw [MAX_RUN4_eq] at hmax
      have hlt : p + (run + k) < b.length := by omega
      rw [ho, Out.bind_ok, get_toArray b _ hlt, List.size_toArray]
      dsimp only
      refine .emit (by rw [MAX_RUN_eq]; omega) hlt ?_
      rw [← hol]
      by_cases hend : p + (run + k) + 1 ≥ b.length - 4
      · rw [if_pos hend]
        exact fwdFinish_sat b esc dstEnd _ 1 _ o
      · rw [if_neg hend]
        exact ih _ 1 _ o (by omega) (by omega) (by rw [MAX_RUN4_eq]; decide)

end Kanzi.RLT
