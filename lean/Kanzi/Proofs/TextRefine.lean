/-
Text codecs: the array / index models `fwdLoop`, `invLoop` compute what the list specifications `encL`, `decL`
(TextSpec.lean) compute, as equations for every input and every outcome; the lists of the specification are
`extract`s of the source array (`absE`, `absD`).  Forward: from the index bounds `FB` alone, `fwdLoop` from a state `s`
is `encL` from `absE src s` on the rest of the source (`fwdLoop_eq`); the dictionary is reasoned about on lists
(`encL_total`), which gives that Forward never faults (`textForwardS_total`).  Inverse (current token format only,
`old = false`): `invLoop` from a state `t` is `decL` from `absD a t` on the rest of the input (`invLoop_eq`); the index
bounds come from the any-input invariant of TextDec.lean.
-/
import Kanzi.Proofs.TextSpec
import Kanzi.Proofs.TextDec

namespace Kanzi.Text
open Kanzi.RLT (Out Res wr)

/-! ## slices of the source as lists -/

theorem ext_eq (a : Array Nat) (s e : Nat) : (a.extract s e).toList = (a.toList.take e).drop s := by
  rw [Array.toList_extract, List.extract_eq_drop_take']

theorem ext_self (a : Array Nat) (i : Nat) : (a.extract i i).toList = [] := by
  rw [ext_eq]
  apply List.drop_eq_nil_of_le
  rw [List.length_take]; omega

theorem getD_toList (a : Array Nat) (i : Nat) (h : i < a.size) : a.getD i 0 = a.toList[i]'(by simpa using h) := by
  rw [Array.getD_eq_getD_getElem?, Array.getElem?_eq_getElem h]; rfl

theorem ext_succ (a : Array Nat) (ws i : Nat) (h1 : ws ≤ i) (h2 : i < a.size) :
    (a.extract ws (i + 1)).toList = (a.extract ws i).toList ++ [a.getD i 0] := by
  have hl : i < a.toList.length := by simpa using h2
  rw [ext_eq, ext_eq, List.take_succ_eq_append_getElem hl, List.drop_append_of_le_length (by
    rw [List.length_take]; omega), getD_toList a i h2]

theorem ext_append (a : Array Nat) (x y z : Nat) (h1 : x ≤ y) (h2 : y ≤ z) :
    (a.extract x z).toList = (a.extract x y).toList ++ (a.extract y z).toList := by
  rw [← Array.toList_append, Array.extract_append_extract, Nat.min_eq_left h1, Nat.max_eq_right h2]

theorem ext_one (a : Array Nat) (i : Nat) (h : i < a.size) : (a.extract i (i + 1)).toList = [a.getD i 0] := by
  rw [ext_succ a i i (Nat.le_refl _) h, ext_self]; rfl

theorem drop_cons (a : Array Nat) (i : Nat) (h : i < a.size) :
    a.toList.drop i = a.getD i 0 :: a.toList.drop (i + 1) := by
  rw [List.drop_eq_getElem_cons (by simpa using h), getD_toList a i h]

/-! ## Forward -/

/-- what a successful look-up of Forward returns: `pe1` is the entry in the slot of the word's hash; a word
    it finds sits in the slot of the word or of its case-flipped twin, hits, and has the tail of the word -/
theorem fwdLookup_cases (d : Dict) (word : List Nat) (r : Option Nat × Option Nat) (h : fwdLookup d word = .ok r) :
    r.2 = findEntry d (hashWord word) ∧ ∀ k, r.1 = some k →
      ∃ x w, (x = word ∨ x = flipFirst word) ∧ findEntry d (hashWord x) = some k ∧
        hit d (some k) (hashWord x) word.length = true ∧ (entryAt d k).ptr = some w ∧ sameTail w word = true := by
  unfold fwdLookup at h
  simp only at h
  generalize hc : (if hit d (findEntry d (hashWord word)) (hashWord word) word.length = true then
      findEntry d (hashWord word)
    else if hit d (findEntry d (hashWord (flipFirst word))) (hashWord (flipFirst word)) word.length = true then
      findEntry d (hashWord (flipFirst word)) else none) = cand at h
  cases cand with
  | none =>
    cases h
    exact ⟨rfl, fun k hk => nomatch hk⟩
  | some k' =>
    have hx : ∃ x, (x = word ∨ x = flipFirst word) ∧ findEntry d (hashWord x) = some k' ∧
        hit d (some k') (hashWord x) word.length = true := by
      by_cases c1 : hit d (findEntry d (hashWord word)) (hashWord word) word.length = true
      · rw [if_pos c1] at hc
        rw [hc] at c1
        exact ⟨_, Or.inl rfl, hc, c1⟩
      · rw [if_neg c1] at hc
        by_cases c2 : hit d (findEntry d (hashWord (flipFirst word))) (hashWord (flipFirst word)) word.length = true
        · rw [if_pos c2] at hc
          rw [hc] at c2
          exact ⟨_, Or.inr rfl, hc, c2⟩
        · rw [if_neg c2] at hc
          cases hc
    obtain ⟨x, hx1, hx2, hx3⟩ := hx
    simp only at h
    cases hp : (entryAt d k').ptr with
    | none => rw [hp] at h; cases h
    | some w =>
      rw [hp] at h
      simp only at h
      by_cases cs : sameTail w word = true
      · rw [if_pos cs] at h
        cases h
        exact ⟨rfl, fun k hk => Option.some.inj hk ▸ ⟨x, w, hx1, hx2, hx3, hp, cs⟩⟩
      · rw [if_neg cs] at h
        cases h
        exact ⟨rfl, fun k hk => nomatch hk⟩

theorem fwdLookup_some_len (d : Dict) (w : List Nat) (r : Option Nat × Option Nat) (k : Nat)
    (h : fwdLookup d w = .ok r) (hk : r.1 = some k) : (entryAt d k).len = w.length := by
  obtain ⟨_, _, _, _, hh, _, _⟩ := (fwdLookup_cases d w r h).2 k hk
  exact (hit_some d k _ _ hh).2

/-- the state of `encL` that a loop-head state of `fwdLoop` stands for -/
def absE (src : Array Nat) (s : FSt) : ES :=
  ⟨(src.extract s.ea s.ws).toList, (src.extract s.ws s.i).toList, s.words, s.d, s.out⟩

theorem absE_fresh (src : Array Nat) (i w : Nat) (d : Dict) (out : Array Nat) :
    absE src ⟨i, i, i, w, d, out⟩ = ⟨[], [], w, d, out⟩ := by
  unfold absE
  simp only
  rw [ext_self]

theorem X_single (src : Array Nat) (ea ws : Nat) (h1 : ea ≤ ws) (h2 : ws ≤ src.size) :
    (ea + 1 ≠ ws ∨ src.getD (ws - 1) 0 ≠ 32) ↔ (src.extract ea ws).toList ≠ [32] := by
  by_cases c : ea + 1 = ws
  · subst c
    rw [ext_one src ea (by omega)]
    simp
  · have hne : (src.extract ea ws).toList ≠ [32] := fun hx => by
      have hl := congrArg List.length hx
      rw [extract_length src ea ws h2] at hl
      exact c (by simp at hl; omega)
    exact ⟨fun _ => hne, fun _ => Or.inl c⟩

theorem emitPending_eqL (tc2 crlf : Bool) (ssz dstEnd : Nat) (src : Array Nat) (ea ws : Nat) (out : Array Nat)
    (h1 : ea ≤ ws) (h2 : ws ≤ src.size) (ho : out.size ≤ dstEnd) :
    emitPending tc2 crlf ssz dstEnd src ea ws out =
      emitPendingL tc2 crlf ssz dstEnd (src.extract ea ws).toList out := by
  unfold emitPending emitPendingL
  by_cases cx : ea + 1 ≠ ws ∨ src.getD (ws - 1) 0 ≠ 32
  · rw [if_pos cx, if_pos ((X_single src ea ws h1 h2).mp cx), if_neg (by omega), if_neg (by omega)]
    cases emitSymbols tc2 crlf ssz dstEnd (src.extract ea ws).toList out <;> rfl
  · rw [if_neg cx, if_neg (fun hx => cx ((X_single src ea ws h1 h2).mpr hx))]

theorem fwdWord_eq (tc2 : Bool) (src : Array Nat) (dstLen dstEnd : Nat) (crlf : Bool) (s : FSt)
    (h1 : s.ea ≤ s.ws) (h2 : s.ws ≤ s.i) (hi : s.i < src.size) (ho : s.out.size ≤ dstEnd)
    (hnt : ¬ isText (src.getD s.i 0) = true) :
    encStep tc2 dstLen dstEnd crlf (absE src s) (src.getD s.i 0) =
      (fwdWord tc2 src dstLen dstEnd crlf s (src.getD s.i 0)).bind fun s1 =>
        .ok (absE src ⟨s.i + 1, s.i + 1, s1.ea, s1.words, s1.d, s1.out⟩) := by
  have hlen : (src.extract s.ws s.i).toList.length = s.i - s.ws := extract_length src s.ws s.i (by omega)
  -- "Reset delimiter position" when nothing was emitted
  have hdel : ∀ (w : Nat) (d : Dict),
      (⟨(src.extract s.ea s.ws).toList ++ (src.extract s.ws s.i).toList ++ [src.getD s.i 0], [], w, d, s.out⟩ : ES) =
        absE src ⟨s.i + 1, s.i + 1, s.ea, w, d, s.out⟩ := by
    intro w d
    unfold absE
    simp only
    rw [ext_append src s.ea s.ws (s.i + 1) h1 (by omega), ext_succ src s.ws s.i h2 hi, ext_self, List.append_assoc]
  unfold fwdWord encStep absE
  simp only
  rw [if_neg hnt, hlen]
  by_cases c0 : s.i ≥ s.ws + 2 ∧ isDelimiter (src.getD s.i 0) = true ∧ s.i - s.ws ≤ MAX_WORD_LENGTH
  · rw [if_pos c0, if_pos ⟨by omega, c0.2.1, c0.2.2⟩]
    cases hr : fwdLookup s.d (src.extract s.ws s.i).toList with
    | err x => rfl
    | fault x => rfl
    | ok r =>
      simp only
      cases hr1 : r.1 with
      | none =>
        simp only
        by_cases c1 : (s.i - s.ws > 3 ∨ s.i - s.ws = 3 ∧ s.words < THRESHOLD2) ∧ r.2 = none
        · rw [if_pos c1, if_pos c1]
          cases learn s.d s.words (src.extract s.ws s.i).toList (hashWord (src.extract s.ws s.i).toList) with
          | err x => rfl
          | fault x => rfl
          | ok p => exact congrArg Out.ok (hdel p.2 p.1)
        · rw [if_neg c1, if_neg c1]
          exact congrArg Out.ok (hdel s.words s.d)
      | some k =>
        simp only
        have hk := fwdLookup_some_len s.d _ r k hr hr1
        rw [hlen] at hk
        rw [emitPending_eqL tc2 crlf s.d.ssz dstEnd src s.ea s.ws s.out h1 (by omega) ho]
        cases emitPendingL tc2 crlf s.d.ssz dstEnd (src.extract s.ea s.ws).toList s.out with
        | err x => rfl
        | fault x => rfl
        | ok o =>
          simp only
          by_cases c3 : o.size + (if tc2 = true then 3 else 4) ≥ dstEnd
          · rw [if_pos c3, if_pos c3]; rfl
          · rw [if_neg c3, if_neg c3]
            cases fwdToken tc2 dstLen o (decide (r.2 = some k)) ((entryAt s.d k).idx % (MASK_LENGTH + 1)) with
            | err x => rfl
            | fault x => rfl
            | ok o2 =>
              simp only [Out.bind]
              rw [hk, show s.ws + (s.i - s.ws) = s.i by omega, ext_one src s.i hi, ext_self]
  · rw [if_neg c0, if_neg (fun hc => c0 ⟨by omega, hc.2.1, hc.2.2⟩)]
    exact congrArg Out.ok (hdel s.words s.d)

/-- what a successful word step leaves: `emitAnchor` not beyond the next byte, `dstIdx` within the margin -/
theorem fwdWord_bounds (tc2 : Bool) (src : Array Nat) (dstLen dstEnd : Nat) (crlf : Bool) (s s1 : FSt) (c : Nat)
    (h1 : s.ea ≤ s.ws) (h2 : s.ws ≤ s.i) (hi : s.i ≤ src.size) (ho : s.out.size ≤ dstEnd) (hde : dstEnd ≤ dstLen)
    (h : fwdWord tc2 src dstLen dstEnd crlf s c = .ok s1) : s1.ea ≤ s.i ∧ s1.out.size ≤ dstEnd := by
  have hlen : (src.extract s.ws s.i).toList.length = s.i - s.ws := extract_length src s.ws s.i hi
  unfold fwdWord at h
  simp only at h
  by_cases c0 : s.i ≥ s.ws + 2 ∧ isDelimiter c = true ∧ s.i - s.ws ≤ MAX_WORD_LENGTH
  · rw [if_pos c0] at h
    cases hr : fwdLookup s.d (src.extract s.ws s.i).toList with
    | err x => rw [hr] at h; cases h
    | fault x => rw [hr] at h; cases h
    | ok r =>
      rw [hr] at h
      simp only at h
      cases hr1 : r.1 with
      | none =>
        rw [hr1] at h
        simp only at h
        split at h
        · split at h <;> cases h
          exact ⟨by show s.ea ≤ s.i; omega, ho⟩
        · cases h; exact ⟨by show s.ea ≤ s.i; omega, ho⟩
      | some k =>
        rw [hr1] at h
        simp only at h
        have hk := fwdLookup_some_len s.d _ r k hr hr1
        rw [hlen] at hk
        rcases emitPending_total tc2 crlf s.d.ssz dstEnd src s.ea s.ws s.out h1 ho with ⟨x, he⟩ | ⟨o, he, hos⟩
        · rw [he] at h; cases h
        · rw [he] at h
          simp only at h
          by_cases c3 : o.size + (if tc2 = true then 3 else 4) ≥ dstEnd
          · rw [if_pos c3] at h; cases h
          · rw [if_neg c3] at h
            have hroom : o.size + 4 ≤ dstEnd := by
              cases tc2 <;> simp at c3 <;> omega
            obtain ⟨o2, ht, hs2⟩ := fwdToken_ok tc2 dstLen o (decide (r.2 = some k))
              ((entryAt s.d k).idx % (MASK_LENGTH + 1)) (by omega)
            rw [ht] at h
            cases h
            exact ⟨by show s.ws + (entryAt s.d k).len ≤ s.i; omega, by show o2.size ≤ dstEnd; omega⟩
  · rw [if_neg c0] at h
    cases h; exact ⟨by show s.ea ≤ s.i; omega, ho⟩

/-- index bounds of a loop-head state of Forward (all that the refinement needs) -/
structure FB (src : Array Nat) (dstEnd : Nat) (s : FSt) : Prop where
  ea_le : s.ea ≤ s.ws
  ws_le : s.ws ≤ s.i
  i_le : s.i ≤ src.size
  out_le : s.out.size ≤ dstEnd

/-- the loop of Forward IS `encL` on the rest of the source, for every outcome; it ends at the end of the source -/
theorem fwdLoop_eq (tc2 : Bool) (src : Array Nat) (dstLen dstEnd : Nat) (crlf : Bool) (hde : dstEnd ≤ dstLen) :
    ∀ (f : Nat) (s : FSt), FB src dstEnd s → src.size < f + s.i →
      encL tc2 dstLen dstEnd crlf (src.toList.drop s.i) (absE src s) =
          ((fwdLoop tc2 src dstLen dstEnd crlf f s).bind fun s' => .ok (absE src s')) ∧
        ∀ s', fwdLoop tc2 src dstLen dstEnd crlf f s = .ok s' → FB src dstEnd s' ∧ s'.i = src.size
  | 0, s, hB, hf => by have := hB.i_le; omega
  | f + 1, s, hB, hf => by
    unfold fwdLoop
    simp only
    by_cases c0 : s.i < src.size
    · rw [if_pos c0, drop_cons src s.i c0]
      unfold encL
      by_cases c1 : isText (src.getD s.i 0) = true
      · rw [if_pos c1]
        have hst : encStep tc2 dstLen dstEnd crlf (absE src s) (src.getD s.i 0) =
            .ok (absE src { s with i := s.i + 1 }) := by
          unfold encStep absE
          rw [if_pos c1]
          simp only
          rw [ext_succ src s.ws s.i hB.ws_le c0]
        rw [hst]
        exact fwdLoop_eq tc2 src dstLen dstEnd crlf hde f { s with i := s.i + 1 }
          ⟨hB.ea_le, Nat.le_succ_of_le hB.ws_le, c0, hB.out_le⟩ (by simp only; omega)
      · rw [if_neg c1, fwdWord_eq tc2 src dstLen dstEnd crlf s hB.ea_le hB.ws_le c0 hB.out_le c1]
        cases hw : fwdWord tc2 src dstLen dstEnd crlf s (src.getD s.i 0) with
        | err x => exact ⟨rfl, fun s' h => nomatch h⟩
        | fault x => exact ⟨rfl, fun s' h => nomatch h⟩
        | ok s1 =>
          obtain ⟨b1, b2⟩ := fwdWord_bounds tc2 src dstLen dstEnd crlf s s1 _ hB.ea_le hB.ws_le hB.i_le hB.out_le hde hw
          simp only [Out.bind]
          exact fwdLoop_eq tc2 src dstLen dstEnd crlf hde f ⟨s.i + 1, s.i + 1, s1.ea, s1.words, s1.d, s1.out⟩
            ⟨by show s1.ea ≤ s.i + 1; omega, Nat.le_refl _, c0, b2⟩ (by simp only; omega)
    · rw [if_neg c0, List.drop_eq_nil_of_le (by simp; omega)]
      unfold encL
      exact ⟨rfl, fun s' h => by cases h; exact ⟨hB, Nat.le_antisymm hB.i_le (Nat.le_of_not_lt c0)⟩⟩

/-! ## Forward never faults -/

theorem emitPendingL_total (tc2 crlf : Bool) (ssz dstEnd : Nat) (X : List Nat) (out : Array Nat) :
    (∃ x, emitPendingL tc2 crlf ssz dstEnd X out = .err x) ∨ ∃ o, emitPendingL tc2 crlf ssz dstEnd X out = .ok o := by
  unfold emitPendingL
  split
  · cases emitSymbols tc2 crlf ssz dstEnd X out with
    | none => exact Or.inl ⟨_, rfl⟩
    | some o => exact Or.inr ⟨o, rfl⟩
  · exact Or.inr ⟨out, rfl⟩

/-- one byte of `encL` from a well-formed dictionary and a current word of letters: no fault, and both are kept -/
theorem encStep_total (tc2 : Bool) (dstLen dstEnd : Nat) (crlf : Bool) (hde : dstEnd ≤ dstLen) (e : ES) (c : Nat)
    (hd : DictOK e.d e.words) (ht : ∀ b ∈ e.pw, isText b = true) :
    (∃ x, encStep tc2 dstLen dstEnd crlf e c = .err x) ∨
    ∃ e1, encStep tc2 dstLen dstEnd crlf e c = .ok e1 ∧ DictOK e1.d e1.words ∧ ∀ b ∈ e1.pw, isText b = true := by
  unfold encStep
  by_cases c1 : isText c = true
  · rw [if_pos c1]
    refine Or.inr ⟨_, rfl, hd, fun b hb => ?_⟩
    rcases List.mem_append.mp hb with h | h
    · exact ht b h
    · rw [List.mem_singleton.mp h]; exact c1
  rw [if_neg c1]
  by_cases c0 : e.pw.length ≥ 2 ∧ isDelimiter c = true ∧ e.pw.length ≤ MAX_WORD_LENGTH
  · rw [if_pos c0]
    obtain ⟨r, hr, _⟩ := fwdLookup_ok e.d e.words e.pw hd c0.1
    rw [hr]
    simp only
    cases r.1 with
    | none =>
      simp only
      by_cases c2 : (e.pw.length > 3 ∨ e.pw.length = 3 ∧ e.words < THRESHOLD2) ∧ r.2 = none
      · rw [if_pos c2]
        obtain ⟨d', w', hl, hok, _, _⟩ := learn_ok e.d e.words e.pw hd ht
        rw [hl]
        exact Or.inr ⟨_, rfl, hok, fun b hb => nomatch hb⟩
      · rw [if_neg c2]
        exact Or.inr ⟨_, rfl, hd, fun b hb => nomatch hb⟩
    | some k =>
      simp only
      rcases emitPendingL_total tc2 crlf e.d.ssz dstEnd e.X e.out with ⟨x, hx⟩ | ⟨o, ho⟩
      · rw [hx]; exact Or.inl ⟨x, rfl⟩
      · rw [ho]
        simp only
        by_cases c3 : o.size + (if tc2 = true then 3 else 4) ≥ dstEnd
        · rw [if_pos c3]; exact Or.inl ⟨_, rfl⟩
        · rw [if_neg c3]
          have hroom : o.size + 4 ≤ dstEnd := by
            cases tc2 <;> simp at c3 <;> omega
          obtain ⟨o2, hto, _⟩ := fwdToken_ok tc2 dstLen o (decide (r.2 = some k))
            ((entryAt e.d k).idx % (MASK_LENGTH + 1)) (by omega)
          rw [hto]
          exact Or.inr ⟨_, rfl, hd, fun b hb => nomatch hb⟩
  · rw [if_neg c0]
    exact Or.inr ⟨_, rfl, hd, fun b hb => nomatch hb⟩

theorem encL_total (tc2 : Bool) (dstLen dstEnd : Nat) (crlf : Bool) (hde : dstEnd ≤ dstLen) :
    ∀ (l : List Nat) (e : ES), DictOK e.d e.words → (∀ b ∈ e.pw, isText b = true) →
      (∃ x, encL tc2 dstLen dstEnd crlf l e = .err x) ∨ ∃ e', encL tc2 dstLen dstEnd crlf l e = .ok e'
  | [], e, _, _ => Or.inr ⟨e, by unfold encL; rfl⟩
  | c :: rest, e, hd, ht => by
    unfold encL
    rcases encStep_total tc2 dstLen dstEnd crlf hde e c hd ht with ⟨x, hx⟩ | ⟨e1, h1, hd1, ht1⟩
    · rw [hx]; exact Or.inl ⟨x, rfl⟩
    · rw [h1]; exact encL_total tc2 dstLen dstEnd crlf hde rest e1 hd1 ht1

/-- the loop of Forward from a well-formed dictionary, the current word made of letters: an error or the end of
    the source; no fault, since `encL` has none -/
theorem fwdLoop_total (tc2 : Bool) (src : Array Nat) (dstLen dstEnd : Nat) (crlf : Bool) (hde : dstEnd ≤ dstLen)
    (f : Nat) (s : FSt) (hB : FB src dstEnd s) (hd : DictOK s.d s.words)
    (ht : ∀ b ∈ (src.extract s.ws s.i).toList, isText b = true) (hf : src.size < f + s.i) :
    (∃ x, fwdLoop tc2 src dstLen dstEnd crlf f s = .err x) ∨
    ∃ s', fwdLoop tc2 src dstLen dstEnd crlf f s = .ok s' ∧ FB src dstEnd s' ∧ s'.i = src.size := by
  obtain ⟨heq, hfin⟩ := fwdLoop_eq tc2 src dstLen dstEnd crlf hde f s hB hf
  cases hl : fwdLoop tc2 src dstLen dstEnd crlf f s with
  | err x => exact Or.inl ⟨x, rfl⟩
  | ok s' => exact Or.inr ⟨s', rfl, hfin s' hl⟩
  | fault x =>
    rw [hl] at heq
    rcases encL_total tc2 dstLen dstEnd crlf hde _ (absE src s) hd ht with ⟨y, hy⟩ | ⟨e', he'⟩
    · rw [hy] at heq; cases heq
    · rw [he'] at heq; cases heq

theorem fwdFinish_total (tc2 : Bool) (src : Array Nat) (dstEnd : Nat) (crlf : Bool) (s : FSt)
    (hB : FB src dstEnd s) :
    (∃ e, fwdFinish tc2 src dstEnd crlf s = .err e) ∨
    (∃ o, fwdFinish tc2 src dstEnd crlf s = .ok o ∧ o.length ≤ dstEnd) := by
  unfold fwdFinish
  rw [if_neg (by have := hB.ea_le; have := hB.ws_le; have := hB.i_le; omega), if_neg (by have := hB.out_le; omega)]
  cases he : emitSymbols tc2 crlf s.d.ssz dstEnd (src.extract s.ea src.size).toList s.out with
  | none => exact Or.inl ⟨_, rfl⟩
  | some o =>
    simp only
    by_cases c : s.i ≠ src.size
    · rw [if_pos c]; exact Or.inl ⟨_, rfl⟩
    · rw [if_neg c]
      exact Or.inr ⟨_, rfl, by rw [Array.length_toList]; exact emitSymbols_size _ _ _ _ _ _ _ he hB.out_le⟩

/-- when the first byte of a block is not a letter, `delimAnchor` starts on it -/
theorem fwdLoop_first (tc2 : Bool) (src : Array Nat) (dstLen dstEnd : Nat) (crlf : Bool) (f p0 ea words : Nat)
    (d : Dict) (out : Array Nat) (hp : p0 < src.size) (hnt : isText (src.getD p0 0) = false) :
    fwdLoop tc2 src dstLen dstEnd crlf (f + 1) ⟨p0, p0 + 1, ea, words, d, out⟩ =
      fwdLoop tc2 src dstLen dstEnd crlf (f + 1) ⟨p0, p0, ea, words, d, out⟩ := by
  unfold fwdLoop
  simp only
  rw [if_pos hp, if_pos hp, if_neg (by rw [hnt]; decide), if_neg (by rw [hnt]; decide)]
  unfold fwdWord
  simp only
  rw [if_neg (by omega), if_neg (by omega)]

/-- the Go function up to its main loop, on a block with a byte other than a space: the mode byte and the `p0`
    leading spaces are stored and the loop starts at the first other byte, `delimAnchor` in front of it -/
theorem codecForwardLoopS_start (sw : Nat) (sd : Array Entry) (tc2 : Bool) (hsz mode : Nat) (src : List Nat)
    (dstLen : Nat) (hde : src.length ≤ dstLen) (hns : ∃ c ∈ src, c ≠ 32) :
    ∃ p0, p0 < src.length ∧ src.toArray.getD p0 0 ≠ 32 ∧ (∀ j, j < p0 → src.toArray.getD j 0 = 32) ∧
      FB src.toArray src.toArray.size ⟨p0, p0, p0, staticSize sw tc2, reset sw sd tc2 hsz src.length,
        (#[] : Array Nat) ++ [mode] ++ List.replicate p0 32⟩ ∧
      codecForwardLoopS sw sd tc2 hsz mode src dstLen =
        fwdLoop tc2 src.toArray dstLen src.toArray.size (decide (mode &&& MASK_CRLF ≠ 0)) (src.toArray.size + 1)
          ⟨p0, p0, p0, staticSize sw tc2, reset sw sd tc2 hsz src.length,
            (#[] : Array Nat) ++ [mode] ++ List.replicate p0 32⟩ := by
  have hsize : src.toArray.size = src.length := List.size_toArray
  obtain ⟨c, hc, hne⟩ := hns
  obtain ⟨k, hk, e⟩ := List.mem_iff_getElem.mp hc
  have hks : src.toArray.getD k 0 ≠ 32 := by
    rw [Array.getD_eq_getD_getElem?, Array.getElem?_eq_getElem (by omega)]
    simpa [e] using hne
  obtain ⟨p, hl, _, hp2, hp3, hp4⟩ := leadSpaces_spec src.toArray dstLen k (by omega) hks (by omega)
    (src.toArray.size + 1) 0 (#[] ++ [mode]) (Nat.zero_le _) (by omega) (by rw [size_appendList]; rfl)
  have hpa : p < src.toArray.size := by omega
  refine ⟨p, by omega, hp3, fun j hj => hp4 j (Nat.zero_le _) hj, ⟨Nat.le_refl _, Nat.le_refl _, Nat.le_of_lt hpa, ?_⟩, ?_⟩
  · show ((#[] : Array Nat) ++ [mode] ++ List.replicate p 32).size ≤ src.toArray.size
    rw [size_appendList, size_appendList, List.length_replicate]
    simp only [Array.size_empty, List.length_cons, List.length_nil]
    omega
  · unfold codecForwardLoopS
    simp only
    rw [wr_ok dstLen #[] [mode] (by simp; omega)]
    simp only [Kanzi.RLT.Out.bind]
    rw [hl]
    simp only
    rw [Nat.sub_zero, Array.getElem?_eq_getElem hpa]
    simp only
    by_cases ct : isText src.toArray[p] = true
    · rw [if_pos ct]; rfl
    · rw [if_neg ct]
      exact fwdLoop_first tc2 src.toArray dstLen src.toArray.size _ _ p p _ _ _ hpa (by
        rw [Array.getD_eq_getD_getElem?, Array.getElem?_eq_getElem hpa]
        simpa using ct)

theorem codecForwardS_total (sw : Nat) (sd : Array Entry) (hs : StaticOK sw sd) (tc2 : Bool) (hsz dt : Nat)
    (hpos : 0 < hsz) (src : List Nat) (dstLen : Nat) (h4 : 4 ≤ src.length) :
    (∃ e, codecForwardS sw sd tc2 hsz dt src dstLen = .err e) ∨
    (∃ o, codecForwardS sw sd tc2 hsz dt src dstLen = .ok o ∧ o.length ≤ src.length) := by
  unfold codecForwardS
  by_cases c0 : dstLen < src.length
  · rw [if_pos c0]; exact Or.inl ⟨_, rfl⟩
  · rw [if_neg c0]
    by_cases c1 : dt ≠ 0 ∧ dt ≠ DT_TEXT ∧ dt ≠ Kanzi.RLT.DT_BIN
    · rw [if_pos c1]; exact Or.inl ⟨_, rfl⟩
    · rw [if_neg c1]
      simp only
      by_cases c2 : computeStats (!tc2) src &&& MASK_NOT_TEXT ≠ 0
      · rw [if_pos c2]; exact Or.inl ⟨_, rfl⟩
      · rw [if_neg c2]
        have hsize : src.toArray.size = src.length := List.size_toArray
        obtain ⟨p0, _, _, _, hB0, hstart⟩ := codecForwardLoopS_start sw sd tc2 hsz (computeStats (!tc2) src) src dstLen
          (by omega) (accepted_nonspace (!tc2) src h4 (by omega))
        rw [hstart]
        rcases fwdLoop_total tc2 src.toArray dstLen src.toArray.size _ (by omega) (src.toArray.size + 1) _ hB0
            (reset_ok sw sd tc2 hsz src.length hs hpos) (fun b hb => by rw [ext_self] at hb; cases hb)
            (by simp only; omega) with ⟨e, he⟩ | ⟨s', hs', hB', _⟩
        · rw [he]; exact Or.inl ⟨_, rfl⟩
        · rw [hs']
          rcases fwdFinish_total tc2 src.toArray src.toArray.size _ s' hB' with ⟨e, he⟩ | ⟨o', ho', hol⟩
          · exact Or.inl ⟨_, he⟩
          · exact Or.inr ⟨_, ho', by omega⟩

/-- `TextCodec.Forward`: any block, any destination size, any ctx: a clean decline or an output of at most
    `MaxEncodedLen = len(src)` bytes -/
theorem textForwardS_total (sw : Nat) (sd : Array Entry) (hs : StaticOK sw sd) (tc2 : Bool) (hsz dt : Nat)
    (hpos : 0 < hsz) (src : List Nat) (dstLen : Nat) :
    (∃ e, textForwardS sw sd tc2 hsz dt src dstLen = .err e) ∨
    (∃ o, textForwardS sw sd tc2 hsz dt src dstLen = .ok o ∧ o.length ≤ src.length) := by
  unfold textForwardS
  by_cases c0 : src.length = 0 ∨ dstLen = 0
  · rw [if_pos c0]; exact Or.inr ⟨_, rfl, Nat.zero_le _⟩
  · rw [if_neg c0]
    by_cases c1 : src.length < MIN_BLOCK_SIZE
    · rw [if_pos c1]; exact Or.inl ⟨_, rfl⟩
    · rw [if_neg c1]
      by_cases c2 : src.length > MAX_BLOCK_SIZE
      · rw [if_pos c2]; exact Or.inl ⟨_, rfl⟩
      · rw [if_neg c2]
        have : MIN_BLOCK_SIZE = 1024 := rfl
        exact codecForwardS_total sw sd hs tc2 hsz dt hpos src dstLen (by omega)

/-! ## Inverse: reading at an offset -/

theorem get_shift (a : Array Nat) (j k : Nat) : a[j + k]? = (a.toList.drop j).toArray[k]? := by
  simp [List.getElem?_drop]

theorem get_shift0 (a : Array Nat) (j : Nat) : a[j]? = (a.toList.drop j).toArray[0]? := by
  have := get_shift a j 0
  rwa [Nat.add_zero] at this

/-- an index reader's result with its end position moved by `j`: reading at `j` in `a` is reading at 0 in
    `a.toList.drop j`, which is how `tokL` sees the rest of the input -/
def shiftPair (j : Nat) (r : Out (Nat × Nat)) : Out (Nat × Nat) :=
  match r with
  | .ok p => .ok (p.1, j + p.2)
  | .err e => .err e
  | .fault e => .fault e

def shiftTriple (j : Nat) (r : Out (Nat × Nat × Nat)) : Out (Nat × Nat × Nat) :=
  match r with
  | .ok p => .ok (p.1, j + p.2.1, p.2.2)
  | .err e => .err e
  | .fault e => .fault e

theorem readIdx1_shift (a : Array Nat) (j dsz : Nat) :
    readIdx1 a j dsz = shiftPair j (readIdx1 (a.toList.drop j).toArray 0 dsz) := by
  unfold readIdx1
  rw [get_shift0 a j, get_shift a j 1, get_shift a j 2]
  generalize (a.toList.drop j).toArray = b
  simp only [Nat.zero_add]
  cases b[0]? with
  | none => rfl
  | some b0 =>
    simp only
    by_cases c0 : b0 ≥ 128
    · rw [if_pos c0, if_pos c0]
      cases b[1]? with
      | none => rfl
      | some b1 =>
        simp only
        by_cases c1 : b1 ≥ 0x80
        · rw [if_pos c1, if_pos c1]
          cases b[2]? with
          | none => rfl
          | some b2 =>
            simp only
            split <;> rfl
        · rw [if_neg c1, if_neg c1]
          split <;> rfl
    · rw [if_neg c0, if_neg c0]; rfl

theorem readIdx2Multi_shift (a : Array Nat) (idx j : Nat) :
    readIdx2Multi a idx j = shiftPair j (readIdx2Multi (a.toList.drop j).toArray idx 0) := by
  unfold readIdx2Multi
  rw [get_shift0 a j, get_shift a j 1]
  generalize (a.toList.drop j).toArray = b
  simp only [Nat.zero_add]
  by_cases c0 : idx ≥ 112
  · rw [if_pos c0, if_pos c0]
    cases b[0]? <;> cases b[1]? <;> rfl
  · rw [if_neg c0, if_neg c0]
    cases b[0]? <;> rfl

theorem readIdx2Core_shift (a : Array Nat) (c j fl dsz : Nat) :
    readIdx2Core a c j fl dsz = shiftTriple j (readIdx2Core (a.toList.drop j).toArray c 0 fl dsz) := by
  unfold readIdx2Core
  rw [readIdx2Multi_shift a (c &&& 0x7F) j]
  generalize readIdx2Multi (a.toList.drop j).toArray (c &&& 0x7F) 0 = r
  by_cases c0 : c &&& 0x7F ≥ 64
  · rw [if_pos c0, if_pos c0]
    cases r with
    | err e => rfl
    | fault e => rfl
    | ok p =>
      simp only [shiftPair]
      split
      · rfl
      · split <;> rfl
  · rw [if_neg c0, if_neg c0]
    split <;> rfl

theorem shiftTriple_comp (j k : Nat) (r : Out (Nat × Nat × Nat)) :
    shiftTriple j (shiftTriple k r) = shiftTriple (j + k) r := by
  cases r with
  | ok p => simp only [shiftTriple, Nat.add_assoc]
  | err e => rfl
  | fault e => rfl

theorem readIdx2_shift (a : Array Nat) (j cur dsz : Nat) :
    readIdx2 a j cur dsz = shiftTriple j (readIdx2 (a.toList.drop j).toArray 0 cur dsz) := by
  unfold readIdx2
  by_cases c0 : cur = MASK_FLIP_CASE
  · rw [if_pos c0, if_pos c0, get_shift0 a j]
    cases hb : (a.toList.drop j).toArray[0]? with
    | none => rfl
    | some c =>
      simp only
      rw [readIdx2Core_shift a c (j + 1), readIdx2Core_shift (a.toList.drop j).toArray c (0 + 1), shiftTriple_comp]
      simp only [List.drop_drop, Nat.zero_add]
  · rw [if_neg c0, if_neg c0]
    exact readIdx2Core_shift a cur j 0 dsz

/-! ## Inverse -/

/-- the state of `decL` that a loop-head state of `invLoop` stands for -/
def absD (a : Array Nat) (t : ISt) : DS :=
  ⟨if t.ws ≤ t.i then some (a.extract t.ws t.i).toList else none, t.words, t.run, t.d, t.out.toList⟩

theorem absD_fresh (a : Array Nat) (i w : Nat) (r : Bool) (d : Dict) (out : Array Nat) :
    absD a ⟨i, i, w, r, d, out⟩ = ⟨some [], w, r, d, out.toList⟩ := by
  unfold absD
  simp only
  rw [if_pos (Nat.le_refl i), ext_self]

theorem invLearn_L (a : Array Nat) (t : ISt) (cur : Nat) (hi : t.i ≤ a.size) :
    invLearn a t.i t.ws t.words t.d cur = learnL (absD a t).pw (absD a t).words (absD a t).d cur := by
  unfold invLearn learnL absD
  simp only
  by_cases c : t.ws ≤ t.i
  · rw [if_pos c]
    simp only
    rw [extract_length a t.ws t.i hi]
    by_cases g : t.i ≥ t.ws + 3 ∧ isDelimiter cur = true ∧ t.i - t.ws ≤ MAX_WORD_LENGTH
    · rw [if_pos g, if_pos ⟨by omega, g.2.1, g.2.2⟩]
    · rw [if_neg g, if_neg (fun h => g ⟨by omega, h.2.1, h.2.2⟩)]
  · rw [if_neg c, if_neg (by omega)]

theorem emitWord_eq (a : Array Nat) (dstLen : Nat) (t : ISt) (pw : Option (List Nat)) (i2 idx flip : Nat) :
    ((emitWord dstLen t i2 idx flip).bind fun t' => .ok (absD a t', t'.i)) =
      (emitWordL dstLen ⟨pw, t.words, t.run, t.d, t.out.toList⟩ idx flip).bind fun s' => .ok (s', i2) := by
  unfold emitWordL emitWord
  simp only
  by_cases c0 : idx ≥ t.d.list.size
  · rw [if_pos c0, if_pos c0]; rfl
  · rw [if_neg c0, if_neg c0]
    cases hp : (entryAt t.d idx).ptr with
    | none => rfl
    | some w =>
      simp only
      rw [← Array.toList_push, ← apply_ite Array.toList, Array.length_toList]
      generalize (if (entryAt t.d idx).len % 256 > 1 ∧ t.run = true then t.out.push 32 else t.out) = o1
      by_cases c1 : o1.size + (entryAt t.d idx).len % 256 ≥ dstLen
      · rw [if_pos c1, if_pos c1]; rfl
      · rw [if_neg c1, if_neg c1]
        simp only [Out.bind]
        by_cases c2 : (entryAt t.d idx).len % 256 > 1
        · rw [if_pos c2, if_pos c2]
          unfold absD
          simp only
          rw [if_neg (Nat.not_succ_le_self i2), Array.toList_appendList]
        · rw [if_neg c2, if_neg c2, absD_fresh, Array.toList_appendList]

theorem invLit_eq (a : Array Nat) (dstLen : Nat) (crlf : Bool) (t : ISt) (pw : Option (List Nat)) (cur : Nat) :
    ((invLit dstLen crlf t cur).bind fun t' => .ok (absD a t', t'.i)) =
      (litL dstLen crlf ⟨pw, t.words, t.run, t.d, t.out.toList⟩ cur).bind fun s' => .ok (s', t.i) := by
  unfold litL invLit
  simp only [Array.length_toList]
  by_cases c0 : crlf = true ∧ cur = LF
  · rw [if_pos c0, if_pos c0]
    by_cases c1 : t.out.size + 1 ≥ dstLen
    · rw [if_pos c1, if_pos c1]; rfl
    · rw [if_neg c1, if_neg c1]
      simp only [Out.bind]
      rw [absD_fresh, Array.toList_push, Array.toList_push, List.append_assoc]
      rfl
  · rw [if_neg c0, if_neg c0]
    simp only [Out.bind]
    rw [absD_fresh, Array.toList_push]

/-- how `tokL` passes a state on together with the number of bytes consumed -/
theorem tok_bind (x : Out DS) (n j : Nat) :
    ((match x with
      | .ok s' => (.ok (s', n) : Out (DS × Nat))
      | .err e => .err e
      | .fault e => .fault e).bind fun p => (.ok (p.1, j + p.2) : Out (DS × Nat))) =
      x.bind fun s' => .ok (s', j + n) := by
  cases x <;> rfl

/-- the token part of one iteration (`t.i` = `srcIdx` after `srcIdx++`), current format, every outcome -/
theorem invTok_eq (tc2 : Bool) (a : Array Nat) (dstLen : Nat) (crlf : Bool) (t : ISt) (pw : Option (List Nat))
    (cur : Nat) :
    ((if tc2 = true then invTok2 false a dstLen crlf t cur else invTok1 a dstLen crlf t cur).bind
        fun t' => .ok (absD a t', t'.i)) =
      (tokL tc2 dstLen crlf ⟨pw, t.words, t.run, t.d, t.out.toList⟩ cur (a.toList.drop t.i)).bind
        fun p => .ok (p.1, t.i + p.2) := by
  unfold tokL
  cases tc2
  · simp only [Bool.false_eq_true, if_false]
    unfold invTok1
    by_cases c1 : cur = ESCAPE_TOKEN1 ∨ cur = ESCAPE_TOKEN2
    · rw [if_pos c1, if_pos c1, readIdx1_shift a t.i]
      cases readIdx1 (a.toList.drop t.i).toArray 0 t.d.size with
      | err e => rfl
      | fault e => rfl
      | ok p =>
        simp only [shiftPair]
        rw [emitWord_eq a dstLen t pw]
        exact (tok_bind _ _ _).symm
    · rw [if_neg c1, if_neg c1, invLit_eq a dstLen crlf t pw]
      exact (tok_bind _ 0 _).symm
  · unfold invTok2
    simp only [if_true, Bool.false_eq_true, if_false]
    by_cases c1 : cur ≥ 128
    · rw [if_pos c1, if_pos c1, readIdx2_shift a t.i]
      cases readIdx2 (a.toList.drop t.i).toArray 0 cur t.d.size with
      | err e => rfl
      | fault e => rfl
      | ok p =>
        simp only [shiftTriple]
        rw [emitWord_eq a dstLen t pw]
        exact (tok_bind _ _ _).symm
    · rw [if_neg c1, if_neg c1]
      by_cases c2 : cur = ESCAPE_TOKEN1
      · rw [if_pos c2, if_pos c2, get_shift0 a t.i]
        cases a.toList.drop t.i with
        | nil => rfl
        | cons b l2 =>
          simp only [List.getElem?_toArray, List.getElem?_cons_zero, Out.bind]
          rw [absD_fresh, Array.toList_push]
      · rw [if_neg c2, if_neg c2, invLit_eq a dstLen crlf t pw]
        exact (tok_bind _ 0 _).symm

theorem invStep_eq (tc2 : Bool) (a : Array Nat) (dstLen : Nat) (crlf : Bool) (t : ISt) (hi : t.i < a.size)
    (hws : t.ws ≤ t.i + 1) :
    ((invStep tc2 false a dstLen crlf t).bind fun t' => .ok (absD a t', t'.i)) =
      (decStep tc2 dstLen crlf (absD a t) (a.getD t.i 0) (a.toList.drop (t.i + 1))).bind
        fun p => .ok (p.1, t.i + 1 + p.2) := by
  unfold decStep invStep
  simp only
  by_cases c0 : isText (a.getD t.i 0) = true
  · rw [if_pos c0, if_pos c0]
    simp only [Out.bind]
    unfold absD
    simp only
    rw [if_pos hws, Array.toList_push]
    by_cases c : t.ws ≤ t.i
    · rw [if_pos c, ext_succ a t.ws t.i c hi]; rfl
    · rw [if_neg c, show t.ws = t.i + 1 by omega, ext_self]; rfl
  · rw [if_neg c0, if_neg c0, invLearn_L a t _ (Nat.le_of_lt hi)]
    cases learnL (absD a t).pw (absD a t).words (absD a t).d (a.getD t.i 0) with
    | err e => rfl
    | fault e => rfl
    | ok p => exact invTok_eq tc2 a dstLen crlf ⟨t.i + 1, t.ws, p.2, t.run, p.1, t.out⟩ (absD a t).pw (a.getD t.i 0)

/-! ## the loop of Inverse: the index bounds come from the any-input invariant (TextDec) -/

theorem Out.bind_map_ok {α β γ : Type} (x : Out α) (g : α → β) (H : β → Out γ) :
    (x.bind fun t => .ok (g t)).bind H = x.bind fun t => H (g t) := by
  cases x <;> rfl

theorem Out.bind_congr_ok {α β : Type} (x : Out α) (f g : α → Out β) (h : ∀ v, x = .ok v → f v = g v) :
    x.bind f = x.bind g := by
  cases x with
  | ok v => exact h v rfl
  | err e => rfl
  | fault e => rfl

/-- the end of `codecInverseS` seen from `decL` -/
def finD (a : Array Nat) (s : ISt) : Out DS := if s.i ≠ a.size then .err "srcidx" else .ok (absD a s)

theorem finD_ok {a : Array Nat} {r : Out ISt} {dF : DS} (h : r.bind (finD a) = .ok dF) :
    ∃ t, r = .ok t ∧ t.i = a.size ∧ absD a t = dF := by
  cases r with
  | err e => cases h
  | fault e => cases h
  | ok t =>
    have h : finD a t = .ok dF := h
    unfold finD at h
    by_cases c : t.i ≠ a.size
    · rw [if_pos c] at h; cases h
    · rw [if_neg c] at h
      exact ⟨t, rfl, Decidable.not_not.mp c, Out.ok.inj h⟩

theorem invLoop_eq {x : Nat} (tc2 : Bool) (a : Array Nat) (dstLen D0 z hz : Nat) (crlf : Bool) :
    ∀ (f : Nat) (s : ISt), TInvX x a dstLen D0 z hz s → a.size < f + s.i →
      decL tc2 dstLen crlf (a.toList.drop s.i) (absD a s) = (invLoop tc2 false a dstLen crlf f s).bind (finD a)
  | 0, s, hI, hf => by have := hI.i_le; omega
  | f + 1, s, hI, hf => by
    unfold invLoop
    by_cases c0 : s.i < a.size
    · rw [drop_cons a s.i c0, decL]
      have hout : (absD a s).out.length = s.out.size := Array.length_toList
      rw [hout]
      by_cases c1 : s.out.size < dstLen
      · rw [if_pos c1, if_pos ⟨c0, c1⟩]
        have hstep := invStepT_spec tc2 false a dstLen D0 z hz crlf s hI c0 c1
        have hnext : ∀ s1, invStep tc2 false a dstLen crlf s = .ok s1 → TInvX x a dstLen D0 z hz s1 ∧ s.i + 1 ≤ s1.i := by
          intro s1 h1
          rw [← invStepT_toOut] at h1
          cases hT : invStepT tc2 false a dstLen crlf s with
          | ok s2 => rw [hT] at h1 hstep; cases h1; exact hstep
          | err e d => rw [hT] at h1; cases h1
          | fault e d => rw [hT] at h1; cases h1
        have eR : (match invStep tc2 false a dstLen crlf s with
            | .ok s' => invLoop tc2 false a dstLen crlf f s'
            | .err e => .err e
            | .fault e => .fault e).bind (finD a) =
            (invStep tc2 false a dstLen crlf s).bind fun s' => decL tc2 dstLen crlf (a.toList.drop s'.i) (absD a s') := by
          rw [Out.bind_congr_ok _ _ _ (fun s1 h1 =>
            invLoop_eq tc2 a dstLen D0 z hz crlf f s1 (hnext s1 h1).1 (by have := (hnext s1 h1).2; omega))]
          cases invStep tc2 false a dstLen crlf s <;> rfl
        refine Eq.trans ?_ eR.symm
        rw [← Out.bind_map_ok (invStep tc2 false a dstLen crlf s) (fun t' => (absD a t', t'.i))
          (fun q => decL tc2 dstLen crlf (a.toList.drop q.2) q.1), invStep_eq tc2 a dstLen crlf s c0 hI.ws_le,
          Out.bind_map_ok]
        simp only [List.drop_drop]
        cases decStep tc2 dstLen crlf (absD a s) (a.getD s.i 0) (a.toList.drop (s.i + 1)) <;> rfl
      · rw [if_neg c1, if_neg (fun h => c1 h.2)]
        simp only [Out.bind, finD]
        rw [if_pos (Nat.ne_of_lt c0)]
    · rw [if_neg (fun h => c0 h.1), List.drop_eq_nil_of_le (by simp; omega), decL]
      simp only [Out.bind, finD]
      rw [if_neg (fun h => h (Nat.le_antisymm hI.i_le (Nat.le_of_not_lt c0)))]

end Kanzi.Text
