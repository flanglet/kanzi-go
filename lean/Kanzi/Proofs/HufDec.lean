/-
Huffman codec (C12): the decoder side of a chunk.  The register machine of
`decodeChunkV6` (`readState`, four look-ups per refill, `uint8` bit counters) decodes, for ANY
table whose entries carry a length in 1..12 and ANY buffer content, exactly what the plain
"look at the next 12 bits, consume `length` bits" walk (`specDec`) decodes from the bits of the
buffer.
-/
import Kanzi.Model.Huffman
import Kanzi.Proofs.EntSmall
import Kanzi.Proofs.Bits
import Kanzi.Proofs.BitsIbs
import Kanzi.Proofs.HufCanon
import Kanzi.Proofs.HufEnc
import Mathlib.Tactic.Ring

namespace Kanzi.Huffman
open Kanzi.Bits Kanzi.EntSmall

/-- value of the `n` bits at position `pos` of the zero-extended bit string -/
def peekAt (sb : Bits) (pos n : Nat) : Nat := bitsNat (Kanzi.Bits.mk n (fun i => sb.getD (pos + i) false))

theorem peekAt_lt (sb : Bits) (pos n : Nat) : peekAt sb pos n < 2 ^ n := by
  have := bitsNat_lt (Kanzi.Bits.mk n (fun i => sb.getD (pos + i) false))
  rwa [Kanzi.Bits.mk_length] at this

theorem peekAt_zero (sb : Bits) (pos : Nat) : peekAt sb pos 0 = 0 := by
  simp [peekAt, Kanzi.Bits.mk_zero, Bits.bitsNat_nil]

theorem peekAt_split (sb : Bits) (pos a b : Nat) :
    peekAt sb pos (a + b) = peekAt sb pos a * 2 ^ b + peekAt sb (pos + a) b := by
  unfold peekAt
  rw [Kanzi.Bits.mk_split, bitsNat_append, Kanzi.Bits.mk_length]
  congr 2
  apply Kanzi.Bits.mk_congr
  intro i _
  rw [Nat.add_assoc]

theorem peek_drop (sb : Bits) (pos n : Nat) : peek n (sb.drop pos) = peekAt sb pos n := by
  unfold peek peekAt
  congr 1
  apply List.ext_getElem?
  intro i
  rw [Kanzi.Bits.mk_getElem?, List.getElem?_take]
  by_cases hi : i < n
  · rw [if_pos hi, if_pos hi, List.getElem?_append, List.getD_eq_getElem?_getD]
    by_cases hl : i < (sb.drop pos).length
    · rw [if_pos hl, List.getElem?_drop]
      rw [List.length_drop] at hl
      rw [List.getElem?_eq_getElem (by omega)]
      rfl
    · rw [if_neg hl, List.getElem?_replicate, if_pos (by omega)]
      rw [List.length_drop] at hl
      rw [List.getElem?_eq_none (by omega)]
      rfl
  · rw [if_neg hi, if_neg hi]

theorem mod_concat (x n w N : Nat) (hw : w < 2 ^ n) :
    (x * 2 ^ n + w) % (2 ^ N * 2 ^ n) = (x % 2 ^ N) * 2 ^ n + w := by
  rw [Nat.mul_comm (2 ^ N), Nat.mod_mul, Nat.add_comm (x * 2 ^ n), Nat.add_mul_mod_self_right,
    Nat.mod_eq_of_lt hw, Nat.add_mul_div_right _ _ (Nat.pow_pos (by decide)), Nat.div_eq_of_lt hw,
    Nat.zero_add, Nat.add_comm, Nat.mul_comm (2 ^ n)]

theorem mod_low (A R m : Nat) (hR : R < 2 ^ m) : (A * 2 ^ m + R) % 2 ^ m = R := by
  rw [Nat.add_comm, Nat.add_mul_mod_self_right, Nat.mod_eq_of_lt hR]

theorem peekAt_low (sb : Bits) (s pos t m : Nat) (hs : s % 2 ^ (t + m) = peekAt sb pos (t + m)) :
    s % 2 ^ m = peekAt sb (pos + t) m := by
  rw [← Nat.mod_mod_of_dvd s (Nat.pow_dvd_pow 2 (Nat.le_add_left m t)), hs, peekAt_split]
  exact mod_low _ _ _ (peekAt_lt _ _ _)

theorem window (sb : Bits) (s pos nb c bs : Nat) (hs : s % 2 ^ nb = peekAt sb pos nb) (hc : c + 12 + bs = nb) :
    (s >>> bs) &&& 0xFFF = peekAt sb (pos + c) 12 := by
  rw [← hc, Nat.add_assoc] at hs
  rw [show (s >>> bs) &&& 0xFFF = (s >>> bs) % 2 ^ 12 from Nat.and_two_pow_sub_one_eq_mod _ 12,
    Nat.shiftRight_eq_div_pow, ← Nat.mod_mul_right_div_self,
    ← Nat.pow_add, Nat.add_comm bs 12, peekAt_low sb s pos c (12 + bs) hs, peekAt_split,
    Nat.add_comm (peekAt sb (pos + c) 12 * 2 ^ bs), Nat.add_mul_div_right _ _ (Nat.pow_pos (by decide)),
    Nat.div_eq_of_lt (peekAt_lt _ _ _), Nat.zero_add]

theorem peekAt_byte (l : List Nat) (hl : ∀ b ∈ l, b < 256) (m : Nat) :
    peekAt (ofBytes l) (8 * m) 8 = l.getD m 0 := by
  unfold peekAt
  have : Kanzi.Bits.mk 8 (fun i => (ofBytes l).getD (8 * m + i) false) = natBits (l.getD m 0) 8 := by
    rw [Kanzi.Bits.natBits_eq_mk]
    apply Kanzi.Bits.mk_congr
    intro i hi
    rw [Kanzi.Bits.ofBytes_getD l m i hi]
    by_cases hm : m < l.length
    · simp only [hm, decide_true, Bool.true_and]
    · simp only [hm, decide_false, Bool.false_and]
      rw [List.getD_eq_getElem?_getD, List.getElem?_eq_none (by omega)]
      simp
  rw [this, Kanzi.Bits.bitsNat_natBits]
  apply Nat.mod_eq_of_lt
  by_cases hm : m < l.length
  · rw [List.getD_eq_getElem?_getD, List.getElem?_eq_getElem hm]
    exact hl _ (List.getElem_mem _)
  · rw [List.getD_eq_getElem?_getD, List.getElem?_eq_none (by omega)]
    simp

theorem byte_step (acc b : Nat) (hb : b < 256) : (acc <<< 8) ||| b = acc * 2 ^ 8 + b := by
  rw [Nat.or_comm, or_shl b acc 8 (by simpa using hb), Nat.add_comm]

theorem word64_eq (buf : Array Nat) (hb : ∀ b ∈ buf.toList, b < 256) (idx : Nat) :
    word64 buf idx = peekAt (ofBytes buf.toList) (8 * idx) 64 := by
  have hg : ∀ k, buf.getD (idx + k) 0 = peekAt (ofBytes buf.toList) (8 * idx + 8 * k) 8 := by
    intro k
    rw [← Nat.mul_add, peekAt_byte _ hb]
    simp [Array.getD_eq_getD_getElem?, List.getD_eq_getElem?_getD]
  have hk : ∀ k, (List.range k).foldl (fun acc j => (acc <<< 8) ||| buf.getD (idx + j) 0) 0
      = peekAt (ofBytes buf.toList) (8 * idx) (8 * k) := by
    intro k
    induction k with
    | zero => exact (peekAt_zero _ _).symm
    | succ k ih =>
      rw [List.range_succ, List.foldl_append, ih, List.foldl_cons, List.foldl_nil,
        byte_step _ _ (by rw [hg]; exact peekAt_lt _ _ 8), hg, Nat.mul_succ, peekAt_split]
  exact hk 8

theorem spec_add (tbl : List Nat) : ∀ (a b : Nat) (sb : Bits),
    specDec tbl (a + b) sb = specDec tbl a sb ++ specDec tbl b (sb.drop (specLen tbl a sb)) ∧
    specLen tbl (a + b) sb = specLen tbl a sb + specLen tbl b (sb.drop (specLen tbl a sb)) := by
  intro a
  induction a with
  | zero => intro b sb; simp [specDec, specLen]
  | succ a ih =>
    intro b sb
    rw [show a + 1 + b = (a + b) + 1 by omega]
    simp only [specDec, specLen, List.cons_append]
    rw [(ih _ _).1, (ih _ _).2, List.drop_drop, Nat.add_assoc]
    exact ⟨rfl, rfl⟩

/-- every entry an index can reach carries a length in 1..12 -/
def TblOk (tbl : List Nat) : Prop := ∀ w, w < 4096 → 1 ≤ tbl.getD w 0 % 256 ∧ tbl.getD w 0 % 256 ≤ 12

/-- the final `bs` of `k` look-ups (`uint8` arithmetic) -/
def walkBs (tbl : Array Nat) (state : Nat) : Nat → Nat → Nat
  | 0, bs => bs
  | k + 1, bs => walkBs tbl state k (subBs bs (look tbl state bs))

theorem decGroup_eq (tbl buf : Array Nat) (d : DS) :
    decGroup tbl buf d =
      (decSingles tbl (readState buf d).1.state 4 (readState buf d).2,
       ⟨(readState buf d).1.state, (readState buf d).1.idx,
        (walkBs tbl (readState buf d).1.state 4 (readState buf d).2 + 12) % 256⟩) := rfl

theorem rsShift_eq : ∀ b, b ≤ 56 → rsShift b = (56 - b) / 8 * 8 := by decide

theorem rsShift_spec (b : Nat) (hb : b ≤ 56) :
    49 ≤ b + rsShift b ∧ b + rsShift b ≤ 56 ∧ 8 * (rsShift b >>> 3) = rsShift b := by
  rw [rsShift_eq b hb, Nat.shiftRight_eq_div_pow]
  omega

/-- the `d.bits` low bits of the register are the bits at `pos`, and `idx` is where they end -/
structure DInv (B : Bits) (d : DS) (pos : Nat) : Prop where
  idx : 8 * d.idx = pos + d.bits
  le : d.bits ≤ 56
  st : d.state % 2 ^ d.bits = peekAt B pos d.bits

theorem readState_spec (buf : Array Nat) (hb : ∀ b ∈ buf.toList, b < 256) (d : DS) (pos : Nat)
    (h : DInv (ofBytes buf.toList) d pos) :
    49 ≤ d.bits + rsShift d.bits ∧ d.bits + rsShift d.bits ≤ 56 ∧
    8 * (readState buf d).1.idx = pos + (d.bits + rsShift d.bits) ∧
    (readState buf d).1.state % 2 ^ (d.bits + rsShift d.bits)
      = peekAt (ofBytes buf.toList) pos (d.bits + rsShift d.bits) ∧
    (readState buf d).2 + 12 = d.bits + rsShift d.bits := by
  obtain ⟨hidx, hle, hst⟩ := h
  obtain ⟨h49, h56, h8⟩ := rsShift_spec d.bits hle
  simp only [readState]
  generalize rsShift d.bits = sh at h49 h56 h8 ⊢
  refine ⟨h49, h56, by omega, ?_, by omega⟩
  have hw : word64 buf d.idx >>> (64 - sh) = peekAt (ofBytes buf.toList) (8 * d.idx) sh := by
    rw [word64_eq buf hb, Nat.shiftRight_eq_div_pow]
    have := peekAt_split (ofBytes buf.toList) (8 * d.idx) sh (64 - sh)
    rw [Nat.add_sub_cancel' (show sh ≤ 64 by omega)] at this
    rw [this, Nat.add_comm, Nat.add_mul_div_right _ _ (Nat.pow_pos (by decide)),
      Nat.div_eq_of_lt (peekAt_lt _ _ _), Nat.zero_add]
  rw [hw]
  have hwlt := peekAt_lt (ofBytes buf.toList) (8 * d.idx) sh
  rw [shl_or_mod _ _ _ _ hwlt (by omega), Nat.pow_add, mod_concat _ _ _ _ hwlt, hst, hidx, ← peekAt_split]

theorem look_eq (tbl : List Nat) (state bs : Nat) :
    look tbl.toArray state bs = tbl.getD ((state >>> bs) &&& 0xFFF) 0 := by
  simp [look, Array.getD_eq_getD_getElem?, List.getD_eq_getElem?_getD]

/-- `bs -= uint8(val)` may wrap below 0; `bits = bs + 12` (again `uint8`) is exact all the same -/
theorem subBs_add12 (bs v : Nat) (hb : bs ≤ 44) (hv : v % 256 ≤ 12) :
    (subBs bs v + 12) % 256 + v % 256 = bs + 12 := by
  unfold subBs
  omega

/-- `bs` is exact as long as a look-up follows, `bs + 12` (mod 256) always -/
theorem singles_spec (tbl : List Nat) (ht : TblOk tbl) (B : Bits) (s pos nb : Nat)
    (hs : s % 2 ^ nb = peekAt B pos nb) (hnb : nb ≤ 56) :
    ∀ (k c bs : Nat), bs < 256 → (bs + 12) % 256 + c = nb → 12 * k + c ≤ nb →
      decSingles tbl.toArray s k bs = specDec tbl k (B.drop (pos + c)) ∧
      specLen tbl k (B.drop (pos + c)) ≤ 12 * k ∧
      (walkBs tbl.toArray s k bs + 12) % 256 + c + specLen tbl k (B.drop (pos + c)) = nb := by
  intro k
  induction k with
  | zero =>
    intro c bs _ hc _
    exact ⟨rfl, Nat.le_refl _, hc⟩
  | succ k ih =>
    intro c bs hbs hc hk
    have hc' : c + 12 + bs = nb := by omega
    have hv : look tbl.toArray s bs = tbl.getD (peek 12 (B.drop (pos + c))) 0 := by
      rw [look_eq, window B s pos nb c bs hs hc', peek_drop]
    have hlen := ht (peek 12 (B.drop (pos + c))) (by rw [peek_drop]; exact peekAt_lt _ _ 12)
    simp only [decSingles, specDec, specLen, walkBs]
    rw [hv, List.drop_drop]
    generalize tbl.getD (peek 12 (B.drop (pos + c))) 0 = v at hlen ⊢
    have hsub := subBs_add12 bs v (by omega) hlen.2
    clear hc
    obtain ⟨i1, i2, i3⟩ := ih (c + v % 256) (subBs bs v) (Nat.mod_lt _ (by decide)) (by omega) (by omega)
    rw [← Nat.add_assoc pos c (v % 256)] at i1 i2 i3
    exact ⟨by rw [i1], by omega, by omega⟩

theorem refill_spec (tbl : List Nat) (ht : TblOk tbl) (buf : Array Nat) (hb : ∀ b ∈ buf.toList, b < 256)
    (d : DS) (pos : Nat) (h : DInv (ofBytes buf.toList) d pos) (k : Nat) (hk : k ≤ 4) :
    decSingles tbl.toArray (readState buf d).1.state k (readState buf d).2
      = specDec tbl k ((ofBytes buf.toList).drop pos) ∧
    DInv (ofBytes buf.toList)
      ⟨(readState buf d).1.state, (readState buf d).1.idx,
        (walkBs tbl.toArray (readState buf d).1.state k (readState buf d).2 + 12) % 256⟩
      (pos + specLen tbl k ((ofBytes buf.toList).drop pos)) := by
  obtain ⟨r1, r2, r3, r4, r5⟩ := readState_spec buf hb d pos h
  generalize d.bits + rsShift d.bits = nb at r1 r2 r3 r4 r5
  obtain ⟨s1, s2, s3⟩ := singles_spec tbl ht (ofBytes buf.toList) _ pos nb r4 r2 k 0 (readState buf d).2
    (by omega) (by omega) (by omega)
  simp only [Nat.add_zero] at s1 s2 s3
  generalize specLen tbl k ((ofBytes buf.toList).drop pos) = t at s2 s3 ⊢
  generalize (walkBs tbl.toArray (readState buf d).1.state k (readState buf d).2 + 12) % 256 = m at s3 ⊢
  refine ⟨s1, ⟨by simp only; omega, by simp only; omega, ?_⟩⟩
  rw [← s3, Nat.add_comm m t] at r4
  exact peekAt_low _ _ pos t m r4

theorem decFragLoop_spec (tbl : List Nat) (ht : TblOk tbl) (buf : Array Nat) (hb : ∀ b ∈ buf.toList, b < 256) :
    ∀ (f rem : Nat) (d : DS) (pos : Nat), rem ≤ 4 * f + 4 → DInv (ofBytes buf.toList) d pos →
      decFragLoop tbl.toArray buf f rem d = specDec tbl rem ((ofBytes buf.toList).drop pos) := by
  intro f
  induction f with
  | zero =>
    intro rem d pos hrem h
    simp only [decFragLoop]
    exact (refill_spec tbl ht buf hb d pos h rem (by omega)).1
  | succ f ih =>
    intro rem d pos hrem h
    simp only [decFragLoop]
    by_cases h4 : rem > 4
    · rw [if_pos h4]
      obtain ⟨g1, g2⟩ := refill_spec tbl ht buf hb d pos h 4 (Nat.le_refl _)
      rw [decGroup_eq, g1, ih (rem - 4) _ _ (by omega) g2]
      have := (spec_add tbl 4 (rem - 4) ((ofBytes buf.toList).drop pos)).1
      rw [show 4 + (rem - 4) = rem by omega, List.drop_drop] at this
      exact this.symm
    · rw [if_neg h4]
      exact (refill_spec tbl ht buf hb d pos h rem (by omega)).1

/-- the register never holds more than 56 bits: `readState` reads at most that far ahead -/
theorem DInv.idx_le {B : Bits} {d : DS} {pos : Nat} (h : DInv B d pos) (t : Nat) : 8 * d.idx ≤ pos + t + 56 := by
  have := h.idx
  have := h.le
  omega

theorem decFragReads_bound (tbl : List Nat) (ht : TblOk tbl) (buf : Array Nat) (hb : ∀ b ∈ buf.toList, b < 256) :
    ∀ (f rem : Nat) (d : DS) (pos : Nat), DInv (ofBytes buf.toList) d pos →
      ∀ i ∈ decFragReads tbl.toArray buf f rem d,
        8 * i ≤ pos + specLen tbl rem ((ofBytes buf.toList).drop pos) + 56 := by
  intro f
  induction f with
  | zero =>
    intro rem d pos h i hi
    simp only [decFragReads, List.mem_singleton] at hi
    exact hi ▸ h.idx_le _
  | succ f ih =>
    intro rem d pos h i hi
    simp only [decFragReads] at hi
    by_cases h4 : rem > 4
    · rw [if_pos h4] at hi
      rcases List.mem_cons.mp hi with rfl | hi
      · exact h.idx_le _
      · rw [decGroup_eq] at hi
        have := ih (rem - 4) _ _ (refill_spec tbl ht buf hb d pos h 4 (Nat.le_refl _)).2 i hi
        have hadd := (spec_add tbl 4 (rem - 4) ((ofBytes buf.toList).drop pos)).2
        rw [show 4 + (rem - 4) = rem by omega, List.drop_drop] at hadd
        omega
    · rw [if_neg h4, List.mem_singleton] at hi
      exact hi ▸ h.idx_le _

theorem decFrag_spec (tbl : List Nat) (ht : TblOk tbl) (buf : Array Nat) (hb : ∀ b ∈ buf.toList, b < 256)
    (n : Nat) : decFrag tbl.toArray buf n = specDec tbl n (ofBytes buf.toList) := by
  unfold decFrag
  have := decFragLoop_spec tbl ht buf hb n n ⟨0, 0, 0⟩ 0 (by omega)
    ⟨rfl, Nat.zero_le _, by simp [peekAt_zero]⟩
  rw [this, List.drop_zero]

end Kanzi.Huffman
