/-
Exactly when `AliasCodec.Inverse` faults.  The Go Inverse has no
bounds checks of its own (besides the one-symbol size field against `len(dst)`), so it does panic on
forged or truncated input and on genuine input with a too small destination.  `invSafe src n` is the
decidable structural condition under which it does not: the header is complete and every store of the
unpacking / expansion loops lies inside the destination.  `aliasInverse_fault_iff`: Inverse faults iff
`invSafe` is false.
-/
import Kanzi.Proofs.AliasDigram

namespace Kanzi.Alias
open Kanzi.RLT

/-- `k` packed bytes, each stored as `c` bytes, after `pre` bytes: all stores inside `n` bytes -/
def packSafe (c n pre k : Nat) : Bool := decide (k = 0 ∨ pre + c * k ≤ n)

/-- the expansion loop from `dstIdx = sz`: every token finds room for its two stores -/
def expandSafe (m : Array Nat) (n : Nat) : List Nat → Nat → Bool
  | [], _ => true
  | x :: tl, sz => decide (sz + 1 < n) && expandSafe m n tl (sz + (if (m.getD x 0) >>> 16 = 2 then 2 else 1))

/-- `dstIdx` after the expansion loop -/
def expandLen (m : Array Nat) : List Nat → Nat → Nat
  | [], sz => sz
  | x :: tl, sz => expandLen m tl (sz + (if (m.getD x 0) >>> 16 = 2 then 2 else 1))

/-- Inverse does not panic on `src` with `len(dst) = n` -/
def invSafe (src : List Nat) (n : Nat) : Bool :=
  if src.length = 0 ∨ n = 0 then true
  else if src.length < 2 then true
  else
    match src with
    | n0 :: s1 :: rest =>
      if n0 < 16 then true
      else if n0 ≥ 240 then
        if 256 - n0 = 1 then decide (4 ≤ rest.length)
        else
          match (s1 :: rest).drop (256 - n0) with
          | [] => false
          | adjust :: data =>
            if adjust > 3 then true
            else if 256 - n0 ≤ 4 then
              if data.length < adjust then false
              else if adjust > n then decide (¬ data.length > adjust)
              else packSafe 4 n adjust (data.length - adjust)
            else if adjust ≠ 0 then
              match data with
              | [] => false
              | _ :: tl => packSafe 2 n 1 tl.length
            else packSafe 2 n 0 data.length
      else
        if rest.length < 3 * n0 then false
        else
          expandSafe (mkImap (rest.take (3 * n0)) imapInit) n
              ((rest.drop (3 * n0)).take ((rest.drop (3 * n0)).length - s1)) 0 &&
            (if s1 ≠ 0 then
              match (rest.drop (3 * n0)).drop ((rest.drop (3 * n0)).length - s1) with
              | [] => false
              | _ :: _ => decide (expandLen (mkImap (rest.take (3 * n0)) imapInit)
                  ((rest.drop (3 * n0)).take ((rest.drop (3 * n0)).length - s1)) 0 < n)
             else true)
    | _ => true

/-- the unpacking loop stores `c` bytes per packed byte and faults exactly when one of these stores has no room -/
theorem unpackLoop_safe (dec : Nat → List Nat) (c : Nat) (hc : ∀ x, (dec x).length = c) (hc1 : 1 ≤ c) (n : Nat) :
    ∀ (xs : List Nat) (out : Array Nat), unpackLoop dec n xs out =
      if packSafe c n out.size xs.length then .ok (out ++ xs.flatMap dec) else .fault "dst-index"
  | [], out => by simp [packSafe, unpackLoop]
  | x :: tl, out => by
    have hmul : c * (tl.length + 1) = c * tl.length + c := Nat.mul_succ _ _
    have h0 : tl.length = 0 → c * tl.length = 0 := fun h => by rw [h, Nat.mul_zero]
    unfold unpackLoop
    by_cases hw : out.size + c ≤ n
    · rw [wr_ok _ _ _ (by rw [hc x]; exact hw)]
      simp only
      rw [unpackLoop_safe dec c hc hc1 n tl (out ++ dec x), appendList_assoc]
      have : packSafe c n (out ++ dec x).size tl.length = packSafe c n out.size (x :: tl).length := by
        simp only [packSafe, size_appendList, hc x, List.length_cons, decide_eq_decide]
        omega
      rw [this]
      rfl
    · have hne : ¬ (dec x).isEmpty = true := by
        rw [List.isEmpty_iff]
        intro h
        have := hc x
        rw [h] at this
        simp at this
        omega
      have : packSafe c n out.size (x :: tl).length = false := by
        simp only [packSafe, List.length_cons, decide_eq_false_iff_not]
        omega
      rw [this]
      unfold wr
      simp [hne, hc x, hw]
theorem expandLoop_cases (m : Array Nat) (n : Nat) : ∀ (xs : List Nat) (out : Array Nat),
    (expandSafe m n xs out.size = true →
      ∃ o, expandLoop m n xs out = .ok o ∧ o.size = expandLen m xs out.size) ∧
    (expandSafe m n xs out.size = false → ∃ e, expandLoop m n xs out = .fault e) := by
  intro xs
  induction xs with
  | nil => intro out; simp [expandSafe, expandLoop, expandLen]
  | cons x tl ih =>
    intro out
    by_cases hroom : out.size + 1 < n
    · by_cases h2 : (m.getD x 0) >>> 16 = 2
      · have ih' := ih ((out.push ((m.getD x 0) % 256)).push (((m.getD x 0) >>> 8) % 256))
        simp only [Array.size_push, Nat.add_assoc] at ih'
        unfold expandLoop expandSafe expandLen
        simp only [hroom, h2, if_true, decide_true, Bool.true_and]
        exact ih'
      · have ih' := ih (out.push ((m.getD x 0) % 256))
        simp only [Array.size_push] at ih'
        unfold expandLoop expandSafe expandLen
        simp only [hroom, h2, if_true, if_false, decide_true, Bool.true_and]
        exact ih'
    · unfold expandLoop expandSafe
      simp only [hroom, if_false, decide_false, Bool.false_and]
      exact ⟨fun h => absurd h (by simp), fun _ => ⟨_, rfl⟩⟩

theorem bind_ok_fault_iff {α β : Type} (x : Out α) (f : α → β) :
    (∃ e, (x.bind fun o => Out.ok (f o)) = Out.fault e) ↔ ∃ e, x = Out.fault e := by
  cases x <;> simp [Out.bind]

theorem decode4_length (l : List Nat) (x : Nat) : (decode4 l x).length = 4 := rfl
theorem decode2_length (l : List Nat) (x : Nat) : (decode2 l x).length = 2 := rfl

theorem unpackLoop_fault_iff (dec : Nat → List Nat) (c : Nat) (hc : ∀ x, (dec x).length = c) (hc1 : 1 ≤ c)
    (n : Nat) (xs : List Nat) (out : Array Nat) :
    (∃ e, unpackLoop dec n xs out = .fault e) ↔ packSafe c n out.size xs.length = false := by
  rw [unpackLoop_safe dec c hc hc1]
  cases packSafe c n out.size xs.length <;> simp

theorem wr1_fault_iff (n : Nat) (o : Array Nat) (x : Nat) (f : Array Nat → List Nat) :
    (∃ e, ((wr n o [x]).bind fun o2 => Out.ok (f o2)) = Out.fault e) ↔ ¬ o.size < n := by
  unfold wr
  by_cases h : o.size + 1 ≤ n
  · have h' : o.size < n := by omega
    simp [h, h']
  · have h' : ¬ o.size < n := by omega
    simp [h, h']

theorem aliasInverse_fault_iff (src : List Nat) (n : Nat) :
    (∃ e, aliasInverse src n = .fault e) ↔ invSafe src n = false := by
  unfold aliasInverse invSafe
  by_cases h0 : src.length = 0 ∨ n = 0
  · rw [if_pos h0, if_pos h0]; simp
  · rw [if_neg h0, if_neg h0]
    by_cases h2 : src.length < 2
    · rw [if_pos h2, if_pos h2]; simp
    · rw [if_neg h2, if_neg h2]
      match src, h0, h2 with
      | [], h0, _ => simp at h0
      | [_], _, h2 => simp at h2
      | n0 :: s1 :: rest, h0, h2 =>
        simp only []
        by_cases h16 : n0 < 16
        · simp [h16]
        · rw [if_neg h16, if_neg h16]
          by_cases h240 : n0 ≥ 240
          · rw [if_pos h240, if_pos h240]
            by_cases h1 : 256 - n0 = 1
            · rw [if_pos h1, if_pos h1]
              rcases rest with _ | ⟨a, _ | ⟨b, _ | ⟨c, _ | ⟨d, tl⟩⟩⟩⟩
              · simp
              · simp
              · simp
              · simp
              · simp only []
                split <;> simp
            · rw [if_neg h1, if_neg h1]
              generalize (s1 :: rest).drop (256 - n0) = dd
              cases dd with
              | nil => simp
              | cons adjust data =>
                simp only []
                by_cases ha : adjust > 3
                · simp [ha]
                · rw [if_neg ha, if_neg ha]
                  by_cases h4 : 256 - n0 ≤ 4
                  · rw [if_pos h4, if_pos h4]
                    by_cases hl : data.length < adjust
                    · simp [hl]
                    · rw [if_neg hl, if_neg hl]
                      by_cases hadj : adjust > n
                      · rw [if_pos hadj, if_pos hadj]
                        by_cases hd : data.length > adjust <;> simp [hd]
                      · rw [if_neg hadj, if_neg hadj]
                        rw [bind_ok_fault_iff, unpackLoop_fault_iff _ 4 (decode4_length _) (by decide)]
                        have hmin : min adjust data.length = adjust := by omega
                        simp [List.length_take, List.length_drop, hmin]
                  · rw [if_neg h4, if_neg h4]
                    by_cases hz : adjust ≠ 0
                    · rw [if_pos hz, if_pos hz]
                      cases data with
                      | nil => simp
                      | cons x tl =>
                        simp only []
                        have hn1 : 1 ≤ n := by
                          have : ¬ n = 0 := fun h => h0 (Or.inr h)
                          omega
                        rw [wr_ok _ _ _ (by simp; omega)]
                        simp only [Out.bind_ok]
                        rw [bind_ok_fault_iff, unpackLoop_fault_iff _ 2 (decode2_length _) (by decide)]
                        simp [size_appendList]
                    · rw [if_neg hz, if_neg hz]
                      rw [bind_ok_fault_iff, unpackLoop_fault_iff _ 2 (decode2_length _) (by decide)]
                      simp
          · rw [if_neg h240, if_neg h240]
            by_cases hh : rest.length < 3 * n0
            · simp [hh]
            · rw [if_neg hh, if_neg hh]
              generalize mkImap (List.take (3 * n0) rest) imapInit = m
              generalize List.drop (3 * n0) rest = data
              have hc := expandLoop_cases m n (List.take (data.length - s1) data) #[]
              rw [show (#[] : Array Nat).size = 0 from rfl] at hc
              cases hs : expandSafe m n (List.take (data.length - s1) data) 0 with
              | false =>
                obtain ⟨e, he⟩ := hc.2 hs
                rw [he]
                simp
              | true =>
                obtain ⟨o, ho, hsz⟩ := hc.1 hs
                rw [ho]
                simp only [Out.bind_ok, Bool.true_and]
                by_cases hs1 : s1 ≠ 0
                · rw [if_pos hs1, if_pos hs1]
                  generalize List.drop (data.length - s1) data = dd
                  cases dd with
                  | nil => simp
                  | cons x tl =>
                    simp only []
                    rw [wr1_fault_iff, hsz]
                    simp
                · rw [if_neg hs1, if_neg hs1]
                  simp

end Kanzi.Alias
