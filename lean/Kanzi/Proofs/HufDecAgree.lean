/-
Proofs for C03 (Huffman), agreement of the TOTAL decoder model (`Model/HufDec.lean`: one shared
buffer, stale content, `R` outcomes) with the encoder of `Model/Huffman.lean` on ENCODER OUTPUT:
the round trip of C12 carries over to `HufDec.read`, from any decoder object whose buffer holds
bytes.

Route: the buffer after the four `ReadArray` and the four `clear` is described through `getD`
(`Seg B off l`: the bytes `l` sit at `off`; `Lanes`: region `j` of the buffer begins with sub-stream
`j`, for a variable `j`); `decFragLoop_spec` (any buffer of bytes, any start index) turns the register
machine started at `idx = j*stride` into the plain table walk on the bits of the buffer from
`8*j*stride`, which begin with sub-stream `j`; `specDec_codes` finishes.  What lies behind a
sub-stream (cleared bytes, stale bytes, the next region) never matters.  The chunk loop is the
composition of rounds (`StepOk`, `LoopOk.cons`).
-/
import Kanzi.Model.HufDec
import Kanzi.Proofs.HufDecTotal
import Kanzi.Proofs.HufDecSafe
import Kanzi.Proofs.HufChunk
import Kanzi.Proofs.HufBlock

namespace Kanzi.HufDec
open Kanzi.Bits Kanzi.EntSmall Kanzi.Huffman
open Kanzi.AnsDec (Bytes)

theorem writeAt_getD (l : List Nat) (i : Nat) (a : Array Nat) (x : Nat) :
    (writeAt l i a).getD x 0
      = if i ≤ x ∧ x < i + l.length ∧ x < a.size then l.getD (x - i) 0 else a.getD x 0 :=
  writeAt_eq ▸ AnsDec.getD_writePrefix l i a x

theorem setRange_getD (start v c : Nat) (a : Array Nat) (x : Nat) :
    (setRange start v c a).getD x 0 = if start ≤ x ∧ x < start + c ∧ x < a.size then v else a.getD x 0 :=
  setRange_eq ▸ AnsDec.getD_fill start v c a x

theorem clearAfter_getD_out (off stride sz : Nat) (a : Array Nat) (x : Nat)
    (h : x < off + ((sz + 7) % 4294967296) / 8 ∨ off + stride ≤ x) :
    (clearAfter off stride sz a).getD x 0 = a.getD x 0 := by
  unfold clearAfter
  split
  · rw [setRange_getD, if_neg (by omega)]
  · rfl

theorem Bytes_of_mem (a : Array Nat) (h : ∀ b ∈ a.toList, b < 256) : Bytes a := by
  intro x
  by_cases hx : x < a.size
  · have : a.getD x 0 = a[x] := by simp [Array.getD_eq_getD_getElem?, hx]
    rw [this]
    exact h _ (by simp)
  · have : a.getD x 0 = 0 := by simp [Array.getD_eq_getD_getElem?, hx]
    omega

theorem Bytes_writeAt (l : List Nat) (i : Nat) (a : Array Nat) (h : Bytes a) (hl : ∀ b ∈ l, b < 256) :
    Bytes (writeAt l i a) :=
  writeAt_eq ▸ Bytes.writePrefix l i a hl h

theorem Bytes_clearAfter (off stride sz : Nat) (a : Array Nat) (h : Bytes a) :
    Bytes (clearAfter off stride sz a) := by
  unfold clearAfter
  split
  · exact setRange_eq ▸ Bytes.fill (by decide) _ _ h
  · exact h

/-- the bytes `l` sit in `a` from index `off` -/
def Seg (a : Array Nat) (off : Nat) (l : List Nat) : Prop :=
  off + l.length ≤ a.size ∧ ∀ i, i < l.length → a.getD (off + i) 0 = l.getD i 0

theorem Seg_writeAt_self (l : List Nat) (off : Nat) (a : Array Nat) (h : off + l.length ≤ a.size) :
    Seg (writeAt l off a) off l := by
  refine ⟨by rw [writeAt_size]; exact h, fun i hi => ?_⟩
  rw [writeAt_getD, if_pos (by omega), Nat.add_sub_cancel_left]

theorem Seg_writeAt_other (l l' : List Nat) (off off' : Nat) (a : Array Nat) (h : Seg a off l)
    (hd : off' + l'.length ≤ off ∨ off + l.length ≤ off') : Seg (writeAt l' off' a) off l := by
  refine ⟨by rw [writeAt_size]; exact h.1, fun i hi => ?_⟩
  rw [writeAt_getD, if_neg (by omega)]
  exact h.2 i hi

theorem Seg_clearAfter (l : List Nat) (off off' stride sz : Nat) (a : Array Nat) (h : Seg a off l)
    (hd : off + l.length ≤ off' + ((sz + 7) % 4294967296) / 8 ∨ off' + stride ≤ off) :
    Seg (clearAfter off' stride sz a) off l := by
  refine ⟨by rw [clearAfter_size]; exact h.1, fun i hi => ?_⟩
  rw [clearAfter_getD_out _ _ _ _ _ (by omega)]
  exact h.2 i hi

theorem Seg_bits (a : Array Nat) (off : Nat) (l : List Nat) (h : Seg a off l) :
    ∃ post, (ofBytes a.toList).drop (8 * off) = ofBytes l ++ post := by
  have hd : a.toList.drop off = l ++ a.toList.drop (off + l.length) := by
    apply List.ext_getElem?
    intro n
    rw [List.getElem?_drop, List.getElem?_append]
    by_cases hn : n < l.length
    · rw [if_pos hn]
      have h1 := h.2 n hn
      have h2 : off + n < a.size := by have := h.1; omega
      simp only [Array.getD_eq_getD_getElem?, List.getD_eq_getElem?_getD] at h1
      rw [Array.getElem?_toList]
      rw [Array.getElem?_eq_getElem h2] at h1 ⊢
      rw [List.getElem?_eq_getElem hn] at h1 ⊢
      simp only [Option.getD_some] at h1
      rw [h1]
    · rw [if_neg hn, List.getElem?_drop]
      congr 1
      omega
  refine ⟨ofBytes (a.toList.drop (off + l.length)), ?_⟩
  have e : ofBytes a.toList = ofBytes (a.toList.take off) ++ ofBytes (a.toList.drop off) := by
    rw [← Kanzi.Bits.ofBytes_append, List.take_append_drop]
  have hl : (ofBytes (a.toList.take off)).length = 8 * off := by
    rw [Kanzi.Bits.ofBytes_length, List.length_take, Array.length_toList]
    have := h.1
    congr 1
    omega
  rw [e, List.drop_left' hl, hd, Kanzi.Bits.ofBytes_append]

/-- the bytes `ReadArray` stores for the bits `F` (the last byte zero-padded) -/
def padBytes (F : Bits) : List Nat := toBytes ((F.length + 7) / 8) F

theorem padBytes_spec (F : Bits) :
    ofBytes (padBytes F) = F ++ List.replicate (8 * ((F.length + 7) / 8) - F.length) false ∧
    (∀ b ∈ padBytes F, b < 256) ∧ (padBytes F).length = (F.length + 7) / 8 :=
  toBytes_spec _ F (by omega)

theorem frag_at (arr : Array Nat) (tbl sizes codes a : List Nat) (ctx : ChunkCtx arr tbl sizes codes a)
    (B : Array Nat) (hB : Bytes B) (off : Nat) (frag : List Nat) (hf : ∀ b ∈ frag, b ∈ a)
    (hseg : Seg B off (padBytes (encFrag arr frag))) :
    decFragLoop tbl.toArray B frag.length frag.length ⟨0, off, 0⟩ = frag := by
  rw [decFragLoop_spec tbl ctx.tblOk B hB.mem_toList frag.length frag.length ⟨0, off, 0⟩ (8 * off) (by omega)
    ⟨rfl, Nat.zero_le _, by simp [peekAt_zero]⟩]
  obtain ⟨post, hp⟩ := Seg_bits B off _ hseg
  rw [hp, (padBytes_spec _).1, List.append_assoc, encFrag_eq arr sizes codes a ctx.packed frag hf]
  exact specDec_codes sizes codes a tbl ctx.tblFor ctx.lt256 ctx.packed.le12 ctx.packed.lt frag _ hf

/-- a buffer of `N` bytes whose first `n` regions of `S` bytes begin with `W 0`, …, `W (n-1)` -/
structure Lanes (a : Array Nat) (N S : Nat) (W : Nat → List Nat) (n : Nat) : Prop where
  bytes : Bytes a
  size : a.size = N
  seg : ∀ j, j < n → Seg a (j * S) (W j)

theorem lane_le (S j k : Nat) (h : j < k) : j * S + S ≤ k * S := by
  rw [← Nat.succ_mul]
  exact Nat.mul_le_mul_right S h

theorem Lanes.write {a : Array Nat} {N S n : Nat} {W : Nat → List Nat} (h : Lanes a N S W n)
    (hW : ∀ j, (W j).length ≤ S) (hb : ∀ b ∈ W n, b < 256) (hN : n * S + S ≤ N) :
    Lanes (writeAt (W n) (n * S) a) N S W (n + 1) := by
  refine ⟨Bytes_writeAt _ _ _ h.bytes hb, by rw [writeAt_size]; exact h.size, fun j hj => ?_⟩
  have hj' := hW j
  rcases Nat.lt_succ_iff_lt_or_eq.mp hj with hlt | rfl
  · have := lane_le S j n hlt
    exact Seg_writeAt_other _ _ _ _ _ (h.seg j hlt) (Or.inr (by omega))
  · exact Seg_writeAt_self _ _ _ (by rw [h.size]; omega)

/-- the `clear` behind the payload of region `k` touches no payload: not its own (it starts behind
    it), not another region's (it stops at the end of region `k`) -/
theorem Lanes.clear {a : Array Nat} {N S n : Nat} {W : Nat → List Nat} (h : Lanes a N S W n)
    (hW : ∀ j, (W j).length ≤ S) (k sz : Nat) (hk : (W k).length ≤ ((sz + 7) % 4294967296) / 8) :
    Lanes (clearAfter (k * S) S sz a) N S W n := by
  refine ⟨Bytes_clearAfter _ _ _ _ h.bytes, by rw [clearAfter_size]; exact h.size, fun j hj => ?_⟩
  have hj' := hW j
  apply Seg_clearAfter _ _ _ _ _ _ (h.seg j hj)
  rcases Nat.lt_trichotomy j k with hlt | rfl | hgt
  · have := lane_le S j k hlt
    exact Or.inl (by omega)
  · exact Or.inl (by omega)
  · exact Or.inr (lane_le S k j hgt)

theorem loadAt_enc (off S : Nat) (buf : Array Nat) (F rest : Bits) (hW : (padBytes F).length ≤ S)
    (hN : off + S ≤ buf.size) :
    loadAt off F.length buf (F ++ rest) = .ok (writeAt (padBytes F) off buf, rest) := by
  have := (padBytes_spec F).2.2
  unfold loadAt
  rw [if_neg (by omega), if_neg (by rw [List.length_append]; omega), List.take_left' rfl, List.drop_left' rfl]
  rfl

theorem load4_enc (F : Nat → Bits) (rest : Bits) (buf : Array Nat) (hB : Bytes buf)
    (hF : ∀ j, (F j).length < 2147483648 ∧ ((F j).length + 7) / 8 ≤ buf.size / 4) :
    ∃ B, load4 ((F 0).length, (F 1).length, (F 2).length, (F 3).length) buf
          (F 0 ++ (F 1 ++ (F 2 ++ (F 3 ++ rest)))) = .ok (B, rest) ∧
      Lanes B buf.size (buf.size / 4) (fun j => padBytes (F j)) 4 := by
  have hW : ∀ j, (padBytes (F j)).length ≤ buf.size / 4 := fun j => by
    rw [(padBytes_spec _).2.2]
    exact (hF j).2
  have hc : ∀ j, (padBytes (F j)).length ≤ (((F j).length + 7) % 4294967296) / 8 := fun j => by
    have := (hF j).1
    rw [(padBytes_spec _).2.2, Nat.mod_eq_of_lt (by omega)]
  have hb : ∀ j, ∀ b ∈ padBytes (F j), b < 256 := fun j => (padBytes_spec _).2.1
  have h4 : 4 * (buf.size / 4) ≤ buf.size := by omega
  unfold load4
  generalize buf.size / 4 = S at hW h4 ⊢
  have h0 : 0 * S + S ≤ buf.size := by omega
  have h1 : 1 * S + S ≤ buf.size := by omega
  have h2 : 2 * S + S ≤ buf.size := by omega
  have h3 : 3 * S + S ≤ buf.size := by omega
  have L0 : Lanes buf buf.size S (fun j => padBytes (F j)) 0 := ⟨hB, rfl, fun j hj => absurd hj (Nat.not_lt_zero j)⟩
  have L1 : Lanes _ _ _ _ 1 := L0.write hW (hb 0) h0
  have L2 : Lanes _ _ _ _ 2 := L1.write hW (hb 1) h1
  have L3 : Lanes _ _ _ _ 3 := L2.write hW (hb 2) h2
  have L4 : Lanes _ _ _ _ 4 := L3.write hW (hb 3) h3
  have L := (((L4.clear hW 0 _ (hc 0)).clear hW 1 _ (hc 1)).clear hW 2 _ (hc 2)).clear hW 3 _ (hc 3)
  simp only [Nat.zero_mul, Nat.one_mul] at L h0 h1
  refine ⟨_, ?_, L⟩
  simp only []
  rw [loadAt_enc 0 S buf (F 0) _ (hW 0) h0]
  simp only [R.bind]
  rw [loadAt_enc _ S _ (F 1) _ (hW 1) (by rw [writeAt_size]; exact h1)]
  simp only
  rw [loadAt_enc _ S _ (F 2) _ (hW 2) (by rw [writeAt_size, writeAt_size]; exact h2)]
  simp only
  rw [loadAt_enc _ S _ (F 3) _ (hW 3) (by rw [writeAt_size, writeAt_size, writeAt_size]; exact h3)]

theorem TblOk_TableOK (tbl : List Nat) (h : TblOk tbl) : TableOK tbl.toArray := by
  intro i hi
  rw [toArray_getD]
  exact h i hi

theorem read4_enc (a b c d : Nat) (ha : a < 2 ^ 32) (hb : b < 2 ^ 32) (hc : c < 2 ^ 32) (hd : d < 2 ^ 32)
    (X : Bits) :
    read4 (writeVarInt a ++ (writeVarInt b ++ (writeVarInt c ++ (writeVarInt d ++ X)))) = .ok ((a, b, c, d), X) := by
  unfold read4
  rw [varint_roundtrip _ ha]
  simp only
  rw [varint_roundtrip _ hb]
  simp only
  rw [varint_roundtrip _ hc]
  simp only
  rw [varint_roundtrip _ hd]

/-- **one chunk, total model.**  ANY buffer of bytes of at least 256 and `2*count` bytes. -/
theorem chunkV6_enc (arr : Array Nat) (tbl sizes codes a : List Nat) (ctx : ChunkCtx arr tbl sizes codes a)
    (c : List Nat) (hc : ∀ b ∈ c, b ∈ a) (buf : Array Nat) (hB : Bytes buf)
    (hL : 256 ≤ buf.size) (h2c : 2 * c.length ≤ buf.size) (hlen : c.length < 2 ^ 28) (rest : Bits) :
    ∃ B, chunkV6 tbl.toArray c.length buf (encodeChunk arr c ++ rest) = .ok (c, B, rest) ∧
      Bytes B ∧ B.size = buf.size := by
  -- a sub-stream has at most 12 bits per symbol: 3/2 bytes, and a region has 2 bytes per symbol
  have hs : 12 * (c.length / 4) + 128 ≤ 8 * (buf.size / 4) := by omega
  have hm : ∀ j, ∀ b ∈ (c.drop (j * (c.length / 4))).take (c.length / 4), b ∈ a :=
    fun j b hb => hc b (List.mem_of_mem_drop (List.mem_of_mem_take hb))
  have hn : ∀ j, j < 4 → ((c.drop (j * (c.length / 4))).take (c.length / 4)).length = c.length / 4 := by
    intro j hj
    have := Nat.mul_le_mul_right (c.length / 4) (Nat.le_of_lt_succ hj)
    rw [List.length_take, List.length_drop]
    omega
  have hq : ∀ j, (encFrag arr ((c.drop (j * (c.length / 4))).take (c.length / 4))).length < 2147483648 ∧
      ((encFrag arr ((c.drop (j * (c.length / 4))).take (c.length / 4))).length + 7) / 8 ≤ buf.size / 4 := by
    intro j
    rw [encFrag_eq arr sizes codes a ctx.packed _ (hm j)]
    have h1 := codeBits_length_le sizes codes a ctx.packed.le12 _ (hm j)
    have h2 := List.length_take_le (c.length / 4) (c.drop (j * (c.length / 4)))
    omega
  have h32 := fun j => Nat.lt_trans (hq j).1 (by decide : 2147483648 < 2 ^ 32)
  obtain ⟨B, hl, hB4⟩ := load4_enc (fun j => encFrag arr ((c.drop (j * (c.length / 4))).take (c.length / 4)))
    (ofBytes (c.drop (4 * (c.length / 4))) ++ rest) buf hB hq
  have hg : ∀ j, j < 4 → readsOkAt tbl.toArray B (c.length / 4) (j * (buf.size / 4)) = true ∧
      decFragLoop tbl.toArray B (c.length / 4) (c.length / 4) ⟨0, j * (buf.size / 4), 0⟩
        = (c.drop (j * (c.length / 4))).take (c.length / 4) := by
    intro j hj
    have := lane_le (buf.size / 4) j 4 hj
    have f := frag_at arr tbl sizes codes a ctx B hB4.bytes _ _ (hm j) (hB4.seg j hj)
    rw [hn j hj] at f
    exact ⟨readsOkAt_true tbl.toArray B (TblOk_TableOK tbl ctx.tblOk) _ _ (buf.size / 4) (by omega)
      (by rw [hB4.size]; omega), f⟩
  have g0 := hg 0 (by decide)
  have g1 := hg 1 (by decide)
  have g2 := hg 2 (by decide)
  have g3 := hg 3 (by decide)
  have q0 := h32 0
  have q1 := h32 1
  simp only [Nat.zero_mul, Nat.one_mul, List.drop_zero] at hl g0 g1 q0 q1
  have htail : ∀ b ∈ c.drop (4 * (c.length / 4)), b < 256 :=
    fun b hb => ctx.lt256 b (hc b (List.mem_of_mem_drop hb))
  have htl : (c.drop (4 * (c.length / 4))).length = c.length % 4 := by rw [List.length_drop]; omega
  refine ⟨B, ?_, hB4.bytes, hB4.size⟩
  unfold chunkV6 encodeChunk
  simp only [List.append_assoc]
  rw [read4_enc _ _ _ _ q0 q1 (h32 2) (h32 3)]
  simp only [R.bind]
  rw [hl]
  simp only
  rw [g0.1, g1.1, g2.1, g3.1]
  simp only [and_self, not_true_eq_false, if_false]
  rw [← htl, readBytes_ofBytes _ rest htail]
  simp only
  have hq4 := take_drop_quarters c
  simp only [List.append_assoc] at hq4
  rw [g0.2, g1.2, g2.2, g3.2, hq4]

theorem toOpt_some {α : Type} (r : R α) (x : α) (h : r.toOpt = some x) : r = .ok x := by
  cases r <;> simp_all [R.toOpt]

theorem readLengthsR_of (bs : Bits) (x : RL × Bits) (h : readLengths bs = some x) : readLengthsR bs = .ok x :=
  toOpt_some _ _ (by rw [readLengthsR_toOpt, h])

theorem buildTableR_of (rl : RL) (t : List Nat) (h : buildTable rl = some t) : buildTableR rl = .ok t :=
  toOpt_some _ _ (by rw [buildTableR_toOpt, h])

/-- what a round of the chunk loop does to the caller's block: `c` at `start` -/
def Wrote (out out' : Array Nat) (start : Nat) (c : List Nat) : Prop :=
  out'.size = out.size ∧
  ∀ x, out'.getD x 0 = if start ≤ x ∧ x < start + c.length ∧ x < out.size then c.getD (x - start) 0 else out.getD x 0

/-- on `e ++ rest` a round of the chunk loop with `c.length` bytes to decode goes on to the next chunk:
    it has consumed `e`, written `c`, kept a buffer of bytes of the same length -/
def StepOk (p : Params) (e : Bits) (c : List Nat) : Prop :=
  ∀ (rest : Bits) (start total : Nat) (out buf : Array Nat),
    min p.chunkSize (total - start) = c.length → Bytes buf → 2 * p.chunkSize ≤ buf.size →
    ∃ out' buf', stepV6 p start total out buf (e ++ rest) = .next (start + c.length) out' buf' rest ∧
      Bytes buf' ∧ buf'.size = buf.size ∧ Wrote out out' start c

theorem stepV6_enc (p : Params) (hcs : 1024 ≤ p.chunkSize ∧ p.chunkSize ≤ 16384)
    (c : List Nat) (hb : ∀ b ∈ c, b < 256) (hlen : 1 ≤ c.length ∧ c.length ≤ p.chunkSize) :
    ∃ e br, encodeOneChunk c = some (e, br) ∧ StepOk p e c := by
  obtain ⟨e, br, he, h⟩ := encodeOneChunk_cases c hb hlen.1
  refine ⟨e, br, he, fun rest start total out buf hmin hB hsz => ?_⟩
  unfold stepV6
  simp only []
  rw [hmin]
  by_cases h32 : c.length < 32
  · rw [if_pos h32] at h ⊢
    rw [h, readBytes_ofBytes c rest hb]
    exact ⟨_, _, rfl, hB, rfl, writeAt_size _ _ _, fun x => writeAt_getD c start out x⟩
  rw [if_neg h32] at h ⊢
  obtain ⟨hdr, rl, hrl, hpos, h⟩ := h
  by_cases h1 : rl.alphabet.length = 1
  · rw [if_pos h1] at h
    obtain ⟨rfl, hs256, hrep⟩ := h
    rw [readLengthsR_of _ _ (hrl rest)]
    simp only
    rw [if_neg (by omega), if_pos h1]
    refine ⟨_, _, rfl, hB, rfl, setRange_size _ _ _ _, fun x => ?_⟩
    rw [setRange_getD, Nat.mod_eq_of_lt hs256]
    by_cases hx : start ≤ x ∧ x < start + c.length ∧ x < out.size
    · rw [if_pos hx, if_pos hx, hrep, List.getD_eq_getElem?_getD, List.getElem?_replicate,
        if_pos (by omega)]
      rfl
    · rw [if_neg hx, if_neg hx]
  rw [if_neg h1] at h
  obtain ⟨arr, tbl, sizes, codes, a, rfl, hbt, ctx, hmem⟩ := h
  rw [List.append_assoc, readLengthsR_of _ _ (hrl _)]
  simp only
  rw [if_neg (by omega), if_neg h1, buildTableR_of _ _ hbt]
  simp only
  obtain ⟨B, hch, hBy, hBs⟩ := chunkV6_enc arr tbl sizes codes a ctx c hmem buf hB (by omega) (by omega)
    (by omega) rest
  rw [hch]
  exact ⟨_, _, rfl, hBy, hBs, writeAt_size _ _ _, fun x => writeAt_getD c start out x⟩

theorem Wrote.outOf {out out' : Array Nat} {start : Nat} {c : List Nat} (h : Wrote out out' start c)
    (hs : start + c.length ≤ out.size) : outOf out' (start + c.length) = outOf out start ++ c := by
  have ha : ∀ (a : Array Nat) i, i < a.size → a.toList[i]? = some (a.getD i 0) := by
    intro a i hi
    simp [Array.getD_eq_getD_getElem?, hi]
  have hl : (out.toList.take start).length = start := by
    rw [List.length_take, Array.length_toList]
    omega
  unfold Kanzi.HufDec.outOf
  apply List.ext_getElem?
  intro i
  rw [List.getElem?_take, List.getElem?_append, hl, List.getElem?_take]
  by_cases hi : i < start + c.length
  · rw [if_pos hi, ha _ _ (by rw [h.1]; omega), h.2 i]
    by_cases h1 : i < start
    · rw [if_pos h1, if_pos h1, if_neg (by omega), ha _ _ (by omega)]
    · rw [if_neg h1, if_pos (by omega), List.getD_eq_getElem?_getD,
        List.getElem?_eq_getElem (show i - start < c.length by omega)]
      rfl
  · rw [if_neg hi, if_neg (by omega), List.getElem?_eq_none (by omega)]

/-- on `e ++ rest` the chunk loop of `decodeV6`, entered at any `start` with `blk.length` bytes to go,
    delivers `blk` behind what it had, consumes exactly `e`, and keeps a buffer of bytes of the same length -/
def LoopOk (p : Params) (e : Bits) (blk : List Nat) : Prop :=
  ∀ (rest : Bits) (f k start total : Nat) (out buf : Array Nat),
    start + blk.length = total → blk.length ≤ k * p.chunkSize → k + 1 ≤ f →
    Bytes buf → 2 * p.chunkSize ≤ buf.size → out.size = total →
    ∃ out' buf', readLoop p total f start out buf (e ++ rest)
        = ⟨.ret total false, outOf out' total, ⟨buf'⟩, rest, buf'.size⟩ ∧
      outOf out' total = outOf out start ++ blk ∧ Bytes buf' ∧ buf'.size = buf.size

theorem LoopOk.nil (p : Params) : LoopOk p [] [] := by
  intro rest f k start total out buf hst _ hf hB _ _
  obtain ⟨f', rfl⟩ : ∃ f', f = f' + 1 := ⟨f - 1, by omega⟩
  refine ⟨out, buf, readLoop_done p total f' start out buf _ (Nat.le_of_eq hst.symm), ?_, hB, rfl⟩
  rw [← hst]
  exact (List.append_nil _).symm

theorem LoopOk.cons (p : Params) (hv : ¬ p.bsVersion < 6) {e1 e2 : Bits} {c blk : List Nat}
    (hc : c.length = min p.chunkSize (c.length + blk.length)) (hc0 : 0 < c.length)
    (h1 : StepOk p e1 c) (h2 : LoopOk p e2 blk) : LoopOk p (e1 ++ e2) (c ++ blk) := by
  intro rest f k start total out buf hst hk hf hB hsz hos
  rw [List.length_append] at hst hk
  have hts : total - start = c.length + blk.length := by omega
  obtain ⟨o1, b1, hs1, hB1, hz1, hw1⟩ := h1 (e2 ++ rest) start total out buf (by rw [hts]; exact hc.symm) hB hsz
  -- a chunk shorter than `chunkSize` is the last one
  have hc' : blk.length = 0 ∨ c.length = p.chunkSize := by omega
  clear hc hts
  obtain ⟨k', rfl⟩ : ∃ k', k = k' + 1 := ⟨k - 1, by rcases k with _ | k <;> omega⟩
  obtain ⟨f', rfl⟩ : ∃ f', f = f' + 1 := ⟨f - 1, by omega⟩
  rw [Nat.succ_mul] at hk
  obtain ⟨o2, b2, hr2, ho2, hB2, hz2⟩ := h2 rest f' k' (start + c.length) total o1 b1 (by omega) (by omega)
    (by omega) hB1 (by omega) (by rw [hw1.1]; exact hos)
  refine ⟨o2, b2, ?_, ?_, hB2, by omega⟩
  · rw [readLoop_next p total f' start out buf _ (by omega), if_neg hv, List.append_assoc, hs1]
    exact hr2
  · rw [ho2, hw1.outOf (by omega), List.append_assoc]

theorem encodeChunks_nil (n cs : Nat) : encodeChunks n cs [] = some ([], []) := by
  cases n with
  | zero => rfl
  | succ n => simp [encodeChunks]

theorem readLoop_enc (p : Params) (hcs : 1024 ≤ p.chunkSize ∧ p.chunkSize ≤ 16384) (hv : ¬ p.bsVersion < 6) :
    ∀ (n : Nat) (blk : List Nat), blk.length ≤ n → (∀ b ∈ blk, b < 256) →
    ∃ e brs, encodeChunks n p.chunkSize blk = some (e, brs) ∧ LoopOk p e blk := by
  intro n
  induction n with
  | zero =>
    intro blk hl _
    obtain rfl : blk = [] := List.length_eq_zero_iff.mp (Nat.le_zero.mp hl)
    exact ⟨[], [], rfl, LoopOk.nil p⟩
  | succ n ih =>
    intro blk hl hb
    by_cases h0 : blk.length = 0
    · obtain rfl : blk = [] := List.length_eq_zero_iff.mp h0
      exact ⟨[], [], encodeChunks_nil _ _, LoopOk.nil p⟩
    · have hct : (blk.take p.chunkSize).length = min p.chunkSize blk.length := List.length_take
      have hdr : (blk.drop p.chunkSize).length = blk.length - p.chunkSize := List.length_drop
      obtain ⟨e1, br, he1, hd1⟩ := stepV6_enc p hcs (blk.take p.chunkSize)
        (fun b hb' => hb b (List.mem_of_mem_take hb')) (by omega)
      obtain ⟨e2, brs, he2, hd2⟩ := ih (blk.drop p.chunkSize) (by omega)
        (fun b hb' => hb b (List.mem_of_mem_drop hb'))
      refine ⟨e1 ++ e2, br :: brs, ?_, ?_⟩
      · rw [encodeChunks, if_neg h0, he1]
        simp only
        rw [he2]
      · have := LoopOk.cons p hv (by omega) (by omega) hd1 hd2
        rwa [List.take_append_drop] at this

theorem Bytes_v6Alloc (cs : Nat) (buf : Array Nat) (h : Bytes buf) : Bytes (v6Alloc cs buf) := by
  unfold v6Alloc
  split
  · exact Bytes.replicate _
  · exact h

/-- **whole block, total model**: `Write` then `Read` from ANY decoder object whose buffer holds bytes -/
theorem read_enc (p : Params) (hcs : 1024 ≤ p.chunkSize ∧ p.chunkSize ≤ 16384) (hv : ¬ p.bsVersion < 6)
    (s : St) (hs : Bytes s.buf) (blk : List Nat) (hb : ∀ b ∈ blk, b < 256) :
    ∃ e, encode blk p.chunkSize = some e ∧
      ∀ rest : Bits, ∃ st', read p s (e ++ rest) blk.length
          = ⟨.ret blk.length false, blk, st', rest, st'.buf.size⟩ ∧ Bytes st'.buf := by
  obtain ⟨e, brs, he, hd⟩ := readLoop_enc p hcs hv blk.length blk (Nat.le_refl _) hb
  refine ⟨e, by simp only [encode, encodeB, he], fun rest => ?_⟩
  unfold read
  by_cases h0 : blk.length = 0
  · obtain rfl : blk = [] := List.length_eq_zero_iff.mp h0
    simp only [List.length_nil, encodeChunks, Option.some.injEq, Prod.mk.injEq] at he
    rw [if_pos h0, ← he.1]
    exact ⟨s, rfl, hs⟩
  · rw [if_neg h0, if_neg hv]
    have hdm := Nat.div_add_mod blk.length p.chunkSize
    have hml := Nat.mod_lt blk.length (show 0 < p.chunkSize by omega)
    have hsz : 2 * p.chunkSize ≤ (v6Alloc p.chunkSize s.buf).size := by
      rw [v6Alloc_size]; split <;> omega
    obtain ⟨o, b, hr, ho, hB, hz⟩ := hd rest (chunksOf p.chunkSize blk.length)
      (blk.length / p.chunkSize + 1) 0 blk.length (Array.replicate blk.length 0) (v6Alloc p.chunkSize s.buf)
      (by omega) (by rw [Nat.succ_mul, Nat.mul_comm]; omega) (by unfold chunksOf; omega)
      (Bytes_v6Alloc _ _ hs) hsz Array.size_replicate
    refine ⟨⟨b⟩, ?_, hB⟩
    rw [hr, ho]
    rfl

end Kanzi.HufDec
