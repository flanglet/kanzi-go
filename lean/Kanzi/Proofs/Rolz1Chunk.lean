/-
ROLZ (`rolzCodec1`): one chunk through the bitstream.  `packFast` of the model is `Close` of the output
bitstream (`Kanzi.Block.packFast`: the bits, zero padded to a byte); the four section lengths and the four ANS
coded sections are read back exactly, whatever bytes follow, and the decoder advances by exactly the bytes of
the chunk (`chunk_transport`).  With what the encoder leaves in its side buffers for a chunk (`chunk1_enc`), one
iteration of the chunk loop of Inverse then restores that chunk (`chunk1_step`).
-/
import Kanzi.Proofs.Rolz1Ans
import Kanzi.Proofs.Rolz1Round
import Kanzi.Proofs.BlockLemmas

namespace Kanzi.ROLZ
open Kanzi.Bits Kanzi.EntSmall

theorem bitsNat8 (b0 b1 b2 b3 b4 b5 b6 b7 : Bool) :
    bitsNat [b0, b1, b2, b3, b4, b5, b6, b7] = 128 * b0.toNat + 64 * b1.toNat + 32 * b2.toNat + 16 * b3.toNat
      + 8 * b4.toNat + 4 * b5.toNat + 2 * b6.toNat + b7.toNat := by
  simp only [bitsNat, List.foldl_cons, List.foldl_nil]
  omega

theorem packLoop_eq : ∀ (n : Nat) (bs : Bits), bs.length = n → ∀ (f : Nat) (acc : Array Nat), bs.length / 8 + 1 ≤ f →
    (packLoop f bs acc).toList = acc.toList ++ Kanzi.Block.packFast bs := by
  intro n
  induction n using Nat.strongRecOn with
  | _ n ih =>
    intro bs hn f acc hf
    match f, hf with
    | f + 1, hf =>
    by_cases h8 : 8 ≤ bs.length
    · obtain ⟨b0, b1, b2, b3, b4, b5, b6, b7, rest, rfl⟩ := Kanzi.Block.cons8_of_length bs h8
      simp only [packLoop]
      rw [ih rest.length (by rw [← hn]; simp only [List.length_cons]; omega) rest rfl f _
        (by simp only [List.length_cons] at hf; omega), Kanzi.Block.packFast_cons8, bitsNat8]
      simp
    · by_cases h0 : bs = []
      · subst h0
        simp [packLoop, Kanzi.Block.packFast_nil]
      · rw [Kanzi.Block.packFast_short bs h0 (by omega)]
        rcases bs with _ | ⟨b0, _ | ⟨b1, _ | ⟨b2, _ | ⟨b3, _ | ⟨b4, _ | ⟨b5, _ | ⟨b6, _ | ⟨b7, rest⟩⟩⟩⟩⟩⟩⟩⟩
        · exact absurd rfl h0
        all_goals first
          | (simp only [List.length_cons] at h8; omega)
          | simp [packLoop]

theorem packFast_toList (bs : Bits) : (packFast bs).toList = Kanzi.Block.packFast bs := by
  unfold packFast
  rw [packLoop_eq bs.length bs rfl _ _ (Nat.le_refl _)]
  simp

theorem packFast_size (bs : Bits) : (packFast bs).size = (bs.length + 7) / 8 := by
  rw [← Array.length_toList, packFast_toList, Kanzi.Block.packFast_length]

theorem ofBytes_packFast' (bs : Bits) (T : List Nat) :
    ofBytes ((packFast bs).toList ++ T) = bs ++ (List.replicate (Kanzi.Block.padLen bs.length) false ++ ofBytes T) := by
  rw [ofBytes_append, packFast_toList, Kanzi.Block.ofBytes_packFast, List.append_assoc]

/-- **one chunk through the bitstream**: the decoder, given the bytes of the chunk followed by ANY bytes `T`, reads
    back the four section lengths and the four sections, and has consumed exactly the bytes of the chunk -/
theorem chunk_transport {litOrder : Nat} {lit tk len mix : List Nat} {bits : Bits}
    (hcb : chunkBits litOrder lit tk len mix = some bits)
    (hb1 : ∀ b ∈ lit, b < 256) (hb2 : ∀ b ∈ tk, b < 256) (hb3 : ∀ b ∈ len, b < 256) (hb4 : ∀ b ∈ mix, b < 256)
    (hl1 : lit.length < 2 ^ 32) (hl2 : tk.length < 2 ^ 32) (hl3 : len.length < 2 ^ 32) (hl4 : mix.length < 2 ^ 32)
    (T : List Nat) :
    ∃ r0 r1 r2 r3 r4 b2 b3 b4,
      readHdr (ofBytes ((packFast bits).toList ++ T)) = some ((lit.length, tk.length, len.length, mix.length), r0) ∧
      ansLitDecode litOrder false r0 lit.length = some (lit, r1) ∧
      ans0DecodeB r1 tk.length 32768 0 = some (tk, r2, b2) ∧ ans0DecodeB r2 len.length 32768 b2 = some (len, r3, b3) ∧
      ans0DecodeB r3 mix.length 32768 b3 = some (mix, r4, b4) ∧
      ((ofBytes ((packFast bits).toList ++ T)).length - r4.length + 7) / 8 = (packFast bits).size := by
  obtain ⟨e1, he1, hd1⟩ := ansLit_rt litOrder lit hb1
  obtain ⟨e2, he2, hd2⟩ := ans0B_rt tk 32768 12 (by omega) (by omega) (by omega) hb2
  obtain ⟨e3, he3, hd3⟩ := ans0B_rt len 32768 12 (by omega) (by omega) (by omega) hb3
  obtain ⟨e4, he4, hd4⟩ := ans0B_rt mix 32768 12 (by omega) (by omega) (by omega) hb4
  unfold chunkBits at hcb
  rw [he1, he2, he3, he4] at hcb
  simp only at hcb
  injection hcb with hcb
  subst hcb
  have hpk := ofBytes_packFast' (natBits lit.length 32 ++ natBits tk.length 32 ++ natBits len.length 32
    ++ natBits mix.length 32 ++ e1 ++ e2 ++ e3 ++ e4) T
  have hsz := packFast_size (natBits lit.length 32 ++ natBits tk.length 32 ++ natBits len.length 32
    ++ natBits mix.length 32 ++ e1 ++ e2 ++ e3 ++ e4)
  generalize List.replicate (Kanzi.Block.padLen (natBits lit.length 32 ++ natBits tk.length 32 ++ natBits len.length 32
    ++ natBits mix.length 32 ++ e1 ++ e2 ++ e3 ++ e4).length) false ++ ofBytes T = P at hpk
  obtain ⟨b2, hb2'⟩ := hd2 0 (e3 ++ (e4 ++ P))
  obtain ⟨b3, hb3'⟩ := hd3 b2 (e4 ++ P)
  obtain ⟨b4, hb4'⟩ := hd4 b3 P
  refine ⟨e1 ++ (e2 ++ (e3 ++ (e4 ++ P))), e2 ++ (e3 ++ (e4 ++ P)), e3 ++ (e4 ++ P), e4 ++ P, P, b2, b3, b4,
    ?_, hd1 _, hb2', hb3', hb4', ?_⟩
  · rw [hpk]
    unfold readHdr
    simp only [List.append_assoc]
    rw [readBits_natBits_lt _ _ _ hl1]
    simp only
    rw [readBits_natBits_lt _ _ _ hl2]
    simp only
    rw [readBits_natBits_lt _ _ _ hl3]
    simp only
    rw [readBits_natBits_lt _ _ _ hl4]
  · rw [hpk, hsz]
    simp only [List.length_append]
    omega

theorem blit_fold (l : List Nat) : ∀ (buf : Array Nat) (i : Nat), i + l.length ≤ buf.size →
    ((l.foldl (fun (p : Array Nat × Nat) v => (p.1.setIfInBounds p.2 v, p.2 + 1)) (buf, i)).1.size = buf.size) ∧
    ∀ k, (l.foldl (fun (p : Array Nat × Nat) v => (p.1.setIfInBounds p.2 v, p.2 + 1)) (buf, i)).1.getD k 0
      = if i ≤ k ∧ k < i + l.length then l.getD (k - i) 0 else buf.getD k 0 := by
  induction l with
  | nil =>
    intro buf i _
    refine ⟨rfl, fun k => ?_⟩
    simp only [List.foldl_nil, List.length_nil]
    rw [if_neg (by omega)]
  | cons v l ih =>
    intro buf i hi
    simp only [List.foldl_cons, List.length_cons] at hi ⊢
    obtain ⟨h1, h2⟩ := ih (buf.setIfInBounds i v) (i + 1) (by rw [Array.size_setIfInBounds]; omega)
    refine ⟨by rw [h1, Array.size_setIfInBounds], fun k => ?_⟩
    rw [h2 k, getD_setIfInBounds]
    by_cases hk : i + 1 ≤ k ∧ k < i + 1 + l.length
    · rw [if_pos hk, if_pos (by omega)]
      have : k - i = (k - (i + 1)) + 1 := by omega
      rw [this, List.getD_cons_succ]
    · rw [if_neg hk]
      by_cases hki : k = i
      · rw [if_pos ⟨hki, by omega⟩, if_pos (by omega), hki]
        simp
      · rw [if_neg (fun hc => hki hc.1), if_neg (by omega)]

theorem blit_spec (buf : Array Nat) (l : List Nat) (h : l.length ≤ buf.size) :
    (blit buf l).size = buf.size ∧ ∀ k, (blit buf l).getD k 0 = if k < l.length then l.getD k 0 else buf.getD k 0 := by
  unfold blit
  obtain ⟨h1, h2⟩ := blit_fold l buf 0 (by omega)
  refine ⟨h1, fun k => ?_⟩
  rw [h2 k]
  simp

theorem pre_blit (x buf : Array Nat) (h : x.size ≤ buf.size) : Pre x (blit buf x.toList) := by
  obtain ⟨h1, h2⟩ := blit_spec buf x.toList (by rw [Array.length_toList]; exact h)
  refine ⟨by rw [h1]; exact h, fun k hk => ?_⟩
  rw [h2 k, if_pos (by rw [Array.length_toList]; exact hk), toList_getD]

def AllB (x : Array Nat) : Prop := ∀ k, x.getD k 0 < 256

theorem allB_empty : AllB #[] := fun k => by simp

theorem allB_appendL {x : Array Nat} (hx : AllB x) {l : List Nat} (hl : ∀ b ∈ l, b < 256) : AllB (x ++ l) := by
  intro k
  rw [getD_appendL]
  by_cases hk : k < x.size
  · rw [if_pos hk]; exact hx k
  · rw [if_neg hk, List.getD_eq_getElem?_getD]
    cases h : l[k - x.size]? with
    | none => simp
    | some v => simp only [Option.getD_some]; exact hl v (List.mem_of_getElem? h)

theorem allB_appendA {x y : Array Nat} (hx : AllB x) (hy : AllB y) : AllB (x ++ y) := by
  intro k
  rw [getD_appendA]
  by_cases hk : k < x.size
  · rw [if_pos hk]; exact hx k
  · rw [if_neg hk]; exact hy _

theorem allB_extract {a : Array Nat} (ha : ∀ k, a.getD k 0 < 256) (i j : Nat) : AllB (a.extract i j) := by
  intro k
  simp only [Array.getD_eq_getD_getElem?, Array.getElem?_extract]
  split
  · have := ha (i + k)
    rw [Array.getD_eq_getD_getElem?] at this
    exact this
  · simp

theorem allB_mem {x : Array Nat} (hx : AllB x) : ∀ b ∈ x.toList, b < 256 := by
  intro b hb
  obtain ⟨k, hk, rfl⟩ := List.getElem_of_mem hb
  have := hx k
  rw [Array.length_toList] at hk
  simpa [Array.getD_eq_getD_getElem?, Array.getElem?_eq_getElem hk] using this

theorem emitLengthBytes_lt (v : Nat) : ∀ b ∈ emitLengthBytes v, b < 256 := by
  intro b hb
  unfold emitLengthBytes at hb
  simp only [List.mem_append, List.mem_cons, List.not_mem_nil, or_false] at hb
  rcases hb with hb | hb
  · split at hb
    · simp only [List.mem_append, List.mem_cons, List.not_mem_nil, or_false] at hb
      rcases hb with hb | hb
      · split at hb
        · simp only [List.mem_append, List.mem_cons, List.not_mem_nil, or_false] at hb
          rcases hb with hb | hb
          · split at hb
            · simp only [List.mem_cons, List.not_mem_nil, or_false] at hb; omega
            · cases hb
          · omega
        · cases hb
      · omega
    · cases hb
  · omega

theorem lenBytesOf_lt (litLen ml : Nat) : ∀ b ∈ lenBytesOf litLen ml, b < 256 := by
  intro b hb
  unfold lenBytesOf at hb
  rw [List.mem_append] at hb
  rcases hb with hb | hb
  · split at hb
    · exact emitLengthBytes_lt _ b hb
    · cases hb
  · split at hb
    · exact emitLengthBytes_lt _ b hb
    · cases hb

theorem tokOf_lt (litLen ml : Nat) : tokOf litLen ml < 256 := by unfold tokOf; omega

/-- all four side buffers hold bytes -/
structure BufB (s : F1) : Prop where
  lit : AllB s.lit
  len : AllB s.len
  mix : AllB s.mix
  tk : AllB s.tk

/-- what the loop "Next chunk" keeps, from the state `l0` on: the buffers grow and hold bytes, tokens and match indexes
    go together, and without a token nothing was emitted -/
structure LoopQ (l0 x : L1) : Prop where
  grow : Grow l0.st x.st
  bytes : BufB x.st
  tkMix : x.st.tk.size = x.st.mix.size
  none : x.st.tk.size = 0 → x.first = l0.first ∧ x.st.lit = l0.st.lit ∧ x.st.len = l0.st.len

theorem allB_one {v : Nat} (hv : v < 256) : ∀ b ∈ [v], b < 256 := by
  intro b hb
  rw [List.mem_singleton] at hb
  rw [hb]
  exact hv

theorem loopQ_step {a : Array Nat} (ha : ∀ k, a.getD k 0 < 256) {base lim mm delta lpc : Nat} {l0 x x' : L1}
    (hs : Step a base lim mm delta lpc x x') (hq : LoopQ l0 x) : LoopQ l0 x' := by
  have g := grow_trans hq.grow (step_grow hs)
  cases hs with
  | skip => exact ⟨g, ⟨hq.bytes.lit, hq.bytes.len, hq.bytes.mix, hq.bytes.tk⟩, hq.tkMix, hq.none⟩
  | seq key w key1 p mi ml =>
    refine ⟨g,
      ⟨allB_appendA hq.bytes.lit (allB_extract ha _ _), allB_appendL hq.bytes.len (lenBytesOf_lt _ _),
        allB_appendL hq.bytes.mix (allB_one (Nat.mod_lt _ (by decide))), allB_appendL hq.bytes.tk (allB_one (tokOf_lt _ _))⟩,
      ?_, fun h0 => ?_⟩
    · show (x.st.tk ++ [tokOf (p - x.first) ml]).size = (x.st.mix ++ [mi % 256]).size
      rw [size_appendList, size_appendList, hq.tkMix]
      rfl
    · -- a token was pushed
      have h1 : (x.st.tk ++ [tokOf (p - x.first) ml]).size = 0 := h0
      rw [size_appendList] at h1
      cases h1

theorem fwd1Loop_exit {a : Array Nat} {cp : Caps} {base lim mm delta lpc f : Nat} {l lfin : L1}
    (h : fwd1Loop a cp base lim mm delta lpc (f + 1) l = .ok lfin) (hil : ¬ l.i < lim) : lfin = l := by
  simp only [fwd1Loop] at h
  rw [if_neg hil] at h
  injection h with h
  exact h.symm

/-- the side buffers `s` the encoder leaves for the chunk `[st, e)`: bytes, within the allocations of the first chunk
    size `sz0`; the first `min (e - st) 8` literals are the head of the chunk; without a token all of the chunk is
    literals; a token needs a chunk of at least 8 bytes -/
structure ChunkEnc (a : Array Nat) (sz0 st e : Nat) (s : F1) : Prop where
  bytes : BufB s
  cnt : s.tab.counters.size = HASH_SIZE
  litLe : st + s.lit.size ≤ e
  litGe : min (e - st) 8 ≤ s.lit.size
  len : st + 10 * s.len.size ≤ e
  tk : s.tk.size ≤ sz0 / 4
  tkMix : (s.tk.size = 0 ∧ s.mix.size = 0) ∨ s.tk.size = s.mix.size + 1
  head : ∀ k, k < min (e - st) 8 → s.lit.getD k 0 = a.getD (st + k) 0
  all : s.tk.size = 0 → s.lit.size = e - st ∧ ∀ k, k < e - st → s.lit.getD k 0 = a.getD (st + k) 0
  long : s.tk.size ≠ 0 → 8 ≤ e - st

theorem chunk1_enc {a : Array Nat} {sz0 mm delta lpc st e : Nat} (hpar : ParamsOk mm delta) (hmm : 3 ≤ mm ∧ mm ≤ 7)
    (ha : ∀ k, a.getD k 0 < 256) (hst : st < e) (hlimA : e + 4 ≤ a.size) (hcap : e ≤ st + sz0)
    {cnt : Array Nat} (hcnt : cnt.size = HASH_SIZE) {lit0 : Array Nat}
    (hlit0 : pushLits #[] (capsOf sz0).lit a st (st + min (e - st) 8) = some lit0) {lfin : L1} {sfin : F1}
    (hloop : fwd1Loop a (capsOf sz0) st e mm delta lpc (e - st + 1)
      ⟨st + min (e - st) 8, st + min (e - st) 8, 0, ⟨⟨matches0 lpc, cnt⟩, lit0, #[], #[], #[]⟩⟩ = .ok lfin)
    (htail : fwd1Tail a (capsOf sz0) lfin.first e lfin.st = .ok sfin) : ChunkEnc a sz0 st e sfin := by
  have hcapOk : CapOk (capsOf sz0) st e := capsOf_ok hcap
  obtain ⟨elit0, _⟩ := pushLits_eq hlit0
  have hlit0sz : lit0.size = min (e - st) 8 := by
    rw [elit0, Array.size_append, Array.size_extract]
    simp only [Array.size_empty]
    omega
  have hlit0v : ∀ k, k < min (e - st) 8 → lit0.getD k 0 = a.getD (st + k) 0 := by
    intro k hk
    rw [elit0, getD_appendA, if_neg (by simp), ← toList_getD]
    simp only [Array.size_empty, Nat.sub_zero]
    exact extract_getD a st (st + min (e - st) 8) k (by omega) (by omega)
  have hb0 : BufB (⟨⟨matches0 lpc, cnt⟩, lit0, #[], #[], #[]⟩ : F1) :=
    ⟨by rw [elit0]; exact allB_appendA allB_empty (allB_extract ha _ _), allB_empty, allB_empty, allB_empty⟩
  obtain ⟨hlfin, _, q⟩ := (fwd1Loop_sat hpar hmm hcapOk hlimA (Q := LoopQ _) (fun _ _ _ hs hq => loopQ_step ha hs hq)
    (e - st + 1) _ (by dsimp only; omega) (by dsimp only; omega) (linv_start hcnt hlit0sz (by omega))
    ⟨grow_refl _, hb0, rfl, fun _ => ⟨rfl, rfl, rfl⟩⟩).ok hloop
  rw [fwd1Tail_eq hcapOk hlfin.b hlfin.fl (by omega)] at htail
  injection htail with htail
  subst htail
  have h1 := hlfin.b.lit
  have h2 := hlfin.b.len
  have h3 : lfin.st.tk.size = 0 ∨ lfin.st.tk.size + 1 ≤ sz0 / 4 := hlfin.b.tk
  have hfl := hlfin.fl
  have hlb := (lenBytesOf_len (e - lfin.first) 0).2 (by omega)
  have glit : Pre lit0 (lfin.st.lit ++ a.extract lfin.first e) := pre_trans q.grow.lit (pre_appendA _ _)
  have hlitsz : (lfin.st.lit ++ a.extract lfin.first e).size = lfin.st.lit.size + (e - lfin.first) := by
    rw [Array.size_append, Array.size_extract]
    omega
  have htksz : (lfin.st.tk ++ if lfin.st.tk.size ≠ 0 then [tokOf (e - lfin.first) 0] else []).size
      = if lfin.st.tk.size ≠ 0 then lfin.st.tk.size + 1 else 0 := by
    rw [size_appendList]
    split
    · rfl
    · simp only [List.length_nil]
      omega
  refine ⟨⟨allB_appendA q.bytes.lit (allB_extract ha _ _), allB_appendL q.bytes.len (lenBytesOf_lt _ _), q.bytes.mix,
      allB_appendL q.bytes.tk fun b hb => ?_⟩, hlfin.b.tab.ok.cnt, by rw [hlitsz]; omega,
    by have := glit.1; rw [← hlit0sz]; exact this, by rw [size_appendList]; omega, ?_, ?_,
    fun k hk => by rw [glit.2 k (by rw [hlit0sz]; exact hk)]; exact hlit0v k hk, fun h0 => ?_, fun h0 => ?_⟩
  · split at hb
    · exact allB_one (tokOf_lt _ _) b hb
    · cases hb
  · show _ ≤ sz0 / 4
    rw [htksz]
    split <;> omega
  · show (_ = 0 ∧ lfin.st.mix.size = 0) ∨ _ = lfin.st.mix.size + 1
    rw [htksz, ← q.tkMix]
    split <;> omega
  · have h0' : lfin.st.tk.size = 0 := by
      have : (if lfin.st.tk.size ≠ 0 then lfin.st.tk.size + 1 else 0) = 0 := htksz ▸ h0
      split at this <;> omega
    obtain ⟨hf0, hl0', _⟩ := q.none h0'
    simp only at hf0 hl0'
    have hsz : (lfin.st.lit ++ a.extract lfin.first e).size = e - st := by
      rw [hlitsz, hl0', hlit0sz, hf0]
      omega
    refine ⟨hsz, fun k hk => ?_⟩
    by_cases hk8 : k < min (e - st) 8
    · rw [glit.2 k (by rw [hlit0sz]; exact hk8)]
      exact hlit0v k hk8
    · rw [hl0', getD_appendA, if_neg (by omega), hlit0sz, hf0, ← toList_getD,
        extract_getD a _ e _ (by omega) (by omega)]
      congr 1
      omega
  · apply Classical.byContradiction
    intro h8
    have hm : min (e - st) 8 = e - st := by omega
    rw [hm] at hloop
    have hex := fwd1Loop_exit hloop (by simp only; omega)
    rw [hex] at h0
    exact h0 rfl

/-- the decoder's allocations: `litBuf`, `mLenBuf`, `mIdxBuf` / `tkBuf` for the first chunk size `zD` -/
structure SdSize (sd : Side) (zD : Nat) : Prop where
  lit : sd.lit.size = zD
  len : sd.len.size = zD / 5
  mix : sd.mix.size = zD / 4
  tk : sd.tk.size = zD / 4

/-- the decoder's side buffers after the four sections `s` of a chunk have been read into them -/
def sideOf (sd : Side) (s : F1) : Side :=
  ⟨blit sd.lit s.lit.toList, blit sd.len s.len.toList, blit sd.mix s.mix.toList, blit sd.tk s.tk.toList⟩

theorem blit_size (x buf : Array Nat) (h : x.size ≤ buf.size) : (blit buf x.toList).size = buf.size :=
  (blit_spec buf x.toList (by rw [Array.length_toList]; exact h)).1

theorem sideOf_spec {sd : Side} {zD : Nat} (hsd : SdSize sd zD) {s : F1} (h1 : s.lit.size ≤ zD) (h2 : s.len.size ≤ zD / 5)
    (h3 : s.mix.size ≤ zD / 4) (h4 : s.tk.size ≤ zD / 4) :
    SdSize (sideOf sd s) zD ∧ Pre s.lit (sideOf sd s).lit ∧ Pre s.len (sideOf sd s).len ∧ Pre s.mix (sideOf sd s).mix ∧
      Pre s.tk (sideOf sd s).tk := by
  rw [← hsd.lit] at h1
  rw [← hsd.len] at h2
  rw [← hsd.mix] at h3
  rw [← hsd.tk] at h4
  exact ⟨⟨by rw [← hsd.lit]; exact blit_size _ _ h1, by rw [← hsd.len]; exact blit_size _ _ h2,
    by rw [← hsd.mix]; exact blit_size _ _ h3, by rw [← hsd.tk]; exact blit_size _ _ h4⟩,
    pre_blit _ _ h1, pre_blit _ _ h2, pre_blit _ _ h3, pre_blit _ _ h4⟩

/-- **one iteration of the chunk loop of Inverse** on the bytes of a chunk with the sections `s` (followed by
    anything): either the chunk is all literals, or the first 8 literals are copied and the sequence loop runs -/
theorem inv1Chunks_step {Sarr : Array Nat} {srcEnd mm delta lpc litOrder st e szD dI srcIdx fD zD : Nat} {s : F1}
    {bits : Bits} {T : List Nat} {sd : Side} {tabD : Tab} {dst : Array Nat}
    (hst : st < srcEnd) (hszD : (if st + szD > srcEnd then srcEnd else st + szD) = e)
    (hbits : chunkBits litOrder s.lit.toList s.tk.toList s.len.toList s.mix.toList = some bits)
    (hsrc : (Sarr.extract srcIdx Sarr.size).toList = (packFast bits).toList ++ T) (hB : BufB s)
    (hsd : SdSize sd zD) (hzmax : zD ≤ 2 ^ 24) (h1 : s.lit.size ≤ zD) (h2 : s.len.size ≤ zD / 5) (h3 : s.mix.size ≤ zD / 4)
    (h4 : s.tk.size ≤ zD / 4) (h5 : min (e - st) 8 ≤ s.lit.size ∧ st + s.lit.size ≤ e)
    (h6 : (s.tk.size = 0 ∧ s.mix.size = 0) ∨ s.tk.size = s.mix.size + 1) :
    (s.tk.size = 0 → s.lit.size = e - st →
      inv1Chunks Sarr srcEnd mm delta lpc litOrder 8 false (fD + 1) st szD dI srcIdx sd tabD dst
        = inv1Chunks Sarr srcEnd mm delta lpc litOrder 8 false fD e (e - st) (e - st) (srcIdx + (packFast bits).size)
            (sideOf sd s) ⟨Array.replicate tabD.mts.size 0, tabD.counters⟩
            (copyFrom dst e st (sideOf sd s).lit 0 (e - st))) ∧
    (s.tk.size ≠ 0 → 8 ≤ e - st → ∀ j,
      inv1Loop (sideOf sd s) srcEnd st e mm delta lpc (e - st + 1)
        ⟨st + 8, 8, 0, 0, 0, ⟨⟨Array.replicate tabD.mts.size 0, tabD.counters⟩, copyFrom dst e st (sideOf sd s).lit 0 8⟩⟩
        = .ok j →
      inv1Chunks Sarr srcEnd mm delta lpc litOrder 8 false (fD + 1) st szD dI srcIdx sd tabD dst
        = inv1Chunks Sarr srcEnd mm delta lpc litOrder 8 false fD e (e - st) (j.i - st) (srcIdx + (packFast bits).size)
            (sideOf sd s) j.st.tab j.st.dst) := by
  obtain ⟨r0, r1, r2, r3, r4, b2, b3, b4, hh, hd1, hd2, hd3, hd4, hadv⟩ := chunk_transport hbits (allB_mem hB.lit)
    (allB_mem hB.tk) (allB_mem hB.len) (allB_mem hB.mix) (by rw [Array.length_toList]; omega)
    (by rw [Array.length_toList]; omega) (by rw [Array.length_toList]; omega) (by rw [Array.length_toList]; omega) T
  simp only [Array.length_toList] at hh hd1 hd2 hd3 hd4
  have hsd1 := (sideOf_spec hsd h1 h2 h3 h4).1.lit
  simp only [inv1Chunks]
  rw [if_pos hst, hszD, hsrc, hh]
  simp only
  rw [if_neg (by rw [hsd.lit, hsd.tk, hsd.len, hsd.mix]; omega), if_neg (by omega), if_neg (by omega), hd1]
  simp only
  rw [hd2]
  simp only
  rw [hd3]
  simp only
  rw [hd4]
  simp only
  rw [hadv]
  refine ⟨fun h0 hl => ?_, fun h0 h8 j hj => ?_⟩
  · rw [if_pos h0, if_neg (by omega)]
    rfl
  · rw [if_neg h0, if_neg (by show ¬ (e - st < 8 ∨ (sideOf sd s).lit.size < 8); rw [hsd1]; omega)]
    show (match inv1Loop (sideOf sd s) srcEnd st e mm delta lpc (e - st + 1)
        ⟨st + 8, 8, 0, 0, 0, ⟨⟨Array.replicate tabD.mts.size 0, tabD.counters⟩, copyFrom dst e st (sideOf sd s).lit 0 8⟩⟩ with
      | .ok j => _ | .err e => _ | .fault e => _) = _
    rw [hj]
    rfl

/-- **one chunk of Inverse**: the bytes the encoder produced for the chunk `[st, e)` (followed by anything) make one
    iteration of the chunk loop of Inverse restore `a[st, e)` and advance by exactly these bytes -/
theorem chunk1_step {a Sarr : Array Nat} {sz0E zD srcEnd mm delta lpc litOrder st e szD dI srcIdx fD : Nat}
    (hpar : ParamsOk mm delta) (hmm : 3 ≤ mm ∧ mm ≤ 7) (hlpc : lpc ≤ 8) (ha : ∀ k, a.getD k 0 < 256)
    (hst : st < e) (hes : e ≤ srcEnd) (hea : srcEnd + 4 ≤ a.size)
    (hszD : (if st + szD > srcEnd then srcEnd else st + szD) = e)
    (hcapE : e ≤ st + sz0E) (hz : sz0E ≤ zD) (hz64 : 64 ≤ zD) (hzmax : zD ≤ 2 ^ 24)
    {cnt : Array Nat} (hcnt : cnt.size = HASH_SIZE) {lit0 : Array Nat}
    (hlit0 : pushLits #[] (capsOf sz0E).lit a st (st + min (e - st) 8) = some lit0)
    {lfin : L1} {sfin : F1} {bits : Bits}
    (hloop : fwd1Loop a (capsOf sz0E) st e mm delta lpc (e - st + 1)
      ⟨st + min (e - st) 8, st + min (e - st) 8, 0, ⟨⟨matches0 lpc, cnt⟩, lit0, #[], #[], #[]⟩⟩ = .ok lfin)
    (htail : fwd1Tail a (capsOf sz0E) lfin.first e lfin.st = .ok sfin)
    (hbits : chunkBits litOrder sfin.lit.toList sfin.tk.toList sfin.len.toList sfin.mix.toList = some bits)
    {T : List Nat} (hsrc : (Sarr.extract srcIdx Sarr.size).toList = (packFast bits).toList ++ T)
    {sd : Side} {tabD : Tab} {dst : Array Nat} (hsd : SdSize sd zD) (htab : TabOk tabD lpc)
    (hag : ∀ k, k < st → dst.getD k 0 = a.getD k 0) (hdst : srcEnd ≤ dst.size) :
    ∃ sd1 tab1 dst1, inv1Chunks Sarr srcEnd mm delta lpc litOrder 8 false (fD + 1) st szD dI srcIdx sd tabD dst
        = inv1Chunks Sarr srcEnd mm delta lpc litOrder 8 false fD e (e - st) (e - st) (srcIdx + (packFast bits).size)
            sd1 tab1 dst1 ∧
      SdSize sd1 zD ∧ TabOk tab1 lpc ∧ dst1.size = dst.size ∧ (∀ k, k < e → dst1.getD k 0 = a.getD k 0) ∧
      sfin.tab.counters.size = HASH_SIZE := by
  have hlimA : e + 4 ≤ a.size := by omega
  have hdst8 : e ≤ dst.size := by omega
  have enc := chunk1_enc hpar hmm ha hst hlimA hcapE hcnt hlit0 hloop htail
  have hlitz : sfin.lit.size ≤ zD := by have := enc.litLe; omega
  have hlenz : sfin.len.size ≤ zD / 5 := by have := enc.len; omega
  have htkz : sfin.tk.size ≤ zD / 4 := Nat.le_trans enc.tk (Nat.div_le_div_right hz)
  have hmix : sfin.mix.size ≤ zD / 4 := by
    rcases enc.tkMix with h | h <;> omega
  obtain ⟨hsd1, p1, p2, p3, p4⟩ := sideOf_spec hsd (s := sfin) hlitz hlenz hmix htkz
  obtain ⟨step0, step1⟩ := inv1Chunks_step (Sarr := Sarr) (mm := mm) (delta := delta) (lpc := lpc) (dI := dI) (fD := fD)
    (tabD := tabD) (dst := dst) (by omega : st < srcEnd) hszD hbits hsrc enc.bytes hsd hzmax hlitz hlenz hmix htkz
    ⟨enc.litGe, enc.litLe⟩ enc.tkMix
  have htab0 : (⟨Array.replicate tabD.mts.size 0, tabD.counters⟩ : Tab) = ⟨matches0 lpc, tabD.counters⟩ := by
    rw [htab.mts]; rfl
  have hT2 : TabOk ⟨matches0 lpc, tabD.counters⟩ lpc := tabOk_clear _ _ htab.cnt
  by_cases hk0 : sfin.tk.size = 0
  · -- no token: the chunk is all literals
    obtain ⟨hall, hallv⟩ := enc.all hk0
    obtain ⟨c1, c2⟩ := copyFrom_agree (src := (sideOf sd sfin).lit) (s := 0) (n := e - st) (by omega : st + (e - st) ≤ e)
      hdst8 hag (fun k hk => by rw [Nat.zero_add, p1.2 k (by omega)]; exact hallv k hk)
    refine ⟨_, _, _, step0 hk0 hall, hsd1, by rw [htab0]; exact hT2, c1, fun k hk => c2 k (by omega), enc.cnt⟩
  · -- tokens: first literals, then the loop
    have h8 := enc.long hk0
    have hm8 : min (e - st) 8 = 8 := by omega
    obtain ⟨c1, c2⟩ := copyFrom_agree (src := (sideOf sd sfin).lit) (s := 0) (n := 8) (by omega : st + 8 ≤ e) hdst8 hag
      (fun k hk => by rw [Nat.zero_add, p1.2 k (by have := enc.litGe; omega)]; exact enc.head k (by omega))
    obtain ⟨elit0, _⟩ := pushLits_eq hlit0
    have hlit0sz : lit0.size = 8 := by
      rw [elit0, Array.size_append, Array.size_extract]
      simp only [Array.size_empty]
      omega
    rw [hm8] at hloop
    have hside : SideOk sfin (sideOf sd sfin) st e :=
      ⟨p1, p2, p3, p4, by rw [hsd1.lit]; omega, fun x hx => by rw [hsd1.len]; omega⟩
    have hmid : Mid a lpc st e mm delta ⟨st + 8, st + 8, 0, ⟨⟨matches0 lpc, cnt⟩, lit0, #[], #[], #[]⟩⟩
        ⟨st + 8, 8, 0, 0, 0, ⟨⟨matches0 lpc, tabD.counters⟩, copyFrom dst e st (sideOf sd sfin).lit 0 8⟩⟩
        ⟨matches0 lpc, tabD.counters⟩ :=
      ⟨rfl, hlit0sz.symm, rfl, rfl, rfl, c2, tabOk_clear _ _ hcnt, hT2, hT2, ringEq_clear _ _ _,
        entLt_clear _ _ _ (by show 0 < st + 8 - st; omega), cont_start rfl rfl _, fun _ => rfl, by simp only; omega⟩
    obtain ⟨jfin, hjl, q1, q2, q3, q4⟩ := loop1_sim (sd := sideOf sd sfin) (dstEnd := srcEnd) hpar hmm hlpc ha
      (by omega : e ≤ st + 2 ^ 24) hlimA (by omega : e ≤ st + srcEnd) (capsOf_ok hcapE) (e - st + 1) _ lfin hloop
      (by dsimp only; omega) (linv_start hcnt hlit0sz (by omega)) (Nat.le_refl _) sfin htail hk0 hside _ _ (e - st + 1) hmid
      (by rw [c1]; exact hdst8) (by show e - (st + 8) + 1 ≤ e - st + 1; omega)
    rw [← htab0] at hjl
    have hstep := step1 hk0 h8 jfin hjl
    rw [q1] at hstep
    exact ⟨_, _, _, hstep, hsd1, q4, by rw [q2, c1], q3, enc.cnt⟩

/-! ## the output of Forward only grows from chunk to chunk -/

theorem extract_tail_toList (S : Array Nat) (i : Nat) : (S.extract i S.size).toList = S.toList.drop i := by
  simp only [Array.toList_extract, List.extract]
  rw [List.take_of_length_le]
  rw [List.length_drop, Array.length_toList]

theorem pre_toList {x S : Array Nat} (h : Pre x S) : S.toList = x.toList ++ S.toList.drop x.size := by
  apply List.ext_getElem?
  intro k
  by_cases hk : k < x.size
  · rw [List.getElem?_append_left (by rw [Array.length_toList]; exact hk), Array.getElem?_toList, Array.getElem?_toList]
    have h2 := h.2 k hk
    have h1 := h.1
    rw [Array.getD_eq_getD_getElem?, Array.getD_eq_getD_getElem?, Array.getElem?_eq_getElem hk,
      Array.getElem?_eq_getElem (by omega)] at h2
    simp only [Option.getD_some] at h2
    rw [Array.getElem?_eq_getElem hk, Array.getElem?_eq_getElem (by omega), h2]
  · rw [List.getElem?_append_right (by rw [Array.length_toList]; omega), List.getElem?_drop, Array.length_toList]
    congr 1; omega

/-- the bytes the decoder sees at `x.size` when the encoder's output `x ++ y` is a prefix of the final one -/
theorem extract_of_pre {x y S : Array Nat} (h : Pre (x ++ y) S) :
    (S.extract x.size S.size).toList = y.toList ++ (S.extract (x.size + y.size) S.size).toList := by
  rw [extract_tail_toList, extract_tail_toList]
  have h1 := pre_toList h
  rw [Array.size_append] at h1
  conv => lhs; rw [h1]
  rw [Array.toList_append, List.append_assoc, List.drop_left' (by rw [Array.length_toList])]

theorem fwd1Chunks_pre {a : Array Nat} {cp : Caps} {dstLen srcEnd mm delta lpc litOrder : Nat} :
    ∀ (f st sz : Nat) (tab : Tab) (out : Array Nat) (r : Nat × Nat × Tab × Array Nat),
    fwd1Chunks a cp dstLen srcEnd mm delta lpc litOrder f st sz tab out = .ok r → Pre out r.2.2.2 := by
  intro f
  induction f with
  | zero => intro st sz tab out r h; simp [fwd1Chunks] at h
  | succ f ih =>
    intro st sz tab out r h
    simp only [fwd1Chunks] at h
    split at h
    · split at h
      · cases h
      · split at h
        · split at h
          · split at h
            · cases h
            · split at h
              · cases h
              · exact pre_trans (pre_appendA _ _) (ih _ _ _ _ _ h)
          · cases h
          · cases h
        · cases h
        · cases h
    · injection h with h
      subst h
      exact pre_refl _

end Kanzi.ROLZ
