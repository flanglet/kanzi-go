/-
Proofs for `Kanzi/Model/BlockGen3.lean`: the law of an abstract TEXT implementation (`TextLaw`), and every
kind of `Kind3` satisfies the per-transform law `Tr2.Law` (from the round-trip theorems of the transforms:
`UTF.utf_roundtrip`, `EXE.exe_roundtrip`, `BWT.block_roundtrip_small` / `_big`, `BWTS.bwtsInverse_bwtsSpec`, and for
ROLZ / ROLZX the property theorems `C13_rolz_*`, `C13_rolzx_*`), with its output bound `Kind3.grow`: EXE adds at most `len/50` bytes, BWT at most
33 (its header), the other kinds that `Kind3` adds to `Kind` never expand a block (UTF, ROLZ, ROLZX shrink it or
decline, BWTS and TEXT keep at most its length).
-/
import Kanzi.Proofs.BlockGen3
import Kanzi.Properties.C13_utf
import Kanzi.Properties.C13_exe
import Kanzi.Properties.C13_rolz
import Kanzi.Properties.C13_bwt
import Kanzi.Properties.C13_bwts

namespace Kanzi.BlockGen3
open Kanzi.Bits Kanzi.TrSmall Kanzi.Block Kanzi.BlockGen Kanzi.BlockGen2

/-- What the chain theorems need from an implementation of `transform.TextCodec` — the shape of the C13 theorems of
the other transforms (`C13_utf`, `C13_exe`, …), with the two restrictions on the destination of Inverse that
TextCodec.go really has (`C13_text`):
  * `maxLen`      `MaxEncodedLen(n) = n` (both delegates of TextCodec.go);
  * `inverse_nil` Inverse of an empty input is empty (`len(src) == 0`: "0 bytes, no error");
  * `roundtrip`   for every block of bytes (shorter than 2^31), every data type hint and every destination of at least
                  `MaxEncodedLen` bytes: an ACCEPTED Forward returns at most `MaxEncodedLen(len)` bytes, all of them byte
                  values, which Inverse turns back into the block in ANY destination STRICTLY LONGER than the block and
                  SHORTER THAN 2^39 bytes.  (Strict: `textCodec1.Inverse` fails into a destination of exactly the
                  block length when the block ends with an escape byte 0x0E / 0x0F, hypothesis `lastIsEscape b → len < n` of `C13_text1`; the
                  sequence always inverts into buffers of at least `blockSize + 512` bytes.  2^39: both codecs size
                  their hash table from `uint32(len(dst)/128)`, which wraps there; the Reader never hands a decoding
                  task a frame of more than 2^34 bits, which keeps its buffers below 2^33 bytes.)
  * `small_dst`   Forward does not succeed into a non-empty destination smaller than `MaxEncodedLen` ("Output buffer
                  is too small");
  * `no_fault`    Forward never panics into a destination of at least `MaxEncodedLen` bytes.
(The `dataType` write-back `ctxWrite` is unconstrained: every theorem holds whatever hint the later stages see.) -/
structure TextLaw (t : TextImpl) : Prop where
  maxLen : ∀ n, t.maxEncodedLen n = n
  inverse_nil : ∀ n, t.inverse [] n = .ok []
  roundtrip : ∀ (dt : Nat) (b y : List Nat) (dstLen : Nat), (∀ x ∈ b, x < 256) → b.length < 2 ^ 31 →
    t.maxEncodedLen b.length ≤ dstLen → t.forward dt b dstLen = .ok y →
      y.length ≤ t.maxEncodedLen b.length ∧ (∀ v ∈ y, v < 256) ∧
        ∀ n, b.length < n → n < 2 ^ 39 → t.inverse y n = .ok b
  small_dst : ∀ (dt : Nat) (b y : List Nat) (dstLen : Nat), b ≠ [] → 0 < dstLen →
    dstLen < t.maxEncodedLen b.length → t.forward dt b dstLen ≠ .ok y
  no_fault : ∀ (dt : Nat) (b : List Nat) (dstLen : Nat) (e : String), (∀ x ∈ b, x < 256) →
    t.maxEncodedLen b.length ≤ dstLen → t.forward dt b dstLen ≠ .fault e

/-- the stub used for chains without TEXT satisfies the law (it accepts nothing but the empty block) -/
def idText : TextImpl :=
  ⟨fun _ x d => if x.length = 0 ∨ d = 0 then .ok [] else .err "no-text", fun _ _ _ => Option.none,
   fun y _ => if y.length = 0 then .ok [] else .err "no-text", fun n => n⟩

theorem textLaw_idText : TextLaw idText where
  maxLen := fun _ => rfl
  inverse_nil := fun _ => rfl
  roundtrip := by
    intro dt b y d _ _ hdst h
    simp only [idText] at h hdst ⊢
    split at h
    · rename_i h0
      injection h with h
      subst h
      have hb : b = [] := by
        rcases h0 with h0 | h0
        · exact List.eq_nil_of_length_eq_zero h0
        · exact List.eq_nil_of_length_eq_zero (by omega)
      subst hb
      exact ⟨Nat.le_refl _, by simp, fun _ _ _ => rfl⟩
    · cases h
  small_dst := by
    intro dt b y d hne hd _ h
    simp only [idText] at h
    split at h
    · rename_i h0
      rcases h0 with h0 | h0
      · exact hne (List.eq_nil_of_length_eq_zero h0)
      · omega
    · cases h
  no_fault := by
    intro dt b d e _ _ h
    simp only [idText] at h
    split at h <;> cases h

def Kind3.grow : Kind3 → Nat → Nat
  | .old k => k.grow
  | .exe => fun a => a + a / 50
  | .bwt _ => fun a => a + 33
  | _ => fun a => a

def Kind3.ltr (text : TextImpl) (k : Kind3) : LTr := ⟨k.tr text, k.grow⟩

def kind3Ltrs (text : TextImpl) (ks : List Kind3) : List LTr := ks.map (Kind3.ltr text)

theorem ltrs_kind3Ltrs (text : TextImpl) (ks : List Kind3) : ltrs (kind3Ltrs text ks) = kind3Trs text ks := by
  simp [ltrs, kind3Ltrs, kind3Trs, Kind3.ltr, List.map_map, Function.comp_def]

/-- a well-formed kind: the job count handed to the BWT is at least 1 (`NewBWTWithCtx` fails otherwise: "The
number of jobs must be at least 1"; every task of a Writer / Reader gets at least one job) -/
def Kind3.WF : Kind3 → Prop
  | .bwt jobs => 1 ≤ jobs
  | _ => True

instance (k : Kind3) : Decidable k.WF := by cases k <;> unfold Kind3.WF <;> infer_instance

theorem utf_guard (dt : Nat) {x : List Nat} {d : Nat} (h : x.length = 0 ∨ d < UTF.utfMaxEncodedLen x.length) :
    ∃ e, UTF.utfForward dt x d = if x.length = 0 ∨ d = 0 then .ok [] else .err e := by
  unfold UTF.utfForward
  by_cases h0 : x.length = 0 ∨ d = 0
  · exact ⟨"", by rw [if_pos h0, if_pos h0]⟩
  · by_cases h1 : x.length < UTF.MIN_BLOCKSIZE
    · exact ⟨"small", by rw [if_neg h0, if_neg h0, if_pos h1]⟩
    · exact ⟨"dst", by rw [if_neg h0, if_neg h0, if_neg h1, if_pos (by omega)]⟩

theorem guarded_utf (text : TextImpl) : (Kind3.utf.tr text).Guarded := fun dt _ _ h =>
  (utf_guard dt h).imp fun _ => ofRlt_guard

theorem law_utf (text : TextImpl) : (Kind3.utf.tr text).Law Kind3.utf.grow lawLim :=
  .of_guarded (guarded_utf text) (grow_id _ _)
    (fun _ => rfl) fun dt x d y hb hx _ _ hd hf => by
      obtain ⟨_, h2, h3, h4, _⟩ := Kanzi.UTF.utf_roundtrip dt x y d hb hd (ofRlt_ok hf)
      refine ⟨h3, Nat.le_of_lt (h2 hx), fun n hn => ?_⟩
      show ofRlt (Kanzi.UTF.utfInverse false y n) = .ok x
      rw [h4 n hn]; rfl

theorem exe_guard (dt : Option Nat) {x : List Nat} {d : Nat}
    (h : x.length = 0 ∨ d < EXE.exeMaxEncodedLen x.length) :
    ∃ e, EXE.exeForward dt x d = if x.length = 0 ∨ d = 0 then .ok [] else .err e := by
  simp only [EXE.exeForward]
  by_cases h0 : x.length = 0 ∨ d = 0
  · exact ⟨"", by rw [if_pos h0, if_pos h0]⟩
  · by_cases h1 : x.length < EXE.MIN_BLOCK_SIZE
    · exact ⟨_, by rw [if_neg h0, if_neg h0, if_pos h1]⟩
    · by_cases h2 : x.length > EXE.MAX_BLOCK_SIZE
      · exact ⟨_, by rw [if_neg h0, if_neg h0, if_neg h1, if_pos h2]⟩
      · exact ⟨_, by rw [if_neg h0, if_neg h0, if_neg h1, if_neg h2, if_pos (by omega)]⟩

theorem guarded_exe (text : TextImpl) : (Kind3.exe.tr text).Guarded := fun dt _ _ h =>
  (exe_guard (some dt) h).imp fun _ => ofRlt_guard

/-- an accepted block grows by at most 2 % (the cap both section encoders enforce) -/
theorem exe_len50 (dt : Option Nat) (src t : List Nat) (dstLen : Nat) (hb : ∀ x ∈ src, x < 256)
    (h : Kanzi.EXE.exeForward dt src dstLen = .ok t) : t.length ≤ src.length + src.length / 50 := by
  by_cases h0 : src.length = 0 ∨ dstLen = 0
  · unfold EXE.exeForward at h
    rw [if_pos h0] at h
    cases h
    exact Nat.zero_le _
  · obtain ⟨_, hmax, _, _, _, _, _, hf⟩ := EXE.exeForward_ok h h0
    rcases hf with hf | hf
    · exact (EXE.fwdX86_roundtrip src dstLen _ _ t hb (Nat.le_of_not_gt hmax) hf).1
    · exact (EXE.fwdARM_roundtrip src dstLen _ _ t hb (Nat.le_of_not_gt hmax) hf).1

theorem law_exe (text : TextImpl) : (Kind3.exe.tr text).Law Kind3.exe.grow lawLim :=
  .of_guarded (guarded_exe text)
    ⟨fun a => by show a + a / 50 < a + 1 + (a + 1) / 50; omega, fun s r h _ => by
      show s + s / 50 ≤ max r (Kanzi.EXE.exeMaxEncodedLen r)
      unfold Kanzi.EXE.exeMaxEncodedLen
      split <;> omega⟩
    (fun _ => rfl) fun dt x d y hb _ _ _ hd hf => by
      obtain ⟨_, h2, h3⟩ := Kanzi.EXE.exe_roundtrip (some dt) x y d hb hd (ofRlt_ok hf)
      refine ⟨h2, exe_len50 (some dt) x y d hb (ofRlt_ok hf), fun n hn => ?_⟩
      show ofRlt (Kanzi.EXE.exeInverse false y n) = .ok x
      rw [h3 n hn]; rfl

/-! ### BWTS (forward = the specification) -/

theorem ofBwts_ok {r : Kanzi.BWTS.Res} {y : List Nat} (h : ofBwts r = .ok y) : r = .ok y := by
  cases r <;> simp [ofBwts] at h ⊢
  exact h

theorem bwts_guard {x : List Nat} {d : Nat} (h : x.length = 0 ∨ d < BWTS.maxEncodedLen x.length) :
    bwtsSpecForward x d = if x.length = 0 ∨ d = 0 then .ok [] else .err := by
  unfold bwtsSpecForward
  by_cases h0 : x.length = 0 ∨ d = 0
  · rw [if_pos h0, if_pos h0]
  · rw [if_neg h0, if_neg h0, if_pos (by omega)]

theorem guarded_bwts (text : TextImpl) : (Kind3.bwts.tr text).Guarded := fun _ x d h =>
  ⟨"err", by show ofBwts (bwtsSpecForward x d) = _; rw [bwts_guard h]; split <;> rfl⟩

theorem law_bwts (text : TextImpl) : (Kind3.bwts.tr text).Law Kind3.bwts.grow lawLim :=
  .of_guarded (guarded_bwts text) (grow_id _ _)
    (fun n => by
      show ofBwts (Kanzi.BWTS.bwtsInverseFill 0 [] n) = .ok []
      simp [Kanzi.BWTS.bwtsInverseFill, ofBwts])
    fun dt x d y hb hx _ hd0 (hd : BWTS.maxEncodedLen x.length ≤ d) hf => by
      have hf' : bwtsSpecForward x d = .ok y := ofBwts_ok hf
      have hpos : 0 < x.length := List.length_pos_iff.mpr hx
      unfold bwtsSpecForward at hf'
      rw [if_neg (by omega), if_neg (Nat.not_lt_of_le hd)] at hf'
      split at hf'
      · cases hf'
      · rename_i hmax
        injection hf' with hf'
        subst hf'
        refine ⟨Kanzi.BWTS.bwtsSpec_bytes hb, by rw [Kanzi.BWTS.bwtsSpec_length]; exact Nat.le_refl _,
          fun n hn => ?_⟩
        show ofBwts (Kanzi.BWTS.bwtsInverseFill 0 (Kanzi.BWTS.bwtsSpec x) n) = .ok x
        rw [Kanzi.BWTS.bwtsInverse_bwtsSpec 0 x n hb (by omega) hn]; rfl

/-! ### BWT (forward = the specification + the header of BWTBlockCodec) -/

theorem ofBwtF_ok {r : Kanzi.BWT.Res (List Nat)} {y : List Nat} (h : ofBwtF r = .ok y) : r = .ok y := by
  cases r <;> simp [ofBwtF] at h ⊢
  exact h

theorem blockInverse_nil (jobs n : Nat) :
    ofBwtI (Kanzi.BWT.blockInverse #[] (List.replicate 8 0) jobs ([] : List Nat).toArray n).1 = .ok [] := by
  simp [Kanzi.BWT.blockInverse, ofBwtI]

theorem headerBytes_lt (chunks psz : Nat) (pidx : List Nat) :
    ∀ b ∈ Kanzi.BWT.headerBytes chunks psz pidx, b < 256 := by
  intro b hb
  rw [Kanzi.BWT.headerBytes_eq] at hb
  rcases List.mem_cons.mp hb with hb | hb
  · subst hb; exact Nat.mod_lt _ (by decide)
  · simp only [Kanzi.BWT.indexBytes, List.mem_flatten, List.mem_map] at hb
    obtain ⟨l, ⟨i, _, rfl⟩, hbl⟩ := hb
    exact Kanzi.BWT.beBytes_lt _ _ b hbl

/-- the branches of Forward (the specification): the empty output, a decline, or an accepted block of 2 ..
`MAX_BLOCK_SIZE` bytes in a destination of at least `MaxEncodedLen` bytes -/
theorem blockForward_cases (x : List Nat) (d : Nat) :
    ((x.length = 0 ∨ d = 0) ∧ BWT.blockForward x d = .ok []) ∨
    (¬ (x.length = 0 ∨ d = 0) ∧ ∃ e, BWT.blockForward x d = .err e) ∨
    (2 ≤ x.length ∧ x.length ≤ BWT.MAX_BLOCK_SIZE ∧ BWT.maxEncodedLen x.length ≤ d ∧
      ∃ y, BWT.blockForward x d = .ok y) := by
  unfold BWT.blockForward
  by_cases h0 : x.length = 0 ∨ d = 0
  · exact .inl ⟨h0, if_pos h0⟩
  rw [if_neg h0]
  by_cases h1 : d < BWT.maxEncodedLen x.length
  · exact .inr (.inl ⟨h0, _, if_pos h1⟩)
  rw [if_neg h1]
  by_cases h2 : BWT.pIndexSizeOf x.length = 0 ∨ BWT.pIndexSizeOf x.length ≥ 5
  · exact .inr (.inl ⟨h0, _, if_pos h2⟩)
  simp only [if_neg h2]
  by_cases h3 : BWT.log2 (BWT.getBWTChunks x.length) > 7
  · exact .inr (.inl ⟨h0, _, if_pos h3⟩)
  rw [if_neg h3]
  by_cases h4 : x.length > BWT.MAX_BLOCK_SIZE
  · exact .inr (.inl ⟨h0, _, if_pos h4⟩)
  · refine .inr (.inr ⟨?_, Nat.le_of_not_gt h4, Nat.le_of_not_lt h1, _, if_neg h4⟩)
    have hp1 : BWT.pIndexSizeOf 1 = 0 := by decide
    have h1 : x.length ≠ 1 := fun h1 => h2 (.inl (h1 ▸ hp1))
    omega

theorem guarded_bwt (text : TextImpl) (jobs : Nat) : ((Kind3.bwt jobs).tr text).Guarded :=
  fun _ x d (h : x.length = 0 ∨ d < BWT.maxEncodedLen x.length) => by
    show ∃ e, ofBwtF (BWT.blockForward x d) = _
    rcases blockForward_cases x d with ⟨h0, hf⟩ | ⟨h0, e, hf⟩ | ⟨_, _, _, _⟩
    · refine ⟨"", ?_⟩
      rw [hf, if_pos h0]
      rfl
    · refine ⟨e, ?_⟩
      rw [hf, if_neg h0]
      rfl
    · omega

theorem law_bwt (text : TextImpl) (jobs : Nat) (hj : 1 ≤ jobs) :
    ((Kind3.bwt jobs).tr text).Law (Kind3.bwt jobs).grow lawLim :=
  .of_guarded (guarded_bwt text jobs)
    ⟨fun a => by show a + 33 < a + 1 + 33; omega, fun s r h _ => by
      show s + 33 ≤ max r (Kanzi.BWT.maxEncodedLen r)
      unfold Kanzi.BWT.maxEncodedLen Kanzi.BWT.MAX_HEADER_SIZE; omega⟩
    (blockInverse_nil jobs) fun dt x d y hb hx _ hd0 (hdst : BWT.maxEncodedLen x.length ≤ d) hf => by
      have hf' : Kanzi.BWT.blockForward x d = .ok y := ofBwtF_ok hf
      have hpos : 0 < x.length := List.length_pos_iff.mpr hx
      obtain ⟨h2, hmax⟩ : 2 ≤ x.length ∧ x.length ≤ BWT.MAX_BLOCK_SIZE := by
        rcases blockForward_cases x d with ⟨_, _⟩ | ⟨_, e, he⟩ | ⟨h2, hmax, _, _⟩
        · omega
        · rw [he] at hf'
          cases hf'
        · exact ⟨h2, hmax⟩
      have heq := Kanzi.BWT.blockForward_eq x h2 hmax d hdst
      rw [heq] at hf'
      injection hf' with hf'
      have hbytes : Bytes y := by
        rw [← hf']
        intro b hb'
        rcases List.mem_append.mp hb' with hb' | hb'
        · exact headerBytes_lt _ _ _ b hb'
        · exact Kanzi.BWT.bwtData_lt x hb b hb'
      have hlen : y.length ≤ x.length + 33 := by
        obtain ⟨enc, he, _, hle⟩ := Kanzi.BWT.blockForward_length x h2 hmax d hdst
        rw [heq] at he
        injection he with he
        rw [← hf', he]
        unfold Kanzi.BWT.maxEncodedLen Kanzi.BWT.MAX_HEADER_SIZE at hle
        omega
      refine ⟨hbytes, hlen, fun n hn => ?_⟩
      show ofBwtI (Kanzi.BWT.blockInverse #[] (List.replicate 8 0) jobs y.toArray n).1 = .ok x
      by_cases hsm : x.length ≤ Kanzi.BWT.THRESHOLD2
      · obtain ⟨enc, he, _, hinv⟩ := Kanzi.BWT.block_roundtrip_small x h2 hsm hb d hdst #[] (by decide)
          (List.replicate 8 0) jobs n hn
        rw [heq] at he
        injection he with he
        rw [← hf', he, hinv]
        simp [ofBwtI]
      · obtain ⟨enc, he, _, hinv⟩ := Kanzi.BWT.block_roundtrip_big x (by omega) hmax hb d hdst #[]
          (List.replicate 8 0) jobs n hj hn
        rw [heq] at he
        injection he with he
        rw [← hf', he, hinv]
        simp [ofBwtI]

theorem ofRolzF_ok {r : Kanzi.ROLZ.Out (List Nat)} {y : List Nat} (h : ofRolzF r = .ok y) : r = .ok y := by
  cases r <;> simp [ofRolzF] at h ⊢
  exact h

/-- `dst[0:written]` of an Inverse that restored the block in a destination of `n` bytes -/
theorem extract_restored (x : List Nat) (dst : Array Nat) (hsz : x.length ≤ dst.size)
    (h : ∀ k, k < x.length → dst.getD k 0 = x.getD k 0) : (dst.extract 0 x.length).toList = x := by
  apply List.ext_getElem
  · simp; omega
  · intro i h1 h2
    have hi : i < x.length := h2
    have := h i hi
    simp only [Array.getD_eq_getD_getElem?, List.getD_eq_getElem?_getD] at this
    rw [Array.getElem?_eq_getElem (by omega), List.getElem?_eq_getElem hi] at this
    simp only [Option.getD_some] at this
    simp [this]

theorem mem_of_getD_lt (t : List Nat) (h : ∀ k, t.getD k 0 < 256) : ∀ y ∈ t, y < 256 := by
  intro y hy
  obtain ⟨i, hi, rfl⟩ := List.getElem_of_mem hy
  have := h i
  rw [List.getD_eq_getElem?_getD, List.getElem?_eq_getElem hi] at this
  exact this

/-- the output of an accepted ROLZX Forward consists of byte values (header bytes + the bytes of the range coder) -/
theorem rolzxForward_bytes {cs lpc : Nat} {hasCtx : Bool} {dt : Nat} {src t : List Nat} {dstLen : Nat}
    (h : Kanzi.ROLZ.rolzxForward cs lpc hasCtx dt src dstLen = .ok t) : ∀ y ∈ t, y < 256 := by
  rcases ROLZ.rolzxForward_cases cs lpc hasCtx dt src dstLen with ⟨h0, _⟩ | ⟨e, he⟩ | ⟨_, _, _, hblk⟩
  · rw [h0] at h
    cases h
    nofun
  · rw [he] at h
    cases h
  · rw [hblk] at h
    obtain ⟨r, s', out, hch, hlast, hdisp, _, _, rfl⟩ := ROLZ.fwdTail_ok h
    obtain ⟨_, _, _, hfl, _⟩ := ROLZ.fwdParams2_spec (ROLZ.effType hasCtx dt src)
    have hB0 : ROLZ.Bytes [] := fun k => by simp
    obtain ⟨o1, _⟩ := ROLZ.fwdChunks_enc hB0 _ _ _ _ _ _ hch (ROLZ.fwdInit_ok lpc _ hfl)
    obtain ⟨o2, _⟩ := ROLZ.fwdLast_enc hB0 _ _ _ _ hlast o1
    refine mem_of_getD_lt _ fun k => ?_
    rw [toList_getD]
    exact ROLZ.dispose_bytes hdisp o2.bytes k

theorem rolzx_guard (cs lpc : Nat) (hasCtx : Bool) (dt : Nat) {x : List Nat} {d : Nat}
    (h : x.length = 0 ∨ d < ROLZ.maxEncodedLen2 x.length) :
    ∃ e, ROLZ.rolzxForward cs lpc hasCtx dt x d = if x.length = 0 ∨ d = 0 then .ok [] else .err e := by
  unfold ROLZ.rolzxForward
  by_cases h0 : x.length = 0 ∨ d = 0
  · exact ⟨"", by rw [if_pos h0, if_pos h0]⟩
  · by_cases h1 : x.length < ROLZ.MIN_BLOCK_SIZE
    · exact ⟨"small", by rw [if_neg h0, if_neg h0, if_pos h1]⟩
    · by_cases h2 : x.length > ROLZ.MAX_BLOCK_SIZE
      · exact ⟨"big", by rw [if_neg h0, if_neg h0, if_neg h1, if_pos h2]⟩
      · exact ⟨"dst", by rw [if_neg h0, if_neg h0, if_neg h1, if_neg h2, if_pos (by omega)]⟩

theorem ofRolzF_guard {r : ROLZ.Out (List Nat)} {c : Prop} [Decidable c] {e : String}
    (h : r = if c then .ok [] else .err e) : ofRolzF r = if c then .ok [] else .error e := by
  subst h
  split <;> rfl

theorem guarded_rolzx (text : TextImpl) : (Kind3.rolzx.tr text).Guarded := fun dt _ _ h =>
  (rolzx_guard _ _ true dt h).imp fun _ => ofRolzF_guard

theorem ofRolzI_restored {x : List Nat} {n : Nat} {r : ROLZ.Out (Nat × Array Nat)} (hn : x.length ≤ n)
    (h : ∃ dst, r = .ok (x.length, dst) ∧ dst.size = (Array.replicate n 0).size ∧
      ∀ k, k < x.length → dst.getD k 0 = x.getD k 0) : ofRolzI r = .ok x := by
  obtain ⟨dst, rfl, hsz, hget⟩ := h
  show Except.ok (dst.extract 0 x.length).toList = .ok x
  rw [extract_restored x dst (by rw [hsz, Array.size_replicate]; exact hn) hget]

theorem law_rolzx (text : TextImpl) : (Kind3.rolzx.tr text).Law Kind3.rolzx.grow lawLim :=
  .of_guarded (guarded_rolzx text) (grow_id _ _)
    (fun n => by
      show ofRolzI (ROLZ.rolzxInverse ROLZ.CHUNK_SIZE ROLZ.LOG_POS_CHECKS2 6 [] (Array.replicate n 0)) = .ok []
      rw [ROLZ.rolzxInverse, if_pos (.inl rfl)]
      simp [ofRolzI]) fun dt x d y hb _ _ _ hd hf => by
      have hf' := ofRolzF_ok hf
      exact ⟨rolzxForward_bytes hf', (Kanzi.C13.C13_rolzx_bound hf').1, fun n hn => ofRolzI_restored hn
        (Kanzi.C13.C13_rolzx_real (Array.replicate n 0) hb hd (by rw [Array.size_replicate]; exact hn) hf')⟩

theorem fwd1Chunks_bytes {a : Array Nat} {cp : Kanzi.ROLZ.Caps} {dstLen srcEnd mm delta lpc litOrder : Nat} :
    ∀ (f st sz : Nat) (tab : Kanzi.ROLZ.Tab) (out : Array Nat) (r : Nat × Nat × Kanzi.ROLZ.Tab × Array Nat),
    Kanzi.ROLZ.fwd1Chunks a cp dstLen srcEnd mm delta lpc litOrder f st sz tab out = .ok r →
    (∀ v ∈ out.toList, v < 256) → ∀ v ∈ r.2.2.2.toList, v < 256 := by
  intro f
  induction f with
  | zero => intro st sz tab out r h; simp [Kanzi.ROLZ.fwd1Chunks] at h
  | succ f ih =>
    intro st sz tab out r h hout
    simp only [Kanzi.ROLZ.fwd1Chunks] at h
    split at h
    · split at h
      · cases h
      · split at h
        · split at h
          · split at h
            · cases h
            · split at h
              · cases h
              · refine ih _ _ _ _ _ h ?_
                rw [Array.toList_append, Kanzi.ROLZ.packFast_toList]
                exact List.forall_mem_append.mpr ⟨hout, Kanzi.Block.packFast_lt _⟩
          · cases h
          · cases h
        · cases h
        · cases h
    · injection h with h
      subst h
      exact hout

/-- the output of an accepted ROLZ Forward consists of byte values (header, packed chunk bitstreams, the four last
bytes of the block) -/
theorem rolzForward_bytes {cs lpc : Nat} {hasCtx : Bool} {dt : Nat} {src t : List Nat} {dstLen : Nat}
    (hb : ∀ x ∈ src, x < 256) (h : Kanzi.ROLZ.rolzForward cs lpc hasCtx dt src dstLen = .ok t) : ∀ y ∈ t, y < 256 := by
  rcases ROLZ.rolzForward_ok h with ⟨_, rfl⟩ | ⟨_, _, st, sz, tab, out, hch, _, _, rfl⟩
  · nofun
  · have hout : ∀ v ∈ out.toList, v < 256 := by
      refine fwd1Chunks_bytes _ _ _ _ _ _ hch fun v hv => ?_
      simp only [List.mem_cons, List.not_mem_nil, or_false] at hv
      rcases hv with rfl | rfl | rfl | rfl | rfl <;> exact Nat.mod_lt _ (by decide)
    intro y hy
    simp only [Array.toList_appendList, List.mem_append, List.mem_cons, List.not_mem_nil, or_false] at hy
    rcases hy with hy | rfl | rfl | rfl | rfl
    · exact hout y hy
    all_goals exact ROLZ.toArray_bytes hb _

theorem rolz_guard (cs lpc : Nat) (hasCtx : Bool) (dt : Nat) {x : List Nat} {d : Nat}
    (h : x.length = 0 ∨ d < ROLZ.maxEncodedLen1 x.length) :
    ∃ e, ROLZ.rolzForward cs lpc hasCtx dt x d = if x.length = 0 ∨ d = 0 then .ok [] else .err e := by
  unfold ROLZ.rolzForward
  by_cases h0 : x.length = 0 ∨ d = 0
  · exact ⟨"", by rw [if_pos h0, if_pos h0]⟩
  · by_cases h1 : x.length < ROLZ.MIN_BLOCK_SIZE
    · exact ⟨"small", by rw [if_neg h0, if_neg h0, if_pos h1]⟩
    · by_cases h2 : x.length > ROLZ.MAX_BLOCK_SIZE
      · exact ⟨"big", by rw [if_neg h0, if_neg h0, if_neg h1, if_pos h2]⟩
      · exact ⟨"dst", by rw [if_neg h0, if_neg h0, if_neg h1, if_neg h2, if_pos (by omega)]⟩

theorem guarded_rolz (text : TextImpl) : (Kind3.rolz.tr text).Guarded := fun dt _ _ h =>
  (rolz_guard _ _ true dt h).imp fun _ => ofRolzF_guard

theorem law_rolz (text : TextImpl) : (Kind3.rolz.tr text).Law Kind3.rolz.grow lawLim :=
  .of_guarded (guarded_rolz text) (grow_id _ _)
    (fun n => by
      show ofRolzI (ROLZ.rolzInverse ROLZ.CHUNK_SIZE ROLZ.LOG_POS_CHECKS1 true 6 [] (Array.replicate n 0)) = .ok []
      rw [ROLZ.rolzInverse, if_pos (.inl rfl)]
      simp [ofRolzI]) fun dt x d y hb _ _ _ hd hf => by
      have hf' := ofRolzF_ok hf
      exact ⟨rolzForward_bytes hb hf', (Kanzi.C13.C13_rolz_bound hf').1, fun n hn => ofRolzI_restored hn
        (Kanzi.ROLZ.rolz_roundtrip true 6 (Array.replicate n 0) (by decide) (by decide) hb (fun _ => by decide) hd
          (by rw [Array.size_replicate]; exact hn) hf')⟩

/-- the destination sizes TEXT inverts into -/
def TextDst (n : Nat) : Prop := n < 2 ^ 39

theorem law_text (text : TextImpl) (ht : TextLaw text) (P : Nat → Prop) (hP : ∀ n, P n → TextDst n) :
    Law3 (Kind3.text.tr text) Kind3.text.grow lawLim P where
  grow := grow_id _ _
  rt := by
    intro dt x d y hb hl hd hf
    have hf' : text.forward dt x d = .ok y := ofRlt_ok hf
    have hdst : text.maxEncodedLen x.length ≤ d := by
      by_cases hx : x = []
      · subst hx; rw [ht.maxLen]; simp
      · by_cases hlt : d < text.maxEncodedLen x.length
        · exact absurd hf' (ht.small_dst dt x y d hx hd hlt)
        · omega
    have hl31 : x.length < 2 ^ 31 := by unfold lawLim at hl; omega
    obtain ⟨h1, h2, h3⟩ := ht.roundtrip dt x y d hb hl31 hdst hf'
    rw [ht.maxLen] at h1
    refine ⟨h2, h1, fun hx hy => ?_, fun n hn hPn => ?_⟩
    · subst hy
      have := h3 (x.length + 1) (Nat.lt_succ_self _) (by omega)
      rw [ht.inverse_nil] at this
      injection this with this
      exact hx this.symm
    · show ofRlt (text.inverse y n) = .ok x
      rw [h3 n hn (hP n hPn)]; rfl

/-- every kind but TEXT satisfies the law of `BlockGen2` (BWT: for a job count of at least 1): Inverse restores the
block into every destination of at least its length -/
theorem kind3_lawS (text : TextImpl) (k : Kind3) (hwf : k.WF) (hk : k ≠ .text) : (k.tr text).Law k.grow lawLim := by
  cases k with
  | old k => exact kind_law k
  | utf => exact law_utf text
  | exe => exact law_exe text
  | rolz => exact law_rolz text
  | rolzx => exact law_rolzx text
  | bwt jobs => exact law_bwt text jobs hwf
  | bwts => exact law_bwts text
  | text => exact absurd rfl hk

/-- every kind satisfies `Law3`, whatever the admissible destination sizes `P`; TEXT under `TextLaw`, for `P` within
destinations below 2^39 bytes -/
theorem kind3_law (text : TextImpl) (k : Kind3) (hwf : k.WF) (P : Nat → Prop)
    (ht : k = .text → TextLaw text ∧ ∀ n, P n → TextDst n) : Law3 (k.tr text) k.grow lawLim P := by
  by_cases hk : k = .text
  · subst hk
    exact law_text text (ht rfl).1 P (ht rfl).2
  · exact .ofLaw (kind3_lawS text k hwf hk) P

/-- the admissible destination sizes of a chain: below 2^39 bytes if TEXT occurs in it -/
def ChainDst (ks : List Kind3) (n : Nat) : Prop := Kind3.text ∈ ks → TextDst n

theorem kind3Ltrs_law (text : TextImpl) (ks : List Kind3) (hwf : ∀ k ∈ ks, k.WF)
    (ht : Kind3.text ∈ ks → TextLaw text) : ∀ l ∈ kind3Ltrs text ks, Law3 l.t l.g lawLim (ChainDst ks) :=
  List.forall_mem_map.mpr fun k hk =>
    kind3_law text k (hwf k hk) (ChainDst ks) (fun h => ⟨ht (h ▸ hk), fun _ hn => hn (h ▸ hk)⟩)

/-- `MaxEncodedLen` of every kind is below the common bound `len + len/8 + 8192` (TEXT: under its law) -/
theorem kind3_maxLen_le (text : TextImpl) (k : Kind3) (ht : k = .text → TextLaw text) (m : Nat) :
    (k.tr text).maxLen m ≤ stepM m := by
  unfold stepM
  cases k with
  | old k =>
    cases k with
    | none => show nullMaxEncodedLen m ≤ _; unfold nullMaxEncodedLen; omega
    | zrlt => show zrltMaxEncodedLen m ≤ _; unfold zrltMaxEncodedLen; omega
    | sbrt _ => show sbrtMaxEncodedLen m ≤ _; unfold sbrtMaxEncodedLen; omega
    | rlt _ => show RLT.rltMaxEncodedLen m ≤ _; unfold RLT.rltMaxEncodedLen; split <;> omega
    | srt => show SRT.maxEncodedLen m ≤ _; unfold SRT.maxEncodedLen; omega
    | «alias» _ => show Alias.aliasMaxEncodedLen m ≤ _; unfold Alias.aliasMaxEncodedLen; omega
    | lz _ => show LZ.maxEncodedLen m ≤ _; unfold LZ.maxEncodedLen; split <;> omega
    | lzp => show LZP.lzpMaxEncodedLen m ≤ _; unfold LZP.lzpMaxEncodedLen; split <;> omega
    | fsd =>
      show FSD.fsdMaxEncodedLen m ≤ _
      unfold FSD.fsdMaxEncodedLen
      simp only [Nat.shiftRight_eq_div_pow]
      omega
  | utf => show UTF.utfMaxEncodedLen m ≤ _; unfold UTF.utfMaxEncodedLen; omega
  | exe => show EXE.exeMaxEncodedLen m ≤ _; unfold EXE.exeMaxEncodedLen; split <;> omega
  | rolz => show ROLZ.maxEncodedLen1 m ≤ _; unfold ROLZ.maxEncodedLen1; split <;> omega
  | rolzx => show ROLZ.maxEncodedLen2 m ≤ _; unfold ROLZ.maxEncodedLen2; split <;> omega
  | bwt _ => show BWT.maxEncodedLen m ≤ _; unfold BWT.maxEncodedLen BWT.MAX_HEADER_SIZE; omega
  | bwts => show BWTS.maxEncodedLen m ≤ _; unfold BWTS.maxEncodedLen; omega
  | text => show text.maxEncodedLen m ≤ _; rw [(ht rfl).maxLen]; omega

theorem kind3Ltrs_maxOK (text : TextImpl) (ks : List Kind3) (ht : Kind3.text ∈ ks → TextLaw text) :
    MaxOK (kind3Ltrs text ks) :=
  List.forall_mem_map.mpr fun k hk => kind3_maxLen_le text k (fun h => ht (h ▸ hk))

theorem grow3_le_stepB (k : Kind3) (a : Nat) : max a (k.grow a) ≤ stepB a := by
  cases k with
  | old k => exact grow_le_stepB k a
  | exe => show max a (a + a / 50) ≤ stepB a; unfold stepB; omega
  | bwt _ => show max a (a + 33) ≤ stepB a; unfold stepB; omega
  | _ => show max a a ≤ stepB a; unfold stepB; omega

theorem kind3Ltrs_step (text : TextImpl) (ks : List Kind3) : StepOK (kind3Ltrs text ks) :=
  List.forall_mem_map.mpr fun k _ => grow3_le_stepB k

/-! ### no Forward faults

The adapters of `Kind3.tr` map a `.fault` / `.hang` of a transform model (a Go panic) to a declined stage.  For
Forward that would be unfaithful (a panic fails the whole block), but it never happens: -/

theorem utf_no_fault (dt : Nat) (b : List Nat) (d : Nat) (e : String) (hb : ∀ x ∈ b, x < 256) :
    Kanzi.UTF.utfForward dt b d ≠ .fault e := by
  by_cases hd : Kanzi.UTF.utfMaxEncodedLen b.length ≤ d
  · exact Kanzi.UTF.utfForward_ne_fault dt b d hb hd e
  · exact (utf_guard dt (.inr (Nat.lt_of_not_le hd))).elim fun _ => guard_ne_fault

theorem exe_no_fault (dt : Option Nat) (b : List Nat) (d : Nat) (e : String) :
    Kanzi.EXE.exeForward dt b d ≠ .fault e := by
  by_cases hd : Kanzi.EXE.exeMaxEncodedLen b.length ≤ d
  · exact (Kanzi.C13.C13_exe_total.1 dt b d e hd)
  · exact (exe_guard dt (.inr (Nat.lt_of_not_le hd))).elim fun _ => guard_ne_fault

theorem rolzx_no_fault (dt : Nat) (b : List Nat) (d : Nat) (e : String) (hb : ∀ x ∈ b, x < 256) :
    Kanzi.ROLZ.rolzxForward Kanzi.ROLZ.CHUNK_SIZE Kanzi.ROLZ.LOG_POS_CHECKS2 true dt b d ≠ .fault e := by
  rcases ROLZ.rolzxForward_cases ROLZ.CHUNK_SIZE ROLZ.LOG_POS_CHECKS2 true dt b d with ⟨h, _⟩ | ⟨_, h⟩ | ⟨_, _, hd, _⟩
  · rw [h]
    nofun
  · rw [h]
    nofun
  · exact ROLZ.rolzxForward_nf_multi hb (by decide) (by decide) hd e

theorem bwt_no_fault (b : List Nat) (d : Nat) :
    Kanzi.BWT.blockForward b d ≠ .fault ∧ Kanzi.BWT.blockForward b d ≠ .hang := by
  rcases blockForward_cases b d with ⟨_, h⟩ | ⟨_, _, h⟩ | ⟨_, _, _, _, h⟩ <;> rw [h] <;> exact ⟨nofun, nofun⟩

theorem bwts_no_fault (b : List Nat) (d : Nat) : bwtsSpecForward b d ≠ .fault := by
  unfold bwtsSpecForward
  (repeat' split) <;> simp

end Kanzi.BlockGen3
