/-
Proofs about the total model of the Huffman decoder (`Kanzi/Model/HufDec.lean`), property C03: a whole
`Read`.  No loop of the model runs out of fuel, `len(this.buffer)` after a `Read` (every path), and
from version 6 on no index panic.  One walk per function: `<fn>_sat` (`R.Sat` for the parts,
`StepSat` for a round of the chunk loop, `DoneSat` for the loop and `Read`).
-/
import Kanzi.Proofs.HufDecSafe

namespace Kanzi.HufDec
open Kanzi.Bits Kanzi.EntSmall Kanzi.Huffman

/-- `v5Main`: `n` grows by 4 per round and must stay within `rem` -/
theorem v5Main_sat (tbl buf : Array Nat) (sz base rem : Nat) : ∀ (f : Nat) (s : V5),
    rem + 4 ≤ 4 * f + s.n → s.n ≤ rem → (v5Main tbl buf sz base rem f s).Sat True (fun _ => True) := by
  intro f
  induction f with
  | zero => intro s h1 h2; omega
  | succ f ih =>
    intro s h1 h2
    unfold v5Main
    split
    · trivial
    split
    · trivial
    split
    · trivial
    · exact ih _ (by simp only []; omega) (by simp only []; omega)

/-- `v5Refill`: `bits` gains 8 per round, so two rounds bring it to 12 at least -/
theorem v5Refill_sat (buf : Array Nat) (sz : Nat) : ∀ (f : Nat) (s : V5), 12 ≤ s.bits + 8 * f →
    (v5Refill buf sz f s).Sat True (fun _ => True) := by
  intro f
  induction f with
  | zero =>
    intro s h
    rw [v5Refill, if_neg (by omega)]
    trivial
  | succ f ih =>
    intro s h
    unfold v5Refill
    split
    · split
      · trivial
      · exact ih _ (by simp only []; omega)
    · trivial

theorem v5Tail_sat (tbl buf : Array Nat) (sz base : Nat) : ∀ (k : Nat) (s : V5),
    (v5Tail tbl buf sz base k s).Sat True (fun _ => True) := by
  intro k
  induction k with
  | zero => intro s; trivial
  | succ k ih =>
    intro s
    unfold v5Tail
    refine (v5Refill_sat buf sz 2 s (by omega)).bind fun t _ => ?_
    split
    · trivial
    · exact ih _

theorem v5Alloc_size (szBits : Nat) (buf : Array Nat) : (v5Alloc szBits buf).size = v5SizeAfter szBits buf.size := by
  unfold v5Alloc v5SizeAfter
  split <;> simp

theorem chunkV5Body_sat (tbl : Array Nat) (szBits count base rem : Nat) (out buf : Array Nat) (bs : Bits) :
    (chunkV5Body tbl szBits count base rem out buf bs).Sat True
      (fun x => x.2.1.size = v5SizeAfter szBits buf.size) := by
  unfold chunkV5Body
  split
  · trivial
  split
  · trivial
  refine (loadAt_sat _ _ _ _).of_false.bind fun l hl => ?_
  refine (v5Main_sat _ _ _ _ _ _ _ (by simp only [v5Fuel]; omega) (Nat.zero_le _)).bind fun m _ => ?_
  refine (v5Tail_sat _ _ _ _ _ _).bind fun t _ => ?_
  exact hl.trans (v5Alloc_size _ _)

theorem v5SizeAfter_le (szBits bz m : Nat) (h : v5Sz szBits ≤ m) (hm : 1024 ≤ m) :
    v5SizeAfter szBits bz ≤ max bz (m + m / 8) := by
  unfold v5SizeAfter
  split <;> omega

/-- how a `Read` may end: not out of fuel, in an index panic only if `flt`, with `P (len(this.buffer))` -/
def DoneSat (flt : Prop) (P : Nat → Prop) (r : Result) : Prop :=
  r.cls ≠ .stop .fuel ∧ (r.cls = .stop .fault → flt) ∧ P r.bufSz

theorem DoneSat.ret {flt : Prop} {P : Nat → Prop} {n : Nat} {e : Bool} {o : List Nat} {st : St} {bs : Bits}
    {bz : Nat} (h : P bz) : DoneSat flt P ⟨.ret n e, o, st, bs, bz⟩ :=
  ⟨nofun, nofun, h⟩

theorem DoneSat.eos {flt : Prop} {P : Nat → Prop} {o : List Nat} {st : St} {bs : Bits} {bz : Nat} (h : P bz) :
    DoneSat flt P ⟨.stop .eos, o, st, bs, bz⟩ :=
  ⟨nofun, nofun, h⟩

/-- the catch-all branches `| e => .done ⟨.stop (stopOf e), …⟩` of a round -/
theorem DoneSat.stop {α : Type} {flt : Prop} {P : Nat → Prop} {Q : α → Prop} {e : R α} (he : e.Sat flt Q)
    (hne : ∀ a, e ≠ .ok a) {o : List Nat} {st : St} {bs : Bits} {bz : Nat} (h : P bz) :
    DoneSat flt P ⟨.stop (stopOf e), o, st, bs, bz⟩ := by
  cases e with
  | ok a => exact absurd rfl (hne a)
  | fuel => exact he.elim
  | fault => exact ⟨nofun, fun _ => he, h⟩
  | _ => exact ⟨nofun, nofun, h⟩

/-- what one round of the chunk loop guarantees; `P` = what is known of `len(this.buffer)` -/
def StepSat (flt : Prop) (P : Nat → Prop) (cs start total : Nat) : Step → Prop
  | .done r => DoneSat flt P r
  | .next s _ b _ => s = start + min cs (total - start) ∧ P b.size

theorem stepV6_sat (flt : Prop) (P : Nat → Prop) (p : Params) (start total : Nat) (out buf : Array Nat)
    (bs : Bits) (hP : P buf.size) (h : flt ∨ (256 ≤ buf.size ∧ 2 * p.chunkSize ≤ buf.size)) :
    StepSat flt P p.chunkSize start total (stepV6 p start total out buf bs) := by
  unfold stepV6
  simp only []
  by_cases h32 : min p.chunkSize (total - start) < 32
  · rw [if_pos h32]
    generalize readBytes (min p.chunkSize (total - start)) bs = o
    cases o with
    | none => exact .eos hP
    | some x => exact ⟨rfl, hP⟩
  rw [if_neg h32]
  have h1 := readLengthsR_sat bs
  generalize readLengthsR bs = q at h1
  cases q with
  | ok x =>
    obtain ⟨rl, r⟩ := x
    obtain ⟨_, h2⟩ := h1
    simp only []
    by_cases ha0 : rl.alphabet.length = 0
    · rw [if_pos ha0]
      exact .ret hP
    rw [if_neg ha0]
    by_cases ha1 : rl.alphabet.length = 1
    · rw [if_pos ha1]
      exact ⟨rfl, hP⟩
    rw [if_neg ha1]
    generalize buildTableR rl = q2 at h2
    cases q2 with
    | ok tbl =>
      have h3 := chunkV6_sat flt tbl.toArray (min p.chunkSize (total - start)) buf r
        (h.imp id fun hb => ⟨TblL_TableOK tbl h2, hb.1, by omega⟩)
      simp only []
      generalize chunkV6 tbl.toArray (min p.chunkSize (total - start)) buf r = q3 at h3
      cases q3 with
      | ok c => exact ⟨rfl, by rw [h3.ok rfl]; exact hP⟩
      | err => exact .ret hP
      | _ => exact .stop h3 nofun hP
    | err => exact .ret hP
    | _ => exact .stop h2.of_false nofun hP
  | err => exact .ret hP
  | _ => exact .stop h1.of_false nofun hP

/-- `hP5`: the buffer `decodeChunkV5` may allocate once the size has passed the check -/
theorem stepV5_sat (P : Nat → Prop) (p : Params) (start total : Nat) (out buf : Array Nat) (bs : Bits)
    (hP : P buf.size)
    (hP5 : ∀ z, v5Sz z ≤ max (2 * min p.chunkSize (total - start)) 1024 → P (v5SizeAfter z buf.size)) :
    StepSat True P p.chunkSize start total (stepV5 p start total out buf bs) := by
  unfold stepV5
  simp only []
  have h1 := readLengthsR_sat bs
  generalize readLengthsR bs = q at h1
  cases q with
  | ok x =>
    obtain ⟨rl, r⟩ := x
    obtain ⟨_, h2⟩ := h1
    simp only []
    by_cases ha0 : rl.alphabet.length = 0
    · rw [if_pos ha0]
      exact .ret hP
    rw [if_neg ha0]
    by_cases ha1 : rl.alphabet.length = 1
    · rw [if_pos ha1]
      exact ⟨rfl, hP⟩
    rw [if_neg ha1]
    generalize buildTableR rl = q2 at h2
    cases q2 with
    | ok tbl =>
      simp only []
      generalize readBits 2 r = o1
      cases o1 with
      | none => exact .eos hP
      | some x1 =>
        obtain ⟨ns, r1⟩ := x1
        simp only []
        by_cases hns : ns ≠ 0
        · rw [if_pos hns]
          exact .ret hP
        rw [if_neg hns]
        generalize readVarInt r1 = o2
        cases o2 with
        | none => exact .eos hP
        | some x2 =>
          obtain ⟨szBits, r2⟩ := x2
          simp only []
          by_cases hz : szBits = 0
          · rw [if_pos hz]
            exact ⟨rfl, hP⟩
          rw [if_neg hz]
          by_cases hle : v5Sz szBits > max (2 * min p.chunkSize (total - start)) 1024
          · rw [if_pos hle]
            exact .ret hP
          rw [if_neg hle]
          have hP5' := hP5 szBits (Nat.le_of_not_lt hle)
          have h3 := chunkV5Body_sat tbl.toArray szBits (min p.chunkSize (total - start)) start
            (total - start) out buf r2
          generalize chunkV5Body tbl.toArray szBits (min p.chunkSize (total - start)) start
            (total - start) out buf r2 = q3 at h3
          cases q3 with
          | ok c => exact ⟨rfl, by rw [h3.ok rfl]; exact hP5'⟩
          | err => exact .ret hP5'
          | _ => exact .stop h3 nofun hP5'
    | err => exact .ret hP
    | _ => exact .stop h2.of_false nofun hP
  | err => exact .ret hP
  | _ => exact .stop h1.of_false nofun hP

theorem readLoop_done (p : Params) (total fuel start : Nat) (out buf : Array Nat) (bs : Bits) (h : total ≤ start) :
    readLoop p total (fuel + 1) start out buf bs = ⟨.ret total false, outOf out total, ⟨buf⟩, bs, buf.size⟩ := by
  rw [readLoop, if_pos h]

theorem readLoop_next (p : Params) (total fuel start : Nat) (out buf : Array Nat) (bs : Bits) (h : start < total) :
    readLoop p total (fuel + 1) start out buf bs =
      match (if p.bsVersion < 6 then stepV5 p start total out buf bs else stepV6 p start total out buf bs) with
      | .done r => r
      | .next s o b r => readLoop p total fuel s o b r := by
  rw [readLoop, if_neg (Nat.not_le.mpr h)]
  rfl

theorem readLoop_sat (flt : Prop) (P : Nat → Prop) (p : Params) (total : Nat) (hcs : 0 < p.chunkSize)
    (hstep : ∀ (start : Nat) (out buf : Array Nat) (bs : Bits), P buf.size →
      StepSat flt P p.chunkSize start total
        (if p.bsVersion < 6 then stepV5 p start total out buf bs else stepV6 p start total out buf bs)) :
    ∀ (fuel start : Nat) (out buf : Array Nat) (bs : Bits), P buf.size →
      (total - start + p.chunkSize - 1) / p.chunkSize + 1 ≤ fuel →
      DoneSat flt P (readLoop p total fuel start out buf bs) := by
  intro fuel
  induction fuel with
  | zero => intro start out buf bs _ h; exact absurd h (Nat.not_succ_le_zero _)
  | succ fuel ih =>
    intro start out buf bs hP hf
    by_cases hlt : start < total
    · rw [readLoop_next p total fuel start out buf bs hlt]
      have hs := hstep start out buf bs hP
      generalize (if p.bsVersion < 6 then stepV5 p start total out buf bs else stepV6 p start total out buf bs) = st at hs
      cases st with
      | done r => exact hs
      | next s o b r =>
        obtain ⟨e, hPb⟩ := hs
        apply ih s o b r hPb
        have := Kanzi.AnsDec.fuel_step p.chunkSize (total - start) fuel hcs (by omega) hf
        rwa [show total - s = total - start - min p.chunkSize (total - start) by omega]
    · rw [readLoop_done p total fuel start out buf bs (Nat.le_of_not_lt hlt)]
      exact .ret hP

theorem v6Alloc_size (cs : Nat) (buf : Array Nat) :
    (v6Alloc cs buf).size = if buf.size < 2 * cs then 2 * cs else buf.size := by
  unfold v6Alloc
  split <;> simp

/-- version 6 and above: an index panic would need a chunk size below 128 (the constructors give 1024 at least) -/
theorem read_v6 (p : Params) (hcs : 0 < p.chunkSize) (hv : ¬ p.bsVersion < 6) (s : St) (bs : Bits) (count : Nat) :
    DoneSat (p.chunkSize < 128)
      (fun n => n = if count = 0 then s.buf.size
        else if s.buf.size < 2 * p.chunkSize then 2 * p.chunkSize else s.buf.size)
      (read p s bs count) := by
  unfold read
  by_cases h0 : count = 0
  · rw [if_pos h0, if_pos h0]
    exact .ret rfl
  · rw [if_neg h0, if_neg h0, if_neg hv, ← v6Alloc_size]
    refine readLoop_sat _ _ p count hcs (fun start out buf bs hP => ?_) _ 0 _ _ bs rfl (Kanzi.AnsDec.chunksOf_enough _ _ hcs)
    rw [if_neg hv]
    refine stepV6_sat _ _ p start count out buf bs hP ?_
    by_cases h128 : p.chunkSize < 128
    · exact Or.inl h128
    · rw [hP, v6Alloc_size]
      exact Or.inr (by split <;> omega)

/-- versions below 6: an index panic is not excluded (`flt = True`); the loops end and the buffer stays within the
    size `decodeChunkV5` allocates for the largest chunk -/
theorem read_v5 (p : Params) (hcs : 0 < p.chunkSize) (hv : p.bsVersion < 6) (s : St) (bs : Bits) (count : Nat) :
    DoneSat True
      (fun n => n ≤ max s.buf.size (max (2 * min p.chunkSize count) 1024 + max (2 * min p.chunkSize count) 1024 / 8))
      (read p s bs count) := by
  unfold read
  by_cases h0 : count = 0
  · rw [if_pos h0]
    exact .ret (Nat.le_max_left _ _)
  · rw [if_neg h0, if_pos hv]
    have hM : ∀ start, max (2 * min p.chunkSize (count - start)) 1024 ≤ max (2 * min p.chunkSize count) 1024 :=
      fun start => by omega
    have h1 : 1024 ≤ max (2 * min p.chunkSize count) 1024 := Nat.le_max_right _ _
    generalize max (2 * min p.chunkSize count) 1024 = M at hM h1 ⊢
    refine readLoop_sat _ _ p count hcs (fun start out buf bs hP => ?_) _ 0 _ _ bs (Nat.le_max_left _ _)
      (Kanzi.AnsDec.chunksOf_enough _ _ hcs)
    rw [if_pos hv]
    exact stepV5_sat _ p start count out buf bs hP fun z hz =>
      (v5SizeAfter_le z buf.size M (hz.trans (hM start)) h1).trans (Nat.max_le.mpr ⟨hP, Nat.le_max_right _ _⟩)

/-- every version: a bound that depends on the chunk size only -/
theorem read_alloc (p : Params) (hcs : 512 ≤ p.chunkSize) (s : St) (bs : Bits) (count : Nat) :
    (read p s bs count).bufSz ≤ max s.buf.size (2 * p.chunkSize + p.chunkSize / 4) := by
  by_cases hv : p.bsVersion < 6
  · have h : _ ≤ _ := (read_v5 p (by omega) hv s bs count).2.2
    have hM : max (2 * min p.chunkSize count) 1024 ≤ 2 * p.chunkSize := by omega
    generalize max (2 * min p.chunkSize count) 1024 = M at h hM
    omega
  · have : _ = _ := (read_v6 p (by omega) hv s bs count).2.2
    rw [this]
    split
    · omega
    · split <;> omega

theorem mkParams_facts (c v : Option Nat) (p : Params) (h : mkParams c v = some p) :
    1024 ≤ p.chunkSize ∧ p.chunkSize ≤ 16384 ∧ p.bsVersion = v.getD 6 := by
  unfold mkParams at h
  cases v with
  | some v =>
    simp only [] at h
    split at h
    · cases h
    · cases h; simp
  | none =>
    cases c with
    | none => simp only [] at h; cases h; simp
    | some c =>
      simp only [] at h
      split at h
      · cases h
      · cases h; simp; omega

end Kanzi.HufDec
