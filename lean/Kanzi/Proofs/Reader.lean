import Kanzi.Model.Reader
import Kanzi.Spec.Stream
import Kanzi.Proofs.ReaderLemmas
/-!
Proofs of the reader-side property theorems over `Model.Reader`, from the lemmas of
`Kanzi/Proofs/ReaderLemmas.lean`.
-/
namespace Kanzi.Reader
open Kanzi.Spec

-- several statements carry `hB` / `hJ` (as the property statements in `Properties/StreamR.lean` do)
-- without using them
set_option linter.unusedVariables false

theorem reader_refines_spec (c : Cfg) (hB : 0 < c.B) (hJ : 0 < c.J) (blocks : List (List Nat))
    (hv : validBlocks c.B blocks) (sizes : List Nat) :
    let expected := (selectRange c.from_ c.to_ blocks).flatten
    ∀ k, (hk : k < sizes.length) →
      let pos := (sizes.take k).sum
      let n := sizes[k]
      ((readSeq c (init (validFrames blocks)) sizes).2)[k]? =
        some (if n = 0 then ReadRes.data [] none
              else if pos ≥ expected.length then ReadRes.eof
              else ReadRes.data (specRead expected pos n) none) := by
  intro expected k hk
  exact readSeq_valid c hB hJ sizes _ expected (Src_init c _ blocks hv (Or.inl rfl)) rfl k hk

theorem decoded_in_range (c : Cfg) (hB : 0 < c.B) (hJ : 0 < c.J) (frames : List Frame) (sizes : List Nat) :
    ∀ id ∈ (readSeq c (init frames) sizes).1.decodedIds, inRange c id = true :=
  (readSeq_keeps c _ sizes).2 (by simp [init])

theorem nothing_after_error (c : Cfg) (hB : 0 < c.B) (hJ : 0 < c.J) (s : St) (n : Nat)
    (h : (read c s n).2.isErr = true) (hcl : s.closed = false) (sizes : List Nat) :
    ∀ r ∈ (readSeq c (read c s n).1 sizes).2, r.bytes = [] := by
  have hd : Dead (read c s n).1 := by
    unfold read at h ⊢
    simp only [hcl, Bool.false_eq_true, if_false] at h ⊢
    exact readLoop_err_dead c _ _ _ s h
  exact fun r hr => (readSeq_dead c _ sizes hd r hr).1

/-
The statement one would want for C09 is FALSE for the model:

theorem no_eof_without_marker (c : Cfg) (hB : 0 < c.B) (hJ : 0 < c.J) (frames : List Frame)
    (hno : Frame.endMarker ∉ frames) (sizes : List Nat) :
    ∀ k : Nat, ((readSeq c (init frames) sizes).2)[k]? = some ReadRes.eof →
      ∃ j : Nat, j < k ∧ (((readSeq c (init frames) sizes).2)[j]?.map ReadRes.isErr) = some true

Counterexample (`no_eof_without_marker_counterexample` below): B = 2, J = 1, no range,
frames = [Frame.block []] (a frame that decodes, without error, to ZERO bytes; `Frame.oversize 0`
behaves identically), sizes = [1].  The single task delivers an empty, non-skipped, non-error result,
`scan` reports 0 decoded bytes without error, and `readLoop` turns "0 bytes, no error" into `.eof` at
k = 0, with no earlier call that could have reported an error.  The model's comment says that block
frames are non-empty, but the type does not enforce it; with that side condition the statement holds
(`no_eof_without_marker_partial`).
-/
theorem no_eof_without_marker_counterexample :
    let c : Cfg := { B := 2, J := 1, nbIn := 0, from_ := none, to_ := none }
    Frame.endMarker ∉ [Frame.block []] ∧
    (readSeq c (init [Frame.block []]) [1]).2 = [ReadRes.eof] ∧
    (readSeq c (init [Frame.oversize 0]) [1]).2 = [ReadRes.eof] := by
  refine ⟨by simp, ?_, ?_⟩ <;> decide

theorem no_eof_without_marker_partial (c : Cfg) (hB : 0 < c.B) (hJ : 0 < c.J) (frames : List Frame)
    (hno : Frame.endMarker ∉ frames)
    (hne : ∀ f ∈ frames, f ≠ Frame.block [] ∧ f ≠ Frame.oversize 0) (sizes : List Nat) :
    ∀ k : Nat, ((readSeq c (init frames) sizes).2)[k]? = some ReadRes.eof →
      ∃ j : Nat, j < k ∧ (((readSeq c (init frames) sizes).2)[j]?.map ReadRes.isErr) = some true :=
  readSeq_fok c hJ sizes (init frames) ⟨by simp [init], hno, hne⟩

theorem error_position (c : Cfg) (hB : 0 < c.B) (hJ : 0 < c.J) (blocks : List (List Nat))
    (hv : ∀ b ∈ blocks, b.length = c.B) (bad : Frame) (hbad : bad = .badCrit ∨ bad = .badPost)
    (hin : inRange c (blocks.length + 1) = true)
    (rest : List Frame) (sizes : List Nat) :
    let outs := (readSeq c (init (blocks.map Frame.block ++ bad :: rest)) sizes).2
    (outs.map ReadRes.bytes).flatten <+: (selectRange c.from_ c.to_ blocks).flatten ∧
    ReadRes.stale ∉ outs := by
  intro outs
  exact readSeq_prefix c hB hJ (bad :: rest) sizes _ _
    (Src_init c _ blocks (validBlocks_of_full c.B hB blocks hv) (Or.inr ⟨bad, rest, rfl, hbad, hin⟩)) rfl

theorem closed_absorbing (c : Cfg) (s : St) (n : Nat) :
    close (close s) = close s ∧ read c (close s) n = (close s, ReadRes.data [] (some Err.closed)) := by
  unfold close read
  cases h : s.closed <;> simp [h]

end Kanzi.Reader
