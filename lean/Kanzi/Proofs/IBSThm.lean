/-
Programs of operations: the concrete stream and the abstract word machine produce the same
outcomes and `Read()` counters.  Since the abstract state contains neither the chunking of the
source nor the buffer size, this is the independence of the I/O granularity (C06).
Then the refinement statements about the concrete stream `Kanzi.IBS.St`, obtained by composing
the simulation (layer 1) with the bit-level specification of the word machine (layer 2).
-/
import Kanzi.Proofs.IBS

namespace Kanzi.IBS

def A.step (a : A) (op : Op) : Outcome × A :=
  match op with
  | .readBit => (resOut (A.readBit a).1, (A.readBit a).2)
  | .readBits n => (resOut (A.readBits a n).1, (A.readBits a n).2)
  | .readArray k =>
    (match (A.readArray a k).1 with
      | .val bs => .arr bs
      | .panic e => .panic e, (A.readArray a k).2)
  | .hasMore =>
    (match (A.hasMore a).1 with
      | .val _ => .more
      | .panic e => .moreErr e, (A.hasMore a).2)
  | .close => (.ok, A.close a)
  | .read => (.cnt, a)

def A.run (a : A) : List Op → List (Outcome × Int)
  | [] => []
  | op :: ops => ((A.step a op).1, (A.step a op).2.cnt) :: A.run (A.step a op).2 ops

def isPanic : Outcome → Bool
  | .panic _ => true
  | _ => false

/-- the outcomes up to and including the first panic (a client stops using a stream that
    panicked) -/
def runP (s : St) : List Op → List (Outcome × Int)
  | [] => []
  | op :: ops =>
    ((step s op).1, (step s op).2.count) ::
      (if isPanic (step s op).1 then [] else runP (step s op).2 ops)

def A.runP (a : A) : List Op → List (Outcome × Int)
  | [] => []
  | op :: ops =>
    ((A.step a op).1, (A.step a op).2.cnt) ::
      (if isPanic (A.step a op).1 then [] else A.runP (A.step a op).2 ops)

def isArray : Op → Bool
  | .readArray _ => true
  | _ => false

/-- invariant of the states reachable without a panic -/
def Good (s : St) : Prop := Inv s ∧ (s.closed = true ∨ Fresh s)

theorem resOut_val_ne_panic {r : Res (BitVec 64)} (h : isPanic (resOut r) = false) :
    ∀ e, r ≠ .panic e := by
  intro e he; rw [he] at h; simp [resOut, isPanic] at h

theorem readBit_after_close (s : St) (hi : Inv s) (hc : s.closed = true) :
    readBit s = (.panic .closed, s) := by
  unfold readBit
  rw [if_pos (hi.cl hc).1, pull_closed s hi hc]

theorem readBits_after_close (s : St) (hi : Inv s) (hc : s.closed = true) (n : Nat)
    (h1 : 1 ≤ n) (h64 : n ≤ 64) : readBits s n = (.panic .closed, s) := by
  unfold readBits
  have hf : n + 2 = (n + 1) + 1 := rfl
  rw [hf, readBitsAux, if_neg (by omega), if_neg (by rw [(hi.cl hc).1]; omega),
    pull_closed s hi hc]

theorem step_sim (s : St) (op : Op) (hi : Inv s) (hg : isArray op = true → s.closed = true ∨ Fresh s) :
    (step s op).1 = (A.step (abs s) op).1 ∧ abs (step s op).2 = (A.step (abs s) op).2 ∧
    Inv (step s op).2 ∧
    ((s.closed = true ∨ Fresh s) → isPanic (step s op).1 = false →
      ((step s op).2.closed = true ∨ Fresh (step s op).2)) := by
  cases op with
  | readBit =>
    obtain ⟨q1, q2, q3, q4⟩ := readBit_sim s hi
    refine ⟨by simp only [step, A.step, q1], q2, q3, ?_⟩
    intro hgood hnp
    rcases hgood with hcl | hfr
    · exfalso
      simp only [step] at hnp
      rw [readBit_after_close s hi hcl] at hnp
      simp [resOut, isPanic] at hnp
    · right; exact q4 hfr (resOut_val_ne_panic hnp)
  | readBits n =>
    obtain ⟨q1, q2, q3, q4⟩ := readBits_sim s n hi
    refine ⟨by simp only [step, A.step, q1], q2, q3, ?_⟩
    intro hgood hnp
    rcases hgood with hcl | hfr
    · exfalso
      simp only [step] at hnp
      by_cases hn : n = 0 ∨ n > 64
      · have : (readBits s n).1 = .panic .invalidCount := by
          unfold readBits; rw [readBitsAux, if_pos hn]
        rw [this] at hnp; simp [resOut, isPanic] at hnp
      · rw [readBits_after_close s hi hcl n (by omega) (by omega)] at hnp
        simp [resOut, isPanic] at hnp
    · right; exact q4 hfr (resOut_val_ne_panic hnp)
  | readArray k =>
    obtain ⟨q1, q2, q3, q4⟩ := readArray_sim s k hi (hg rfl)
    refine ⟨by simp only [step, A.step]; rw [q1]; cases (A.readArray (abs s) k).1 <;> rfl,
      q2, q3, ?_⟩
    intro hgood hnp
    rcases hgood with hcl | hfr
    · exfalso
      have : (readArray s k).1 = .panic .closed := by
        unfold readArray; rw [if_pos hcl]
      simp only [step] at hnp
      rw [this] at hnp; simp [isPanic] at hnp
    · right
      refine q4 hfr ?_
      intro e he
      simp only [step] at hnp
      rw [he] at hnp; simp [isPanic] at hnp
  | hasMore =>
    obtain ⟨q1, q2, q3, q4⟩ := hasMore_sim s hi
    refine ⟨by simp only [step, A.step]; rw [q1]; cases (A.hasMore (abs s)).1 <;> rfl, q2, q3, ?_⟩
    intro hgood _
    rcases hgood with hcl | hfr
    · left
      have : hasMore s = (.panic .closed, s) := by unfold hasMore; rw [if_pos hcl]
      simp only [step]; rw [this]; exact hcl
    · right; exact q4 hfr
  | close =>
    obtain ⟨q1, q2⟩ := close_sim s hi
    refine ⟨rfl, q1, q2, ?_⟩
    intro _ _
    left
    simp only [step, close]
    split
    · assumption
    · rfl
  | read => exact ⟨rfl, rfl, hi, fun h _ => h⟩

theorem runP_sim : ∀ (ops : List Op) (s : St), Good s → runP s ops = A.runP (abs s) ops := by
  intro ops
  induction ops with
  | nil => intro s _; rfl
  | cons op ops ih =>
    intro s hg
    obtain ⟨q1, q2, q3, q4⟩ := step_sim s op hg.1 (fun _ => hg.2)
    simp only [runP, A.runP]
    have hc : (step s op).2.count = (A.step (abs s) op).2.cnt := by rw [← q2]; rfl
    rw [q1, hc]
    congr 1
    by_cases hp : isPanic (A.step (abs s) op).1 = true
    · rw [if_pos hp, if_pos hp]
    · rw [if_neg hp, if_neg hp, ← q2]
      exact ih _ ⟨q3, q4 hg.2 (by rw [q1]; simpa using hp)⟩

/-- programs without `ReadArray`: all outcomes, also after panics (`ReadArray` is simulated only
    from a closed or `Fresh` state, and a panic may lose `Fresh`) -/
theorem run_sim : ∀ (ops : List Op) (s : St), Inv s → (∀ op ∈ ops, isArray op = false) →
    run s ops = A.run (abs s) ops := by
  intro ops
  induction ops with
  | nil => intro s _ _; rfl
  | cons op ops ih =>
    intro s hi hops
    have hna : isArray op = false := hops op (List.mem_cons_self)
    obtain ⟨q1, q2, q3, _⟩ := step_sim s op hi (fun h => by rw [hna] at h; cases h)
    simp only [run, A.run]
    have hc : (step s op).2.count = (A.step (abs s) op).2.cnt := by rw [← q2]; rfl
    rw [q1, hc, ← q2]
    congr 1
    exact ih _ q3 (fun o ho => hops o (List.mem_cons_of_mem _ ho))

theorem init_inv (bs : Nat) (src : Src) (h8 : bs % 8 = 0) (hpos : 0 < bs) (hne : NE src.chunks) :
    Inv (init bs src) := by
  refine ⟨by simpa [init] using h8, by simpa [init] using hpos, by simp [init], by simp [init, St.lim],
    by simp [init], hne, by simp [init], ?_, by simp [init]⟩
  intro _; simp [init, St.bufRest, St.lim]

theorem init_good (bs : Nat) (src : Src) (h8 : bs % 8 = 0) (hpos : 0 < bs) (hne : NE src.chunks) :
    Good (init bs src) :=
  ⟨init_inv bs src h8 hpos hne, Or.inr ⟨rfl, by simp [init, St.lim]⟩⟩

theorem abs_init (bs : Nat) (src : Src) :
    abs (init bs src) = ⟨false, 0, 0, 0, srcBytes src.chunks, src.term.err⟩ := by
  apply A.ext'
  · rfl
  · simp [abs, init, St.count]
  · rfl
  · rfl
  · simp [abs, init, St.bufRest, St.lim, future]
  · rfl

/-- a source without error-tagged chunks -/
def plainSrc (chunks : List (List Byte)) (term : Term) : Src :=
  ⟨chunks.map (fun b => ⟨b, false⟩), term⟩

theorem srcBytes_plain (chunks : List (List Byte)) :
    srcBytes (chunks.map (fun b => (⟨b, false⟩ : Chunk))) = chunks.flatten := by
  induction chunks with
  | nil => rfl
  | cons c cs ih => simp [srcBytes, ih]

theorem plain_ne (chunks : List (List Byte)) (h : ∀ c ∈ chunks, c ≠ []) (term : Term) :
    NE (plainSrc chunks term).chunks := by
  intro c hc
  simp only [plainSrc, List.mem_map] at hc
  obtain ⟨b, hb, rfl⟩ := hc
  exact h b hb

open Kanzi.Bits Kanzi.BitsIbs

theorem remaining_init (bs : Nat) (src : Src) :
    remaining (init bs src) = bytesBits (srcBytes src.chunks) := by
  unfold remaining
  rw [abs_init]
  simp [A.remaining, wordBits, natBits_zero]

theorem SimR.val {α : Type} {s : St} {r : Res α × St} {r' : Res α × A} (h : SimR s r r') {v : α}
    {a' : A} (e : r' = (.val v, a')) :
    r = (.val v, r.2) ∧ abs r.2 = a' ∧ Inv r.2 ∧ (Fresh s → Fresh r.2) := by
  obtain ⟨q1, q2, q3, q4⟩ := h
  rw [e] at q1 q2
  exact ⟨Prod.ext q1 rfl, q2, q3, fun hf => q4 hf (by intro e he; rw [q1] at he; cases he)⟩

theorem readBits_refines (s : St) (hi : Inv s) (hc : s.closed = false) (n : Nat)
    (h1 : 1 ≤ n) (h64 : n ≤ 64) (hen : n ≤ (remaining s).length) :
    ∃ v s', readBits s n = (.val v, s') ∧ v.toNat = bitsNat ((remaining s).take n) ∧
      remaining s' = (remaining s).drop n ∧ Inv s' ∧ s'.count = s.count + n ∧
      s'.closed = false ∧ (Fresh s → Fresh s') := by
  obtain ⟨v, a', e1, e2, e3, e4, _, e6, _⟩ :=
    A.readBits_spec (abs s) hi.avail_le hc n h1 h64 hen
  obtain ⟨q1, q2, q3, q4⟩ := (readBits_sim s n hi).val e1
  subst q2
  exact ⟨v, _, q1, e2, e3, q3, e4, e6, q4⟩

theorem readBit_refines (s : St) (hi : Inv s) (hc : s.closed = false)
    (hen : 1 ≤ (remaining s).length) :
    ∃ v s', readBit s = (.val v, s') ∧ v.toNat = bitsNat ((remaining s).take 1) ∧
      remaining s' = (remaining s).drop 1 ∧ Inv s' ∧ s'.count = s.count + 1 ∧
      s'.closed = false ∧ (Fresh s → Fresh s') := by
  obtain ⟨v, a', e1, e2, e3, e4, _, e6, _⟩ :=
    A.readBits_spec (abs s) hi.avail_le hc 1 (Nat.le_refl 1) (by decide) hen
  obtain ⟨q1, q2, q3, q4⟩ := (readBit_sim s hi).val ((A.readBit_eq _).trans e1)
  subst q2
  exact ⟨v, _, q1, e2, e3, q3, e4, e6, q4⟩

theorem readArray_refines (s : St) (hi : Inv s) (hf : Fresh s) (k : Nat)
    (hen : k ≤ (remaining s).length) :
    ∃ out s', readArray s k = (.val out, s') ∧
      out.map BitVec.toNat = packBytes ((remaining s).take k) ∧
      remaining s' = (remaining s).drop k ∧ Inv s' ∧ s'.count = s.count + k ∧ Fresh s' := by
  obtain ⟨out, a', e1, e2, e3, e4, _⟩ := A.readArray_spec (abs s) hi.avail_le hf.1 k hen
  obtain ⟨q1, q2, q3, q4⟩ := (readArray_sim s k hi (Or.inr hf)).val e1
  subst q2
  exact ⟨out, _, q1, e2, e3, q3, e4, q4 hf⟩

/-- asking for more bits than remain: panic with the ending of the source (`eos` for a source
    that ends with EOF, `io` for a failing source), never a value -/
theorem readBits_short (s : St) (hi : Inv s) (hc : s.closed = false) (n : Nat)
    (h1 : 1 ≤ n) (h64 : n ≤ 64) (hen : (remaining s).length < n) :
    (readBits s n).1 = .panic s.src.term.err := by
  obtain ⟨q1, _, _, _⟩ := readBits_sim s n hi
  rw [q1]
  exact A.readBits_eos (abs s) hc n h1 h64 hen

theorem readBit_short (s : St) (hi : Inv s) (hc : s.closed = false)
    (hen : (remaining s).length = 0) : (readBit s).1 = .panic s.src.term.err := by
  obtain ⟨q1, _, _, _⟩ := readBit_sim s hi
  rw [q1]
  exact A.readBit_eos (abs s) hc hen

theorem hasMore_spec (s : St) (hi : Inv s) (hc : s.closed = false) :
    (hasMore s).1 = (if (remaining s).length = 0 then .panic s.src.term.err else .val ()) ∧
    remaining (hasMore s).2 = remaining s ∧ (hasMore s).2.count = s.count := by
  obtain ⟨q1, q2, _⟩ := hasMore_sim s hi
  have hA : A.hasMore (abs s) =
      (if (remaining s).length = 0 then .panic s.src.term.err else .val (), abs s) := by
    unfold A.hasMore remaining
    rw [A.remaining_length]
    have : (abs s).closed = false := hc
    rw [this]
    simp only [Bool.false_eq_true, ↓reduceIte]
    by_cases h : (abs s).rest ≠ [] ∨ (abs s).avail ≠ 0
    · rw [if_pos h, if_neg]
      rcases h with h | h
      · have := List.length_pos_iff.mpr h; omega
      · omega
    · rw [if_neg h, if_pos]
      · rfl
      · rw [Decidable.not_not.mp fun hh => h (Or.inl hh), Decidable.not_not.mp fun hh => h (Or.inr hh)]
        rfl
  rw [hA] at q1 q2
  refine ⟨q1, ?_, ?_⟩
  · unfold remaining; rw [q2]
  · have : (abs (hasMore s).2).cnt = (hasMore s).2.count := rfl
    rw [← this, q2]; rfl

theorem close_closed (s : St) : (close s).closed = true := by
  unfold close; split
  · assumption
  · rfl

theorem close_idem (s : St) : close (close s) = close s := by
  have := close_closed s
  rw [close, if_pos this]

theorem close_count (s : St) : (close s).count = s.count := by
  unfold close; split
  · rfl
  · simp only [St.count]; omega

theorem readArray_after_close (s : St) (hc : s.closed = true) (k : Nat) :
    readArray s k = (.panic .closed, s) := by
  unfold readArray; rw [if_pos hc]

theorem hasMore_after_close (s : St) (hc : s.closed = true) :
    hasMore s = (.panic .closed, s) := by
  unfold hasMore; rw [if_pos hc]

theorem readBits_invalid (s : St) (n : Nat) (h : n = 0 ∨ n > 64) :
    readBits s n = (.panic .invalidCount, s) := by
  unfold readBits; rw [readBitsAux, if_pos h]


theorem readArray_short (s : St) (hi : Inv s) (hf : Fresh s) (k : Nat)
    (hen : (remaining s).length < k) : (readArray s k).1 = .panic s.src.term.err := by
  obtain ⟨q1, _, _, _⟩ := readArray_sim s k hi (Or.inr hf)
  rw [q1]
  exact A.readArray_short (abs s) hi.avail_le hf.1 k hen

/-- expected outcomes of reading back the fields `ws` (value, size), counter starting at `c` -/
def mirrorOut (c : Int) : List (Nat × Nat) → List (Outcome × Int)
  | [] => []
  | w :: ws => (.val w.1, c + w.2) :: mirrorOut (c + w.2) ws

theorem run_mirror : ∀ (ws : List (Nat × Nat)) (s : St) (tail : Bits), Inv s → s.closed = false →
    (∀ w ∈ ws, 1 ≤ w.2 ∧ w.2 ≤ 64 ∧ w.1 < 2 ^ w.2) →
    remaining s = bitsOfWrites ws ++ tail →
    run s (ws.map (fun w => Op.readBits w.2)) = mirrorOut s.count ws := by
  intro ws
  induction ws with
  | nil => intro s tail _ _ _ _; rfl
  | cons w ws ih =>
    intro s tail hi hc hw hrem
    obtain ⟨h1, h64, hv⟩ := hw w List.mem_cons_self
    rw [bitsOfWrites_cons, List.append_assoc] at hrem
    have hlen : w.2 ≤ (remaining s).length := by
      rw [hrem, List.length_append, natBits_length]; omega
    obtain ⟨v, s', e1, e2, e3, e4, e5, e6, _⟩ := readBits_refines s hi hc w.2 h1 h64 hlen
    rw [hrem, List.take_left' (natBits_length _ _), bitsNat_natBits, Nat.mod_eq_of_lt hv] at e2
    rw [hrem, List.drop_left' (natBits_length _ _)] at e3
    simp only [List.map_cons, run, mirrorOut, step, e1, resOut, e2, e5]
    congr 1
    have := ih s' tail e4 e6 (fun x hx => hw x (List.mem_cons_of_mem _ hx)) e3
    rw [e5] at this
    exact this


theorem abs_init_plain (bs : Nat) (chunks : List (List Byte)) (term : Term) :
    abs (init bs (plainSrc chunks term)) = ⟨false, 0, 0, 0, chunks.flatten, term.err⟩ := by
  rw [abs_init]; simp only [plainSrc]; rw [srcBytes_plain]

theorem chunking_runP (bs1 bs2 : Nat) (hb1 : bs1 % 8 = 0 ∧ 0 < bs1) (hb2 : bs2 % 8 = 0 ∧ 0 < bs2)
    (c1 c2 : List (List Byte)) (h1 : ∀ c ∈ c1, c ≠ []) (h2 : ∀ c ∈ c2, c ≠ [])
    (heq : c1.flatten = c2.flatten) (term : Term) (ops : List Op) :
    runP (init bs1 (plainSrc c1 term)) ops = runP (init bs2 (plainSrc c2 term)) ops := by
  rw [runP_sim ops _ (init_good bs1 _ hb1.1 hb1.2 (plain_ne c1 h1 term)),
    runP_sim ops _ (init_good bs2 _ hb2.1 hb2.2 (plain_ne c2 h2 term)),
    abs_init_plain, abs_init_plain, heq]

theorem chunking_run (bs1 bs2 : Nat) (hb1 : bs1 % 8 = 0 ∧ 0 < bs1) (hb2 : bs2 % 8 = 0 ∧ 0 < bs2)
    (c1 c2 : List (List Byte)) (h1 : ∀ c ∈ c1, c ≠ []) (h2 : ∀ c ∈ c2, c ≠ [])
    (heq : c1.flatten = c2.flatten) (term : Term) (ops : List Op)
    (hops : ∀ op ∈ ops, isArray op = false) :
    run (init bs1 (plainSrc c1 term)) ops = run (init bs2 (plainSrc c2 term)) ops := by
  rw [run_sim ops _ (init_inv bs1 _ hb1.1 hb1.2 (plain_ne c1 h1 term)) hops,
    run_sim ops _ (init_inv bs2 _ hb2.1 hb2.2 (plain_ne c2 h2 term)) hops,
    abs_init_plain, abs_init_plain, heq]

/-- a chunk delivered together with the error still counts: the deliverable bytes are the plain
    chunks before it and the chunk itself -/
theorem srcBytes_tagged (pre : List (List Byte)) (c : List Byte) (post : List Chunk) :
    srcBytes (pre.map (fun b => (⟨b, false⟩ : Chunk)) ++ ⟨c, true⟩ :: post) = pre.flatten ++ c := by
  induction pre with
  | nil => simp [srcBytes]
  | cons p ps ih => simp [srcBytes, ih]

end Kanzi.IBS
