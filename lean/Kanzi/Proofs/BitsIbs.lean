/-
Sequences of `WriteBits` / `ReadBits` fields as one bit string (used by the bitstream and Huffman proofs).
-/
import Kanzi.Proofs.Bits

namespace Kanzi.BitsIbs
open Kanzi.Bits

theorem bitsNat_nil : bitsNat [] = 0 := rfl

/-- the bits written by a sequence of `WriteBits(v, n)` calls, given as pairs `(v, n)` -/
def bitsOfWrites (ws : List (Nat × Nat)) : Bits := ws.flatMap (fun w => natBits w.1 w.2)

def specReads : Bits → List Nat → List Nat
  | _, [] => []
  | bits, n :: ns => bitsNat (bits.take n) :: specReads (bits.drop n) ns

theorem bitsOfWrites_cons (w : Nat × Nat) (ws : List (Nat × Nat)) :
    bitsOfWrites (w :: ws) = natBits w.1 w.2 ++ bitsOfWrites ws := by
  simp [bitsOfWrites]

theorem specReads_writes (ws : List (Nat × Nat)) (hv : ∀ w ∈ ws, w.1 < 2 ^ w.2) (tail : Bits) :
    specReads (bitsOfWrites ws ++ tail) (ws.map (·.2)) = ws.map (·.1) := by
  induction ws with
  | nil => rfl
  | cons w ws ih =>
    rw [bitsOfWrites_cons, List.map_cons, List.map_cons, specReads, List.append_assoc,
      List.take_left' (natBits_length _ _), List.drop_left' (natBits_length _ _), bitsNat_natBits,
      Nat.mod_eq_of_lt (hv w List.mem_cons_self), ih (fun x hx => hv x (List.mem_cons_of_mem _ hx))]

end Kanzi.BitsIbs
