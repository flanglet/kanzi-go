/-
ROLZ (`rolzCodec1`): the chunk loop (`chunks1_sim`: the decoder, whose first chunk size `min(len(dst), cs)` may exceed
the encoder's `min(len(src), cs)`, cuts the same chunks), the block header and the whole block (`rolz_roundtrip`).
-/
import Kanzi.Proofs.Rolz1Chunk

namespace Kanzi.ROLZ
open Kanzi.Bits

/-- the decoder, whose running chunk size may differ from the encoder's once the end of the block is within one
    chunk of both, cuts the same chunk -/
theorem chunkEnd_dec {st szE szD srcEnd e : Nat} (he : (if st + szE ≥ srcEnd then srcEnd else st + szE) = e)
    (hsz : szE = szD ∨ (st + szE ≥ srcEnd ∧ st + szD ≥ srcEnd)) :
    (if st + szD > srcEnd then srcEnd else st + szD) = e ∧ (e = srcEnd ∨ szE = szD) := by
  rw [← he, endChunk_fwd, endChunk_inv]
  omega

/-- **the chunk loop of Inverse follows the chunk loop of Forward**: on any `Sarr` that starts with the final output
    of Forward's loop, started where Forward stands (chunk start `st`, `out.size` bytes consumed, `a[0, st)` restored, side
    buffers allocated for a first chunk size `zD ≥ sz0E`), it restores `a[0, srcEnd)` and stops at the end of Forward's
    output -/
theorem chunks1_sim {a Sarr : Array Nat} {sz0E zD dstLen srcEnd mm delta lpc litOrder : Nat}
    (hpar : ParamsOk mm delta) (hmm : 3 ≤ mm ∧ mm ≤ 7) (hlpc : lpc ≤ 8) (ha : ∀ k, a.getD k 0 < 256)
    (hea : srcEnd + 4 ≤ a.size) (hz : sz0E ≤ zD) (hz64 : 64 ≤ zD) (hzmax : zD ≤ 2 ^ 24) :
    ∀ (f st szE : Nat) (tab : Tab) (out : Array Nat) (r : Nat × Nat × Tab × Array Nat),
    fwd1Chunks a (capsOf sz0E) dstLen srcEnd mm delta lpc litOrder f st szE tab out = .ok r → Pre r.2.2.2 Sarr →
    (8 ≤ szE ∨ st + szE ≥ srcEnd) → szE ≤ sz0E → 0 < szE → st ≤ srcEnd → tab.counters.size = HASH_SIZE →
    ∀ (fD szD dI : Nat) (sd : Side) (tabD : Tab) (dst : Array Nat),
    (szE = szD ∨ (st + szE ≥ srcEnd ∧ st + szD ≥ srcEnd)) → 0 < szD → (srcEnd - st) + szD ≤ fD * szD →
    SdSize sd zD → TabOk tabD lpc → (∀ k, k < st → dst.getD k 0 = a.getD k 0) → srcEnd ≤ dst.size →
    (st < srcEnd ∨ dI = szD) →
    ∃ rD, inv1Chunks Sarr srcEnd mm delta lpc litOrder 8 false fD st szD dI out.size sd tabD dst = .ok rD ∧
      rD.1 = rD.2.2.1 ∧ rD.2.1 = srcEnd ∧ rD.2.2.2.1 = r.2.2.2.size ∧ rD.2.2.2.2.size = dst.size ∧
      (∀ k, k < srcEnd → rD.2.2.2.2.getD k 0 = a.getD k 0) ∧ r.1 = srcEnd := by
  intro f
  induction f with
  | zero => intro st szE tab out r h; simp [fwd1Chunks] at h
  | succ f ih =>
    intro st szE tab out r h hS h8 hszle hE0 hst hcnt fD szD dI sd tabD dst hsz hD0 hfuel hsd htab hag hdst hpos
    obtain ⟨g, rfl⟩ : ∃ g, fD = g + 1 := by
      rcases Nat.eq_zero_or_pos fD with h0 | h0
      · rw [h0, Nat.zero_mul] at hfuel
        omega
      · exact ⟨fD - 1, by omega⟩
    simp only [fwd1Chunks] at h
    by_cases hlt : st < srcEnd
    · rw [if_pos hlt] at h
      generalize hedef : (if st + szE ≥ srcEnd then srcEnd else st + szE) = e at h
      obtain ⟨he1, he2, he3, he4⟩ := chunkEnd_spec hlt hE0 hedef
      obtain ⟨hszD, he5⟩ := chunkEnd_dec hedef hsz
      have hn8 : min (srcEnd - st) 8 = min (e - st) 8 := by
        rcases he4 with he4 | he4
        · rw [he4]
        · rcases h8 with h8 | h8
          · rw [Nat.min_eq_right (by omega), Nat.min_eq_right (by omega)]
          · rw [if_pos h8] at hedef
            rw [hedef]
      rw [hn8] at h
      split at h
      · cases h
      · rename_i lit0 hlit0
        split at h
        · rename_i lfin hloop
          split at h
          · rename_i sfin htail
            split at h
            · cases h
            · rename_i bits hbits
              by_cases hfit : out.size + (packFast bits).size > dstLen
              · rw [if_pos hfit] at h
                cases h
              rw [if_neg hfit] at h
              have hsrc := extract_of_pre (pre_trans (fwd1Chunks_pre _ _ _ _ _ _ h) hS)
              obtain ⟨sd1, tab1, dst1, hstep, hsd1, htab1, hsz1, hag1, hstab⟩ := chunk1_step (Sarr := Sarr) (zD := zD)
                (szD := szD) (dI := dI) (fD := g) hpar hmm hlpc ha he1 he2 hea hszD (Nat.le_trans he3 (Nat.add_le_add_left hszle st)) hz hz64 hzmax hcnt
                hlit0 hloop htail hbits hsrc hsd htab hag hdst
              have hfuel' : (srcEnd - e) + (e - st) ≤ g * (e - st) := by
                rcases he5 with he5 | he5
                · have hfD : (srcEnd - st) + (e - st) ≤ (g + 1) * (e - st) := by
                    rw [he5, Nat.add_mul, Nat.one_mul]
                    exact Nat.add_le_add_right (Nat.le_mul_of_pos_left _ (by
                      rcases Nat.eq_zero_or_pos g with h0 | h0
                      · rw [h0, Nat.zero_add, Nat.one_mul] at hfuel
                        omega
                      · exact h0)) _
                  exact chunk_fuel_step hfD hlt he1 he2 (Or.inl he5)
                · rw [← he5] at hfuel
                  exact chunk_fuel_step hfuel hlt he1 he2 he4
              obtain ⟨rD, hrD, q1, q2, q3, q4, q5, q6⟩ := ih e (e - st) sfin.tab _ r h hS
                (by rcases he4 with he4 | he4 <;> omega) (by omega) (by omega) he2 hstab g (e - st) (e - st) sd1
                tab1 dst1 (Or.inl rfl) (by omega) hfuel' hsd1 htab1 hag1 (by rw [hsz1]; exact hdst) (Or.inr rfl)
              refine ⟨rD, ?_, q1, q2, q3, by rw [q4, hsz1], q5, q6⟩
              rw [hstep]
              rw [Array.size_append] at hrD
              exact hrD
          · cases h
          · cases h
        · cases h
        · cases h
    · rw [if_neg hlt] at h
      injection h with h
      subst h
      simp only [inv1Chunks]
      rw [if_neg hlt]
      rcases hpos with hp | hp
      · omega
      · exact ⟨(dI, st, szD, out.size, dst), rfl, hp, by show st = srcEnd; omega, rfl, rfl,
          fun k hk => hag k (by omega), by show st = srcEnd; omega⟩

/-! ## the whole block -/

/-- the flags byte `lo | p | lpc << 4` (`p` the data type bits): `logPosChecks`, the literal order and `p` read back -/
theorem flags_bits (lo p lpc : Nat) (hlo : lo ≤ 1) (hp : p = 0 ∨ p = 2 ∨ p = 4 ∨ p = 8) (hlpc : 2 ≤ lpc ∧ lpc ≤ 8) :
    ((lo ||| p ||| (lpc <<< 4)) % 256) >>> 4 = lpc ∧ ((lo ||| p ||| (lpc <<< 4)) % 256) % 2 = lo ∧
    ((lo ||| p ||| (lpc <<< 4)) % 256) &&& 0x0E = p := by
  have hl : lo = 0 ∨ lo = 1 := by omega
  have hq : lpc = 2 ∨ lpc = 3 ∨ lpc = 4 ∨ lpc = 5 ∨ lpc = 6 ∨ lpc = 7 ∨ lpc = 8 := by omega
  rcases hl with rfl | rfl <;> rcases hp with rfl | rfl | rfl | rfl <;>
    rcases hq with rfl | rfl | rfl | rfl | rfl | rfl | rfl <;> exact ⟨rfl, rfl, rfl⟩

/-- the flags byte written by Forward gives Inverse (bitstream version 4 or later) the same parameters -/
theorem flags_spec (lo ty lpc : Nat) (hlo : lo ≤ 1) (hlpc : 2 ≤ lpc ∧ lpc ≤ 8) :
    ((lo ||| (fwdParams1 ty).2.2 ||| (lpc <<< 4)) % 256) >>> 4 = lpc ∧
    ((lo ||| (fwdParams1 ty).2.2 ||| (lpc <<< 4)) % 256) % 2 = lo ∧
    ∀ v, 4 ≤ v → invParams1 v ((lo ||| (fwdParams1 ty).2.2 ||| (lpc <<< 4)) % 256)
      = ((fwdParams1 ty).1, (fwdParams1 ty).2.1, 8) := by
  have hcases := fwdParams1_cases ty
  obtain ⟨b1, b2, b3⟩ := flags_bits lo (fwdParams1 ty).2.2 lpc hlo
    (by rcases hcases with h | h | h | h <;> rw [h] <;> decide) hlpc
  refine ⟨b1, b2, fun v hv => ?_⟩
  unfold invParams1
  rw [if_pos hv, b3]
  rcases hcases with h | h | h | h <;> rw [h] <;> rfl

theorem push4_eq (out : Array Nat) (b0 b1 b2 b3 : Nat) :
    (((out.push b0).push b1).push b2).push b3 = out ++ [b0, b1, b2, b3] := by
  apply Array.ext'
  simp

/-- a successful Forward: nothing for an empty block or destination; else the header, the chunks and the last four
    bytes of the block, shorter than the block -/
theorem rolzForward_ok {cs lpc : Nat} {hasCtx : Bool} {dt : Nat} {src t : List Nat} {dstLen : Nat}
    (h : rolzForward cs lpc hasCtx dt src dstLen = .ok t) :
    ((src.length = 0 ∨ dstLen = 0) ∧ t = []) ∨
    (MIN_BLOCK_SIZE ≤ src.length ∧ src.length ≤ MAX_BLOCK_SIZE ∧ ∃ st sz tab out,
      fwd1Chunks src.toArray (capsOf (min src.length cs)) dstLen (src.length - 4) (fwdParams1 (effType hasCtx dt src)).1
        (fwdParams1 (effType hasCtx dt src)).2.1 lpc (if src.length < 2 ^ 17 then 0 else 1)
        (src.length / min src.length cs + 2) 0 (min src.length cs) ⟨matches0 lpc, Array.replicate HASH_SIZE 0⟩
        #[(src.length >>> 24) % 256, (src.length >>> 16) % 256, (src.length >>> 8) % 256, src.length % 256,
          ((if src.length < 2 ^ 17 then 0 else 1) ||| (fwdParams1 (effType hasCtx dt src)).2.2 ||| (lpc <<< 4)) % 256]
        = .ok (st, sz, tab, out) ∧
      st + 4 = src.length ∧ out.size + 4 < src.length ∧
      t = (out ++ [src.toArray.getD st 0, src.toArray.getD (st + 1) 0, src.toArray.getD (st + 2) 0,
        src.toArray.getD (st + 3) 0]).toList) := by
  unfold rolzForward at h
  by_cases h0 : src.length = 0 ∨ dstLen = 0
  · rw [if_pos h0] at h
    injection h with h
    exact Or.inl ⟨h0, h.symm⟩
  rw [if_neg h0] at h
  by_cases h1 : src.length < MIN_BLOCK_SIZE
  · rw [if_pos h1] at h
    cases h
  rw [if_neg h1] at h
  by_cases h2 : src.length > MAX_BLOCK_SIZE
  · rw [if_pos h2] at h
    cases h
  rw [if_neg h2] at h
  by_cases h3 : dstLen < maxEncodedLen1 src.length
  · rw [if_pos h3] at h
    cases h
  rw [if_neg h3] at h
  dsimp only at h
  rw [List.size_toArray] at h
  right
  refine ⟨by omega, by omega, ?_⟩
  split at h
  · rename_i st sz tab out hch
    by_cases h4 : out.size + 4 > dstLen
    · rw [if_pos h4] at h
      cases h
    rw [if_neg h4] at h
    split at h
    · rename_i b0 b1 b2 b3 e0 e1 e2 e3
      by_cases h5 : st + 4 ≠ src.length
      · rw [if_pos h5] at h
        cases h
      rw [if_neg h5] at h
      rw [rd1_eq (by omega)] at e0 e1 e2 e3
      injection e0 with e0
      injection e1 with e1
      injection e2 with e2
      injection e3 with e3
      rw [← e0, ← e1, ← e2, ← e3, push4_eq] at h
      by_cases h7 : (out ++ [src.toArray.getD st 0, src.toArray.getD (st + 1) 0, src.toArray.getD (st + 2) 0,
          src.toArray.getD (st + 3) 0]).size ≥ src.length
      · rw [if_pos h7] at h
        cases h
      rw [if_neg h7] at h
      injection h with h
      rw [size_appendList] at h7
      simp only [List.length_cons, List.length_nil] at h7
      exact ⟨st, sz, tab, out, hch, by omega, by omega, h.symm⟩
    · cases h
  · cases h
  · cases h

theorem rolzForward_len {cs lpc : Nat} {hasCtx : Bool} {dt : Nat} {src t : List Nat} {dstLen : Nat}
    (h : rolzForward cs lpc hasCtx dt src dstLen = .ok t) : t = [] ∨ t.length < src.length := by
  rcases rolzForward_ok h with ⟨_, ht⟩ | ⟨_, _, st, sz, tab, out, _, _, hlen, ht⟩
  · exact Or.inl ht
  · right
    rw [ht, Array.length_toList, size_appendList]
    exact hlen

theorem header_spec {out : Array Nat} {n f : Nat} (hn : n < 2 ^ 32)
    (h : Pre #[(n >>> 24) % 256, (n >>> 16) % 256, (n >>> 8) % 256, n % 256, f] out) :
    beN out.toList.toArray 0 4 = n ∧ out.getD 4 0 = f := by
  have q0 : out.getD 0 0 = (n >>> 24) % 256 := h.2 0 (by simp)
  have q1 : out.getD 1 0 = (n >>> 16) % 256 := h.2 1 (by simp)
  have q2 : out.getD 2 0 = (n >>> 8) % 256 := h.2 2 (by simp)
  have q3 : out.getD 3 0 = n % 256 := h.2 3 (by simp)
  have q4 : out.getD 4 0 = f := h.2 4 (by simp)
  refine ⟨?_, q4⟩
  rw [beN4]
  simp only [Nat.zero_add, toList_getD]
  rw [q0, q1, q2, q3, be4_digits, Nat.mod_eq_of_lt hn]

/-- Inverse (bitstream version 4 or later) on a stream `S` that starts with the block length `n` and a flags byte:
    once the chunk loop has restored `a[0, n - 4)` and stopped 4 bytes before the end of `S`, these bytes complete
    the block -/
theorem rolzInverse_of_chunks {cs lpc : Nat} {hasBsv : Bool} {bsv : Nat} {S : List Nat} {a dst0 : Array Nat} {n mm delta lo : Nat}
    (hbsv : hasBsv = true → 4 ≤ bsv) (hS : 5 ≤ S.length ∧ S.length ≤ MAX_BLOCK_SIZE)
    (hn : beN S.toArray 0 4 = n) (hn4 : 4 < n) (hnd : n ≤ dst0.size)
    (hlpcf : S.toArray.getD 4 0 >>> 4 = lpc) (hlof : S.toArray.getD 4 0 % 2 = lo) (hlpc : 2 ≤ lpc ∧ lpc ≤ 8)
    (hprm : ∀ v, 4 ≤ v → invParams1 v (S.toArray.getD 4 0) = (mm, delta, 8))
    {dI stD szD sI : Nat} {dstD : Array Nat}
    (hch : inv1Chunks S.toArray (n - 4) mm delta lpc lo 8 false ((n - 4) / min dst0.size cs + 2) 0 (min dst0.size cs) 0 5
      ⟨Array.replicate (min dst0.size cs) 0, Array.replicate (min dst0.size cs / 5) 0,
        Array.replicate (min dst0.size cs / 4) 0, Array.replicate (min dst0.size cs / 4) 0⟩
      ⟨Array.replicate (HASH_SIZE * 2 ^ lpc) 0, Array.replicate HASH_SIZE 0⟩ dst0 = .ok (dI, stD, szD, sI, dstD))
    (h1 : dI = szD) (h2 : stD = n - 4) (h3 : sI + 4 = S.length) (h4 : dstD.size = dst0.size)
    (hag : ∀ k, k < n - 4 → dstD.getD k 0 = a.getD k 0)
    (htr : ∀ j, j < 4 → S.toArray.getD (sI + j) 0 = a.getD (n - 4 + j) 0) :
    ∃ dst, rolzInverse cs lpc hasBsv bsv S dst0 = .ok (n, dst) ∧ dst.size = dst0.size ∧
      ∀ k, k < n → dst.getD k 0 = a.getD k 0 := by
  have hv4 : 4 ≤ (if hasBsv = true then bsv else 6) := by
    by_cases hb : hasBsv = true
    · rw [if_pos hb]
      exact hbsv hb
    · rw [if_neg hb]
      omega
  have hold : decide (hasBsv = true ∧ bsv < 4) = false := by
    rw [decide_eq_false_iff_not]
    intro hc
    have := hbsv hc.1
    omega
  have hi : dI + stD - szD = n - 4 := by omega
  have t0 := htr 0 (by omega)
  have t1 := htr 1 (by omega)
  have t2 := htr 2 (by omega)
  have t3 := htr 3 (by omega)
  rw [Nat.add_zero, Nat.add_zero] at t0
  refine ⟨(((dstD.setIfInBounds (n - 4) (S.toArray.getD sI 0)).setIfInBounds (n - 4 + 1) (S.toArray.getD (sI + 1) 0)).setIfInBounds
    (n - 4 + 2) (S.toArray.getD (sI + 2) 0)).setIfInBounds (n - 4 + 3) (S.toArray.getD (sI + 3) 0), ?_, ?_, ?_⟩
  · unfold rolzInverse
    rw [if_neg (by omega), if_neg (by omega), if_neg (by omega)]
    dsimp only
    rw [hn, if_neg (by omega), hlpcf, if_neg (by omega), hlof, hprm _ hv4, hold]
    simp only
    rw [hch]
    simp only
    have hsz : S.toArray.size = S.length := List.size_toArray
    have hc : ¬ (n - 4 + 4 > dstD.size ∨ sI + 4 ≠ S.toArray.size) := by omega
    rw [hi, if_neg hc, show n - 4 + 4 = n by omega]
  · simp only [Array.size_setIfInBounds]
    exact h4
  · intro k hk
    simp only [getD_setIfInBounds, Array.size_setIfInBounds]
    by_cases k3 : k = n - 4 + 3
    · rw [if_pos ⟨k3, by omega⟩, t3, k3]
    rw [if_neg (fun hc => k3 hc.1)]
    by_cases k2 : k = n - 4 + 2
    · rw [if_pos ⟨k2, by omega⟩, t2, k2]
    rw [if_neg (fun hc => k2 hc.1)]
    by_cases k1 : k = n - 4 + 1
    · rw [if_pos ⟨k1, by omega⟩, t1, k1]
    rw [if_neg (fun hc => k1 hc.1)]
    by_cases k0 : k = n - 4
    · rw [if_pos ⟨k0, by omega⟩, t0, k0]
    rw [if_neg (fun hc => k0 hc.1)]
    exact hag k (by omega)

/-- **ROLZ round trip.**  If Forward (chunk size in `[64, 2^24]`, a block of bytes, a destination of at least
    `MaxEncodedLen` of the block) accepts the block, Inverse (codec of the same chunk size and `logPosChecks`,
    bitstream version 4 or later) of its output into any destination of at least the original size restores the block. -/
theorem rolz_roundtrip {cs lpc : Nat} {hasCtx : Bool} {dt : Nat} {src t : List Nat} {dstLen : Nat} (hasBsv : Bool)
    (bsv : Nat) (dst0 : Array Nat) (hcs : 64 ≤ cs ∧ cs ≤ 2 ^ 24) (hlpc : 2 ≤ lpc ∧ lpc ≤ 8) (hb : ∀ x ∈ src, x < 256)
    (hbsv : hasBsv = true → 4 ≤ bsv) (hdst : maxEncodedLen1 src.length ≤ dstLen) (hd : src.length ≤ dst0.size)
    (h : rolzForward cs lpc hasCtx dt src dstLen = .ok t) :
    ∃ dst, rolzInverse cs lpc hasBsv bsv t dst0 = .ok (src.length, dst) ∧ dst.size = dst0.size ∧
      ∀ k, k < src.length → dst.getD k 0 = src.getD k 0 := by
  rcases rolzForward_ok h with ⟨h0, ht⟩ | ⟨hmin, hmax, st, sz, tab, out, hch, hst4, hlen, ht⟩
  · have hn : src.length = 0 := by
      rcases h0 with h0 | h0
      · exact h0
      · unfold maxEncodedLen1 at hdst
        split at hdst <;> omega
    refine ⟨dst0, ?_, rfl, fun k hk => by omega⟩
    unfold rolzInverse
    rw [ht, if_pos (Or.inl List.length_nil), hn]
  · have hn64 : 64 ≤ src.length := hmin
    have hnmax : src.length ≤ 1073741824 := hmax
    have hn : src.toArray.size = src.length := List.size_toArray
    have hlo : (if src.length < 2 ^ 17 then 0 else 1) ≤ 1 := by split <;> omega
    obtain ⟨hpar, hmm⟩ := fwdParams1_ok (effType hasCtx dt src)
    generalize (if src.length < 2 ^ 17 then 0 else 1) = lo at hch hlo
    have ha : ∀ k, src.toArray.getD k 0 < 256 := by
      intro k
      rw [toArray_getD, List.getD_eq_getElem?_getD]
      by_cases hk : k < src.length
      · rw [List.getElem?_eq_getElem hk]
        exact hb _ (List.getElem_mem hk)
      · rw [List.getElem?_eq_none (by omega)]
        decide
    have hst : st = src.length - 4 := by omega
    subst hst
    -- the output as the decoder sees it: header, chunks, last four bytes
    have hS : Pre out (out ++ [src.toArray.getD (src.length - 4) 0, src.toArray.getD (src.length - 4 + 1) 0,
        src.toArray.getD (src.length - 4 + 2) 0, src.toArray.getD (src.length - 4 + 3) 0]) := pre_appendL _ _
    have htr := at_appendL out [src.toArray.getD (src.length - 4) 0, src.toArray.getD (src.length - 4 + 1) 0,
      src.toArray.getD (src.length - 4 + 2) 0, src.toArray.getD (src.length - 4 + 3) 0]
    have hsz := size_appendList out [src.toArray.getD (src.length - 4) 0, src.toArray.getD (src.length - 4 + 1) 0,
      src.toArray.getD (src.length - 4 + 2) 0, src.toArray.getD (src.length - 4 + 3) 0]
    simp only [List.length_cons, List.length_nil] at hsz
    generalize out ++ [src.toArray.getD (src.length - 4) 0, src.toArray.getD (src.length - 4 + 1) 0,
      src.toArray.getD (src.length - 4 + 2) 0, src.toArray.getD (src.length - 4 + 3) 0] = OUT at ht hS htr hsz
    have hpre0 := fwd1Chunks_pre _ _ _ _ _ _ hch
    obtain ⟨hde, hfl⟩ := header_spec (by omega) (pre_trans hpre0 hS)
    have hout5 : 5 ≤ out.size := hpre0.1
    -- the chunk loop: first chunk size `min(len(dst), cs)` for the decoder, `min(len(src), cs)` for the encoder
    have hzD : 0 < min dst0.size cs := by omega
    obtain ⟨rD, hdc, c1, c2, c3, c4, c5, _⟩ := chunks1_sim (Sarr := OUT) (zD := min dst0.size cs)
      hpar hmm hlpc.2 ha (by rw [hn]; omega) (by omega) (by omega) (by omega) _ 0 (min src.length cs) _ _ _ hch
      hS (Or.inl (by omega)) (Nat.le_refl _) (by omega) (Nat.zero_le _)
      (Array.size_replicate ..) ((src.length - 4) / min dst0.size cs + 2) (min dst0.size cs) 0
      ⟨Array.replicate (min dst0.size cs) 0, Array.replicate (min dst0.size cs / 5) 0,
        Array.replicate (min dst0.size cs / 4) 0, Array.replicate (min dst0.size cs / 4) 0⟩
      ⟨Array.replicate (HASH_SIZE * 2 ^ lpc) 0, Array.replicate HASH_SIZE 0⟩ dst0 (by omega) hzD (chunk_fuel (Nat.le_refl _) hzD)
      ⟨Array.size_replicate .., Array.size_replicate .., Array.size_replicate .., Array.size_replicate ..⟩
      ⟨Array.size_replicate .., Array.size_replicate ..⟩ (fun k hk => absurd hk (Nat.not_lt_zero k)) (by omega) (Or.inl (by omega))
    obtain ⟨dI, stD, szD, sI, dstD⟩ := rD
    simp only at c1 c2 c3 c4 c5 hdc
    rw [show (#[src.length >>> 24 % 256, src.length >>> 16 % 256, src.length >>> 8 % 256, src.length % 256,
      (lo ||| (fwdParams1 (effType hasCtx dt src)).2.2 ||| lpc <<< 4) % 256] : Array Nat).size = 5 from rfl] at hdc
    obtain ⟨hf1, hf2, hinv⟩ := flags_spec lo (effType hasCtx dt src) lpc hlo hlpc
    obtain ⟨dst, hinvr, hdsz, hdag⟩ := rolzInverse_of_chunks (cs := cs) (S := OUT.toList) (a := src.toArray) (dst0 := dst0)
      (lpc := lpc) (lo := lo) hbsv
      (by rw [Array.length_toList]; unfold MAX_BLOCK_SIZE; omega) hde (by omega) hd
      (by rw [Array.toArray_toList, hfl]; exact hf1) (by rw [Array.toArray_toList, hfl]; exact hf2) hlpc
      (by rw [Array.toArray_toList, hfl]; exact hinv) (by rw [Array.toArray_toList]; exact hdc) c1 c2
      (by rw [Array.length_toList, c3]; omega) c4 c5
      (fun j hj => by
        rw [Array.toArray_toList, c3, htr j hj]
        have : j = 0 ∨ j = 1 ∨ j = 2 ∨ j = 3 := by omega
        rcases this with rfl | rfl | rfl | rfl <;> rfl)
    refine ⟨dst, by rw [ht]; exact hinvr, hdsz, fun k hk => ?_⟩
    rw [hdag k hk, toArray_getD]

end Kanzi.ROLZ
