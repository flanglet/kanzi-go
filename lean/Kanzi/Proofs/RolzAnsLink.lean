/-
Link between the Option-valued ANS decoder functions used by the model of `rolzCodec1.Inverse`
(`ans0ChunksB`, `ans0DecodeB`, `ans1ChunksB`, `ansLitDecode` of `Kanzi/Model/ROLZ1.lean`) and the total model of
`ANSRangeDecoder.Read` (`Kanzi.AnsDec.read` of `Kanzi/Model/AnsDec.lean`).  Proofs for
`Kanzi/Properties/C03_rolz_link.lean`.

  * fuel: the chunk loops of the Option-valued functions are given `count` units of fuel and return
    `some ([], bs, ..)` (a SHORT block, not `none`) when it runs out.  `ans0ChunksB_fuel` / `ans1ChunksB_fuel`:
    with a positive chunk size any fuel `≥ count` gives the same result, so that branch is never the reason of
    a result: the functions compute the fuel-free chunk loop.
  * raw path (`count ≤ 32`): the two models are the same function of the input, for every decoder object.
-/
import Kanzi.Model.ROLZ1
import Kanzi.Model.AnsDec
import Kanzi.Proofs.AnsDec
import Kanzi.Proofs.AnsDecAgree1

namespace Kanzi.ROLZ
open Kanzi.Bits

theorem ans0ChunksB_fuel {cs : Nat} (hcs : 0 < cs) (k : Nat) :
    ∀ (f count buf : Nat) (bs : Bits), count ≤ f →
      ans0ChunksB (f + k) cs count buf bs = ans0ChunksB f cs count buf bs
  | 0, count, buf, bs, h => by
    obtain rfl : count = 0 := Nat.le_zero.1 h
    cases k <;> rfl
  | f + 1, count, buf, bs, h => by
    rw [Nat.add_right_comm, ans0ChunksB, ans0ChunksB]
    by_cases hc : count = 0
    · rw [if_pos hc, if_pos hc]
    · simp only [fun b r => ans0ChunksB_fuel hcs k f (count - min cs count) b r (by omega)]

theorem ans1ChunksB_fuel {cs : Nat} (hcs : 0 < cs) (k : Nat) :
    ∀ (f count : Nat) (prev : List (List Nat)) (buf : Nat) (bs : Bits), count ≤ f →
      ans1ChunksB (f + k) cs count prev buf bs = ans1ChunksB f cs count prev buf bs
  | 0, count, prev, buf, bs, h => by
    obtain rfl : count = 0 := Nat.le_zero.1 h
    cases k <;> rfl
  | f + 1, count, prev, buf, bs, h => by
    rw [Nat.add_right_comm, ans1ChunksB, ans1ChunksB]
    by_cases hc : count = 0
    · rw [if_pos hc, if_pos hc]
    · simp only [fun p b r => ans1ChunksB_fuel hcs k f (count - min cs count) p b r (by omega)]

/-- the frequency-group loop of `decodeHeader` (both orders; fuel = alphabet size, `count` = alphabet size - 1,
groups of 6 or 8): any fuel `≥ count` gives the same result -/
theorem decFreqChunks_fuel {chk : Nat} (hchk : 0 < chk) (llr scale bound k : Nat) :
    ∀ (f count : Nat) (bs : Bits), count ≤ f →
      Kanzi.EntSmall.decFreqChunks (f + k) chk llr scale bound count bs
        = Kanzi.EntSmall.decFreqChunks f chk llr scale bound count bs
  | 0, count, bs, h => by
    obtain rfl : count = 0 := Nat.le_zero.1 h
    cases k <;> rfl
  | f + 1, count, bs, h => by
    rw [Nat.add_right_comm, Kanzi.EntSmall.decFreqChunks, Kanzi.EntSmall.decFreqChunks]
    by_cases hc : count = 0
    · rw [if_pos hc, if_pos hc]
    · simp only [fun r => decFreqChunks_fuel hchk llr scale bound k f (count - min chk count) r (by omega)]

/-- as used by `decodeFreqTable`: the fuel `len(alphabet)` of the model is at least the `len(alphabet) - 1`
frequencies to read, and the group size is 6 or 8 -/
theorem decodeFreqTable_fuel (a : List Nat) (lr k : Nat) (bs : Bits) :
    Kanzi.EntSmall.decFreqChunks (a.length + k) (Kanzi.EntSmall.chkSizeOf a.length) (Kanzi.EntSmall.llrOf lr)
        (2 ^ lr) (2 ^ lr) (a.length - 1) bs
      = Kanzi.EntSmall.decFreqChunks a.length (Kanzi.EntSmall.chkSizeOf a.length) (Kanzi.EntSmall.llrOf lr)
        (2 ^ lr) (2 ^ lr) (a.length - 1) bs := by
  have hchk : 0 < Kanzi.EntSmall.chkSizeOf a.length := by
    unfold Kanzi.EntSmall.chkSizeOf; split <;> decide
  exact decFreqChunks_fuel hchk _ _ _ k a.length (a.length - 1) bs (by omega)

theorem ans0DecodeB_fuel {cs : Nat} (hcs : 0 < cs) (bs : Bits) (count buf k : Nat) :
    ans0DecodeB bs count cs buf =
      if count ≤ 32 then (Kanzi.EntSmall.readBytes count bs).map (fun p => (p.1, p.2, buf))
      else ans0ChunksB (count + k) cs count buf bs := by
  unfold ans0DecodeB
  rw [ans0ChunksB_fuel hcs k count count buf bs (Nat.le_refl _)]

theorem ansLitDecode_fuel (litOrder : Nat) (old : Bool) (bs : Bits) (n k : Nat) :
    ansLitDecode litOrder old bs n =
      if litOrder = 0 then
        if n ≤ 32 then (Kanzi.EntSmall.readBytes n bs).map (fun p => (p.1, p.2))
        else (ans0ChunksB (n + k) (if old then 32768 else 16384) n 0 bs).map (fun p => (p.1, p.2.1))
      else if n ≤ 32 then Kanzi.EntSmall.readBytes n bs
      else ans1ChunksB (n + k) ((if old then 32768 else 16384) * 256) n Kanzi.Ans1.freshTables 0 bs := by
  have h0 : 0 < (if old then 32768 else 16384) := by cases old <;> decide
  have h1 : 0 < (if old then 32768 else 16384) * 256 := by cases old <;> decide
  unfold ansLitDecode
  by_cases ho : litOrder = 0
  · simp only [ho, if_true]
    rw [ans0DecodeB_fuel h0 bs n 0 k]
    by_cases hn : n ≤ 32
    · simp only [hn, if_true, Option.map_map]
      rfl
    · simp only [hn, if_false]
  · simp only [ho, if_false]
    rw [ans1ChunksB_fuel h1 k n n _ 0 bs (Nat.le_refl _)]

/-! ## the raw path: blocks of at most 32 bytes -/

open Kanzi.AnsDec in
/-- `count ≤ 32`: `Read` is one `ReadArray`; the Option-valued function and the total model are the same function
of the input, whatever the decoder object: `none` exactly for `stop eos`, `some` exactly for `ret count false`
with the same bytes and rest; the payload buffer is untouched in both. -/
theorem ans0DecodeB_raw (p : Params) (s : St) (bs : Bits) (count cs : Nat) (h : count ≤ 32) :
    (ans0DecodeB bs count cs s.buf.size = none ↔ (AnsDec.read p s bs count).cls = .stop .eos) ∧
    (∀ out rest b, ans0DecodeB bs count cs s.buf.size = some (out, rest, b) ↔
      ((AnsDec.read p s bs count).cls = .ret count false ∧ (AnsDec.read p s bs count).out = out ∧
        (AnsDec.read p s bs count).rest = rest ∧ (AnsDec.read p s bs count).bufSz = b)) := by
  unfold ans0DecodeB AnsDec.read
  simp only [h, if_true]
  cases Kanzi.EntSmall.readBytes count bs with
  | none => simp
  | some x => simp

/-! ## why the chunked path cannot be linked unconditionally: stale bytes of `this.buffer`

A chunk of 48 bytes over the uniform table of log range 8 (slot `i` = symbol `i`, frequency 1), announced payload
`sz = 0`, four zero states.  Every `decodeSymbol` refills (2 bytes), so the 12 rounds consume 96 bytes of
`this.buffer`, of which `decodeChunkV2` has cleared 64. -/

section Stale
open Kanzi.EntSmall Kanzi.AnsDec

def staleF2s : Array Nat := (List.range 256).toArray
def staleSyms : Array DecSym := ((List.range 256).map fun i => (⟨i, 1⟩ : DecSym)).toArray
def stalePre : Pre := ⟨0, 0, 0, 0, 0, []⟩
/-- VarInt 0, four 32-bit zero states, no payload -/
def staleBits : Bits := writeVarInt 0 ++ List.replicate 128 false

/-- the decoding table of `n` symbols of frequency 1: slot `i` holds symbol `i` with cumulated frequency `i` -/
theorem mkDecTable_ones (lr : Nat) (hlr : 2 ≤ 2 ^ lr) (n : Nat) :
    (mkDecTable (List.replicate n 1) lr).toList = (List.range n).map fun i => (i, (⟨i, 1⟩ : DecSym)) := by
  have step : ∀ (n k : Nat) (acc : Array (Nat × DecSym)),
      (List.replicate n 1).foldl (fun (p : Array (Nat × DecSym) × Nat × Nat) fi =>
        if fi = 0 then (p.1, p.2.1, p.2.2 + 1)
        else (p.1 ++ Array.replicate fi (p.2.2, decSymReset p.2.1 fi lr), p.2.1 + fi, p.2.2 + 1)) (acc, k, k)
      = (acc ++ ((List.range' k n).map fun i => (i, (⟨i, 1⟩ : DecSym))).toArray, k + n, k + n) := by
    intro n
    induction n with
    | zero => intro k acc; simp
    | succ n ih =>
      intro k acc
      have h1 : min 1 (2 ^ lr - 1) = 1 := by omega
      rw [List.replicate_succ, List.foldl_cons, if_neg Nat.one_ne_zero, ih (k + 1), List.range'_succ]
      simp [decSymReset, h1, Nat.add_assoc, Nat.add_comm 1 n]
  rw [mkDecTable, step, List.range_eq_range']
  simp

/-- the table of the Option-valued model and the flat arrays of the total model are the same table -/
theorem stale_table : (mkDecTable (List.replicate 256 1) 8).toList
    = (List.range 256).map (fun i => (staleF2s.getD i 0, staleSyms.getD i ⟨0, 0⟩)) := by
  rw [mkDecTable_ones 8 (by decide)]
  refine List.map_congr_left fun i hi => ?_
  have hi : i < 256 := List.mem_range.1 hi
  simp [staleF2s, staleSyms, Array.getD, hi]

/-- both models read the same chunk prefix -/
theorem stale_pre : (chunkPre staleBits).toOpt.map (fun q => (q.sz, q.st0, q.st1, q.st2, q.st3, q.rest.length))
    = some (0, 0, 0, 0, 0, 0) := by decide +kernel

/-- the Option-valued model: 48 zero bytes, whatever the decoder object holds -/
theorem stale_opt : ans0DecodeChunk (mkDecTable (List.replicate 256 1) 8) 8 48 staleBits
    = some (List.replicate 48 0, []) := by
  rw [Array.ext' (mkDecTable_ones 8 (by decide) 256 : _ = (List.toArray _).toList)]
  decide +kernel

/-- `ReadArray` of 0 bytes and the 64-byte clear, on a 256-byte buffer full of `0xFF` left by an earlier chunk -/
theorem stale_load : (loadPayload 0 (bufAlloc 48 (Array.replicate 256 255)) []).toOpt.map (fun p => p.1.toList)
    = some (List.replicate 64 0 ++ List.replicate 192 255) := by decide +kernel

/-- the total model on that buffer: the last 12 bytes are `0xFF` -/
theorem stale_total : (chunkBody 0 8 48 staleF2s staleSyms (List.replicate 64 0 ++ List.replicate 192 255).toArray
    stalePre).toOpt = some (List.replicate 36 0 ++ List.replicate 12 255) := by decide +kernel

/-- the total model on a new (zero) buffer: agrees with the Option-valued model -/
theorem stale_fresh : (chunkBody 0 8 48 staleF2s staleSyms (bufAlloc 48 #[]) stalePre).toOpt
    = some (List.replicate 48 0) := by decide +kernel

end Stale

end Kanzi.ROLZ
