/-
Proofs for `Kanzi/Model/BlockGen2.lean`: finding F43 and its repair.  Six SRT stages expand EVERY
block of 1024 bytes to at least 2560 bytes (each stage writes a header of at least 256 bytes), more than the
decoder's bound `maxTransformLength 1024 = 2304` on the pre-transform length.  Since fix F43 the encoder
compares with that bound and stores such a block untransformed (`srt6_fallback`); without the comparison
the encoding task succeeds and the decoding task answers "Invalid compressed block size"
(`srt6_rejected_without_bs`).
-/
import Kanzi.Proofs.BlockGen3

namespace Kanzi.BlockGen2
open Kanzi.Bits Kanzi.TrSmall Kanzi.Block Kanzi.BlockGen

/-- into a destination of at least `MaxEncodedLen` bytes SRT never declines, and adds between 256 and 1280 bytes -/
theorem srt_fwd_len (x : List Nat) (d : Nat) (hb : Bytes x) (hne : x ≠ []) (hl : x.length < 2147483648)
    (hdst : SRT.maxEncodedLen x.length ≤ d) :
    ∃ t, SRT.srtForward x d = .ok t ∧ Bytes t ∧ x.length + 256 ≤ t.length ∧ t.length ≤ x.length + 1280 := by
  have hfreq := SRT.count_lt_of_length_lt x (2 ^ 31) (by omega)
  obtain ⟨data, h1, h2, _⟩ := SRT.srtForward_spec 0 x d hb hne hdst hfreq
  have hh := SRT.encodeHeader_length (SRT.freqsOf x).toList (SRT.freqsOf_toList_lt x hb _ hfreq)
  rw [Array.length_toList, SRT.freqsOf_size x hb] at hh
  refine ⟨_, h1, SRT.srtForward_bytes 0 x _ d (by decide) h1, ?_, ?_⟩
  · rw [List.length_append, h2]; omega
  · rw [List.length_append, h2]; omega

/-- a chain of SRT stages: every stage is applied, the block grows by 256..1280 bytes per stage -/
theorem srt_chain (req l0 : Nat) (hl0 : req ≤ l0) (h31 : req < 2147483648) :
    ∀ (trs : List Tr2) (i : Nat) (even : Bool) (dt : Nat) (cur : List Nat) (f : Nat),
      (∀ t ∈ trs, t = Kind.srt.tr) →
      Bytes cur → cur ≠ [] → cur.length + 1280 * trs.length ≤ req →
      cur.length + 256 * trs.length ≤ (seqFwdGo2 req l0 trs i even dt cur f).1.length ∧
      (seqFwdGo2 req l0 trs i even dt cur f).1.length ≤ cur.length + 1280 * trs.length := by
  intro trs
  induction trs with
  | nil => intro i even dt cur f _ _ _ _; simp [seqFwdGo2]
  | cons t rest ih =>
    intro i even dt cur f hall hb hne hlen
    have ht := hall t (List.mem_cons_self ..)
    subst ht
    rw [List.length_cons, Nat.mul_succ] at hlen
    rw [List.length_cons, Nat.mul_succ, Nat.mul_succ]
    have ih' := fun dt' t => ih (i + 1) (!even) dt' t (clearFlag f i) (fun u hu => hall u (List.mem_cons_of_mem _ hu))
    -- `omega` runs into the recursion limit on some goals with these constants (the last one below, done by hand,
    -- and those that need `0 ≤ 1280 * n`): the products are opaque to it from here on
    generalize 1280 * rest.length = K at hlen ih' ⊢
    generalize 256 * rest.length = L at ih' ⊢
    have hd : SRT.maxEncodedLen cur.length ≤ (if even then l0 else req) := by
      have e : SRT.maxEncodedLen cur.length = cur.length + 1280 := rfl
      split <;> omega
    obtain ⟨t, ht, htb, h1, h2⟩ := srt_fwd_len cur _ hb hne (by omega) hd
    have htne : t ≠ [] := by intro h; rw [h] at h1; simp at h1
    have hfw : Kind.srt.tr.fwd dt cur (if even then l0 else req) = .ok t := by
      show ofSrt (SRT.srtForward cur _) = .ok t
      rw [ht]; rfl
    rw [seqFwdGo2, hfw]
    simp only
    obtain ⟨a1, a2⟩ := ih' ((Kind.srt.tr.ctxw dt cur (if even then l0 else req)).getD dt) t htb htne (by omega)
    refine ⟨Nat.le_trans ?_ a1, Nat.le_trans a2 (by omega)⟩
    rw [Nat.add_comm L, ← Nat.add_assoc]
    exact Nat.add_le_add_right h1 L

/-- six SRT stages on a block of 1024 bytes: the output of `Forward` has between 2560 and 8704 bytes, and
`MaxEncodedLen` of the sequence is 8704 -/
theorem srt6_forward (obuf : Nat) (b : List Nat) (hb : ∀ x ∈ b, x < 256) (hlen : b.length = 1024) :
    seqMaxLen (trsOf (kindTrs (List.replicate 6 Kind.srt))) b.length = 8704 ∧
    2560 ≤ (forwardOf (kindTrs (List.replicate 6 Kind.srt)) obuf b).1.length ∧
    (forwardOf (kindTrs (List.replicate 6 Kind.srt)) obuf b).1.length ≤ 8704 := by
  have hne : b ≠ [] := by intro h; rw [h] at hlen; simp at hlen
  have hreq : seqMaxLen (trsOf (kindTrs (List.replicate 6 Kind.srt))) b.length = 8704 := by
    rw [hlen]; decide
  refine ⟨hreq, ?_⟩
  unfold forwardOf seqForward2
  rw [if_neg (by omega), hreq]
  have := srt_chain 8704 (growTo obuf 8704) (by unfold growTo; split <;> omega)
    (by decide) (kindTrs (List.replicate 6 Kind.srt)) 0 true (initDt b) b 0xFF
    (by intro t ht; simp [kindTrs] at ht; exact ht) hb hne (by rw [hlen]; decide)
  rw [hlen] at this
  have hl6 : (kindTrs (List.replicate 6 Kind.srt)).length = 6 := by decide
  rw [hl6] at this
  exact this

/-- fix F43 at work: six SRT stages, blocks of 1024 bytes, a Writer with block size 1024 — for EVERY block
the bound applies (`MaxEncodedLen` of the sequence and the transformed block both exceed
`maxTransformLength 1024 = 2304`): the block is handed to the entropy coder untransformed, all stages flagged
as skipped -/
theorem srt6_fallback (obuf : Nat) (b : List Nat) (hb : ∀ x ∈ b, x < 256) (hlen : b.length = 1024) :
    postOf (kindTrs (List.replicate 6 Kind.srt)) (some 1024) obuf b = (b, 0xFF) := by
  obtain ⟨h1, h2, _⟩ := srt6_forward obuf b hb hlen
  unfold postOf fallback
  have hml : maxLengthOf (some 1024) = 2304 := by decide
  rw [hml, h1, if_pos ⟨by omega, by omega⟩]

/-- … and what happened before the fix (and still happens for a ctx WITHOUT a `uint` block size, which no
Writer has): the six stages are applied, the encoding task succeeds, and the decoding task rejects its
output with "Invalid compressed block size" -/
theorem srt6_rejected_without_bs (ck obuf : Nat) (b : List Nat) (hb : ∀ x ∈ b, x < 256) (hlen : b.length = 1024) :
    ∃ p, encodeTaskGen2 ⟨ck, kindTrs (List.replicate 6 Kind.srt), noneEnt, false, none⟩ obuf b = .ok p ∧
      decodeTaskGen2 ⟨ck, kindTrs (List.replicate 6 Kind.srt), noneEnt, false, none⟩ 1024 p = .fail .size := by
  have hcopy : isCopy (Cfg2.toCfg ⟨ck, kindTrs (List.replicate 6 Kind.srt), noneEnt, false, none⟩) b = false := by
    unfold isCopy
    simp [Cfg2.toCfg, hlen]
  unfold encodeTaskGen2 decodeTaskGen2
  rw [hcopy]
  simp only [Bool.false_eq_true, if_false]
  obtain ⟨hreq, hlo, hhi⟩ := srt6_forward obuf b hb hlen
  have hP : postOf (kindTrs (List.replicate 6 Kind.srt)) none obuf b =
      forwardOf (kindTrs (List.replicate 6 Kind.srt)) obuf b := by
    unfold postOf fallback
    have hml : maxLengthOf none = 2 ^ 30 := rfl
    rw [hml, hreq, if_neg (by omega)]
  unfold encodeWith2
  rw [hP]
  generalize hFdef : forwardOf (kindTrs (List.replicate 6 Kind.srt)) obuf b = F at hlo hhi
  have hpost32 : F.1.length < 2 ^ 32 := by omega
  obtain ⟨hflt, hflow⟩ := seqForward2_flags_shape (kindTrs (List.replicate 6 Kind.srt))
    (seqMaxLen (trsOf (kindTrs (List.replicate 6 Kind.srt))) b.length)
    (growTo obuf (seqMaxLen (trsOf (kindTrs (List.replicate 6 Kind.srt))) b.length)) (initDt b) b (by decide)
  have hF : forwardOf (kindTrs (List.replicate 6 Kind.srt)) obuf b =
      seqForward2 (kindTrs (List.replicate 6 Kind.srt))
        (seqMaxLen (trsOf (kindTrs (List.replicate 6 Kind.srt))) b.length)
        (growTo obuf (seqMaxLen (trsOf (kindTrs (List.replicate 6 Kind.srt))) b.length)) (initDt b) b := rfl
  rw [← hF, hFdef] at hflt hflow
  have hmt : maxTransformLength 1024 = 2304 := by decide
  obtain ⟨p, hp, hd⟩ := decodeTaskGen_encodeOf
    (Cfg2.toCfg ⟨ck, kindTrs (List.replicate 6 Kind.srt), noneEnt, false, none⟩) 1024 (checksum ck b) F _ hflt
    (fun h4 => flags_low_nibble _ hflt _ h4 hflow) hpost32 (noneEnt_enc F.1)
  exact ⟨p, hp, by rw [hd, if_pos (.inr (by omega))]⟩

end Kanzi.BlockGen2
