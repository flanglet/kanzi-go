/-
`FSDCodec`: `fsdForward` as a whole (round trip `fsd_roundtrip`, no out-of-range index
`fsdForward_ne_fault`).  The sampling phase only decides WHICH
`(mode, dist)` is handed to `fsdEncode`; all that is needed from it is `dist ∈ {1,2,3,4,8,16}` (the
quick exit `ent[minIdx] >= ent[0]` excludes index 0) and `mode ∈ {0,1}`; the round trip then is
`fsdEncode_roundtrip`, which holds for every such pair.
-/
import Kanzi.Proofs.FSDFwd

namespace Kanzi.FSD
open Kanzi.RLT (Out Res wr)

theorem maxLen_ge (n : Nat) : n + 64 ≤ fsdMaxEncodedLen n := by
  unfold fsdMaxEncodedLen
  have := Nat.le_max_right (n >>> 4) 64
  omega

theorem minFold_lt (ent : List Nat) (L : Nat) :
    ∀ (l : List Nat) (m : Nat), (∀ i ∈ l, i < L) → m < L →
      l.foldl (fun m i => if ent.getD i 0 < ent.getD m 0 then i else m) m < L := by
  intro l
  induction l with
  | nil => intro m _ hm; simpa using hm
  | cons x rest ih =>
    intro m hl hm
    simp only [List.foldl_cons]
    apply ih
    · intro i hi; exact hl i (List.mem_cons_of_mem _ hi)
    · split
      · exact hl x List.mem_cons_self
      · exact hm

theorem minIndex_lt (ent : List Nat) (h : 0 < ent.length) : minIndex ent < ent.length := by
  unfold minIndex
  apply minFold_lt ent ent.length _ 0 _ h
  intro i hi
  exact List.mem_range.mp hi

theorem dist_of_idx : ∀ m, m < 7 → 1 ≤ m →
    distances.getD m 0 = 1 ∨ distances.getD m 0 = 2 ∨ distances.getD m 0 = 3 ∨ distances.getD m 0 = 4 ∨
      distances.getD m 0 = 8 ∨ distances.getD m 0 = 16 := by decide

theorem dist_le : ∀ m, m < 7 → distances.getD m 0 ≤ 16 := by decide

theorem fsdSample_ok (a : Array Nat) (h1024 : 1024 ≤ a.size) :
    ∃ c, fsdSample a = .ok c ∧ c.minIdx < 7 ∧ (c.entMin < c.ent0 → 1 ≤ c.minIdx) := by
  unfold fsdSample
  simp only
  obtain ⟨h, eh⟩ := sampleLoop_ok a (2 * (a.size / 10)) (2 * (a.size / 10) - a.size / 10) (a.size / 10)
    emptyHist (by omega) (by omega)
  rw [eh]
  simp only [Kanzi.RLT.Out.bind_ok]
  refine ⟨_, rfl, ?_, ?_⟩
  · have := minIndex_lt (entropies (3 * (a.size / 10)) h) (by simp [entropies])
    simpa [entropies] using this
  · simp only
    intro hlt
    rcases Nat.eq_zero_or_pos (minIndex (entropies (3 * (a.size / 10)) h)) with h0 | h0
    · rw [h0] at hlt; omega
    · exact h0

theorem fsdMode_ok (a : Array Nat) (dist : Nat) (h1024 : 1024 ≤ a.size) (hd : dist ≤ 16) :
    ∃ mode, fsdMode a dist = .ok mode ∧ (mode = DELTA_CODING ∨ mode = XOR_CODING) := by
  unfold fsdMode
  simp only
  obtain ⟨v, ev⟩ := largeDeltas_ok a dist (2 * (a.size / 10)) (2 * (2 * (a.size / 10))) 0 (by omega) (by omega)
  rw [ev]
  simp only [Kanzi.RLT.Out.bind_ok]
  refine ⟨_, rfl, ?_⟩
  split
  · exact Or.inr rfl
  · exact Or.inl rfl

theorem ite_some_eq_none {c : Prop} [Decidable c] {x : Res} {y : Option Res}
    (h : (if c then some x else y) = none) : ¬ c ∧ y = none := by
  split at h
  · simp at h
  · exact ⟨by assumption, h⟩

theorem ite_err_eq_some {c : Prop} [Decidable c] {e : String} {r : Res} {y : Option Res}
    (h : (if c then some (.err e) else y) = some r) : (∃ e, r = .err e) ∨ y = some r := by
  split at h
  · exact Or.inl ⟨e, (Option.some.inj h).symm⟩
  · exact Or.inr h

theorem fsdEarly_none (dt : Nat) (src : List Nat) (n : Nat) (h : fsdEarly dt src n = none) :
    1024 ≤ src.length ∧ fsdMaxEncodedLen src.length ≤ n := by
  obtain ⟨_, h⟩ := ite_some_eq_none h
  obtain ⟨h1, h⟩ := ite_some_eq_none h
  obtain ⟨h2, _⟩ := ite_some_eq_none h
  have : MIN_BLOCK_LENGTH = 1024 := rfl
  omega

theorem fsdEarly_some (dt : Nat) (src : List Nat) (n : Nat) (r : Res) (h : fsdEarly dt src n = some r) :
    (r = .ok [] ∧ (src.length = 0 ∨ n = 0)) ∨ ∃ e, r = .err e := by
  unfold fsdEarly at h
  by_cases h0 : src.length = 0 ∨ n = 0
  · rw [if_pos h0] at h
    exact Or.inl ⟨(Option.some.inj h).symm, h0⟩
  rw [if_neg h0] at h
  right
  rcases ite_err_eq_some h with he | h
  · exact he
  rcases ite_err_eq_some h with he | h
  · exact he
  rcases ite_err_eq_some h with he | h
  · exact he
  rcases ite_err_eq_some h with he | h
  · exact he
  · cases h

theorem fsdForward_eq (dt : Nat) (src : List Nat) (dstLen : Nat) (h : fsdEarly dt src dstLen = none) :
    ∃ (c : Choice) (mode : Nat), c.minIdx < 7 ∧ (c.entMin < c.ent0 → 1 ≤ c.minIdx) ∧
      (mode = DELTA_CODING ∨ mode = XOR_CODING) ∧
      fsdForward dt src dstLen =
        if c.entMin ≥ c.ent0 then .err "skip"
        else
          (fsdEncode src.toArray mode (distances.getD c.minIdx 0) (fsdMaxEncodedLen src.length)
            dstLen).bind fun r =>
            if r.1 ≠ src.length then .err "full"
            else
              (finalHisto r.2 (2 * (src.length / 10)) (src.length / 10) 0
                (Array.replicate 256 0)).bind fun h0 =>
                if entropy1024 (2 * (src.length / 10)) h0 ≥ c.ent0 then .err "nogain"
                else .ok r.2.toList := by
  obtain ⟨h1024, _⟩ := fsdEarly_none dt src dstLen h
  obtain ⟨c, ec, hc7, hc1⟩ := fsdSample_ok src.toArray (by simpa using h1024)
  obtain ⟨mode, em, hmode⟩ := fsdMode_ok src.toArray (distances.getD c.minIdx 0) (by simpa using h1024) (dist_le _ hc7)
  refine ⟨c, mode, hc7, hc1, hmode, ?_⟩
  simp only [fsdForward, h, ec, em, Kanzi.RLT.Out.bind_ok, List.size_toArray]

theorem fsd_roundtrip (dt : Nat) (src t : List Nat) (dstLen : Nat)
    (hb : ∀ x ∈ src, x < 256) (hdst : fsdMaxEncodedLen src.length ≤ dstLen)
    (h : fsdForward dt src dstLen = .ok t) :
    t.length ≤ fsdMaxEncodedLen src.length ∧ (∀ y ∈ t, y < 256) ∧
      ∀ n, src.length ≤ n → fsdInverse t n = .ok src := by
  have hml := maxLen_ge src.length
  cases hE : fsdEarly dt src dstLen with
  | some r =>
    rw [fsdForward, hE] at h
    rcases fsdEarly_some dt src dstLen r hE with ⟨hr0, hz⟩ | ⟨e, he⟩
    · rw [hr0] at h
      injection h with h
      subst h
      have : src = [] := List.length_eq_zero_iff.mp (by omega)
      subst this
      simp [fsdInverse]
    · rw [he] at h; simp at h
  | none =>
    obtain ⟨h1024, _⟩ := fsdEarly_none dt src dstLen hE
    have hsz : src.toArray.size = src.length := List.size_toArray
    obtain ⟨c, mode, hc7, hc1, hmode, e⟩ := fsdForward_eq dt src dstLen hE
    rw [e] at h
    by_cases hskip : c.entMin ≥ c.ent0
    · rw [if_pos hskip] at h; cases h
    rw [if_neg hskip] at h
    obtain ⟨r, er, h⟩ := (Out.bind_eq_ok _ _ _).mp h
    by_cases hr1 : r.1 ≠ src.length
    · rw [if_pos hr1] at h; cases h
    rw [if_neg hr1] at h
    obtain ⟨h0, _, h⟩ := (Out.bind_eq_ok _ _ _).mp h
    by_cases hgain : entropy1024 (2 * (src.length / 10)) h0 ≥ c.ent0
    · rw [if_pos hgain] at h; cases h
    rw [if_neg hgain] at h
    injection h with h
    subst h
    have hr1 : r.1 = src.toArray.size := hsz ▸ Decidable.not_not.1 hr1
    have hdist := dist_of_idx c.minIdx hc7 (hc1 (by omega))
    have hrt := fsdEncode_roundtrip src.toArray mode _ _ dstLen hmode hdist (by omega) (by omega)
      (fun i hi => hb _ (by simp)) r er hr1
    have hsize := (fsdEncode_size src.toArray mode _ _ dstLen (by omega) (by omega) (by omega)).1 r er hr1
    rw [hsz] at hsize hrt
    exact ⟨by rw [Array.length_toList]; exact hsize.1, hrt.1, hrt.2⟩

theorem fsdForward_ne_fault (dt : Nat) (src : List Nat) (dstLen : Nat) (e : String)
    (hdst : fsdMaxEncodedLen src.length ≤ dstLen) : fsdForward dt src dstLen ≠ .fault e := by
  have hml := maxLen_ge src.length
  cases hE : fsdEarly dt src dstLen with
  | some r =>
    rw [fsdForward, hE]
    rcases fsdEarly_some dt src dstLen r hE with ⟨hr0, _⟩ | ⟨e', he⟩
    · rw [hr0]; simp
    · rw [he]; simp
  | none =>
    obtain ⟨h1024, _⟩ := fsdEarly_none dt src dstLen hE
    have hsz : src.toArray.size = src.length := List.size_toArray
    obtain ⟨c, mode, hc7, hc1, hmode, e⟩ := fsdForward_eq dt src dstLen hE
    rw [e]
    by_cases hskip : c.entMin ≥ c.ent0
    · rw [if_pos hskip]; simp
    rw [if_neg hskip]
    have hdist := dist_of_idx c.minIdx hc7 (hc1 (by omega))
    cases hR : fsdEncode src.toArray mode (distances.getD c.minIdx 0) (fsdMaxEncodedLen src.length) dstLen with
    | fault e' =>
      exact absurd hR ((fsdEncode_size src.toArray mode _ _ dstLen (by omega) (by omega) (by omega)).2 hdst e')
    | err e' => simp [Out.bind]
    | ok r =>
      rw [Kanzi.RLT.Out.bind_ok]
      by_cases hr1 : r.1 ≠ src.length
      · rw [if_pos hr1]; simp
      rw [if_neg hr1]
      have hsize := (fsdEncode_size src.toArray mode _ _ dstLen (by omega) (by omega) (by omega)).1 r hR
        (hsz ▸ Decidable.not_not.1 hr1)
      obtain ⟨h0, eh0⟩ := finalHisto_ok r.2 (2 * (src.length / 10)) (src.length / 10) 0
        (Array.replicate 256 0) (by omega)
      rw [eh0, Kanzi.RLT.Out.bind_ok]
      split <;> simp

end Kanzi.FSD
