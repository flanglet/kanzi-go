/-
Proofs for one rANS symbol step (property C12): the reciprocal multiplication of
`encSymbol` is an exact division, and decode ∘ encode = id on the normalised interval.
The two Mathlib tactic modules are imported for `by_contra` and the like, here and in the modules
that import this one.
-/
import Kanzi.Model.EntSmall
import Mathlib.Tactic.Ring
import Mathlib.Tactic.Linarith

namespace Kanzi.EntSmall

/-- Alverson's reciprocal: for `0 < f ≤ 2^s` and `x < 2^31`,
    `⌊x · ⌈2^(s+31)/f⌉ / 2^(s+31)⌋ = ⌊x / f⌋`. -/
theorem recip_core (f s x : Nat) (hf : 0 < f) (hfs : f ≤ 2 ^ s) (hx : x < 2 ^ 31) :
    (x * ((2 ^ (s + 31) + (f - 1)) / f)) / 2 ^ (s + 31) = x / f := by
  have hxf : x * (f - 1) < 2 ^ (s + 31) := by
    rw [Nat.pow_add, Nat.mul_comm (2 ^ s)]
    exact Nat.mul_lt_mul'' hx (by omega)
  generalize 2 ^ (s + 31) = N at *
  -- m = ⌈N / f⌉, so N ≤ f * m ≤ N + (f - 1)
  have h1 : f * ((N + (f - 1)) / f) ≤ N + (f - 1) := Nat.mul_div_le _ _
  have h2 : N + (f - 1) < f * ((N + (f - 1)) / f + 1) := Nat.lt_mul_div_succ _ hf
  generalize (N + (f - 1)) / f = m at *
  have h3 : N ≤ f * m := by
    rw [Nat.mul_add, Nat.mul_one] at h2
    omega
  apply Nat.div_eq_of_lt_le
  · calc x / f * N ≤ x / f * (f * m) := Nat.mul_le_mul_left _ h3
      _ = x / f * f * m := (Nat.mul_assoc _ _ _).symm
      _ ≤ x * m := Nat.mul_le_mul_right _ (Nat.div_mul_le_self x f)
  · apply Nat.lt_of_mul_lt_mul_left (a := f)
    calc f * (x * m) = x * (f * m) := Nat.mul_left_comm f x m
      _ ≤ x * (N + (f - 1)) := Nat.mul_le_mul_left _ h1
      _ = x * N + x * (f - 1) := Nat.mul_add _ _ _
      _ < x * N + N := Nat.add_lt_add_left hxf _
      _ = (x + 1) * N := (Nat.succ_mul x N).symm
      _ ≤ f * (x / f + 1) * N := Nat.mul_le_mul_right _ (Nat.lt_mul_div_succ x hf)
      _ = f * ((x / f + 1) * N) := Nat.mul_assoc _ _ _

theorem shiftLoop_spec (fuel : Nat) : ∀ (s f : Nat), f ≤ 2 ^ (s + fuel) →
    f ≤ 2 ^ shiftLoop fuel s f ∧ (shiftLoop fuel s f = s ∨ 2 ^ (shiftLoop fuel s f - 1) < f) := by
  induction fuel with
  | zero =>
    intro s f h
    have e : shiftLoop 0 s f = s := rfl
    rw [e]; exact ⟨by simpa using h, Or.inl rfl⟩
  | succ fuel ih =>
    intro s f h
    have e : shiftLoop (fuel + 1) s f = if f > 2 ^ s then shiftLoop fuel (s + 1) f else s := rfl
    rw [e]
    by_cases hk : f > 2 ^ s
    · rw [if_pos hk]
      obtain ⟨h1, h2⟩ := ih (s + 1) f (by rw [show s + 1 + fuel = s + (fuel + 1) by omega]; exact h)
      refine ⟨h1, ?_⟩
      rcases h2 with h2 | h2
      · right; rw [h2]; simpa using hk
      · right; exact h2
    · rw [if_neg hk]
      exact ⟨by omega, Or.inl rfl⟩

theorem shiftOf_spec (f : Nat) (hf : 2 ≤ f) :
    f ≤ 2 ^ shiftOf f ∧ 1 ≤ shiftOf f ∧ 2 ^ (shiftOf f - 1) < f := by
  have h := shiftLoop_spec f 0 f (by rw [Nat.zero_add]; exact Nat.le_of_lt Nat.lt_two_pow_self)
  unfold shiftOf
  rcases h.2 with h0 | h1
  · rw [h0] at h; simp at h; omega
  · refine ⟨h.1, ?_, h1⟩
    by_contra hc
    have : shiftLoop f 0 f = 0 := by omega
    rw [this] at h; simp at h; omega

/-- the `& 0xFFFFFFFF` in `reset` never truncates (frequencies up to 2^16) -/
theorem invFreq_lt (f : Nat) (hf : 2 ≤ f) (hf16 : f ≤ 2 ^ 16) :
    (2 ^ (shiftOf f + 31) + (f - 1)) / f < 2 ^ 32 := by
  obtain ⟨h1, h2, h3⟩ := shiftOf_spec f hf
  rw [Nat.div_lt_iff_lt_mul (by omega)]
  have e : 2 ^ (shiftOf f + 31) = 2 ^ (shiftOf f - 1) * 2 ^ 32 := by
    rw [← Nat.pow_add]; congr 1; omega
  rw [e]
  have : (2 ^ (shiftOf f - 1) + 1) * 2 ^ 32 ≤ f * 2 ^ 32 := Nat.mul_le_mul_right _ h3
  rw [Nat.succ_mul] at this
  have hcomm : 2 ^ 32 * f = f * 2 ^ 32 := Nat.mul_comm _ _
  rw [hcomm]
  omega

theorem and_mask32 (m : Nat) (h : m < 2 ^ 32) : m &&& 0xFFFFFFFF = m := by
  rw [show m &&& 0xFFFFFFFF = m % 2 ^ 32 from Nat.and_two_pow_sub_one_eq_mod m 32, Nat.mod_eq_of_lt h]

/-- `C12_ans_reciprocal`, core form: with the fields computed by `reset` for a frequency
    `2 ≤ fr ≤ 2^16`, the multiply-shift is the exact quotient for every `x < 2^31`. -/
theorem reciprocal_exact (fr x : Nat) (hf : 2 ≤ fr) (hf16 : fr ≤ 2 ^ 16) (hx : x < 2 ^ 31) :
    (x * (((2 ^ (shiftOf fr + 31) + (fr - 1)) / fr) &&& 0xFFFFFFFF)) >>> (32 + shiftOf fr - 1) = x / fr := by
  obtain ⟨h1, h2, h3⟩ := shiftOf_spec fr hf
  rw [and_mask32 _ (invFreq_lt fr hf hf16), Nat.shiftRight_eq_div_pow]
  have e : 32 + shiftOf fr - 1 = shiftOf fr + 31 := by omega
  rw [e]
  exact recip_core fr (shiftOf fr) x (by omega) h1 hx

/-- frequency 1 -/
theorem reciprocal_one (x : Nat) (h0 : 0 < x) (hx : x ≤ 2 ^ 32) : (x * 0xFFFFFFFF) >>> 32 = x - 1 := by
  rw [Nat.shiftRight_eq_div_pow]
  apply Nat.div_eq_of_lt_le
  · omega
  · omega

/-- the clamped frequency used by both `reset` functions -/
def clampFreq (f lr : Nat) : Nat := min f (2 ^ lr - 1)

theorem encode_state (c f lr x1 : Nat) (hlr : 1 ≤ lr ∧ lr ≤ 16) (hf : 0 < f)
    (hx0 : 0 < x1) (hx : x1 < 2 ^ 31) :
    x1 + (encSymReset c f lr).bias
        + ((x1 * (encSymReset c f lr).invFreq) >>> (encSymReset c f lr).invShift) * (encSymReset c f lr).cmplFreq
      = (x1 / clampFreq f lr) * 2 ^ lr + x1 % clampFreq f lr + c := by
  have hp : 2 ≤ 2 ^ lr := by
    calc 2 = 2 ^ 1 := rfl
      _ ≤ 2 ^ lr := Nat.pow_le_pow_right (by decide) hlr.1
  have hp16 : 2 ^ lr ≤ 2 ^ 16 := Nat.pow_le_pow_right (by decide) hlr.2
  unfold encSymReset
  simp only
  have hfr : clampFreq f lr = min f (2 ^ lr - 1) := rfl
  rw [← hfr]
  have hfr1 : 1 ≤ clampFreq f lr := by rw [hfr]; omega
  have hfrle : clampFreq f lr ≤ 2 ^ lr - 1 := by rw [hfr]; omega
  generalize clampFreq f lr = fr at *
  by_cases h2 : fr < 2
  · rw [if_pos h2]
    simp only
    have hfr' : fr = 1 := by omega
    subst hfr'
    rw [reciprocal_one x1 hx0 (by omega), Nat.div_one, Nat.mod_one]
    have hx1 : x1 = (x1 - 1) + 1 := by omega
    generalize x1 - 1 = y at hx1
    subst hx1
    have hP : 2 ^ lr = (2 ^ lr - 1) + 1 := by omega
    generalize 2 ^ lr - 1 = P at hP
    rw [hP]
    rw [Nat.succ_mul, Nat.mul_succ]
    omega
  · rw [if_neg h2]
    simp only
    rw [reciprocal_exact fr x1 (by omega) (by omega) hx]
    have hq := Nat.div_add_mod x1 fr
    generalize x1 / fr = q at *
    generalize x1 % fr = r at *
    have hP : 2 ^ lr = (2 ^ lr - fr) + fr := by omega
    generalize 2 ^ lr - fr = P at hP
    rw [hP, ← hq, Nat.mul_add, Nat.mul_comm fr q]
    omega

/-- `C12_ans_reciprocal` on the fields set by `reset` -/
theorem reciprocal_sym (c f lr x : Nat) (hlr : lr ≤ 16) (hf : 2 ≤ clampFreq f lr) (hx : x < 2 ^ 31) :
    (x * (encSymReset c f lr).invFreq) >>> (encSymReset c f lr).invShift = x / clampFreq f lr ∧
    x * (encSymReset c f lr).invFreq < 2 ^ 63 := by
  have hp16 : 2 ^ lr ≤ 2 ^ 16 := Nat.pow_le_pow_right (by decide) hlr
  have hfr : clampFreq f lr = min f (2 ^ lr - 1) := rfl
  have h16 : clampFreq f lr ≤ 2 ^ 16 := by rw [hfr]; omega
  unfold encSymReset
  simp only
  rw [← hfr, if_neg (by omega)]
  simp only
  refine ⟨reciprocal_exact _ x hf h16 hx, ?_⟩
  rw [and_mask32 _ (invFreq_lt _ hf h16)]
  have := invFreq_lt _ hf h16
  rw [show (2:Nat) ^ 63 = 2 ^ 31 * 2 ^ 32 from rfl]
  exact Nat.mul_lt_mul'' hx this

theorem xMax_eq (c f lr : Nat) (hlr : lr ≤ 15) :
    (encSymReset c f lr).xMax = 2 ^ (31 - lr) * clampFreq f lr := by
  have e : ((ansTop >>> lr) <<< 16) = 2 ^ (31 - lr) := by
    have : ansTop = 2 ^ 15 := rfl
    rw [this, Nat.shiftRight_eq_div_pow, Nat.shiftLeft_eq, Nat.pow_div hlr (by decide), ← Nat.pow_add]
    congr 1; omega
  unfold encSymReset clampFreq
  simp only
  split <;> simp only [e]

theorem slot_mod (q r c lr : Nat) (h : r + c < 2 ^ lr) : (q * 2 ^ lr + r + c) % 2 ^ lr = r + c := by
  rw [Nat.add_assoc, Nat.mul_comm, Nat.mul_add_mod, Nat.mod_eq_of_lt h]

theorem slot_div (q r c lr : Nat) (h : r + c < 2 ^ lr) : (q * 2 ^ lr + r + c) / 2 ^ lr = q := by
  rw [Nat.add_assoc, Nat.mul_comm, Nat.mul_add_div (Nat.two_pow_pos lr), Nat.div_eq_of_lt h, Nat.add_zero]

/-- The rANS push `x ↦ (x / fr)·2^lr + x % fr + c` is inverted by division with remainder. -/
theorem pop_push (fr c lr x : Nat) (hfr : 0 < fr) (hc : c + fr ≤ 2 ^ lr) :
    fr * ((x / fr * 2 ^ lr + x % fr + c) / 2 ^ lr) + (x / fr * 2 ^ lr + x % fr + c) % 2 ^ lr - c = x := by
  have hr := Nat.mod_lt x hfr
  rw [slot_mod _ _ _ _ (by omega), slot_div _ _ _ _ (by omega), ← Nat.add_assoc, Nat.add_sub_cancel]
  exact Nat.div_add_mod x fr

theorem push_bounds (fr c lr x a b : Nat) (hfr : 0 < fr) (hc : c + fr ≤ 2 ^ lr)
    (hlo : a * fr ≤ x) (hhi : x < b * fr) :
    a * 2 ^ lr ≤ x / fr * 2 ^ lr + x % fr + c ∧ x / fr * 2 ^ lr + x % fr + c < b * 2 ^ lr := by
  have hr := Nat.mod_lt x hfr
  have h1 := Nat.mul_le_mul_right (2 ^ lr) ((Nat.le_div_iff_mul_le hfr).mpr hlo)
  have h2 := Nat.mul_le_mul_right (2 ^ lr) (Nat.succ_le_of_lt ((Nat.div_lt_iff_lt_mul hfr).mpr hhi))
  rw [Nat.succ_mul] at h2
  omega

theorem push_step (lr c f x1 a b : Nat) (hlr : 1 ≤ lr ∧ lr ≤ 16) (hf : 0 < f) (hc : c + f ≤ 2 ^ lr)
    (hx0 : 0 < x1) (hx : x1 < 2 ^ 31) (hlo : a * clampFreq f lr ≤ x1) (hhi : x1 < b * clampFreq f lr)
    (nw : Nat)
    (hnw : nw = x1 + (encSymReset c f lr).bias
      + ((x1 * (encSymReset c f lr).invFreq) >>> (encSymReset c f lr).invShift) * (encSymReset c f lr).cmplFreq) :
    a * 2 ^ lr ≤ nw ∧ nw < b * 2 ^ lr ∧ c ≤ nw % 2 ^ lr ∧ nw % 2 ^ lr < c + f ∧
    clampFreq f lr * (nw >>> lr) + (nw &&& (2 ^ lr - 1)) - c = x1 := by
  have hp : 2 ^ 1 ≤ 2 ^ lr := Nat.pow_le_pow_right (by decide) hlr.1
  have hfr : clampFreq f lr = min f (2 ^ lr - 1) := rfl
  have hfr1 : 0 < clampFreq f lr := by omega
  have hcf : c + clampFreq f lr ≤ 2 ^ lr := by omega
  have hr := Nat.mod_lt x1 hfr1
  rw [encode_state c f lr x1 hlr hf hx0 hx] at hnw
  obtain ⟨b1, b2⟩ := push_bounds _ c lr x1 a b hfr1 hcf hlo hhi
  have hmod := slot_mod (x1 / clampFreq f lr) (x1 % clampFreq f lr) c lr (by omega)
  have hpop := pop_push _ c lr x1 hfr1 hcf
  rw [← hnw] at b1 b2 hmod hpop
  rw [Nat.shiftRight_eq_div_pow, Nat.and_two_pow_sub_one_eq_mod]
  exact ⟨b1, b2, by omega, by omega, hpop⟩

/-- `C12_ans_step`: one rANS encode step followed by one decode step. -/
theorem ans_step (lr c f x : Nat) (ws : List Nat) (hlr : 8 ≤ lr ∧ lr ≤ 15) (hf : 0 < f)
    (hc : c + f ≤ 2 ^ lr) (hx : 2 ^ 15 ≤ x ∧ x < 2 ^ 31) :
    2 ^ 15 ≤ (encodeStep x (encSymReset c f lr)).2 ∧ (encodeStep x (encSymReset c f lr)).2 < 2 ^ 31 ∧
    c ≤ (encodeStep x (encSymReset c f lr)).2 % 2 ^ lr ∧
    (encodeStep x (encSymReset c f lr)).2 % 2 ^ lr < c + f ∧
    (∀ w ∈ (encodeStep x (encSymReset c f lr)).1, w < 2 ^ 16) ∧
    (encodeStep x (encSymReset c f lr)).1.length ≤ 1 ∧
    decodeStep (encodeStep x (encSymReset c f lr)).2 (decSymReset c f lr) lr
        ((encodeStep x (encSymReset c f lr)).1 ++ ws) = (x, ws) := by
  have hp8 : 2 ^ 8 ≤ 2 ^ lr := Nat.pow_le_pow_right (by decide) hlr.1
  have hfr : clampFreq f lr = min f (2 ^ lr - 1) := rfl
  have hfr1 : 1 ≤ clampFreq f lr := by omega
  have hfrle : clampFreq f lr ≤ 2 ^ lr := by omega
  -- with A = 2^(15-lr): 2^15 = A·2^lr, 2^31 = A·2^16·2^lr, and a word is emitted from A·2^16·fr on
  have h15 : (2:Nat) ^ 15 = 2 ^ (15 - lr) * 2 ^ lr := by
    rw [← Nat.pow_add]
    congr 1
    omega
  have h31 : (2:Nat) ^ 31 = 2 ^ (15 - lr) * 2 ^ 16 * 2 ^ lr := by
    rw [← Nat.pow_add, ← Nat.pow_add]
    congr 1
    omega
  have hxm : (encSymReset c f lr).xMax = 2 ^ (15 - lr) * 2 ^ 16 * clampFreq f lr := by
    rw [xMax_eq c f lr hlr.2, ← Nat.pow_add]
    congr 2
    omega
  have hA : 1 ≤ 2 ^ (15 - lr) := Nat.one_le_two_pow
  generalize 2 ^ (15 - lr) = A at *
  have hAfr : A * clampFreq f lr ≤ A * 2 ^ lr := Nat.mul_le_mul_left _ hfrle
  have h16 : 1 * 2 ^ 16 * 1 ≤ A * 2 ^ 16 * clampFreq f lr :=
    Nat.mul_le_mul (Nat.mul_le_mul hA (Nat.le_refl _)) hfr1
  unfold encodeStep
  by_cases hge : x ≥ (encSymReset c f lr).xMax
  · -- one word is emitted and the symbol is pushed on x / 2^16
    rw [if_pos hge, Nat.shiftRight_eq_div_pow,
      show x &&& 0xFFFF = x % 2 ^ 16 from Nat.and_two_pow_sub_one_eq_mod x 16]
    rw [hxm] at hge
    have hx1hi : x / 2 ^ 16 < 2 ^ 15 := by
      rw [Nat.div_lt_iff_lt_mul (by decide)]
      omega
    have hx1lo : A * clampFreq f lr ≤ x / 2 ^ 16 := by
      rw [Nat.le_div_iff_mul_le (by decide), Nat.mul_right_comm]
      exact hge
    obtain ⟨k1, k2, k3, k4, k5⟩ := push_step lr c f (x / 2 ^ 16) A (A * 2 ^ 16) ⟨by omega, by omega⟩ hf hc
      (by omega) (by omega) hx1lo (by omega) _ rfl
    refine ⟨by omega, by omega, k3, k4, ?_, Nat.le_refl 1, ?_⟩
    · intro w hw
      rw [List.mem_singleton.mp hw]
      exact Nat.mod_lt _ (by decide)
    · unfold decodeStep decSymReset
      simp only
      rw [← hfr, k5, if_pos (show x / 2 ^ 16 < ansTop from hx1hi)]
      simp only [List.cons_append, List.nil_append, List.headD_cons, List.tail_cons]
      rw [← Nat.shiftLeft_add_eq_or_of_lt (Nat.mod_lt _ (by decide)), Nat.shiftLeft_eq, Nat.mul_comm,
        Nat.div_add_mod]
  · -- nothing is emitted and the symbol is pushed on x
    rw [if_neg hge]
    rw [hxm] at hge
    obtain ⟨k1, k2, k3, k4, k5⟩ := push_step lr c f x A (A * 2 ^ 16) ⟨by omega, by omega⟩ hf hc
      (by omega) hx.2 (by omega) (by omega) _ rfl
    refine ⟨by omega, by omega, k3, k4, fun _ hw => absurd hw List.not_mem_nil, Nat.zero_le 1, ?_⟩
    unfold decodeStep decSymReset
    simp only
    rw [← hfr, k5, if_neg (show ¬ x < ansTop from Nat.not_lt.mpr hx.1)]
    rfl

end Kanzi.EntSmall
