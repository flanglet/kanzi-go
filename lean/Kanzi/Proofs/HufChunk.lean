/-
Huffman codec (C12): one chunk (`encodeChunk` / `decodeChunkV6`: four VarInt
sizes, four sub-streams, the tail bytes), the decoder's header (`readLengths`,
`buildDecodingTable`) against the encoder's `updateFrequencies`.
-/
import Kanzi.Model.Huffman
import Kanzi.Proofs.EntSmall
import Kanzi.Proofs.BitsIbs
import Kanzi.Proofs.HufHeader
import Kanzi.Proofs.HufCanon
import Kanzi.Proofs.HufEnc
import Kanzi.Proofs.HufDec
import Kanzi.Proofs.HufUpdate

namespace Kanzi.Huffman
open Kanzi.Bits Kanzi.EntSmall

theorem toBytes_spec : ∀ (k : Nat) (F : Bits), F.length ≤ 8 * k →
    ofBytes (toBytes k F) = F ++ List.replicate (8 * k - F.length) false ∧
    (∀ b ∈ toBytes k F, b < 256) ∧ (toBytes k F).length = k := by
  intro k
  induction k with
  | zero =>
    intro F h
    have : F = [] := List.length_eq_zero_iff.mp (by omega)
    subst this
    exact ⟨rfl, fun _ hb => (by cases hb), rfl⟩
  | succ k ih =>
    intro F h
    simp only [toBytes]
    have hX : (F.take 8 ++ List.replicate (8 - (F.take 8).length) false).length = 8 := by
      rw [List.length_append, List.length_replicate, List.length_take]; omega
    obtain ⟨i1, i2, i3⟩ := ih (F.drop 8) (by rw [List.length_drop]; omega)
    refine ⟨?_, ?_, by rw [List.length_cons, i3]⟩
    · rw [Kanzi.Bits.ofBytes_cons, i1]
      have := Kanzi.Bits.natBits_bitsNat (F.take 8 ++ List.replicate (8 - (F.take 8).length) false)
      rw [hX] at this
      rw [this, List.length_drop]
      by_cases h8 : 8 ≤ F.length
      · rw [show 8 - (F.take 8).length = 0 by rw [List.length_take]; omega]
        simp only [List.replicate_zero, List.append_nil]
        rw [← List.append_assoc, List.take_append_drop, show 8 * k - (F.length - 8) = 8 * (k + 1) - F.length by omega]
      · rw [List.take_of_length_le (by omega), List.drop_of_length_le (by omega)]
        simp only [List.nil_append, List.append_assoc, List.replicate_append_replicate]
        congr 2
        omega
    · intro b hb
      rcases List.mem_cons.mp hb with rfl | hb
      · have := bitsNat_lt (F.take 8 ++ List.replicate (8 - (F.take 8).length) false)
        rw [hX] at this
        simpa using this
      · exact i2 b hb

theorem readRegion_enc (stride : Nat) (junk : List Nat) (F rest : Bits) (h : (F.length + 7) / 8 ≤ stride) :
    readRegion stride F.length junk (F ++ rest)
      = some ((toBytes ((F.length + 7) / 8) F ++ List.replicate 8 0 ++ junk).toArray, rest) := by
  unfold readRegion
  rw [if_neg (by rw [List.length_append]; omega), if_neg (by omega),
    List.take_left' rfl, List.drop_left' rfl]

theorem region_bits (junk : List Nat) (F : Bits) :
    ∃ pad, ofBytes (toBytes ((F.length + 7) / 8) F ++ List.replicate 8 0 ++ junk) = F ++ pad := by
  obtain ⟨h1, _, _⟩ := toBytes_spec ((F.length + 7) / 8) F (by omega)
  exact ⟨_, by rw [Kanzi.Bits.ofBytes_append, Kanzi.Bits.ofBytes_append, h1, List.append_assoc, List.append_assoc]⟩

theorem region_bytes (junk : List Nat) (hj : ∀ b ∈ junk, b < 256) (F : Bits) :
    ∀ b ∈ (toBytes ((F.length + 7) / 8) F ++ List.replicate 8 0 ++ junk), b < 256 := by
  obtain ⟨_, h2, _⟩ := toBytes_spec ((F.length + 7) / 8) F (by omega)
  intro b hb
  rcases List.mem_append.mp hb with hb | hb
  · rcases List.mem_append.mp hb with hb | hb
    · exact h2 b hb
    · rw [(List.mem_replicate.mp hb).2]; decide
  · exact hj b hb

theorem codeBits_length_le (sizes codes l : List Nat) (h12 : ∀ b ∈ l, sizes.getD b 0 ≤ 12) :
    ∀ (frag : List Nat), (∀ b ∈ frag, b ∈ l) → (frag.flatMap (codeBits sizes codes)).length ≤ 12 * frag.length := by
  intro frag
  induction frag with
  | nil => intro _; simp
  | cons b bs ih =>
    intro hb
    have := ih (fun x hx => hb x (List.mem_cons_of_mem _ hx))
    have := h12 b (hb b List.mem_cons_self)
    simp only [List.flatMap_cons, List.length_append, List.length_cons, codeBits, Kanzi.Bits.natBits_length]
    omega

structure ChunkCtx (arr : Array Nat) (tbl : List Nat) (sizes codes a : List Nat) : Prop where
  packed : Packed arr sizes codes a
  tblOk : TblOk tbl
  tblFor : TableFor sizes codes a tbl
  lt256 : ∀ s ∈ a, s < 256

/-- the reads of `readState` stay within 15 bytes of the end of the sub-stream, hence inside
    whatever is left of the buffer -/
theorem frag_ok (arr : Array Nat) (tbl sizes codes a : List Nat) (ctx : ChunkCtx arr tbl sizes codes a)
    (junk : List Nat) (hj : ∀ b ∈ junk, b < 256) (frag : List Nat) (hf : ∀ b ∈ frag, b ∈ a)
    (q : Nat) (hq : frag.length = q) (stride : Nat) (hs : 12 * q + 128 ≤ 8 * stride) :
    (encFrag arr frag).length ≤ 12 * q ∧
    ∃ R, (∀ rest, readRegion stride (encFrag arr frag).length junk (encFrag arr frag ++ rest) = some (R, rest)) ∧
      decFrag tbl.toArray R q = frag ∧
      ∀ avail, stride ≤ avail → readsOk tbl.toArray R q avail = true := by
  subst hq
  have hF := encFrag_eq arr sizes codes a ctx.packed frag hf
  have hle : (encFrag arr frag).length ≤ 12 * frag.length := by
    rw [hF]
    exact codeBits_length_le sizes codes a ctx.packed.le12 frag hf
  have hbytes : ∀ b ∈ (toBytes (((encFrag arr frag).length + 7) / 8) (encFrag arr frag)
      ++ List.replicate 8 0 ++ junk).toArray.toList, b < 256 := by
    simpa using region_bytes junk hj (encFrag arr frag)
  obtain ⟨pad, hp⟩ := region_bits junk (encFrag arr frag)
  refine ⟨hle, _, fun rest => readRegion_enc stride junk _ rest (by omega), ?_, fun avail hav => ?_⟩
  · rw [decFrag_spec tbl ctx.tblOk _ hbytes, List.toList_toArray, hp, hF]
    exact specDec_codes sizes codes a tbl ctx.tblFor ctx.lt256 ctx.packed.le12 ctx.packed.lt frag pad hf
  · unfold readsOk
    rw [List.all_eq_true]
    intro i hi
    have := decFragReads_bound tbl ctx.tblOk _ hbytes frag.length frag.length ⟨0, 0, 0⟩ 0
      ⟨rfl, Nat.zero_le _, by simp [peekAt_zero]⟩ i hi
    rw [List.drop_zero, List.toList_toArray, hp, hF,
      (spec_codes sizes codes a tbl ctx.tblFor ctx.lt256 ctx.packed.le12 ctx.packed.lt frag pad hf).2, ← hF] at this
    simp only [decide_eq_true_eq]
    omega

theorem take_drop_quarters (c : List Nat) :
    c.take (c.length / 4) ++ (c.drop (c.length / 4)).take (c.length / 4)
      ++ (c.drop (2 * (c.length / 4))).take (c.length / 4)
      ++ (c.drop (3 * (c.length / 4))).take (c.length / 4) ++ c.drop (4 * (c.length / 4)) = c := by
  generalize c.length / 4 = q
  rw [show 2 * q = q + q by omega, show 3 * q = q + q + q by omega, show 4 * q = q + q + q + q by omega]
  simp only [← List.drop_drop, List.append_assoc, List.take_append_drop]

theorem chunk_roundtrip (arr : Array Nat) (tbl sizes codes a : List Nat) (ctx : ChunkCtx arr tbl sizes codes a)
    (junk : List Nat) (hj : ∀ b ∈ junk, b < 256) (c : List Nat) (hc : ∀ b ∈ c, b ∈ a)
    (bufLen : Nat) (hs : 12 * (c.length / 4) + 128 ≤ 8 * (bufLen / 4)) (hlen : c.length < 2 ^ 28) (rest : Bits) :
    decodeChunk tbl.toArray bufLen c.length junk (encodeChunk arr c ++ rest) = some (c, rest) := by
  have hq4 : 4 * (c.length / 4) ≤ c.length := Nat.mul_div_le _ 4
  have hst : 4 * (bufLen / 4) ≤ bufLen := Nat.mul_div_le _ 4
  have htl : (c.drop (4 * (c.length / 4))).length = c.length % 4 := by rw [List.length_drop]; omega
  have hcq := take_drop_quarters c
  unfold decodeChunk encodeChunk
  rw [← htl]
  clear htl
  generalize c.length / 4 = q at *
  generalize bufLen / 4 = stride at *
  have hm : ∀ k, ∀ b ∈ (c.drop k).take q, b ∈ a :=
    fun k b hb => hc b (List.mem_of_mem_drop (List.mem_of_mem_take hb))
  have hn : ∀ k, k + q ≤ c.length → ((c.drop k).take q).length = q := by
    intro k hk
    rw [List.length_take, List.length_drop]
    omega
  obtain ⟨l0, R0, r0, d0, k0⟩ := frag_ok arr tbl sizes codes a ctx junk hj (c.take q)
    (hm 0) q (hn 0 (by omega)) stride hs
  obtain ⟨l1, R1, r1, d1, k1⟩ := frag_ok arr tbl sizes codes a ctx junk hj ((c.drop q).take q)
    (hm q) q (hn q (by omega)) stride hs
  obtain ⟨l2, R2, r2, d2, k2⟩ := frag_ok arr tbl sizes codes a ctx junk hj ((c.drop (2 * q)).take q)
    (hm _) q (hn _ (by omega)) stride hs
  obtain ⟨l3, R3, r3, d3, k3⟩ := frag_ok arr tbl sizes codes a ctx junk hj ((c.drop (3 * q)).take q)
    (hm _) q (hn _ (by omega)) stride hs
  generalize encFrag arr (c.take q) = F0 at *
  generalize encFrag arr ((c.drop q).take q) = F1 at *
  generalize encFrag arr ((c.drop (2 * q)).take q) = F2 at *
  generalize encFrag arr ((c.drop (3 * q)).take q) = F3 at *
  have hv : ∀ F : Bits, F.length ≤ 12 * q → F.length < 2 ^ 32 := fun F hF => by omega
  simp only [List.append_assoc, varint_roundtrip _ (hv _ l0), varint_roundtrip _ (hv _ l1),
    varint_roundtrip _ (hv _ l2), varint_roundtrip _ (hv _ l3), r0, r1, r2, r3]
  rw [k0 bufLen (by omega), k1 _ (by omega), k2 _ (by omega), k3 _ (by omega)]
  simp only [and_self, not_true_eq_false, if_false]
  rw [readBytes_ofBytes _ rest (fun b hb => ctx.lt256 b (hc b (List.mem_of_mem_drop hb)))]
  simp only [List.append_assoc] at hcq
  simp only [d0, d1, d2, d3, hcq]

theorem packCodes_spec (sizes : List Nat) : ∀ (a codes : List Nat), a.Nodup → (∀ s ∈ a, s < codes.length) →
    (packCodes sizes a codes).length = codes.length ∧
    (∀ x, x ∉ a → (packCodes sizes a codes).getD x 0 = codes.getD x 0) ∧
    (∀ s ∈ a, (packCodes sizes a codes).getD s 0 = (codes.getD s 0 ||| (sizes.getD s 0 <<< 12)) % 65536) := by
  intro a
  induction a with
  | nil => intro codes _ _; exact ⟨rfl, fun _ _ => rfl, fun _ h => by cases h⟩
  | cons s ss ih =>
    intro codes hnd hl
    have hnd' := List.nodup_cons.mp hnd
    have hs := hl s List.mem_cons_self
    simp only [packCodes, List.foldl_cons]
    have := ih (codes.set s ((codes.getD s 0 ||| (sizes.getD s 0 <<< 12)) % 65536)) hnd'.2
      (fun x hx => by rw [List.length_set]; exact hl x (List.mem_cons_of_mem _ hx))
    simp only [packCodes] at this
    obtain ⟨i1, i2, i3⟩ := this
    refine ⟨by rw [i1, List.length_set], ?_, ?_⟩
    · intro x hx
      rw [i2 x (fun h => hx (List.mem_cons_of_mem _ h))]
      exact getD_set_ne _ _ _ _ (fun h => hx (h ▸ List.mem_cons_self))
    · intro x hx
      rcases List.mem_cons.mp hx with rfl | hx
      · rw [i2 x hnd'.1, getD_set_self _ _ _ hs]
      · have hne : s ≠ x := fun h => hnd'.1 (h ▸ hx)
        rw [i3 x hx, getD_set_ne _ _ _ _ hne]

theorem packed_fields (c l : Nat) (hl : l ≤ 12) (hc : c < 2 ^ l) :
    ((c ||| (l <<< 12)) % 65536) >>> 12 = l ∧ ((c ||| (l <<< 12)) % 65536) &&& 0x0FFF = c := by
  have hc12 : c < 2 ^ 12 := Nat.lt_of_lt_of_le hc (Nat.pow_le_pow_right (by decide) hl)
  obtain ⟨h1, h2⟩ := shl_or_fields l c 12 hc12
  have hlt : (l <<< 12) ||| c < 65536 := by
    rw [Nat.or_comm, or_shl c l 12 hc12]
    omega
  rw [Nat.or_comm, Nat.mod_eq_of_lt hlt]
  exact ⟨h1, (Nat.and_two_pow_sub_one_eq_mod _ 12).trans h2⟩

theorem packCodes_packed (sizes a codes : List Nat) (hlo : LensOk sizes a) (hcl : codes.length = 256)
    (hlt : ∀ s ∈ a, codes.getD s 0 < 2 ^ sizes.getD s 0) :
    Packed (packCodes sizes a codes).toArray sizes codes a := by
  have hpc := (packCodes_spec sizes a codes hlo.nodup (fun s hs => by rw [hcl]; exact hlo.lt256 s hs)).2.2
  refine ⟨fun b hb => ?_, fun b hb => ?_, fun b hb => (hlo.range b hb).2, hlt⟩
  · rw [toArray_getD, hpc b hb]
    exact (packed_fields _ _ (hlo.range b hb).2 (hlt b hb)).1
  · rw [toArray_getD, hpc b hb]
    exact (packed_fields _ _ (hlo.range b hb).2 (hlt b hb)).2

theorem Chain.weaken (sizes : List Nat) : ∀ (l : List Nat) (cur cur' : Nat), cur' ≤ cur →
    Chain sizes l cur → Chain sizes l cur' := by
  intro l cur cur' h hc
  cases l with
  | nil => trivial
  | cons s ss => exact ⟨by have := hc.1; omega, hc.2.1, hc.2.2⟩

theorem findSlot_mem (sizes : List Nat) : ∀ (ord : List Nat) (P w s : Nat),
    findSlot sizes ord P w = some s → s ∈ ord := by
  intro ord
  induction ord with
  | nil => intro P w s h; simp [findSlot] at h
  | cons x xs ih =>
    intro P w s h
    simp only [findSlot] at h
    split at h
    · split at h
      · simp only [Option.some.injEq] at h; subst h; exact List.mem_cons_self
      · cases h
    · exact List.mem_cons_of_mem _ (ih _ _ _ h)

theorem LensOk.congr {s1 s2 a : List Nat} (h : LensOk s1 a) (he : ∀ x ∈ a, s2.getD x 0 = s1.getD x 0) :
    LensOk s2 a := by
  refine ⟨h.nodup, h.lt256, fun s hs => by rw [he s hs]; exact h.range s hs, ?_⟩
  have : kraft12 s2 a = kraft12 s1 a := by
    unfold kraft12
    congr 1
    apply List.map_congr_left
    intro x hx
    simp only [slotW, he x hx]
  rw [this]; exact h.kraft

theorem decoder_tables (sizes a : List Nat) (hs : a.Pairwise (· < ·)) (hlo : LensOk sizes a) (h2 : 2 ≤ a.length) :
    ∃ codes tbl,
      generateCanonicalCodes sizes (List.replicate 256 0) a = some (codes, canonOrder sizes a) ∧
      (∀ rest, readLengths (encodeAlphabetBits a ++ encodeSizes sizes a 2 ++ rest)
        = some (⟨canonOrder sizes a, storeSizes sizes a (List.replicate 256 8), codes⟩, rest)) ∧
      buildTable ⟨canonOrder sizes a, storeSizes sizes a (List.replicate 256 8), codes⟩ = some tbl ∧
      TblOk tbl ∧ TableFor sizes codes a tbl ∧ (∀ s ∈ a, codes.getD s 0 < 2 ^ sizes.getD s 0) ∧ codes.length = 256 ∧
      tbl.length = 4096 := by
  -- the decoder works with the lengths it has stored; on the alphabet these are `sizes`
  have hS : ∀ x ∈ a, (storeSizes sizes a (List.replicate 256 8)).getD x 0 = sizes.getD x 0 := by
    intro x hx
    rw [storeSizes_getD _ _ _ _ (by rw [List.length_replicate]; exact hlo.lt256 x hx), if_pos hx]
  have hloS : LensOk (storeSizes sizes a (List.replicate 256 8)) a := hlo.congr hS
  obtain ⟨codes, hgS, hcl, hcoS, _⟩ := genCodes_ok _ a hloS h2
  have hlt := code_lt_of_codesOk _ codes a hloS hcoS
  have hchain := Chain.weaken _ _ _ 0 (Nat.zero_le _) (canonOrder_chain _ a hloS.range)
  rw [canonOrder_congr _ sizes a a (fun _ => Iff.rfl) hS] at hgS hcoS hchain
  have hg : generateCanonicalCodes sizes (List.replicate 256 0) a = some (codes, canonOrder sizes a) := by
    rw [← genCodes_congr _ sizes a a (fun _ => Iff.rfl) rfl h2 hS, hgS]
  have hperm := canonOrder_perm sizes a hlo.nodup hlo.lt256 hlo.range
  have hkS : 0 + kraft12 (storeSizes sizes a (List.replicate 256 8)) (canonOrder sizes a) ≤ 4096 := by
    rw [Nat.zero_add, kraft12_perm _ hperm]; exact hloS.kraft
  obtain ⟨t, ht, htl, htw⟩ := buildTableLoop_spec (storeSizes sizes a (List.replicate 256 8)) codes
    (canonOrder sizes a) 0 0 (List.replicate 4096 7) hchain (List.length_replicate ..) hkS hcoS
  refine ⟨codes, t, hg, ?_, ht, ?_, ?_, ?_, hcl, htl⟩
  · intro rest
    unfold readLengths
    rw [List.append_assoc, alphabet_roundtrip a hs hlo.lt256]
    simp only
    rw [if_neg (by omega), readSizes_enc sizes rest a 2 _ hlo.range (by omega)]
    simp only
    rw [hgS]
  ·
    intro w hw
    rw [htw w]
    cases hf : findSlot (storeSizes sizes a (List.replicate 256 8)) (canonOrder sizes a) 0 w with
    | none =>
      simp only
      rw [List.getD_eq_getElem?_getD, List.getElem?_replicate, if_pos hw]
      decide
    | some s =>
      simp only
      have hsm := hperm.mem_iff.mp (findSlot_mem _ _ _ _ _ hf)
      have hr := hloS.range s hsm
      rw [(entry_sym s _ (by omega)).2]
      exact hr
  ·
    intro s hsm w h1 h2'
    rw [htw w]
    have hx := hS s hsm
    have := findSlot_hit (storeSizes sizes a (List.replicate 256 8)) codes s w (canonOrder sizes a) 0 hcoS
      (hperm.mem_iff.mpr hsm) (by rw [slotW, hx]; exact h1) (by rw [slotW, hx]; exact h2')
    rw [this]
    simp only
    rw [hx]
  · exact fun x hx => hS x hx ▸ hlt x hx

end Kanzi.Huffman
