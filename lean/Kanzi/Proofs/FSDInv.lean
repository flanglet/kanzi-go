/-
`FSDCodec`: the zigzag tables (closed forms, mutual inverses), the decoder step
lemmas (one token of the encoder is undone by one iteration of the Inverse loops) and totality of
`fsdInverse` on arbitrary input.
-/
import Kanzi.Model.FSD
import Kanzi.Proofs.RLTInv

namespace Kanzi.FSD
open Kanzi.RLT (Out Res wr)

/-- closed form of `_FSD_ZIGZAG1` -/
def zz1f (i : Nat) : Nat := if i < 127 then 253 - 2 * i else if i < 255 then 2 * (i - 127) else 255
/-- closed form of `_FSD_ZIGZAG2` -/
def zz2f (j : Nat) : Int := if j % 2 = 0 then ((j / 2 : Nat) : Int) else - (((j + 1) / 2 : Nat) : Int)

theorem ZIGZAG1_eq : ZIGZAG1.toList = (List.range 256).map zz1f := by decide +kernel
theorem ZIGZAG2_eq : ZIGZAG2.toList = (List.range 256).map zz2f := by decide +kernel

theorem zz1_eq (i : Nat) (h : i < 256) : zz1 i = zz1f i := by
  unfold zz1
  rw [Array.getD_eq_getD_getElem?, ← Array.getElem?_toList, ZIGZAG1_eq]
  simp [h]

theorem zz2_eq (i : Nat) (h : i < 256) : zz2 i = zz2f i := by
  unfold zz2
  rw [Array.getD_eq_getD_getElem?, ← Array.getElem?_toList, ZIGZAG2_eq]
  simp [h]

theorem zzf_inverse : ∀ i, i < 256 →
    zz1f i < 256 ∧ ((zz2f (zz1f i) + 127) % 256).toNat = i ∧
    ((zz2f i + 127) % 256).toNat < 256 ∧ zz1f ((zz2f i + 127) % 256).toNat = i := by decide +kernel

theorem zzf_delta : ∀ d, d < 255 → zz1f d < 255 ∧ zz2f (zz1f d) = (d : Int) - 127 := by decide +kernel

/-- `_FSD_ZIGZAG1` and `_FSD_ZIGZAG2` (read as a byte, re-biased by 127) are mutually inverse
    bijections on bytes -/
theorem zigzag_inverse (i : Nat) (h : i < 256) :
    zz1 i < 256 ∧ ((zz2 (zz1 i) + 127) % 256).toNat = i ∧
    ((zz2 i + 127) % 256).toNat < 256 ∧ zz1 ((zz2 i + 127) % 256).toNat = i := by
  have hf := zzf_inverse i h
  rw [zz1_eq i h, zz2_eq _ hf.1, zz2_eq i h, zz1_eq _ hf.2.2.1]
  exact hf

/-- what Forward uses: for a biased delta `d < 255` the code is a byte other than the escape token
    and `_FSD_ZIGZAG2` maps it back to `d - 127` -/
theorem zz_delta (d : Nat) (h : d < 255) : zz1 d < 255 ∧ zz2 (zz1 d) = (d : Int) - 127 := by
  have hf := zzf_delta d h
  rw [zz1_eq d (by omega), zz2_eq _ (by omega)]
  exact hf

theorem back_eq (out : Array Nat) (dist : Nat) (h1 : 1 ≤ dist) (h2 : dist ≤ out.size) :
    back out dist = some (out[out.size - dist]'(by omega)) := by
  unfold back
  rw [if_neg (by omega)]
  exact Array.getElem?_eq_getElem (by omega)

theorem deltaToken_bytes (x p : Nat) (hx : x < 256) (hp : p < 256) : ∀ y ∈ deltaToken x p, y < 256 := by
  intro y hy
  unfold deltaToken at hy
  simp only at hy
  split at hy
  · rename_i h
    simp only [List.mem_singleton] at hy
    have := (zz_delta (127 + (x : Int) - (p : Int)).toNat (by omega)).1
    omega
  · simp only [ESCAPE_TOKEN, List.mem_cons, List.mem_nil_iff, or_false] at hy
    rcases hy with hy | hy
    · omega
    · subst hy; exact Nat.xor_lt_two_pow (n := 8) hx hp

theorem deltaToken_length (x p : Nat) : 1 ≤ (deltaToken x p).length ∧ (deltaToken x p).length ≤ 2 := by
  unfold deltaToken
  simp only
  split <;> simp

theorem invDelta_token (dist n x p : Nat) (rest : List Nat) (out : Array Nat)
    (hx : x < 256) (hp : p < 256) (hn : out.size < n) (hb : back out dist = some p) :
    invDelta dist n (deltaToken x p ++ rest) out = invDelta dist n rest (out.push x) := by
  unfold deltaToken
  simp only
  split
  · rename_i h
    have hd : (127 + (x : Int) - (p : Int)).toNat < 255 := by omega
    have hz := zz_delta _ hd
    simp only [List.singleton_append]
    rw [invDelta]
    simp only [hn, if_true, hb]
    rw [if_pos (by unfold ESCAPE_TOKEN; omega), hz.2]
    congr 2
    omega
  · simp only [List.cons_append, List.nil_append]
    rw [invDelta]
    simp only [hn, if_true, hb, ESCAPE_TOKEN, ne_eq, not_true_eq_false, if_false, xor_xor_cancel]

theorem invXor_token (dist n x p : Nat) (rest : List Nat) (out : Array Nat)
    (hn : out.size < n) (hb : back out dist = some p) :
    invXor dist n ((x ^^^ p) :: rest) out = invXor dist n rest (out.push x) := by
  rw [invXor]
  simp only [hn, if_true, hb, xor_xor_cancel]

theorem invDelta_ne_fault (dist n : Nat) (h1 : 1 ≤ dist) (e : String) :
    ∀ (k : Nat) (l : List Nat) (out : Array Nat), l.length ≤ k → dist ≤ out.size →
      invDelta dist n l out ≠ .fault e := by
  intro k
  induction k with
  | zero =>
    intro l out hl _
    have : l = [] := List.length_eq_zero_iff.mp (by omega)
    subst this; simp [invDelta]
  | succ k ih =>
    intro l out hl h2
    cases l with
    | nil => simp [invDelta]
    | cons x rest =>
      rw [invDelta]
      split
      · rw [back_eq out dist h1 h2]
        simp only
        split
        · exact ih _ _ (by simp at hl; omega) (by simp; omega)
        · cases rest with
          | nil => simp
          | cons y rest2 => exact ih _ _ (by simp at hl; omega) (by simp; omega)
      · simp

theorem invXor_ne_fault (dist n : Nat) (h1 : 1 ≤ dist) (e : String) :
    ∀ (l : List Nat) (out : Array Nat), dist ≤ out.size → invXor dist n l out ≠ .fault e := by
  intro l
  induction l with
  | nil => intro out _; simp [invXor]
  | cons x rest ih =>
    intro out h2
    rw [invXor]
    split
    · rw [back_eq out dist h1 h2]
      exact ih _ (by simp; omega)
    · simp

theorem fsdInverse_valid (mode dist n : Nat) (rest : List Nat) (hn : n ≠ 0)
    (hd : ¬ (dist < 1 ∨ (dist > 4 ∧ dist ≠ 8 ∧ dist ≠ 16))) (hr : dist ≤ rest.length) (hdn : dist ≤ n) :
    fsdInverse (mode :: dist :: rest) n =
      if mode = DELTA_CODING then invDelta dist n (rest.drop dist) (rest.take dist).toArray
      else if mode = XOR_CODING then invXor dist n (rest.drop dist) (rest.take dist).toArray
      else .err "mode" := by
  rw [fsdInverse, if_neg (by simp [hn]), if_neg hd, if_neg (by omega), if_neg (by omega)]

/-- `FSDCodec.Inverse` never indexes out of range, whatever the input and the destination size -/
theorem fsdInverse_ne_fault (src : List Nat) (n : Nat) (e : String) : fsdInverse src n ≠ .fault e := by
  match src with
  | [] => simp [fsdInverse]
  | [_] =>
    simp only [fsdInverse]
    split <;> simp
  | mode :: dist :: rest =>
    by_cases hn : n = 0
    · simp [fsdInverse, hn]
    by_cases hd : dist < 1 ∨ (dist > 4 ∧ dist ≠ 8 ∧ dist ≠ 16)
    · rw [fsdInverse, if_neg (by simp [hn]), if_pos hd]; simp
    by_cases hr : rest.length < dist
    · rw [fsdInverse, if_neg (by simp [hn]), if_neg hd, if_pos hr]; simp
    by_cases hdn : n < dist
    · rw [fsdInverse, if_neg (by simp [hn]), if_neg hd, if_neg hr, if_pos hdn]; simp
    rw [fsdInverse_valid mode dist n rest hn hd (by omega) (by omega)]
    have hsz : dist ≤ (List.take dist rest).toArray.size := by
      simp; omega
    split
    · exact invDelta_ne_fault dist n (by omega) e _ _ _ (Nat.le_refl _) hsz
    · split
      · exact invXor_ne_fault dist n (by omega) e _ _ hsz
      · simp

end Kanzi.FSD
