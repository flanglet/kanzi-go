/-
Output bitstream, the word operations.  Bit level: bits of bytes and 64-bit words, the accumulator merge of
`WriteBits` (by `getMsbD` extensionality, see `Kanzi.Bits.bvBits`).  State level: buffer copies, the abstraction `abs`, the
invariants, `flush`, `push`, `WriteBits`, `WriteBit`.
(Proof chain: `OBSCore` → `OBSArray` → `OBS`.)
-/
import Kanzi.Model.OBS
import Kanzi.Proofs.Bits
import Kanzi.Proofs.BitsIbs

namespace Kanzi.OBS
open Kanzi.Bits

def byteBits (l : List Byte) : Bits := ofBytes (l.map BitVec.toNat)
def wordBits (w : BitVec 64) : Bits := natBits w.toNat 64

theorem wordBits_eq (w : BitVec 64) : wordBits w = bvBits w := natBits_toNat w

theorem byteBits_nil : byteBits [] = [] := rfl
theorem byteBits_cons (b : Byte) (l : List Byte) : byteBits (b :: l) = natBits b.toNat 8 ++ byteBits l :=
  ofBytes_cons _ _
theorem byteBits_append (l₁ l₂ : List Byte) : byteBits (l₁ ++ l₂) = byteBits l₁ ++ byteBits l₂ := by
  simp [byteBits, ofBytes_append]
@[simp] theorem byteBits_length (l : List Byte) : (byteBits l).length = 8 * l.length := by
  simp [byteBits]
theorem byteBits_take (l : List Byte) (k : Nat) : (byteBits l).take (8 * k) = byteBits (l.take k) := by
  simp [byteBits, ofBytes_take, List.map_take]
theorem byteBits_drop (l : List Byte) (k : Nat) : (byteBits l).drop (8 * k) = byteBits (l.drop k) := by
  simp [byteBits, ofBytes_drop, List.map_drop]

/-- `binary.BigEndian.Uint64` reads the first eight bytes -/
theorem wordBits_be64 (l : List Byte) (h : 8 ≤ l.length) : wordBits (be64 l) = byteBits (l.take 8) := by
  match l, h with
  | b0 :: b1 :: b2 :: b3 :: b4 :: b5 :: b6 :: b7 :: tl, _ =>
    simp only [wordBits, be64, List.getD_cons_zero, List.getD_cons_succ, List.take_succ_cons, List.take_zero,
      byteBits_cons, byteBits_nil, List.append_nil]
    show natBits _ (8 + 8 + 8 + 8 + 8 + 8 + 8 + 8) = _
    simp only [natBits_bvAppend, List.append_assoc]

theorem byteBits_wordBytes (w : BitVec 64) : byteBits (wordBytes w) = wordBits w := ofBytes_word w

def LowZero (w : BitVec 64) (a : Nat) : Prop := ∀ j, 64 - a ≤ j → j < 64 → w.getMsbD j = false

theorem merge_bit (cur v : BitVec 64) (a n i : Nat) (hn : n ≤ 64) (hi : i < 64)
    (hz : LowZero cur a) :
    (merge cur v a n).getMsbD i =
      if i < 64 - a then cur.getMsbD i
      else if i < 64 - a + n then v.getMsbD (64 - n + (i - (64 - a)))
      else false := by
  unfold merge
  simp only [BitVec.getMsbD_or, BitVec.getMsbD_ushiftRight, BitVec.getMsbD_shiftLeft]
  by_cases h1 : i < 64 - a
  · simp [h1]
  · have := hz i (by omega) hi
    simp only [h1, if_false, this, Bool.false_or]
    by_cases h2 : i < 64 - a + n
    · simp only [hi, h2, if_true, decide_true, Bool.true_and, Bool.not_false, decide_false]
      congr 1; omega
    · simp only [h2, if_false]
      have : v.getMsbD (i - (64 - a) + (64 - n)) = false := by
        apply BitVec.getMsbD_of_ge; omega
      simp [this]

/-- `count < availBits`: the new bits land below the pending ones -/
theorem curBits_merge_lt (cur v : BitVec 64) (a n : Nat) (ha : a ≤ 64) (hn : n < a) (hz : LowZero cur a) :
    (wordBits (merge cur v a n)).take (64 - a + n) = (wordBits cur).take (64 - a) ++ natBits v.toNat n := by
  rw [wordBits_eq, wordBits_eq, natBits_word v n (by omega)]
  unfold bvBits
  rw [mk_take _ _ _ (by omega), mk_take _ _ _ (by omega), mk_append]
  apply mk_congr
  intro i hi
  rw [merge_bit cur v a n i (by omega) (by omega) hz]
  by_cases h1 : i < 64 - a
  · simp [h1]
  · simp [h1, hi]

theorem lowZero_merge_lt (cur v : BitVec 64) (a n : Nat) (ha : a ≤ 64) (hn : n < a) (hz : LowZero cur a) :
    LowZero (merge cur v a n) (a - n) := by
  intro j h1 h2
  rw [merge_bit cur v a n j (by omega) h2 hz]
  have : ¬ j < 64 - a := by omega
  have : ¬ j < 64 - a + n := by omega
  simp [*]

/-- `count ≥ availBits`: the accumulator is filled with the first `availBits` new bits -/
theorem wordBits_merge_ge (cur v : BitVec 64) (a n : Nat) (han : a ≤ n) (hn : n ≤ 64) (hz : LowZero cur a) :
    wordBits (merge cur v a n) = (wordBits cur).take (64 - a) ++ (natBits v.toNat n).take a := by
  rw [wordBits_eq, wordBits_eq, natBits_word v n hn]
  unfold bvBits
  rw [mk_take _ _ _ (by omega), mk_take _ _ _ han, mk_append]
  have : 64 - a + a = 64 := by omega
  rw [this]
  apply mk_congr
  intro i hi
  rw [merge_bit cur v a n i hn hi hz]
  by_cases h1 : i < 64 - a
  · simp [h1]
  · have : i < 64 - a + n := by omega
    simp [h1, this]

/-- …and the remaining new bits start the next accumulator -/
theorem curBits_shift (v : BitVec 64) (a n : Nat) (han : a ≤ n) (hn : n ≤ 64) :
    (wordBits (v <<< (64 - (n - a)))).take (n - a) = (natBits v.toNat n).drop a := by
  rw [wordBits_eq, natBits_word v n hn]
  unfold bvBits
  rw [mk_take _ _ _ (by omega), mk_drop]
  apply mk_congr
  intro i hi
  rw [BitVec.getMsbD_shiftLeft]
  congr 1; omega

theorem lowZero_shift (v : BitVec 64) (k : Nat) : LowZero (v <<< k) k := by
  intro j h1 h2
  rw [BitVec.getMsbD_shiftLeft]
  apply BitVec.getMsbD_of_ge; omega

theorem lowZero_zero (a : Nat) : LowZero 0 a := by
  intro j _ _; simp

theorem lowZero_mono (w : BitVec 64) (a b : Nat) (h : b ≤ a) (hz : LowZero w a) : LowZero w b := by
  intro j h1 h2; exact hz j (by omega) h2

theorem bitWord_shift (b : Bool) (a : Nat) (ha1 : 1 ≤ a) (ha : a ≤ 64) :
    bitWord b <<< (a - 1) = (bitWord b <<< (64 - 1)) >>> (64 - a) := by
  apply BitVec.eq_of_getMsbD_eq
  intro i hi
  simp only [BitVec.getMsbD_ushiftRight, BitVec.getMsbD_shiftLeft]
  cases b
  · simp [bitWord]
  · simp only [bitWord, if_true]
    by_cases h : i < 64 - a
    · have : (1#64).getMsbD (i + (a - 1)) = false := by
        rw [BitVec.getMsbD_eq_getLsbD]; simp; omega
      simp [h, this]
    · simp only [hi, h, decide_true, decide_false, Bool.not_false, Bool.true_and]
      congr 1; omega

theorem natBits_bitWord (b : Bool) : natBits (bitWord b).toNat 1 = [b] := by
  cases b <;> decide

theorem bitWord_merge (cur : BitVec 64) (b : Bool) : cur ||| bitWord b = merge cur (bitWord b) 1 1 := by
  unfold merge
  congr 1
  have := bitWord_shift b 1 (by omega) (by omega)
  simpa using this

theorem copyInto_eq (buf : List Byte) (pos : Nat) (src : List Byte) :
    copyInto buf pos src = buf.take pos ++ src.take (buf.length - pos) ++ buf.drop (pos + src.length) := by
  induction buf generalizing pos src with
  | nil => simp [copyInto]
  | cons b bs ih =>
    cases pos with
    | zero =>
      cases src with
      | nil => simp [copyInto]
      | cons x xs =>
        simp only [copyInto, ih 0 xs]
        have e : 0 + (x :: xs).length = xs.length + 1 := by simp
        rw [e, List.drop_succ_cons]
        simp
    | succ p =>
      simp only [copyInto, ih p src]
      have e : p + 1 + src.length = (p + src.length) + 1 := by omega
      rw [e, List.drop_succ_cons]
      simp

@[simp] theorem copyInto_length (buf : List Byte) (pos : Nat) (src : List Byte) :
    (copyInto buf pos src).length = buf.length := by
  induction buf generalizing pos src with
  | nil => simp [copyInto]
  | cons b bs ih =>
    cases pos with
    | zero => cases src <;> simp [copyInto, ih]
    | succ p => simp [copyInto, ih]

theorem copyInto_take (buf : List Byte) (pos : Nat) (src : List Byte)
    (h : pos + src.length ≤ buf.length) :
    (copyInto buf pos src).take (pos + src.length) = buf.take pos ++ src := by
  rw [copyInto_eq]
  have h1 : src.take (buf.length - pos) = src := List.take_of_length_le (by omega)
  rw [h1, List.append_assoc]
  have h2 : (buf.take pos).length = pos := by simp; omega
  rw [List.take_append, h2, List.take_of_length_le (by omega)]
  have : pos + src.length - pos = src.length := by omega
  rw [this]
  simp

/-! ### abstraction and invariants -/

def absBuf (s : St) : Bits := byteBits s.sink ++ byteBits (s.buffer.take s.position)
def curBits (s : St) : Bits := (wordBits s.current).take (64 - s.availBits)
/-- the bits written so far: sink bytes, buffered bytes, pending bits of the accumulator -/
def abs (s : St) : Bits := absBuf s ++ curBits s

/-- buffer side of the invariant: open, whole words only, and room for one more word (`push` flushes as
    soon as a further word would not fit) -/
structure BufInv (s : St) : Prop where
  open_ : s.closed = false
  len16 : 16 ≤ s.buffer.length
  len8 : s.buffer.length % 8 = 0
  pos8 : s.position % 8 = 0
  posle : s.position + 8 ≤ s.buffer.length

/-- … and the accumulator: between 1 and 64 free bits, the free (low) ones zero, which is what lets
    `merge` OR the new bits in -/
structure Inv (s : St) : Prop extends BufInv s where
  av1 : 1 ≤ s.availBits
  av64 : s.availBits ≤ 64
  low : LowZero s.current s.availBits

/-- the flushed-bits counter agrees with the sink -/
def Counted (s : St) : Prop := s.written = 8 * (s.sink.length : Int)

/-- what every successful run of operations guarantees about the sink side -/
structure Prog (s s' : St) : Prop where
  len : s'.buffer.length = s.buffer.length
  plan : s'.failAt = s.failAt
  calls : s.sinkCalls ≤ s'.sinkCalls
  nofail : ∀ k, s.sinkCalls < k → k ≤ s'.sinkCalls → s.failAt k = false
  counted : Counted s → Counted s'
  sinkPre : ∃ t, s'.sink = s.sink ++ t

theorem Prog.refl (s : St) : Prog s s :=
  ⟨rfl, rfl, Nat.le_refl _, fun k h1 h2 => by omega, id, ⟨[], by simp⟩⟩

theorem Prog.trans {s s1 s2 : St} (h1 : Prog s s1) (h2 : Prog s1 s2) : Prog s s2 := by
  refine ⟨h2.len.trans h1.len, h2.plan.trans h1.plan, Nat.le_trans h1.calls h2.calls, ?_,
    fun c => h2.counted (h1.counted c), ?_⟩
  · intro k hk1 hk2
    by_cases h : k ≤ s1.sinkCalls
    · exact h1.nofail k hk1 h
    · have := h2.nofail k (by omega) hk2
      rwa [h1.plan] at this
  · obtain ⟨t1, e1⟩ := h1.sinkPre
    obtain ⟨t2, e2⟩ := h2.sinkPre
    exact ⟨t1 ++ t2, by rw [e2, e1, List.append_assoc]⟩

/-- the sink refused a call: the last call issued is the first failing one -/
structure IoFail (s s' : St) : Prop where
  plan : s'.failAt = s.failAt
  lt : s.sinkCalls < s'.sinkCalls
  failed : s.failAt s'.sinkCalls = true
  before : ∀ k, s.sinkCalls < k → k < s'.sinkCalls → s.failAt k = false

theorem IoFail.after {s s1 s2 : St} (h1 : Prog s s1) (h2 : IoFail s1 s2) : IoFail s s2 := by
  refine ⟨h2.plan.trans h1.plan, by have := h1.calls; have := h2.lt; omega, ?_, ?_⟩
  · have := h2.failed; rwa [h1.plan] at this
  · intro k hk1 hk2
    by_cases h : k ≤ s1.sinkCalls
    · exact h1.nofail k hk1 h
    · have := h2.before k (by omega) hk2
      rwa [h1.plan] at this

/-- successful buffer-level step: `bits` appended behind the buffered bytes, accumulator untouched -/
structure BStep (s s' : St) (bits : Bits) : Prop extends Prog s s' where
  binv : BufInv s'
  babs : absBuf s' = absBuf s ++ bits
  cur : s'.current = s.current
  av : s'.availBits = s.availBits

/-- successful operation: `bits` appended to the abstract content -/
structure Step (s s' : St) (bits : Bits) : Prop extends Prog s s' where
  inv : Inv s'
  sabs : abs s' = abs s ++ bits

/-- an operation either succeeds and appends `bits`, or reports the sink failure as `panic io` -/
def Res (s : St) (r : St × Outcome) (bits : Bits) : Prop :=
  (r.2 = .ok ∧ Step s r.1 bits) ∨ (r.2 = .panic .io ∧ IoFail s r.1)

def BRes (s : St) (r : St × Outcome) (bits : Bits) : Prop :=
  (r.2 = .ok ∧ BStep s r.1 bits) ∨ (r.2 = .panic .io ∧ IoFail s r.1)

theorem Step.trans {s s1 s2 : St} {b1 b2 : Bits} (h1 : Step s s1 b1) (h2 : Step s1 s2 b2) :
    Step s s2 (b1 ++ b2) :=
  { toProg := h1.toProg.trans h2.toProg, inv := h2.inv,
    sabs := by rw [h2.sabs, h1.sabs, List.append_assoc] }

structure FlushOk (s s' : St) : Prop extends Prog s s' where
  fabs : absBuf s' = absBuf s
  pos : s'.position = 0
  buf : s'.buffer = s.buffer
  cur : s'.current = s.current
  av : s'.availBits = s.availBits
  cl : s'.closed = s.closed
  wr : s'.written = s.written + 8 * (s.position : Int)

/-- a failing `flush` only counts the refused call -/
theorem flush_spec (s : St) (ho : s.closed = false) (hp : s.position ≤ s.buffer.length) :
    ((flush s).2 = .ok ∧ FlushOk s (flush s).1) ∨
    ((flush s).2 = .panic .io ∧ (flush s).1 = { s with sinkCalls := s.sinkCalls + 1 } ∧
      IoFail s (flush s).1) := by
  unfold flush
  rw [if_neg (by simp [ho])]
  by_cases hpos : s.position > 0
  · rw [if_pos hpos]
    by_cases hf : s.failAt (s.sinkCalls + 1) = true
    · right
      rw [if_pos hf]
      exact ⟨rfl, rfl, rfl, by simp, by simpa using hf, fun k h1 h2 => by simp at h2; omega⟩
    · left
      rw [if_neg hf]
      refine ⟨rfl, ⟨rfl, rfl, by simp, ?_, ?_, ⟨_, rfl⟩⟩, ?_, rfl, rfl, rfl, rfl, rfl, rfl⟩
      · intro k h1 h2
        simp at h2
        have : k = s.sinkCalls + 1 := by omega
        subst this
        simpa using hf
      · intro c
        unfold Counted at *
        simp only [List.length_append, List.length_take, Nat.min_eq_left hp, c]
        omega
      · simp [absBuf, byteBits_append, byteBits_nil]
  · left
    rw [if_neg hpos]
    have hp0 : s.position = 0 := by omega
    exact ⟨rfl, Prog.refl s, rfl, hp0, rfl, rfl, rfl, rfl, by rw [hp0]; simp⟩

theorem absBuf_copy (s s1 : St) (src : List Byte) (hfit : s.position + src.length ≤ s.buffer.length)
    (e1 : s1.sink = s.sink) (e2 : s1.buffer = copyInto s.buffer s.position src)
    (e3 : s1.position = s.position + src.length) : absBuf s1 = absBuf s ++ byteBits src := by
  unfold absBuf
  rw [e1, e2, e3, copyInto_take _ _ _ hfit, byteBits_append, List.append_assoc]

theorem push_spec (s : St) (w : BitVec 64) (h : BufInv s) : BRes s (push s w) (wordBits w) := by
  have hl := h.posle
  unfold push
  rw [if_neg (by simp [h.open_]), if_neg (by omega)]
  have habs : ∀ s1 : St, s1.sink = s.sink → s1.buffer = copyInto s.buffer s.position (wordBytes w) →
      s1.position = s.position + 8 → absBuf s1 = absBuf s ++ wordBits w := by
    intro s1 e1 e2 e3
    rw [← byteBits_wordBytes]
    exact absBuf_copy s s1 (wordBytes w) hl e1 e2 e3
  by_cases h2 : s.buffer.length ≤ s.position + 8 + 8
  · rw [if_pos h2]
    rcases flush_spec { s with buffer := copyInto s.buffer s.position (wordBytes w), position := s.position + 8 }
      h.open_ (by simp; omega) with ⟨e, f⟩ | ⟨e, _, f⟩
    · left
      refine ⟨e, ⟨?_, ?_, ?_, ?_, ?_⟩⟩
      · exact ⟨by rw [f.len]; simp, f.plan, f.calls, f.nofail, f.counted, f.sinkPre⟩
      · refine ⟨by rw [f.cl]; exact h.open_, ?_, ?_, ?_, ?_⟩
        · rw [f.buf]; simpa using h.len16
        · rw [f.buf]; simpa using h.len8
        · rw [f.pos]
        · rw [f.pos, f.buf]; have := h.len16; simp; omega
      · rw [f.fabs]; exact habs _ rfl rfl rfl
      · rw [f.cur]
      · rw [f.av]
    · right
      exact ⟨e, f.plan, f.lt, f.failed, f.before⟩
  · left
    rw [if_neg h2]
    refine ⟨rfl, ⟨by simp, rfl, Nat.le_refl _, fun k a b => by simp at b; omega, id, ⟨[], by simp⟩⟩, ?_, habs _ rfl rfl rfl, rfl, rfl⟩
    refine ⟨h.open_, by simpa using h.len16, by simpa using h.len8, ?_, ?_⟩
    · have := h.pos8; simp; omega
    · have := h.pos8; have := h.len8; simp; omega


theorem BufInv.congr {s s' : St} (h : BufInv s) (e1 : s'.closed = s.closed) (e2 : s'.buffer = s.buffer)
    (e3 : s'.position = s.position) : BufInv s' :=
  ⟨by rw [e1]; exact h.open_, by rw [e2]; exact h.len16, by rw [e2]; exact h.len8,
   by rw [e3]; exact h.pos8, by rw [e2, e3]; exact h.posle⟩

theorem absBuf_congr {s s' : St} (e1 : s'.sink = s.sink) (e2 : s'.buffer = s.buffer)
    (e3 : s'.position = s.position) : absBuf s' = absBuf s := by
  unfold absBuf; rw [e1, e2, e3]

theorem abs_def (s : St) : abs s = (byteBits s.sink ++ byteBits (s.buffer.take s.position)) ++
    (wordBits s.current).take (64 - s.availBits) := rfl

theorem absBuf_def (s : St) : absBuf s = byteBits s.sink ++ byteBits (s.buffer.take s.position) := rfl

/-- fewer new bits than the accumulator has room for: they are merged in place -/
theorem merge_step (s : St) (v : BitVec 64) (n : Nat) (h : Inv s) (hlt : n < s.availBits) :
    Step s { s with current := merge s.current v s.availBits n, availBits := s.availBits - n }
      (natBits v.toNat n) := by
  have ha1 := h.av1
  have ha64 := h.av64
  refine ⟨⟨rfl, rfl, Nat.le_refl _, fun k a b => by simp at b; omega, id, ⟨[], by simp⟩⟩,
    ⟨h.toBufInv.congr rfl rfl rfl, by show 1 ≤ s.availBits - n; omega,
      by show s.availBits - n ≤ 64; omega, lowZero_merge_lt _ _ _ _ ha64 hlt h.low⟩, ?_⟩
  simp only [abs_def]
  have e1 : 64 - (s.availBits - n) = 64 - s.availBits + n := by omega
  rw [e1, curBits_merge_lt _ _ _ _ ha64 hlt h.low]
  simp only [List.append_assoc]

theorem writeBits_spec (s : St) (v : BitVec 64) (n : Nat) (h : Inv s) (hn : n ≤ 64) :
    Res s (writeBits s v n) (natBits v.toNat n) := by
  have ha1 := h.av1
  have ha64 := h.av64
  unfold writeBits
  rw [if_neg (by omega)]
  by_cases hge : n ≥ s.availBits
  · rw [if_pos hge]
    have hb0 : BufInv { s with current := merge s.current v s.availBits n } :=
      h.toBufInv.congr rfl rfl rfl
    have hp := push_spec _ (merge s.current v s.availBits n) hb0
    rcases hres : push { s with current := merge s.current v s.availBits n }
      (merge s.current v s.availBits n) with ⟨p, o⟩
    rw [hres] at hp
    rcases hp with ⟨e, f⟩ | ⟨e, f⟩
    · left
      simp only at e
      subst e
      refine ⟨rfl, ⟨f.len, f.plan, f.calls, f.nofail, f.counted, f.sinkPre⟩,
        ⟨f.binv.congr rfl rfl rfl, by show 1 ≤ 64 - (n - s.availBits); omega,
          by show 64 - (n - s.availBits) ≤ 64; omega, lowZero_shift _ _⟩, ?_⟩
      have fb := f.babs
      simp only [absBuf_def] at fb
      simp only [abs_def, fb]
      have e1 : 64 - (64 - (n - s.availBits)) = n - s.availBits := by omega
      rw [e1, curBits_shift v s.availBits n hge hn, wordBits_merge_ge _ _ _ _ hge hn h.low]
      simp only [List.append_assoc]
      rw [List.take_append_drop]
    · right
      simp only at e
      subst e
      exact ⟨rfl, f.plan, f.lt, f.failed, f.before⟩
  · rw [if_neg hge]
    exact Or.inl ⟨rfl, merge_step s v n h (by omega)⟩

theorem writeBit_spec (s : St) (b : Bool) (h : Inv s) : Res s (writeBit s b) [b] := by
  have ha1 := h.av1
  have ha64 := h.av64
  unfold writeBit
  by_cases hle : s.availBits ≤ 1
  · rw [if_pos hle]
    have ha : s.availBits = 1 := by omega
    have hp := push_spec s (s.current ||| bitWord b) h.toBufInv
    rcases hres : push s (s.current ||| bitWord b) with ⟨p, o⟩
    rw [hres] at hp
    rcases hp with ⟨e, f⟩ | ⟨e, f⟩
    · left
      simp only at e
      subst e
      refine ⟨rfl, ⟨f.len, f.plan, f.calls, f.nofail, f.counted, f.sinkPre⟩,
        ⟨f.binv.congr rfl rfl rfl, by show 1 ≤ 64; omega, by show 64 ≤ 64; omega, lowZero_zero _⟩, ?_⟩
      have fb := f.babs
      simp only [absBuf_def] at fb
      simp only [abs_def, fb]
      rw [bitWord_merge, ← ha, wordBits_merge_ge _ _ _ _ (Nat.le_refl _) (by omega) h.low, ha,
        natBits_bitWord]
      simp
    · right
      simp only at e
      subst e
      exact ⟨rfl, f.plan, f.lt, f.failed, f.before⟩
  · rw [if_neg hle]
    have e0 : s.current ||| (bitWord b <<< (s.availBits - 1)) = merge s.current (bitWord b) s.availBits 1 := by
      unfold merge; rw [bitWord_shift b _ ha1 ha64]
    rw [e0, ← natBits_bitWord b]
    exact Or.inl ⟨rfl, merge_step s (bitWord b) 1 h (by omega)⟩

end Kanzi.OBS
