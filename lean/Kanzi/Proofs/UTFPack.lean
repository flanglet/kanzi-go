/-
The UTF codec, bytes and code points: the size table in closed form, `packUTF` / `unpackUTF1` in arithmetic
form, and `unpack1 ∘ pack = id` on every sequence the counting loop of Forward accepts.
-/
import Kanzi.Model.UTF
import Kanzi.Proofs.RLTInv

namespace Kanzi.UTF
open Kanzi.RLT

/-! ## the size table -/

/-- `_UTF_SIZES` in run-length form -/
theorem sizesTable_eq : sizesTable = List.replicate 128 1 ++ (List.replicate 66 0 ++ (List.replicate 30 2 ++
    (List.replicate 16 3 ++ (List.replicate 5 4 ++ List.replicate 11 0)))) := by decide +kernel

theorem sizesArr_size : sizesArr.size = 256 := by decide +kernel

theorem getD_replicate_append (n v b : Nat) (l : List Nat) :
    ((List.replicate n v ++ l)[b]?).getD 0 = if b < n then v else (l[b - n]?).getD 0 := by
  rw [List.getElem?_append, List.length_replicate, List.getElem?_replicate]
  split <;> rfl

theorem utfSize_eq (b : Nat) : utfSize b =
    (if b < 0x80 then 1 else if b < 0xC2 then 0 else if b < 0xE0 then 2
     else if b < 0xF0 then 3 else if b < 0xF5 then 4 else 0) := by
  unfold utfSize sizesArr
  rw [sizesTable_eq, Array.getD_eq_getD_getElem?, List.getElem?_toArray]
  -- a lookup in the run-length form tests `b`, `b - 128`, `b - 128 - 66`, … against the run lengths
  simp only [getD_replicate_append, List.getElem?_replicate]
  grind

theorem utfSize_cases (b : Nat) :
    (utfSize b = 0) ∨ (utfSize b = 1 ∧ b < 0x80) ∨ (utfSize b = 2 ∧ 0xC2 ≤ b ∧ b < 0xE0) ∨
    (utfSize b = 3 ∧ 0xE0 ≤ b ∧ b < 0xF0) ∨ (utfSize b = 4 ∧ 0xF0 ≤ b ∧ b < 0xF5) := by
  rw [utfSize_eq]
  grind

theorem utfSize_le (b : Nat) : utfSize b ≤ 4 := by
  rcases utfSize_cases b with h | ⟨h, _⟩ | ⟨h, _⟩ | ⟨h, _⟩ | ⟨h, _⟩ <;> omega

/-! ## bit operations as arithmetic -/

theorem or_eq_add (L b k : Nat) (hL : L % 2 ^ k = 0) (hb : b < 2 ^ k) : L ||| b = L + b := by
  have h1 : L = (L / 2 ^ k) <<< k := by
    rw [Nat.shiftLeft_eq]; have := Nat.div_add_mod L (2 ^ k); rw [hL, Nat.mul_comm] at this; omega
  rw [h1, ← Nat.shiftLeft_add_eq_or_of_lt hb]

theorem or_eq_add' (L b k : Nat) (hL : L % 2 ^ k = 0) (hb : b < 2 ^ k) : b ||| L = L + b := by
  rw [Nat.or_comm]; exact or_eq_add L b k hL hb

/-- the field `x` of `j` bits put at bit `k` of a value whose bits below `k + j` are clear: the sum, whose bits
    below `k` are clear for the next field -/
theorem or_shl_field (L x k j : Nat) (hL : L % 2 ^ (k + j) = 0) (hx : x < 2 ^ j) :
    L ||| x <<< k = L + x * 2 ^ k ∧ (L + x * 2 ^ k) % 2 ^ k = 0 := by
  have hk : L % 2 ^ k = 0 := by
    rw [← Nat.mod_mod_of_dvd L (Nat.pow_dvd_pow 2 (Nat.le_add_right k j)), hL, Nat.zero_mod]
  rw [Nat.shiftLeft_eq, Nat.add_mul_mod_self_right, hk]
  refine ⟨or_eq_add L _ (k + j) hL ?_, rfl⟩
  rw [Nat.pow_add, Nat.mul_comm]
  exact Nat.mul_lt_mul_of_pos_left hx (Nat.two_pow_pos k)

theorem and_0F (x : Nat) : x &&& 0x0F = x % 16 := Nat.and_two_pow_sub_one_eq_mod x 4
theorem and_07 (x : Nat) : x &&& 0x07 = x % 8 := Nat.and_two_pow_sub_one_eq_mod x 3
theorem and_03 (x : Nat) : x &&& 0x03 = x % 4 := Nat.and_two_pow_sub_one_eq_mod x 2
theorem and_3F (x : Nat) : x &&& 0x3F = x % 64 := Nat.and_two_pow_sub_one_eq_mod x 6
theorem and_7F (x : Nat) : x &&& 0x7F = x % 128 := Nat.and_two_pow_sub_one_eq_mod x 7
theorem and_FFFFFF (x : Nat) : x &&& 0x00FFFFFF = x % 16777216 := Nat.and_two_pow_sub_one_eq_mod x 24

theorem and_split (x m k : Nat) : x &&& m = (x / 2 ^ k &&& m / 2 ^ k) * 2 ^ k + (x % 2 ^ k &&& m % 2 ^ k) := by
  rw [← Nat.and_div_two_pow, ← Nat.and_mod_two_pow, Nat.div_add_mod']

theorem and_C0 (x : Nat) : x &&& 0xC0 = x / 64 % 4 * 64 := by
  have := and_split x 0xC0 6
  rwa [Nat.and_zero, and_03] at this

/-- continuation byte `10xxxxxx` -/
def isCont (b : Nat) : Prop := 128 ≤ b ∧ b < 192

instance (b : Nat) : Decidable (isCont b) := by unfold isCont; exact inferInstance

theorem andC0_iff (b : Nat) (h : b < 256) : (b &&& 0xC0 = 0x80) ↔ isCont b := by
  rw [and_C0]; unfold isCont; omega

theorem andC0C0_iff (b c : Nat) (hb : b < 256) (hc : c < 256) :
    ((b <<< 8 ||| c) &&& 0xC0C0 = 0x8080) ↔ (isCont b ∧ isCont c) := by
  have h : (b * 2 ^ 8 + c) &&& 0xC0C0 = (b &&& 0xC0) * 2 ^ 8 + (c &&& 0xC0) := by
    have := and_split (b * 2 ^ 8 + c) 0xC0C0 8
    rwa [show (b * 2 ^ 8 + c) / 2 ^ 8 = b by omega, show (b * 2 ^ 8 + c) % 2 ^ 8 = c by omega] at this
  have : c &&& 0xC0 ≤ 0xC0 := Nat.and_le_right
  rw [← Nat.shiftLeft_add_eq_or_of_lt (by omega : c < 2 ^ 8), Nat.shiftLeft_eq, h, ← andC0_iff b hb, ← andC0_iff c hc]
  omega

/-! ## `packVal` in arithmetic form -/

theorem packVal_1 (b0 b1 b2 b3 : Nat) (h : utfSize b0 = 1) : packVal b0 b1 b2 b3 = (1, b0) := by
  simp [packVal, h]

theorem packVal_2 (b0 b1 b2 b3 : Nat) (h : utfSize b0 = 2) (h0 : b0 < 256) (h1 : b1 < 256) :
    packVal b0 b1 b2 b3 = (2, 524288 + b0 * 256 + b1) := by
  unfold packVal
  rw [if_neg (by omega), if_pos h]
  obtain ⟨e1, m1⟩ := or_shl_field (1 <<< 19) b0 8 8 rfl h0
  rw [e1, or_eq_add _ _ 8 m1 h1]
  rfl

theorem packVal_3 (b0 b1 b2 b3 : Nat) (h : utfSize b0 = 3) :
    packVal b0 b1 b2 b3 = (3, 1048576 + (b0 % 16) * 4096 + (b1 % 64) * 64 + b2 % 64) := by
  unfold packVal
  rw [if_neg (by omega), if_neg (by omega), if_pos h, and_0F, and_3F, and_3F]
  obtain ⟨e1, m1⟩ := or_shl_field (2 <<< 19) (b0 % 16) 12 4 rfl (Nat.mod_lt _ (by decide))
  obtain ⟨e2, m2⟩ := or_shl_field _ (b1 % 64) 6 6 m1 (Nat.mod_lt _ (by decide))
  rw [e1, e2, or_eq_add _ _ 6 m2 (Nat.mod_lt _ (by decide))]
  rfl

theorem packVal_4 (b0 b1 b2 b3 : Nat) (h : utfSize b0 = 4) :
    packVal b0 b1 b2 b3 = (4, 2097152 + (b0 % 8) * 262144 + (b1 % 64) * 4096 + (b2 % 64) * 64 + b3 % 64) := by
  unfold packVal
  rw [if_neg (by omega), if_neg (by omega), if_neg (by omega), if_pos h, and_07, and_3F, and_3F, and_3F]
  obtain ⟨e1, m1⟩ := or_shl_field (4 <<< 19) (b0 % 8) 18 3 rfl (Nat.mod_lt _ (by decide))
  obtain ⟨e2, m2⟩ := or_shl_field _ (b1 % 64) 12 6 m1 (Nat.mod_lt _ (by decide))
  obtain ⟨e3, m3⟩ := or_shl_field _ (b2 % 64) 6 6 m2 (Nat.mod_lt _ (by decide))
  rw [e1, e2, e3, or_eq_add _ _ 6 m3 (Nat.mod_lt _ (by decide))]
  rfl

theorem packVal_0 (b0 b1 b2 b3 : Nat) (h : utfSize b0 = 0) : packVal b0 b1 b2 b3 = (0, 0) := by
  simp [packVal, h]

theorem packVal_fst (b0 b1 b2 b3 : Nat) : (packVal b0 b1 b2 b3).1 = utfSize b0 := by
  rcases utfSize_cases b0 with h | ⟨h, _⟩ | ⟨h, _⟩ | ⟨h, _⟩ | ⟨h, _⟩ <;> simp [packVal, h]

/-- packed values index `aliasMap` (2^22 entries) -/
theorem packVal_lt (b0 b1 b2 b3 : Nat) (h1 : b1 < 256) : (packVal b0 b1 b2 b3).2 < 4194304 := by
  rcases utfSize_cases b0 with h | ⟨h, hb⟩ | ⟨h, hb⟩ | ⟨h, hb⟩ | ⟨h, hb⟩
  · rw [packVal_0 _ _ _ _ h]; decide
  · rw [packVal_1 _ _ _ _ h]; simp only []; omega
  · rw [packVal_2 _ _ _ _ h (by omega) h1]; simp only []; omega
  · rw [packVal_3 _ _ _ _ h]; simp only []; omega
  · rw [packVal_4 _ _ _ _ h]; simp only []; omega

/-! ## `unpack1` of packed values -/

theorem unpack1_1 (b0 : Nat) (h : b0 < 0x80) : unpack1 b0 = [b0] := by
  have h0 : b0 >>> 19 = 0 := by rw [Nat.shiftRight_eq_div_pow]; omega
  have h1 : b0 % 256 = b0 := by omega
  simp only [unpack1, h0, if_true, h1]

theorem unpack1_2 (b0 b1 : Nat) (h0 : b0 < 256) (h1 : b1 < 256) : unpack1 (524288 + b0 * 256 + b1) = [b0, b1] := by
  generalize hv : 524288 + b0 * 256 + b1 = v
  have hf : v / 2 ^ 19 = 1 ∧ v / 2 ^ 8 % 256 = b0 ∧ v % 256 = b1 := by omega
  unfold unpack1
  simp only [Nat.shiftRight_eq_div_pow, hf.1, hf.2.1, hf.2.2, ↓reduceIte, Nat.reduceEqDiff]

theorem cont_or (y : Nat) (hy : y < 64) : y ||| 0x80 = 0x80 + y := or_eq_add' 0x80 y 6 rfl hy

theorem unpack1_3 (x y z : Nat) (hx : x < 16) (hy : y < 64) (hz : z < 64) :
    unpack1 (1048576 + x * 4096 + y * 64 + z) = [0xE0 + x, 0x80 + y, 0x80 + z] := by
  generalize hv : 1048576 + x * 4096 + y * 64 + z = v
  have hf : v / 2 ^ 19 = 2 ∧ v / 2 ^ 12 % 16 = x ∧ v / 2 ^ 6 % 64 = y ∧ v % 64 = z := by omega
  unfold unpack1
  simp only [Nat.shiftRight_eq_div_pow, and_0F, and_3F, hf.1, hf.2.1, hf.2.2.1, hf.2.2.2, ↓reduceIte, Nat.reduceEqDiff]
  rw [or_eq_add' 0xE0 x 4 rfl hx, cont_or y hy, cont_or z hz]

theorem unpack1_4 (w x y z : Nat) (hw : w < 8) (hx : x < 64) (hy : y < 64) (hz : z < 64) :
    unpack1 (2097152 + w * 262144 + x * 4096 + y * 64 + z) = [0xF0 + w, 0x80 + x, 0x80 + y, 0x80 + z] := by
  generalize hv : 2097152 + w * 262144 + x * 4096 + y * 64 + z = v
  have hf : 4 ≤ v / 2 ^ 19 ∧ v / 2 ^ 19 ≤ 7 ∧ v / 2 ^ 18 % 8 = w ∧ v / 2 ^ 12 % 64 = x ∧ v / 2 ^ 6 % 64 = y ∧
      v % 64 = z := by omega
  unfold unpack1
  simp only [Nat.shiftRight_eq_div_pow, and_07, and_3F, hf.2.2.1, hf.2.2.2.1, hf.2.2.2.2.1, hf.2.2.2.2.2]
  rw [if_neg (by omega), if_neg (by omega), if_neg (by omega), if_pos ⟨hf.1, hf.2.1⟩, or_eq_add' 0xF0 w 3 rfl hw,
    cont_or x hx, cont_or y hy, cont_or z hz]

/-- what `unpack1 ∘ pack` does on ANY four bytes: the lead byte and a 2-byte sequence are kept as they
    are; of the 2nd..4th byte of a 3 / 4 byte sequence only the six low bits survive (they come back as
    continuation bytes); a lead byte of size 0 packs to 0 -/
theorem unpack1_packVal (b0 b1 b2 b3 : Nat) (h0 : b0 < 256) (h1 : b1 < 256) :
    unpack1 (packVal b0 b1 b2 b3).2 =
      (if utfSize b0 = 0 then [0]
       else if utfSize b0 = 1 then [b0]
       else if utfSize b0 = 2 then [b0, b1]
       else if utfSize b0 = 3 then [b0, 0x80 + b1 % 64, 0x80 + b2 % 64]
       else [b0, 0x80 + b1 % 64, 0x80 + b2 % 64, 0x80 + b3 % 64]) := by
  rcases utfSize_cases b0 with h | ⟨h, hb⟩ | ⟨h, hb⟩ | ⟨h, hb⟩ | ⟨h, hb⟩
  · rw [packVal_0 _ _ _ _ h, if_pos h]; decide
  · simp only [packVal_1 _ _ _ _ h, h, Nat.reduceEqDiff, ↓reduceIte]
    exact unpack1_1 b0 hb
  · simp only [packVal_2 _ _ _ _ h h0 h1, h, Nat.reduceEqDiff, ↓reduceIte]
    exact unpack1_2 b0 b1 h0 h1
  · simp only [packVal_3 _ _ _ _ h, h, Nat.reduceEqDiff, ↓reduceIte]
    rw [unpack1_3 _ _ _ (Nat.mod_lt _ (by decide)) (Nat.mod_lt _ (by decide)) (Nat.mod_lt _ (by decide))]
    have : 0xE0 + b0 % 16 = b0 := by omega
    rw [this]
  · simp only [packVal_4 _ _ _ _ h, h, Nat.reduceEqDiff, ↓reduceIte]
    rw [unpack1_4 _ _ _ _ (Nat.mod_lt _ (by decide)) (Nat.mod_lt _ (by decide)) (Nat.mod_lt _ (by decide))
      (Nat.mod_lt _ (by decide))]
    have : 0xF0 + b0 % 8 = b0 := by omega
    rw [this]

/-- the sequence starting with `b0` is one the counting loop of Forward accepts: a lead byte of size
    1..4 and continuation bytes in positions 2..size for sizes 3 and 4 (position 2 of a 2-byte sequence
    is not looked at: such a pair is stored verbatim) -/
def seqValid (b0 b1 b2 b3 : Nat) : Prop :=
  utfSize b0 ≠ 0 ∧ (utfSize b0 ≥ 3 → isCont b1) ∧ (utfSize b0 ≥ 3 → isCont b2) ∧ (utfSize b0 = 4 → isCont b3)

instance (b0 b1 b2 b3 : Nat) : Decidable (seqValid b0 b1 b2 b3) := by unfold seqValid; exact inferInstance

/-- `unpack1 ∘ pack = id` on accepted sequences: the bytes come back, and as many as `pack` consumed -/
theorem unpack1_packVal_valid (b0 b1 b2 b3 : Nat) (h0 : b0 < 256) (h1 : b1 < 256)
    (hv : seqValid b0 b1 b2 b3) :
    unpack1 (packVal b0 b1 b2 b3).2 = [b0, b1, b2, b3].take (packVal b0 b1 b2 b3).1 := by
  rw [unpack1_packVal b0 b1 b2 b3 h0 h1, packVal_fst]
  obtain ⟨hne, c1, c2, c3⟩ := hv
  unfold isCont at c1 c2 c3
  rcases utfSize_cases b0 with h | ⟨h, hb⟩ | ⟨h, hb⟩ | ⟨h, hb⟩ | ⟨h, hb⟩
  · exact absurd h hne
  · simp [h]
  · simp [h]
  · have := c1 (by omega); have := c2 (by omega)
    simp [h]; omega
  · have := c1 (by omega); have := c2 (by omega); have := c3 h
    simp [h]; omega

end Kanzi.UTF
