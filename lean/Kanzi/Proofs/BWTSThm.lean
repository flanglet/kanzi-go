/-
BWTS (C13): the statements used by `Kanzi/Properties/C13_bwts.lean`.

  * `decode_bwtsSpec`     `decode (bwtsSpec s) = s`          (inverse ∘ forward = id)
  * `bwtsSpec_decode`     `bwtsSpec (decode t) = t`          (forward ∘ inverse = id on byte strings, by counting)
  * the corresponding statements about the model `bwtsInverseFill` of `BWTS.Inverse`

"Forward" is the definition `bwtsSpec` throughout; nothing here is about `bwtsForwardFill`, the model of
`BWTS.Forward`.
-/
import Kanzi.Proofs.BWTSMain
import Mathlib.Data.Fintype.Card
import Mathlib.Data.Fintype.Vector

namespace Kanzi.BWTS

/-! ## inverse ∘ forward -/

theorem decode_bwtsSpec (s : List Nat) : decode (bwtsSpec s) = s := by
  have hf := lyndonFactors_spec s
  have hlen : (bwtsSpec s).length = (bwtsMatrix s).length := by rw [bwtsSpec_eq, List.length_map]
  have hU : unvis (bwtsMatrix s).length [] = List.range (bwtsMatrix s).length :=
    List.filter_eq_self.2 (by simp)
  have := visit_main (bwtsMatrix_sortedRots s) hf.2.1 hf.2.2 (by rw [bwtsMatrix_length, hf.1])
    ((bwtsMatrix s).length + 2) [] 0 (lyndonFactors s) []
    ⟨by simp, by simp, fun q hq => by omega, by simp,
      by rw [hU, BWT.range_map_getD]; exact bwtsMatrix_perm s⟩ (by omega)
  rw [hf.1] at this
  unfold decode
  rw [hlen]
  exact this

/-! ## bytes -/

theorem lastL_mem (x : List Nat) (hx : x ≠ []) : lastL x ∈ x := by
  unfold lastL
  rw [List.getLastD_eq_getLast?, List.getLast?_eq_getLast_of_ne_nil hx]
  exact List.getLast_mem hx

theorem mem_rot {w : List Nat} {k : Nat} {a : Nat} (h : a ∈ rot w k) : a ∈ w := by
  unfold rot at h
  rcases List.mem_append.1 h with h | h
  · exact List.mem_of_mem_drop h
  · exact List.mem_of_mem_take h

theorem mem_bwtsSpec {s : List Nat} {a : Nat} (h : a ∈ bwtsSpec s) : a ∈ s := by
  rw [bwtsSpec_eq] at h
  obtain ⟨x, hx, rfl⟩ := List.mem_map.1 h
  have hne := ((bwtsMatrix_sortedRots s).rotl x hx).ne_nil
  obtain ⟨w, hw, k, hk, rfl⟩ := mem_flatMap_rotations.1 ((bwtsMatrix_perm s).mem_iff.1 hx)
  rw [← (lyndonFactors_spec s).1]
  exact List.mem_flatten.2 ⟨w, hw, mem_rot (lastL_mem _ hne)⟩

theorem bwtsSpec_bytes {s : List Nat} (hb : ∀ x ∈ s, x < 256) : ∀ x ∈ bwtsSpec s, x < 256 :=
  fun x hx => hb x (mem_bwtsSpec hx)

theorem decode_bytes {t : List Nat} (hb : ∀ x ∈ t, x < 256) : ∀ x ∈ decode t, x < 256 := by
  intro x hx
  unfold decode at hx
  obtain ⟨q, _, rfl⟩ := List.mem_map.1 hx
  exact BWT.getD_lt t hb q

theorem decode_length (t : List Nat) (hb : ∀ x ∈ t, x < 256) : (decode t).length = t.length :=
  (inverse_core 0 t t.length hb (Nat.le_refl _)).choose_spec.2.2

/-! ## forward ∘ inverse, by counting: an injective self-map of a finite set is surjective -/

def toF (l : List Nat) : List (Fin 256) := l.map (fun x => Fin.ofNat 256 x)
def toN (v : List (Fin 256)) : List Nat := v.map (fun x => x.val)

theorem toN_toF {l : List Nat} (hb : ∀ x ∈ l, x < 256) : toN (toF l) = l := by
  simp only [toN, toF, List.map_map]
  exact (List.map_congr_left fun x hx => by simp [Fin.ofNat, Nat.mod_eq_of_lt (hb x hx)]).trans
    (List.map_id l)

theorem toF_toN (v : List (Fin 256)) : toF (toN v) = v := by
  simp only [toN, toF, List.map_map]
  exact (List.map_congr_left fun x _ => Fin.ext (by simp [Fin.ofNat, Nat.mod_eq_of_lt x.isLt])).trans
    (List.map_id v)

theorem toN_bytes (v : List (Fin 256)) : ∀ x ∈ toN v, x < 256 := by
  intro x hx
  obtain ⟨y, _, rfl⟩ := List.mem_map.1 hx
  exact y.isLt

theorem bwtsSpec_decode (t : List Nat) (hb : ∀ x ∈ t, x < 256) : bwtsSpec (decode t) = t := by
  -- the forward transform on byte vectors of length `n`
  let n := t.length
  let F : List.Vector (Fin 256) n → List.Vector (Fin 256) n := fun v =>
    ⟨toF (bwtsSpec (toN v.1)), by simp [toF, toN, bwtsSpec_length, v.2]⟩
  have hinj : Function.Injective F := by
    intro u v huv
    have h1 : toF (bwtsSpec (toN u.1)) = toF (bwtsSpec (toN v.1)) := congrArg Subtype.val huv
    have h2 := congrArg toN h1
    rw [toN_toF (bwtsSpec_bytes (toN_bytes _)), toN_toF (bwtsSpec_bytes (toN_bytes _))] at h2
    have h3 := congrArg decode h2
    rw [decode_bwtsSpec, decode_bwtsSpec] at h3
    apply Subtype.ext
    rw [← toF_toN u.1, ← toF_toN v.1, h3]
  obtain ⟨u, hu⟩ := Finite.surjective_of_injective hinj ⟨toF t, by simp [toF, n]⟩
  have h1 : toF (bwtsSpec (toN u.1)) = toF t := congrArg Subtype.val hu
  have h2 := congrArg toN h1
  rw [toN_toF (bwtsSpec_bytes (toN_bytes _)), toN_toF hb] at h2
  rw [← h2, decode_bwtsSpec]

/-! ## the model of `BWTS.Inverse` -/

theorem bwtsInverse_bwtsSpec (fill : Nat) (s : List Nat) (d : Nat) (hb : ∀ x ∈ s, x < 256)
    (hmax : s.length ≤ maxBlockSize) (hd : s.length ≤ d) :
    bwtsInverseFill fill (bwtsSpec s) d = .ok s := by
  have := (bwtsInverseFill_eq fill (bwtsSpec s) d (bwtsSpec_bytes hb)
    (by rw [bwtsSpec_length]; exact hmax) (by rw [bwtsSpec_length]; exact hd)).1
  rw [this, decode_bwtsSpec]

theorem bwtsInverse_total (fill : Nat) (t : List Nat) (d : Nat) (hb : ∀ x ∈ t, x < 256) :
    bwtsInverseFill fill t d ≠ .fault := by
  by_cases h : t.length ≤ maxBlockSize ∧ t.length ≤ d
  · rw [(bwtsInverseFill_eq fill t d hb h.1 h.2).1]
    exact fun h => nomatch h
  · unfold bwtsInverseFill
    by_cases hA : t.length = 0 ∨ d = 0
    · rw [if_pos hA]
      exact fun h => nomatch h
    · by_cases hB : t.length > maxBlockSize
      · rw [if_neg hA, if_pos hB]
        exact fun h => nomatch h
      · rw [if_neg hA, if_neg hB, if_pos (by omega)]
        exact fun h => nomatch h

end Kanzi.BWTS
