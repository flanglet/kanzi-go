import Kanzi.Model.Writer
import Kanzi.Spec.Stream
import Kanzi.Proofs.WriterLemmas
/-!
Proofs of the writer-side properties (`Kanzi/Properties/StreamW.lean`): facts that hold in every state,
the flag invariant of reachable states, then the invariant `Inv = Dead ∨ Open ∨ Final`, preserved by
`writeLoop` / `write` / `close` / `step` / `run`, and what it gives for healthy and arbitrary programs.
-/
namespace Kanzi.Writer
open Kanzi.Spec

theorem closed_absorbing (c : Cfg) (s : St) (h : s.closed = true) (op : Op) :
    (step c s op).1 = s ∧
    (match op with
     | .write _ _ => (step c s op).2 = Out.wrote 0 (some Err.closed)
     | .close _ => (step c s op).2 = Out.closedR none
     | .getWritten => (step c s op).2 = Out.written (getWritten s)) := by
  cases op <;> simp [step, write, close, h]

theorem close_bits_le (c : Cfg) (s : St) (flt : Fault) : s.bits ≤ (close c s flt).1.bits := by
  rw [close_eq]
  split
  · exact Nat.le_refl _
  · have h1 := (closeP1_frame c s flt).2.2.2.1
    split
    · exact h1
    · rw [closeP2_frame]; exact h1

theorem getWritten_mono (c : Cfg) (s : St) (op : Op) : getWritten s ≤ getWritten (step c s op).1 := by
  have key : s.bits ≤ (step c s op).1.bits := by
    cases op with
    | write d f =>
      simp only [step, write]
      split
      · exact Nat.le_refl _
      · split
        · exact Nat.le_refl _
        · exact writeLoop_bits_le ..
    | close f => exact close_bits_le c s f
    | getWritten => exact Nat.le_refl _
  unfold getWritten
  exact Nat.div_le_div_right (Nat.add_le_add_right key 7)

/-- the error state is sticky, for states that are not finalized.  PARTIAL: without `hfin` the statement
is false, see the counterexample in the comment before `FlagInv`; that `finalized` stays false is part of
the conclusion so that the statement is inductive (`step_inv` uses it for `Dead`). -/
theorem failed_sticky_partial (c : Cfg) (s : St) (h : s.failed = true) (hc : s.closed = false)
    (hfin : s.finalized = false) (op : Op) :
    (step c s op).1.failed = true ∧ (step c s op).1.closed = false ∧ (step c s op).1.finalized = false ∧
    (match op with
     | .write _ _ => ∃ e, (step c s op).2 = Out.wrote 0 (some e)
     | .close _ => ∃ e, (step c s op).2 = Out.closedR (some e)
     | .getWritten => True) := by
  cases op with
  | write d f =>
    simp only [step, write, h, hc]
    by_cases hcl : s.closing = true <;> simp [hcl, h, hc, hfin]
  | close f =>
    have hne : (closeP1 c s f).2 ≠ none := by
      intro hn
      have := ((closeP1_frame c s f).2.2.2.2.2 hn hfin).1
      rw [h] at this; cases this
    obtain ⟨_, _, f3, _, f5, _⟩ := closeP1_frame c s f
    obtain ⟨f5a, f5b⟩ := f5 hne
    simp only [step, close_eq, hc, Bool.false_eq_true, if_false]
    cases hp : (closeP1 c s f).2 with
    | none => exact absurd hp hne
    | some e =>
      simp only
      exact ⟨f5b h, by rw [f3, hc], by rw [f5a, hfin], e, rfl⟩
  | getWritten => simp [step, h, hc, hfin]

theorem close_fault_reported (c : Cfg) (s : St) (f : Fault) (hf : f = .endMarker ∨ f = .finalFlush ∨ f = .closer)
    (hc : s.closed = false) : (close c s f).2 ≠ none ∨ (close c s f).1.closed = false ∨
      (f = .finalFlush ∧ s.obsClosed = true) ∨ (f = .closer ∧ s.closerClosed = true) ∨ (f = .endMarker ∧ s.finalized = true) := by
  obtain ⟨f1, f2, f3, _, _, f6⟩ := closeP1_frame c s f
  rw [close_eq]
  simp only [hc, Bool.false_eq_true, if_false]
  cases hp : (closeP1 c s f).2 with
  | some e => left; simp
  | none =>
    simp only
    obtain ⟨g1, g2, _⟩ := closeP2_result (closeP1 c s f).1 f (by rw [f3, hc])
    by_cases hn : (closeP2 (closeP1 c s f).1 f).2 = none
    · obtain ⟨_, k2, k3⟩ := g1 hn
      rcases hf with hf | hf | hf
      · right; right; right; right
        refine ⟨hf, ?_⟩
        cases hfin : s.finalized with
        | true => rfl
        | false => exact absurd hf (f6 hp hfin).2
      · right; right; left; exact ⟨hf, by rw [← f1]; exact k2 hf⟩
      · right; right; right; left; exact ⟨hf, by rw [← f2]; exact k3 hf⟩
    · left; exact hn


/-
Why the sticky-error property comes in two forms.  Stated for ALL states with the hypotheses `failed`
and `¬ closed` alone,

    (h : s.failed = true) (hc : s.closed = false) (op : Op) :
    (step c s op).1.failed = true ∧ (step c s op).1.closed = false ∧
    (match op with
     | .write _ _ => ∃ e, (step c s op).2 = Out.wrote 0 (some e)
     | .close _ => ∃ e, (step c s op).2 = Out.closedR (some e)
     | .getWritten => True)

it is FALSE.  Counterexample: `s := { init c with failed := true, finalized := true }`,
`op := .close .none`.  `close` skips phase 1 because `s.finalized`, phase 2 succeeds, so
`step c s op = ({ s with obsClosed, closerClosed, closed := true }, .closedR none)`: failed, closed, no
error.  No program produces a state with `failed ∧ finalized`: `finalized` is only set after a
`processBlock` that returned no error, and from then on every Write is refused and Close skips phase 1,
so nothing sets `failed`.

The two true forms:
* `failed_sticky_partial`: the statement above with the extra hypothesis `s.finalized = false`
  (and the extra conclusion that `finalized` stays false, which makes it inductive);
* `failed_sticky_reachable`: the statement above as it stands, for every state reachable from `init c`
  by any program with any faults (no assumption on B, J; even `closed = false` is a consequence there),
  via the flag invariant `FlagInv`: `(finalized → closing ∧ ¬failed) ∧ (closed → finalized)`.
-/

/-! ### the flag invariant behind `failed_sticky_reachable` (no assumption on B, J) -/

/-- a finalized writer is closing and not failed; a closed writer is finalized -/
def FlagInv (s : St) : Prop :=
  (s.finalized = true → s.closing = true ∧ s.failed = false) ∧ (s.closed = true → s.finalized = true)

theorem closeP1_flagInv (c : Cfg) (s : St) (flt : Fault) (h : FlagInv s) :
    FlagInv (closeP1 c s flt).1 ∧ ((closeP1 c s flt).2 = none → (closeP1 c s flt).1.finalized = true) := by
  have hopen : ∀ s : St, s.finalized = false → s.closed = false → FlagInv s :=
    fun s h1 h2 => ⟨fun h => Bool.noConfusion (h1.symm.trans h), fun h => Bool.noConfusion (h2.symm.trans h)⟩
  refine closeP1_cases c flt (P := fun s r => FlagInv s → FlagInv r.1 ∧ (r.2 = none → r.1.finalized = true))
    ?_ ?_ ?_ s h
  · intro s hfin h
    exact ⟨h, fun _ => hfin⟩
  · intro s _ _ h
    exact ⟨h, nofun⟩
  · intro s pb hfin _ hp
    obtain ⟨f1, f2, f3, _, _, _, _, f8⟩ := processBlock_frame c { s with closing := true } (flt = .task 0)
    rw [← hp] at f1 f2 f3 f8
    -- a writer that is not finalized stays so, and stays open, through the flush
    have hcl : FlagInv s → pb.1.closed = false := by
      intro h
      cases hc : s.closed with
      | false => exact f3.trans hc
      | true => rw [h.2 hc] at hfin; cases hfin
    exact ⟨fun _ _ h => ⟨hopen _ (f2.trans hfin) (hcl h), nofun⟩,
      fun _ _ h => ⟨hopen _ (f2.trans hfin) (hcl h), nofun⟩,
      fun hn _ _ => ⟨⟨fun _ => ⟨f1, f8 hn⟩, fun _ => rfl⟩, fun _ => rfl⟩⟩

theorem step_flagInv (c : Cfg) (s : St) (op : Op) (h : FlagInv s) : FlagInv (step c s op).1 := by
  cases op with
  | write d f =>
    simp only [step, write]
    split
    · exact h
    · split
      · exact h
      · rename_i h1 h2
        obtain ⟨w1, w2, _⟩ := writeLoop_frame c f (d.length + 1) d 0 0 s
        refine ⟨?_, ?_⟩
        · intro hh
          rw [w1] at hh
          exact absurd (Or.inr (h.1 hh).1) h1
        · intro hh
          rw [w2] at hh
          exact absurd (Or.inl hh) h1
  | close f =>
    simp only [step]
    rw [close_eq]
    split
    · exact h
    · obtain ⟨h1, h2⟩ := closeP1_flagInv c s f h
      cases hp : (closeP1 c s f).2 with
      | some e => exact h1
      | none =>
        simp only
        rw [closeP2_frame]
        exact ⟨h1.1, fun _ => h2 hp⟩
  | getWritten => exact h

theorem run_flagInv (c : Cfg) (ops : List Op) : ∀ s, FlagInv s → FlagInv (run c s ops).1 := by
  induction ops with
  | nil => intro s h; exact h
  | cons op ops ih => intro s h; exact ih _ (step_flagInv c s op h)

/-- the error state is sticky in every reachable state, with no hypothesis on `finalized` or `closed`
(`closed = false` is a consequence there) -/
theorem failed_sticky_reachable (c : Cfg) (ops : List Op) (s : St)
    (hr : (run c (init c) ops).1 = s) (h : s.failed = true) (op : Op) :
    s.closed = false ∧ (step c s op).1.failed = true ∧ (step c s op).1.closed = false ∧
    (match op with
     | .write _ _ => ∃ e, (step c s op).2 = Out.wrote 0 (some e)
     | .close _ => ∃ e, (step c s op).2 = Out.closedR (some e)
     | .getWritten => True) := by
  have hI : FlagInv s := by
    rw [← hr]
    refine run_flagInv c ops (init c) ⟨?_, ?_⟩
    · intro hh; cases hh
    · intro hh; cases hh
  have hfin : s.finalized = false := by
    cases hf : s.finalized with
    | false => rfl
    | true => have := (hI.1 hf).2; rw [h] at this; cases this
  have hc : s.closed = false := by
    cases hf : s.closed with
    | false => rfl
    | true => have := hI.2 hf; rw [hfin] at this; cases this
  obtain ⟨g1, g2, _, g4⟩ := failed_sticky_partial c s h hc hfin op
  exact ⟨hc, g1, g2, g4⟩

/-! ### the invariant -/

/-- a healthy writer that is still accepting data; `acc` = the bytes accepted so far -/
structure Open (c : Cfg) (s : St) (acc : List Nat) : Prop where
  memlen : s.mem.length = c.J * c.B
  avail : s.available ≤ c.J * c.B
  notClosing : s.closing = false
  notFinal : s.finalized = false
  notClosed : s.closed = false
  notFailed : s.failed = false
  endOut : s.endOut = false
  hdr : s.headerOut = s.initialized
  hdrless : c.headless = true → s.initialized = false
  data : ∃ F, s.emitted = chunks c.B F ∧ c.B ∣ F.length ∧ F ++ s.mem.take s.available = acc
  bits : s.bits = (if s.headerOut then c.headerBits else 0) + (s.emitted.map c.frameBits).sum

/-- a writer whose data is complete and whose end marker is out -/
structure Final (c : Cfg) (s : St) (acc : List Nat) : Prop where
  closing : s.closing = true
  finalized : s.finalized = true
  notFailed : s.failed = false
  endOut : s.endOut = true
  hdr : s.headerOut = !c.headless
  data : s.emitted = chunks c.B acc
  bits : s.bits = (if c.headless then 0 else c.headerBits) + (s.emitted.map c.frameBits).sum + 8

/-- the sticky error state -/
structure Dead (s : St) : Prop where
  failed : s.failed = true
  notFinal : s.finalized = false
  notClosed : s.closed = false

theorem open_init (c : Cfg) (hB : 0 < c.B) (hJ : 0 < c.J) : Open c (init c) [] ∧ (init c).available < c.J * c.B := by
  refine ⟨⟨?_, ?_, rfl, rfl, rfl, rfl, rfl, rfl, fun _ => rfl, ⟨[], ?_, ?_, ?_⟩, ?_⟩, ?_⟩
  · simp [init]
  · simp [init]
  · simp [init, chunks_nil c.B hB]
  · simp
  · simp [init]
  · simp [init]
  · exact Nat.mul_pos hJ hB

theorem open_splice (c : Cfg) (s : St) (acc src : List Nat) (h : Open c s acc)
    (hle : s.available + src.length ≤ c.J * c.B) :
    Open c { s with mem := splice s.mem s.available src, available := s.available + src.length } (acc ++ src) := by
  obtain ⟨F, hF1, hF2, hF3⟩ := h.data
  have hm := h.memlen
  refine ⟨?_, hle, h.notClosing, h.notFinal, h.notClosed, h.notFailed, h.endOut, h.hdr, h.hdrless,
    ⟨F, hF1, hF2, ?_⟩, h.bits⟩
  · simp only; rw [splice_length _ _ _ (by omega)]; exact hm
  · simp only
    rw [splice_take _ _ _ (by omega), ← hF3, List.append_assoc]

theorem writeHeader_open (c : Cfg) (s : St) (acc : List Nat) (h : Open c s acc) :
    (writeHeader c s).headerOut = (!c.headless) ∧ (writeHeader c s).initialized = (!c.headless) ∧
    (writeHeader c s).bits = (if c.headless then 0 else c.headerBits) + (s.emitted.map c.frameBits).sum := by
  have h1 := h.hdr
  have h2 := h.hdrless
  have h3 := h.bits
  unfold writeHeader
  cases hh : c.headless
  · cases hi : s.initialized
    · rw [hi] at h1; simp [h3, h1]; omega
    · rw [hi] at h1; simp [hi, h3, h1]
  · have hi := h2 hh
    rw [hi] at h1
    simp [hi, h3, h1]

/-- the flush of a healthy writer: header out, every accepted byte emitted -/
theorem open_pb (c : Cfg) (hB : 0 < c.B) (s : St) (acc : List Nat) (h : Open c s acc) :
    pbState c s =
      { s with
        available := 0, initialized := !c.headless, headerOut := !c.headless, emitted := chunks c.B acc,
        bits := (if c.headless then 0 else c.headerBits) + ((chunks c.B acc).map c.frameBits).sum } := by
  obtain ⟨F, hF1, hF2, hF3⟩ := h.data
  obtain ⟨w1, w2, w3⟩ := writeHeader_open c s acc h
  have he : chunks c.B acc = s.emitted ++ chunks c.B (s.mem.take s.available) := by
    rw [hF1, ← chunks_append_of_dvd c.B hB _ _ hF2, hF3]
  rw [pbState, writeHeader_frame, w1, w2, w3, he, List.map_append, List.sum_append, Nat.add_assoc]

theorem open_flush (c : Cfg) (hB : 0 < c.B) (hJ : 0 < c.J) (s : St) (acc : List Nat) (h : Open c s acc)
    (hd : c.B ∣ s.available) : Open c (pbState c s) acc ∧ (pbState c s).available < c.J * c.B := by
  obtain ⟨F, hF1, hF2, hF3⟩ := h.data
  have hm := h.memlen
  have ha := h.avail
  rw [open_pb c hB s acc h]
  refine ⟨⟨hm, Nat.zero_le _, h.notClosing, h.notFinal, h.notClosed, h.notFailed, h.endOut, rfl, ?_,
    ⟨acc, rfl, ?_, ?_⟩, ?_⟩, Nat.mul_pos hJ hB⟩
  · intro hh
    simp only [hh]
    rfl
  · rw [← hF3, List.length_append, List.length_take, Nat.min_eq_left (by omega)]
    exact Nat.dvd_add hF2 hd
  · simp
  · cases c.headless <;> simp

theorem open_close (c : Cfg) (hB : 0 < c.B) (s : St) (acc : List Nat) (h : Open c s acc) :
    Final c { pbState c { s with closing := true } with
                finalized := true, endOut := true,
                bits := (pbState c { s with closing := true }).bits + 8 } acc := by
  rw [pbState_closing, open_pb c hB s acc h]
  exact ⟨rfl, rfl, h.notFailed, rfl, rfl, rfl, rfl⟩

/-- one copy step of `writeLoop` on an open writer: the arithmetic of the buffer position -/
theorem open_fill (c : Cfg) (hB : 0 < c.B) (s : St) (acc rest : List Nat) (len : Nat) (hO : Open c s acc)
    (hA : s.available < c.J * c.B) (h0 : rest.length ≠ 0)
    (hlen : len = min rest.length (c.B - s.available % c.B)) :
    1 ≤ len ∧ len ≤ rest.length ∧ Open c (fill s (rest.take len) len) (acc ++ rest.take len) ∧
      (s.available % c.B + len < c.B ∨ s.available / c.B + 1 < c.J → s.available + len < c.J * c.B) ∧
      (s.available % c.B + len ≥ c.B → ¬ s.available / c.B + 1 < c.J → s.available + len = c.J * c.B) := by
  have hmod := Nat.mod_lt s.available hB
  have hdm := Nat.div_add_mod s.available c.B
  rw [Nat.mul_comm] at hdm
  have hq : s.available / c.B < c.J := (Nat.div_lt_iff_lt_mul hB).mpr hA
  have hq1 : (s.available / c.B + 1) * c.B ≤ c.J * c.B := Nat.mul_le_mul_right _ hq
  rw [Nat.succ_mul] at hq1
  have hl1 : 1 ≤ len := by omega
  have hl2 : len ≤ rest.length := by omega
  have htl : (rest.take len).length = len := by rw [List.length_take]; omega
  have hsp := open_splice c s acc (rest.take len) hO (by rw [htl]; omega)
  rw [htl] at hsp
  refine ⟨hl1, hl2, hsp, ?_, ?_⟩
  · rintro (h | hj)
    · omega
    · have hq2 : (s.available / c.B + 1 + 1) * c.B ≤ c.J * c.B := Nat.mul_le_mul_right _ hj
      rw [Nat.succ_mul, Nat.succ_mul] at hq2
      omega
  · intro hfull hj
    have hJeq : c.J = s.available / c.B + 1 := by omega
    have hJB : c.J * c.B = s.available / c.B * c.B + c.B := by rw [hJeq, Nat.succ_mul]
    omega

/-- outcome of writing `n` bytes with an open writer: all accepted (`acc` = everything accepted so far),
or a fault made the writer fail -/
def Wrote (c : Cfg) (flt : Fault) (acc : List Nat) (n : Nat) (r : St × Nat × Option Err) : Prop :=
  (r.2.2 = none ∧ r.2.1 = n ∧ Open c r.1 acc ∧ r.1.available < c.J * c.B) ∨
  (r.2.2 ≠ none ∧ flt ≠ .none ∧ Dead r.1)

theorem writeLoop_spec (c : Cfg) (hB : 0 < c.B) (hJ : 0 < c.J) (flt : Fault) (fuel : Nat)
    (rest : List Nat) (done batch : Nat) (s : St) (acc : List Nat)
    (hO : Open c s acc) (hA : s.available < c.J * c.B) (hlt : rest.length < fuel) :
    Wrote c flt (acc ++ rest) (done + rest.length) (writeLoop c flt fuel rest done batch s) := by
  have hacc : ∀ (acc rest : List Nat) len, acc ++ rest = acc ++ rest.take len ++ rest.drop len := by
    intro acc rest len
    rw [List.append_assoc, List.take_append_drop]
  have hdone : ∀ (done : Nat) (rest : List Nat) len, len ≤ rest.length →
      done + rest.length = done + len + (rest.drop len).length := by
    intro done rest len h
    rw [List.length_drop]
    omega
  refine writeLoop_cases c flt (P := fun fuel rest done batch s r => ∀ acc, Open c s acc →
    s.available < c.J * c.B → rest.length < fuel → Wrote c flt (acc ++ rest) (done + rest.length) r)
    ?_ ?_ ?_ fuel rest done batch s acc hO hA hlt
  · intro fuel rest done batch s h acc hO hA hlt
    have h0 : rest.length = 0 := by omega
    have : rest = [] := List.length_eq_zero_iff.mp h0
    subst this
    exact Or.inl ⟨rfl, rfl, by simpa using hO, hA⟩
  · intro fuel rest done batch s len r h0 hlen hc ih acc hO hA hlt
    obtain ⟨hl1, hl2, hsp, hnf, _⟩ := open_fill c hB s acc rest len hO hA h0 hlen
    have := ih _ hsp (hnf hc) (by rw [List.length_drop]; omega)
    rwa [← hacc, ← hdone _ _ _ hl2] at this
  · intro fuel rest done batch s len pb h0 hlen hfull hj hpb
    refine ⟨fun e he acc hO hA hlt => ?_, fun r hn ih acc hO hA hlt => ?_⟩
    · obtain ⟨_, _, hsp, _, hav⟩ := open_fill c hB s acc rest len hO hA h0 hlen
      obtain ⟨_, f2, f3, _, _, _, f9, _⟩ := processBlock_frame c (fill s (rest.take len) len) (flt = .task batch)
      rw [← hpb] at f2 f3 f9
      refine Or.inr ⟨by simp, ?_, ⟨f9 (by rw [he]; simp), f2.trans hsp.notFinal, f3.trans hsp.notClosed⟩⟩
      intro hflt
      subst hflt
      have : decide (Fault.none = Fault.task batch) = false := by simp
      rw [hpb, this, processBlock_ok c hB _ hsp.notFailed hsp.memlen (Nat.le_of_eq (hav hfull hj))] at he
      cases he
    · obtain ⟨hl1, hl2, hsp, _, hav⟩ := open_fill c hB s acc rest len hO hA h0 hlen
      have hav : (fill s (rest.take len) len).available = c.J * c.B := hav hfull hj
      have hst := processBlock_none c hB _ _ hsp.notFailed hsp.memlen (Nat.le_of_eq hav) (hpb ▸ hn)
      rw [← hpb] at hst
      obtain ⟨hO2, hA2⟩ := open_flush c hB hJ _ _ hsp (hav ▸ Nat.dvd_mul_left _ _)
      rw [← hst] at hO2 hA2
      have := ih _ hO2 hA2 (by rw [List.length_drop]; omega)
      rwa [← hacc, ← hdone _ _ _ hl2] at this

theorem write_spec (c : Cfg) (hB : 0 < c.B) (hJ : 0 < c.J) (s : St) (acc d : List Nat) (flt : Fault)
    (hO : Open c s acc) (hA : s.available < c.J * c.B) :
    Wrote c flt (acc ++ d) d.length (write c s d flt) := by
  unfold write
  simp only [hO.notClosed, hO.notClosing, hO.notFailed, Bool.false_eq_true, or_self, if_false]
  have := writeLoop_spec c hB hJ flt (d.length + 1) d 0 0 s acc hO hA (Nat.lt_succ_self _)
  rwa [Nat.zero_add] at this

theorem final_p2 (c : Cfg) (s : St) (acc : List Nat) (flt : Fault) (h : Final c s acc) :
    Final c (closeP2 s flt).1 acc := by
  rw [closeP2_frame]
  exact ⟨h.closing, h.finalized, h.notFailed, h.endOut, h.hdr, h.data, h.bits⟩

theorem close_final (c : Cfg) (s : St) (acc : List Nat) (flt : Fault) (h : Final c s acc) :
    Final c (close c s flt).1 acc := by
  rw [close_eq]
  split
  · exact h
  · have : closeP1 c s flt = (s, none) := by unfold closeP1; simp [h.finalized]
    rw [this]
    exact final_p2 c s acc flt h

theorem close_open (c : Cfg) (hB : 0 < c.B) (s : St) (acc : List Nat) (flt : Fault) (hO : Open c s acc) :
    (Dead (close c s flt).1 ∧ flt ≠ .none) ∨
    (Final c (close c s flt).1 acc ∧ (flt = .none → (close c s flt).2 = none ∧ (close c s flt).1.closed = true)) := by
  rw [close_eq, if_neg (by rw [hO.notClosed]; simp)]
  have hP1 : (Dead (closeP1 c s flt).1 ∧ (closeP1 c s flt).2 ≠ none ∧ flt ≠ .none) ∨
      (Final c (closeP1 c s flt).1 acc ∧ (closeP1 c s flt).2 = none ∧ (closeP1 c s flt).1.closed = false) := by
    refine closeP1_cases c flt (P := fun s r => Open c s acc →
      (Dead r.1 ∧ r.2 ≠ none ∧ flt ≠ .none) ∨ (Final c r.1 acc ∧ r.2 = none ∧ r.1.closed = false))
      ?_ ?_ ?_ s hO
    · intro s hfin hO
      rw [hO.notFinal] at hfin
      cases hfin
    · intro s _ hcl hO
      rw [hO.notClosing] at hcl
      cases hcl
    · intro s pb _ _ hpb
      obtain ⟨_, f2, f3, _, _, _, f9, _⟩ := processBlock_frame c { s with closing := true } (flt = .task 0)
      rw [← hpb] at f2 f3 f9
      have hst : Open c s acc → pb.2 = none → pb.1 = { pbState c s with closing := true } := by
        intro hO hn
        rw [hpb, ← pbState_closing]
        exact processBlock_none c hB { s with closing := true } _ hO.notFailed hO.memlen hO.avail (hpb ▸ hn)
      refine ⟨fun e he hO => ?_, fun hn hem hO => ?_, fun hn _ hO => ?_⟩
      · refine Or.inl ⟨⟨f9 (by rw [he]; nofun), f2.trans hO.notFinal, f3.trans hO.notClosed⟩, nofun, ?_⟩
        intro hflt
        subst hflt
        have : decide (Fault.none = Fault.task 0) = false := by simp
        rw [hpb, this, processBlock_ok c hB { s with closing := true } hO.notFailed hO.memlen hO.avail] at he
        cases he
      · exact Or.inl ⟨⟨rfl, f2.trans hO.notFinal, f3.trans hO.notClosed⟩, nofun, by rw [hem]; nofun⟩
      · have hc := f3.trans hO.notClosed
        rw [hst hO hn, ← pbState_closing] at hc ⊢
        exact Or.inr ⟨open_close c hB s acc hO, rfl, hc⟩
  rcases hP1 with ⟨hD, hne, hflt⟩ | ⟨hF, hn, hcl⟩
  · left
    cases hp : (closeP1 c s flt).2 with
    | none => exact absurd hp hne
    | some e => exact ⟨hD, hflt⟩
  · right
    rw [hn]
    simp only
    refine ⟨final_p2 c _ acc flt hF, ?_⟩
    intro hflt
    obtain ⟨g1, g2, g3⟩ := closeP2_result (closeP1 c s flt).1 flt hcl
    exact ⟨g3 hflt, (g1 (g3 hflt)).1⟩

/-- the invariant of every reachable state; `acc` = the bytes accepted so far -/
def Inv (c : Cfg) (s : St) (acc : List Nat) : Prop :=
  Dead s ∨ (Open c s acc ∧ s.available < c.J * c.B) ∨ Final c s acc

theorem accepted_cons (op : Op) (out : Out) (ops : List Op) (outs : List Out) :
    accepted (op :: ops) (out :: outs) = accepted [op] [out] ++ accepted ops outs := by
  cases op with
  | write d f =>
    cases out with
    | wrote n e => simp only [accepted, List.append_nil]
    | closedR e => rfl
    | written n => rfl
  | close f => cases out <;> rfl
  | getWritten => cases out <;> rfl

theorem step_inv (c : Cfg) (hB : 0 < c.B) (hJ : 0 < c.J) (s : St) (acc : List Nat) (op : Op)
    (h : Inv c s acc) : Inv c (step c s op).1 (acc ++ accepted [op] [(step c s op).2]) := by
  rcases h with hD | ⟨hO, hA⟩ | hF
  · obtain ⟨g1, g2, g3, _⟩ := failed_sticky_partial c s hD.failed hD.notClosed hD.notFinal op
    exact Or.inl ⟨g1, g3, g2⟩
  · cases op with
    | write d f =>
      simp only [step]
      rcases write_spec c hB hJ s acc d f hO hA with ⟨_, k2, k3, k4⟩ | ⟨_, _, k3⟩
      · right; left
        rw [k2]
        simp only [accepted, List.take_length, List.append_nil]
        exact ⟨k3, k4⟩
      · exact Or.inl k3
    | close f =>
      simp only [step, accepted, List.append_nil]
      rcases close_open c hB s acc f hO with ⟨k1, _⟩ | ⟨k1, _⟩
      · exact Or.inl k1
      · exact Or.inr (Or.inr k1)
    | getWritten =>
      simp only [step, accepted, List.append_nil]
      exact Or.inr (Or.inl ⟨hO, hA⟩)
  · right; right
    cases op with
    | write d f =>
      have : write c s d f = (s, 0, some Err.closed) := by unfold write; simp [hF.closing]
      simp only [step, this, accepted, List.take_zero, List.append_nil]
      exact hF
    | close f =>
      simp only [step, accepted, List.append_nil]
      exact close_final c s acc f hF
    | getWritten =>
      simp only [step, accepted, List.append_nil]
      exact hF

theorem run_inv (c : Cfg) (hB : 0 < c.B) (hJ : 0 < c.J) (ops : List Op) :
    ∀ (s : St) (acc : List Nat), Inv c s acc → Inv c (run c s ops).1 (acc ++ accepted ops (run c s ops).2) := by
  induction ops with
  | nil => intro s acc h; simpa [run, accepted] using h
  | cons op ops ih =>
    intro s acc h
    have h1 := step_inv c hB hJ s acc op h
    have h2 := ih _ _ h1
    simp only [run]
    rw [accepted_cons, ← List.append_assoc]
    exact h2

theorem closed_means_complete (c : Cfg) (hB : 0 < c.B) (hJ : 0 < c.J) (ops : List Op) :
    let r := run c (init c) ops
    r.1.closed = true →
      r.1.emitted = chunks c.B (accepted ops r.2) ∧ r.1.endOut = true ∧ r.1.headerOut = !c.headless ∧
      r.1.failed = false := by
  intro r hc
  have h := run_inv c hB hJ ops (init c) [] (Or.inr (Or.inl (open_init c hB hJ)))
  rw [List.nil_append] at h
  rcases h with hD | ⟨hO, _⟩ | hF
  · have := hD.notClosed; rw [hc] at this; cases this
  · have := hO.notClosed; rw [hc] at this; cases this
  · exact ⟨hF.data, hF.endOut, hF.hdr, hF.notFailed⟩

theorem healthy_aux (c : Cfg) (hB : 0 < c.B) (hJ : 0 < c.J) (parts : List (List Nat)) :
    ∀ (s : St) (acc : List Nat), Open c s acc → s.available < c.J * c.B →
      (run c s (healthyProgram parts)).2 = parts.map (fun d => Out.wrote d.length none) ++ [Out.closedR none] ∧
      Final c (run c s (healthyProgram parts)).1 (acc ++ parts.flatten) ∧
      (run c s (healthyProgram parts)).1.closed = true := by
  induction parts with
  | nil =>
    intro s acc hO hA
    simp only [healthyProgram, List.map_nil, List.nil_append, run, step, List.flatten_nil, List.append_nil]
    rcases close_open c hB s acc .none hO with ⟨_, k2⟩ | ⟨k1, k2⟩
    · exact absurd rfl k2
    · obtain ⟨k3, k4⟩ := k2 rfl
      exact ⟨by rw [k3], k1, k4⟩
  | cons d parts ih =>
    intro s acc hO hA
    have hp : healthyProgram (d :: parts) = Op.write d .none :: healthyProgram parts := rfl
    rw [hp]
    simp only [run, step]
    rcases write_spec c hB hJ s acc d .none hO hA with ⟨k1, k2, k3, k4⟩ | ⟨_, k, _⟩
    · obtain ⟨i1, i2, i3⟩ := ih _ _ k3 k4
      refine ⟨?_, ?_, i3⟩
      · rw [i1, k1, k2]; rfl
      · rw [List.flatten_cons, ← List.append_assoc]; exact i2
    · exact absurd rfl k

theorem healthy_run (c : Cfg) (hB : 0 < c.B) (hJ : 0 < c.J) (parts : List (List Nat)) :
    let r := run c (init c) (healthyProgram parts)
    r.2 = parts.map (fun d => Out.wrote d.length none) ++ [Out.closedR none] ∧
    r.1.emitted = chunks c.B parts.flatten ∧
    r.1.closed = true ∧ r.1.endOut = true ∧ r.1.headerOut = !c.headless ∧ r.1.failed = false := by
  obtain ⟨hO, hA⟩ := open_init c hB hJ
  obtain ⟨h1, hF, h3⟩ := healthy_aux c hB hJ parts (init c) [] hO hA
  rw [List.nil_append] at hF
  exact ⟨h1, hF.data, h3, hF.endOut, hF.hdr, hF.notFailed⟩

theorem getWritten_final (c : Cfg) (hB : 0 < c.B) (hJ : 0 < c.J) (parts : List (List Nat)) :
    getWritten (run c (init c) (healthyProgram parts)).1 =
      ((if c.headless then 0 else c.headerBits) +
        ((chunks c.B parts.flatten).map c.frameBits).sum + 8 + 7) / 8 := by
  obtain ⟨hO, hA⟩ := open_init c hB hJ
  obtain ⟨h1, hF, h3⟩ := healthy_aux c hB hJ parts (init c) [] hO hA
  rw [List.nil_append] at hF
  unfold getWritten
  rw [hF.bits, hF.data]

end Kanzi.Writer
