/-
Text codecs: the round trip `text_roundtrip` (Inverse restores what Forward accepted) and the lock step of the
two dictionaries `text_sync`.  Assembly of the refinements (TextRefine: the array models are runs of `encL` /
`decL`), the simulation (TextSim: `sim_main`), the meaning of the CR+LF flag (TextStats) and the monotonicity of
the initial dictionary size (TextLog).  The mode byte and the leading spaces, which Forward stores before its
main loop, are dealt with here (`sim_start`).
-/
import Kanzi.Proofs.TextStats
import Kanzi.Proofs.TextLog

namespace Kanzi.Text
open Kanzi.RLT (Out Res wr)

/-! ## the two dictionaries after `reset` -/

theorem resetMap_congr (hsz : Nat) (l1 l2 : Array Entry) : ∀ n,
    (∀ i, i < n → l1.getD i Entry.zero = l2.getD i Entry.zero) → resetMap hsz n l1 = resetMap hsz n l2
  | 0, _ => rfl
  | n + 1, h => by
    have ih := resetMap_congr hsz l1 l2 n (fun i hi => h i (by omega))
    unfold resetMap at ih ⊢
    rw [List.range_succ, List.foldl_append, List.foldl_append, ih]
    simp only [List.foldl_cons, List.foldl_nil]
    rw [h n (by omega)]

theorem reset_entry (sw : Nat) (sd : Array Entry) (tc2 : Bool) (hsz count k : Nat) :
    entryAt (reset sw sd tc2 hsz count) k =
      if k < dictSizeFor count then
        (if k < sw then sd.getD k Entry.zero
          else if tc2 then Entry.fresh k
          else if k = sw then ⟨0, 1, sw, some [ESCAPE_TOKEN2]⟩
          else if k = sw + 1 then ⟨0, 1, sw + 1, some [ESCAPE_TOKEN1]⟩
          else Entry.fresh k)
      else Entry.zero := by
  unfold entryAt reset
  simp only
  by_cases c : k < dictSizeFor count
  · rw [if_pos c, resetList_getD _ _ _ _ _ c]
  · rw [if_neg c, getD_of_ge _ _ _ (by rw [resetList_size]; omega)]

/-- Forward sizes its dictionary from `len(src) = count`, Inverse from `len(dst) = n`: for `count ≤ n` the two
    are related (`n < 2 ^ 39`: `uint32(n / 128)` does not wrap, see `dictSizeFor_mono`) -/
theorem reset_sim (sw : Nat) (sd : Array Entry) (tc2 : Bool) (hsz count n : Nat) (hs : StaticOK sw sd)
    (hcn : count ≤ n) (hn : n < 2 ^ 39) :
    DictSim (reset sw sd tc2 hsz count) (reset sw sd tc2 hsz n) := by
  have hmono := dictSizeFor_mono count n hcn hn
  have hge := dictSizeFor_ge count
  have hss := staticSize_le sw tc2 hs.le
  have hsw := hs.le
  refine ⟨?_, rfl, rfl, hmono, ?_⟩
  · show resetMap hsz (staticSize sw tc2) (resetList sw sd tc2 (dictSizeFor n)) =
      resetMap hsz (staticSize sw tc2) (resetList sw sd tc2 (dictSizeFor count))
    apply resetMap_congr
    intro i hi
    rw [resetList_getD _ _ _ _ _ (by omega), resetList_getD _ _ _ _ _ (by omega)]
  · intro k
    rw [reset_entry, reset_entry]
    show _ = if k < dictSizeFor count then _ else if k < dictSizeFor n then _ else _
    by_cases c1 : k < dictSizeFor count
    · rw [if_pos c1, if_pos (by omega), if_pos c1]
    · rw [if_neg c1]
      by_cases c2 : k < dictSizeFor n
      · rw [if_pos c2, if_pos c2, if_neg (by omega)]
        cases tc2
        · simp only [Bool.false_eq_true, if_false]
          rw [if_neg (by omega), if_neg (by omega)]
        · simp only [if_true]
      · rw [if_neg c2, if_neg c2]

theorem reset_spec (sw : Nat) (sd : Array Entry) (hsz n : Nat) (hs : StaticOK sw sd) :
    2 ≤ staticSize sw false ∧
    entryAt (reset sw sd false hsz n) (staticSize sw false - 2) =
      ⟨0, 1, staticSize sw false - 2, some [ESCAPE_TOKEN2]⟩ ∧
    entryAt (reset sw sd false hsz n) (staticSize sw false - 1) =
      ⟨0, 1, staticSize sw false - 1, some [ESCAPE_TOKEN1]⟩ := by
  have hge := dictSizeFor_ge n
  have hsw := hs.le
  have e : staticSize sw false = sw + 2 := rfl
  rw [e]
  refine ⟨by omega, ?_, ?_⟩
  · rw [reset_entry, if_pos (by omega), if_neg (by omega)]
    simp only [Bool.false_eq_true, if_false, Nat.add_sub_cancel, if_true]
  · rw [reset_entry, if_pos (by omega), if_neg (by omega)]
    simp only [Bool.false_eq_true, if_false]
    rw [if_neg (by omega), if_pos (by omega)]
    congr 1 <;> omega

/-! ## the leading spaces -/

theorem dec_spaces (tc2 : Bool) (n : Nat) (crlf : Bool) : ∀ (k : Nat) (L : List Nat) (t : DS),
    t.pw = some [] → t.run = false → t.out.length + k ≤ n →
    decL tc2 n crlf (List.replicate k 32 ++ L) t =
      decL tc2 n crlf L { t with out := t.out ++ List.replicate k 32 }
  | 0, L, t, _, _, _ => by simp
  | k + 1, L, t, hpw, hrun, hroom => by
    rw [List.replicate_succ, List.cons_append]
    have hlit : litL n crlf { t with d := t.d, words := t.words } 32 =
        .ok { t with out := t.out ++ [32] } := by
      unfold litL
      rw [if_neg (by intro h; exact absurd h.2 (by decide))]
      obtain ⟨tpw, tw, trun, td, tout⟩ := t
      simp only at hpw hrun
      simp only [hpw, hrun]
    rw [decL_lit tc2 n crlf 32 _ t _ t.d t.words (by omega) (by decide) (by cases tc2 <;> decide)
      (by rw [hpw]; exact learnL_short [] _ _ _ (by simp)) hlit]
    have hr2 : ({ t with out := t.out ++ [32] } : DS).out.length + k ≤ n := by
      simp only [List.length_append, List.length_cons, List.length_nil]; omega
    rw [dec_spaces tc2 n crlf k L { t with out := t.out ++ [32] } hpw hrun hr2]
    simp only [List.append_assoc, List.cons_append, List.nil_append]

theorem crlfOK_drop_spaces : ∀ (k : Nat) (r : List Nat), CrlfOK (List.replicate k 32 ++ r) → CrlfOK r
  | 0, r, h => by simpa using h
  | k + 1, r, h => by
    rw [List.replicate_succ, List.cons_append] at h
    unfold CrlfOK at h
    rw [if_neg (by decide)] at h
    exact crlfOK_drop_spaces k r h.2

theorem take_spaces (src : List Nat) : ∀ (p : Nat), p ≤ src.length →
    (∀ j, j < p → src.toArray.getD j 0 = 32) → src.take p = List.replicate p 32
  | 0, _, _ => by simp
  | p + 1, hp, h => by
    have hlt : p < src.length := by omega
    rw [List.take_succ_eq_append_getElem hlt, take_spaces src p (by omega) (fun j hj => h j (by omega)),
      List.replicate_succ']
    congr 1
    have := h p (by omega)
    rw [Array.getD_eq_getD_getElem?, List.getElem?_toArray, List.getElem?_eq_getElem hlt] at this
    simpa using this

/-! ## the first byte of the encoded block -/

theorem tokL_pw (tc2 : Bool) (n : Nat) (crlf : Bool) (pw1 pw2 : Option (List Nat)) (w : Nat) (r : Bool)
    (d : Dict) (o : List Nat) (cur : Nat) (l : List Nat) :
    tokL tc2 n crlf ⟨pw1, w, r, d, o⟩ cur l = tokL tc2 n crlf ⟨pw2, w, r, d, o⟩ cur l := rfl

/-- the decoder starts with `delimAnchor` on or before the first byte; for a first byte that is not a letter
    both give the same run -/
theorem decL_pw_norm (tc2 : Bool) (n : Nat) (crlf : Bool) (c : Nat) (l : List Nat) (w : Nat) (r : Bool)
    (d : Dict) (o : List Nat) (hc : isText c = false) :
    decL tc2 n crlf (c :: l) ⟨none, w, r, d, o⟩ = decL tc2 n crlf (c :: l) ⟨some [], w, r, d, o⟩ := by
  rw [decL, decL]
  simp only
  by_cases cr : o.length < n
  · rw [if_pos cr, if_pos cr]
    unfold decStep
    simp only
    rw [if_neg (by rw [hc]; decide), if_neg (by rw [hc]; decide), learnL_none, learnL_short [] _ _ _ (by simp)]
    simp only
    rw [tokL_pw tc2 n crlf none (some [])]
  · rw [if_neg cr, if_neg cr]

/-! ## the output grows by byte values -/

theorem symE_bytes (tc2 crlf : Bool) (ssz c : Nat) (hc : c < 256) : ∀ y ∈ symE tc2 crlf ssz c, y < 256 := by
  intro y hy
  unfold symE at hy
  cases tc2
  · simp only [Bool.false_eq_true, if_false] at hy
    unfold sym1 at hy
    split at hy
    · rcases List.mem_cons.mp hy with h | h
      · rw [h]; decide
      · exact wordIndex1_bytes _ y h
    · split at hy
      · simp at hy
      · rw [List.mem_singleton.mp hy]; exact hc
  · simp only [if_true] at hy
    unfold sym2 at hy
    split at hy
    · simp only [List.mem_cons, List.not_mem_nil, or_false] at hy
      rcases hy with h | h <;> (rw [h]; decide)
    · split at hy
      · split at hy
        · simp at hy
        · rw [List.mem_singleton.mp hy]; exact hc
      · split at hy
        · simp only [List.mem_cons, List.not_mem_nil, or_false] at hy
          rcases hy with h | h
          · rw [h]; decide
          · rw [h]; exact hc
        · rw [List.mem_singleton.mp hy]; exact hc

theorem encLits_bytes (tc2 crlf : Bool) (ssz : Nat) (X : List Nat) (hX : ∀ x ∈ X, x < 256) :
    ∀ y ∈ encLits tc2 crlf ssz X, y < 256 := by
  intro y hy
  unfold encLits at hy
  obtain ⟨c, hc, hyc⟩ := List.mem_flatMap.mp hy
  exact symE_bytes tc2 crlf ssz c (hX c hc) y hyc

theorem tokBytes_bytes (tc2 via : Bool) (idx : Nat) (h19 : idx < 2 ^ 19) : ∀ y ∈ tokBytes tc2 via idx, y < 256 := by
  intro y hy
  unfold tokBytes at hy
  cases tc2
  · simp only [Bool.false_eq_true, if_false] at hy
    rcases List.mem_cons.mp hy with h | h
    · rw [h]; cases via <;> decide
    · exact wordIndex1_bytes _ y h
  · simp only [if_true] at hy
    rcases List.mem_append.mp hy with h | h
    · cases via
      · simp only [Bool.false_eq_true, if_false, List.mem_singleton] at h
        rw [h]; decide
      · simp at h
    · exact wordIndex2_bytes _ h19 y h

theorem mem_append3 {A B : List Nat} {c : Nat} (hA : ∀ x ∈ A, x < 256) (hB : ∀ x ∈ B, x < 256) (hc : c < 256) :
    ∀ x ∈ A ++ B ++ [c], x < 256 := by
  intro x hx
  rcases List.mem_append.mp hx with h | h
  · rcases List.mem_append.mp h with h | h
    · exact hA x h
    · exact hB x h
  · rw [List.mem_singleton.mp h]; exact hc

theorem encStep_grow (tc2 : Bool) (dstLen dstEnd : Nat) (crlf : Bool) (e e1 : ES) (c : Nat) (hc : c < 256)
    (hX : ∀ x ∈ e.X, x < 256) (hp : ∀ x ∈ e.pw, x < 256) (h : encStep tc2 dstLen dstEnd crlf e c = .ok e1) :
    (∀ x ∈ e1.X, x < 256) ∧ (∀ x ∈ e1.pw, x < 256) ∧ ∃ l : List Nat, e1.out = e.out ++ l ∧ ∀ y ∈ l, y < 256 := by
  have hnil : ∀ x ∈ ([] : List Nat), x < 256 := fun x hx => by simp at hx
  have hout : ∃ l : List Nat, e.out = e.out ++ l ∧ ∀ y ∈ l, y < 256 := ⟨[], by simp, hnil⟩
  by_cases ct : isText c = true
  · unfold encStep at h
    rw [if_pos ct] at h
    cases h
    refine ⟨hX, fun x hx => ?_, hout⟩
    rcases List.mem_append.mp hx with h | h
    · exact hp x h
    · rw [List.mem_singleton.mp h]; exact hc
  · rcases encStep_cases _ _ _ _ _ _ _ (by simpa using ct) h with
      ⟨_, rfl⟩ | ⟨_, r, _, ⟨_, _, q, _, rfl⟩ | ⟨k, o, o2, _, hpend, htok, rfl⟩⟩
    · exact ⟨mem_append3 hX hp hc, hnil, hout⟩
    · exact ⟨mem_append3 hX hp hc, hnil, hout⟩
    · have h19 : (entryAt e.d k).idx % (MASK_LENGTH + 1) < 2 ^ 19 := Nat.mod_lt _ (by decide)
      refine ⟨fun x hx => by rw [List.mem_singleton.mp hx]; exact hc, hnil, ?_⟩
      rw [fwdToken_eq _ _ _ _ _ _ htok, emitPendingL_eq _ _ _ _ _ _ _ hpend]
      by_cases cx : e.X ≠ [32]
      · rw [if_pos cx, appendList_assoc]
        refine ⟨_, rfl, fun y hy => ?_⟩
        rcases List.mem_append.mp hy with h | h
        · exact encLits_bytes _ _ _ _ hX y h
        · exact tokBytes_bytes _ _ _ h19 y h
      · rw [if_neg cx]
        exact ⟨_, rfl, tokBytes_bytes _ _ _ h19⟩

theorem encL_grow (tc2 : Bool) (dstLen dstEnd : Nat) (crlf : Bool) : ∀ (rest : List Nat) (e ef : ES),
    (∀ x ∈ rest, x < 256) → (∀ x ∈ e.X, x < 256) → (∀ x ∈ e.pw, x < 256) →
    encL tc2 dstLen dstEnd crlf rest e = .ok ef →
    (∀ x ∈ ef.X, x < 256) ∧ (∀ x ∈ ef.pw, x < 256) ∧ ∃ l : List Nat, ef.out = e.out ++ l ∧ ∀ y ∈ l, y < 256
  | [], e, ef, _, hX, hp, h => by
    unfold encL at h
    cases h
    exact ⟨hX, hp, [], by simp, fun x hx => by simp at hx⟩
  | c :: rest, e, ef, hr, hX, hp, h => by
    unfold encL at h
    cases hs : encStep tc2 dstLen dstEnd crlf e c with
    | err x => rw [hs] at h; cases h
    | fault x => rw [hs] at h; cases h
    | ok e1 =>
      rw [hs] at h
      obtain ⟨hX1, hp1, l1, h1, hl1⟩ := encStep_grow _ _ _ _ _ _ _ (hr c (List.mem_cons_self ..)) hX hp hs
      obtain ⟨hX2, hp2, l2, h2, hl2⟩ := encL_grow tc2 dstLen dstEnd crlf rest e1 ef
        (fun x hx => hr x (List.mem_cons_of_mem _ hx)) hX1 hp1 h
      refine ⟨hX2, hp2, l1 ++ l2, by rw [h2, h1, appendList_assoc], fun y hy => ?_⟩
      rcases List.mem_append.mp hy with h | h
      · exact hl1 y h
      · exact hl2 y h

/-! ## the round trip of the codecs -/

theorem getLast?_drop_lt (l : List Nat) (k : Nat) (h : k < l.length) : (l.drop k).getLast? = l.getLast? := by
  rw [List.getLast?_drop, if_neg (by omega)]

/-- the loop of Forward as a run of `encL` that starts behind the mode byte and the `p0` leading spaces, at the
    first other byte `c` -/
theorem codecForwardLoopS_encL (sw : Nat) (sd : Array Entry) (tc2 : Bool) (hsz mode : Nat) (src : List Nat)
    (dstLen : Nat) (sF : FSt) (hde : src.length ≤ dstLen) (hns : ∃ c ∈ src, c ≠ 32)
    (h : codecForwardLoopS sw sd tc2 hsz mode src dstLen = .ok sF) :
    ∃ p0 c, p0 < src.length ∧ src = List.replicate p0 32 ++ src.drop p0 ∧ (src.drop p0).head? = some c ∧ c ≠ 32 ∧
      encL tc2 dstLen src.toArray.size (decide (mode &&& MASK_CRLF ≠ 0)) (src.drop p0)
        ⟨[], [], staticSize sw tc2, reset sw sd tc2 hsz src.length,
          (#[] : Array Nat) ++ [mode] ++ List.replicate p0 32⟩ = .ok (absE src.toArray sF) ∧
      FB src.toArray src.toArray.size sF ∧ sF.i = src.toArray.size := by
  have hsize : src.toArray.size = src.length := List.size_toArray
  obtain ⟨p0, hp0, hnsp, hsp, hB0, hstart⟩ := codecForwardLoopS_start sw sd tc2 hsz mode src dstLen hde hns
  rw [hstart] at h
  obtain ⟨hencL, hfin⟩ := fwdLoop_eq tc2 src.toArray dstLen src.toArray.size (decide (mode &&& MASK_CRLF ≠ 0))
    (by omega) (src.toArray.size + 1) _ hB0 (by simp only; omega)
  rw [absE_fresh, h] at hencL
  refine ⟨p0, src.toArray.getD p0 0, hp0, ?_, ?_, hnsp, hencL, (hfin sF h).1, (hfin sF h).2⟩
  · rw [← take_spaces src p0 (by omega) hsp, List.take_append_drop]
  · rw [List.head?_drop, Array.getD_eq_getD_getElem?, List.getElem?_toArray, List.getElem?_eq_getElem (by omega)]
    rfl

theorem sim_start (sw : Nat) (sd : Array Entry) (hs : StaticOK sw sd) (tc2 : Bool) (hsz lh : Nat) (hh : hsz = 2 ^ lh)
    (count n mode p0 : Nat) (crlf : Bool) (hcn : count ≤ n) (hn39 : n < 2 ^ 39) (hp0 : p0 ≤ n) :
    Sim ⟨tc2, n, crlf, staticSize sw tc2, lh, ⟨some [], staticSize sw tc2, false, reset sw sd tc2 hsz n, []⟩⟩
      ⟨[], [], staticSize sw tc2, reset sw sd tc2 hsz count, (#[] : Array Nat) ++ [mode] ++ List.replicate p0 32⟩
      ⟨some [], staticSize sw tc2, false, reset sw sd tc2 hsz n, List.replicate p0 32⟩ (List.replicate p0 32) := by
  have hpos : 0 < hsz := by rw [hh]; exact Nat.two_pow_pos lh
  refine ⟨reset_ok sw sd tc2 hsz count hs hpos, reset_ok sw sd tc2 hsz n hs hpos,
    reset_sim sw sd tc2 hsz count n hs hcn hn39, rfl, hh, rfl, rfl, rfl, rfl,
    fun b hb' => by simp at hb', ?_, ?_, ?_, fun hx => by simp at hx⟩
  · show 1 ≤ ((#[] : Array Nat) ++ [mode] ++ List.replicate p0 32).size
    rw [size_appendList, size_appendList]; simp
  · intro htc
    have : tc2 = false := htc
    subst this
    exact reset_spec sw sd hsz n hs
  · intro L
    show decL tc2 n crlf (_ ++ L) _ = decL tc2 n crlf L _
    have hG : (((#[] : Array Nat) ++ [mode] ++ List.replicate p0 32).toList.drop 1 ++
        encLits tc2 crlf (staticSize sw tc2) []) ++ L = List.replicate p0 32 ++ L := by
      rw [Array.toList_appendList, Array.toList_appendList]
      simp [encLits]
    show decL tc2 n crlf ((((#[] : Array Nat) ++ [mode] ++ List.replicate p0 32).toList.drop 1 ++
        encLits tc2 crlf (staticSize sw tc2) []) ++ L) _ = _
    rw [hG, dec_spaces tc2 n crlf p0 L ⟨some [], staticSize sw tc2, false, reset sw sd tc2 hsz n, []⟩ rfl rfl
      (by show 0 + p0 ≤ n; omega)]
    rfl

/-- "Emit last symbols" -/
theorem fwdFinish_eq (tc2 : Bool) (src : Array Nat) (crlf : Bool) (sF : FSt) (t : List Nat)
    (hB : FB src src.size sF) (hiF : sF.i = src.size) (h : fwdFinish tc2 src src.size crlf sF = .ok t) :
    t = ((absE src sF).out ++
      encLits tc2 crlf (absE src sF).d.ssz ((absE src sF).X ++ (absE src sF).pw)).toList := by
  unfold fwdFinish at h
  by_cases f1 : sF.ea > src.size
  · rw [if_pos f1] at h; cases h
  rw [if_neg f1] at h
  by_cases f2 : sF.out.size > src.size
  · rw [if_pos f2] at h; cases h
  rw [if_neg f2] at h
  cases hem : emitSymbols tc2 crlf sF.d.ssz src.size (src.extract sF.ea src.size).toList sF.out with
  | none => rw [hem] at h; cases h
  | some o =>
    rw [hem] at h
    simp only at h
    by_cases f3 : sF.i ≠ src.size
    · rw [if_pos f3] at h; cases h
    rw [if_neg f3] at h
    have ho := emitSymbols_pure _ _ _ _ _ _ _ hem
    rw [ext_append src sF.ea sF.ws src.size hB.ea_le (by have := hB.ws_le; omega), ← hiF] at ho
    rw [← Out.ok.inj h, ho]
    rfl

/-- the loop of Inverse as the Go function starts it is `decL` on the bytes behind the mode byte, for EVERY input -/
theorem codecInverseLoopS_decL (sw : Nat) (sd : Array Entry) (hs : StaticOK sw sd) (tc2 : Bool) (hsz : Nat)
    (hpos : 0 < hsz) (n mode c1 : Nat) (l1 : List Nat) :
    decL tc2 n (decide (mode &&& MASK_CRLF ≠ 0)) (c1 :: l1)
        ⟨some [], staticSize sw tc2, false, reset sw sd tc2 hsz n, []⟩ =
      (codecInverseLoopS sw sd tc2 false hsz (mode :: c1 :: l1) n).bind (finD (mode :: c1 :: l1).toArray) := by
  have h := invLoop_eq tc2 (mode :: c1 :: l1).toArray n _ _ _ (decide (mode &&& MASK_CRLF ≠ 0))
    ((mode :: c1 :: l1).toArray.size + 1) _
    (init_inv _ (DictOK_iff.mp (reset_ok sw sd tc2 hsz n hs hpos)) (Nat.le_trans (by decide) (dictSizeFor_ge n))
      (mode :: c1 :: l1).toArray n (if isText c1 = true then 1 else 2) (by simp) (by split <;> omega)
      (by split <;> omega))
    (by simp only; omega)
  refine Eq.trans ?_ h
  show decL tc2 n _ (c1 :: l1) _ = decL tc2 n _ (c1 :: l1) (absD _ _)
  unfold absD
  simp only
  by_cases ct1 : isText c1 = true
  · rw [if_pos ct1, if_pos (Nat.le_refl _), ext_self]; rfl
  · rw [if_neg ct1, if_neg (by omega)]
    exact (decL_pw_norm tc2 n _ c1 l1 _ _ _ _ (by simpa using ct1)).symm

/-- `textCodec{1,2}.Inverse`, given a destination of `n ≥ len(src)` bytes, restores what `textCodec{1,2}.Forward`
    accepted, and the two loops end with related dictionaries and the same `words`.  `htail`: codec 1 stores a
    0x0E / 0x0F of the source as a word token, and "Emit word" refuses a word that ends exactly at `len(dst)`,
    so a block that ends with such a byte needs one byte to spare -/
theorem codec_roundtrip (sw : Nat) (sd : Array Entry) (hs : StaticOK sw sd) (tc2 : Bool) (hsz lh dt : Nat)
    (hh : hsz = 2 ^ lh) (h6 : 6 ≤ lh) (h32 : lh ≤ 32) (src t : List Nat) (dstLen n : Nat)
    (hb : ∀ x ∈ src, x < 256) (h4 : 4 ≤ src.length)
    (h : codecForwardS sw sd tc2 hsz dt src dstLen = .ok t)
    (hn : src.length ≤ n) (hn39 : n < 2 ^ 39)
    (htail : tc2 = false → ∀ c, src.getLast? = some c → (c = ESCAPE_TOKEN1 ∨ c = ESCAPE_TOKEN2) → src.length < n) :
    codecInverseS sw sd tc2 false hsz t n = .ok src ∧ (∀ v ∈ t, v < 256) ∧
      ∃ sF tI, codecForwardLoopS sw sd tc2 hsz (computeStats (!tc2) src) src dstLen = .ok sF ∧
        codecInverseLoopS sw sd tc2 false hsz t n = .ok tI ∧ DictSim sF.d tI.d ∧ tI.words = sF.words := by
  unfold codecForwardS at h
  by_cases c0 : dstLen < src.length
  · rw [if_pos c0] at h; cases h
  rw [if_neg c0] at h
  by_cases c1 : dt ≠ 0 ∧ dt ≠ DT_TEXT ∧ dt ≠ Kanzi.RLT.DT_BIN
  · rw [if_pos c1] at h; cases h
  rw [if_neg c1] at h
  simp only at h
  by_cases c2 : computeStats (!tc2) src &&& MASK_NOT_TEXT ≠ 0
  · rw [if_pos c2] at h; cases h
  rw [if_neg c2] at h
  have hacc : computeStats (!tc2) src &&& MASK_NOT_TEXT = 0 := by omega
  have hmlt := mode_lt _ _ hacc
  have hcrok := crlfOK_of_stats (!tc2) src hb hacc
  have hns := accepted_nonspace (!tc2) src h4 hacc
  generalize computeStats (!tc2) src = mode at h hmlt hcrok ⊢
  cases hloop : codecForwardLoopS sw sd tc2 hsz mode src dstLen with
  | err x => rw [hloop] at h; cases h
  | fault x => rw [hloop] at h; cases h
  | ok sF =>
  rw [hloop] at h
  simp only [Kanzi.RLT.Out.bind] at h
  obtain ⟨p0, c, hp0, hsplit, hhead, hc32, hencL, hBF, hiF⟩ :=
    codecForwardLoopS_encL sw sd tc2 hsz mode src dstLen sF (by omega) hns hloop
  generalize hef : absE src.toArray sF = ef at hencL
  generalize hcrlf : (decide (mode &&& MASK_CRLF ≠ 0)) = crlf at h hencL
  have hdl : (src.drop p0).length = src.length - p0 := List.length_drop
  let par : Par := ⟨tc2, n, crlf, staticSize sw tc2, lh,
    ⟨some [], staticSize sw tc2, false, reset sw sd tc2 hsz n, []⟩⟩
  have hS0 := sim_start sw sd hs tc2 hsz lh hh src.length n mode p0 crlf hn hn39 (by omega)
  have hroomM : (List.replicate p0 32).length + ([] : List Nat).length + (src.drop p0).length ≤ n := by
    simp only [List.length_replicate, List.length_nil, hdl]; omega
  have hready : Ready par ⟨[], [], staticSize sw tc2, reset sw sd tc2 hsz src.length,
      (#[] : Array Nat) ++ [mode] ++ List.replicate p0 32⟩ (List.replicate p0 32) (src.drop p0) := by
    refine ⟨fun hcr => ?_, ⟨hroomM, fun htc c' hl hc' => ?_⟩,
      fun _ _ => by rw [hhead]; intro he; exact hc32 (Option.some.inj he)⟩
    · have hcr' : crlf = true := hcr
      have hm : mode &&& MASK_CRLF ≠ 0 := by
        rw [← hcrlf] at hcr'
        simpa using hcr'
      have := hcrok hm
      rw [hsplit] at this
      exact crlfOK_drop_spaces p0 _ this
    · have htc' : tc2 = false := htc
      rw [getLast?_drop_lt src p0 hp0] at hl
      have := htail htc' c' hl hc'
      show (List.replicate p0 32).length + ([] : List Nat).length + (src.drop p0).length < n
      simp only [List.length_replicate, List.length_nil, hdl]
      omega
  obtain ⟨tF, PF, hSF, hPF⟩ := sim_main par dstLen src.toArray.size h6 h32 _ (src.drop p0) _ _ _ ef (Nat.le_refl _)
    hS0 hready hencL
  rw [List.append_nil, ← hsplit] at hPF
  have ht := fwdFinish_eq tc2 src.toArray crlf sF t hBF hiF h
  rw [hef, hSF.ssz] at ht
  have ht1 : t.drop 1 = G par ef ++ ef.pw := by
    rw [ht, Array.toList_appendList, List.drop_append_of_le_length (by rw [Array.length_toList]; exact hSF.out1)]
    show _ = _ ++ encLits tc2 crlf (staticSize sw tc2) ef.X ++ ef.pw
    rw [encLits_append, encLits_text _ _ _ ef.pw hSF.text, List.append_assoc]
  have hlenF : PF.length + ef.pw.length = src.length := by
    rw [← List.length_append, hPF]
  have hdec : decL tc2 n crlf (t.drop 1)
      ⟨some [], staticSize sw tc2, false, reset sw sd tc2 hsz n, []⟩ =
      .ok ⟨some ([] ++ ef.pw), tF.words, tF.run, tF.d, src⟩ := by
    rw [ht1]
    show dec par _ par.ds0 = _
    rw [hSF.inv ef.pw]
    show decL tc2 n crlf ef.pw tF = _
    have hl := decL_letters tc2 n crlf ef.pw [] tF [] hSF.text hSF.pw (by rw [hSF.out]; omega)
    rw [List.append_nil] at hl
    rw [hl, decL, hSF.out, hPF]
  obtain ⟨hbX, hbp, l, hl, hbl⟩ := encL_grow _ _ _ _ _ _ _ (fun x hx => hb x (List.mem_of_mem_drop hx))
    (fun x hx => by simp at hx) (fun x hx => by simp at hx) hencL
  simp only at hl
  obtain ⟨c1, l1, htl⟩ : ∃ c1 l1, t = mode :: c1 :: l1 := by
    have hm : t = mode :: t.drop 1 := by
      rw [ht, hl, Array.toList_appendList, Array.toList_appendList, Array.toList_appendList, Array.toList_appendList]
      simp
    cases htd : t.drop 1 with
    | nil =>
      rw [htd, decL] at hdec
      have := congrArg DS.out (Out.ok.inj hdec)
      simp only at this
      rw [← this] at h4
      simp at h4
    | cons c1 l1 => exact ⟨c1, l1, by rw [hm, htd]⟩
  rw [htl, ← hcrlf, show List.drop 1 (mode :: c1 :: l1) = c1 :: l1 from rfl,
    codecInverseLoopS_decL sw sd hs tc2 hsz (by rw [hh]; exact Nat.two_pow_pos lh), ← htl] at hdec
  obtain ⟨tI, hIL, hiI, hdI⟩ := finD_ok hdec
  refine ⟨?_, ?_, sF, tI, rfl, hIL, ?_, ?_⟩
  · unfold codecInverseS
    rw [hIL]
    simp only [Kanzi.RLT.Out.bind]
    rw [if_neg (fun hne => hne hiI)]
    exact congrArg (fun x => Out.ok x.out) hdI
  · -- byte values
    intro v hv
    rw [ht, Array.toList_appendList] at hv
    rcases List.mem_append.mp hv with h | h
    · rw [hl, Array.toList_appendList, Array.toList_appendList, Array.toList_appendList] at h
      simp only [List.mem_append, List.mem_replicate, List.mem_singleton, List.not_mem_nil, false_or] at h
      rcases h with (h | h) | h
      · rw [h]; exact hmlt
      · rw [h.2]; decide
      · exact hbl v h
    · refine encLits_bytes _ _ _ _ ?_ v h
      intro x hx
      rcases List.mem_append.mp hx with h | h
      · exact hbX x h
      · exact hbp x h
  · rw [show tI.d = tF.d from congrArg DS.d hdI, show sF.d = ef.d from congrArg ES.d hef]
    exact hSF.sim
  · rw [show tI.words = tF.words from congrArg DS.words hdI, hSF.words]
    exact (congrArg ES.words hef).symm

/-! ## the wrapper `TextCodec` -/

theorem textForwardS_ok (sw : Nat) (sd : Array Entry) (tc2 : Bool) (hsz dt : Nat) (src t : List Nat) (dstLen : Nat)
    (h : textForwardS sw sd tc2 hsz dt src dstLen = .ok t) :
    ((src.length = 0 ∨ dstLen = 0) ∧ t = []) ∨
    (src.length ≠ 0 ∧ 1024 ≤ src.length ∧ src.length ≤ 2 ^ 30 ∧ codecForwardS sw sd tc2 hsz dt src dstLen = .ok t) := by
  have hmax : MAX_BLOCK_SIZE = 2 ^ 30 := by decide
  unfold textForwardS at h
  by_cases c0 : src.length = 0 ∨ dstLen = 0
  · rw [if_pos c0] at h
    exact Or.inl ⟨c0, (Out.ok.inj h).symm⟩
  · rw [if_neg c0] at h
    by_cases c1 : src.length < MIN_BLOCK_SIZE
    · rw [if_pos c1] at h; cases h
    · rw [if_neg c1] at h
      by_cases c2 : src.length > MAX_BLOCK_SIZE
      · rw [if_pos c2] at h; cases h
      · rw [if_neg c2] at h
        exact Or.inr ⟨fun e => c0 (Or.inl e), Nat.le_of_not_lt c1, by rw [← hmax]; exact Nat.le_of_not_lt c2, h⟩

theorem text_bound (sw : Nat) (sd : Array Entry) (hs : StaticOK sw sd) (tc2 : Bool) (hsz dt : Nat) (hpos : 0 < hsz)
    (src t : List Nat) (dstLen : Nat) (h : textForwardS sw sd tc2 hsz dt src dstLen = .ok t) :
    t.length ≤ src.length := by
  rcases textForwardS_total sw sd hs tc2 hsz dt hpos src dstLen with ⟨e, he⟩ | ⟨o, ho, hol⟩
  · rw [he] at h; cases h
  · rw [ho] at h; cases h; exact hol

/-- `TextCodec.Inverse` restores what `TextCodec.Forward` accepted (`htail`: see `codec_roundtrip`); the output
    of Forward is not longer than the block and consists of byte values -/
theorem text_roundtrip (sw : Nat) (sd : Array Entry) (hs : StaticOK sw sd) (tc2 : Bool) (hsz lh dt : Nat)
    (hh : hsz = 2 ^ lh) (h6 : 6 ≤ lh) (h32 : lh ≤ 32) (src t : List Nat) (dstLen n : Nat)
    (hb : ∀ x ∈ src, x < 256) (hdst : src.length ≤ dstLen)
    (h : textForwardS sw sd tc2 hsz dt src dstLen = .ok t)
    (hn : src.length ≤ n) (hn39 : n < 2 ^ 39)
    (htail : tc2 = false → ∀ c, src.getLast? = some c → (c = ESCAPE_TOKEN1 ∨ c = ESCAPE_TOKEN2) → src.length < n) :
    t.length ≤ src.length ∧ textInverseS sw sd tc2 false hsz t n = .ok src ∧ ∀ v ∈ t, v < 256 := by
  have hpos : 0 < hsz := by rw [hh]; exact Nat.two_pow_pos lh
  have hlen := text_bound sw sd hs tc2 hsz dt hpos src t dstLen h
  refine ⟨hlen, ?_⟩
  rcases textForwardS_ok sw sd tc2 hsz dt src t dstLen h with ⟨_, rfl⟩ | ⟨h0, hmin, hmax, hc⟩
  · have : src = [] := List.eq_nil_of_length_eq_zero (by omega)
    subst this
    unfold textInverseS
    simp
  · obtain ⟨hinv, hbytes, sF, tI, _, hIL, _, _⟩ := codec_roundtrip sw sd hs tc2 hsz lh dt hh h6 h32 src t dstLen n hb
      (by omega) hc hn hn39 htail
    have ht2 : 2 ≤ t.length := by
      unfold codecInverseLoopS at hIL
      simp only at hIL
      cases t with
      | nil => simp at hIL
      | cons x t' =>
        cases t' with
        | nil => simp at hIL
        | cons y t'' => simp
    have hmaxb : MAX_BLOCK_SIZE = 2 ^ 30 := by decide
    refine ⟨?_, hbytes⟩
    unfold textInverseS
    rw [if_neg (by omega), if_neg (by omega), if_neg (by omega)]
    exact hinv

theorem text_accept_len (sw : Nat) (sd : Array Entry) (tc2 : Bool) (hsz dt : Nat) (src t : List Nat) (dstLen : Nat)
    (h : textForwardS sw sd tc2 hsz dt src dstLen = .ok t) : src.length ≤ 2 ^ 30 ∨ dstLen = 0 := by
  rcases textForwardS_ok sw sd tc2 hsz dt src t dstLen h with ⟨h0 | h0, _⟩ | ⟨_, _, hmax, _⟩
  · exact Or.inl (by omega)
  · exact Or.inr h0
  · exact Or.inl hmax

theorem text_bytes (sw : Nat) (sd : Array Entry) (hs : StaticOK sw sd) (tc2 : Bool) (hsz lh dt : Nat)
    (hh : hsz = 2 ^ lh) (h6 : 6 ≤ lh) (h32 : lh ≤ 32) (src t : List Nat) (dstLen : Nat)
    (hb : ∀ x ∈ src, x < 256) (hdst : src.length ≤ dstLen)
    (h : textForwardS sw sd tc2 hsz dt src dstLen = .ok t) : ∀ v ∈ t, v < 256 := by
  have hl : src.length ≤ 2 ^ 30 := by
    rcases text_accept_len sw sd tc2 hsz dt src t dstLen h with h1 | h1
    · exact h1
    · omega
  have e30 : (2 : Nat) ^ 30 = 1073741824 := by decide
  have e39 : (2 : Nat) ^ 39 = 549755813888 := by decide
  exact (text_roundtrip sw sd hs tc2 hsz lh dt hh h6 h32 src t dstLen (src.length + 1) hb hdst h (by omega) (by omega)
    (fun _ _ _ _ => by omega)).2.2

/-- lock step: for a block that was transformed, the loop of Inverse ends with a dictionary that holds the words
    of the dictionary the loop of Forward ended with (`DictSim`: it may be larger) and with the same ring index
    `words` -/
theorem text_sync (sw : Nat) (sd : Array Entry) (hs : StaticOK sw sd) (tc2 : Bool) (hsz lh dt : Nat)
    (hh : hsz = 2 ^ lh) (h6 : 6 ≤ lh) (h32 : lh ≤ 32) (src t : List Nat) (dstLen n : Nat)
    (hb : ∀ x ∈ src, x < 256) (hdst : src.length ≤ dstLen) (hne : src ≠ [])
    (h : textForwardS sw sd tc2 hsz dt src dstLen = .ok t)
    (hn : src.length ≤ n) (hn39 : n < 2 ^ 39)
    (htail : tc2 = false → ∀ c, src.getLast? = some c → (c = ESCAPE_TOKEN1 ∨ c = ESCAPE_TOKEN2) → src.length < n) :
    ∃ sF tI, codecForwardLoopS sw sd tc2 hsz (computeStats (!tc2) src) src dstLen = .ok sF ∧
      codecInverseLoopS sw sd tc2 false hsz t n = .ok tI ∧ DictSim sF.d tI.d ∧ tI.words = sF.words := by
  have hl : src.length ≠ 0 := fun e => hne (List.eq_nil_of_length_eq_zero e)
  rcases textForwardS_ok sw sd tc2 hsz dt src t dstLen h with ⟨h0, _⟩ | ⟨_, hmin, _, hc⟩
  · omega
  · exact (codec_roundtrip sw sd hs tc2 hsz lh dt hh h6 h32 src t dstLen n hb (by omega) hc hn hn39 htail).2.2

end Kanzi.Text
