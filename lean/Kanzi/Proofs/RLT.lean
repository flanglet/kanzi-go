/-
`rltForward` as a whole (its guards, the header, then the main loop of `RLTFwd.lean`) and the theorems
behind `Kanzi/Properties/C13_rlt.lean`: round trip with `rltInverse`, strict shrinking, no `.fault`.
-/
import Kanzi.Proofs.RLTFwd

namespace Kanzi.RLT

theorem selEscGo_lt (freqs : Array Nat) : ∀ (k m : Nat), m < 256 → selEscGo freqs k m < 256 := by
  intro k
  induction k with
  | zero => intro m h; simpa [selEscGo] using h
  | succ k ih =>
    intro m h
    unfold selEscGo
    split
    · split
      · omega
      · exact ih _ (by omega)
    · exact ih _ h

theorem selectEscape_lt (freqs : Array Nat) : selectEscape freqs < 256 := by
  unfold selectEscape
  split
  · exact selEscGo_lt freqs 256 0 (by omega)
  · omega

theorem chooseEscape_lt (dt : Nat) (fast : Bool) (b : List Nat) (esc : Nat)
    (h : chooseEscape dt fast b = some esc) : esc < 256 := by
  unfold chooseEscape at h
  split at h
  · injection h with h; subst h; decide
  · simp only [] at h
    split at h
    · simp at h
    · injection h with h; subst h; exact selectEscape_lt _

theorem rltMaxEncodedLen_ge (k : Nat) : k ≤ rltMaxEncodedLen k := by
  unfold rltMaxEncodedLen; split <;> omega

theorem rltForward_cases (dt : Nat) (fast : Bool) (b : List Nat) (dstLen : Nat) :
    ((b.length = 0 ∨ dstLen = 0) ∧ rltForward dt fast b dstLen = .ok []) ∨
    (∃ e, rltForward dt fast b dstLen = .err e) ∨
    ∃ esc prev rest, esc < 256 ∧ b = prev :: rest ∧
      FwdSat b esc 1 0 prev (esc :: encLit esc prev) (rltForward dt fast b dstLen) := by
  generalize hr : rltForward dt fast b dstLen = r
  unfold rltForward at hr
  by_cases h0 : b.length = 0 ∨ dstLen = 0
  · rw [if_pos h0] at hr; exact .inl ⟨h0, hr.symm⟩
  rw [if_neg h0] at hr
  by_cases h16 : b.length < MIN_BLOCK_LENGTH
  · rw [if_pos h16] at hr; exact .inr (.inl ⟨_, hr.symm⟩)
  rw [if_neg h16] at hr
  by_cases hdst : dstLen < rltMaxEncodedLen b.length
  · rw [if_pos hdst] at hr; exact .inr (.inl ⟨_, hr.symm⟩)
  rw [if_neg hdst] at hr
  by_cases hdt : declinedType dt
  · rw [if_pos hdt] at hr; exact .inr (.inl ⟨_, hr.symm⟩)
  rw [if_neg hdt] at hr
  cases hesc : chooseEscape dt fast b with
  | none => rw [hesc] at hr; exact .inr (.inl ⟨_, hr.symm⟩)
  | some esc =>
    rw [hesc] at hr
    rw [MIN_BLOCK_LENGTH_eq] at h16
    cases b with
    | nil => exact absurd (Nat.zero_lt_succ 15) h16
    | cons prev rest =>
      have hm := rltMaxEncodedLen_ge (prev :: rest).length
      have hh := encLit_length esc prev
      have h0 : (#[] : Array Nat).size = 0 := rfl
      simp only [List.getElem?_toArray, List.getElem?_cons_zero, List.size_toArray] at hr
      rw [encLit_eq, wr_ok _ _ _ (by rw [List.length_cons]; omega), Out.bind_ok] at hr
      have hs := fwdLoop_sat (prev :: rest) esc (rltMaxEncodedLen (prev :: rest).length) (prev :: rest).length 1 0
        prev ((#[] : Array Nat) ++ (esc :: encLit esc prev)) (by omega) (by omega) (by rw [MAX_RUN4_eq]; decide)
      rw [hr, Array.toList_appendList] at hs
      exact .inr (.inr ⟨esc, prev, rest, chooseEscape_lt _ _ _ _ hesc, rfl, hs⟩)

/-- Inverse on the escape byte and the first literal as Forward writes them -/
theorem invL_encLit (esc x n : Nat) (rest : List Nat) (hn : n ≠ 0) :
    invL (esc :: encLit esc x ++ rest) n = decL n esc rest [x] := by
  unfold invL encLit
  rw [if_neg hn]
  by_cases hx : x = esc
  · subst hx
    simp only [if_true, List.cons_append, List.nil_append, ne_eq, not_true_eq_false, if_false]
  · have hfree : ¬ ([] : List Nat).length ≥ n := by rw [List.length_nil]; omega
    simp only [hx, if_false, List.cons_append, List.nil_append, ne_eq, not_false_eq_true, if_true]
    rw [decL_lit _ _ _ _ _ hx, if_neg hfree, List.nil_append]

/-- C13_rlt + C13_rlt_bytes -/
theorem rlt_roundtrip (dt : Nat) (fast : Bool) (b t : List Nat) (dstLen : Nat) (hb : ∀ x ∈ b, x < 256)
    (hdst : rltMaxEncodedLen b.length ≤ dstLen) (h : rltForward dt fast b dstLen = .ok t) :
    t.length ≤ rltMaxEncodedLen b.length ∧ (∀ y ∈ t, y < 256) ∧
      ∀ n, b.length ≤ n → rltInverse t n = .ok b := by
  have hm := rltMaxEncodedLen_ge b.length
  rcases rltForward_cases dt fast b dstLen with ⟨h0, he⟩ | ⟨e, he⟩ | ⟨esc, prev, rest, hesc, hbeq, hs⟩
  · have hnil : b = [] := List.length_eq_zero_iff.mp (by omega)
    have ht : t = [] := by rw [he] at h; injection h with h; exact h.symm
    subst hnil ht
    exact ⟨Nat.zero_le _, nofun, fun n _ => by simp [rltInverse]⟩
  · rw [he] at h; cases h
  · have hp : prev < 256 := hb prev (by rw [hbeq]; exact List.mem_cons_self)
    rcases hs with ⟨e, hl⟩ | ⟨tail, hl, hlen, hdec⟩
    · rw [hl] at h; cases h
    rw [hl] at h
    injection h with h
    obtain ⟨hby, hd⟩ := hdec hb hesc hp (List.append_nil _).symm
    have htake : b.take 1 = [prev] := by rw [hbeq]; rfl
    rw [htake] at hd
    subst h
    refine ⟨by omega, fun y hy => ?_, fun n hn => ?_⟩
    · rcases List.mem_cons.1 hy with rfl | hy
      · exact hesc
      rcases List.mem_append.1 hy with hy | hy
      · exact encLit_bytes esc prev hesc hp y hy
      · exact hby y hy
    · rw [rltInverse_eq, invL_encLit esc prev n tail (by omega), hd n hn]
      rfl

theorem rlt_shorter (dt : Nat) (fast : Bool) (b t : List Nat) (dstLen : Nat) (hb : ∀ x ∈ b, x < 256)
    (hdst : rltMaxEncodedLen b.length ≤ dstLen) (hne : b ≠ []) (h : rltForward dt fast b dstLen = .ok t) :
    t.length < b.length := by
  have hm := rltMaxEncodedLen_ge b.length
  have hl : b.length ≠ 0 := fun h0 => hne (List.length_eq_zero_iff.mp h0)
  rcases rltForward_cases dt fast b dstLen with ⟨h0, _⟩ | ⟨e, he⟩ | ⟨esc, prev, rest, _, _, hs⟩
  · omega
  · rw [he] at h; cases h
  · rcases hs with ⟨e, hl⟩ | ⟨tail, hl, hlen, _⟩
    · rw [hl] at h; cases h
    · rw [hl] at h
      injection h with h
      rw [← h]
      exact hlen

/-- C13_rlt_total, Forward part -/
theorem rltForward_ne_fault (dt : Nat) (fast : Bool) (b : List Nat) (dstLen : Nat)
    (hdst : rltMaxEncodedLen b.length ≤ dstLen) (e : String) : rltForward dt fast b dstLen ≠ .fault e := by
  rcases rltForward_cases dt fast b dstLen with ⟨_, he⟩ | ⟨e', he⟩ | ⟨_, _, _, _, _, ⟨e', he⟩ | ⟨tail, he, _⟩⟩
  · rw [he]; nofun
  · rw [he]; nofun
  · rw [he]; nofun
  · rw [he]; nofun

end Kanzi.RLT
