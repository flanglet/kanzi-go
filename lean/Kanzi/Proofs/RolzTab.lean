/-
Proofs about the pieces shared by the two ROLZ codecs (`Kanzi/Model/ROLZX.lean`): the ring of remembered
positions per key (`Tab`, `ring`, `Tab.register`), the context keys, the match verification loops and `emitCopy`.

The decoder does not keep the tables of the encoder literally: the encoder stores `hash tag | position`, the
decoder `position`; and the encoder of ROLZX does not register the last `minMatch - 1` positions of a chunk
while the decoder does (its per-key counters then differ for the rest of the block, `counters` being cleared
per block only).  What both sides agree on is the LOGICAL ring `ring t lpc key j` = the `j`-th most recent
entry of `key` (`RingEq`), which is all either side ever reads.
-/
import Kanzi.Model.ROLZX
import Kanzi.Proofs.RolzCoder

namespace Kanzi.ROLZ

/-! ## tables -/

/-- the `j`-th most recent entry of `key`: Go `m[(counters[key] - j) & maskChecks]` -/
def ring (t : Tab) (lpc key j : Nat) : Nat :=
  t.mts.getD (key * 2 ^ lpc + (t.counters.getD key 0 + 2 ^ lpc - j) % 2 ^ lpc) 0

/-- `rolzCodec1.Inverse` adds 256 rings instead of one before it subtracts the match index -/
theorem ring_add256 (t : Tab) (lpc key : Nat) {j : Nat} (hj : j ≤ 2 ^ lpc) :
    t.mts.getD (key * 2 ^ lpc + (t.counters.getD key 0 + 256 * 2 ^ lpc - j) % 2 ^ lpc) 0 = ring t lpc key j := by
  have e : t.counters.getD key 0 + 256 * 2 ^ lpc - j = (t.counters.getD key 0 + 2 ^ lpc - j) + 255 * 2 ^ lpc := by omega
  rw [ring, e, Nat.add_mul_mod_self_right]

/-- the Go allocations: `matches` has `65536 << logPosChecks` entries, `counters` 65536 -/
structure TabOk (t : Tab) (lpc : Nat) : Prop where
  mts : t.mts.size = HASH_SIZE * 2 ^ lpc
  cnt : t.counters.size = HASH_SIZE

theorem register_ok {t : Tab} {lpc : Nat} (h : TabOk t lpc) (key v : Nat) : TabOk (t.register lpc key v) lpc := by
  constructor
  · simp only [Tab.register, Array.size_setIfInBounds]; exact h.mts
  · simp only [Tab.register, Array.size_setIfInBounds]; exact h.cnt

theorem block_lt {P k k' x : Nat} (hx : x < P) (hk : k < k') : k * P + x < k' * P := by
  have : (k + 1) * P ≤ k' * P := Nat.mul_le_mul_right _ hk
  rw [Nat.add_mul, Nat.one_mul] at this
  omega

theorem register_counters {t : Tab} {lpc : Nat} (h : TabOk t lpc) {key : Nat} (hk : key < HASH_SIZE) (v key' : Nat) :
    (t.register lpc key v).counters.getD key' 0 =
      if key' = key then (t.counters.getD key 0 + 1) % 2 ^ lpc else t.counters.getD key' 0 := by
  simp only [Tab.register]
  rw [getD_setIfInBounds]
  by_cases hkk : key' = key
  · rw [if_pos ⟨hkk, by rw [h.cnt]; exact hk⟩, if_pos hkk]
  · rw [if_neg (fun hc => hkk hc.1), if_neg hkk]

theorem register_mts {t : Tab} {lpc : Nat} (h : TabOk t lpc) {key : Nat} (hk : key < HASH_SIZE) (v idx : Nat) :
    (t.register lpc key v).mts.getD idx 0 =
      if idx = key * 2 ^ lpc + (t.counters.getD key 0 + 1) % 2 ^ lpc then v else t.mts.getD idx 0 := by
  have hP : 0 < 2 ^ lpc := Nat.two_pow_pos lpc
  have hc : (t.counters.getD key 0 + 1) % 2 ^ lpc < 2 ^ lpc := Nat.mod_lt _ hP
  have hin : key * 2 ^ lpc + (t.counters.getD key 0 + 1) % 2 ^ lpc < t.mts.size := by
    rw [h.mts]
    exact block_lt hc hk
  simp only [Tab.register]
  rw [getD_setIfInBounds]
  by_cases hi : idx = key * 2 ^ lpc + (t.counters.getD key 0 + 1) % 2 ^ lpc
  · rw [if_pos ⟨hi, hin⟩, if_pos hi]
  · rw [if_neg (fun hc2 => hi hc2.1), if_neg hi]

/-- stepping the counter of a ring of `P` slots: slot `j > 0` is the former slot `j - 1`, and it is not the slot
    the new counter points at -/
theorem ring_slot {P c j : Nat} (hj : j < P) (hj0 : j ≠ 0) :
    ((c + 1) % P + P - j) % P = (c + P - (j - 1)) % P ∧ ((c + 1) % P + P - j) % P ≠ (c + 1) % P := by
  have e : ((c + 1) % P + P - j) % P = (c + 1 + (P - j)) % P := by
    rw [show (c + 1) % P + P - j = (c + 1) % P + (P - j) by omega, Nat.add_mod ((c + 1) % P), Nat.mod_mod, ← Nat.add_mod]
  refine ⟨by rw [e, show c + P - (j - 1) = c + 1 + (P - j) by omega], fun hc => ?_⟩
  have := Nat.sub_mod_eq_zero_of_mod_eq (e.symm.trans hc)
  rw [Nat.add_sub_cancel_left, Nat.mod_eq_of_lt (by omega)] at this
  omega

theorem register_ring {t : Tab} {lpc : Nat} (h : TabOk t lpc) {key : Nat} (hk : key < HASH_SIZE) (v key' j : Nat)
    (hj : j < 2 ^ lpc) :
    ring (t.register lpc key v) lpc key' j =
      if key' = key then (if j = 0 then v else ring t lpc key (j - 1)) else ring t lpc key' j := by
  have hP : 0 < 2 ^ lpc := Nat.two_pow_pos lpc
  have hc : (t.counters.getD key 0 + 1) % 2 ^ lpc < 2 ^ lpc := Nat.mod_lt _ hP
  unfold ring
  rw [register_counters h hk, register_mts h hk]
  by_cases hkk : key' = key
  · subst hkk
    rw [if_pos rfl, if_pos rfl]
    by_cases hj0 : j = 0
    · subst hj0
      rw [if_pos rfl, if_pos]
      congr 1
      rw [Nat.sub_zero, Nat.add_mod_right, Nat.mod_mod]
    · obtain ⟨e1, e2⟩ := ring_slot (c := t.counters.getD key' 0) hj hj0
      rw [if_neg hj0, if_neg (fun hc2 => e2 (by omega)), e1]
  · rw [if_neg hkk, if_neg hkk, if_neg]
    intro hc2
    -- different keys address different blocks of `2^lpc` entries
    have hs : (t.counters.getD key' 0 + 2 ^ lpc - j) % 2 ^ lpc < 2 ^ lpc := Nat.mod_lt _ hP
    rcases Nat.lt_or_gt_of_ne hkk with hlt | hgt
    · have := block_lt hs hlt
      omega
    · have := block_lt hc hgt
      omega

/-- the tables of encoder (`tE`) and decoder (`tD`) hold the same positions, most recent first -/
def RingEq (tE tD : Tab) (lpc : Nat) : Prop :=
  ∀ key, key < HASH_SIZE → ∀ j, j < 2 ^ lpc → ring tE lpc key j % 2 ^ 24 = ring tD lpc key j

/-- every position in the encoder's table is below `b` (chunk relative) -/
def EntLt (t : Tab) (b : Nat) : Prop := ∀ k, t.mts.getD k 0 % 2 ^ 24 < b

theorem ring_lt {t : Tab} {b : Nat} (h : EntLt t b) (lpc key j : Nat) : ring t lpc key j % 2 ^ 24 < b := h _

theorem register_entLt {t : Tab} {b b' : Nat} (h : EntLt t b) (hb : b ≤ b') (lpc key v : Nat) (hv : v % 2 ^ 24 < b') :
    EntLt (t.register lpc key v) b' := by
  intro k
  simp only [Tab.register]
  rw [getD_setIfInBounds]
  split
  · exact hv
  · exact Nat.lt_of_lt_of_le (h k) hb

theorem register_ringEq {tE tD : Tab} {lpc : Nat} (hE : TabOk tE lpc) (hD : TabOk tD lpc) (h : RingEq tE tD lpc)
    {key : Nat} (hk : key < HASH_SIZE) (vE vD : Nat) (hv : vE % 2 ^ 24 = vD) :
    RingEq (tE.register lpc key vE) (tD.register lpc key vD) lpc := by
  intro key' hk' j hj
  rw [register_ring hE hk vE key' j hj, register_ring hD hk vD key' j hj]
  by_cases hkk : key' = key
  · rw [if_pos hkk, if_pos hkk]
    by_cases hj0 : j = 0
    · rw [if_pos hj0, if_pos hj0]; exact hv
    · rw [if_neg hj0, if_neg hj0]; exact h key hk (j - 1) (by omega)
  · rw [if_neg hkk, if_neg hkk]; exact h key' hk' j hj

theorem ringEq_clear (cE cD : Array Nat) (lpc : Nat) : RingEq ⟨matches0 lpc, cE⟩ ⟨matches0 lpc, cD⟩ lpc := by
  intro key _ j _
  unfold ring matches0
  simp only [Array.getD_eq_getD_getElem?, Array.getElem?_replicate]
  split <;> split <;> simp

theorem entLt_clear (c : Array Nat) (lpc b : Nat) (hb : 0 < b) : EntLt ⟨matches0 lpc, c⟩ b := by
  intro k
  unfold matches0
  simp only [Array.getD_eq_getD_getElem?, Array.getElem?_replicate]
  split <;> simpa using hb

theorem tabOk_clear (c : Array Nat) (lpc : Nat) (hc : c.size = HASH_SIZE) : TabOk ⟨matches0 lpc, c⟩ lpc :=
  ⟨by simp [matches0], hc⟩

/-! ## the hash tag -/

theorem rolzhashW_mod (w : Nat) : rolzhashW w % 2 ^ 24 = 0 := by
  unfold rolzhashW; omega

theorem tag_pos (w p : Nat) (hp : p < 2 ^ 24) : (rolzhashW w + p) % 2 ^ 24 = p := by
  have := rolzhashW_mod w; omega

/-! ## keys -/

/-- the (minMatch, delta) pairs the codecs use -/
def ParamsOk (mm delta : Nat) : Prop :=
  (mm = MIN_MATCH3 ∧ (delta = 2 ∨ delta = 3)) ∨ (mm ≠ MIN_MATCH3 ∧ delta = 8)

theorem ParamsOk.delta {mm delta : Nat} (h : ParamsOk mm delta) : delta ≤ 8 ∧ 2 ≤ delta := by
  rcases h with ⟨_, h | h⟩ | ⟨_, h⟩ <;> omega

theorem le16_lt {a : Array Nat} (ha : ∀ k, a.getD k 0 < 256) {lim i v : Nat} (h : le16 a lim i = some v) : v < 65536 := by
  unfold le16 at h
  split at h
  · injection h with h
    have := ha i; have := ha (i + 1); omega
  · cases h

theorem getKey_lt {mm delta : Nat} {a : Array Nat} (ha : ∀ k, a.getD k 0 < 256) {base lim i key : Nat}
    (h : getKey mm delta a base lim i = some key) : key < HASH_SIZE := by
  unfold getKey at h
  split at h
  · cases h
  · split at h
    · exact le16_lt ha h
    · unfold getKey2 at h
      cases h2 : le64 a lim (i - delta) with
      | none => rw [h2] at h; cases h
      | some w =>
        rw [h2] at h
        simp only [Option.map] at h
        injection h with h
        rw [← h]
        exact Nat.mod_lt _ (by decide)

/-- the key at `i` only reads the `delta` bytes before `i` -/
theorem getKey_agree {mm delta : Nat} (hp : ParamsOk mm delta) {a b : Array Nat} {base lim i : Nat}
    (hagree : ∀ k, k < i → b.getD k 0 = a.getD k 0) : getKey mm delta b base lim i = getKey mm delta a base lim i := by
  unfold getKey
  split
  · rfl
  · rename_i hge
    rcases hp with ⟨h3, hd⟩ | ⟨hn3, hd⟩
    · rw [if_pos h3, if_pos h3]
      unfold getKey1 le16
      rw [hagree (i - delta) (by omega), hagree (i - delta + 1) (by omega)]
    · rw [if_neg hn3, if_neg hn3]
      unfold getKey2 le64
      subst hd
      rw [hagree (i - 8) (by omega), hagree (i - 8 + 1) (by omega), hagree (i - 8 + 2) (by omega),
        hagree (i - 8 + 3) (by omega), hagree (i - 8 + 4) (by omega), hagree (i - 8 + 5) (by omega),
        hagree (i - 8 + 6) (by omega), hagree (i - 8 + 7) (by omega)]

/-! ## match verification -/

theorem cpl4_spec (a : Array Nat) (i j : Nat) :
    cpl4 a i j ≤ 4 ∧ ∀ k, k < cpl4 a i j → a.getD (i + k) 0 = a.getD (j + k) 0 := by
  unfold cpl4
  by_cases h0 : a.getD i 0 ≠ a.getD j 0
  · rw [if_pos h0]
    exact ⟨by decide, fun k hk => absurd hk (Nat.not_lt_zero k)⟩
  rw [if_neg h0]
  have e0 : a.getD (i + 0) 0 = a.getD (j + 0) 0 := Decidable.of_not_not h0
  by_cases h1 : a.getD (i + 1) 0 ≠ a.getD (j + 1) 0
  · rw [if_pos h1]
    refine ⟨by decide, fun k hk => ?_⟩
    rcases k with _ | k
    · exact e0
    · omega
  rw [if_neg h1]
  have e1 := Decidable.of_not_not h1
  by_cases h2 : a.getD (i + 2) 0 ≠ a.getD (j + 2) 0
  · rw [if_pos h2]
    refine ⟨by decide, fun k hk => ?_⟩
    rcases k with _ | _ | k
    · exact e0
    · exact e1
    · omega
  rw [if_neg h2]
  have e2 := Decidable.of_not_not h2
  by_cases h3 : a.getD (i + 3) 0 ≠ a.getD (j + 3) 0
  · rw [if_pos h3]
    refine ⟨by decide, fun k hk => ?_⟩
    rcases k with _ | _ | _ | k
    · exact e0
    · exact e1
    · exact e2
    · omega
  rw [if_neg h3]
  refine ⟨Nat.le_refl 4, fun k hk => ?_⟩
  rcases k with _ | _ | _ | _ | k
  · exact e0
  · exact e1
  · exact e2
  · exact Decidable.of_not_not h3
  · omega

def Same (a : Array Nat) (r p n : Nat) : Prop := ∀ k, k < n → a.getD (r + k) 0 = a.getD (p + k) 0

theorem matchLen2_spec (a : Array Nat) (lim r p maxMatch : Nat) : ∀ (f n res : Nat),
    Same a r p n → matchLen2 a lim r p maxMatch f n = .ok res →
    Same a r p res ∧ (res = n ∨ (res < maxMatch + 4 ∧ 0 < maxMatch)) ∧ n ≤ res := by
  intro f
  induction f with
  | zero => intro n res _ h; simp [matchLen2] at h
  | succ f ih =>
    intro n res hs h
    simp only [matchLen2] at h
    split at h
    · rename_i hlt
      split at h
      · have sp := cpl4_spec a (r + n) (p + n)
        have ext : Same a r p (n + cpl4 a (r + n) (p + n)) := by
          intro k hk
          by_cases hkn : k < n
          · exact hs k hkn
          · have := sp.2 (k - n) (by omega)
            rw [show r + n + (k - n) = r + k by omega, show p + n + (k - n) = p + k by omega] at this
            exact this
        split at h
        · injection h with h
          subst h
          exact ⟨ext, Or.inr ⟨by omega, by omega⟩, by omega⟩
        · rw [show cpl4 a (r + n) (p + n) = 4 by omega] at ext
          obtain ⟨q1, q2, q3⟩ := ih (n + 4) res ext h
          exact ⟨q1, Or.inr (q2.elim (fun q => ⟨by omega, by omega⟩) id), by omega⟩
      · cases h
    · injection h with h
      subst h
      exact ⟨hs, Or.inl rfl, Nat.le_refl _⟩

/-! ## `emitCopy` -/

theorem copyLoop_size (n : Nat) : ∀ (dst : Array Nat) (d r : Nat), (copyLoop dst n d r).size = dst.size := by
  induction n with
  | zero => intro dst d r; rfl
  | succ n ih => intro dst d r; simp only [copyLoop]; rw [ih, Array.size_setIfInBounds]

theorem copyLoop_spec (a : Array Nat) (n : Nat) : ∀ (dst : Array Nat) (d r : Nat),
    r < d → d + n ≤ dst.size → (∀ k, k < d → dst.getD k 0 = a.getD k 0) → Same a r d n →
    ∀ k, k < d + n → (copyLoop dst n d r).getD k 0 = a.getD k 0 := by
  induction n with
  | zero => intro dst d r _ _ hag _ k hk; exact hag k (by omega)
  | succ n ih =>
    intro dst d r hr hsz hag hs k hk
    simp only [copyLoop]
    have hag' : ∀ k, k < d + 1 → (dst.setIfInBounds d (dst.getD r 0)).getD k 0 = a.getD k 0 := by
      intro k hk
      rw [getD_setIfInBounds]
      by_cases hkd : k = d
      · rw [if_pos ⟨hkd, by omega⟩, hag r hr, hkd]
        have := hs 0 (by omega)
        simpa using this
      · rw [if_neg (fun hc => hkd hc.1)]
        exact hag k (by omega)
    have hs' : Same a (r + 1) (d + 1) n := by
      intro j hj
      rw [show r + 1 + j = r + (j + 1) by omega, show d + 1 + j = d + (j + 1) by omega]
      exact hs (j + 1) (by omega)
    exact ih _ (d + 1) (r + 1) (by omega) (by rw [Array.size_setIfInBounds]; omega) hag' hs' k (by omega)

theorem emitCopy_spec (a dst : Array Nat) (lim d r n : Nat) (hr : r < d) (hlim : d + n ≤ lim) (hsz : lim ≤ dst.size)
    (hag : ∀ k, k < d → dst.getD k 0 = a.getD k 0) (hs : Same a r d n) :
    ∃ dst', emitCopy dst lim d r n = .ok (dst', d + n) ∧ dst'.size = dst.size ∧
      ∀ k, k < d + n → dst'.getD k 0 = a.getD k 0 := by
  unfold emitCopy
  by_cases hc : d ≥ r + n
  · rw [if_pos hc]
    have hm : min n (lim - d) = n := by omega
    rw [hm]
    exact ⟨_, rfl, copyLoop_size _ _ _ _, copyLoop_spec a n dst d r hr (by omega) hag hs⟩
  · rw [if_neg hc, if_pos hlim]
    exact ⟨_, rfl, copyLoop_size _ _ _ _, copyLoop_spec a n dst d r hr (by omega) hag hs⟩

end Kanzi.ROLZ
