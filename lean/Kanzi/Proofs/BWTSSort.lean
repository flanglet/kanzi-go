/-
BWTS (C13): the sorted list of rotations, the LF mapping, and its cycles.

`SortedRots L`: `L` consists of rotations of Lyndon words, is sorted by `≤ω`, and is closed (as a
multiset) under the rotation to the right `rotR`.  Then the standard permutation `π = lfRank t` of
the last column `t = L.map lastL` sends the index of `x` to an index of `rotR x` (`lf_step`: the
rank of `rotR x` among the rows is determined by counting the rows below it).  Hence the orbit of `r`
under `π` has exactly `m = |L[r]|` elements, `L[π^k r]` is `L[r]` rotated `k` times to the right,
and the letters `t[π^(m-1) r] … t[π r] t[r]` spell `L[r]`.
-/
import Kanzi.Proofs.BWTSOmega
import Kanzi.Proofs.BWTSInv

namespace Kanzi.BWTS

/-! ## counting with arbitrary predicates -/

/-- number of elements satisfying `P` (classical) -/
noncomputable def cP {α : Type} (P : α → Prop) (l : List α) : Nat :=
  l.countP (fun x => @decide (P x) (Classical.propDecidable _))

section cP
open Classical
variable {α : Type}

@[simp] theorem cP_nil (P : α → Prop) : cP P [] = 0 := rfl

theorem cP_cons (P : α → Prop) (a : α) (l : List α) :
    cP P (a :: l) = cP P l + if P a then 1 else 0 := by
  unfold cP
  rw [List.countP_cons]
  by_cases h : P a <;> simp [h]

theorem cP_append (P : α → Prop) (l1 l2 : List α) : cP P (l1 ++ l2) = cP P l1 + cP P l2 :=
  List.countP_append

theorem cP_le_length (P : α → Prop) (l : List α) : cP P l ≤ l.length := List.countP_le_length

theorem cP_eq_length {P : α → Prop} {l : List α} (h : ∀ x ∈ l, P x) : cP P l = l.length :=
  List.countP_eq_length.2 fun x hx => decide_eq_true (h x hx)

theorem cP_eq_zero {P : α → Prop} {l : List α} (h : ∀ x ∈ l, ¬ P x) : cP P l = 0 :=
  List.countP_eq_zero.2 fun x hx => by simpa using h x hx

theorem cP_congr {P Q : α → Prop} {l : List α} (h : ∀ x ∈ l, (P x ↔ Q x)) : cP P l = cP Q l :=
  List.countP_congr fun x hx => by simpa using h x hx

theorem cP_mono {P Q : α → Prop} {l : List α} (h : ∀ x ∈ l, P x → Q x) : cP P l ≤ cP Q l :=
  List.countP_mono_left fun x hx => by simpa using h x hx

theorem cP_or {P Q : α → Prop} {l : List α} (h : ∀ x ∈ l, ¬ (P x ∧ Q x)) :
    cP (fun x => P x ∨ Q x) l = cP P l + cP Q l := by
  induction l with
  | nil => rfl
  | cons a l ih =>
    have := h a List.mem_cons_self
    rw [cP_cons, cP_cons, cP_cons, ih (fun x hx => h x (List.mem_cons_of_mem _ hx))]
    by_cases hp : P a
    · rw [if_pos (Or.inl hp), if_pos hp, if_neg (fun hq => this ⟨hp, hq⟩)]
      omega
    · by_cases hq : Q a
      · rw [if_pos (Or.inr hq), if_neg hp, if_pos hq]
        omega
      · rw [if_neg (fun h => h.elim hp hq), if_neg hp, if_neg hq]
        omega

theorem cP_map {β : Type} (P : β → Prop) (f : α → β) (l : List α) :
    cP P (l.map f) = cP (fun x => P (f x)) l :=
  List.countP_map

theorem cP_perm {P : α → Prop} {l1 l2 : List α} (h : l1.Perm l2) : cP P l1 = cP P l2 :=
  h.countP_eq _

theorem cP_eq_countP (P : α → Prop) [DecidablePred P] (l : List α) :
    cP P l = l.countP (fun x => decide (P x)) :=
  List.countP_congr fun x _ => by simp

end cP

/-! ## rotation to the right -/

/-- rotate right by one: the last letter comes first -/
def rotR (x : List Nat) : List Nat := rot x (x.length - 1)

def lastL (x : List Nat) : Nat := x.getLastD 0

theorem rotR_length (x : List Nat) : (rotR x).length = x.length := rot_length _ _

theorem lastL_eq (x : List Nat) : lastL x = x.getD (x.length - 1) 0 := by
  unfold lastL
  rw [List.getLastD_eq_getLast?, List.getLast?_eq_getElem?]
  simp [List.getD_eq_getElem?_getD]

theorem pw_rotR_zero (x : List Nat) (hx : x ≠ []) : pw (rotR x) 0 = lastL x := by
  have hm : 0 < x.length := List.length_pos_iff.2 hx
  unfold rotR
  rw [pw_rot x _ (by omega), Nat.zero_add, pw_of_lt x _ (by omega), lastL_eq x]

theorem sh_pw_rotR (x : List Nat) (hx : x ≠ []) : sh 1 (pw (rotR x)) = pw x := by
  have hm : 0 < x.length := List.length_pos_iff.2 hx
  funext i
  simp only [sh]
  unfold rotR
  rw [pw_rot x _ (by omega), show i + 1 + (x.length - 1) = i + x.length by omega, pw_add_length]

theorem rot_rot (w : List Nat) (hw : w ≠ []) (k j : Nat) (hk : k ≤ w.length) (hj : j ≤ w.length) :
    rot (rot w k) j = rot w ((j + k) % w.length) := by
  have hm : 0 < w.length := List.length_pos_iff.2 hw
  apply eq_of_length_of_seqEq (by simp [rot_length])
  intro i
  rw [pw_rot _ j (by rw [rot_length]; exact hj), pw_rot w k hk, ← pw_shift_rot w hw]
  congr 1; omega

theorem RotL.rotR {x : List Nat} (h : RotL x) : RotL (rotR x) := by
  obtain ⟨w, k, hw, hk, rfl⟩ := h
  have hm : 0 < w.length := by omega
  refine ⟨w, (w.length - 1 + k) % w.length, hw, Nat.mod_lt _ hm, ?_⟩
  unfold Kanzi.BWTS.rotR
  rw [rot_length, rot_rot w hw.1 k _ (by omega) (by omega)]

theorem seqLt_cons_iff (f g : Nat → Nat) :
    SeqLt f g ↔ f 0 < g 0 ∨ (f 0 = g 0 ∧ SeqLt (sh 1 f) (sh 1 g)) := by
  constructor
  · intro h
    by_cases h0 : f 0 = g 0
    · refine Or.inr ⟨h0, sh_seqLt 1 (fun i hi => ?_) h⟩
      have : i = 0 := by omega
      subst this; exact h0
    · obtain ⟨k, a, b⟩ := h
      cases k with
      | zero => exact Or.inl b
      | succ k => exact absurd (a 0 (by omega)) h0
  · rintro (h | ⟨h0, h⟩)
    · exact ⟨0, fun i hi => by omega, h⟩
    · refine seqLt_of_sh 1 (fun i hi => ?_) h
      have : i = 0 := by omega
      subst this; exact h0

theorem rotR_seqLt_iff (x y : List Nat) (hx : x ≠ []) (hy : y ≠ []) :
    SeqLt (pw (rotR x)) (pw (rotR y)) ↔
      lastL x < lastL y ∨ (lastL x = lastL y ∧ SeqLt (pw x) (pw y)) := by
  rw [seqLt_cons_iff, pw_rotR_zero x hx, pw_rotR_zero y hy, sh_pw_rotR x hx, sh_pw_rotR y hy]

theorem rotR_seqLe_iff (x y : List Nat) (hx : x ≠ []) (hy : y ≠ []) :
    SeqLe (pw (rotR x)) (pw (rotR y)) ↔
      lastL x < lastL y ∨ (lastL x = lastL y ∧ SeqLe (pw x) (pw y)) := by
  unfold SeqLe
  rw [rotR_seqLt_iff y x hy hx]
  rcases Nat.lt_trichotomy (lastL x) (lastL y) with h | h | h
  · simp [h, Nat.lt_asymm h, Nat.ne_of_gt h]
  · simp [h]
  · simp [h, Nat.lt_asymm h, Nat.ne_of_lt h, Nat.ne_of_gt h]

/-! ## sorted lists -/

structure SortedRots (L : List (List Nat)) : Prop where
  rotl : ∀ x ∈ L, RotL x
  sorted : L.Pairwise (fun a b => SeqLe (pw a) (pw b))
  closed : (L.map rotR).Perm L

theorem seqLe_refl (f : Nat → Nat) : SeqLe f f := SeqLt.irrefl f

theorem sorted_take {L : List (List Nat)} (hs : L.Pairwise (fun a b => SeqLe (pw a) (pw b)))
    (q : Nat) (hq : q < L.length) : ∀ y ∈ L.take (q + 1), SeqLe (pw y) (pw L[q]) := by
  intro y hy
  obtain ⟨i, hi, rfl⟩ := List.mem_take_iff_getElem.1 hy
  by_cases hiq : i = q
  · subst hiq; exact seqLe_refl _
  · exact List.pairwise_iff_getElem.1 hs i q (by omega) hq (by omega)

theorem sorted_drop {L : List (List Nat)} (hs : L.Pairwise (fun a b => SeqLe (pw a) (pw b)))
    (q : Nat) (hq : q < L.length) : ∀ y ∈ L.drop q, SeqLe (pw L[q]) (pw y) := by
  intro y hy
  obtain ⟨i, hi, rfl⟩ := List.mem_drop_iff_getElem.1 hy
  by_cases hiq : i = 0
  · subst hiq; exact seqLe_refl _
  · exact List.pairwise_iff_getElem.1 hs q (q + i) hq (by omega) (by omega)

theorem sorted_pos_lo {L : List (List Nat)} (hs : L.Pairwise (fun a b => SeqLe (pw a) (pw b)))
    (Y : List Nat) (q : Nat) (hq : q < L.length)
    (h : cP (fun x => SeqLt (pw x) (pw Y)) L ≤ q) : ¬ SeqLt (pw L[q]) (pw Y) := by
  intro hlt
  have h1 : cP (fun x => SeqLt (pw x) (pw Y)) (L.take (q + 1)) = (L.take (q + 1)).length :=
    cP_eq_length (fun y hy => SeqLt.of_le_of_lt (sorted_take hs q hq y hy) hlt)
  have h2 := cP_append (fun x => SeqLt (pw x) (pw Y)) (L.take (q + 1)) (L.drop (q + 1))
  rw [List.take_append_drop, h1, List.length_take] at h2
  omega

theorem sorted_pos_hi {L : List (List Nat)} (hs : L.Pairwise (fun a b => SeqLe (pw a) (pw b)))
    (Y : List Nat) (q : Nat) (hq : q < L.length)
    (h : q < cP (fun x => SeqLe (pw x) (pw Y)) L) : SeqLe (pw L[q]) (pw Y) := by
  intro hlt
  have h1 : cP (fun x => SeqLe (pw x) (pw Y)) (L.drop q) = 0 :=
    cP_eq_zero (fun y hy hle => hle (SeqLt.of_lt_of_le hlt (sorted_drop hs q hq y hy)))
  have h2 := cP_append (fun x => SeqLe (pw x) (pw Y)) (L.take q) (L.drop q)
  have h3 := cP_le_length (fun x => SeqLe (pw x) (pw Y)) (L.take q)
  rw [List.take_append_drop, h1] at h2
  rw [List.length_take] at h3
  omega

/-! ## the LF mapping on the sorted rotations -/

/-- the rows `R`-below `rotR X` (`R` = `<ω` or `≤ω`): those with a smaller last letter, and those with
    the same last letter that are `R`-below `X` -/
theorem cP_rotR {L : List (List Nat)} (hL : SortedRots L) (R : (Nat → Nat) → (Nat → Nat) → Prop)
    (X : List Nat)
    (hR : ∀ x ∈ L, (R (pw (rotR x)) (pw (rotR X)) ↔
      lastL x < lastL X ∨ (lastL x = lastL X ∧ R (pw x) (pw X)))) :
    cP (fun x => R (pw x) (pw (rotR X))) L =
      cP (fun x => lastL x < lastL X) L + cP (fun x => lastL x = lastL X ∧ R (pw x) (pw X)) L := by
  rw [← cP_perm hL.closed, cP_map, cP_congr hR, cP_or (fun x _ h => by omega)]

theorem lf_step {L : List (List Nat)} (hL : SortedRots L) (r : Nat) (hr : r < L.length) :
    ∃ hq : lfRank (L.map lastL) r < L.length, L[lfRank (L.map lastL) r] = rotR L[r] := by
  have hq : lfRank (L.map lastL) r < L.length := by
    have := lfRank_lt (L.map lastL) r (by simpa using hr); simpa using this
  refine ⟨hq, ?_⟩
  have hX := hL.rotl _ (List.getElem_mem hr)
  have hne : ∀ x ∈ L, x ≠ [] := fun x hx => (hL.rotl x hx).ne_nil
  have hrank : lfRank (L.map lastL) r =
      cP (fun x => lastL x < lastL L[r]) L + cP (fun x => lastL x = lastL L[r]) (L.take r) := by
    unfold lfRank
    rw [getD_eq _ 0 r (by simpa using hr), List.getElem_map, cP_eq_countP, List.countP_map,
      cP_eq_countP, ← List.map_take, List.count, List.countP_map]
    rfl
  -- fewer than `rank + 1` rows are `<ω rotR L[r]`: those of that kind with the same last letter lie
  -- before `r`
  have hlo : cP (fun x => SeqLt (pw x) (pw (rotR L[r]))) L ≤ lfRank (L.map lastL) r := by
    rw [cP_rotR hL SeqLt L[r] (fun x hx => rotR_seqLt_iff x L[r] (hne x hx) hX.ne_nil), hrank]
    have h1 := cP_append (fun x => lastL x = lastL L[r] ∧ SeqLt (pw x) (pw L[r])) (L.take r) (L.drop r)
    rw [List.take_append_drop] at h1
    have h2 : cP (fun x => lastL x = lastL L[r] ∧ SeqLt (pw x) (pw L[r])) (L.drop r) = 0 :=
      cP_eq_zero (fun y hy h => sorted_drop hL.sorted r hr y hy h.2)
    have h3 : cP (fun x => lastL x = lastL L[r] ∧ SeqLt (pw x) (pw L[r])) (L.take r) ≤
        cP (fun x => lastL x = lastL L[r]) (L.take r) := cP_mono (fun x _ h => h.1)
    omega
  -- more than `rank` rows are `≤ω rotR L[r]`: all rows up to `r` with the same last letter are
  have hhi : lfRank (L.map lastL) r < cP (fun x => SeqLe (pw x) (pw (rotR L[r]))) L := by
    rw [cP_rotR hL SeqLe L[r] (fun x hx => rotR_seqLe_iff x L[r] (hne x hx) hX.ne_nil), hrank]
    have h1 := cP_append (fun x => lastL x = lastL L[r] ∧ SeqLe (pw x) (pw L[r])) (L.take (r + 1))
      (L.drop (r + 1))
    rw [List.take_append_drop] at h1
    have h2 : cP (fun x => lastL x = lastL L[r] ∧ SeqLe (pw x) (pw L[r])) (L.take (r + 1)) =
        cP (fun x => lastL x = lastL L[r]) (L.take (r + 1)) :=
      cP_congr (fun y hy => ⟨fun h => h.1, fun h => ⟨h, sorted_take hL.sorted r hr y hy⟩⟩)
    have h3 : cP (fun x => lastL x = lastL L[r]) (L.take (r + 1)) =
        cP (fun x => lastL x = lastL L[r]) (L.take r) + 1 := by
      rw [List.take_succ_eq_append_getElem hr, cP_append, cP_cons]; simp
    omega
  exact rotL_antisymm (hL.rotl _ (List.getElem_mem hq)) hX.rotR
    (seqEq_of_le_of_le (sorted_pos_hi hL.sorted (rotR L[r]) _ hq hhi)
      (sorted_pos_lo hL.sorted (rotR L[r]) _ hq hlo))

/-! ## iterating the LF mapping -/


/-- `π^k r` -/
def itr (π : Nat → Nat) : Nat → Nat → Nat
  | 0, r => r
  | k + 1, r => π (itr π k r)

theorem itr_add (π : Nat → Nat) (a b r : Nat) : itr π (a + b) r = itr π a (itr π b r) := by
  induction a with
  | zero => simp [itr]
  | succ a ih => rw [Nat.succ_add]; simp [itr, ih]

theorem itr_succ' (π : Nat → Nat) (k r : Nat) : itr π (k + 1) r = itr π k (π r) := by
  rw [itr_add π k 1 r]; rfl

/-- `k` rotations to the right -/
def rotRn : Nat → List Nat → List Nat
  | 0, x => x
  | k + 1, x => rotR (rotRn k x)

theorem rotRn_length (k : Nat) (x : List Nat) : (rotRn k x).length = x.length := by
  induction k with
  | zero => rfl
  | succ k ih => simp [rotRn, rotR_length, ih]

theorem rotRn_ne_nil (k : Nat) (x : List Nat) (hx : x ≠ []) : rotRn k x ≠ [] := by
  intro h
  have := congrArg List.length h
  rw [rotRn_length] at this
  exact hx (List.eq_nil_of_length_eq_zero (by simpa using this))

theorem pw_rotRn (k : Nat) (x : List Nat) (hx : x ≠ []) (i : Nat) :
    pw (rotRn k x) (i + k) = pw x i := by
  induction k generalizing i with
  | zero => rfl
  | succ k ih =>
    have := congrFun (sh_pw_rotR (rotRn k x) (rotRn_ne_nil k x hx)) (i + k)
    simp only [sh] at this
    rw [show i + (k + 1) = i + k + 1 by omega]
    simp only [rotRn]
    rw [this, ih]

theorem RotL.rotRn {x : List Nat} (h : RotL x) (k : Nat) : RotL (rotRn k x) := by
  induction k with
  | zero => exact h
  | succ k ih => exact ih.rotR

theorem rotRn_self (x : List Nat) (hx : x ≠ []) : rotRn x.length x = x := by
  apply eq_of_length_of_seqEq (rotRn_length _ _)
  intro i
  have h1 := pw_add_length (rotRn x.length x) i
  rw [rotRn_length] at h1
  rw [← h1, pw_rotRn _ x hx]

theorem rotRn_ne {x : List Nat} (hx : RotL x) (k : Nat) (hk : 0 < k) (hkl : k < x.length) :
    rotRn k x ≠ x := by
  intro he
  -- `x^ω` has the period `k`
  have hper : ∀ i, pw x (i + k) = pw x i := fun i => by
    have := pw_rotRn k x hx.ne_nil i
    rwa [he] at this
  obtain ⟨w, a, hw, ha, rfl⟩ := hx
  rw [rot_length] at hkl
  have hper' : ∀ i, pw w (i + k) = pw w i := fun i => by
    have h1 := hper (i + (w.length - a))
    rw [pw_rot w a (by omega), pw_rot w a (by omega)] at h1
    rw [show i + (w.length - a) + k + a = i + k + w.length by omega,
      show i + (w.length - a) + a = i + w.length by omega, pw_add_length, pw_add_length] at h1
    exact h1
  have := lyndon_lt_rot hw k hk hkl
  exact this.not_eq (fun i => by rw [pw_rot w k (by omega), hper'])

theorem lastL_rotRn (x : List Nat) (hx : x ≠ []) (k : Nat) (hk : k < x.length) :
    lastL (rotRn k x) = x.getD (x.length - 1 - k) 0 := by
  rw [lastL_eq, rotRn_length, ← pw_of_lt _ _ (by rw [rotRn_length]; omega),
    ← pw_of_lt x _ (by omega)]
  have := pw_rotRn k x hx (x.length - 1 - k)
  rwa [show x.length - 1 - k + k = x.length - 1 by omega] at this

/-- a strictly increasing self-map of a finite set of numbers is the identity -/
theorem fixed_of_strictMono {n : Nat} {B : Nat → Prop} {f : Nat → Nat}
    (hB : ∀ q, q < n → B q → f q < n ∧ B (f q))
    (hs : ∀ a b, a < b → b < n → B a → B b → f a < f b) :
    ∀ q, q < n → B q → f q = q := by
  have hlow : ∀ N q, q ≤ N → q < n → B q → q ≤ f q := by
    intro N
    induction N with
    | zero => intro q _ _ _; omega
    | succ N ih =>
      intro q hN hq hb
      apply Classical.byContradiction
      intro hc
      obtain ⟨hq', hb'⟩ := hB q hq hb
      have h1 := ih (f q) (by omega) hq' hb'
      have h2 := hs (f q) q (by omega) hq hb' hb
      omega
  have hup : ∀ N q, n - q ≤ N → q < n → B q → f q ≤ q := by
    intro N
    induction N with
    | zero => intro q _ _ _; omega
    | succ N ih =>
      intro q hN hq hb
      apply Classical.byContradiction
      intro hc
      obtain ⟨hq', hb'⟩ := hB q hq hb
      have h1 := ih (f q) (by omega) hq' hb'
      have h2 := hs q (f q) (by omega) hq' hb hb'
      omega
  intro q hq hb
  exact Nat.le_antisymm (hup _ q (Nat.le_refl _) hq hb) (hlow q q (Nat.le_refl _) hq hb)

/-! ## orbits -/

section
variable {L : List (List Nat)}

def lfOfL (L : List (List Nat)) : Nat → Nat := lfRank (L.map lastL)

theorem lfOfL_lt (hL : SortedRots L) (r : Nat) (hr : r < L.length) : lfOfL L r < L.length :=
  (lf_step hL r hr).1

theorem itr_spec (hL : SortedRots L) (r : Nat) (hr : r < L.length) (k : Nat) :
    ∃ hq : itr (lfOfL L) k r < L.length, L[itr (lfOfL L) k r] = rotRn k L[r] := by
  induction k with
  | zero => exact ⟨hr, rfl⟩
  | succ k ih =>
    obtain ⟨hq, h⟩ := ih
    obtain ⟨hq', h'⟩ := lf_step hL _ hq
    exact ⟨hq', by simp only [itr, rotRn]; rw [← h]; exact h'⟩

theorem itr_lt (hL : SortedRots L) (r : Nat) (hr : r < L.length) (k : Nat) : itr (lfOfL L) k r < L.length :=
  (itr_spec hL r hr k).1

theorem lfRank_strict (t : List Nat) (a b : Nat) (hab : a < b) (hb : b < t.length)
    (h : t.getD a 0 = t.getD b 0) : lfRank t a < lfRank t b := by
  unfold lfRank
  rw [h]
  have h1 : t.take b = t.take a ++ (t.drop a).take (b - a) := by
    rw [← List.take_add, show a + (b - a) = b by omega]
  have h2 : (t.drop a).take (b - a) = t.getD a 0 :: (t.drop (a + 1)).take (b - a - 1) := by
    rw [List.drop_eq_getElem_cons (by omega), show b - a = (b - a - 1) + 1 by omega,
      List.take_succ_cons]
    simp [List.getD_eq_getElem?_getD, List.getElem?_eq_getElem (show a < t.length by omega)]
  rw [h1, h2, List.count_append, List.count_cons, h]
  simp

theorem lfOfL_strict (a b : Nat) (hab : a < b) (hb : b < L.length) (h : L[a]'(by omega) = L[b]) :
    lfOfL L a < lfOfL L b := by
  apply lfRank_strict _ a b hab (by simpa using hb)
  simp [List.getD_eq_getElem?_getD, List.getElem?_eq_getElem hb,
    List.getElem?_eq_getElem (show a < L.length by omega), h]

theorem itr_strict (hL : SortedRots L) (a b : Nat) (hab : a < b) (hb : b < L.length) (h : L[a]'(by omega) = L[b])
    (k : Nat) : itr (lfOfL L) k a < itr (lfOfL L) k b := by
  induction k with
  | zero => exact hab
  | succ k ih =>
    obtain ⟨h1, e1⟩ := itr_spec hL a (by omega) k
    obtain ⟨h2, e2⟩ := itr_spec hL b hb k
    exact lfOfL_strict _ _ ih h2 (by rw [e1, e2, h])

/-- after `|L[r]|` steps the orbit closes: `π^m` maps the block of the rows equal to `L[r]` to itself
    and is strictly increasing there -/
theorem itr_length_self (hL : SortedRots L) (r : Nat) (hr : r < L.length) : itr (lfOfL L) L[r].length r = r := by
  have hX : L[r] ≠ [] := (hL.rotl _ (List.getElem_mem hr)).ne_nil
  refine fixed_of_strictMono (n := L.length) (B := fun q => ∃ hq : q < L.length, L[q] = L[r])
    (f := itr (lfOfL L) L[r].length) ?_ ?_ r hr ⟨hr, rfl⟩
  · rintro q hq ⟨_, he⟩
    obtain ⟨h1, e1⟩ := itr_spec hL q hq L[r].length
    exact ⟨h1, h1, by rw [e1, he, rotRn_self _ hX]⟩
  · rintro a b hab hb ⟨_, hea⟩ ⟨_, heb⟩
    exact itr_strict hL a b hab hb (hea.trans heb.symm) _

theorem itr_ne_self (hL : SortedRots L) (r : Nat) (hr : r < L.length) (k : Nat) (hk : 0 < k) (hkl : k < L[r].length) :
    itr (lfOfL L) k r ≠ r := by
  intro he
  obtain ⟨h1, e1⟩ := itr_spec hL r hr k
  have : L[itr (lfOfL L) k r] = L[r] := by congr 1
  rw [e1] at this
  exact rotRn_ne (hL.rotl _ (List.getElem_mem hr)) k hk hkl this

theorem itr_injective (hL : SortedRots L) (r : Nat) (hr : r < L.length) (a b : Nat) (hab : a < b) (hb : b < L[r].length) :
    itr (lfOfL L) a r ≠ itr (lfOfL L) b r := by
  intro he
  have h1 : itr (lfOfL L) (L[r].length - b + a) r = itr (lfOfL L) (L[r].length - b + b) r := by
    rw [itr_add, itr_add _ _ b, he]
  rw [show L[r].length - b + b = L[r].length by omega, itr_length_self hL r hr] at h1
  exact itr_ne_self hL r hr _ (by omega) (by omega) h1

theorem letter_itr (hL : SortedRots L) (r : Nat) (hr : r < L.length) (k : Nat) (hk : k < L[r].length) :
    (L.map lastL).getD (itr (lfOfL L) k r) 0 = L[r].getD (L[r].length - 1 - k) 0 := by
  obtain ⟨h1, e1⟩ := itr_spec hL r hr k
  have hX : L[r] ≠ [] := (hL.rotl _ (List.getElem_mem hr)).ne_nil
  rw [← lastL_rotRn _ hX k hk, ← e1]
  simp [List.getD_eq_getElem?_getD, List.getElem?_eq_getElem h1]

end

end Kanzi.BWTS
