/-
ROLZ (`rolzCodec1`): the sequence layer.  Side buffers as growing prefixes, length coding (`emitLengthROLZ` /
`readLengthROLZ`), the token and the length bytes of one sequence (`tokOf`, `lenBytesOf`), and how the decoder
reads them back (token, match length, literal length); copies and the registration loop of a literal run.
-/
import Kanzi.Model.ROLZ1
import Kanzi.Proofs.RolzxTotal

namespace Kanzi.ROLZ

/-- the bytes `bs` stand in `buf` at index `i` -/
def At (buf : Array Nat) (i : Nat) (bs : List Nat) : Prop := ∀ k, k < bs.length → buf.getD (i + k) 0 = bs.getD k 0

/-- `x` is a prefix of `y` -/
def Pre (x y : Array Nat) : Prop := x.size ≤ y.size ∧ ∀ k, k < x.size → y.getD k 0 = x.getD k 0

theorem pre_refl (x : Array Nat) : Pre x x := ⟨Nat.le_refl _, fun _ _ => rfl⟩

theorem pre_trans {x y z : Array Nat} (h1 : Pre x y) (h2 : Pre y z) : Pre x z :=
  ⟨Nat.le_trans h1.1 h2.1, fun k hk => by rw [h2.2 k (by have := h1.1; omega), h1.2 k hk]⟩

theorem getD_appendL (x : Array Nat) (l : List Nat) (k : Nat) :
    (x ++ l).getD k 0 = if k < x.size then x.getD k 0 else l.getD (k - x.size) 0 := by
  simp only [Array.getD_eq_getD_getElem?, List.getD_eq_getElem?_getD]
  rw [← Array.getElem?_toList, Array.toList_appendList, List.getElem?_append]
  split
  · rename_i h; rw [Array.length_toList] at h; rw [if_pos h, Array.getElem?_toList]
  · rename_i h; rw [Array.length_toList] at h; rw [if_neg h, Array.length_toList]

theorem getD_appendA (x y : Array Nat) (k : Nat) :
    (x ++ y).getD k 0 = if k < x.size then x.getD k 0 else y.getD (k - x.size) 0 := by
  simp only [Array.getD_eq_getD_getElem?, Array.getElem?_append]
  split <;> rfl

theorem pre_appendL (x : Array Nat) (l : List Nat) : Pre x (x ++ l) :=
  ⟨by rw [size_appendList]; omega, fun k hk => by rw [getD_appendL, if_pos hk]⟩

theorem pre_appendA (x y : Array Nat) : Pre x (x ++ y) :=
  ⟨by rw [Array.size_append]; omega, fun k hk => by rw [getD_appendA, if_pos hk]⟩

theorem at_appendL (x : Array Nat) (l : List Nat) : At (x ++ l) x.size l := by
  intro k _
  rw [getD_appendL, if_neg (by omega)]
  congr 1; omega

theorem at_of_pre {x y : Array Nat} (h : Pre x y) {i : Nat} {bs : List Nat} (ha : At x i bs) (hi : i + bs.length ≤ x.size) :
    At y i bs := fun k hk => by rw [h.2 (i + k) (by omega)]; exact ha k hk

theorem emitLengthBytes_len (v : Nat) :
    1 ≤ (emitLengthBytes v).length ∧ (emitLengthBytes v).length ≤ 4 ∧ 10 * (emitLengthBytes v).length ≤ v + 10 := by
  unfold emitLengthBytes
  by_cases h7 : v ≥ 2 ^ 7
  · by_cases h14 : v ≥ 2 ^ 14
    · by_cases h21 : v ≥ 2 ^ 21
      · simp only [if_pos h7, if_pos h14, if_pos h21, List.length_append, List.length_cons, List.length_nil]
        omega
      · simp only [if_pos h7, if_pos h14, if_neg h21, List.length_append, List.length_cons, List.length_nil]
        omega
    · simp only [if_pos h7, if_neg h14, List.length_append, List.length_cons, List.length_nil]
      omega
  · simp only [if_neg h7, List.length_append, List.length_cons, List.length_nil]
    omega

/-- `readLengthROLZ` inverts `emitLengthROLZ` for every value below `2^28` (literal runs and matches are shorter
    than a chunk of at most `2^24` bytes), wherever the bytes stand, as long as 4 bytes can be sliced -/
theorem readLength_emit (buf : Array Nat) (i v : Nat) (hv : v < 2 ^ 28) (hat : At buf i (emitLengthBytes v))
    (h4 : i + 4 ≤ buf.size) : readLength buf i = some (v, (emitLengthBytes v).length) := by
  unfold readLength
  rw [if_pos h4]
  unfold emitLengthBytes at hat ⊢
  by_cases h7 : v ≥ 2 ^ 7
  · by_cases h14 : v ≥ 2 ^ 14
    · by_cases h21 : v ≥ 2 ^ 21
      · simp only [if_pos h7, if_pos h14, if_pos h21, List.cons_append, List.nil_append] at hat ⊢
        have a0 := hat 0 (by simp)
        have a1 := hat 1 (by simp)
        have a2 := hat 2 (by simp)
        have a3 := hat 3 (by simp)
        simp only [Nat.add_zero, List.getD_cons_zero, List.getD_cons_succ] at a0 a1 a2 a3
        simp only [a0, a1, a2, a3, Nat.shiftRight_eq_div_pow, List.length_cons, List.length_nil]
        rw [if_neg (by omega), if_neg (by omega), if_neg (by omega)]
        congr 2
        -- nested divisions by 128 keep the coefficients small
        have e1 : v / 2 ^ 14 = v / 2 ^ 7 / 2 ^ 7 := by rw [Nat.div_div_eq_div_mul]
        have e2 : v / 2 ^ 21 = v / 2 ^ 7 / 2 ^ 7 / 2 ^ 7 := by rw [Nat.div_div_eq_div_mul, Nat.div_div_eq_div_mul]
        rw [e1, e2]
        -- `omega` is slow with the byte equations in the context
        clear a0 a1 a2 a3 hat e1 e2
        omega
      · simp only [if_pos h7, if_pos h14, if_neg h21, List.cons_append, List.nil_append] at hat ⊢
        have a0 := hat 0 (by simp)
        have a1 := hat 1 (by simp)
        have a2 := hat 2 (by simp)
        simp only [Nat.add_zero, List.getD_cons_zero, List.getD_cons_succ] at a0 a1 a2
        simp only [a0, a1, a2, Nat.shiftRight_eq_div_pow, List.length_cons, List.length_nil]
        rw [if_neg (by omega), if_neg (by omega), if_pos (by omega)]
        congr 2
        have e1 : v / 2 ^ 14 = v / 2 ^ 7 / 2 ^ 7 := by rw [Nat.div_div_eq_div_mul]
        rw [e1]
        clear a0 a1 a2 hat e1
        omega
    · simp only [if_pos h7, if_neg h14, List.cons_append, List.nil_append] at hat ⊢
      have a0 := hat 0 (by simp)
      have a1 := hat 1 (by simp)
      simp only [Nat.add_zero, List.getD_cons_zero, List.getD_cons_succ] at a0 a1
      simp only [a0, a1, Nat.shiftRight_eq_div_pow, List.length_cons, List.length_nil]
      rw [if_neg (by omega), if_pos (by omega)]
      congr 2
      clear a0 a1 hat
      omega
  · simp only [if_neg h7, List.nil_append] at hat ⊢
    have a0 := hat 0 (by simp)
    simp only [Nat.add_zero, List.getD_cons_zero] at a0
    simp only [a0, List.length_cons, List.length_nil]
    rw [if_pos (by omega)]
    congr 2
    omega

/-- the token of a sequence: `LLLLLMMM`, `L` = min(literal run, 31), `M` = min(match length code, 7) -/
def tokOf (litLen ml : Nat) : Nat := (min litLen 31) * 8 + min ml 7

/-- the bytes a sequence appends to `lenBuf`: the match length (from 7 on), then the literal run length (from 31 on) -/
def lenBytesOf (litLen ml : Nat) : List Nat :=
  (if ml ≥ 7 then emitLengthBytes (ml - 7) else []) ++ (if litLen ≥ 31 then emitLengthBytes (litLen - 31) else [])

/-- at most one length byte per 10 positions of the sequence: a match length byte needs `ml ≥ 7` (a match of at least
    10 bytes), a literal length byte a run of at least 31 -/
theorem lenBytesOf_len (litLen ml : Nat) :
    10 * (lenBytesOf litLen ml).length ≤ litLen + ml + 3 ∧ (ml < 7 → 10 * (lenBytesOf litLen ml).length ≤ litLen) := by
  have h1 := emitLengthBytes_len (ml - 7)
  have h2 := emitLengthBytes_len (litLen - 31)
  unfold lenBytesOf
  rw [List.length_append]
  by_cases h7 : ml ≥ 7
  · rw [if_pos h7]
    by_cases h31 : litLen ≥ 31
    · rw [if_pos h31]
      omega
    · rw [if_neg h31, List.length_nil]
      omega
  · rw [if_neg h7, List.length_nil]
    by_cases h31 : litLen ≥ 31
    · rw [if_pos h31]
      omega
    · rw [if_neg h31, List.length_nil]
      omega

theorem or_low3 (x y : Nat) (hx : x < 8) : x ||| (y * 8) = y * 8 + x := by
  have := Nat.shiftLeft_add_eq_or_of_lt (a := y) (i := 3) (b := x) (by omega)
  rw [Nat.shiftLeft_eq] at this
  rw [Nat.or_comm]
  exact this.symm

theorem tok_eq (litLen ml : Nat) :
    (if litLen = 0 then (if ml ≥ 7 then 7 else ml)
      else if litLen ≥ 31 then (if ml ≥ 7 then 7 else ml) ||| 0xF8
      else (if ml ≥ 7 then 7 else ml) ||| ((litLen <<< 3) % 256)) = tokOf litLen ml := by
  unfold tokOf
  have h1 : (if ml ≥ 7 then 7 else ml) = min ml 7 := by split <;> omega
  rw [h1]
  have hm : min ml 7 < 8 := by omega
  by_cases h0 : litLen = 0
  · rw [if_pos h0, h0]; simp
  · rw [if_neg h0]
    by_cases h31 : litLen ≥ 31
    · rw [if_pos h31]
      have : (0xF8 : Nat) = 31 * 8 := rfl
      rw [this, or_low3 _ _ hm]
      have : min litLen 31 = 31 := by omega
      rw [this]
    · rw [if_neg h31, Nat.shiftLeft_eq]
      have e : litLen * 2 ^ 3 % 256 = litLen * 8 := by omega
      rw [e, or_low3 _ _ hm]
      have : min litLen 31 = litLen := by omega
      rw [this]

theorem pushLits_eq {lit : Array Nat} {cap : Nat} {a : Array Nat} {frm to : Nat} {b : Array Nat}
    (h : pushLits lit cap a frm to = some b) : b = lit ++ a.extract frm to ∧ to ≤ a.size := by
  unfold pushLits at h
  split at h
  · rename_i hc; injection h with h; exact ⟨h.symm, hc.2⟩
  · cases h

/-- a store into a side buffer that only happens under a condition `c`, when there is room -/
theorem pushAll_if {c : Prop} [Decidable c] {buf : Array Nat} {cap : Nat} {bs : List Nat}
    (h : buf.size + (if c then bs else []).length ≤ cap) :
    (if c then pushAll buf cap bs else some buf) = some (buf ++ if c then bs else []) := by
  by_cases hc : c
  · rw [if_pos hc] at h
    rw [if_pos hc, if_pos hc, pushAll, if_pos h]
  · rw [if_neg hc, if_neg hc, Array.appendList_nil]

/-- the copy of the literal run `a[frm, to)` (skipped when empty), when there is room -/
theorem pushLits_if {lit a : Array Nat} {cap frm to : Nat} (h : lit.size + (to - frm) ≤ cap) (hft : frm ≤ to)
    (hto : to ≤ a.size) : (if to - frm > 0 then pushLits lit cap a frm to else some lit) = some (lit ++ a.extract frm to) := by
  by_cases h0 : to - frm > 0
  · rw [if_pos h0, pushLits, if_pos ⟨h, hto⟩]
  · rw [if_neg h0, show frm = to by omega]
    congr 1
    apply Array.ext'
    simp

/-- the token of the literal run that ends a chunk -/
theorem tokTail_eq (litLen : Nat) : (if litLen ≥ 31 then 0xF8 else (litLen <<< 3) % 256) = tokOf litLen 0 := by
  unfold tokOf
  by_cases h31 : litLen ≥ 31
  · rw [if_pos h31, Nat.min_eq_right h31]
    rfl
  · rw [if_neg h31, Nat.shiftLeft_eq, Nat.min_eq_left (by omega)]
    omega

theorem tokOf_low (litLen ml : Nat) : tokOf litLen ml % 8 = min ml 7 := by unfold tokOf; omega

theorem tokOf_high (litLen ml : Nat) : (tokOf litLen ml < 0xF8 ↔ litLen < 31) ∧ (litLen < 31 → tokOf litLen ml >>> 3 = litLen) := by
  unfold tokOf
  constructor
  · constructor <;> intro h <;> omega
  · intro h
    rw [Nat.shiftRight_eq_div_pow]
    omega

theorem decode_lengths {len : Array Nat} {lenIdx litLen ml : Nat} (hat : At len lenIdx (lenBytesOf litLen ml))
    (h4 : lenIdx + (lenBytesOf litLen ml).length + 4 ≤ len.size) (hl : litLen < 2 ^ 28) (hm : ml < 2 ^ 28) :
    ∃ lenIdx1,
    (if tokOf litLen ml % 8 = 7 then (readLength len lenIdx).map (fun r => (r.1 + 7, lenIdx + r.2))
      else some (tokOf litLen ml % 8, lenIdx)) = some (ml, lenIdx1) ∧
    (if tokOf litLen ml < 0xF8 then some (tokOf litLen ml >>> 3, lenIdx1)
      else (readLength len lenIdx1).map (fun r => (r.1 + 31, lenIdx1 + r.2)))
      = some (litLen, lenIdx + (lenBytesOf litLen ml).length) := by
  have hlow := tokOf_low litLen ml
  obtain ⟨hh1, hh2⟩ := tokOf_high litLen ml
  unfold lenBytesOf at hat h4 ⊢
  by_cases h7 : ml ≥ 7
  · rw [if_pos h7] at hat h4
    have hat1 : At len lenIdx (emitLengthBytes (ml - 7)) := by
      intro k hk
      have := hat k (by rw [List.length_append]; omega)
      rw [this, List.getD_eq_getElem?_getD, List.getD_eq_getElem?_getD, List.getElem?_append_left hk]
    have h1 := readLength_emit len lenIdx (ml - 7) (by omega) hat1 (by rw [List.length_append] at h4; omega)
    refine ⟨lenIdx + (emitLengthBytes (ml - 7)).length, ?_, ?_⟩
    · rw [if_pos (by rw [hlow]; omega), h1]
      simp only [Option.map]
      rw [Nat.sub_add_cancel h7]
    · by_cases h31 : litLen ≥ 31
      · rw [if_pos h31] at hat h4
        have hat2 : At len (lenIdx + (emitLengthBytes (ml - 7)).length) (emitLengthBytes (litLen - 31)) := by
          intro k hk
          have := hat ((emitLengthBytes (ml - 7)).length + k) (by rw [List.length_append]; omega)
          rw [Nat.add_assoc, this, List.getD_eq_getElem?_getD, List.getD_eq_getElem?_getD,
            List.getElem?_append_right (by omega)]
          congr 2; omega
        have h2 := readLength_emit len _ (litLen - 31) (by omega) hat2 (by rw [List.length_append] at h4; omega)
        rw [if_neg (by omega), h2, if_pos h31, if_pos h7]
        simp only [Option.map, List.length_append]
        rw [Nat.sub_add_cancel h31, Nat.add_assoc]
      · rw [if_pos (by omega), hh2 (by omega), if_neg h31, if_pos h7]
        simp
  · rw [if_neg h7] at hat h4
    refine ⟨lenIdx, ?_, ?_⟩
    · rw [if_neg (by rw [hlow]; omega), hlow]
      congr 2; omega
    · by_cases h31 : litLen ≥ 31
      · rw [if_pos h31] at hat h4
        simp only [List.nil_append] at hat h4
        have h2 := readLength_emit len lenIdx (litLen - 31) (by omega) hat (by omega)
        rw [if_neg (by omega), h2, if_pos h31, if_neg h7]
        simp only [Option.map, List.nil_append]
        rw [Nat.sub_add_cancel h31]
      · rw [if_pos (by omega), hh2 (by omega), if_neg h31, if_neg h7]
        simp

theorem copyFrom_spec (src : Array Nat) (lim : Nat) : ∀ (n : Nat) (dst : Array Nat) (d s : Nat), d + n ≤ lim → lim ≤ dst.size →
    (copyFrom dst lim d src s n).size = dst.size ∧
    ∀ k, (copyFrom dst lim d src s n).getD k 0 = if d ≤ k ∧ k < d + n then src.getD (s + (k - d)) 0 else dst.getD k 0 := by
  intro n
  induction n with
  | zero =>
    intro dst d s _ _
    refine ⟨rfl, fun k => ?_⟩
    simp only [copyFrom]
    rw [if_neg (by omega)]
  | succ n ih =>
    intro dst d s hlim hsz
    simp only [copyFrom]
    rw [if_pos (by omega)]
    obtain ⟨h1, h2⟩ := ih (dst.setIfInBounds d (src.getD s 0)) (d + 1) (s + 1) (by omega)
      (by rw [Array.size_setIfInBounds]; exact hsz)
    refine ⟨by rw [h1, Array.size_setIfInBounds], fun k => ?_⟩
    rw [h2 k, getD_setIfInBounds]
    by_cases hk : d + 1 ≤ k ∧ k < d + 1 + n
    · rw [if_pos hk, if_pos (by omega)]
      congr 1; omega
    · rw [if_neg hk]
      by_cases hkd : k = d
      · rw [if_pos ⟨hkd, by omega⟩, if_pos (by omega), hkd]
        simp
      · rw [if_neg (fun hc => hkd hc.1), if_neg (by omega)]

theorem copyFrom_agree {a src dst : Array Nat} {lim d s n : Nat} (hd : d + n ≤ lim) (hlim : lim ≤ dst.size)
    (hag : ∀ k, k < d → dst.getD k 0 = a.getD k 0) (hsrc : ∀ k, k < n → src.getD (s + k) 0 = a.getD (d + k) 0) :
    (copyFrom dst lim d src s n).size = dst.size ∧ ∀ k, k < d + n → (copyFrom dst lim d src s n).getD k 0 = a.getD k 0 := by
  obtain ⟨h1, h2⟩ := copyFrom_spec src lim n dst d s hd hlim
  refine ⟨h1, fun k hk => ?_⟩
  rw [h2 k]
  by_cases hc : d ≤ k ∧ k < d + n
  · rw [if_pos hc, hsrc (k - d) (by omega)]
    congr 1; omega
  · rw [if_neg hc]
    exact hag k (by omega)

theorem regRun_unfold {mm delta lpc base lim i litLen f n inc : Nat} {s : I1} {key : Nat} (hn : n < litLen)
    (hkey : getKey mm delta s.dst base lim (i + n) = some key)
    (hin : key * 2 ^ lpc + (s.tab.counters.getD key 0 + 1) % 2 ^ lpc < s.tab.mts.size) :
    regRun mm delta lpc base lim i litLen (f + 1) n inc s =
      regRun mm delta lpc base lim i litLen f (n + (inc >>> 6) + 1) (inc + 1) ⟨s.tab.register lpc key (i + n - base), s.dst⟩ := by
  simp only [regRun]
  rw [if_pos hn]
  simp only [hkey]
  rw [if_pos hin]

theorem regRun_done {mm delta lpc base lim i litLen f n inc : Nat} {s : I1} (hn : ¬ n < litLen) :
    regRun mm delta lpc base lim i litLen (f + 1) n inc s = .ok s := by
  simp only [regRun]
  rw [if_neg hn]

theorem tabOk_in {t : Tab} {lpc : Nat} (h : TabOk t lpc) {key : Nat} (hk : key < HASH_SIZE) (c : Nat) :
    key * 2 ^ lpc + c % 2 ^ lpc < t.mts.size := by
  have hP : 0 < 2 ^ lpc := Nat.two_pow_pos lpc
  have hc : c % 2 ^ lpc < 2 ^ lpc := Nat.mod_lt _ hP
  rw [h.mts]
  have h1 : key * 2 ^ lpc + c % 2 ^ lpc < (key + 1) * 2 ^ lpc := by rw [Nat.add_mul, Nat.one_mul]; omega
  have h2 : (key + 1) * 2 ^ lpc ≤ HASH_SIZE * 2 ^ lpc := Nat.mul_le_mul_right _ hk
  omega

end Kanzi.ROLZ
