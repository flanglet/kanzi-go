/-
`AliasCodec`, the digram path.  The emit loop of Forward is a pure function
`emitP` of the pair → alias map; for ANY list of header entries `(pair value, alias)` whose aliases are
distinct byte values that do not occur in the block (`GoodEntries`), the expansion loop of Inverse run
with the map rebuilt from the header restores the block.  Which pairs are selected (the histogram and
the sort) only enters through `GoodEntries`.
-/
import Kanzi.Proofs.AliasPack

namespace Kanzi.Alias
open Kanzi.RLT

theorem push_appendList (acc : Array Nat) (a : Nat) (l : List Nat) : acc.push a ++ l = acc ++ (a :: l) := by
  apply Array.toList_inj.mp; simp

/-! ## the emit loop as a pure function -/

/-- body bytes and left-over byte of the emit loop started at the byte `a` followed by `rest` -/
def emitP (m : Array Nat) : Nat → List Nat → List Nat × Option Nat
  | a, [] => ([], some a)
  | a, b :: tl =>
    if (m.getD ((a <<< 8) ||| b) 0) >>> 8 = 2 then
      match tl with
      | [] => ([(m.getD ((a <<< 8) ||| b) 0) % 256], none)
      | c :: tl2 => ((m.getD ((a <<< 8) ||| b) 0) % 256 :: (emitP m c tl2).1, (emitP m c tl2).2)
    else ((m.getD ((a <<< 8) ||| b) 0) % 256 :: (emitP m b tl).1, (emitP m b tl).2)

theorem emitP_spec (m : Array Nat) (a : Nat) (rest : List Nat) :
    (emitP m a rest).1.length ≤ rest.length ∧ (∀ y ∈ (emitP m a rest).1, y < 256) ∧
      ∀ x, (emitP m a rest).2 = some x → x ∈ a :: rest := by
  fun_induction emitP m a rest with
  | case1 a => simp
  | case2 a b h =>
    exact ⟨Nat.le_refl _, List.forall_mem_cons.mpr ⟨Nat.mod_lt _ (by decide), fun y hy => nomatch hy⟩,
      fun x hx => nomatch hx⟩
  | case3 a b h c tl2 ih =>
    exact ⟨Nat.le_succ_of_le (Nat.succ_le_succ ih.1), List.forall_mem_cons.mpr ⟨Nat.mod_lt _ (by decide), ih.2.1⟩,
      fun x hx => List.mem_cons_of_mem _ (List.mem_cons_of_mem _ (ih.2.2 x hx))⟩
  | case4 a b tl h ih =>
    exact ⟨Nat.succ_le_succ ih.1, List.forall_mem_cons.mpr ⟨Nat.mod_lt _ (by decide), ih.2.1⟩,
      fun x hx => List.mem_cons_of_mem _ (ih.2.2 x hx)⟩

theorem emitFrom_eq (m : Array Nat) (dstEnd : Nat) (a : Nat) (rest : List Nat) (out : Array Nat)
    (hd : out.size + rest.length ≤ dstEnd) :
    emitFrom m dstEnd a rest out = .ok ((emitP m a rest).2, out ++ (emitP m a rest).1) := by
  fun_induction emitP m a rest generalizing out with
  | case1 a => simp [emitFrom]
  | case2 a b h =>
    unfold emitFrom
    rw [wr_ok _ _ _ (by simp only [List.length_cons, List.length_nil] at hd ⊢; omega)]
    simp only [h, if_true]
  | case3 a b h c tl2 ih =>
    unfold emitFrom
    rw [wr_ok _ _ _ (by simp only [List.length_cons, List.length_nil] at hd ⊢; omega)]
    simp only [h, if_true]
    rw [ih _ (by simp only [size_appendList, List.length_cons, List.length_nil] at hd ⊢; omega), appendList_assoc]
    rfl
  | case4 a b tl h ih =>
    unfold emitFrom
    rw [wr_ok _ _ _ (by simp only [List.length_cons, List.length_nil] at hd ⊢; omega)]
    simp only [h, if_false]
    rw [ih _ (by simp only [size_appendList, List.length_cons, List.length_nil] at hd ⊢; omega), appendList_assoc]
    rfl
/-! ## the two maps -/

/-- what the round trip needs of the pair → alias map `m` of Forward and the alias → pair map `im` of
    Inverse, for a block whose bytes satisfy `S` -/
structure MapsOK (m im : Array Nat) (S : Nat → Prop) : Prop where
  pair : ∀ a b, a < 256 → b < 256 →
    m.getD ((a <<< 8) ||| b) 0 = 0x100 ||| a ∨
    ∃ al, al < 256 ∧ m.getD ((a <<< 8) ||| b) 0 = 0x200 ||| al ∧ im.getD al 0 = 0x20000 ||| a ||| (b <<< 8)
  lit : ∀ x, x < 256 → S x → im.getD x 0 = 0x10000 ||| x

/-- expansion inverts emission: the bytes consumed by the emit loop come back, into any destination that
    has room for the block -/
theorem expand_emit (m im : Array Nat) (S : Nat → Prop) (hm : MapsOK m im S) (dstEnd : Nat)
    (a : Nat) (rest : List Nat) (acc : Array Nat)
    (hS : ∀ x ∈ a :: rest, x < 256 ∧ S x) (hd : acc.size + (1 + rest.length) ≤ dstEnd) :
    ∃ cons : List Nat, expandLoop im dstEnd (emitP m a rest).1 acc = .ok (acc ++ cons) ∧
      cons ++ (emitP m a rest).2.toList = a :: rest := by
  fun_induction emitP m a rest generalizing acc with
  | case1 a => exact ⟨[], by simp [expandLoop], by simp⟩
  | case2 a b h =>
    have ha := hS a (by simp)
    have hb := hS b (by simp)
    have hroom : acc.size + 1 < dstEnd := by simp at hd; omega
    rcases hm.pair a b ha.1 hb.1 with hlit | ⟨al, hal, hmv, himv⟩
    · rw [hlit, (lit16 a ha.1).2] at h
      exact absurd h (by decide)
    · have h2 := ali17 a b ha.1 hb.1
      refine ⟨[a, b], ?_, rfl⟩
      rw [hmv, (ali16 al hal).1]
      unfold expandLoop
      simp only [hroom, if_true, himv, h2.1, h2.2.1, h2.2.2]
      unfold expandLoop
      rw [push_eq_appendList, push_eq_appendList, appendList_assoc]
      rfl
  | case3 a b h c tl2 ih =>
    have ha := hS a (by simp)
    have hb := hS b (by simp)
    have hroom : acc.size + 1 < dstEnd := by simp at hd; omega
    rcases hm.pair a b ha.1 hb.1 with hlit | ⟨al, hal, hmv, himv⟩
    · rw [hlit, (lit16 a ha.1).2] at h
      exact absurd h (by decide)
    · have h2 := ali17 a b ha.1 hb.1
      obtain ⟨cons, hc1, hc2⟩ := ih ((acc.push a).push b)
        (fun x hx => hS x (List.mem_cons_of_mem _ (List.mem_cons_of_mem _ hx))) (by simp at hd ⊢; omega)
      refine ⟨a :: b :: cons, ?_, by simp [hc2]⟩
      rw [hmv, (ali16 al hal).1]
      unfold expandLoop
      simp only [hroom, if_true, himv, h2.1, h2.2.1, h2.2.2]
      rw [hc1, push_appendList, push_appendList]
  | case4 a b tl h ih =>
    have ha := hS a (by simp)
    have hb := hS b (by simp)
    have hroom : acc.size + 1 < dstEnd := by simp at hd; omega
    rcases hm.pair a b ha.1 hb.1 with hlit | ⟨al, hal, hmv, himv⟩
    · have h2 := lit17 a ha.1
      obtain ⟨cons, hc1, hc2⟩ := ih (acc.push a) (fun x hx => hS x (List.mem_cons_of_mem _ hx))
        (by simp at hd ⊢; omega)
      refine ⟨a :: cons, ?_, by simp [hc2]⟩
      rw [hlit, (lit16 a ha.1).1]
      unfold expandLoop
      simp only [hroom, if_true, hm.lit a ha.1 ha.2, h2.1, h2.2]
      rw [if_neg (by decide), hc1, push_appendList]
    · rw [hmv, (ali16 al hal).2] at h
      exact absurd rfl h
/-! ## header entries -/

/-- the header entries Forward may use: pair values below 2^16, aliases that are distinct byte values
    not occurring in the block -/
structure GoodEntries (entries : List (Nat × Nat)) (src : List Nat) : Prop where
  idx_lt : ∀ e ∈ entries, e.1 < 65536
  alias_lt : ∀ e ∈ entries, e.2 < 256
  alias_fresh : ∀ e ∈ entries, e.2 ∉ src
  alias_nodup : (entries.map (·.2)).Nodup

theorem headerBytes_length : ∀ (es : List (Nat × Nat)), (headerBytes es).length = 3 * es.length
  | [] => rfl
  | e :: tl => by simp [headerBytes, headerBytes_length tl]; omega

theorem headerBytes_lt : ∀ (es : List (Nat × Nat)), ∀ y ∈ headerBytes es, y < 256
  | [] => fun y hy => nomatch hy
  | e :: tl =>
    have hmod : ∀ v, v % 256 < 256 := fun v => Nat.mod_lt v (by decide)
    List.forall_mem_cons.mpr ⟨hmod _, List.forall_mem_cons.mpr ⟨hmod _, List.forall_mem_cons.mpr
      ⟨hmod _, headerBytes_lt tl⟩⟩⟩

theorem map16Init_size : map16Init.size = 65536 := by simp [map16Init]

theorem map16Init_get (idx : Nat) (h : idx < 65536) : map16Init.getD idx 0 = 0x100 ||| (idx >>> 8) := by
  have hs : idx < map16Init.size := by rw [map16Init_size]; exact h
  rw [Array.getD_eq_getD_getElem?, Array.getElem?_eq_getElem hs]
  simp [map16Init]

theorem imapInit_size : imapInit.size = 256 := by simp [imapInit]

theorem imapInit_get (x : Nat) (h : x < 256) : imapInit.getD x 0 = 0x10000 ||| x := by
  have hs : x < imapInit.size := by rw [imapInit_size]; exact h
  rw [Array.getD_eq_getD_getElem?, Array.getElem?_eq_getElem hs]
  simp [imapInit]

/-- invariant of the header loop of Forward on `map16` -/
def M16Inv (S : List (Nat × Nat)) (m : Array Nat) : Prop :=
  m.size = 65536 ∧ ∀ idx, idx < 65536 →
    m.getD idx 0 = 0x100 ||| (idx >>> 8) ∨ ∃ al, (idx, al) ∈ S ∧ m.getD idx 0 = 0x200 ||| al

theorem mkMap16_fold (S : List (Nat × Nat)) : ∀ (es : List (Nat × Nat)) (m : Array Nat),
    (∀ e ∈ es, e ∈ S) → M16Inv S m →
    M16Inv S (es.foldl (fun m e => m.setIfInBounds e.1 (0x200 ||| e.2)) m) := by
  intro es
  induction es with
  | nil => intro m _ h; exact h
  | cons e tl ih =>
    intro m hS hinv
    rw [List.foldl_cons]
    apply ih _ (fun x hx => hS x (by simp [hx]))
    refine ⟨by simp [hinv.1], fun idx hidx => ?_⟩
    rw [getD_setIfInBounds]
    by_cases h : e.1 = idx ∧ e.1 < m.size
    · right
      refine ⟨e.2, ?_, by rw [if_pos h]⟩
      have : e = (idx, e.2) := by rw [← h.1]
      rw [← this]; exact hS e (by simp)
    · simp only [h, if_false]; exact hinv.2 idx hidx

theorem mkMap16_inv (entries : List (Nat × Nat)) : M16Inv entries (mkMap16 entries) := by
  unfold mkMap16
  exact mkMap16_fold entries entries _ (fun _ h => h) ⟨map16Init_size, fun idx h => Or.inl (map16Init_get idx h)⟩

theorem mkImap_size : ∀ (k : Nat) (l : List Nat) (m : Array Nat), l.length ≤ k → (mkImap l m).size = m.size := by
  intro k l m h
  clear h
  fun_induction mkImap l m with
  | case1 a b c tl m ih => rw [ih, Array.size_setIfInBounds]
  | case2 => rfl

theorem mkImap_other : ∀ (es : List (Nat × Nat)) (m : Array Nat) (x : Nat),
    (∀ e ∈ es, e.2 < 256) → (∀ e ∈ es, e.2 ≠ x) → (mkImap (headerBytes es) m).getD x 0 = m.getD x 0 := by
  intro es
  induction es with
  | nil => intro m x _ _; simp [headerBytes, mkImap]
  | cons e tl ih =>
    intro m x hlt hne
    simp only [headerBytes, mkImap]
    rw [ih _ x (fun e' he' => hlt e' (by simp [he'])) (fun e' he' => hne e' (by simp [he']))]
    rw [getD_setIfInBounds]
    have h1 := hne e (by simp)
    have h2 := hlt e (by simp)
    have : ¬ (e.2 % 256 = x ∧ e.2 % 256 < m.size) := by
      rw [Nat.mod_eq_of_lt h2]; intro h; exact h1 h.1
    simp [this]

theorem mkImap_alias : ∀ (es : List (Nat × Nat)) (m : Array Nat) (idx al : Nat), m.size = 256 →
    (∀ e ∈ es, e.2 < 256) → (es.map (·.2)).Nodup → (idx, al) ∈ es →
    (mkImap (headerBytes es) m).getD al 0 = 0x20000 ||| ((idx >>> 8) % 256) ||| ((idx % 256) <<< 8) := by
  intro es
  induction es with
  | nil => intro m idx al _ _ _ h; simp at h
  | cons e tl ih =>
    intro m idx al hsz hlt hnd hmem
    simp only [headerBytes, mkImap]
    have hnd' : e.2 ∉ tl.map (·.2) ∧ (tl.map (·.2)).Nodup := by simpa using hnd
    rcases List.mem_cons.mp hmem with heq | htl
    · subst heq
      rw [mkImap_other tl _ al (fun e' he' => hlt e' (by simp [he']))
        (fun e' he' h => hnd'.1 (List.mem_map.mpr ⟨e', he', h⟩))]
      rw [getD_setIfInBounds]
      have h2 : al < 256 := hlt (idx, al) (by simp)
      simp [Nat.mod_eq_of_lt h2, hsz, h2]
    · exact ih _ idx al (by simp [hsz]) (fun e' he' => hlt e' (by simp [he'])) hnd'.2 htl

theorem maps_ok (entries : List (Nat × Nat)) (src : List Nat) (hg : GoodEntries entries src) :
    MapsOK (mkMap16 entries) (mkImap (headerBytes entries) imapInit) (fun x => x ∈ src) := by
  constructor
  · intro a b ha hb
    have hp := pair_bytes a b ha hb
    rcases (mkMap16_inv entries).2 _ hp.1 with h | ⟨al, hmem, h⟩
    · left; rw [h, hp.2.2.2]
    · right
      refine ⟨al, hg.alias_lt _ hmem, h, ?_⟩
      rw [mkImap_alias entries imapInit _ al imapInit_size hg.alias_lt hg.alias_nodup hmem, hp.2.1, hp.2.2.1]
  · intro x hx hS
    rw [mkImap_other entries imapInit x hg.alias_lt (fun e he h => hg.alias_fresh e he (h ▸ hS))]
    exact imapInit_get x hx

/-! ## the entries Forward selects are good -/

theorem zip_snd_nodup : ∀ (l1 : List Nat) (l2 : List Nat), l2.Nodup → ((l1.zip l2).map (·.2)).Nodup := by
  intro l1
  induction l1 with
  | nil => intro l2 _; simp
  | cons a tl ih =>
    intro l2 h
    match l2, h with
    | [], _ => simp
    | b :: tl2, h =>
      have h' : b ∉ tl2 ∧ tl2.Nodup := by simpa using h
      simp only [List.zip_cons_cons, List.map_cons, List.nodup_cons]
      refine ⟨fun hm => ?_, ih tl2 h'.2⟩
      obtain ⟨e, he, heq⟩ := List.mem_map.mp hm
      have := (List.of_mem_zip (show (e.1, e.2) ∈ tl.zip tl2 from he)).2
      rw [heq] at this; exact h'.1 this

theorem mem_symbList {h : Array Nat} {e : Nat × Nat} (he : e ∈ symbList h) : e.1 < 65536 := by
  unfold symbList at he
  obtain ⟨i, hi, hv⟩ := List.mem_filterMap.mp he
  split at hv
  · exact absurd hv (by simp)
  · simp at hv; rw [← hv]; simpa using hi

theorem selectEntries_good (h : Array Nat) (absent src : List Nat) (n : Nat)
    (habs : ∀ a ∈ absent, a < 256 ∧ a ∉ src) (hnd : absent.Nodup) :
    GoodEntries (selectEntries (sortSymb (symbList h)) absent n) src := by
  unfold selectEntries
  constructor
  · intro e he
    have h1 := (List.of_mem_zip (show (e.1, e.2) ∈ _ from he)).1
    obtain ⟨e', he', heq⟩ := List.mem_map.mp h1
    have h2 : e' ∈ sortSymb (symbList h) := List.mem_of_mem_take he'
    have h3 : e' ∈ symbList h := (List.mergeSort_perm _ _).mem_iff.mp h2
    rw [← heq]; exact mem_symbList h3
  · intro e he
    exact (habs _ (List.of_mem_zip (show (e.1, e.2) ∈ _ from he)).2).1
  · intro e he
    exact (habs _ (List.of_mem_zip (show (e.1, e.2) ∈ _ from he)).2).2
  · exact zip_snd_nodup _ _ hnd

theorem selectEntries_length (sorted : List (Nat × Nat)) (absent : List Nat) (n : Nat)
    (h1 : n ≤ sorted.length) (h2 : n ≤ absent.length) : (selectEntries sorted absent n).length = n := by
  unfold selectEntries
  simp [List.length_zip, List.length_take]; omega

end Kanzi.Alias
