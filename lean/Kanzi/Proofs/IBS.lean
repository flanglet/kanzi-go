/-
Layer 2: the abstract word machine `A` (see `IBSSim`, `IBSArr`) refines `Kanzi.Bits`:
every read returns the next bits of `remaining`, most significant first, and drops them.
The statements about the concrete stream follow by the simulation of layer 1 (composed in `IBSThm`).
-/
import Kanzi.Proofs.IBSArr
import Kanzi.Proofs.BitsIbs

namespace Kanzi.IBS
open Kanzi.Bits Kanzi.BitsIbs

def bytesBits (l : List Byte) : Bits := ofBytes (l.map BitVec.toNat)

def wordBits (w : BitVec 64) (n : Nat) : Bits := natBits w.toNat n

def A.remaining (a : A) : Bits := wordBits a.cur a.avail ++ bytesBits a.rest

def remaining (s : St) : Bits := (abs s).remaining

theorem bytesBits_length (l : List Byte) : (bytesBits l).length = 8 * l.length := by
  simp [bytesBits, ofBytes_length]

theorem bytesBits_append (x y : List Byte) : bytesBits (x ++ y) = bytesBits x ++ bytesBits y := by
  simp [bytesBits, ofBytes_append]

theorem bytesBits_nil : bytesBits [] = [] := rfl

theorem bytesBits_take (l : List Byte) (n : Nat) :
    (bytesBits l).take (8 * n) = bytesBits (l.take n) := by
  simp [bytesBits, ofBytes_take, List.map_take]

theorem bytesBits_drop (l : List Byte) (n : Nat) :
    (bytesBits l).drop (8 * n) = bytesBits (l.drop n) := by
  simp [bytesBits, ofBytes_drop, List.map_drop]

theorem beNat_eq (l : List Byte) : beNat l = bitsNat (bytesBits l) := by
  induction l with
  | nil => rfl
  | cons b l ih =>
    rw [beNat, ih, show bytesBits (b :: l) = natBits b.toNat 8 ++ bytesBits l from ofBytes_cons _ _,
      bitsNat_append, bitsNat_natBits_of_lt _ _ b.isLt, bytesBits_length]

theorem beNat_lt (l : List Byte) : beNat l < 2 ^ (8 * l.length) := by
  rw [beNat_eq, ← bytesBits_length]
  exact bitsNat_lt _

theorem beNat_bits (l : List Byte) : natBits (beNat l) (8 * l.length) = bytesBits l := by
  rw [beNat_eq, ← bytesBits_length]
  exact natBits_bitsNat _

theorem beWord_toNat (l : List Byte) (h : l.length ≤ 8) : (beWord l).toNat = beNat l := by
  unfold beWord
  rw [BitVec.toNat_ofNat, Nat.mod_eq_of_lt]
  have h1 := beNat_lt l
  have : 2 ^ (8 * l.length) ≤ 2 ^ 64 := Nat.pow_le_pow_right (by decide) (by omega)
  omega

theorem wordBits_beWord (l : List Byte) (h : l.length ≤ 8) :
    wordBits (beWord l) (8 * l.length) = bytesBits l := by
  unfold wordBits
  rw [beWord_toNat l h, beNat_bits]

theorem mask_toNat : ∀ n : Fin 65, (mask n.val).toNat = 2 ^ n.val - 1 := by decide

theorem mask_toNat' (n : Nat) (h : n ≤ 64) : (mask n).toNat = 2 ^ n - 1 :=
  mask_toNat ⟨n, by omega⟩

/-- well-formed abstract state: the word holds at most 64 bits -/
abbrev AInv (a : A) : Prop := a.avail ≤ 64

theorem A.remaining_length (a : A) : a.remaining.length = a.avail + 8 * a.rest.length := by
  simp [A.remaining, wordBits, natBits_length, bytesBits_length]

theorem A.pull_spec (a : A) (hc : a.closed = false) (hr : a.rest ≠ []) :
    a.pull.1 = none ∧ a.pull.2.remaining = bytesBits a.rest ∧
    a.pull.2.avail = 8 * min 8 a.rest.length ∧ a.pull.2.cur.toNat < 2 ^ a.pull.2.avail ∧
    a.pull.2.cnt = a.cnt + a.avail ∧ a.pull.2.closed = false ∧
    a.pull.2.rest = a.rest.drop 8 ∧ a.pull.2.ending = a.ending := by
  rw [A.pull_ok a hc hr]
  have hl : (a.rest.take 8).length ≤ 8 := by simp only [List.length_take]; omega
  refine ⟨rfl, ?_, ?_, ?_, rfl, hc, rfl, rfl⟩
  · simp only [A.remaining]
    rw [wordBits_beWord _ hl, ← bytesBits_append, List.take_append_drop]
  · simp only [List.length_take]
  · simp only
    rw [beWord_toNat _ hl]
    exact beNat_lt _


theorem A.take_remaining (a : A) (n : Nat) (hle : n ≤ a.avail) :
    (a.take n).remaining = a.remaining.drop n ∧
    bitsNat (a.remaining.take n) = (a.cur.toNat / 2 ^ (a.avail - n)) % 2 ^ n := by
  have hl : (wordBits a.cur a.avail).length = a.avail := natBits_length _ _
  constructor
  · simp only [A.remaining, A.take]
    rw [List.drop_append_of_le_length (by omega)]
    simp only [wordBits]
    rw [natBits_drop _ _ _ hle]
  · simp only [A.remaining]
    rw [List.take_append_of_le_length (by omega)]
    simp only [wordBits]
    rw [natBits_take _ _ _ hle, bitsNat_natBits]

theorem A.remaining_pull (a : A) (hc : a.closed = false) (hr : a.rest ≠ []) (n : Nat)
    (hn : a.avail ≤ n) :
    a.remaining.take n = wordBits a.cur a.avail ++ a.pull.2.remaining.take (n - a.avail) ∧
    a.remaining.drop n = a.pull.2.remaining.drop (n - a.avail) := by
  have hl : (wordBits a.cur a.avail).length = a.avail := natBits_length _ _
  rw [(A.pull_spec a hc hr).2.1]
  simp only [A.remaining]
  rw [List.take_append, List.drop_append, hl, List.take_of_length_le (by omega),
    List.drop_of_length_le (by omega), List.nil_append]
  exact ⟨rfl, rfl⟩

/-- `ReadBits(n)` served from the current word -/
theorem A.readBitsAux_fast (fuel : Nat) (a : A) (n : Nat) (h1 : 1 ≤ n) (h64 : n ≤ 64)
    (hle : n ≤ a.avail) :
    ∃ v, A.readBitsAux (fuel + 1) a n = (.val v, a.take n) ∧
      v.toNat = bitsNat (a.remaining.take n) := by
  refine ⟨(a.cur >>> (a.avail - n)) &&& mask n, ?_, ?_⟩
  · unfold A.readBitsAux
    rw [if_neg (by omega), if_pos hle]
  · rw [(A.take_remaining a n hle).2, BitVec.toNat_and, BitVec.toNat_ushiftRight,
      mask_toNat' n h64, Nat.and_two_pow_sub_one_eq_mod, Nat.shiftRight_eq_div_pow]

theorem A.readBits_spec (a : A) (hi : AInv a) (hc : a.closed = false) (n : Nat)
    (h1 : 1 ≤ n) (h64 : n ≤ 64) (hen : n ≤ a.remaining.length) :
    ∃ v a', A.readBits a n = (.val v, a') ∧
      v.toNat = bitsNat (a.remaining.take n) ∧ a'.remaining = a.remaining.drop n ∧
      a'.cnt = a.cnt + n ∧ AInv a' ∧ a'.closed = false ∧ a'.ending = a.ending ∧
      (n ≤ a.avail → a' = a.take n) := by
  unfold A.readBits
  by_cases hle : n ≤ a.avail
  · obtain ⟨v, e1, e2⟩ := A.readBitsAux_fast (n + 1) a n h1 h64 hle
    exact ⟨v, a.take n, e1, e2, (A.take_remaining a n hle).1, rfl,
      Nat.le_trans (Nat.sub_le _ _) hi, hc, rfl, fun _ => rfl⟩
  · rw [A.remaining_length] at hen
    have hr : a.rest ≠ [] := by
      intro h; rw [h] at hen; simp only [List.length_nil] at hen; omega
    obtain ⟨p1, p2, p3, p4, p5, p6, p7, p8⟩ := A.pull_spec a hc hr
    obtain ⟨k1, k2⟩ := A.remaining_pull a hc hr n (by omega)
    have hn1 : n - a.avail ≤ a.pull.2.avail := by rw [p3]; omega
    have hav1 : a.pull.2.avail ≤ 64 := by rw [p3]; omega
    obtain ⟨v1, e1, e2⟩ := A.readBitsAux_fast n a.pull.2 (n - a.avail)
      (Nat.sub_pos_of_lt (Nat.lt_of_not_le hle)) (Nat.le_trans (Nat.sub_le _ _) h64) hn1
    obtain ⟨t1, t2⟩ := A.take_remaining a.pull.2 (n - a.avail) hn1
    refine ⟨((a.cur &&& mask a.avail) <<< (n - a.avail)) ||| v1, a.pull.2.take (n - a.avail),
      ?_, ?_, by rw [t1, k2], by simp only [A.take, p5]; omega,
      Nat.le_trans (Nat.sub_le _ _) hav1, p6, p8, fun h => absurd h hle⟩
    · rw [A.readBitsAux, if_neg (by omega), if_neg hle, p1]
      simp only [e1]
    · -- the low `avail` bits of the old word, shifted above the `n - avail` bits of the new one
      have hv1 : v1.toNat < 2 ^ (n - a.avail) := by
        rw [e2, t2]; exact Nat.mod_lt _ (Nat.two_pow_pos _)
      have hbig : a.cur.toNat % 2 ^ a.avail * 2 ^ (n - a.avail) < 2 ^ 64 := by
        have h2 : a.cur.toNat % 2 ^ a.avail * 2 ^ (n - a.avail) < 2 ^ a.avail * 2 ^ (n - a.avail) :=
          Nat.mul_lt_mul_of_pos_right (Nat.mod_lt _ (Nat.two_pow_pos _)) (Nat.two_pow_pos _)
        rw [← Nat.pow_add] at h2
        exact Nat.lt_of_lt_of_le h2 (Nat.pow_le_pow_right (by decide) (by omega))
      rw [BitVec.toNat_or, BitVec.toNat_shiftLeft, BitVec.toNat_and, mask_toNat' _ hi,
        Nat.and_two_pow_sub_one_eq_mod, Nat.shiftLeft_eq, Nat.mod_eq_of_lt hbig,
        Nat.mul_comm, ← Nat.two_pow_add_eq_or_of_lt hv1, k1, bitsNat_append, wordBits,
        bitsNat_natBits, e2, List.length_take, Nat.min_eq_left (by rw [A.remaining_length]; omega),
        Nat.mul_comm]

theorem mask_zero : mask 0 = 0 := by decide

theorem mask_one : mask 1 = 1 := by decide

theorem A.readBit_eq (a : A) : A.readBit a = A.readBits a 1 := by
  unfold A.readBit A.readBits
  rw [A.readBitsAux, if_neg (show ¬ (1 = 0 ∨ 1 > 64) by omega)]
  by_cases h0 : a.avail = 0
  · rw [if_pos h0, if_neg (by omega)]
    cases hp : a.pull.1 with
    | some e => rfl
    | none =>
      obtain ⟨hc, hr⟩ := A.pull_none a hp
      have h8 : 1 ≤ a.pull.2.avail := by
        rw [(A.pull_spec a hc hr).2.2.1]
        have := List.length_pos_iff.mpr hr
        omega
      simp only
      rw [h0, Nat.sub_zero, A.readBitsAux, if_neg (by omega), if_pos h8, mask_zero, mask_one]
      simp
  · rw [if_neg h0, if_pos (by omega), mask_one]

/-- not enough bits: `ReadBits` panics with the ending of the source, nothing is fabricated -/
theorem A.readBits_eos (a : A) (hc : a.closed = false) (n : Nat)
    (h1 : 1 ≤ n) (h64 : n ≤ 64) (hen : a.remaining.length < n) :
    (A.readBits a n).1 = .panic a.ending := by
  rw [A.remaining_length] at hen
  unfold A.readBits
  have hf : n + 2 = (n + 1) + 1 := rfl
  rw [hf, A.readBitsAux, if_neg (by omega), if_neg (by omega)]
  by_cases hr : a.rest = []
  · rw [A.pull_nil a hc hr]
  · obtain ⟨p1, p2, p3, p4, p5, p6, p7, p8⟩ := A.pull_spec a hc hr
    rw [p1]
    have hlt : a.rest.length < 8 := by omega
    have hr2 : a.pull.2.rest = [] := by
      rw [p7]; exact List.drop_of_length_le (by omega)
    have hinner : (A.readBitsAux (n + 1) a.pull.2 (n - a.avail)).1 = .panic a.ending := by
      rw [A.readBitsAux, if_neg (by omega), if_neg (by rw [p3]; omega),
        A.pull_nil a.pull.2 p6 hr2, p8]
    simp only [hinner]

theorem A.readBit_eos (a : A) (hc : a.closed = false) (hen : a.remaining.length = 0) :
    (A.readBit a).1 = .panic a.ending := by
  rw [A.readBit_eq]
  exact A.readBits_eos a hc 1 (Nat.le_refl 1) (by decide) (by omega)

theorem A.readArray_closed (a : A) (hc : a.closed = true) (k : Nat) :
    A.readArray a k = (.panic .closed, a) := by
  unfold A.readArray; rw [if_pos hc]

/-! ## ReadArray

On the abstract word machine every stage of `A.readArray` moves the next bits of `remaining` to
the output bytes, or, when more bits are wanted than remain, panics with the ending of the source
(no bits are fabricated).
-/

/-- `l'` is `l` after moving the next `m` bits (whole bytes) to the output -/
structure Moves (l l' : ALp) (m : Nat) : Prop where
  out : bytesBits l'.out = bytesBits l.out ++ l.st.remaining.take m
  rest : l'.st.remaining = l.st.remaining.drop m
  rem : l'.rem = l.rem - m
  le : m ≤ l.rem
  cnt : l'.st.cnt = l.st.cnt + m
  inv : AInv l'.st
  cl : l'.st.closed = false
  en : l'.st.ending = l.st.ending
  has : m ≤ l.st.remaining.length

theorem Moves.refl (l : ALp) (hi : AInv l.st) (hc : l.st.closed = false) : Moves l l 0 :=
  ⟨by simp, by simp, by simp, by omega, by simp, hi, hc, rfl, by omega⟩

theorem Moves.trans {l l' l'' : ALp} {m m' : Nat} (h : Moves l l' m) (h' : Moves l' l'' m') :
    Moves l l'' (m + m') := by
  refine ⟨?_, ?_, ?_, ?_, ?_, h'.inv, h'.cl, h'.en.trans h.en, ?_⟩
  · rw [h'.out, h.out, h.rest, List.append_assoc, List.take_add]
  · rw [h'.rest, h.rest, List.drop_drop]
  · rw [h'.rem, h.rem]; omega
  · have := h.le; have := h'.le; have := h.rem; omega
  · rw [h'.cnt, h.cnt]; omega
  · have h1 := h'.has; rw [h.rest, List.length_drop] at h1; have := h.has; omega

def Ends (r : ALR) (e : ErrKind) : Prop := ∃ a, r = .panic e a

def Short (l : ALp) : Prop := l.st.remaining.length < l.rem

theorem Moves.short_iff {l l' : ALp} {m : Nat} (h : Moves l l' m) : Short l' ↔ Short l := by
  unfold Short
  rw [h.rest, h.rem, List.length_drop]
  have := h.le
  have := h.has
  omega

/-- result `r` of a stage of `A.readArray` started in `l`: some bits were moved to the output and
    `post` holds; or more bits were wanted than remain and the stage panicked with the ending of
    the source -/
def Stage (l : ALp) (r : ALR) (post : ALp → Prop) : Prop :=
  (Short l ∧ Ends r l.st.ending) ∨ ∃ l' m, r = .ok l' ∧ Moves l l' m ∧ post l'

theorem Stage.refl {l : ALp} {post : ALp → Prop} (hi : AInv l.st) (hc : l.st.closed = false)
    (hp : post l) : Stage l (.ok l) post :=
  Or.inr ⟨l, 0, rfl, Moves.refl l hi hc, hp⟩

theorem Stage.bind {l : ALp} {r : ALR} {P Q : ALp → Prop} {f : ALp → ALR} (h : Stage l r P)
    (hf : ∀ l', P l' → AInv l'.st → l'.st.closed = false → Stage l' (f l') Q) :
    Stage l (r.bind f) Q := by
  rcases h with ⟨hs, a, ha⟩ | ⟨l', m, e, mv, hp⟩
  · rw [ha]; exact Or.inl ⟨hs, a, rfl⟩
  · rw [e]
    rcases hf l' hp mv.inv mv.cl with ⟨hs, he⟩ | ⟨l'', m', e', mv', hq⟩
    · rw [mv.en] at he; exact Or.inl ⟨mv.short_iff.mp hs, he⟩
    · exact Or.inr ⟨l'', m + m', e', mv.trans mv', hq⟩

theorem byte_bits (v : BitVec 64) (bs : Bits) (hl : bs.length = 8) (hv : v.toNat = bitsNat bs) :
    bytesBits [v.setWidth 8] = bs := by
  rw [← natBits_bitsNat bs, hl, ← hv, ← natBits_mod, ← BitVec.toNat_setWidth]
  exact List.append_nil _

theorem A.byteStep_stage (l : ALp) (hi : AInv l.st) (hc : l.st.closed = false) (h8 : 8 ≤ l.rem) :
    Stage l (A.byteStep l)
      (fun l' => l'.rem = l.rem - 8 ∧ (8 ≤ l.st.avail → l'.st.avail = l.st.avail - 8)) := by
  unfold A.byteStep
  by_cases hen : 8 ≤ l.st.remaining.length
  · obtain ⟨v, a', e1, e2, e3, e4, e5, e6, e7, e8⟩ :=
      A.readBits_spec l.st hi hc 8 (by omega) (by omega) hen
    rw [e1]
    refine Or.inr ⟨_, 8, rfl, ⟨?_, e3, rfl, h8, e4, e5, e6, e7, hen⟩, rfl, fun h => by rw [e8 h]; rfl⟩
    simp only
    rw [bytesBits_append, byte_bits v _ (by rw [List.length_take]; omega) e2]
  · rw [A.readBits_eos l.st hc 8 (by omega) (by omega) (by omega)]
    exact Or.inl ⟨by unfold Short; omega, _, rfl⟩

theorem A.emptyCur_stage : ∀ (fuel : Nat) (l : ALp), AInv l.st → l.st.closed = false →
    l.st.avail % 8 = 0 → l.st.avail / 8 + 1 ≤ fuel →
    Stage l (A.emptyCur fuel l) (fun l' => l'.st.avail = 0 ∨ l'.rem < 8) := by
  intro fuel
  induction fuel with
  | zero => intro l _ _ _ h; omega
  | succ fuel ih =>
    intro l hi hc h8 hfu
    unfold A.emptyCur
    by_cases hcond : l.st.avail ≠ 0 ∧ l.rem ≥ 8
    · rw [if_pos hcond]
      refine (A.byteStep_stage l hi hc hcond.2).bind fun l1 h1 hi1 hc1 => ?_
      have := h1.2 (by omega)
      exact ih l1 hi1 hc1 (by omega) (by omega)
    · rw [if_neg hcond]
      exact Stage.refl hi hc (by omega)

theorem A.tailBytes_stage : ∀ (fuel : Nat) (l : ALp), AInv l.st → l.st.closed = false →
    l.rem / 8 + 1 ≤ fuel → Stage l (A.tailBytes fuel l) (fun l' => l'.rem < 8) := by
  intro fuel
  induction fuel with
  | zero => intro l _ _ h; omega
  | succ fuel ih =>
    intro l hi hc hfu
    unfold A.tailBytes
    by_cases hcond : l.rem ≥ 8
    · rw [if_pos hcond]
      exact (A.byteStep_stage l hi hc hcond).bind fun l1 h1 hi1 hc1 => ih l1 hi1 hc1 (by omega)
    · rw [if_neg hcond]
      exact Stage.refl hi hc (by omega)

theorem A.alignedStart_stage (l : ALp) (hi : AInv l.st) (hc : l.st.closed = false)
    (h8 : l.st.avail % 8 = 0) (hpos : 0 < l.rem) :
    Stage l (A.alignedStart l) (fun l' => l'.st.avail % 8 = 0) := by
  unfold A.alignedStart
  by_cases h0 : l.st.avail = 0
  · rw [if_pos h0]
    by_cases hr : l.st.rest = []
    · rw [A.pull_nil l.st hc hr]
      refine Or.inl ⟨?_, _, rfl⟩
      unfold Short
      rw [A.remaining_length, h0, hr]
      exact hpos
    · obtain ⟨p1, p2, p3, p4, p5, p6, p7, p8⟩ := A.pull_spec l.st hc hr
      rw [p1]
      have hrem : l.st.remaining = l.st.pull.2.remaining := by
        rw [p2]; simp only [A.remaining, h0, wordBits, natBits_zero, List.nil_append]
      exact Or.inr ⟨_, 0, rfl, ⟨by simp, by simp [hrem], by simp, by omega, by simp [p5, h0],
        by show l.st.pull.2.avail ≤ 64; rw [p3]; omega, p6, p8, by omega⟩,
        by simp only; rw [p3]; omega⟩
  · rw [if_neg h0]
    exact Stage.refl hi hc h8

/-- whole bytes taken directly from the remaining bytes (the current word is empty) -/
theorem A.skip_remaining (a : A) (b : Nat) (h : a.avail = 0 ∨ b = 0) :
    (a.skip b).remaining = a.remaining.drop (8 * b) ∧
    a.remaining.take (8 * b) = bytesBits (a.rest.take b) := by
  rcases h with h | h
  · simp only [A.remaining, A.skip, h, wordBits, natBits_zero, List.nil_append]
    exact ⟨(bytesBits_drop _ _).symm, bytesBits_take _ _⟩
  · subst h
    simp [A.skip, A.remaining, bytesBits_nil]

theorem A.bulk_stage (l : ALp) (hi : AInv l.st) (hc : l.st.closed = false)
    (h0 : l.st.avail = 0 ∨ l.rem < 8) : Stage l (A.bulk l) (fun _ => True) := by
  have hlen := A.remaining_length l.st
  unfold A.bulk
  by_cases hgt : l.rem / 8 > l.st.rest.length
  · rw [if_pos hgt]
    exact Or.inl ⟨by unfold Short; omega, _, rfl⟩
  · rw [if_neg hgt]
    obtain ⟨k1, k2⟩ := A.skip_remaining l.st (l.rem / 64 * 8) (by omega)
    refine Or.inr ⟨_, 8 * (l.rem / 64 * 8), rfl, ⟨?_, k1, rfl, by omega, ?_,
      hi, hc, rfl, by omega⟩, trivial⟩
    · simp only
      rw [bytesBits_append, k2]
    · simp only [A.skip]; omega

theorem wordBytes_bits (w : BitVec 64) : bytesBits (wordBytes w) = natBits w.toNat 64 :=
  ofBytes_word w

/-- the merged word `(v0 << r) | (v1 >> (avail1 - r))` holds the low `a` bits of `v0` followed by
    the top `r` of the `avail1` bits of `v1` -/
theorem merge_bits (v0 v1 : BitVec 64) (a r avail1 : Nat) (har : a + r = 64) (hr : r ≤ avail1)
    (h1 : v1.toNat < 2 ^ avail1) :
    natBits ((v0 <<< r) ||| (v1 >>> (avail1 - r))).toNat 64 =
      natBits v0.toNat a ++ (natBits v1.toNat avail1).take r := by
  have hy : v1.toNat / 2 ^ (avail1 - r) < 2 ^ r := by
    apply Nat.div_lt_of_lt_mul
    rw [← Nat.pow_add]
    have : avail1 - r + r = avail1 := by omega
    rw [this]; exact h1
  have h64 : 2 ^ 64 = 2 ^ a * 2 ^ r := by rw [← Nat.pow_add, har]
  rw [BitVec.toNat_or, BitVec.toNat_shiftLeft, BitVec.toNat_ushiftRight, Nat.shiftLeft_eq,
    Nat.shiftRight_eq_div_pow, h64, Nat.mul_mod_mul_right, Nat.mul_comm,
    ← Nat.two_pow_add_eq_or_of_lt hy, Nat.mul_comm]
  have hn := natBits_append (v0.toNat % 2 ^ a) (v1.toNat / 2 ^ (avail1 - r)) a r hy
  rw [har] at hn
  rw [hn, natBits_mod, natBits_take _ _ _ hr]

/-- what the word loops keep between rounds: the current word holds `64 - r` bits, or fewer once
    the remaining bytes are used up -/
def WordInv (r : Nat) (a : A) : Prop := a.avail + r ≤ 64 ∧ (a.avail + r = 64 ∨ a.rest = [])

theorem A.slowStep_stage (r : Nat) (l : ALp) (hc : l.st.closed = false) (hr1 : 1 ≤ r)
    (hw : WordInv r l.st) (h64 : 64 ≤ l.rem) :
    Stage l (A.slowStep r l) (fun l' => WordInv r l'.st ∧ l'.rem = l.rem - 64) := by
  have hlen := A.remaining_length l.st
  have hw1 := hw.1
  unfold A.slowStep
  by_cases hr : l.st.rest = []
  · rw [A.pull_nil l.st hc hr]
    refine Or.inl ⟨?_, _, rfl⟩
    unfold Short
    rw [hr] at hlen
    simp only [List.length_nil] at hlen
    omega
  · have har : l.st.avail + r = 64 := hw.2.resolve_right hr
    obtain ⟨p1, p2, p3, p4, p5, p6, p7, p8⟩ := A.pull_spec l.st hc hr
    rw [p1]
    simp only
    by_cases hlt : l.st.pull.2.avail < r
    · rw [if_pos hlt]
      exact Or.inl ⟨by unfold Short; omega, _, rfl⟩
    · rw [if_neg hlt]
      have hge : r ≤ l.st.pull.2.avail := Nat.le_of_not_lt hlt
      have hav1 : l.st.pull.2.avail ≤ 64 := by rw [p3]; omega
      obtain ⟨k1, k2⟩ := A.remaining_pull l.st hc hr 64 (by omega)
      have h64r : 64 - l.st.avail = r := by rw [← har, Nat.add_sub_cancel_left]
      rw [h64r] at k1 k2
      refine Or.inr ⟨_, 64, rfl, ⟨?_, ?_, rfl, h64, ?_, Nat.le_trans (Nat.sub_le _ _) hav1,
        p6, p8, by omega⟩, ⟨(Nat.sub_add_cancel hge).symm ▸ hav1, ?_⟩, rfl⟩
      · simp only
        rw [bytesBits_append, wordBytes_bits,
          merge_bits l.st.cur l.st.pull.2.cur l.st.avail r l.st.pull.2.avail har hge p4, k1]
        simp only [A.remaining]
        rw [List.take_append_of_le_length (by rw [wordBits, natBits_length]; exact hge)]
        rfl
      · simp only
        rw [(A.take_remaining l.st.pull.2 r hge).1, k2]
      · simp only [A.take, p5]; omega
      · simp only [A.take, p7]
        by_cases h8 : 8 ≤ l.st.rest.length
        · left; rw [Nat.sub_add_cancel hge, p3, Nat.min_eq_left h8]
        · right; exact List.drop_of_length_le (by omega)

theorem A.words_stage (r : Nat) (hr1 : 1 ≤ r) : ∀ (n : Nat) (l : ALp), AInv l.st →
    l.st.closed = false → WordInv r l.st → 64 * n ≤ l.rem →
    Stage l (A.words r n l) (fun _ => True) := by
  intro n
  induction n with
  | zero => intro l hi hc _ _; exact Stage.refl hi hc trivial
  | succ n ih =>
    intro l hi hc hw hrem
    simp only [A.words]
    exact (A.slowStep_stage r l hc hr1 hw (by omega)).bind fun l1 h1 hi1 hc1 =>
      ih l1 hi1 hc1 h1.1 (by omega)

/-- the last, partial byte of `ReadArray`: the `t.length < 8` bits read, zero padded -/
theorem lastByte_bits (v : BitVec 64) (t : Bits) (hl : t.length < 8) (hv : v.toNat = bitsNat t) :
    bytesBits [(v <<< (8 - t.length)).setWidth 8] = t ++ List.replicate (8 - t.length) false := by
  refine byte_bits _ _ (by rw [List.length_append, List.length_replicate]; omega) ?_
  have hlt := bitsNat_lt t
  have hb : bitsNat t * 2 ^ (8 - t.length) < 2 ^ 64 :=
    Nat.lt_of_lt_of_le (Nat.mul_lt_mul_of_pos_right hlt (Nat.two_pow_pos _))
      (by rw [← Nat.pow_add]; exact Nat.pow_le_pow_right (by decide) (by omega))
  rw [BitVec.toNat_shiftLeft, Nat.shiftLeft_eq, hv, Nat.mod_eq_of_lt hb, bitsNat_append,
    bitsNat_replicate_false, List.length_replicate, Nat.add_zero]

/-- the stages before the last bits: fewer than 8 bits are wanted after them -/
theorem A.readArray_stages (l : ALp) (hi : AInv l.st) (hc : l.st.closed = false) (hpos : 0 < l.rem) :
    Stage l ((if l.st.avail % 8 = 0 then A.aligned l
        else A.words (64 - l.st.avail) (l.rem / 64) l).bind
          (fun l1 => A.tailBytes (l1.rem / 8 + 1) l1)) (fun l2 => l2.rem < 8) := by
  refine Stage.bind (P := fun _ => True) ?_ fun l1 _ hi1 hc1 =>
    A.tailBytes_stage _ l1 hi1 hc1 (by omega)
  by_cases h8 : l.st.avail % 8 = 0
  · rw [if_pos h8]
    unfold A.aligned
    exact ((A.alignedStart_stage l hi hc h8 hpos).bind fun lS hS hiS hcS =>
      A.emptyCur_stage _ lS hiS hcS hS (by omega)).bind fun lE hE hiE hcE =>
        A.bulk_stage lE hiE hcE hE
  · rw [if_neg h8]
    exact A.words_stage (64 - l.st.avail) (by omega) (l.rem / 64) l hi hc
      ⟨by omega, Or.inl (by omega)⟩ (by omega)

theorem A.readArray_spec (a : A) (hi : AInv a) (hc : a.closed = false) (k : Nat)
    (hen : k ≤ a.remaining.length) :
    ∃ out a', A.readArray a k = (.val out, a') ∧
      out.map BitVec.toNat = packBytes (a.remaining.take k) ∧
      a'.remaining = a.remaining.drop k ∧ a'.cnt = a.cnt + k ∧ AInv a' ∧ a'.closed = false ∧
      a'.ending = a.ending := by
  unfold A.readArray
  rw [if_neg (by rw [hc]; simp)]
  by_cases hk : k = 0
  · rw [if_pos hk, hk]
    exact ⟨[], a, rfl, by simp [packBytes_nil], by simp, by simp, hi, hc, rfl⟩
  · rw [if_neg hk]
    rcases A.readArray_stages ⟨a, [], k⟩ hi hc (by simp only; omega) with
      ⟨hs, _⟩ | ⟨l2, m, e, mv, c2⟩
    · exact absurd hs (by unfold Short; simp only; omega)
    have hen2 : l2.rem ≤ l2.st.remaining.length := by
      have := mv.short_iff (l' := l2)
      unfold Short at this
      simp only at this
      omega
    have hout : bytesBits l2.out = a.remaining.take m := by
      have := mv.out; simpa [bytesBits_nil] using this
    have hmk : m ≤ k := mv.le
    have hrem : l2.rem = k - m := mv.rem
    unfold A.readArrayBody
    rw [e]
    simp only [ALR.bind]
    unfold A.tailBits
    by_cases hr0 : l2.rem > 0
    · rw [if_pos hr0]
      obtain ⟨v, a', f1, f2, f3, f4, f5, f6, f7, _⟩ :=
        A.readBits_spec l2.st mv.inv mv.cl l2.rem (by omega) (by omega) hen2
      rw [f1]
      refine ⟨_, a', rfl, ?_, ?_, ?_, f5, f6, f7.trans mv.en⟩
      · have htl : (l2.st.remaining.take l2.rem).length = l2.rem := by
          rw [List.length_take]; omega
        have hlb := lastByte_bits v _ (by omega) f2
        rw [htl] at hlb
        refine (packBytes_of_padded _ (8 - l2.rem) _ (Nat.sub_lt (by decide) hr0) (bytes_lt _) ?_).symm
        show _ = bytesBits (l2.out ++ _)
        rw [bytesBits_append, hlb, hout, mv.rest, ← List.append_assoc, ← List.take_add, hrem,
          Nat.add_sub_of_le hmk]
      · rw [f3, mv.rest, List.drop_drop]; congr 1; omega
      · rw [f4, mv.cnt]; push_cast; omega
    · rw [if_neg hr0]
      have hkm : k = m := by omega
      refine ⟨_, _, rfl, ?_, ?_, ?_, mv.inv, mv.cl, mv.en⟩
      · rw [hkm, ← hout]
        exact (packBytes_of_padded _ 0 _ (by decide) (bytes_lt _) (List.append_nil _)).symm
      · rw [mv.rest, hkm]
      · rw [mv.cnt, hkm]

theorem A.readArray_short (a : A) (hi : AInv a) (hc : a.closed = false) (k : Nat)
    (hen : a.remaining.length < k) : (A.readArray a k).1 = .panic a.ending := by
  have hfin : ∀ r : ALR, Ends r a.ending →
      (match r with
        | .ok l => ((.val l.out : Res (List Byte)), l.st)
        | .panic e a' => (.panic e, a')).1 = .panic a.ending := by
    intro r hr; obtain ⟨x, hx⟩ := hr; rw [hx]
  unfold A.readArray
  rw [if_neg (by rw [hc]; simp), if_neg (by omega)]
  apply hfin
  unfold A.readArrayBody
  rcases A.readArray_stages ⟨a, [], k⟩ hi hc (by simp only; omega) with
    ⟨_, x, hx⟩ | ⟨l2, m, e, mv, c2⟩
  · rw [hx]; exact ⟨x, rfl⟩
  · rw [e]
    simp only [ALR.bind]
    unfold A.tailBits
    have s2 : l2.st.remaining.length < l2.rem := mv.short_iff.mpr hen
    rw [if_pos (by omega), A.readBits_eos l2.st mv.cl l2.rem (by omega) (by omega) s2, mv.en]
    exact ⟨_, rfl⟩

end Kanzi.IBS
