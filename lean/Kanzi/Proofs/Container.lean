/-
Frames of a compressed stream (`Kanzi.Model.Container`): a 5-bit field `a`, the payload length on
`a + 3` bits, the payload; the end marker is the frame header of length 0.  A framed stream parses
back to its payloads and the end mark whatever follows it (`parseFrames_stream`); every strict
prefix parses to some of the leading payloads followed by `truncated` (`parseFrames_prefix`).
-/
import Kanzi.Model.Container
import Kanzi.Proofs.Bits
namespace Kanzi.Container
open Kanzi.Bits

theorem lenWidth_ge (len : Nat) : 3 ≤ lenWidth len := by
  unfold lenWidth; split <;> omega

theorem lt_two_pow_lenWidth (len : Nat) : len < 2 ^ lenWidth len := by
  unfold lenWidth
  split
  · omega
  · have h1 : len / 8 < 2 ^ ((len / 8).log2 + 1) := Nat.lt_log2_self
    have h2 : 2 ^ ((len / 8).log2 + 4) = 8 * 2 ^ ((len / 8).log2 + 1) := by
      rw [show (len / 8).log2 + 4 = ((len / 8).log2 + 1) + 3 from rfl, Nat.pow_add]; omega
    omega

theorem lenWidth_le (len : Nat) (h : len < 2 ^ 34) : lenWidth len ≤ 34 := by
  unfold lenWidth
  split
  · omega
  · have hq : len / 8 ≠ 0 := by omega
    have : (len / 8).log2 < 31 := (Nat.log2_lt hq).2 (by omega)
    omega

theorem parseFrame_short (bs : Bits) (h : bs.length < 5) : parseFrame bs = .eos := by
  simp [parseFrame, h]

theorem parseFrame_short_len (a : Nat) (r1 : Bits) (ha : a < 32) (h : r1.length < a + 3) :
    parseFrame (natBits a 5 ++ r1) = .eos := by
  have hv : a % 2 ^ 5 = a := Nat.mod_eq_of_lt ha
  unfold parseFrame
  simp only [bitsNat_take_natBits, drop_natBits, hv]
  rw [if_neg (by simp), if_pos h]

theorem parseFrame_header (a len : Nat) (tail : Bits) (ha : a < 32) (hlen : len < 2 ^ (a + 3)) :
    parseFrame (natBits a 5 ++ natBits len (a + 3) ++ tail) =
      if len = 0 then .endMark tail
      else if len > 2 ^ 34 then .tooBig
      else if tail.length < len then .eos
      else .frame (tail.take len) (tail.drop len) := by
  rw [List.append_assoc]
  have hv : a % 2 ^ 5 = a := Nat.mod_eq_of_lt ha
  have hvl : len % 2 ^ (a + 3) = len := Nat.mod_eq_of_lt hlen
  unfold parseFrame
  simp only [bitsNat_take_natBits, drop_natBits, hv, hvl]
  rw [if_neg (by simp), if_neg (by simp)]

theorem parseFrame_take_header (a len k : Nat) (tail : Bits) (ha : a < 32) (hk : k < 5 + (a + 3)) :
    parseFrame ((natBits a 5 ++ natBits len (a + 3) ++ tail).take k) = .eos := by
  by_cases h5 : k < 5
  · apply parseFrame_short
    simp only [List.length_take]; omega
  · rw [List.append_assoc, List.take_append, List.take_of_length_le (by simp; omega)]
    apply parseFrame_short_len _ _ ha
    simp only [List.length_take, natBits_length]; omega

theorem frameBits_eq (p : Bits) :
    frameBits p =
      natBits (lenWidth p.length - 3) 5 ++ natBits p.length ((lenWidth p.length - 3) + 3) ++ p := by
  have := lenWidth_ge p.length
  rw [Nat.sub_add_cancel this]; rfl

theorem frameBits_length (p : Bits) : (frameBits p).length = 5 + lenWidth p.length + p.length := by
  simp [frameBits]; omega

theorem endMarker_eq : endMarker = natBits 0 5 ++ natBits 0 (0 + 3) ++ [] := by
  simp [endMarker]

theorem endMarker_length : endMarker.length = 8 := by
  simp [endMarker]

theorem parseFrame_frameBits (p rest : Bits) (h0 : 0 < p.length) (hmax : p.length < 2 ^ 34) :
    parseFrame (frameBits p ++ rest) = Parsed.frame p rest := by
  have hge := lenWidth_ge p.length
  have hle := lenWidth_le p.length hmax
  have hlt := lt_two_pow_lenWidth p.length
  rw [frameBits_eq, List.append_assoc _ p rest,
    parseFrame_header _ _ _ (by omega) (by rw [Nat.sub_add_cancel hge]; exact hlt)]
  rw [if_neg (by omega), if_neg (by omega), if_neg (by simp)]
  simp

theorem parseFrame_endMarker (rest : Bits) : parseFrame (endMarker ++ rest) = Parsed.endMark rest := by
  rw [endMarker_eq, List.append_nil, parseFrame_header 0 0 rest (by omega) (by omega)]
  simp

theorem parseFrame_take_frameBits (p : Bits) (k : Nat) (h0 : 0 < p.length) (hmax : p.length < 2 ^ 34)
    (hk : k < (frameBits p).length) : parseFrame ((frameBits p).take k) = .eos := by
  have hge := lenWidth_ge p.length
  have hle := lenWidth_le p.length hmax
  have hlt := lt_two_pow_lenWidth p.length
  rw [frameBits_length] at hk
  rw [frameBits_eq]
  by_cases hh : k < 5 + (lenWidth p.length - 3 + 3)
  · exact parseFrame_take_header _ _ _ _ (by omega) hh
  · rw [List.take_append, List.take_of_length_le (by simp; omega),
      parseFrame_header _ _ _ (by omega) (by rw [Nat.sub_add_cancel hge]; exact hlt)]
    rw [if_neg (by omega), if_neg (by omega), if_pos]
    simp only [List.length_take, List.length_append, natBits_length]; omega

theorem parseFrame_take_endMarker (k : Nat) (hk : k < 8) : parseFrame (endMarker.take k) = .eos := by
  rw [endMarker_eq]
  exact parseFrame_take_header 0 0 k [] (by omega) (by omega)

theorem parseFrames_stream (payloads : List Bits) (pad : Bits)
    (h : ∀ p ∈ payloads, 0 < p.length ∧ p.length < 2 ^ 34) :
    parseFrames (payloads.length + 1) (payloads.flatMap frameBits ++ endMarker ++ pad) =
      payloads.map Item.payload ++ [Item.endMark] := by
  induction payloads with
  | nil => simp [parseFrames, parseFrame_endMarker]
  | cons p ps ih =>
    have hp := h p (by simp)
    have ih' := ih (fun q hq => h q (by simp [hq]))
    simp only [List.flatMap_cons, List.length_cons, List.map_cons, List.cons_append,
      List.append_assoc] at ih' ⊢
    rw [parseFrames, parseFrame_frameBits p _ hp.1 hp.2]
    simp only [ih']

theorem parseFrames_prefix (payloads : List Bits) (k : Nat)
    (h : ∀ p ∈ payloads, 0 < p.length ∧ p.length < 2 ^ 34)
    (hk : k < (payloads.flatMap frameBits ++ endMarker).length) :
    ∃ m, m ≤ payloads.length ∧
      parseFrames (payloads.length + 1) ((payloads.flatMap frameBits ++ endMarker).take k) =
        (payloads.take m).map Item.payload ++ [Item.truncated] := by
  induction payloads generalizing k with
  | nil =>
    refine ⟨0, Nat.le_refl _, ?_⟩
    simp only [List.flatMap_nil, List.nil_append, endMarker_length] at hk ⊢
    simp [parseFrames, parseFrame_take_endMarker k hk]
  | cons p ps ih =>
    have hp := h p (by simp)
    simp only [List.flatMap_cons, List.length_cons, List.append_assoc, List.length_append] at hk ⊢
    by_cases hc : k < (frameBits p).length
    · refine ⟨0, Nat.zero_le _, ?_⟩
      rw [List.take_append, show k - (frameBits p).length = 0 by omega, List.take_zero,
        List.append_nil, parseFrames, parseFrame_take_frameBits p k hp.1 hp.2 hc]
      simp
    · obtain ⟨m, hm, hpm⟩ := ih (k - (frameBits p).length) (fun q hq => h q (by simp [hq]))
        (by simp only [List.length_append]; omega)
      refine ⟨m + 1, by omega, ?_⟩
      rw [List.take_append, List.take_of_length_le (by omega), parseFrames,
        parseFrame_frameBits p _ hp.1 hp.2]
      simp only [hpm, List.take_succ_cons, List.map_cons, List.cons_append]

end Kanzi.Container
