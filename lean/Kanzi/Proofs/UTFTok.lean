/-
The UTF codec, the token view of a block.  Both loops of Forward walk the same sequence of packed code
points; `Toks src endI i ts iEnd` says that starting at `i` the walk visits the tokens `ts` (pairs
`(size, packed value)`), each accepted by the checks of the counting loop, and stops at `iEnd` (the first
position `≥ endI`).  The counting loop never faults (the packed values index `aliasMap`, the symbol table
is never written beyond entry 32767, one unit of fuel per token suffices); it succeeds only on such a walk
and its result is a list fold (`cstep`) over the packed values: `aliasMap[v]` = multiplicity of `v`,
`symb` = the distinct values, each once.
-/
import Kanzi.Proofs.UTFPack

namespace Kanzi.UTF
open Kanzi.RLT

/-! ## array reads -/

theorem getElem?_eq_getD (a : Array Nat) (i : Nat) (h : i < a.size) : a[i]? = some (a.getD i 0) := by
  simp [Array.getD, h]

theorem getD_lt_of_all (a : Array Nat) (hb : ∀ x ∈ a.toList, x < 256) (i : Nat) : a.getD i 0 < 256 := by
  by_cases h : i < a.size
  · have : a.getD i 0 = a[i] := by simp [Array.getD, h]
    rw [this]; exact hb _ (by simp)
  · simp [Array.getD, h]

theorem getD_modify (a : Array Nat) (i j : Nat) (f : Nat → Nat) :
    (a.modify i f).getD j 0 = if i = j ∧ i < a.size then f (a.getD i 0) else a.getD j 0 := by
  rw [Array.getD_eq_getD_getElem?, Array.getD_eq_getD_getElem?, Array.getD_eq_getD_getElem?, Array.getElem?_modify]
  by_cases hij : i = j
  · subst hij
    by_cases hi : i < a.size
    · simp [hi]
    · simp [hi]
  · simp [hij]

theorem getD_replicate_zero (n i : Nat) : (Array.replicate n 0).getD i 0 = 0 := by
  rw [Array.getD_eq_getD_getElem?, Array.getElem?_replicate]; split <;> rfl

/-! ## tokens -/

/-- `packUTF` at position `i` (when four bytes are available) -/
def tokAt (src : Array Nat) (i : Nat) : Nat × Nat :=
  packVal (src.getD i 0) (src.getD (i + 1) 0) (src.getD (i + 2) 0) (src.getD (i + 3) 0)

theorem pack_eq (src : Array Nat) (i : Nat) (h : i + 4 ≤ src.size) : pack src i = .ok (tokAt src i) := by
  unfold pack
  rw [getElem?_eq_getD src i (by omega)]
  have := utfSize_le (src.getD i 0)
  simp only []
  rw [if_pos (by omega)]
  rfl

theorem tokAt_fst (src : Array Nat) (i : Nat) : (tokAt src i).1 = utfSize (src.getD i 0) := packVal_fst _ _ _ _

theorem tokAt_snd_lt (src : Array Nat) (hb : ∀ x ∈ src.toList, x < 256) (i : Nat) : (tokAt src i).2 < 4194304 :=
  packVal_lt _ _ _ _ (getD_lt_of_all src hb _)

theorem seqOk_iff (src : Array Nat) (hb : ∀ x ∈ src.toList, x < 256) (i : Nat) :
    seqOk src i (tokAt src i).1 = true ↔
      seqValid (src.getD i 0) (src.getD (i + 1) 0) (src.getD (i + 2) 0) (src.getD (i + 3) 0) := by
  have h1 := getD_lt_of_all src hb (i + 1)
  have h2 := getD_lt_of_all src hb (i + 2)
  have h3 := getD_lt_of_all src hb (i + 3)
  rw [tokAt_fst]
  unfold seqOk seqValid
  simp only [Bool.and_eq_true, Bool.or_eq_true, decide_eq_true_eq, beq_iff_eq, ne_eq]
  rw [andC0_iff _ h1, andC0_iff _ h2, andC0C0_iff _ _ h2 h3]
  have := utfSize_le (src.getD i 0)
  -- both sides now speak of the size (at most 4) and the same three continuation tests
  grind

theorem unpack1_tokAt (src : Array Nat) (hb : ∀ x ∈ src.toList, x < 256) (i : Nat)
    (hok : seqOk src i (tokAt src i).1 = true) :
    unpack1 (tokAt src i).2 =
      List.take (tokAt src i).1 [src.getD i 0, src.getD (i + 1) 0, src.getD (i + 2) 0, src.getD (i + 3) 0] := by
  have hv := (seqOk_iff src hb i).mp hok
  unfold tokAt
  exact unpack1_packVal_valid _ _ _ _ (getD_lt_of_all src hb i) (getD_lt_of_all src hb (i + 1)) hv

/-- the walk of the two Forward loops from `i`: tokens `ts`, final position `iEnd` -/
inductive Toks (src : Array Nat) (endI : Nat) : Nat → List (Nat × Nat) → Nat → Prop
  | nil (i : Nat) : ¬ i < endI → Toks src endI i [] i
  | cons (i : Nat) (ts : List (Nat × Nat)) (iEnd : Nat) : i < endI → seqOk src i (tokAt src i).1 = true →
      Toks src endI (i + (tokAt src i).1) ts iEnd → Toks src endI i (tokAt src i :: ts) iEnd

theorem seqOk_pos (src : Array Nat) (i s : Nat) (h : seqOk src i s = true) : 0 < s := by
  unfold seqOk at h
  simp only [Bool.and_eq_true, decide_eq_true_eq, ne_eq] at h
  omega

theorem Toks.bounds {src : Array Nat} {endI i iEnd : Nat} {ts : List (Nat × Nat)} (h : Toks src endI i ts iEnd) :
    i ≤ iEnd ∧ endI ≤ iEnd ∧ iEnd ≤ max i (endI + 3) := by
  induction h with
  | nil i hi => omega
  | cons i ts iEnd hi hok _ ih =>
    have := seqOk_pos _ _ _ hok
    have : (tokAt src i).1 ≤ 4 := by rw [tokAt_fst]; exact utfSize_le _
    omega

/-- the bytes of the tokens are the bytes of the block between `i` and `iEnd`, and `unpack1` restores them -/
theorem Toks.bytes {src : Array Nat} {endI i iEnd : Nat} {ts : List (Nat × Nat)} (h : Toks src endI i ts iEnd)
    (hb : ∀ x ∈ src.toList, x < 256) (hsz : endI + 4 ≤ src.size) :
    ts.flatMap (fun t => unpack1 t.2) = (src.toList.drop i).take (iEnd - i) := by
  induction h with
  | nil i hi => simp
  | cons i ts iEnd hi hok hrest ih =>
    have hpos := seqOk_pos _ _ _ hok
    have hle : (tokAt src i).1 ≤ 4 := by rw [tokAt_fst]; exact utfSize_le _
    have hbd := hrest.bounds
    rw [List.flatMap_cons, ih]
    rw [unpack1_tokAt src hb i hok]
    have e0 : src.toList.drop i = src.getD i 0 :: src.getD (i + 1) 0 :: src.getD (i + 2) 0 :: src.getD (i + 3) 0 ::
        src.toList.drop (i + 4) := by
      have g : ∀ k (hk : k < src.toList.length), src.toList[k] = src.getD k 0 := by
        intro k hk; simp at hk; simp [Array.getD, hk]
      rw [List.drop_eq_getElem_cons (by simp; omega), List.drop_eq_getElem_cons (by simp; omega),
        List.drop_eq_getElem_cons (by simp; omega), List.drop_eq_getElem_cons (by simp; omega),
        g i, g (i + 1), g (i + 2), g (i + 3)]
    have e1 : src.toList.drop (i + (tokAt src i).1) = (src.toList.drop i).drop (tokAt src i).1 := by
      rw [List.drop_drop]
    rw [e1, e0]
    generalize (tokAt src i).1 = s at *
    -- the first `s ≤ 4` bytes, then the rest: `take s l ++ take k (drop s l) = take (s + k) l`
    rw [show iEnd - i = s + (iEnd - (i + s)) by omega, List.take_add,
      show src.getD i 0 :: src.getD (i + 1) 0 :: src.getD (i + 2) 0 :: src.getD (i + 3) 0 :: src.toList.drop (i + 4) =
        [src.getD i 0, src.getD (i + 1) 0, src.getD (i + 2) 0, src.getD (i + 3) 0] ++ src.toList.drop (i + 4) from rfl,
      List.take_append_of_le_length (by simpa using hle)]

theorem Toks.all {src : Array Nat} {endI i iEnd : Nat} {ts : List (Nat × Nat)} (h : Toks src endI i ts iEnd)
    (hb : ∀ x ∈ src.toList, x < 256) :
    ∀ t ∈ ts, t.2 < 4194304 ∧ 0 < t.1 ∧ (unpack1 t.2).length = t.1 := by
  induction h with
  | nil i hi => simp
  | cons i ts iEnd hi hok hrest ih =>
    intro t ht
    rcases List.mem_cons.mp ht with h | ht
    · rw [h]
      refine ⟨tokAt_snd_lt src hb i, seqOk_pos _ _ _ hok, ?_⟩
      rw [unpack1_tokAt src hb i hok, List.length_take]
      have hle : (tokAt src i).1 ≤ 4 := by rw [tokAt_fst]; exact utfSize_le _
      simp; omega
    · exact ih t ht

/-! ## the counting loop -/

/-- one iteration of the counting loop on the packed value `v` -/
def cstep (st : Array Nat × Array Nat) (v : Nat) : Array Nat × Array Nat :=
  (st.1.modify v (· + 1), if st.1.getD v 0 = 0 then st.2.push v else st.2)

theorem cfold_size (vals : List Nat) : ∀ (st : Array Nat × Array Nat), (vals.foldl cstep st).1.size = st.1.size := by
  induction vals with
  | nil => intro st; rfl
  | cons v tl ih => intro st; rw [List.foldl_cons, ih]; simp [cstep]

/-- the counting loop: a decline, or the fold over a token walk; never a fault -/
theorem countLoop_spec (src : Array Nat) (endI : Nat) (hb : ∀ x ∈ src.toList, x < 256) (hsz : endI + 4 ≤ src.size) :
    ∀ (f i : Nat) (am symb : Array Nat), endI ≤ i + f → am.size = 4194304 → symb.size < MAX_SYMBOLS →
      Out.Sat [] (fun c => ∃ ts iEnd, Toks src endI i ts iEnd ∧ c = (ts.map (·.2)).foldl cstep (am, symb) ∧
          ((ts.map (·.2)).foldl cstep (am, symb)).2.size < MAX_SYMBOLS)
        (countLoop src endI f i am symb) := by
  intro f
  induction f with
  | zero =>
    intro i am symb hf _ hs
    unfold countLoop
    rw [if_neg (by omega)]
    exact ⟨[], i, Toks.nil i (by omega), rfl, hs⟩
  | succ f ih =>
    intro i am symb hf ham hs
    unfold countLoop
    refine ite_of (fun hi => ?_) fun hi => ⟨[], i, Toks.nil i hi, rfl, hs⟩
    rw [pack_eq src i (by omega), Out.bind_ok]
    have hv := tokAt_snd_lt src hb i
    rw [if_neg (by omega)]
    dsimp only
    rw [if_neg (by omega)]
    -- the new symbol table is the one `cstep` computes
    generalize hsy : (if am.getD (tokAt src i).2 0 = 0 then symb.push (tokAt src i).2 else symb) = symb'
    -- with the value of `seqOk` a variable, unfolding the goal stops at this guard (it would evaluate the size table)
    generalize hq : seqOk src i (tokAt src i).1 = q
    refine ite_of (fun hok => ?_) fun _ => trivial
    have hseq : seqOk src i (tokAt src i).1 = true := hq.trans hok.1
    have hpos := seqOk_pos _ _ _ hseq
    have hs1 : symb'.size < MAX_SYMBOLS := by
      by_cases hnew : am.getD (tokAt src i).2 0 = 0
      · exact hok.2 hnew
      · rw [← hsy, if_neg hnew]
        exact hs
    subst hsy
    exact (ih (i + (tokAt src i).1) (am.modify (tokAt src i).2 (· + 1)) _ (by omega)
      (Array.size_modify.trans ham) hs1).mono fun c ⟨ts, iEnd, ht, hc, hs'⟩ =>
        ⟨tokAt src i :: ts, iEnd, Toks.cons i ts iEnd hi hseq ht, hc, hs'⟩

/-! ## the fold: multiplicities and distinct values -/

/-- invariant of the counting fold after the values `seen` -/
structure CInv (seen : List Nat) (st : Array Nat × Array Nat) : Prop where
  size : st.1.size = 4194304
  cnt : ∀ v, v < 4194304 → st.1.getD v 0 = seen.count v
  nodup : st.2.toList.Nodup
  mem : ∀ v, v ∈ st.2.toList ↔ v ∈ seen

theorem CInv.step {seen : List Nat} {st : Array Nat × Array Nat} (h : CInv seen st) (v : Nat) (hv : v < 4194304) :
    CInv (seen ++ [v]) (cstep st v) := by
  constructor
  · simp [cstep, h.size]
  · intro w hw
    simp only [cstep, getD_modify, List.count_append, List.count_cons, List.count_nil]
    by_cases hvw : v = w
    · subst hvw; simp [h.size, hv, h.cnt v hv]
    · simp [hvw, h.cnt w hw]
  · simp only [cstep]
    by_cases h0 : st.1.getD v 0 = 0
    · rw [if_pos h0, Array.toList_push]
      rw [h.cnt v hv] at h0
      have hnm : v ∉ st.2.toList := by rw [h.mem]; exact List.count_eq_zero.mp h0
      rw [List.nodup_append]
      refine ⟨h.nodup, by simp, ?_⟩
      intro a ha b hb'
      simp at hb'; subst hb'
      intro hab; subst hab; exact hnm ha
    · rw [if_neg h0]; exact h.nodup
  · intro w
    simp only [cstep]
    by_cases h0 : st.1.getD v 0 = 0
    · rw [if_pos h0, Array.toList_push]; simp [h.mem]
    · rw [if_neg h0, h.mem]
      rw [h.cnt v hv] at h0
      have : v ∈ seen := List.count_pos_iff.mp (by omega)
      simp only [List.mem_append, List.mem_singleton]
      constructor
      · exact Or.inl
      · rintro (hw | hw)
        · exact hw
        · rw [hw]; exact this

theorem CInv.fold (vals : List Nat) : ∀ (seen : List Nat) (st : Array Nat × Array Nat), CInv seen st →
    (∀ v ∈ vals, v < 4194304) → CInv (seen ++ vals) (vals.foldl cstep st) := by
  induction vals with
  | nil => intro seen st h _; simpa using h
  | cons v tl ih =>
    intro seen st h hv
    rw [List.foldl_cons]
    have := ih (seen ++ [v]) (cstep st v) (h.step v (hv v (by simp))) (fun w hw => hv w (by simp [hw]))
    simpa using this

theorem CInv.init : CInv [] (Array.replicate ALIAS_MAP_SIZE 0, #[]) := by
  constructor
  · simp [ALIAS_MAP_SIZE]
  · intro v _; rw [getD_replicate_zero]; rfl
  · simp
  · simp

end Kanzi.UTF
