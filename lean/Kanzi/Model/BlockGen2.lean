/-
Generic block codec, second instalment: the transforms RLT, SRT, PACK / DNA (alias codec), LZ / LZX, LZP,
MM (FSD) and the entropy codecs ANS1, RANGE, HUFFMAN, FPAQ, CM plugged into the
model of `encodingTask.encode` / `decodingTask.decode` of `Kanzi/Model/BlockGen.lean`.  Core Lean only.

What is new with respect to `BlockGen.lean` (which is exact for NONE / ZRLT / MTFT / RANK):

  * DESTINATION SIZES OF THE FORWARD PASS.  They are those of the Go code:
    `ByteTransformSequence.Forward(data[0:blockLength], buffer)` runs the stage reached after an EVEN number
    of swaps into `buffer` = `oBuffer.Buf` (`len ≥ requiredSize`, exactly what an earlier, bigger block of
    the same task left there), and the stage reached after an ODD number of swaps into
    `data[0:blockLength]` re-sliced to exactly `requiredSize` (`cap(data) ≥ requiredSize` is ensured by
    `encode`).  `obuf` = `len(this.oBuffer.Buf)` on entry of `encode` is a parameter of the encoder, and
    `nextObuf` is its value on exit; the stream image threads it per task (task = block index mod jobs).
    This mattered: until fix F44 (/repo af780d6) `RLT.Forward` bounded its output by `len(dst)`, so the
    stream depended on the job count (finding of this slice, reproduced byte for byte by this model).
    Now RLT uses `MaxEncodedLen`, and no modelled transform looks at `len(dst)` beyond its own
    `len(dst) ≥ MaxEncodedLen` test except on paths that fault; the model keeps the real sizes (no
    independence lemma is needed: every theorem holds for every `obuf`).  `MaxEncodedLen` of RLT is not
    monotone (544 for 512 bytes, 513 for 513): after a shrinking stage the destination of the sequence
    can be too small for RLT, which then declines ("output buffer is too small") — modelled as is.
  * THE DATA TYPE HINT.  `encode` sets `ctx["dataType"]` from the magic number of the block (DT_BIN,
    DT_MULTIMEDIA, DT_EXE, or nothing); RLT, PACK/DNA and MM read it and write their own detection back,
    LZ/LZX only read it.  The ctx is a fresh copy for every block.  `seqFwdGo2` threads the value through
    the stages (`0` = DT_UNDEFINED = no entry; a stored DT_UNDEFINED is indistinguishable from no entry
    for every reader).  `transform.newToken` stores `packOnlyDNA = true` in the same ctx for a DNA token
    and nothing resets it: a PACK token AFTER a DNA token of the same chain is built as DNA
    (`kindsOfTokens`).  RLT reads `ctx["entropy"]`: `fast` = the stream's entropy codec is NONE / ANS0 /
    HUFFMAN / RANGE.
  * A Go panic inside a Forward or an Inverse (`.fault` of the transform models) is mapped to `.error`:
    for Forward this is unfaithful (the panic would fail the block instead of skipping the stage) but
    proved unreachable (`Kanzi.BlockGen2.kind_no_fault`: no Forward faults into a destination of at least
    `MaxEncodedLen` bytes); for Inverse both end in ERR_PROCESS_BLOCK.

The decoder is `BlockGen.decodeTaskGen` itself (it only uses `inv`, `maxLen` and `dec`).
-/
import Kanzi.Model.BlockGen
import Kanzi.Model.Seq2
import Kanzi.Model.RLT
import Kanzi.Model.SRT
import Kanzi.Model.Alias
import Kanzi.Model.LZ
import Kanzi.Model.LZP
import Kanzi.Model.FSD
import Kanzi.Model.Ans1
import Kanzi.Model.Range
import Kanzi.Model.Huffman
import Kanzi.Model.Fpaq
import Kanzi.Model.CM

namespace Kanzi.BlockGen2
open Kanzi.Bits Kanzi.TrSmall Kanzi.Block Kanzi.BlockGen

/-! ### result conversions -/

def ofRlt : RLT.Res → Res
  | .ok t => .ok t
  | .err e => .error e
  | .fault e => .error ("fault:" ++ e)

def ofSrt : SRT.Res → Res
  | .ok t => .ok t
  | .err => .error "err"
  | .fault => .error "fault"

def ofLz : LZ.Res → Res
  | .ok t => .ok t.toList
  | .err e => .error e
  | .fault e => .error ("fault:" ++ e)

def ofLzp : LZP.Res → Res
  | .ok t => .ok t
  | .err e => .error e
  | .fault k _ _ => .error ("fault:" ++ k)

/-! ### the modelled transforms -/

/-- one entry of a `ByteTransformSequence` as `transform.newToken` builds it -/
inductive Kind where
  | none
  | zrlt
  | sbrt (mode : Nat)          -- MTFT = 1, RANK = 2
  | rlt (fast : Bool)          -- `fast`: ctx["entropy"] is NONE / ANS0 / HUFFMAN / RANGE
  | srt
  | alias (onlyDNA : Bool)     -- PACK = false, DNA = true
  | lz (extra : Bool)          -- LZ = false, LZX = true
  | lzp
  | fsd                        -- MM
deriving DecidableEq, Repr

def Kind.tr : Kind → Tr2
  | .none => ⟨fun _ x d => nullForward x d, fun _ _ _ => Option.none, nullInverse, nullMaxEncodedLen⟩
  | .zrlt => ⟨fun _ x d => zrltForward x d, fun _ _ _ => Option.none, zrltInverse, zrltMaxEncodedLen⟩
  | .sbrt m => ⟨fun _ x d => sbrtForward m x d, fun _ _ _ => Option.none, sbrtInverse m, sbrtMaxEncodedLen⟩
  | .rlt fast =>
    ⟨fun dt x d => ofRlt (RLT.rltForward dt fast x d), fun dt x d => RLT.rltCtxWrite dt fast x d,
     fun y n => ofRlt (RLT.rltInverse y n), RLT.rltMaxEncodedLen⟩
  | .srt =>
    ⟨fun _ x d => ofSrt (SRT.srtForward x d), fun _ _ _ => Option.none,
     fun y n => ofSrt (SRT.srtInverse y n), SRT.maxEncodedLen⟩
  | .alias o =>
    ⟨fun dt x d => ofRlt (Alias.aliasForward o dt x d), fun dt x d => Alias.aliasCtxWrite o dt x d,
     fun y n => ofRlt (Alias.aliasInverse y n), Alias.aliasMaxEncodedLen⟩
  | .lz extra =>
    ⟨fun dt x d => ofLz (LZ.lzForward extra dt x.toArray d), fun _ _ _ => Option.none,
     fun y n => ofLz (LZ.lzInverse y.toArray (Array.replicate n 0)), LZ.maxEncodedLen⟩
  | .lzp =>
    ⟨fun _ x d => ofLzp (LZP.lzpForward x d), fun _ _ _ => Option.none,
     fun y n => ofLzp (LZP.lzpInverse false y n), LZP.lzpMaxEncodedLen⟩
  | .fsd =>
    ⟨fun dt x d => ofRlt (FSD.fsdForward dt x d), fun dt x d => FSD.fsdCtxWrite dt x d,
     fun y n => ofRlt (FSD.fsdInverse y n), FSD.fsdMaxEncodedLen⟩

def kindTrs (ks : List Kind) : List Tr2 := ks.map Kind.tr

/-! ### `ctx["dataType"]` as `encode` sets it -/

/-- Go: `internal.IsDataMultimedia` -/
def isDataMultimedia (magic : Nat) : Bool :=
  [0xFFD8FFE0, 0x47494638, 0x89504E47, 0x52494646, 0x664C6143, 0x494433, 0x424D, 0x5034, 0x5035,
   0x5036].contains magic

/-- Go: `internal.IsDataExecutable` -/
def isDataExecutable (magic : Nat) : Bool :=
  [0x7F454C46, 0x4D5A, 0xFEEDFACE, 0xCEFAEDFE, 0xFEEDFACF, 0xCFFAEDFE].contains magic

/-- Go: the entry `encode` stores before `Forward` (the task ctx is a fresh copy of the Writer's, which
has no such entry); `GetMagicType` looks at the first four bytes of the BUFFER, which are the block's
for every block that is not a copy block (more than 15 bytes) -/
def initDt (data : List Nat) : Nat :=
  if isDataCompressed (magicType data) then 7
  else if isDataMultimedia (magicType data) then 2
  else if isDataExecutable (magicType data) then 3
  else 0

/-! ### entropy codecs as the factory builds them -/

/-- `NewANSRangeEncoderWithCtx(obs, &ctx, 1)`: chunks of `16384 << 8` bytes, log range `max(12 - 1, 8)`
(`Ans1.mkParams 16384 12`); a new decoder object for every block -/
def ans1Chunk : Nat := 4194304
def ans1LogRange : Nat := 11
def ans1Ent : Ent :=
  ⟨fun b => Ans1.ans1Encode b ans1Chunk ans1LogRange,
   fun n bs => Ans1.ans1Decode bs n ans1Chunk Ans1.freshTables⟩

/-- `NewRangeEncoderWithCtx(obs, &ctx)`: `_DEFAULT_RANGE_CHUNK_SIZE`, `_DEFAULT_RANGE_LOG_RANGE` -/
def rangeEnt : Ent :=
  ⟨fun b => Range.encode b Range.defaultChunkSize Range.defaultLogRange,
   fun n bs => Range.decode bs n Range.defaultChunkSize⟩

/-- `NewHuffmanEncoder(obs)` / `NewHuffmanDecoderWithCtx` (bitstream version 6): `_HUF_MAX_CHUNK_SIZE`;
the decoder's buffer is new (zeroed) for every block -/
def hufChunk : Nat := 16384
def hufEnt : Ent :=
  ⟨fun b => Huffman.encode b hufChunk, fun n bs => Huffman.decode bs n hufChunk []⟩

/-- `NewFPAQEncoderWithCtx` / `NewFPAQDecoderWithCtx`: chunks of `_FPAQ_DEFAULT_CHUNK_SIZE` = 4 MiB -/
def fpaqEnt : Ent :=
  ⟨fun b => match Fpaq.fpaqEncode Fpaq.DEFAULT_CHUNK b with
            | .ok o => some o
            | .error _ => Option.none,
   fun n bs => match Fpaq.fpaqDecode Fpaq.DEFAULT_CHUNK bs n with
               | .ok r => some r
               | .error _ => Option.none⟩

/-- `NewBinaryEntropyEncoder/Decoder` with a new `CMPredictor` (bitstream version 6: not the version 3
tables), chunks of `_BINARY_ENTROPY_MAX_CHUNK` -/
def cmPred : BinEnt.Pred CM.CM := BinEnt.Pred.ofImpure CM.cmGet CM.cmUpdate
def cmEnt : Ent :=
  ⟨fun b => match BinEnt.encodeBlock cmPred BinEnt.MAX_CHUNK (CM.cmInit false) b with
            | .ok o => some o
            | .error _ => Option.none,
   fun n bs => match BinEnt.decodeBlock cmPred BinEnt.MAX_CHUNK (CM.cmInit false) bs n with
               | .ok r => some r
               | .error _ => Option.none⟩

/-! ### encoder -/

structure Cfg2 where
  ck : Nat
  trs : List Tr2
  ent : Ent
  skipBlocks : Bool
  /-- `ctx["blockSize"]` when it is a `uint` (see `BlockGen.Cfg.bs`) -/
  bs : Option Nat

/-- the configuration seen by the decoder -/
def Cfg2.toCfg (c : Cfg2) : Cfg := ⟨c.ck, trsOf c.trs, c.ent, c.skipBlocks, c.bs⟩

/-- Go: `if len(this.oBuffer.Buf) < requiredSize { buffer = make([]byte, requiredSize) … }` -/
def growTo (obuf req : Nat) : Nat := if obuf < req then req else obuf

/-- output and skip flags of `t.Forward(data[0:blockLength], buffer)` in `encode` -/
def forwardOf (trs : List Tr2) (obuf : Nat) (data : List Nat) : List Nat × Nat :=
  seqForward2 trs (seqMaxLen (trsOf trs) data.length) (growTo obuf (seqMaxLen (trsOf trs) data.length))
    (initDt data) data

/-- the block handed to the entropy coder (not a copy block) and the skip flags written, after the bound of
fix F43 on the post-transform length (`BlockGen.fallback`; `lim` = `ctx["blockSize"]`) -/
def postOf (trs : List Tr2) (lim : Option Nat) (obuf : Nat) (data : List Nat) : List Nat × Nat :=
  fallback lim (seqMaxLen (trsOf trs) data.length) data (forwardOf trs obuf data)

def postBlock (trs : List Tr2) (lim : Option Nat) (obuf : Nat) (data : List Nat) : List Nat :=
  (postOf trs lim obuf data).1

/-- the payload of a block that is not a copy block; `obuf` = `len(oBuffer.Buf)` on entry -/
def encodeWith2 (trs : List Tr2) (ent : Ent) (ckw sum : Nat) (lim : Option Nat) (obuf : Nat) (data : List Nat) :
    Except EncErr Bits :=
  encodeOf false trs.length ent ckw sum (postOf trs lim obuf data)

/-- Go: `encodingTask.encode` from "Compute block checksum" to `obs.Close()` -/
def encodeTaskGen2 (c : Cfg2) (obuf : Nat) (data : List Nat) : Except EncErr Bits :=
  if isCopy c.toCfg data then encodeWith true [nullTr] noneEnt (ckWidth c.ck) (checksum c.ck data) c.bs data
  else encodeWith2 c.trs c.ent (ckWidth c.ck) (checksum c.ck data) c.bs obuf data

/-- `len(oBuffer.Buf)` when `encode` returns (a copy block uses the NONE sequence: `requiredSize` is the
block length) -/
def nextObuf (c : Cfg2) (obuf : Nat) (data : List Nat) : Nat :=
  if isCopy c.toCfg data then growTo obuf data.length
  else growTo obuf (seqMaxLen (trsOf c.trs) data.length)

/-- Go: `decodingTask.decode` -/
def decodeTaskGen2 (c : Cfg2) (B : Nat) (payload : Bits) : BlockGen.DecRes := decodeTaskGen c.toCfg B payload

/-! ### the sequence and the codec announced by a header -/

/-- Go: `transform.newToken`; `dna` = `ctx["packOnlyDNA"]` is set (by an earlier DNA token of the chain) -/
def tokenKind (fast dna : Bool) (t : Nat) : Option Kind :=
  if t = 0 then some .none
  else if t = 3 then some (.lz false)
  else if t = 5 then some (.rlt fast)
  else if t = 6 then some .zrlt
  else if t = 7 then some (.sbrt 1)
  else if t = 8 then some (.sbrt 2)
  else if t = 13 then some .srt
  else if t = 14 then some .lzp
  else if t = 15 then some .fsd
  else if t = 16 then some (.lz true)
  else if t = 18 then some (.alias dna)
  else if t = 19 then some (.alias true)
  else Option.none

def kindsOfTokens (fast : Bool) : List Nat → Bool → Option (List Kind)
  | [], _ => some []
  | t :: ts, dna =>
    match tokenKind fast dna t, kindsOfTokens fast ts (dna || t == 19) with
    | some k, some ks => some (k :: ks)
    | _, _ => Option.none

/-- Go: the test on `ctx["entropy"]` in `RLT.Forward`, on the entropy type of the stream -/
def fastEntropy (e : Nat) : Bool := e == 0 || e == 5 || e == 1 || e == 4

/-- Go: `transform.New(ctx, functionType)` in a stream whose entropy type is `e` -/
def newSeq2 (ft e : Nat) : Option (List Kind) := kindsOfTokens (fastEntropy e) (seqTokens ft) false

/-- Go: `entropy.NewEntropyEncoder/Decoder` for NONE (0), HUFFMAN (1), FPAQ (2), RANGE (4), ANS0 (5), CM (6),
ANS1 (8) -/
def entOf2 (e : Nat) : Option Ent :=
  if e = 0 then some noneEnt else if e = 1 then some hufEnt else if e = 4 then some rangeEnt
  else if e = 5 then some ans0Ent else if e = 8 then some ans1Ent
  else if e = 2 then some fpaqEnt else if e = 6 then some cmEnt else Option.none

def cfgOfHeader2 (h : Header.Header) (skipBlocks : Bool) : Option Cfg2 :=
  match newSeq2 h.transformType h.entropyType, entOf2 h.entropyType with
  | some ks, some ent => some ⟨32 * h.ckSize, kindTrs ks, ent, skipBlocks, some h.blockSize⟩
  | _, _ => Option.none

/-! ### whole stream -/

/-- the payloads of the blocks, in order; `obufs` = `len(oBuffer.Buf)` of every task (as many entries as
jobs), block `k` is encoded by task `k mod jobs` -/
def encodeBlocks2 (c : Cfg2) : List (List Nat) → Nat → List Nat → Except EncErr (List Bits)
  | [], _, _ => .ok []
  | b :: bs, k, obufs =>
    match encodeTaskGen2 c (obufs.getD (k % obufs.length) 0) b with
    | .error e => .error e
    | .ok p =>
      match encodeBlocks2 c bs (k + 1)
          (obufs.set (k % obufs.length) (nextObuf c (obufs.getD (k % obufs.length) 0) b)) with
      | .error e => .error e
      | .ok ps => .ok (p :: ps)

/-- the bytes at the sink after `Close` of a Writer with `jobs` tasks -/
def streamImageGen2 (h : Header.Header) (c : Cfg2) (jobs : Nat) (blocks : List (List Nat)) :
    Except EncErr (List Nat) :=
  match encodeBlocks2 c blocks 0 (List.replicate jobs 0) with
  | .error e => .error e
  | .ok ps => .ok (packBytes (streamBitsOf h ps))

/-- read a whole stream from its bytes -/
def parseImageGen2 (bytes : List Nat) : Option Header.Header × List (List Nat) × BlockGen.Stop :=
  match Header.parseHeader (ofBytes bytes) with
  | .error e => (Option.none, [], .header e)
  | .ok hr =>
    match cfgOfHeader2 hr.1 false with
    | Option.none => (some hr.1, [], .unsupported)
    | some c =>
      let r := decodeFrames c.toCfg hr.1.blockSize (parseFrames hr.1.blockSize (hr.2.length + 1) hr.2)
      (some hr.1, r.1, r.2)

end Kanzi.BlockGen2
