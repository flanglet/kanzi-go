/-
The transform sequence over transforms that see the data type hint and the size of their destination:
`Tr2` and the forward pass of `ByteTransformSequence` over a list of them (`seqFwdGo2`, `seqForward2`).  The
inverse pass is that of `Kanzi/Model/TrSmall.lean` on `trsOf`.  `Kanzi/Model/BlockGen2.lean` says what the
destination sizes and the hint stand for.  Core Lean only.
-/
import Kanzi.Model.BlockGen

namespace Kanzi.BlockGen2
open Kanzi.Bits Kanzi.TrSmall Kanzi.Block Kanzi.BlockGen

/-! ### transforms with a data type hint -/

/-- a `kanzi.ByteTransform` as the sequence sees it: `fwd dt src len(dst)` (dt = `ctx["dataType"]`, 0 =
none), `ctxw dt src len(dst)` = the value Forward stores into `ctx["dataType"]` (if any), `inv src
len(dst)`, `MaxEncodedLen` -/
structure Tr2 where
  fwd : Nat → List Nat → Nat → Res
  ctxw : Nat → List Nat → Nat → Option Nat
  inv : List Nat → Nat → Res
  maxLen : Nat → Nat

/-- what the decoder (and `MaxEncodedLen` of the sequence) uses -/
def Tr2.toTr (t : Tr2) : Tr := ⟨t.fwd 0, t.inv, t.maxLen⟩

def trsOf (trs : List Tr2) : List Tr := trs.map Tr2.toTr

/-! ### the forward pass of the sequence -/

/-- Go: the loop of `ByteTransformSequence.Forward` from stage `i`.  `even` = an even number of swaps so
far: the stage writes into the caller's `dst` (`l0` bytes), otherwise into the re-sliced source buffer
(`req` bytes).  `dt` = current `ctx["dataType"]`.  A stage may update the ctx whether it succeeds or
not.  Returns (data, skip flags). -/
def seqFwdGo2 (req l0 : Nat) : List Tr2 → Nat → Bool → Nat → List Nat → Nat → List Nat × Nat
  | [], _, _, _, cur, flags => (cur, flags)
  | t :: rest, i, even, dt, cur, flags =>
    match t.fwd dt cur (if even then l0 else req) with
    | .error _ =>
      seqFwdGo2 req l0 rest (i + 1) even ((t.ctxw dt cur (if even then l0 else req)).getD dt) cur flags
    | .ok y =>
      seqFwdGo2 req l0 rest (i + 1) (!even) ((t.ctxw dt cur (if even then l0 else req)).getD dt) y
        (clearFlag flags i)

/-- Go: `ByteTransformSequence.Forward(src, dst)` with `len(dst) = l0 ≥ req = MaxEncodedLen(len(src))` -/
def seqForward2 (trs : List Tr2) (req l0 dt : Nat) (src : List Nat) : List Nat × Nat :=
  if src.length = 0 then ([], 0xFF) else seqFwdGo2 req l0 trs 0 true dt src 0xFF

end Kanzi.BlockGen2
