/-
AllocsTie — the allocation rules the decoder models of property C03 were transcribed with, tied to
the `make(...)` calls found in the syntax tree of /repo/v2 on every run
(`Kanzi/Generated/Allocs.lean`, regenerated by `kv facts -which Allocs`).

For each function the generated table lists its `make` calls in source order with the type and the
size argument (constant value, or expression text; for a plain local variable the expressions
assigned to it in that function follow in braces).  The theorems below say: the decoder-side
functions that allocate are exactly the ones the models know, and each sizes its buffer by the rule
the model implements — so the allocation-bound theorems (`C03_ans_alloc_bound`, `C03_ans_v1_alloc_bound`,
`C03_range_alloc_bound`, `C03_binary_alloc_bound`, `C03_fpaq_alloc_bound`, `C03_frame_bound`) speak
about every buffer these functions create.  A new `make` in a decoder, or a size expression that
changes (in particular one that starts to depend on a field read from the stream), breaks an
obligation of C03 even when no generated stream happens to make the buffer large.
-/
import Kanzi.Generated.Allocs
import Kanzi.Model.AnsDec

namespace Kanzi.AllocsTie
open Kanzi.Generated.Allocs

/-- the decoder-side functions (decoders, inverse transforms, Reader, input bitstream) that allocate -/
theorem decoder_side_functions :
    io_decoderSide = ["Reader.Close", "Reader.processBlock", "decodingTask.decode"] ∧
    entropy_decoderSide =
      ["ANSRangeDecoder.decodeChunkV1", "ANSRangeDecoder.decodeChunkV2", "ANSRangeDecoder.decodeHeader",
       "BinaryEntropyDecoder.Read", "FPAQDecoder.Read", "HuffmanDecoder.decodeChunkV5", "HuffmanDecoder.decodeV6",
       "NewANSRangeDecoder", "NewANSRangeDecoderWithCtx", "NewBinaryEntropyDecoder", "NewFPAQDecoder",
       "NewFPAQDecoderWithCtx", "NewHuffmanDecoder", "NewHuffmanDecoderWithCtx", "NewRangeDecoder",
       "NewRangeDecoderWithCtx", "RangeDecoder.decodeHeader"] ∧
    transform_decoderSide =
      ["BWT.inverseBiPSIv2", "BWT.inverseMergeTPSI", "BWTS.Inverse", "ByteTransformSequence.Inverse",
       "LZPCodec.Inverse", "newRolzDecoder", "rolzCodec1.Inverse"] ∧
    bitstream_decoderSide = ["NewDefaultInputBitStream"] := by
  decide +kernel

/-- ANS decoder: `decodeHeader` sizes `f2s` as `dim * 2^logRange` (`AnsDec.f2sAlloc`), `decodeChunkV2` sizes
`buffer` as `max(2*len(block), 256)` (`AnsDec.bufAlloc`), the legacy `decodeChunkV1` as `sz + sz/8`
(`AnsDec.bufAllocV1`; `sz` is bounded by the same maximum since fix a7dd04c: `C03_ans_v1_alloc_bound`);
the constructors allocate tables of constant size per order. -/
theorem ans_decoder_allocs :
    sitesOf entropy "ANSRangeDecoder.decodeHeader" = [("[]byte", "dim*scale")] ∧
    sitesOf entropy "ANSRangeDecoder.decodeChunkV2" = [("[]byte", "minBufSize{max(2*len(block),256)}")] ∧
    sitesOf entropy "ANSRangeDecoder.decodeChunkV1" = [("[]byte", "sz+(sz>>3)")] ∧
    sitesOf entropy "NewANSRangeDecoder" = [("[]int", "dim*256"), ("[]byte", "0"), ("[]byte", "0"), ("[]decSymbol", "dim*256")] ∧
    sitesOf entropy "NewANSRangeDecoderWithCtx" = [("[]int", "dim*256"), ("[]byte", "0"), ("[]byte", "0"), ("[]decSymbol", "dim*256")] := by
  decide +kernel

/-- the model's rules are those expressions -/
theorem ans_model_rules (len sz : Nat) (buf : Array Nat) :
    (Kanzi.AnsDec.bufAlloc len buf).size = (if buf.size < max (2 * len) 256 then max (2 * len) 256 else buf.size) ∧
    (Kanzi.AnsDec.bufAllocV1 sz buf).size = (if buf.size < sz then sz + sz / 8 else buf.size) := by
  unfold Kanzi.AnsDec.bufAlloc Kanzi.AnsDec.bufAllocV1
  constructor <;> split <;> simp

/-- Range decoder: `f2s` of `1 << logRange` entries (`RangeDec`, `C03_range_alloc_bound`); binary decoder:
`length + length/8` up front, then a chunk buffer of the size read from the stream — accepted only below
`2*length` (`BinDecCap.chunkCap`, `C03_binary_alloc_bound`); FPAQ: `max(sz + sz/4, 1024)` with `sz` accepted
only below twice the block (`fReadCap`, `C03_fpaq_alloc_bound`). -/
theorem range_binary_decoder_allocs :
    sitesOf entropy "RangeDecoder.decodeHeader" = [("[]uint16", "scale{1<<logRange}")] ∧
    sitesOf entropy "NewRangeDecoder" = [("[]uint16", "0")] ∧
    sitesOf entropy "NewRangeDecoderWithCtx" = [("[]uint16", "0")] ∧
    sitesOf entropy "BinaryEntropyDecoder.Read" =
      [("[]byte", "bufSize{length+(length>>3)}"), ("[]byte", "szBytes{ReadVarInt(this.bitstream)}")] ∧
    sitesOf entropy "NewBinaryEntropyDecoder" = [("[]byte", "0")] ∧
    sitesOf entropy "FPAQDecoder.Read" = [("[]byte", "bufSize{max(int(szBytes+(szBytes>>2)),1024)}")] ∧
    sitesOf entropy "NewFPAQDecoder" = [("[]byte", "0"), ("[]int", "256")] ∧
    sitesOf entropy "NewFPAQDecoderWithCtx" = [("[]byte", "0"), ("[]int", "256")] := by
  decide +kernel

/-- Huffman decoder (table machine modelled in `Model.Huffman`; chunk buffers: `max(sz + sz/8, 1024)` for
the version-5 layout, `2*chunkSize` for version 6) -/
theorem huffman_decoder_allocs :
    sitesOf entropy "HuffmanDecoder.decodeChunkV5" = [("[]byte", "minLenBuf{max(sz+(sz>>3),1024)}")] ∧
    sitesOf entropy "HuffmanDecoder.decodeV6" = [("[]byte", "2*this.chunkSize")] ∧
    sitesOf entropy "NewHuffmanDecoder" = [("[]uint16", "1<<this.maxSymbolSize"), ("[]byte", "0")] ∧
    sitesOf entropy "NewHuffmanDecoderWithCtx" = [("[]uint16", "1<<this.maxSymbolSize"), ("[]byte", "0")] := by
  decide +kernel

/-- Reader and decoding task: per batch, arrays of `nbTasks` entries and buffers of the block size plus a
margin; per task, the frame payload buffer `maxL` (`r` = the frame length in bytes, checked against the
bound of `C03_frame_bound` before the allocation: fix F25) and the output buffer of the declared block. -/
theorem reader_allocs :
    sitesOf io "Reader.processBlock" =
      [("[]kanzi.Listener", "len(this.listeners)"),
       ("[]uint", "nbTasks{this.jobs|min(nbTasks,this.nbInputBlocks)}"),
       ("[]decodingTaskResult", "nbTasks{this.jobs|min(nbTasks,this.nbInputBlocks)}"),
       ("[]byte", "bufSize{this.blockSize+_EXTRA_BUFFER_SIZE|this.blockSize+(this.blockSize>>4)}"),
       ("map[string]any", "")] ∧
    sitesOf io "decodingTask.decode" = [("[]byte", "maxL{r|int(this.blockLength)}"), ("[]byte", "int(bufferSize)")] ∧
    sitesOf io "Reader.Close" = [("[]byte", "0")] ∧
    sitesOf bitstream "NewDefaultInputBitStream" = [("[]byte", "bufferSize")] := by
  decide +kernel

/-- inverse transforms: every buffer is sized from `count = len(src)`, `len(dst)` or a constant -/
theorem inverse_transform_allocs :
    sitesOf transform "BWT.inverseMergeTPSI" = [("[]int32", "minLenBuf{max(count,256)}")] ∧
    sitesOf transform "BWT.inverseBiPSIv2" =
      [("[]int32", "minLenBuf{max(count+1,256)}"), ("[]int", "65536"), ("[]uint16", "131072"),
       ("[]uint", "nbTasks{min(int(this.jobs),chunks)}")] ∧
    sitesOf transform "BWTS.Inverse" = [("[]int32", "count{len(src)}")] ∧
    sitesOf transform "ByteTransformSequence.Inverse" =
      [("[]byte", "requiredSize{max(len(dst),this.MaxEncodedLen(len(dst)))}")] ∧
    sitesOf transform "LZPCodec.Inverse" = [("[]int32", "65536")] ∧
    sitesOf transform "newRolzDecoder" = [("[]int", "256<<mLogSize"), ("[]int", "256<<litLogSize")] ∧
    sitesOf transform "rolzCodec1.Inverse" =
      [("[]byte", "sizeChunk{min(len(dst),_ROLZ_CHUNK_SIZE)|endChunk-startChunk}"), ("[]byte", "sizeChunk/5"),
       ("[]byte", "sizeChunk/4"), ("[]byte", "sizeChunk/4"), ("[]uint32", "_ROLZ_HASH_SIZE<<this.logPosChecks")] := by
  decide +kernel

/-- non-vacuity -/
theorem allocs_nonvacuous : 150 ≤ total ∧ entropy.length ≥ 30 := by decide

end Kanzi.AllocsTie
