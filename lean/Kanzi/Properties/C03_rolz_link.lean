/-
C03 (the decoder is total) for `rolzCodec1.Inverse`: the link between the model `rolzInverse`
(`Kanzi/Model/ROLZ1.lean`), whose four `ANSRangeDecoder.Read` calls per chunk are the Option-valued functions
`ansLitDecode` / `ans0DecodeB` (chunk loops `ans0ChunksB`, `ans1ChunksB`; header loop `decFreqChunks`), and the
total model of the same Go function on arbitrary input, `Kanzi.AnsDec.read` (`Kanzi/Model/AnsDec.lean`,
`Properties/C03_ans.lean`).  Property theorems only; proofs in `Kanzi/Proofs/RolzAnsLink.lean`.

What `C03_rolz_terminates_partial` leaves open: the Option-valued functions carry fuel of their own (`count` units
for the chunk loop of `Read`, `len(alphabet)` for the frequency-group loop of `decodeHeader`), and when it runs
out they return `some` of a SHORT result, silently.  `C03_rolz_ans_fuel` proves that this never happens: every
one of these loops is fuel independent from the given fuel on, for every input, so the functions compute the
fuel-free loops of the Go code.  With it every fuelled loop reachable from `rolzInverse` has a proved
sufficient bound (`C03_rolz_terminates`).

What is NOT proved, and is FALSE as an unconditional statement (`C03_rolz_ans_stale_witness`): equality of
results between `ans0DecodeB` and `AnsDec.read` on every input.  `decodeChunkV2` clears only 64 bytes after the
payload (`clear(this.buffer[sz:min(sz+64, len)])`); a forged chunk whose announced payload is shorter than what
its states consume reads on into bytes left in `this.buffer` by an earlier chunk or an earlier `Read` on the same
decoder object (`mDec` is read three times per chunk).  `AnsDec.read` has this (`C03_ans0_loop_agrees` is stated
on the real buffer contents); `ans0DecodeChunk` of `Model/EntSmall.lean`, which `ans0ChunksB` calls, reads zeros
there.  The two agree when nothing stale is in reach (new buffer, or consumption within `sz + 64`); the raw path
(`count ≤ 32`) agrees always: `C03_rolz_ans_link_partial`.
-/
import Kanzi.Proofs.RolzAnsLink
import Kanzi.Properties.C03_rolz

namespace Kanzi.C03
open Kanzi.ROLZ Kanzi.Bits

/-- **C03_rolz_ans_fuel.**  Fuel is never the reason of a result of the ANS decoder functions that `rolzInverse`
calls, on ANY input bits, block length, buffer length, bitstream generation (`old`) and literal order:
  1. `ans0DecodeB` (the three `mDec.Read` calls, chunk size 32768, and order-0 literals) is its raw path for
     `count ≤ 32` and otherwise the chunk loop with ANY fuel `count + k`;
  2. `ansLitDecode` (the `litDec.Read` call: order 0 with chunk size 16384 / 32768, order 1 with 256 times that)
     likewise;
  3. the frequency-group loop inside `decodeHeader` (shared by both orders through `decodeFreqTable`), given
     `len(alphabet)` units for `len(alphabet) - 1` frequencies in groups of 6 or 8, likewise.
(`k = 0` is the model as written.)  The remaining loops of these functions are structural recursions: `ReadVarInt`
(at most 5 bytes), `DecodeAlphabet` (32 mask bytes), the `len/4` rounds of four `decodeSymbol`, the `len%4` tail. -/
theorem C03_rolz_ans_fuel (k : Nat) :
    (∀ (bs : Bits) (count buf : Nat), ans0DecodeB bs count 32768 buf =
      if count ≤ 32 then (Kanzi.EntSmall.readBytes count bs).map (fun p => (p.1, p.2, buf))
      else ans0ChunksB (count + k) 32768 count buf bs) ∧
    (∀ (litOrder : Nat) (old : Bool) (bs : Bits) (n : Nat), ansLitDecode litOrder old bs n =
      if litOrder = 0 then
        if n ≤ 32 then (Kanzi.EntSmall.readBytes n bs).map (fun p => (p.1, p.2))
        else (ans0ChunksB (n + k) (if old then 32768 else 16384) n 0 bs).map (fun p => (p.1, p.2.1))
      else if n ≤ 32 then Kanzi.EntSmall.readBytes n bs
      else ans1ChunksB (n + k) ((if old then 32768 else 16384) * 256) n Kanzi.Ans1.freshTables 0 bs) ∧
    (∀ (a : List Nat) (lr : Nat) (bs : Bits),
      Kanzi.EntSmall.decFreqChunks (a.length + k) (Kanzi.EntSmall.chkSizeOf a.length) (Kanzi.EntSmall.llrOf lr)
          (2 ^ lr) (2 ^ lr) (a.length - 1) bs
        = Kanzi.EntSmall.decFreqChunks a.length (Kanzi.EntSmall.chkSizeOf a.length) (Kanzi.EntSmall.llrOf lr)
          (2 ^ lr) (2 ^ lr) (a.length - 1) bs) :=
  ⟨fun bs count buf => ans0DecodeB_fuel (by decide) bs count buf k,
   fun litOrder old bs n => ansLitDecode_fuel litOrder old bs n k,
   fun a lr bs => decodeFreqTable_fuel a lr k bs⟩

/-- the chunk loops themselves, for every positive chunk size and every decoder state (payload buffer length,
previous order-1 tables): all fuels `≥ count` give the same result -/
theorem C03_rolz_ans_loop_fuel {cs : Nat} (hcs : 0 < cs) (f k count buf : Nat) (prev : List (List Nat)) (bs : Bits)
    (h : count ≤ f) :
    ans0ChunksB (f + k) cs count buf bs = ans0ChunksB f cs count buf bs ∧
    ans1ChunksB (f + k) cs count prev buf bs = ans1ChunksB f cs count prev buf bs :=
  ⟨ans0ChunksB_fuel hcs k f count buf bs h, ans1ChunksB_fuel hcs k f count prev buf bs h⟩

/-- **C03_rolz_ans_reads_terminate.**  The `Read` calls of `rolzCodec1.Inverse` as runs of the total model: with
the exact constructor parameters of `litDec` (`order = flags & 1`, default chunk size 16384, or 32768 for a ctx
with `bsVersion < 4`, times 256 for order 1) and of `mDec` (order 0, chunk size 32768), for EVERY bitstream
version `v` (1 included), EVERY decoder object `s` (new, or left by the earlier `Read`s of the chunk), input and
block length: the run never exhausts the `count / chunkSize + 2` iterations of `C03_ans_loop_bound`. -/
theorem C03_rolz_ans_reads_terminate (litOrder : Nat) (old : Bool) (v : Nat) (s : Kanzi.AnsDec.St) (bs : Bits)
    (count : Nat) :
    (Kanzi.AnsDec.read ⟨0, 32768, v⟩ s bs count).cls ≠ .fuel ∧
    (Kanzi.AnsDec.read ⟨litOrder, (if old then 32768 else 16384) * (if litOrder = 0 then 1 else 256), v⟩ s bs count).cls
      ≠ .fuel := by
  refine ⟨C03_ans_terminates ⟨0, 32768, v⟩ (by show 0 < 32768; decide) s bs count, C03_ans_terminates _ ?_ s bs count⟩
  show 0 < (if old then 32768 else 16384) * (if litOrder = 0 then 1 else 256)
  cases old <;> by_cases h : litOrder = 0 <;> simp [h]

/-- **C03_rolz_ans_link_partial.**  Decoder-to-decoder agreement on EVERY input for the raw path of `Read`
(`len(block) ≤ 32`: one `ReadArray`, no header), any parameters `p`, any decoder object `s`: the Option-valued
function returns `none` exactly when the total model ends in `stop eos`, and `some (out, rest, b)` exactly when
it returns `ret count false` with the same bytes, the same rest of the input and the same `len(this.buffer)`.
PARTIAL: the chunked path (`len(block) > 32`) is not linked; an unconditional link is false there (stale bytes
of `this.buffer` beyond `sz + 64`, see the head of this file).  Proved about the parts: `C03_ans0_header_agrees`
(accepted headers), `C03_ans0_loop_agrees` (main loop on the real buffer contents), `C03_ans0_agrees` /
`C03_ans1_agrees` (whole `Read` on encoder output, any decoder object). -/
theorem C03_rolz_ans_link_partial (p : Kanzi.AnsDec.Params) (s : Kanzi.AnsDec.St) (bs : Bits) (count cs : Nat)
    (h : count ≤ 32) :
    (ans0DecodeB bs count cs s.buf.size = none ↔ (Kanzi.AnsDec.read p s bs count).cls = .stop .eos) ∧
    (∀ out rest b, ans0DecodeB bs count cs s.buf.size = some (out, rest, b) ↔
      ((Kanzi.AnsDec.read p s bs count).cls = .ret count false ∧ (Kanzi.AnsDec.read p s bs count).out = out ∧
        (Kanzi.AnsDec.read p s bs count).rest = rest ∧ (Kanzi.AnsDec.read p s bs count).bufSz = b)) :=
  ans0DecodeB_raw p s bs count cs h

/-- **C03_rolz_ans_stale_witness.**  Why `C03_rolz_ans_link_partial` stops at the raw path: a concrete forged
chunk on which the Option-valued ANS model of `Kanzi/Model/ROLZ1.lean` and the total model of `decodeChunkV2` return
DIFFERENT bytes (both without error).  Chunk of 48 bytes, uniform table of log range 8 (the same table in both
representations: first conjunct), prefix `sz = 0` and four zero states (read alike: second conjunct).  The
Option-valued `ans0DecodeChunk` returns 48 zero bytes: it reads zeros after the payload.  The total model, on a
decoder object whose 256-byte `this.buffer` was filled with `0xFF` by an earlier chunk, loads 0 bytes, clears 64
(`stale_load`), and the 12 rounds consume 96: it returns 36 zero bytes then 12 bytes `0xFF`.  On a new buffer it
returns the 48 zero bytes too.  So `rolzInverse` can differ from the Go code in the BYTES of a forged block (not in
termination, error class or allocation, which do not depend on them: `C03_rolz_terminates`, `C03_rolz_fault_classes`
and `C03_rolz_alloc_bound` hold for every value of the side buffers). -/
theorem C03_rolz_ans_stale_witness :
    (Kanzi.EntSmall.mkDecTable (List.replicate 256 1) 8).toList
      = (List.range 256).map (fun i => (staleF2s.getD i 0, staleSyms.getD i ⟨0, 0⟩)) ∧
    (Kanzi.AnsDec.chunkPre staleBits).toOpt.map (fun q => (q.sz, q.st0, q.st1, q.st2, q.st3, q.rest.length))
      = some (0, 0, 0, 0, 0, 0) ∧
    Kanzi.EntSmall.ans0DecodeChunk (Kanzi.EntSmall.mkDecTable (List.replicate 256 1) 8) 8 48 staleBits
      = some (List.replicate 48 0, []) ∧
    (Kanzi.AnsDec.loadPayload 0 (Kanzi.AnsDec.bufAlloc 48 (Array.replicate 256 255)) []).toOpt.map
        (fun p => p.1.toList) = some (List.replicate 64 0 ++ List.replicate 192 255) ∧
    (Kanzi.AnsDec.chunkBody 0 8 48 staleF2s staleSyms (List.replicate 64 0 ++ List.replicate 192 255).toArray
        stalePre).toOpt = some (List.replicate 36 0 ++ List.replicate 12 255) ∧
    (Kanzi.AnsDec.chunkBody 0 8 48 staleF2s staleSyms (Kanzi.AnsDec.bufAlloc 48 #[]) stalePre).toOpt
      = some (List.replicate 48 0) :=
  ⟨stale_table, stale_pre, stale_opt, stale_load, stale_total, stale_fresh⟩

/-- **C03_rolz_terminates.**  For EVERY input, destination, `logPosChecks` of the object, ctx and chunk size
`cs > 0`: no loop of the model of `rolzCodec1.Inverse` exhausts its fuel — the chunk loop, the main loop and the
registration loop (`C03_rolz_terminates_partial`), AND the loops inside the four ANS `Read` calls per chunk: the
fuel the model gives them is never binding (`C03_rolz_ans_fuel`, here with one spare unit; any `k` holds), so a
`none` / `.err "ans"` is always a genuine decoder outcome (end of input, rejected header, rejected or oversize
payload) and a `some` is always the result of the complete loop.  That the real `Read` ends within
`count / chunkSize + 2` chunk iterations on the faithful model is `C03_rolz_ans_reads_terminate`. -/
theorem C03_rolz_terminates {cs lpc0 : Nat} {hasBsv : Bool} {bsv : Nat} {src : List Nat} {dst0 : Array Nat}
    (hcs : 0 < cs) :
    rolzInverse cs lpc0 hasBsv bsv src dst0 ≠ .fault "fuel" ∧
    (∀ (bs : Bits) (count buf : Nat), count > 32 →
      ans0DecodeB bs count 32768 buf = ans0ChunksB (count + 1) 32768 count buf bs) ∧
    (∀ (old : Bool) (bs : Bits) (n : Nat), n > 32 →
      ansLitDecode 0 old bs n =
        (ans0ChunksB (n + 1) (if old then 32768 else 16384) n 0 bs).map (fun p => (p.1, p.2.1))) ∧
    (∀ (old : Bool) (bs : Bits) (n : Nat), n > 32 →
      ansLitDecode 1 old bs n =
        ans1ChunksB (n + 1) ((if old then 32768 else 16384) * 256) n Kanzi.Ans1.freshTables 0 bs) := by
  refine ⟨C03_rolz_terminates_partial hcs, ?_, ?_, ?_⟩
  · intro bs count buf hc
    rw [(C03_rolz_ans_fuel 1).1 bs count buf, if_neg (by omega)]
  · intro old bs n hn
    rw [(C03_rolz_ans_fuel 1).2.1 0 old bs n, if_pos rfl, if_neg (by omega)]
  · intro old bs n hn
    rw [(C03_rolz_ans_fuel 1).2.1 1 old bs n, if_neg (by decide), if_neg (by omega)]

end Kanzi.C03

