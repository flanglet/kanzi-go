/-
C01 / C02 for the one codec that is modelled completely — transform NONE + entropy NONE — down to
the bytes at the sink: H_codec is a THEOREM for NONE/NONE, and the abstract stream-layer theorems
(blocks, frames) are connected to the real byte image.
Property theorems only; proofs in `Kanzi/Proofs/Block.lean` (+ `BlockLemmas.lean`).

Model: `Kanzi/Model/Block.lean` — `encodeNone` mirrors `encodingTask.encode`, `decodeTask` /
`decodeNone` mirror `decodingTask.decode`, `streamImage` is the byte image of a whole stream,
`parseImage` reads it back (header, frames with the `maxFrameLength` bound, blocks, result loop of
`processBlock`).  Tied to /repo by the `image` correspondence stream: `img` — the bytes produced by
the REAL Writer are `streamImage` byte for byte; `imgr` / `imgx` — what the REAL Reader returns on
valid and on damaged images (delivered bytes, error class) is `parseImage`.
-/
import Kanzi.Model.Block
import Kanzi.Proofs.Block
import Kanzi.Properties.C10_header
import Kanzi.Properties.ContainerP
import Kanzi.Properties.StreamW
import Kanzi.Properties.C01

namespace Kanzi.C01none
open Kanzi.Bits Kanzi.Block Kanzi.Header

/-- C01_codec_NONE (H_codec for NONE/NONE).  For every checksum setting, every block size `B` up to
the format limit 2^30 and every block of 1..B bytes: the decoding task run on what the encoding task
wrote returns exactly the block — through the copy-block branch (≤ 15 bytes), the 1/2/3/4-byte length
field, and the checksum comparison.  (No lower bound on `B` is needed; `B ≤ 2^30` is what the Writer
and Reader constructors enforce: beyond it the 4-byte length field and `maxTransformLength` fail.) -/
theorem C01_codec_NONE (ck B : Nat) (data : List Nat) (h0 : 0 < data.length) (hB : data.length ≤ B)
    (hmax : B ≤ 2 ^ 30) (hbytes : ∀ b ∈ data, b < 256) :
    decodeNone ck B (encodeNone ck data) = .ok data :=
  decodeNone_encodeNone ck B data h0 hB (by omega) hbytes

/-- the decoding task also reports `decoded = len ≤ B`, so the result loop of `processBlock`
(`r.decoded > blockSize` ⇒ "incorrectly decompressed") accepts it -/
theorem C01_codec_NONE_task (ck B : Nat) (data : List Nat) (h0 : 0 < data.length) (hB : data.length ≤ B)
    (hmax : B ≤ 2 ^ 30) (hbytes : ∀ b ∈ data, b < 256) :
    decodeTask ck B (encodeNone ck data) = ⟨data.length, .ok data⟩ :=
  decodeTask_encodeNone ck B data h0 hB (by omega) hbytes

/-- C01_codec_NONE, size: the payload has exactly the number of bits the Writer model charges for a
NONE/NONE block (`Kanzi.Drv.nonePayloadBits` = 8 + 8·dataSize + ck + 8·len), and its frame exactly
`Kanzi.Drv.noneFrameBits` — the value of `Writer.Cfg.frameBits` used by the `sw` stream, which
justifies the `GetWritten` accounting of the Writer model for this codec. -/
theorem C01_codec_NONE_bits (ck : Nat) (hck : ck = 0 ∨ ck = 32 ∨ ck = 64) (data : List Nat) :
    (encodeNone ck data).length = Kanzi.Drv.nonePayloadBits data.length ck ∧
    (Container.frameBits (encodeNone ck data)).length = Kanzi.Drv.noneFrameBits ck data :=
  ⟨encodeNone_length ck data hck, frameBits_encodeNone_length ck data hck⟩

/-- C02_crc_mismatch_detected (the mechanism; no claim about collisions).  Take the payload of a
block `d` and replace its data bits by other bytes `d'` of the same length (mode byte, length field
and checksum field unchanged): if the checksum of `d'` differs from the stored one, the decoding task
fails with `crc` — it never returns `d'`. -/
theorem C02_crc_mismatch_detected (ck B : Nat) (hck : ck = 32 ∨ ck = 64) (d d' : List Nat)
    (hlen : d'.length = d.length) (h0 : 0 < d.length) (hB : d.length ≤ B) (hmax : B ≤ 2 ^ 30)
    (hbytes : ∀ b ∈ d', b < 256) (hne : checksum ck d' ≠ checksum ck d) :
    decodeNone ck B (encodeNoneWith ck (checksum ck d) d') = .error .crc :=
  decodeNone_crc ck B _ d' hck (by omega) (by omega) (by omega) hbytes
    (by have := checksum_lt ck d; rwa [ckWidth_of ck (by omega)] at this) hne

/-- the damaged payload of `C02_crc_mismatch_detected` is the original payload with the data bits
replaced: same prologue (it depends on the length only), `d'` instead of `d` -/
theorem C02_damaged_payload_shape (ck : Nat) (d d' : List Nat) (hlen : d'.length = d.length) :
    encodeNone ck d = natBits (modeByte d.length) 8 ++ natBits d.length (8 * dataSizeOf d.length) ++
        natBits (checksum ck d) (ckWidth ck) ++ ofBytes d ∧
    encodeNoneWith ck (checksum ck d) d' = natBits (modeByte d.length) 8 ++
        natBits d.length (8 * dataSizeOf d.length) ++ natBits (checksum ck d) (ckWidth ck) ++ ofBytes d' := by
  constructor
  · rfl
  · unfold encodeNoneWith; rw [hlen]

/-- C02, any stored value: whatever 32/64-bit value sits in the checksum field, the block is
returned only if it equals the checksum of the bytes actually decoded -/
theorem C02_crc_field_checked (ck B sum : Nat) (hck : ck = 32 ∨ ck = 64) (d : List Nat)
    (h0 : 0 < d.length) (hB : d.length ≤ B) (hmax : B ≤ 2 ^ 30) (hbytes : ∀ b ∈ d, b < 256)
    (hs : sum < 2 ^ ck) (hne : checksum ck d ≠ sum) :
    decodeNone ck B (encodeNoneWith ck sum d) = .error .crc :=
  decodeNone_crc ck B sum d hck h0 hB (by omega) hbytes hs hne

/-- C01_stream_image_layers: the three layers composed explicitly.  The bits of the byte image are
the stream bits plus fewer than 8 zero bits; `parseHeader` (C10_header_roundtrip) returns the header
and leaves the frames; `Container.parseFrames` (C10_stream_layout) returns the payloads in order,
then the end marker; `decodeNone` (C01_codec_NONE) turns every payload back into its block. -/
theorem C01_stream_image_layers (h : Header) (wf : WF h) (ck : Nat) (blocks : List (List Nat))
    (hv : ValidBlocks h.blockSize blocks) :
    ∃ pad rest, pad.length < 8 ∧ (∀ b ∈ pad, b = false) ∧
      ofBytes (streamImage h ck blocks) = streamBits h ck blocks ++ pad ∧
      parseHeader (ofBytes (streamImage h ck blocks)) = .ok (h, rest) ∧
      Container.parseFrames (blocks.length + 1) rest =
        blocks.map (fun b => Container.Item.payload (encodeNone ck b)) ++ [Container.Item.endMark] ∧
      ∀ b ∈ blocks, decodeNone ck h.blockSize (encodeNone ck b) = .ok b := by
  refine ⟨List.replicate (padLen (streamBits h ck blocks).length) false,
    (blocks.map (encodeNone ck)).flatMap Container.frameBits ++ Container.endMarker ++
      List.replicate (padLen (streamBits h ck blocks).length) false, ?_, ?_, ?_, ?_, ?_, ?_⟩
  · simpa using padLen_lt _
  · intro b hb; exact (List.mem_replicate.mp hb).2
  · exact ofBytes_streamImage h ck blocks
  · rw [ofBytes_streamImage, streamBits_eq, List.append_assoc]
    exact Kanzi.C10.C10_header_roundtrip h wf _
  · have := Kanzi.ContainerP.C10_stream_layout (blocks.map (encodeNone ck))
      (List.replicate (padLen (streamBits h ck blocks).length) false)
      (fun p hp => by
        have := payloads_bounds ck h.blockSize blocks hv wf.bsHi p hp
        exact ⟨this.1, this.2.1⟩)
    rw [List.length_map, List.map_map] at this
    exact this
  · intro b hb
    have := hv b hb
    exact C01_codec_NONE ck h.blockSize b this.1 this.2.1 wf.bsHi this.2.2

/-- C01_stream_image_parses: reading the byte image of a NONE/NONE stream — header, frames (with the
reader's `maxFrameLength` bound), decoding tasks, result loop — yields the header, exactly the
blocks, and stops at the end marker.  For every well-formed header announcing NONE/NONE, every list
of blocks of 1..blockSize bytes; `ck = 32·ckSize` is the checksum width the header announces. -/
theorem C01_stream_image_parses (h : Header) (wf : WF h) (hent : h.entropyType = 0)
    (htr : h.transformType = 0) (blocks : List (List Nat)) (hv : ValidBlocks h.blockSize blocks) :
    parseImage (streamImage h (32 * h.ckSize) blocks) = (some h, blocks, .endOfStream) :=
  parseImage_streamImage h wf hent htr blocks hv

/-- the driver of the `image` stream prints `streamImageFast`: it is `streamImage` -/
theorem C01_stream_image_fast (h : Header) (ck : Nat) (blocks : List (List Nat)) :
    streamImageFast h ck blocks = streamImage h ck blocks :=
  streamImageFast_eq h ck blocks

/-- C01 for NONE/NONE, end to end over bytes.  Run the Writer model (any partition into Write calls,
any job count, any size hint) with the NONE/NONE frame size; take the byte image of the header and of
the blocks it emitted.  Then (i) the image has exactly `GetWritten` bytes, and (ii) reading the image
back yields the header, stops at the end marker, and the blocks concatenate to the data written. -/
theorem C01_none_end_to_end (h : Header) (wf : WF h) (hent : h.entropyType = 0) (htr : h.transformType = 0)
    (c : Writer.Cfg) (hB : c.B = h.blockSize) (hJ : 0 < c.J) (hhl : c.headless = false)
    (hhb : c.headerBits = (headerBits h).length)
    (hfb : c.frameBits = Kanzi.Drv.noneFrameBits (32 * h.ckSize))
    (parts : List (List Nat)) (hbytes : ∀ d ∈ parts, ∀ x ∈ d, x < 256) :
    let w := Writer.run c (Writer.init c) (Writer.healthyProgram parts)
    let img := streamImage h (32 * h.ckSize) w.1.emitted
    img.length = Writer.getWritten w.1 ∧
    (parseImage img).1 = some h ∧ (parseImage img).2.2 = Stop.endOfStream ∧
    (parseImage img).2.1.flatten = parts.flatten := by
  intro w img
  have hBpos : 0 < c.B := by have := wf.bsLo; omega
  have hem : w.1.emitted = Spec.chunks c.B parts.flatten :=
    (Kanzi.StreamW.C04_writer_blocks c hBpos hJ parts).2.1
  have hcv := Kanzi.C01.C01_writer_blocks_valid c.B hBpos parts.flatten
  have hck : 32 * h.ckSize = 0 ∨ 32 * h.ckSize = 32 ∨ 32 * h.ckSize = 64 := by
    have := wf.ck; omega
  have hv : ValidBlocks h.blockSize w.1.emitted := by
    intro b hb
    rw [hem] at hb
    have := hcv.1.1 b hb
    refine ⟨this.1, by omega, ?_⟩
    intro x hx
    have hx' := mem_of_mem_chunks c.B parts.flatten b hb x hx
    obtain ⟨d, hd, hxd⟩ := List.mem_flatten.mp hx'
    exact hbytes d hd x hxd
  have hp := parseImage_streamImage h wf hent htr w.1.emitted hv
  refine ⟨?_, ?_, ?_, ?_⟩
  · show (streamImage h (32 * h.ckSize) w.1.emitted).length = Writer.getWritten w.1
    rw [streamImage_length h _ _ hck, Kanzi.StreamW.C17_getWritten_final c hBpos hJ parts, hem, hhl, hhb, hfb]
    simp
  · show (parseImage (streamImage h (32 * h.ckSize) w.1.emitted)).1 = some h
    rw [hp]
  · show (parseImage (streamImage h (32 * h.ckSize) w.1.emitted)).2.2 = Stop.endOfStream
    rw [hp]
  · show (parseImage (streamImage h (32 * h.ckSize) w.1.emitted)).2.1.flatten = parts.flatten
    rw [hp, hem]
    exact hcv.2

/-- the hypotheses are satisfiable: XXHash64, 1 MiB blocks, a 17-byte and a 300-byte block (both above
the copy-block size of 15 bytes) -/
example : WF (mkHeader 2 0 0 (1024 * 1024) 317) ∧
    ValidBlocks (mkHeader 2 0 0 (1024 * 1024) 317).blockSize [List.replicate 17 65, List.replicate 300 66] := by
  refine ⟨by decide, ?_⟩
  intro b hb
  simp only [List.mem_cons, List.not_mem_nil, or_false] at hb
  rcases hb with rfl | rfl <;>
  · refine ⟨by simp only [List.length_replicate]; omega,
      by simp only [List.length_replicate, mkHeader]; omega, ?_⟩
    intro x hx; rw [List.mem_replicate] at hx; omega

/-- the hypothesis of `C02_crc_mismatch_detected` is satisfiable (both checksum widths) -/
example : checksum 32 [2] ≠ checksum 32 [1] ∧ checksum 64 [2] ≠ checksum 64 [1] := by decide

end Kanzi.C01none
