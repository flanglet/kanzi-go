/-
C03 (the decoder is total) for the INVERSE side of v2/transform/ROLZCodec.go on ARBITRARY (forged) input:
`ROLZCodec.Inverse` (dispatch and size checks), `rolzCodec2.Inverse` (ROLZX: binary range decoder `rolzDecoder`
with its own predictor, per-chunk loop) and `rolzCodec1.Inverse` (ROLZ: four ANS coded sub-streams per chunk).
Property theorems only; proofs in `Kanzi/Proofs/RolzxDecTotal.lean` and `Kanzi/Proofs/Rolz1DecTotal.lean`.

The models are `rolzxInverse` of `Kanzi/Model/ROLZX.lean` and `rolzInverse` of `Kanzi/Model/ROLZ1.lean` (the
decoders of the round-trip theorems of C13: every read of `src`, of the chunk, of the side buffers and of the
tables, and every store, carries the bounds check of the Go code; `.fault k` = run-time panic of class `k`, or
`"fuel"` = a loop of the model ran out of fuel, i.e. the Go loop would not have ended within the bound the model
gives it) plus
`Kanzi/Model/RolzDec.lean` (what one call allocates / what the codec object keeps).  They are tied to /repo by
the `rolzdec` stream: the real `Inverse` of both variants on forged inputs (mutated sizes / flags / sub-stream
lengths, truncations, garbage, destinations too small / exact / larger, two calls on one object) must end
exactly as the model says (same bytes, same error class, panic or not, same `len(matches)`, `len(counters)`),
with an allocation oracle on `runtime.MemStats`.  (Caveat for the bytes of ROLZ: `C03_rolz_ans_stale_witness` in
`Properties/C03_rolz_link.lean`.)

Parameters: `cs` = `_ROLZ_CHUNK_SIZE` (Go: 2^24; the theorems need `0 < cs` only), `lpc` / `lpc0` = the
`logPosChecks` the codec OBJECT was built with (5 for ROLZX; 4 for ROLZ by name, 2..8 through `NewROLZCodec`),
`bsv` = ctx entry `bsVersion`, `src` = the input (any list of numbers), `dst0` = the destination before the call.

In the real code every decoding task runs under a deferred `recover`: a panic on a forged block is an
observation (block error).  A violation of C03 would be an unbounded loop or an allocation unrelated to the
declared sizes; neither exists here (`C03_rolzx_terminates`, `C03_rolz_terminates_partial` and its completion
`C03_rolz_terminates` in `Properties/C03_rolz_link.lean`, `C03_rolz*_alloc*`).
-/
import Kanzi.Model.RolzDec
import Kanzi.Proofs.RolzxDecTotal
import Kanzi.Proofs.Rolz1DecTotal
import Kanzi.Proofs.RolzxRound
import Kanzi.Proofs.Rolz1Block
import Kanzi.Properties.C03_ans

namespace Kanzi.C03
open Kanzi.ROLZ

/-! ## ROLZX (`rolzCodec2`) -/

/-- **C03_rolzx_terminates.**  For EVERY input `src`, destination, `logPosChecks`, bitstream version and chunk
size `cs > 0`, `ROLZCodec.Inverse` with a `rolzCodec2` delegate ends: no loop of the model exhausts its fuel.
  * chunk loop `for startChunk < chunksEnd`: fuel `dstEnd / min(len(dst), cs) + 2`; every chunk but the last
    advances `startChunk` by `sizeChunk = min(len(dst), cs) > 0` (`len(dst) = 0` is answered by the wrapper);
  * main loop of a chunk `for dstIdx < sizeChunk`: fuel `sizeChunk + 1`; every iteration advances `dstIdx` by 1
    (literal) or by `matchLen + minMatch ≥ 3` (match), whatever the decoder returns;
  * first / last literals: 8 (2) and 4 iterations; `decode9Bits` / `decodeBits(logPosChecks)`: 9 / `logPosChecks`
    calls of `decodeBit`, whose refill loop `for (low ^ high) >> 24 == 0` runs AT MOST ONCE per bit (after one
    pass the low 32 bits of `low` are 0 and those of `high` are 1; the model has it as an `if`, and the stream
    checks the outputs bit-exactly); `emitCopy`: `matchLen + minMatch ≤ 262` byte copies.
So the time is `O(len(dst) · (9 + logPosChecks))` plus `O(2^(16+logPosChecks))` per chunk for `clear(matches)` and
`2^17 + 2^(8+logPosChecks)` for `reset()`, independent of the contents of `src`. -/
theorem C03_rolzx_terminates {cs lpc bsv : Nat} {src : List Nat} {dst0 : Array Nat} (hcs : 0 < cs) :
    rolzxInverse cs lpc bsv src dst0 ≠ .fault "fuel" := by
  intro h
  exact absurd (rolzxInverse_fault hcs h) (by simp [XFaults, IFaults])

/-- **C03_rolzx_refill_once.**  The refill loop of `decodeBit` (and of `encodeBit`), `for (low ^ high) >> 24 == 0
{ low = (low << 32) & MASK_0_56; high = ((high << 32) | MASK_0_32) & MASK_0_56; ...; idx += 4 }`, is modelled as an
`if` (`Dec.decodeBit`).  This is why: for ANY register values, after one pass bit 24 of `low` is 0 and bit 24 of
`high` is 1, so the loop condition is false: the loop body runs at most once per decoded bit, at most 4 bytes of
`src` are consumed per bit. -/
theorem C03_rolzx_refill_once (low high : Nat) :
    ((((low <<< 32) % 2 ^ 64) % 2 ^ 56) ^^^ ((((high <<< 32) % 2 ^ 64) ||| MASK_0_32) % 2 ^ 56)) >>> 24 ≠ 0 :=
  refill_once low high

/-- **C03_rolzx_fault_classes.**  The run-time faults reachable on forged input are index errors of exactly three
classes: `"src-index"` (`newRolzDecoder` reads 8 bytes after the header without a test), `"src-slice"` (the
32-bit refill of `decodeBit` reads `buf[idx:idx+4]` past the end of `src`), `"dst-index"` (a store, a key read
or an overlapping `emitCopy` leaves the chunk / `dst`).  Nothing else: no fault in the tables (`matches`,
`counters`, probabilities: indexes in range by construction). -/
theorem C03_rolzx_fault_classes {cs lpc bsv : Nat} {src : List Nat} {dst0 : Array Nat} (hcs : 0 < cs) {k : String}
    (h : rolzxInverse cs lpc bsv src dst0 = .fault k) : k = "src-index" ∨ k = "src-slice" ∨ k = "dst-index" := by
  have := rolzxInverse_fault hcs h
  simpa [XFaults, IFaults] using this

/-- **C03_rolzx_short_input.**  The EXACT condition of the first class: the call passes the wrapper's tests
(`len(src) ≥ 5`, `len(dst) > 0`, `len(src) ≤ 2^30`) and the size test (`0 < dstEnd ≤ len(dst)`, `rolzxReaches`), and
fewer than 8 bytes follow the header (`len(src) < 13`; `< 12` for `bsVersion < 3`).  The wrapper's "input array
too small" test accepts 5 bytes, the range decoder needs 13: inputs of 5..12 bytes with a plausible size field
panic instead of returning an error. -/
theorem C03_rolzx_short_input {cs lpc bsv : Nat} {src : List Nat} {dst0 : Array Nat} (hcs : 0 < cs) :
    rolzxInverse cs lpc bsv src dst0 = .fault "src-index" ↔
      (rolzxReaches src.length dst0.size (beN src.toArray 0 4) = true ∧ src.length < (if bsv ≥ 3 then 5 else 4) + 8) :=
  rolzxInverse_srcindex hcs

/-- a 12-byte input announcing 40 bytes: panic (index out of range) in `newRolzDecoder` -/
example : rolzxInverse CHUNK_SIZE 5 6 [0, 0, 0, 40, 0, 1, 2, 3, 4, 5, 6, 7] (Array.replicate 40 0xAA) = .fault "src-index" :=
  (C03_rolzx_short_input (by decide)).2 (by decide)

/-- the same 12 bytes for bitstream version 2 (header of 4 bytes): the decoder is created, no "src-index" -/
example : rolzxInverse CHUNK_SIZE 5 2 [0, 0, 0, 40, 0, 1, 2, 3, 4, 5, 6, 7] (Array.replicate 40 0xAA) ≠ .fault "src-index" :=
  fun h => absurd ((C03_rolzx_short_input (by decide)).1 h).2 (by decide)

/-- the second class at the level of one bit: an empty interval forces a refill, nothing is left in `src` -/
example : (Dec.decodeBit #[1, 2, 3] ⟨0, 0, 0, 0⟩ 32768).faultIs "src-slice" = true := by decide

/-- the third class at the level of `emitCopy`: an overlapping match of 5 bytes at position 2 of a 3-byte chunk -/
example : emitCopy #[1, 2, 3] 3 2 1 5 = .fault "dst-index" := by decide

/-- a non-overlapping match that does not fit is silently SHORTENED by `copy` (no fault); the returned position
lies beyond the chunk, the main loop ends, and the final tests reject the block -/
example : emitCopy #[1, 2, 3, 4] 4 3 0 2 = .ok (#[1, 2, 3, 1], 5) := by decide

/-- **C03_rolzx_alloc_bound.**  What one call of `rolzCodec2.Inverse` allocates does not depend on the contents
of `src` at all: the two probability tables of `newRolzDecoder` (`256 << logPosChecks` and `256 << 9` ints), or
nothing (early error / panic).  `matches` and `counters` are made by the constructor.  No size is read from
the stream. -/
theorem C03_rolzx_alloc_bound (lpc bsv srcLen dstLen hdr : Nat) :
    ∀ x ∈ rolzxAllocs lpc bsv srcLen dstLen hdr, x = 256 <<< lpc ∨ x = 256 <<< 9 :=
  rolzxAllocs_bound lpc bsv srcLen dstLen hdr

/-- **C03_rolzx_output_bound.**  On success the destination keeps its length (all stores are in-place, bounds
checked), and for bitstream version 4 or later the reported number of bytes written is at most `len(dst)`. -/
theorem C03_rolzx_output_bound {cs lpc bsv : Nat} {src : List Nat} {dst0 : Array Nat} {w : Nat} {dst : Array Nat}
    (h : rolzxInverse cs lpc bsv src dst0 = .ok (w, dst)) : dst.size = dst0.size ∧ (4 ≤ bsv → w ≤ dst0.size) :=
  rolzxInverse_ok h

/-- **C03_rolzx_agree.**  On the output of the encoder the total decoder is the decoder of C13: it returns the
block (so none of the faults / errors above). -/
theorem C03_rolzx_agree {cs lpc : Nat} {hasCtx : Bool} {dt : Nat} {src t : List Nat} {dstLen : Nat} (bsv : Nat)
    (dst0 : Array Nat) (hcs : 0 < cs ∧ cs ≤ 2 ^ 24) (hb : ∀ x ∈ src, x < 256) (hbsv : 4 ≤ bsv)
    (hdst : maxEncodedLen2 src.length ≤ dstLen) (hd : src.length ≤ dst0.size)
    (h : rolzxForward cs lpc hasCtx dt src dstLen = .ok t) :
    ∃ dst, rolzxInverse cs lpc bsv t dst0 = .ok (src.length, dst) ∧ dst.size = dst0.size ∧
      ∀ k, k < src.length → dst.getD k 0 = src.getD k 0 :=
  rolzx_roundtrip bsv dst0 hcs hb hbsv hdst hd h

/-! ## ROLZ (`rolzCodec1`) -/

/-- **C03_rolz_terminates_partial.**  For EVERY input, destination, `logPosChecks` of the object, ctx and chunk
size `cs > 0`, the loops of `rolzCodec1.Inverse` itself end (no fuel exhausted):
  * chunk loop `for startChunk < dstEnd`: fuel `dstEnd / min(len(dst), cs) + 2`, as for ROLZX;
  * main loop of a chunk: fuel `sizeChunk + 1`; an iteration either `break`s, fails, or advances `dstIdx` by
    `litLen + matchLen + minMatch ≥ 3`;
  * the registration loop of a literal run `for n := 0; n < litLen; n++ { ...; n += srcInc >> 6; srcInc++ }`: fuel
    `litLen + 1`; `copy`, `emitCopy`: structural.
PARTIAL: the four `ANSRangeDecoder.Read` calls per chunk are the Option-valued ANS functions of
`Kanzi/Model/ROLZ1.lean` (`ans0DecodeB`, `ansLitDecode`), whose own chunk loops return normally when out of fuel;
that `Read` ends on every input, and what it allocates, is `C03_ans_terminates` / `C03_ans_alloc_bound` (model
`Kanzi/Model/AnsDec.lean`, stream `ansdec`).  The two ANS models are linked in `Properties/C03_rolz_link.lean`
(`C03_rolz_terminates`: the fuel of the Option-valued functions is never binding).  `Read` is called with
blocks of at most
`len(litBuf) ≤ len(dst)` bytes (`C03_rolz_forged_length`). -/
theorem C03_rolz_terminates_partial {cs lpc0 : Nat} {hasBsv : Bool} {bsv : Nat} {src : List Nat} {dst0 : Array Nat}
    (hcs : 0 < cs) : rolzInverse cs lpc0 hasBsv bsv src dst0 ≠ .fault "fuel" := by
  intro h
  exact absurd (rolzInverse_fault hcs h) (by simp [R1Faults])

/-- **C03_rolz_fault_classes.**  The run-time faults of `rolzCodec1.Inverse` on forged input are index errors of
nine classes: reads of the token / length / literal / match-index side buffers past their end (`"tk-index"`,
`"len-slice"`, `"lit-slice"`, `"mix-index"`, `"first-index"`: the stream announced fewer entries than its tokens
consume — only the four lengths are validated, not their consistency with the tokens), key reads before the
chunk start (`"dst-slice"`), `matches` indexed beyond its length (`"matches-index"`, `"matches-slice"`: the flags
byte announces a `logPosChecks` above the one the object was built with — the table is sized from the OBJECT's
value before the flags are read, `len(this.matches) < int(this.logPosChecks)`), overlapping `emitCopy` past the
chunk (`"dst-index"`). -/
theorem C03_rolz_fault_classes {cs lpc0 : Nat} {hasBsv : Bool} {bsv : Nat} {src : List Nat} {dst0 : Array Nat}
    (hcs : 0 < cs) {k : String} (h : rolzInverse cs lpc0 hasBsv bsv src dst0 = .fault k) : k ∈ R1Faults :=
  rolzInverse_fault hcs h

/-- **C03_rolz_forged_length.**  The four 32-bit sub-stream lengths of a chunk header (literals, tokens, match
lengths, match indexes) come from the forged input; each is compared with the length of the buffer made for it
(`min(len(dst), cs)`, `/4`, `/5`, `/4`) BEFORE any entropy decoder is created: a forged length beyond its buffer
(`len(src)+1`, `2^31-1`, `2^32-1`, ...) is rejected with an error, nothing is allocated from it.  (`int(ReadBits(32))`
is never negative on a 64-bit `int`.)  Stated for the first chunk of a call that passes the header tests. -/
theorem C03_rolz_forged_length {cs lpc0 : Nat} {hasBsv : Bool} {bsv : Nat} {src : List Nat} {dst0 : Array Nat}
    (hreach : rolz1Reaches src.length dst0.size (beN src.toArray 0 4) = true)
    (hlpc : 2 ≤ src.toArray.getD 4 0 >>> 4 ∧ src.toArray.getD 4 0 >>> 4 ≤ 8)
    {a b c d : Nat} {r0 : Kanzi.Bits.Bits}
    (hh : readHdr (Kanzi.Bits.ofBytes (src.toArray.extract 5 src.toArray.size).toList) = some ((a, b, c, d), r0))
    (hbig : a > min dst0.size cs ∨ b > min dst0.size cs / 4 ∨ c > min dst0.size cs / 5 ∨ d > min dst0.size cs / 4) :
    rolzInverse cs lpc0 hasBsv bsv src dst0 = .err "length" :=
  rolzInverse_length hreach hlpc hh hbig

/-- **C03_rolz_alloc_bound.**  The buffers made by one call of `rolzCodec1.Inverse` (`rolz1Allocs`: `litBuf`,
`mLenBuf`, `mIdxBuf`, `tkBuf`, and `matches` on the first call of an object) are each at most `len(dst)` bytes or
the constant `65536 << logPosChecks` of the object; together at most `2·len(dst) + (65536 << logPosChecks)` elements,
on every path (they are made before the flags byte is validated).  None depends on the contents of `src`. -/
theorem C03_rolz_alloc_bound (cs lpc0 srcLen dstLen hdr mLen : Nat) :
    (∀ x ∈ rolz1Allocs cs lpc0 srcLen dstLen hdr mLen, x ≤ dstLen ∨ x = HASH_SIZE * 2 ^ lpc0) ∧
    (rolz1Allocs cs lpc0 srcLen dstLen hdr mLen).sum ≤ 2 * dstLen + HASH_SIZE * 2 ^ lpc0 :=
  rolz1Allocs_bound cs lpc0 srcLen dstLen hdr mLen

/-- **C03_rolz_ans_alloc.**  The entropy decoders of a chunk: `rolzCodec1.Inverse` calls `ANSRangeDecoder.Read` four
times per chunk (`litDec` once, `mDec` three times on one object) with blocks `litBuf[0:litLen]`, `tkBuf[0:tkLen]`, ...
whose lengths were checked against the buffers (`C03_rolz_forged_length`), so `count ≤ len(dst)`.  By
`C03_ans_alloc_bound` (model `Kanzi.AnsDec.read` of the same Go function) such a `Read`, whatever the input bits
and however it ends, leaves `len(this.buffer) ≤ max(before, 2·len(dst), 256)` and `len(this.f2s) ≤ max(before,
dim·32768)`: the allocation of a whole call is `O(len(dst))` plus constants of the object, never a function of a
value read from the stream. -/
theorem C03_rolz_ans_alloc (p : Kanzi.AnsDec.Params) (hv : p.bsVersion ≠ 1) (hcs : 0 < p.chunkSize) (s : Kanzi.AnsDec.St)
    (bs : Kanzi.Bits.Bits) (count dstLen : Nat) (hc : count ≤ dstLen) (hinv : Kanzi.AnsDec.Inv p.order s.syms s.f2s) :
    (Kanzi.AnsDec.read p s bs count).f2sSz ≤ max s.f2s.size (Kanzi.AnsDec.dimOf p.order * 2 ^ 15) ∧
    (Kanzi.AnsDec.read p s bs count).bufSz ≤ max s.buf.size (max (2 * dstLen) 256) := by
  have h := C03_ans_alloc_bound p hv hcs s bs count hinv
  have hm : 2 * min p.chunkSize count ≤ 2 * dstLen := Nat.mul_le_mul_left 2 (Nat.le_trans (Nat.min_le_right _ _) hc)
  refine ⟨h.1, Nat.le_trans h.2 (Nat.max_le.2 ⟨Nat.le_max_left _ _, Nat.le_trans ?_ (Nat.le_max_right _ _)⟩)⟩
  exact Nat.max_le.2 ⟨Nat.le_trans hm (Nat.le_max_left _ _), Nat.le_max_right _ _⟩

/-- **C03_rolz_output_bound.**  On success the destination keeps its length (every store of literals, matches and
last literals is in-place and bounds checked) and the reported number of bytes written is at most `len(dst)`. -/
theorem C03_rolz_output_bound {cs lpc0 : Nat} {hasBsv : Bool} {bsv : Nat} {src : List Nat} {dst0 : Array Nat} {w : Nat}
    {dst : Array Nat} (h : rolzInverse cs lpc0 hasBsv bsv src dst0 = .ok (w, dst)) :
    dst.size = dst0.size ∧ w ≤ dst0.size :=
  rolzInverse_ok h

/-- **C03_rolz_agree.**  On the output of the encoder (codec objects built with the same `logPosChecks`) the
total decoder returns the block: none of the faults / errors above. -/
theorem C03_rolz_agree {cs lpc : Nat} {hasCtx : Bool} {dt : Nat} {src t : List Nat} {dstLen : Nat} (hasBsv : Bool)
    (bsv : Nat) (dst0 : Array Nat) (hcs : 64 ≤ cs ∧ cs ≤ 2 ^ 24) (hlpc : 2 ≤ lpc ∧ lpc ≤ 8) (hb : ∀ x ∈ src, x < 256)
    (hbsv : hasBsv = true → 4 ≤ bsv) (hdst : maxEncodedLen1 src.length ≤ dstLen) (hd : src.length ≤ dst0.size)
    (h : rolzForward cs lpc hasCtx dt src dstLen = .ok t) :
    ∃ dst, rolzInverse cs lpc hasBsv bsv t dst0 = .ok (src.length, dst) ∧ dst.size = dst0.size ∧
      ∀ k, k < src.length → dst.getD k 0 = src.getD k 0 :=
  rolz_roundtrip hasBsv bsv dst0 hcs hlpc hb hbsv hdst hd h

/-- the table fault at the level of the registration loop: `logPosChecks = 8` from the flags, a table of (at most)
`65536 << 4` entries (object built by name), key `0x1000`: index `0x1000 * 256 + c` is out of range -/
example (mts cn : Array Nat) (h : mts.size ≤ 65536 * 16) :
    regRun 3 2 8 0 4 2 1 2 0 0 ⟨⟨mts, cn⟩, #[0, 16, 0, 0]⟩ = .fault "matches-index" := by
  have hk : getKey 3 2 #[0, 16, 0, 0] 0 4 (2 + 0) = some 4096 := by decide
  rw [regRun, if_pos (by decide)]
  simp only [hk]
  rw [if_neg (by omega)]

set_option maxRecDepth 20000 in
/-- the hypotheses of `C03_rolz_forged_length` are satisfiable: a literal length of `2^32 - 1` -/
example : rolzInverse CHUNK_SIZE 4 false 6
    ([0, 0, 0, 44, 0x40, 255, 255, 255, 255, 0, 0, 0, 0, 0, 0, 0, 0, 0, 0, 0, 0, 1, 2, 3, 4]) (Array.replicate 40 0xAA) =
      .err "length" :=
  C03_rolz_forged_length (a := 4294967295) (b := 0) (c := 0) (d := 0) (r0 := Kanzi.Bits.ofBytes [1, 2, 3, 4])
    (by decide +kernel) (by decide +kernel) (by decide +kernel) (by decide +kernel)

end Kanzi.C03
