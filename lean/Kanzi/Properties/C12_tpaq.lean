/-
C12 (TPAQ / TPAQX entropy codecs, predictor side) — the bit predictor
`/repo/v2/entropy/TPAQPredictor.go` (`NewTPAQPredictor`, `Update`, `Get`, the mixer `TPAQMixer`, the
match model, the hashed contexts) with the helpers it calls (`internal.Squash`, the `SQUASH` /
`STRETCH` tables computed by `init()` of internal/Global.go, `LogisticAdaptiveProbMap`), which the
TPAQ and TPAQX codecs plug into the binary arithmetic coder
(`entropy.NewBinaryEntropyEncoder(bs, predictor)` / decoder).
Property theorems only; proofs live in `Kanzi/Proofs/TPAQ.lean`, `TPAQTables.lean`, `TPAQBits.lean`,
the model in `Kanzi/Model/TPAQ.lean`, tied to /repo by the `tpaqpred` correspondence stream (the real
`entropy.TPAQPredictor` is driven with generated and adversarial bit sequences, TPAQ and TPAQX, many
constructor parameters; the sequence of `Get()` values must be identical to the model's; the real
lookup tables are hashed and compared; the real `LogisticAdaptiveProbMap` is driven directly).

What the binary coder needs from a predictor: a deterministic state machine whose `Get()` lies in
`[0, 4095]` on every reachable state and that never faults.  `TPAQ.R` is an inductive invariant
(`C12_tpaq_init`, `C12_tpaq_step`) under which
  * `Get()` is in `[1, 4095]` (`C12_tpaq_get_range`),
  * no slice / array index of `Update` is out of range (`C12_tpaq_no_fault`).
Unlike the CM predictor, the `int32` arithmetic of TPAQ REALLY wraps around (hashes, `createContext`,
the mixer's dot product and weight update): the model computes with `Int32` and nothing here claims
the absence of wrap-around; the invariant only needs what masks and clamps guarantee.

The invariant (`Kanzi.TPAQ.Inv 1`): `fault = false`; `1 <= pr <= 4095`; `1 <= bpos <= 8`,
`1 <= c0 < 2^(9-bpos)`; `0 <= matchLen <= 88`; `0 <= hash < len(hashes)`; the four masks are non
negative and smaller than the length of the slice they index (`mixersMask + 1 < len(mixers)`); the two
small state maps have 2^16 and 2^24 cells; `0 <= ctx0 <= 0xFF00`, `0 <= ctx1 <= 0xFFFF00`; `sse0` is an
APM of 256 contexts, `sse1` (extra variant) one of 65536 contexts, each with its last index pair inside
its table; the mixer pointer and the seven context pointers point inside their slices.

Constructor parameters (`ArgsOk`): `ctx["blockSize"]` and `ctx["size"]`, when present with type
`uint`, are at least 1 — the stream layer passes `blockSize` in [1024, 2^30] and `size` = the length
of the block handed to the entropy stage, never 0.  With `size = 0` (or `blockSize = 0`) the public
constructor succeeds but the 8th `Update` faults (`hashes` / `buffer` has length 0): the model and
the real code agree on that (`fault 7` in the `tpaqpred` stream).
-/
import Kanzi.Model.TPAQ
import Kanzi.Proofs.TPAQ
import Kanzi.Generated.Consts

namespace Kanzi.C12
open Kanzi.TPAQ

/-- **C12_tpaq_init.**  `NewTPAQPredictor(ctx)` — nil context, or any combination of the keys `entropy`
(TPAQ / TPAQX / anything else), `blockSize >= 1`, `size >= 1`, `bsVersion`, present or absent — returns,
when it does not return its type error, a state satisfying the invariant. -/
theorem C12_tpaq_init (c : Option CtxArgs) (s : TPAQ) (hc : ArgsOk c) (h : tpaqNew c = .ok s) : R s :=
  R_new hc h

/-- **C12_tpaq_new.**  `NewTPAQPredictor` returns an error exactly when an entry it reads has the wrong
dynamic type (`errOf` = the first such entry in the order entropy, blockSize, size, bsVersion, which is
the error returned); a nil context never fails. -/
theorem C12_tpaq_new (a : CtxArgs) :
    (∀ e, errOf a = some e → tpaqNew (some a) = .error e) ∧
    (errOf a = none → ∃ s, tpaqNew (some a) = .ok s) ∧
    (∃ s, tpaqNew none = .ok s) := ⟨(tpaqNew_err a).1, (tpaqNew_err a).2, tpaqNew_nil⟩

/-- the same in terms of the table sizes the constructor computed -/
theorem C12_tpaq_init_sizes (c : Option CtxArgs) (z : Sizes) (hc : ArgsOk c) (h : sizesOf c = .ok z) :
    SizesOk z ∧ R (tpaqOfSizes z) := ⟨sizesOf_ok hc h, R_ofSizes (sizesOf_ok hc h)⟩

/-- **C12_tpaq_step.**  One round of the coder's call pattern, `Get()` then `Update(bit)`, preserves the
invariant.  (`Get()` does not change the state; `Update` alone preserves it.) -/
theorem C12_tpaq_step (s : TPAQ) (b : Bool) (h : R s) : R (tpaqUpdate (tpaqGet s).2 b) := R_step h b

theorem C12_tpaq_step_get (s : TPAQ) (h : R s) : R (tpaqGet s).2 := R_get h
theorem C12_tpaq_step_update (s : TPAQ) (b : Bool) (h : R s) : R (tpaqUpdate s b) := R_update h b

/-- **C12_tpaq_get_range.**  On every state satisfying the invariant `Get()` returns a value in
`[1, 4095]` (`tpaqGetZ` is the Go `int` result, `tpaqGet` its `toNat`). -/
theorem C12_tpaq_get_range (s : TPAQ) (h : R s) : 1 ≤ (tpaqGet s).1 ∧ (tpaqGet s).1 ≤ 4095 := get_range h

theorem C12_tpaq_get_rangeZ (s : TPAQ) (h : R s) :
    1 ≤ tpaqGetZ s ∧ tpaqGetZ s ≤ 4095 ∧ ((tpaqGet s).1 : Int) = tpaqGetZ s :=
  ⟨(getZ_range h).1, (getZ_range h).2, get_cast h⟩

/-- the last statement of `Update`, `this.pr = p + int(uint32(p-2048)>>31)`, adds 1 exactly when
`p < 2048`: with `p` in `[0, 4095]` (what `Squash` and the APM stages return) `pr` is in `[1, 4095]` -/
theorem C12_tpaq_final_pr (p : Int) (h0 : 0 ≤ p) (h1 : p ≤ 4095) :
    finalPr p = (if p < 2048 then p + 1 else p) ∧ 1 ≤ finalPr p ∧ finalPr p ≤ 4095 :=
  ⟨finalPr_eq h0 h1, finalPr_range h0 h1⟩

/-- **C12_tpaq_no_fault.**  On every state satisfying the invariant no index expression of `Update(bit)`
is out of range: `tpaqUpdateF` (`none` = Go run-time panic "index out of range"; the model checks every
slice and array index of `Update`, `findMatch`, `getMatchContextPred`, `TPAQMixer.get`,
`LogisticAdaptiveProbMap.Get` and records a failed check in the sticky flag `fault`) returns `some`
of what the total function computes.  `Get()` has no index expression. -/
theorem C12_tpaq_no_fault (s : TPAQ) (b : Bool) (h : R s) :
    tpaqUpdateF (tpaqGet s).2 b = some (tpaqUpdate (tpaqGet s).2 b) ∧ (tpaqUpdate (tpaqGet s).2 b).fault = false :=
  ⟨updateF_some (R_get h) b, (R_step h b).fault⟩

/-- the index `SQUASH[d+2047]` inside `internal.Squash` (the only index expression of `TPAQMixer.get`) is
in range in the branch that evaluates it -/
theorem C12_tpaq_no_fault_squash (d : Int) (h1 : ¬ d ≥ 2048) (h2 : ¬ d ≤ -2048) : inb (d + 2047) 4096 = true :=
  squash_index_ok d h1 h2

/-- one call of `LogisticAdaptiveProbMap.Get(bit, pr, ctx)` on a map of `n` contexts with `pr` in
`[0, 4095]` and `ctx` in `[0, n)`: no index fault, the map stays well formed, the result is in `[0, 4095]` -/
theorem C12_tpaq_apm (a : APM) (n : Nat) (bit : Bool) (pr ctx : Int) (h : ApmOk a n)
    (hp : 0 ≤ pr ∧ pr ≤ 4095) (hc : 0 ≤ ctx ∧ ctx < n) :
    (apmGet a bit pr ctx).2.2 = true ∧ ApmOk (apmGet a bit pr ctx).2.1 n ∧
    0 ≤ (apmGet a bit pr ctx).1 ∧ (apmGet a bit pr ctx).1 ≤ 4095 := apmGet_ok h bit hp hc

/-- **C12_tpaq_run.**  Whole runs from a fresh predictor (parameters as in `C12_tpaq_init`), any bit
sequence of any length: every `Get()` is in `[1, 4095]`, nothing faults (`tpaqRunF` = the run with panics
as `none`), and the final state satisfies the invariant. -/
theorem C12_tpaq_run (c : Option CtxArgs) (s : TPAQ) (hc : ArgsOk c) (h : tpaqNew c = .ok s) (bits : List Bool) :
    (∀ p ∈ tpaqRun s bits, 1 ≤ p ∧ p ≤ 4095) ∧
    tpaqRunF s bits = some ((tpaqRun s bits).map Int.ofNat) ∧
    R (tpaqRunState s bits) :=
  ⟨run_range _ (R_new hc h) bits, runF_some _ (R_new hc h) bits, R_runState _ (R_new hc h) bits⟩

/-- **C12_tpaq_consts.**  The constants the model was transcribed with are the values the Go type checker
computes for the named constants of /repo/v2/entropy (`Kanzi/Generated/Consts.lean`, regenerated from /repo
on every run): a changed mask, hash multiplier, learn rate or size breaks this obligation. -/
theorem C12_tpaq_consts :
    Kanzi.Generated.Consts.entropy._TPAQ_MAX_LENGTH = maxLength ∧
    Kanzi.Generated.Consts.entropy._TPAQ_BUFFER_SIZE = bufferSizeMax ∧
    Kanzi.Generated.Consts.entropy._TPAQ_HASH_SIZE = hashSizeMax ∧
    Kanzi.Generated.Consts.entropy._TPAQ_MASK_80808080 = mask80808080.toInt ∧
    Kanzi.Generated.Consts.entropy._TPAQ_MASK_F0F0F000 = maskF0F0F000.toInt ∧
    (Kanzi.Generated.Consts.entropy._TPAQ_MASK_4F4FFFFF : Int) = mask4F4FFFFF.toInt ∧
    Kanzi.Generated.Consts.entropy._TPAQ_MASK_FFFF0000 = maskFFFF0000.toInt ∧
    (Kanzi.Generated.Consts.entropy._TPAQ_HASH : Int) = hashK.toInt ∧
    (Kanzi.Generated.Consts.entropy._TPAQ_BEGIN_LEARN_RATE : Int) = beginLearnRate.toInt ∧
    (Kanzi.Generated.Consts.entropy._TPAQ_END_LEARN_RATE : Int) = endLearnRate.toInt ∧
    Kanzi.Generated.Consts.entropy.LOGISTIC_APM = 1 := by decide

/-- **C12_tpaq_tables.**  The tables of the model: `squashTab` / `stretchTab` are computed by the two loops
of `init()` (internal/Global.go) from `_INV_EXP`; they have 4096 entries, every `SQUASH` entry and every
value of `internal.Squash` is in `[0, 4095]`, every `STRETCH` entry is in `[-2047, 2047]` (proved from
the loops, for all entries); the literal tables have the lengths of the Go literals.  That these tables
ARE the ones of the Go program is tied by the `tables` line of the `tpaqpred` stream (hashes of the real
`internal.SQUASH`, `internal.STRETCH`, `_TPAQ_STATE_TRANSITIONS`, `_TPAQ_STATE_MAP`, `_TPAQ_MATCH_PRED`
obtained through `entropy.VerifTPAQTables`, compared with hashes of the model's tables). -/
theorem C12_tpaq_tables :
    squashTab.size = 4096 ∧ stretchTab.size = 4096 ∧
    (∀ i, 0 ≤ squashTab.getD i 0 ∧ squashTab.getD i 0 ≤ 4095) ∧
    (∀ d, 0 ≤ squash d ∧ squash d ≤ 4095) ∧
    (∀ i, -2047 ≤ stretchTab.getD i 0 ∧ stretchTab.getD i 0 ≤ 2047) ∧
    (∀ x, -2047 ≤ x → x ≤ 2047 → 0 ≤ squashEntry x ∧ squashEntry x ≤ 4095) ∧
    trans0.size = 256 ∧ trans1.size = 256 ∧ stateMap.size = 256 ∧ matchPred.size = 88 ∧ invExp.size = 33 :=
  ⟨squashTab_size, stretchTab_size, squashTab_getD, squash_range, stretchTab_getD, squashEntry_range,
   trans0_size, trans1_size, stateMap_size, matchPred_size, invExp_size⟩

/-! ### the predictor as a state machine (interface of the binary entropy coder) -/

/-- `get` : state before `Get()` ↦ the value returned -/
def tpaqPredGet (s : TPAQ) : Nat := (tpaqGet s).1
/-- `update` : state before `Get()`, bit ↦ state after `Get(); Update(bit)` -/
def tpaqPredUpdate (s : TPAQ) (b : Bool) : TPAQ := tpaqUpdate (tpaqGet s).2 b

/-- **C12_tpaq_pred_safe.**  The premises `step` and `range` of `Pred.Safe.of12`, from which
`C12_tpaq_codec_safe` builds `Pred.Safe ⟨tpaqPredGet, tpaqPredUpdate, 4⟩ TPAQ.R`, plus the lower
bound 1. -/
theorem C12_tpaq_pred_safe :
    (∀ s b, R s → R (tpaqPredUpdate s b)) ∧ (∀ s, R s → tpaqPredGet s ≤ 4095) ∧ (∀ s, R s → 1 ≤ tpaqPredGet s) :=
  ⟨fun _ b h => R_step h b, fun _ h => (get_range h).2, fun _ h => (get_range h).1⟩

/-! ### the hypotheses are satisfiable -/

/-- the parameters of a default stream (TPAQ, 4 MB blocks, a 1000 byte block, bitstream version 6) -/
example : ArgsOk (some { entropy := .str "TPAQ", blockSize := .uint 4194304, size := .uint 1000, bsVersion := .uint 6 }) :=
  ⟨Nat.le_of_lt_succ (by decide), Nat.le_of_lt_succ (by decide)⟩

example : ArgsOk none := trivial

/-- the table sizes of a nil context satisfy `SizesOk`, hence the fresh predictor satisfies `R` -/
example : ∃ z, sizesOf none = .ok z ∧ R (tpaqOfSizes z) :=
  ⟨_, rfl, R_ofSizes (sizesOf_ok (c := none) trivial rfl)⟩

end Kanzi.C12
