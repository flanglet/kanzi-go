/-
C13 for the Burrows-Wheeler transform as the stream uses it (`transform.BWT`, `transform.BWTBlockCodec`)
— property theorems only; proofs in `Kanzi/Proofs/BWT*.lean`.  The model (`Kanzi/Model/BWT.lean`) mirrors
v2/transform/BWT.go (Inverse, inverseMergeTPSI, inverseBiPSIv2, inverseBiPSIv2Task, GetBWTChunks) and
v2/transform/BWTBlockCodec.go (header, bsVersion 6) and is tied to /repo by the `bwt` stream.

The forward suffix sort (DivSufSort.go) is NOT modelled.  It is represented by its SPECIFICATION
(`Kanzi.BWT.sa`: the suffixes sorted with the implicit end marker; `bwtData`, `bwtIndexes`), and the
`bwt` stream compares the real `BWT.Forward` with it (all output bytes and every primary index) — by the
Lean driver evaluating the spec itself on blocks up to 1 KiB, and by an independent Go reference on
blocks up to 1 MiB.  "Forward" in the theorems below is the spec.

Conventions: bytes are `Nat` below 256; `Array Nat` buffers; `this.buffer` (kept between calls on one
instance) is an argument `buf` of every entry point (`#[]` = fresh instance) and the 8 primary index
slots are a `List Nat`; `.ok out` = the bytes written with a nil error, `.err c` = a returned error,
`.fault` = a Go run-time panic that reaches the caller, `.hang` = an endless loop.
-/
import Kanzi.Model.BWT
import Kanzi.Generated.Consts
import Kanzi.Proofs.BWTBlock
import Kanzi.Proofs.BWTBiTotal
import Kanzi.Proofs.BWTBiDecode
import Kanzi.Proofs.BWTBiDisjoint

namespace Kanzi.C13
open Kanzi.BWT

/-- C13_bwt_chunks: the chunk count table of `GetBWTChunks` (1 below 256 bytes, 8 from 256 bytes on —
the strict `<` matters for the stream format: C10), the two thresholds, the header and block size
limits, the fast-bits width, as the Go type checker sees the constants. -/
theorem C13_bwt_chunks :
    (∀ n, getBWTChunks n = if n < 256 then 1 else 8) ∧
    getBWTChunks 255 = 1 ∧ getBWTChunks 256 = 8 ∧
    THRESHOLD1 = Kanzi.Generated.Consts.transform._BWT_BLOCK_SIZE_THRESHOLD1 ∧
    THRESHOLD2 = Kanzi.Generated.Consts.transform._BWT_BLOCK_SIZE_THRESHOLD2 ∧
    MAX_BLOCK_SIZE = Kanzi.Generated.Consts.transform._BWT_MAX_BLOCK_SIZE ∧
    MAX_HEADER_SIZE = Kanzi.Generated.Consts.transform._BWT_MAX_HEADER_SIZE ∧
    NB_FASTBITS = Kanzi.Generated.Consts.transform._BWT_NB_FASTBITS ∧
    MASK_FASTBITS = Kanzi.Generated.Consts.transform._BWT_MASK_FASTBITS :=
  ⟨fun _ => rfl, by decide, by decide, by decide, by decide, by decide, by decide, by decide, by decide⟩

/-- C13_bwt_header: HEADER ROUND TRIP with exact length.  For the chunk count of the data (1 or 8), every
index width `psz` in 1..4 and all primary indexes in `1 .. 256^psz` (with four bytes: every index up
to 2^32), parsing `header ++ data` returns exactly those indexes in the first `chunks` slots, leaves
the other slots as they were, and reports the header length `1 + chunks * psz` (at most 33). -/
theorem C13_bwt_header (old pidx data : List Nat) (psz : Nat) (hp : 1 ≤ psz ∧ psz ≤ 4)
    (hidx : ∀ i, i < getBWTChunks data.length → 1 ≤ pidx.getD i 0 ∧ pidx.getD i 0 ≤ 256 ^ psz) :
    (headerBytes (getBWTChunks data.length) psz pidx).length = getBWTChunks data.length * psz + 1 ∧
    parseHeader old (headerBytes (getBWTChunks data.length) psz pidx ++ data)
      = .ok { pidx := (List.range (getBWTChunks data.length)).map (fun i => pidx.getD i 0)
                        ++ old.drop (getBWTChunks data.length),
              headerSize := getBWTChunks data.length * psz + 1 } :=
  ⟨headerBytes_length _ _ _, parseHeader_headerBytes old pidx data psz hp hidx⟩

/-- C13_bwt_header_width: the width `Forward` chooses for a block of `n` bytes (2 .. 2^30) is 1..4
bytes and every row number `1 .. n` minus one fits it. -/
theorem C13_bwt_header_width (n : Nat) (h2 : 2 ≤ n) (hmax : n ≤ MAX_BLOCK_SIZE) :
    1 ≤ pIndexSizeOf n ∧ pIndexSizeOf n ≤ 4 ∧ n ≤ 256 ^ pIndexSizeOf n :=
  ⟨(pIndexSize_range n h2 hmax).1, (pIndexSize_range n h2 hmax).2, le_pow_pIndexSize n (by omega)⟩

/-- C13_bwt_header_reject: what `BWTBlockCodec.Inverse` has checked when it accepts a (possibly forged)
header: the header is 2..33 bytes and fits the input; the chunk count is the one of the remaining data
length (so a header with the other chunk count, e.g. after a symmetric change of the threshold
comparison, is rejected); every extracted index is in `1 .. 2^32`; the other slots are untouched. -/
theorem C13_bwt_header_reject (old src : List Nat) (hb : ∀ b ∈ src, b < 256) (h : Header)
    (hok : parseHeader old src = .ok h) :
    h.headerSize ≤ src.length ∧ 2 ≤ h.headerSize ∧ h.headerSize ≤ MAX_HEADER_SIZE ∧
    (∀ i, i < getBWTChunks (src.length - h.headerSize) → 1 ≤ h.pidx.getD i 0 ∧ h.pidx.getD i 0 ≤ 2 ^ 32) ∧
    h.pidx.drop (getBWTChunks (src.length - h.headerSize)) = old.drop (getBWTChunks (src.length - h.headerSize)) :=
  parseHeader_ok old src hb h hok

/-- C13_bwt_forward_fits: on a block of 2 bytes .. 1 GiB into a destination of at least `MaxEncodedLen`
bytes, `BWTBlockCodec.Forward` succeeds with exactly `len + 1 + chunks * width` bytes, which is at most
`MaxEncodedLen(len) = len + 33`. -/
theorem C13_bwt_forward_fits (s : List Nat) (h2 : 2 ≤ s.length) (hmax : s.length ≤ MAX_BLOCK_SIZE)
    (dstLen : Nat) (hd : maxEncodedLen s.length ≤ dstLen) :
    ∃ enc, blockForward s dstLen = .ok enc ∧
      enc.length = s.length + 1 + getBWTChunks s.length * pIndexSizeOf s.length ∧
      enc.length ≤ maxEncodedLen s.length :=
  blockForward_length s h2 hmax dstLen hd

/-- C13_bwt_inverse_mergeTPSI (the heart): for EVERY block `s` of at least 2 bytes (shorter than 2^31;
the code uses this algorithm up to 4 MiB), `inverseMergeTPSI` applied to the spec output of `s` — the
last column of the sorted suffixes without the end-marker row, with the primary index of chunk `k` = the
row of suffix `k * ceil(n/chunks)` — returns `s`: for one chunk (blocks below 256 bytes) and for eight
chunks, whatever the previous contents of the work buffer and of the unused index slots.
Proof: the scatter loop is a stable counting sort of the rows by BWT symbol, hence (LF fact: rows with
the same BWT symbol keep the order of their suffixes) position `a` of the table holds
`psi(a) << 8 | s[SA[a]]`, psi = inverse LF; each lane then walks the text forward. -/
theorem C13_bwt_inverse_mergeTPSI (s : List Nat) (hs : 2 ≤ s.length) (hn : s.length < 2 ^ 31)
    (hb : ∀ x ∈ s, x < 256) (buf : Array Nat) (hbuf : buf.size < 2 ^ 31) (rest : List Nat) :
    (mergeTPSI buf (bwtIndexes s ++ rest) (bwtData s).toArray).1 = .ok s.toArray :=
  mergeTPSI_spec s hs hn hb buf hbuf rest

/-- C13_bwt_roundtrip_small: C13 for BWTBlockCodec on blocks of 2 bytes .. 4 MiB (the `inverseMergeTPSI`
route): Forward into a destination of at least `MaxEncodedLen` bytes succeeds, its output fits in
`MaxEncodedLen`, and Inverse of it — on any instance (stale buffer, old slots), with any job count,
into ANY destination of at least the block length — restores the block exactly. -/
theorem C13_bwt_roundtrip_small (s : List Nat) (h2 : 2 ≤ s.length) (hmax : s.length ≤ THRESHOLD2)
    (hb : ∀ x ∈ s, x < 256) (fdst : Nat) (hfd : maxEncodedLen s.length ≤ fdst)
    (buf : Array Nat) (hbuf : buf.size < 2 ^ 31) (old : List Nat) (jobs idst : Nat) (hid : s.length ≤ idst) :
    ∃ enc, blockForward s fdst = .ok enc ∧ enc.length ≤ maxEncodedLen s.length ∧
      (blockInverse buf old jobs enc.toArray idst).1 = .ok s.toArray :=
  block_roundtrip_small s h2 hmax hb fdst hfd buf hbuf old jobs idst hid

/-- C13_bwt_total_mergeTPSI: `inverseMergeTPSI` NEVER faults, on ANY non-empty input: any bytes (forged,
truncated, random), any contents of the 8 primary index slots (any `uint`), any stale work buffer whose pointers
stay inside it (`Closed`: true of a fresh instance and preserved by every call, second conjunct).  It
returns exactly `len(src)` bytes or the "corrupted primary index" error.  (Before the fix F30, 9141a82,
the Go function indexed past its work buffer on blocks below 256 bytes with a forged in-range index.) -/
theorem C13_bwt_total_mergeTPSI (buf : Array Nat) (pidx : List Nat) (src : Array Nat)
    (hb : ∀ b ∈ src.toList, b < 256) (h1 : 1 ≤ src.size) (hbuf : Closed buf) :
    ((∃ out, (mergeTPSI buf pidx src).1 = .ok out ∧ out.size = src.size) ∨
      (mergeTPSI buf pidx src).1 = .err "pidx") ∧ Closed (mergeTPSI buf pidx src).2 :=
  mergeTPSI_total buf pidx src hb h1 hbuf

/-- the buffer invariant holds for a fresh instance -/
example : Closed #[] := closed_empty

/-- C13_bwt_total_biPSI: `inverseBiPSIv2` (blocks above 4 MiB) on ANY input: any bytes, any job count >= 1,
any destination at least as long as the block, first primary index in `1 .. 2^63 - 1` (BWTBlockCodec
delivers `1 .. 2^32`), ANY values in the other index slots, work buffer whose stale entries are at
most `n` (fresh instance, or an instance that last inverted a block of at most this size).  The call
returns exactly `len(src)` bytes, "corrupted primary index" or "invalid data": no index fault reaches
the calling goroutine and no scan loop spins (`.hang`) — the content of the fixes F6 and F24.
The hypotheses are sharp: with first index 0 the model (and the real `BWT.Inverse`) faults (not
reachable through BWTBlockCodec, which adds 1), and with a stale buffer holding rows above `n` the scan
can spin forever (needs one BWT instance reused for a larger and then a forged smaller block; io.Reader
creates a fresh transform per block).  Both are observations, not findings. -/
theorem C13_bwt_total_biPSI (buf : Array Nat) (pidx : List Nat) (jobs : Nat) (src : Array Nat) (dstLen : Nat)
    (hb : ∀ b ∈ src.toList, b < 256) (h2 : 2 ≤ src.size) (hn : src.size < 2 ^ 63)
    (hp0 : 1 ≤ pidx.getD 0 0 ∧ pidx.getD 0 0 < 2 ^ 63) (hjobs : 1 ≤ jobs) (hd : src.size ≤ dstLen)
    (hbuf : ∀ a, rd buf a ≤ src.size) :
    (∃ out, (biPSIv2 buf pidx jobs src dstLen).1 = .ok out ∧ out.size = src.size) ∨
      (biPSIv2 buf pidx jobs src dstLen).1 = .err "pidx" ∨
      (biPSIv2 buf pidx jobs src dstLen).1 = .err "data" :=
  biPSIv2_total buf pidx jobs src dstLen hb h2 hn hp0 hjobs hd hbuf

/-- C13_bwt_total: `BWTBlockCodec.Inverse` on a fresh instance NEVER faults and never hangs, on ANY input:
arbitrary bytes (forged mode byte, forged primary indexes, truncated or random data, any length up to
the 1 GiB limit and beyond), any old index slots, any job count >= 1, any destination size.  It returns
a block or an error.  This covers header parsing, the dispatch on the block size, `inverseMergeTPSI`
and `inverseBiPSIv2` with its goroutines. -/
theorem C13_bwt_total (old : List Nat) (jobs : Nat) (src : Array Nat) (dstLen : Nat)
    (hb : ∀ b ∈ src.toList, b < 256) (hjobs : 1 ≤ jobs) :
    (∃ out, (blockInverse #[] old jobs src dstLen).1 = .ok out) ∨
      ∃ e, (blockInverse #[] old jobs src dstLen).1 = .err e :=
  blockInverse_total old jobs src dstLen hb hjobs

/-- C13_bwt_inverse_biPSI: `inverseBiPSIv2` APPLIED TO THE SPEC OUTPUT OF `s` RETURNS `s`, for every
block `s` of at least 256 bytes (eight chunks; the code uses this algorithm above 4 MiB), with the
chunk primary indexes of the spec, every job count >= 1 (the 8 chunks split among min(jobs, 8) tasks by
`ComputeJobsPerTask`, C05), every destination at least as long as the block — exactly as long included —,
any stale work buffer, any extra index slots.  (Model of /repo after 5aab71a, the fix of finding F46;
without that fix the case "one job and a block of 8 * odd bytes" has to be excluded.)
Proof: the first loop counts bigrams per row, the second turns the counts into bucket starts in
bigram order, the third is a two level counting sort, so (TWO-STEP LF FACT `lf2_bucket`: rows with the
same bigram keep the order of their suffixes two positions later) `data[row of suffix j] = row of
suffix j+2` and `buckets[x<<8|y]` = end of the rows of bigram `x y`; the fast-bits entry is at or before
the bigram of a row and the scan stops exactly there; each lane writes two bytes of `s` per step, only
the first byte in the last step of an odd chunk. -/
theorem C13_bwt_inverse_biPSI (s : List Nat) (hn : 256 ≤ s.length) (hlt : s.length < 2 ^ 63)
    (hb : ∀ x ∈ s, x < 256) (buf : Array Nat) (rest : List Nat) (jobs : Nat) (hjobs : 1 ≤ jobs)
    (dstLen : Nat) (hd : s.length ≤ dstLen) :
    (biPSIv2 buf (bwtIndexes s ++ rest) jobs (bwtData s).toArray dstLen).1 = .ok s.toArray :=
  biPSIv2_spec s hn hlt hb buf rest jobs hjobs dstLen hd

/-- C13_bwt_tasks_disjoint (the C18 mechanism "inverse BWT workers write disjoint output ranges"): for
every block of at least 256 bytes and every job count >= 1, with `rs` the chunk ranges handed to the
goroutines and `ck = ceil(total/8)`: the task of the range `(fc, lc)` changes `dst` ONLY at indexes in
`[fc*ck, lc*ck)` (`[fc*ck, total)` for the task holding the last chunk) — for ANY contents of the shared
tables, valid or forged, since the written indexes depend on the loop counters only —, the ranges of
different tasks are pairwise disjoint, non-empty and inside the block.  (The byte `dst[total-1]` that
`inverseBiPSIv2` sets after `wg.Wait()` lies in the last range and is written after the tasks ended.)
A task that panics is recovered and its result discarded; its writes before the panic are a subset of
the writes of the same loops, i.e. of the same range.  Before /repo 5aab71a the last pair of an odd
chunk also wrote the first byte of the next range. -/
theorem C13_bwt_tasks_disjoint (jobs total : Nat) (hj : 1 ≤ jobs) (ht : 256 ≤ total) :
    ∃ rs, Kanzi.Jobs.bwtSplit jobs (getBWTChunks total) = .ok rs ∧
      (∀ r ∈ rs, ∀ (sh : Shared) (dst dst' : Array Nat),
        task sh dst total (r.1 * chunkSize total 8) (chunkSize total 8) r.1 r.2 = .ok dst' →
        dst'.size = dst.size ∧
        ∀ pos, (pos < r.1 * chunkSize total 8 ∨ regionEnd total (chunkSize total 8) r.2 ≤ pos) →
          rd dst' pos = rd dst pos) ∧
      rs.Pairwise (fun p q => regionEnd total (chunkSize total 8) p.2 ≤ q.1 * chunkSize total 8) ∧
      (∀ r ∈ rs, r.1 * chunkSize total 8 < regionEnd total (chunkSize total 8) r.2 ∧
        regionEnd total (chunkSize total 8) r.2 ≤ total) :=
  tasks_disjoint jobs total hj ht

/-- C13_bwt_inverse_biPSI_tables: the tables behind the previous theorem, for ANY source bytes and
`1 <= pIdx <= n` (not only spec outputs): the three construction loops and the transposition stay inside
their arrays and produce `buckets[x<<8|y] = endK (x,y)` and `data[startK (x,y) + j]` = the row written
for the j-th source index whose bigram is `x y`, every other entry of `data` untouched. -/
theorem C13_bwt_inverse_biPSI_tables (src : Array Nat) (hb : ∀ b ∈ src.toList, b < 256) (p0 : Nat)
    (hp : 1 ≤ p0 ∧ p0 ≤ src.size) (hn : src.size < 2 ^ 64) (data0 : Array Nat) (hd : src.size + 1 ≤ data0.size) :
    ∃ fr bk1 bk2 fbs v fr3 bk3 d3 fr4 bk4 d4,
      biHist src (histogram src) p0 256 0 1 (Array.emptyWithCapacity 256) (Array.replicate 65536 0) = some (fr, bk1) ∧
      biStarts (rd src 0) (shiftOf src.size) 256 0 0 1 bk1 (Array.replicate (MASK_FASTBITS + 1) 0) = some (bk2, fbs) ∧
      biFill src p0 0 p0 0 fr bk2 data0 = some (fr3, bk3, d3) ∧
      biFill src p0 1 (src.size - p0) p0 fr3 bk3 d3 = some (fr4, bk4, d4) ∧
      StInv src p0 (shiftOf src.size) 65536 v bk2 fbs ∧
      Tables src p0 data0 (transpose bk4) d4 :=
  tables_spec src hb p0 hp hn data0 hd

/-- C13_bwt_roundtrip_big: C13 for BWTBlockCodec on blocks above 4 MiB up to the 1 GiB limit (the
`inverseBiPSIv2` route), same statement as `C13_bwt_roundtrip_small`: any instance state, any job
count >= 1, any destination of at least (also exactly) the block length. -/
theorem C13_bwt_roundtrip_big (s : List Nat) (hbig : THRESHOLD2 < s.length) (hmax : s.length ≤ MAX_BLOCK_SIZE)
    (hb : ∀ x ∈ s, x < 256) (fdst : Nat) (hfd : maxEncodedLen s.length ≤ fdst)
    (buf : Array Nat) (old : List Nat) (jobs idst : Nat) (hjobs : 1 ≤ jobs) (hid : s.length ≤ idst) :
    ∃ enc, blockForward s fdst = .ok enc ∧ enc.length ≤ maxEncodedLen s.length ∧
      (blockInverse buf old jobs enc.toArray idst).1 = .ok s.toArray :=
  block_roundtrip_big s hbig hmax hb fdst hfd buf old jobs idst hjobs hid

end Kanzi.C13
