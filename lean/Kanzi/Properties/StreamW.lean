/-
Writer-side property theorems (C01 writer half, C04 partition/jobs independence, C08 writer, C17
writer) over `Model.Writer`.  Proofs in `Kanzi/Proofs/Writer.lean`.
All theorems hold for every block size B ≥ 1, every job count J ≥ 1 and every value of the size
hint (nbIn), i.e. in particular for the real ranges 1024 ≤ B ≤ 2^30, J ≤ 64, nbIn ≤ 63.
-/
import Kanzi.Model.Writer
import Kanzi.Spec.Stream
import Kanzi.Proofs.Writer

namespace Kanzi.StreamW
open Kanzi.Writer Kanzi.Spec

/-- C01 (writer half) + C04 (partition and jobs independence): on a healthy sink every Write returns
its full length without error, Close returns nil, and the blocks handed to the shared stream are
exactly the accepted bytes cut into B-sized blocks — a function of the data and B only: not of the
partition into Write calls, not of the job count, not of the size hint. -/
theorem C04_writer_blocks (c : Cfg) (hB : 0 < c.B) (hJ : 0 < c.J) (parts : List (List Nat)) :
    let r := run c (init c) (healthyProgram parts)
    r.2 = parts.map (fun d => Out.wrote d.length none) ++ [Out.closedR none] ∧
    r.1.emitted = chunks c.B parts.flatten ∧
    r.1.closed = true ∧ r.1.endOut = true ∧ r.1.headerOut = !c.headless ∧ r.1.failed = false :=
  Kanzi.Writer.healthy_run c hB hJ parts

/-- C04_partition_independent, stated as such -/
theorem C04_partition_independent (c : Cfg) (hB : 0 < c.B) (hJ : 0 < c.J) (p1 p2 : List (List Nat))
    (h : p1.flatten = p2.flatten) :
    (run c (init c) (healthyProgram p1)).1.emitted = (run c (init c) (healthyProgram p2)).1.emitted := by
  have h1 := (C04_writer_blocks c hB hJ p1).2.1
  have h2 := (C04_writer_blocks c hB hJ p2).2.1
  rw [h1, h2, h]

/-- C04_jobs_independent: two configurations that differ only in jobs and size hint emit the same blocks -/
theorem C04_jobs_independent (c1 c2 : Cfg) (hB : 0 < c1.B) (hBe : c1.B = c2.B) (hJ1 : 0 < c1.J) (hJ2 : 0 < c2.J)
    (parts : List (List Nat)) :
    (run c1 (init c1) (healthyProgram parts)).1.emitted = (run c2 (init c2) (healthyProgram parts)).1.emitted := by
  have h1 := (C04_writer_blocks c1 hB hJ1 parts).2.1
  have h2 := (C04_writer_blocks c2 (hBe ▸ hB) hJ2 parts).2.1
  rw [h1, h2, hBe]

/-- C17: a closed writer is absorbing: Close returns nil, Write returns (0, closed), GetWritten is
unchanged, and nothing observable changes -/
theorem C17_closed_absorbing (c : Cfg) (s : St) (h : s.closed = true) (op : Op) :
    (step c s op).1 = s ∧
    (match op with
     | .write _ _ => (step c s op).2 = Out.wrote 0 (some Err.closed)
     | .close _ => (step c s op).2 = Out.closedR none
     | .getWritten => (step c s op).2 = Out.written (getWritten s)) :=
  Kanzi.Writer.closed_absorbing c s h op

/-- C17: the byte counter never decreases, whatever the program and the faults -/
theorem C17_getWritten_monotone (c : Cfg) (s : St) (op : Op) :
    getWritten s ≤ getWritten (step c s op).1 :=
  Kanzi.Writer.getWritten_mono c s op

/-- C17: after a successful Close of a healthy program, GetWritten is the size of the image:
header + all frames + end marker, rounded up to a byte -/
theorem C17_getWritten_final (c : Cfg) (hB : 0 < c.B) (hJ : 0 < c.J) (parts : List (List Nat)) :
    getWritten (run c (init c) (healthyProgram parts)).1 =
      ((if c.headless then 0 else c.headerBits) +
        ((chunks c.B parts.flatten).map c.frameBits).sum + 8 + 7) / 8 :=
  Kanzi.Writer.getWritten_final c hB hJ parts

/-- reachable states: any program, any faults -/
def Reachable (c : Cfg) (s : St) : Prop := ∃ ops, (run c (init c) ops).1 = s

/-- C08 (writer): for EVERY program and EVERY placement of sink faults: if the writer ends up closed
(i.e. some Close reported success) then every accepted byte is in the emitted blocks, in order,
exactly once, cut into B-sized blocks, and the end marker was written.  Success is never reported
for a stream with bytes missing. -/
theorem C08_closed_means_complete (c : Cfg) (hB : 0 < c.B) (hJ : 0 < c.J) (ops : List Op) :
    let r := run c (init c) ops
    r.1.closed = true →
      r.1.emitted = chunks c.B (accepted ops r.2) ∧ r.1.endOut = true ∧ r.1.headerOut = !c.headless ∧
      r.1.failed = false :=
  Kanzi.Writer.closed_means_complete c hB hJ ops

/-- C08 (writer), PARTIAL: the error state is sticky: after a failed block every Write is refused with
an error (nothing is accepted) and every Close fails; the writer never becomes closed.
PARTIAL because the statement over ALL states (hypotheses `failed` and `¬closed` only) is false: the
state `{ init c with failed := true, finalized := true }` — which no program can produce — is closed
successfully by `Close` (phase 1 is skipped).  Hence the extra hypothesis `s.finalized = false` (which
is also preserved, making the statement inductive); for every REACHABLE state it is not needed:
`C08_failed_sticky_reachable` below. -/
theorem C08_failed_sticky (c : Cfg) (s : St) (h : s.failed = true) (hc : s.closed = false)
    (hfin : s.finalized = false) (op : Op) :
    (step c s op).1.failed = true ∧ (step c s op).1.closed = false ∧ (step c s op).1.finalized = false ∧
    (match op with
     | .write _ _ => ∃ e, (step c s op).2 = Out.wrote 0 (some e)
     | .close _ => ∃ e, (step c s op).2 = Out.closedR (some e)
     | .getWritten => True) :=
  Kanzi.Writer.failed_sticky_partial c s h hc hfin op

/-- C08 (writer): the sticky-error statement for every reachable state (any program, any
faults, any B, J), with `failed` as the only hypothesis: a reachable failed writer is not closed, refuses every Write with an error, fails
every Close and never becomes closed -/
theorem C08_failed_sticky_reachable (c : Cfg) (s : St) (hr : Reachable c s) (h : s.failed = true) (op : Op) :
    s.closed = false ∧ (step c s op).1.failed = true ∧ (step c s op).1.closed = false ∧
    (match op with
     | .write _ _ => ∃ e, (step c s op).2 = Out.wrote 0 (some e)
     | .close _ => ∃ e, (step c s op).2 = Out.closedR (some e)
     | .getWritten => True) := by
  obtain ⟨ops, hops⟩ := hr
  exact Kanzi.Writer.failed_sticky_reachable c ops s hops h op

/-- C08 (writer): a fault that fires is reported by the call during which it happens -/
theorem C08_close_fault_reported (c : Cfg) (s : St) (f : Fault) (hf : f = .endMarker ∨ f = .finalFlush ∨ f = .closer)
    (hc : s.closed = false) : (close c s f).2 ≠ none ∨ (close c s f).1.closed = false ∨
      (f = .finalFlush ∧ s.obsClosed = true) ∨ (f = .closer ∧ s.closerClosed = true) ∨ (f = .endMarker ∧ s.finalized = true) :=
  Kanzi.Writer.close_fault_reported c s f hf hc

end Kanzi.StreamW
