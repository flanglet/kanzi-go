/-
C12 (CM entropy codec, predictor side) — the context-mixing bit predictor
`/repo/v2/entropy/CMPredictor.go` (`NewCMPredictor`, `Get`, `Update`), which the CM codec plugs into
the binary arithmetic coder (`entropy.NewBinaryEntropyEncoder(bs, cmPredictor)` / decoder).
Property theorems only; proofs live in `Kanzi/Proofs/CM.lean`, the model in `Kanzi/Model/CM.lean`
(`cmInit`, `cmGet`, `cmUpdate`, …), tied to /repo by the `cmpred` correspondence stream (the real
`entropy.CMPredictor` is driven with generated and adversarial bit sequences; the sequence of
`Get()` values must be identical to the model's).

What the binary coder needs from a predictor: a deterministic state machine whose `Get()` lies in
`[0, 4095]` on every reachable state.  `CM.R` is an inductive invariant (`C12_cm_init`,
`C12_cm_step`) under which
  * `Get()` is in `[0, 4095]` for BOTH bitstream-version branches (`C12_cm_get_range`),
  * no slice index of `Get`/`Update` is out of range (`C12_cm_no_fault`),
  * no `int32` / `int` operation wraps around, so the Go arithmetic is arithmetic in Z (`C12_cm_int32`).

The invariant (`Kanzi.CM.R`): `c1, c2 < 256`, `1 ≤ ctx ≤ 255`, `runMask ∈ {0, 256}`, `0 ≤ idx ≤ 15`,
`counter1` = 256 rows of 257 entries in `[0, 65520]`, `counter2` = 512 rows of 17 entries in
`[0, 65520]` — except column 16 of the current bitstream version (`isBsVersion3 = false`), which
starts at 65535 and stays in `[0, 65535]`.  The bound 65520 = `_CM_PSCALE - 16` is what the `+ 16` of
the update rule `x -= (x - _CM_PSCALE + 16) >> rate` enforces; it is exactly what keeps `Get()` below
4096 (see the two `example`s at the end: with an entry 65535 in a column below 16, or in column 16
of a version-3 table, the formulas return 4096).

Plugging into the binary coder's predictor interface is one line (`cmPredGet`, `cmPredUpdate`,
`C12_cm_pred_safe`): state = the state BEFORE `Get()`, `get s = (cmGet s).1`,
`update s b = cmUpdate (cmGet s).2 b`.
-/
import Kanzi.Model.CM
import Kanzi.Proofs.CM
import Kanzi.Generated.Consts

namespace Kanzi.C12
open Kanzi.CM

/-- **C12_cm_init.**  The state built by `NewCMPredictor` (either bitstream version) satisfies the invariant. -/
theorem C12_cm_init (v3 : Bool) : R (cmInit v3) := R_init v3

/-- **C12_cm_new.**  `NewCMPredictor(ctx)` fails exactly when `ctx["bsVersion"]` is present with a
dynamic type other than `uint`; otherwise it returns the initial state with
`isBsVersion3 = (bsVersion < 4)` (default 4), which satisfies the invariant. -/
theorem C12_cm_new (a : BsArg) :
    (cmNew a = none ↔ a = .otherType) ∧
    (∀ s, cmNew a = some s → R s ∧
      s = cmInit (match a with | .uint v => decide (v < 4) | _ => false)) := by
  cases a <;> simp [cmNew, R_init]

/-- **C12_cm_step.**  One round of the coder's call pattern, `Get()` then `Update(bit)`, preserves the
invariant.  (`Get()` alone and `Update` alone preserve it too.) -/
theorem C12_cm_step (s : CM) (b : Bool) (h : R s) : R (cmUpdate (cmGet s).2 b) := R_step h b

theorem C12_cm_step_get (s : CM) (h : R s) : R (cmGet s).2 := R_get h
theorem C12_cm_step_update (s : CM) (b : Bool) (h : R s) : R (cmUpdate s b) := R_update h b

/-- **C12_cm_get_range.**  On every state satisfying the invariant `Get()` returns a value in
`[0, 4095]`, for the current formula `(p + p + 3*(x1+x2) + 64) >> 7` and for the bitstream-version-3
formula `(p + 3*ssep + 32) >> 6` alike.  (`cmGetZ` is the Go `int` result, `cmGet` its `toNat`.) -/
theorem C12_cm_get_range (s : CM) (h : R s) : (cmGet s).1 ≤ 4095 := get_range h

theorem C12_cm_get_rangeZ (s : CM) (h : R s) :
    0 ≤ (cmGetZ s).1 ∧ (cmGetZ s).1 ≤ 4095 ∧ ((cmGet s).1 : Int) = (cmGetZ s).1 :=
  ⟨(getZ_range h).1, (getZ_range h).2, get_cast h⟩

/-- **C12_cm_no_fault.**  On every state satisfying the invariant no index expression of `Get()` is
out of range, and none of the following `Update(bit)`: the functions with an explicit panic outcome
(`cmGetF`, `cmUpdateF`: `none` = Go run-time panic "index out of range") return `some` of what the
total functions compute. -/
theorem C12_cm_no_fault (s : CM) (b : Bool) (h : R s) :
    cmGetF s = some (cmGetZ s) ∧ cmUpdateF (cmGet s).2 b = some (cmUpdate (cmGet s).2 b) :=
  ⟨getF_some h, updateF_some (R_get h) b⟩

theorem C12_cm_no_fault_update (s : CM) (b : Bool) (h : R s) : cmUpdateF s b = some (cmUpdate s b) :=
  updateF_some h b

/-- **C12_cm_int32.**  Every Go operation of `Get`/`Update` whose result has type `int32` goes, in the
model, through a wrap function `w32`, every operation on `int` through `wi`.  Whatever these
functions do outside `[-2^31, 2^31)` (`I32 w` : `w x = x` on that range — true of `wrap32`,
`wrap64`, and of a 32 bit `int`), on a state satisfying the invariant the results are those of
exact integer arithmetic: no intermediate value leaves the int32 range. -/
theorem C12_cm_int32 (w32 wi : Int → Int) (hw32 : I32 w32) (hwi : I32 wi) (s : CM) (b : Bool) (h : R s) :
    cmGetW w32 wi s = cmGetW id id s ∧ cmUpdateW w32 s b = cmUpdateW id s b :=
  ⟨getW_eq hw32 hwi h, updateW_eq hw32 h b⟩

/-- the instance that stands for the Go code on a 64 bit platform -/
theorem C12_cm_int32_go (s : CM) (b : Bool) (h : R s) :
    cmGetZ s = cmGetI s ∧ cmUpdate s b = cmUpdateI s b := ⟨getZ_eq h, update_eq h b⟩

theorem C12_cm_wraps : I32 wrap32 ∧ I32 wrap64 ∧
    (∀ x, wrap32 x = (x + 2147483648) % 4294967296 - 2147483648) ∧
    (∀ x, wrap64 x = (x + 9223372036854775808) % 18446744073709551616 - 9223372036854775808) :=
  ⟨I32_wrap32, I32_wrap64, wrap32_spec, wrap64_spec⟩

/-- **C12_cm_run.**  Whole runs from a fresh predictor, any bit sequence of any length: every `Get()`
is in `[0, 4095]`, nothing faults (`cmRunF` = the run with panics as `none`), and the final state
satisfies the invariant. -/
theorem C12_cm_run (v3 : Bool) (bits : List Bool) :
    (∀ p ∈ cmRun (cmInit v3) bits, p ≤ 4095) ∧
    cmRunF (cmInit v3) bits = some ((cmRun (cmInit v3) bits).map Int.ofNat) ∧
    R (cmRunState (cmInit v3) bits) :=
  ⟨run_range _ (R_init v3) bits, runF_some _ (R_init v3) bits, R_runState _ (R_init v3) bits⟩

/-- **C12_cm_consts.**  The four constants the model was transcribed with are the values the Go type
checker computes for the named constants of /repo/v2/entropy (`Kanzi/Generated/Consts.lean`, regenerated
from /repo on every run): a changed rate or scale breaks this obligation. -/
theorem C12_cm_consts :
    Kanzi.Generated.Consts.entropy._CM_FAST_RATE = fastRate ∧
    Kanzi.Generated.Consts.entropy._CM_MEDIUM_RATE = mediumRate ∧
    Kanzi.Generated.Consts.entropy._CM_SLOW_RATE = slowRate ∧
    (Kanzi.Generated.Consts.entropy._CM_PSCALE : Int) = pscale := by decide

/-! ### the predictor as a state machine (interface of the binary entropy coder) -/

/-- `get` : state before `Get()` ↦ the value returned -/
def cmPredGet (s : CM) : Nat := (cmGet s).1
/-- `update` : state before `Get()`, bit ↦ state after `Get(); Update(bit)` -/
def cmPredUpdate (s : CM) (b : Bool) : CM := cmUpdate (cmGet s).2 b

/-- the premises `step` and `range` of `Pred.Safe.of12`, from which `C12_cm_codec_safe` builds
`Pred.Safe (Pred.ofImpure cmGet cmUpdate) CM.R` -/
theorem C12_cm_pred_safe :
    (∀ s b, R s → R (cmPredUpdate s b)) ∧ (∀ s, R s → cmPredGet s ≤ 4095) :=
  ⟨fun _ b h => R_step h b, fun _ h => get_range h⟩

/-! ### the hypotheses are satisfiable; the invariant cannot be weakened to `≤ 65535` -/

example : R (cmInit false) ∧ R (cmInit true) := ⟨R_init _, R_init _⟩

/-- current formula, `p = 65520`, `x2 = 65535` (reachable) but `x1 = 65535` (excluded by `R`): 4096 -/
example : cmOut id false 65520 65535 65535 = 4096 := by decide
/-- version-3 formula, `p = x1 = 65520` (reachable) but `x2 = 65535` (excluded by `R` for version 3): 4096 -/
example : cmOut id true 65520 65520 65535 = 4096 := by decide
/-- the largest values allowed by `R` give 4095 in both formulas -/
example : cmOut id false 65520 65520 65535 = 4095 ∧ cmOut id true 65520 65520 65520 = 4095 := by decide

end Kanzi.C12
