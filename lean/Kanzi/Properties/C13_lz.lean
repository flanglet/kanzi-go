/-
C13 for the LZ77 codec `transform.LZXCodec` (transform names LZ and LZX) — property theorems only; proofs in
`Kanzi/Proofs/LZLen.lean`, `LZFormat.lean`, `LZFwd.lean`, `LZTotal.lean`.  The model (`Kanzi/Model/LZ.lean`)
mirrors v2/transform/LZCodec.go (`LZXCodec.Forward` with its hash table match finder, lazy matching, repeat
distances, token layout and the four output sections; `inverseV6`; `MaxEncodedLen`; `emitLengthLZ` /
`readLengthLZ`; `findMatchLZX`) and is tied to /repo by the `lz` correspondence stream (byte-exact outputs).

Conventions: a block is an `Array Nat` of byte values; the last argument of `lzForward` is `len(dst)` of the
Go call; `lzInverse t dst0` decodes into a destination whose initial contents are `dst0` (`len(dst) =
dst0.size`; the result never depends on those contents for a valid stream, it does for forged ones).
`.ok t` is `dst[0:written]` with a nil error, `.err c` a non-nil error (Forward declines / Inverse fails),
`.fault` a Go run-time panic (index or slice out of range), a silently shortened `copy`, a `written` count
beyond `len(dst)`, or exhausted model fuel.  `extra` (LZX) and `dt` (the ctx `dataType`) are the two values
Forward reads from its ctx; the theorems hold for all of them.  "Input left untouched on decline" is not a
theorem here (values are immutable); it is an oracle of the stream on the real code.

The encoder is heuristic and nothing is claimed about the matches it finds, except that each one was
verified byte by byte.  The proof goes through the abstract token stream (`Seq`: literals, distance, length):
  `C13_lz_forward_valid`  a successful Forward outputs `stream mm far n qs fl` for a VALID token stream `qs`
                          and final literals `fl` that together denote the block;
  `C13_lz_format`         the decoder restores what ANY valid token stream denotes;
  `C13_lz`                their composition.
-/
import Kanzi.Model.LZ
import Kanzi.Proofs.LZFwd
import Kanzi.Proofs.LZTotal

namespace Kanzi.C13
open Kanzi.LZ

/-- C13_lz_lengths: the length coding is exact for every value below `2^24 + 255`: wherever the bytes of
`emitLengthLZ(n)` stand in a buffer, `readLengthLZ` returns `n` and the number of bytes written (1, 3 or 4).
Forward only ever encodes literal counts `litLen - 7 < 2^24 - 7` (the in-loop and the final-run declines
"too many literals") and match lengths `<= _LZX_MAX_MATCH`, so it stays inside this range. -/
theorem C13_lz_lengths (src : Array Nat) (i n : Nat) (h : At src i (emitLength n)) (hn : n < 16777216 + 255) :
    readLength src i = .ok (n, (emitLength n).length) ∧ (∀ x ∈ emitLength n, x < 256) := by
  have := readLength_emitLength h
  rw [lengthValue_eq hn] at this
  exact ⟨this, emitLength_bytes n⟩

/-- what goes wrong beyond: from `2^24 + 255` on the 24-bit field wraps and `readLengthLZ` returns a
SMALLER value (`255 + (n - 255) mod 2^24`) - the defect behind finding F31 (trailing literal run, fixed in
2dffa5d), excluded since that commit by the two `litLen >= 1<<24` declines of Forward. -/
theorem C13_lz_lengths_wrap (src : Array Nat) (i n : Nat) (h : At src i (emitLength n)) (hn : 16777216 + 255 ≤ n) :
    ∃ v, readLength src i = .ok (v, 4) ∧ v < n ∧ v = 255 + (n - 255) % 16777216 := by
  have h1 := readLength_emitLength h
  have h2 : (emitLength n).length = 4 := by rw [emitLength_length, if_neg (by omega), if_neg (by omega)]
  have h3 : lengthValue n = 255 + (n - 255) % 16777216 := by unfold lengthValue; rw [if_neg (by omega)]
  exact ⟨lengthValue n, by rw [h1, h2], lengthValue_lt hn, h3⟩

/-- C13_lz_format: the `inverseV6` model is correct for EVERY valid token stream: serialising `qs` (each
sequence: literal count below `2^24`, a distance between 1 and the current position and inside the window
selected by the header flag, a match length in `[minMatch, _LZX_MAX_MATCH]`) and a final literal run of at
least 16 bytes into the four sections + 13-byte header, and decoding into ANY destination that can hold the
result, yields exactly the bytes the tokens denote (literals, and matches copied byte by byte - overlapping
copies included). -/
theorem C13_lz_format (mm far N : Nat) (qs : List Seq) (fl : List Nat) (dst0 : Array Nat)
    (hmm : 2 ≤ mm ∧ mm ≤ 9) (hfar : far ≤ 1)
    (hv : ValidSeqs mm (if far = 0 then MAX_DISTANCE1 else MAX_DISTANCE2) N 0 qs)
    (hfl : 16 ≤ fl.length) (hfl2 : fl.length < LIT_LIMIT)
    (hsz : (stream mm far N qs fl).length < 4294967296)
    (hn : (denote [] qs).length + fl.length ≤ dst0.size) :
    lzInverse (stream mm far N qs fl).toArray dst0 = .ok (denote [] qs ++ fl).toArray :=
  lzInverse_stream mm far N qs fl dst0 hmm hfar hv hfl hfl2 hsz hn

/-- C13_lz_forward_valid: whatever the match finder does, a successful Forward returns the serialisation of
a VALID token stream which, followed by the final literals, denotes exactly the source block (every match
was compared byte by byte, points backwards, stays inside the distance limit announced in the header and
has a representable length; every literal run is below `2^24`; the last run has at least 16 bytes). -/
theorem C13_lz_forward_valid (extra : Bool) (dt : Nat) (b t : Array Nat) (dstLen : Nat)
    (hne : b.size ≠ 0) (hd : dstLen ≠ 0) (h : lzForward extra dt b dstLen = .ok t) :
    ∃ (mm far : Nat) (qs : List Seq) (fl : List Nat),
      t = (stream mm far b.size qs fl).toArray ∧ 2 ≤ mm ∧ mm ≤ 9 ∧ far ≤ 1 ∧
      ValidSeqs mm (if far = 0 then MAX_DISTANCE1 else MAX_DISTANCE2) b.size 0 qs ∧
      16 ≤ fl.length ∧ fl.length < LIT_LIMIT ∧ denote [] qs ++ fl = b.toList := by
  obtain ⟨mm, far, qs, fl, e⟩ := (lzForward_encodes hne hd h).1
  rw [Array.length_toList] at e
  exact ⟨mm, far, qs, fl, e⟩

/-- C13_lz: for every block of fewer than `2^32` bytes (kanzi blocks are at most `2^30`; the header stores
section sizes in 32 bits), LZ or LZX, any data type hint, and every destination at least as large as
`MaxEncodedLen`: if Forward succeeds, Inverse of its output into ANY destination of at least the original
block length (whatever it contained before) restores the block exactly. -/
theorem C13_lz (extra : Bool) (dt : Nat) (b t : Array Nat) (dstLen : Nat) (dst0 : Array Nat)
    (hsz : b.size < 4294967296) (hdst : maxEncodedLen b.size ≤ dstLen) (hn : b.size ≤ dst0.size)
    (h : lzForward extra dt b dstLen = .ok t) : lzInverse t dst0 = .ok b :=
  (lz_roundtrip dst0 hsz hdst hn h).1

/-- C13_lz_bound: a successful Forward output fits `MaxEncodedLen`; in fact it is at least 1% shorter
than the block (otherwise Forward declines with "no compression"). -/
theorem C13_lz_bound (extra : Bool) (dt : Nat) (b t : Array Nat) (dstLen : Nat)
    (hdst : maxEncodedLen b.size ≤ dstLen) (h : lzForward extra dt b dstLen = .ok t) :
    t.size ≤ maxEncodedLen b.size ∧ t.size ≤ b.size - b.size / 100 := by
  have h1 := lzForward_size hdst h
  have h2 := maxEncodedLen_ge b.size
  exact ⟨by omega, h1⟩

/-- C13_lz_total: neither direction faults on any block the compressor can hand it.  Forward: on EVERY block
of byte values, LZ or LZX, any data type hint, into any destination of at least `MaxEncodedLen` bytes, the model
never indexes or slices out of range (source, destination, hash table, and the three side buffers `tkBuf` /
`mBuf` / `mLenBuf`), never has a `copy` cut short by the end of `dst`, and never runs out of fuel.  Inverse: on
every block Forward produced (below `2^32` bytes) and every destination of at least the original size it
returns the block, so it does not fault either.

The side buffer `tkBuf` holds `max(count/5, 256)` tokens and is never grown.  That is enough only because
every sequence covers at least 5 source bytes; for matches found through the hash table this is a property of
the hash function (`C13_lz_hash_fifth_byte`), not of the match finder logic (which accepts 4-byte matches). -/
theorem C13_lz_total (extra : Bool) (dt : Nat) (b : Array Nat) (dstLen : Nat)
    (hb : ∀ x ∈ b, x < 256) (hdst : maxEncodedLen b.size ≤ dstLen) :
    (∀ e, lzForward extra dt b dstLen ≠ .fault e) ∧
    (∀ t dst0, lzForward extra dt b dstLen = .ok t → b.size < 4294967296 → b.size ≤ dst0.size →
      ∀ e, lzInverse t dst0 ≠ .fault e) := by
  have hB : Bytes b := by
    intro i
    rw [Array.getD_eq_getD_getElem?]
    by_cases hi : i < b.size
    · rw [Array.getElem?_eq_getElem hi]; exact hb _ (Array.getElem_mem hi)
    · rw [Array.getElem?_eq_none (by omega)]; decide
  refine ⟨lzForward_nf hB hdst, ?_⟩
  intro t dst0 h hsz hn e
  rw [(lz_roundtrip dst0 hsz hdst hn h).1]
  simp

/-- the reason why 4-byte matches never come out of the hash table: both hash functions (16 bits for LZ, 19
bits for LZX) are injective in the fifth byte of the hashed word once its first four bytes are fixed
(`_LZX_HASH_SEED` is odd, the word is shifted left by 24 bits and the hash is taken from the top bits).
`hashN extra w` is the hash of a word whose low 40 bits are `w` (`hashOf_wordAt` ties it to the `UInt64`
computation of the model). -/
theorem C13_lz_hash_fifth_byte (extra : Bool) (l a b : Nat) (hl : l < 4294967296) (ha : a < 256) (hb : b < 256)
    (h : hashN extra (l + a * 4294967296) = hashN extra (l + b * 4294967296)) : a = b :=
  hash_fifth_byte extra l a b hl ha hb h

/-- C13_lz_inverse_fuel_partial: what is proved about Inverse on ARBITRARY (forged, truncated, mutated) input.
The full statement "Inverse never faults on arbitrary input" is FALSE for the Go code and for the model: the
decoder trusts the section offsets and the tokens (e.g. a token section that ends before a final literal
token is seen runs off the block: `src[tkIdx]` index out of range; a literal length beyond the block:
slice bounds out of range; literal runs beyond `len(dst)` are silently cut and reported as written).  The `lz`
stream compares the model with the real code on thousands of such inputs (identical panics / overruns).
Proved here: such a `.fault` is never exhausted model fuel - both loops of the decoder terminate within the
fuel the model gives them - so the executable predicate "`lzInverse src dst0` is not a `.fault`" IS the exact
no-panic precondition of the decoder. -/
theorem C13_lz_inverse_fuel_partial (src dst0 : Array Nat) : lzInverse src dst0 ≠ .fault "fuel" :=
  lzInverse_ne_fuel src dst0

/-- the hypotheses are satisfiable: a valid token stream (one literal, then a match of 23 bytes at distance 1,
then 16 final literals) and what the decoder makes of its serialisation; declined blocks; the length coding
at its boundaries.  (Accepted blocks are compared byte for byte with the real Forward by the `lz` stream.) -/
example : ValidSeqs 4 MAX_DISTANCE1 40 0 [⟨[7], 1, 23⟩] := by simp [ValidSeqs, LIT_LIMIT, MAX_MATCH, MAX_DISTANCE1]
example : lzInverse (stream 4 0 40 [⟨[7], 1, 23⟩] (List.replicate 16 7)).toArray (Array.replicate 40 0xAA) =
    .ok (denote [] [⟨[7], 1, 23⟩] ++ List.replicate 16 7).toArray :=
  C13_lz_format 4 0 40 [⟨[7], 1, 23⟩] (List.replicate 16 7) (Array.replicate 40 0xAA) (by decide) (by decide)
    (by simp [ValidSeqs, LIT_LIMIT, MAX_MATCH, MAX_DISTANCE1]) (by decide) (by decide) (by decide) (by decide)
example : denote [] [⟨[7], 1, 23⟩] ++ List.replicate 16 7 = List.replicate 40 7 := by decide
example : stream 4 0 40 [⟨[7], 1, 23⟩] (List.replicate 16 7) =
    [31, 0, 0, 0, 2, 0, 0, 0, 1, 0, 0, 0, 4, 7, 9, 7, 7, 7, 7, 7, 7, 7, 7, 7, 7, 7, 7, 7, 7, 7, 7, 47, 224, 1, 12] := by decide
example : lzForward false 0 (Array.replicate 23 7) 39 = .err "small" := by decide
example : lzForward false 0 (Array.replicate 40 7) 55 = .err "dst" := by decide
example : lzForward true 9 (Array.replicate 40 7) 56 = .err "type" := by decide
example : emitLength 253 = [253] ∧ emitLength 254 = [254, 0, 0] ∧ emitLength 65789 = [254, 255, 255] ∧
    emitLength 65790 = [255, 0, 255, 255] ∧ emitLength (16777216 + 254) = [255, 255, 255, 255] := by decide

end Kanzi.C13
