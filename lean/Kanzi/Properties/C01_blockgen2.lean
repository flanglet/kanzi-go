/-
C01 for the GENERIC block codec with the real destination sizes: H_codec ("the decoding task run on what the encoding
task wrote returns the block") is a THEOREM for every chain of 1..8 transforms over the twelve modelled
transforms NONE, ZRLT, MTFT, RANK, RLT, SRT, PACK, DNA, LZ, LZX, LZP, MM and every entropy codec among NONE,
ANS0, ANS1, RANGE, HUFFMAN — with NO side condition since fix F43 (/repo dfafae0): a block that its chain
expands beyond the decoder's bound is stored untransformed (`C01_chain_expansion_limit` shows that branch at
work; `ChainFits` says when it cannot be taken).  Property theorems only; proofs in `Kanzi/Proofs/BlockGen2Seq.lean` (sequence),
`BlockGen2Kinds.lean` + `BlockGen2LZ.lean` (the transforms), `BlockGen3.lean` (block, entropy codecs),
`BlockGen3Stream.lean` (headers, whole streams), `BlockGen2Limit.lean` (the limit).

Model: `Kanzi/Model/BlockGen2.lean` — `encodeTaskGen2 c obuf b` is `encodingTask.encode` from "Compute block
checksum" to `obs.Close()` with the REAL destination sizes of `ByteTransformSequence.Forward` (`obuf` = length
of the task's output buffer on entry, which the stream image threads per task) and the `ctx["dataType"]` hint
threaded through the stages (set by `encode` from the magic number, read by RLT / PACK / DNA / LZ / LZX / MM,
written back by RLT / PACK / DNA / MM; `packOnlyDNA` sticks to later PACK tokens; RLT's `fast` flag comes from
the entropy name).  `decodeTaskGen2` is `BlockGen.decodeTaskGen`.  Transform and entropy models are those of
the property files of the components (C13_rlt, C13_srt, C13_alias, C13_lz, C13_lzp, C13_fsd, C13_small, C12_ans0, C12_ans1, C12_range,
C12_huffman); the entropy codecs take the parameters of `entropy.NewEntropyEncoder/Decoder`: ANS0 chunks of
16384 bytes / log range 12, ANS1 chunks of 4 MiB / log range 11, RANGE 32768 / 12, HUFFMAN 16384.
Tied to /repo by the `imagegen2` stream: the bytes produced by the REAL Writer are `streamImageGen2` byte for
byte, and what the REAL Reader returns on them is `parseImageGen2`.

Since fix F44 (RLT bounds its output by `MaxEncodedLen`) no modelled transform looks at `len(dst)` beyond its
`MaxEncodedLen` check except on paths that fault; the model keeps the real sizes anyway (no independence
lemma is needed), and every theorem holds for EVERY `obuf`.
-/
import Kanzi.Model.BlockGen2
import Kanzi.Model.Names
import Kanzi.Generated.Names
import Kanzi.Generated.Levels
import Kanzi.Proofs.BlockGen3
import Kanzi.Proofs.BlockGen3Stream
import Kanzi.Proofs.BlockGen2Limit
import Kanzi.Properties.C01_blockgen

namespace Kanzi.C01gen
open Kanzi.Bits Kanzi.Block Kanzi.BlockGen Kanzi.BlockGen2 Kanzi.TrSmall Kanzi.Header

/-! ## 1. when the chain keeps a block within the decoder's bound -/

/-- bound on the post-transform length of a block of at most `s` bytes after the chain `ks`: a stage adds
at most `Kind.grow` (SRT: `1024 + len / 2^28` bytes — 256 frequencies as varints; MM: `max(len/16, 64)`;
every other transform: nothing, a successful Forward never expands) -/
def chainBound : List Kind → Nat → Nat
  | [], s => s
  | k :: ks, s => chainBound ks (max s (k.grow s))

/-- the chain keeps every block of at most `B` bytes within the bound the decoder puts on the
pre-transform length ("Invalid compressed block size": `maxTransformLength B` = max(1.5·(B + max(512, B/16)),
2048), at most 2^30).  Decidable by evaluation for given `ks`, `B`. -/
def ChainFits (ks : List Kind) (B : Nat) : Prop := chainBound ks B ≤ maxTransformLength B

instance (ks : List Kind) (B : Nat) : Decidable (ChainFits ks B) := by unfold ChainFits; infer_instance

theorem chainBound_eq (ks : List Kind) (s : Nat) : runG (kindLtrs ks) s = chainBound ks s := by
  induction ks generalizing s with
  | nil => rfl
  | cons k ks ih => exact ih _

/-- the per-stage bounds, spelled out -/
theorem C01_grow_spelled_out (a : Nat) :
    Kind.srt.grow a = a + 1024 + a / 2 ^ 28 ∧ Kind.fsd.grow a = a + max (a / 16) 64 ∧
    Kind.none.grow a = a ∧ Kind.zrlt.grow a = a ∧ (∀ m, (Kind.sbrt m).grow a = a) ∧
    (∀ f, (Kind.rlt f).grow a = a) ∧ (∀ o, (Kind.alias o).grow a = a) ∧ (∀ e, (Kind.lz e).grow a = a) ∧
    Kind.lzp.grow a = a := by
  refine ⟨rfl, ?_, rfl, rfl, fun _ => rfl, fun _ => rfl, fun _ => rfl, fun _ => rfl, rfl⟩
  show FSD.fsdMaxEncodedLen a = _
  unfold FSD.fsdMaxEncodedLen
  rw [Nat.shiftRight_eq_div_pow]

/-- a transform that never expands a block -/
def NonExpanding (k : Kind) : Prop := k ≠ .srt ∧ k ≠ .fsd

theorem chainBound_nonexpanding (ks : List Kind) (h : ∀ k ∈ ks, NonExpanding k) (s : Nat) :
    chainBound ks s = s := by
  induction ks generalizing s with
  | nil => rfl
  | cons k ks ih =>
    have hk := h k (List.mem_cons_self ..)
    have : k.grow s = s := by
      cases k <;> first | rfl | exact absurd rfl hk.1 | exact absurd rfl hk.2
    rw [chainBound, this, Nat.max_self]
    exact ih (fun k' hk' => h k' (List.mem_cons_of_mem _ hk')) s

/-- chains without SRT and MM fit for every block size -/
theorem C01_chain_fits_nonexpanding (ks : List Kind) (h : ∀ k ∈ ks, NonExpanding k) (B : Nat)
    (hmax : B ≤ 2 ^ 30) : ChainFits ks B := by
  unfold ChainFits
  rw [chainBound_nonexpanding ks h]
  exact le_maxTransformLength B B (Nat.le_refl _) hmax

/-- chains without MM: it is enough that 1028 bytes per SRT stage fit -/
theorem C01_chain_fits_srt (ks : List Kind) (h : ∀ k ∈ ks, k ≠ .fsd) (B : Nat)
    (hfit : B + 1028 * ks.count .srt ≤ maxTransformLength B) : ChainFits ks B := by
  have hmt : maxTransformLength B ≤ 2 ^ 30 := by unfold maxTransformLength; omega
  have key : ∀ (ks : List Kind), (∀ k ∈ ks, k ≠ .fsd) → ∀ s, s + 1028 * ks.count .srt ≤ 2 ^ 30 →
      chainBound ks s ≤ s + 1028 * ks.count .srt := by
    intro ks
    induction ks with
    | nil => intro _ s _; simp [chainBound]
    | cons k ks ih =>
      intro hk s hs
      have hk' := hk k (List.mem_cons_self ..)
      have hrest : ∀ k ∈ ks, k ≠ .fsd := fun k' h' => hk k' (List.mem_cons_of_mem _ h')
      rw [chainBound]
      by_cases hsrt : k = .srt
      · subst hsrt
        rw [List.count_cons_self] at hs ⊢
        have hg : max s (Kind.srt.grow s) ≤ s + 1028 := by
          show max s (s + 1024 + s / 268435456) ≤ s + 1028
          omega
        have := ih hrest (max s (Kind.srt.grow s)) (by omega)
        omega
      · have hc : (k :: ks).count .srt = ks.count .srt := by
          rw [List.count_cons]; simp [hsrt]
        rw [hc] at hs ⊢
        have hg : k.grow s = s := by
          cases k <;> first | rfl | exact absurd rfl hsrt | exact absurd rfl hk'
        rw [hg, Nat.max_self]
        exact ih hrest s hs
  unfold ChainFits
  exact Nat.le_trans (key ks h B (by omega)) hfit

/-- one SRT stage always fits (block sizes up to 2^30 - 1028) -/
example (B : Nat) (hB : 1024 ≤ B) (hmax : B + 1028 ≤ 2 ^ 30) : B + 1028 * 1 ≤ maxTransformLength B := by
  unfold maxTransformLength taskBlockLength; omega

/-! ## 2. H_codec for every chain and every entropy codec -/

/-- **C01_codec_chain.**  `ks` = any chain of at most 8 modelled transforms (what `transform.New` builds
for a transform word over NONE ZRLT MTFT RANK RLT SRT PACK DNA LZ LZX LZP MM, for any setting of the
constructor parameters `fast` / `onlyDNA` / `extra` / SBRT mode), `ent` = NONE, ANS0, ANS1, RANGE or HUFFMAN
as the factory builds them, any checksum width `ck`, skipBlocks on or off, any length `obuf` of the task's
output buffer, a Writer of block size `B ≤ 2^30` (`ctx["blockSize"] = B`, as `NewWriter` stores it), `b` a
block of 1..B bytes: the encoding task succeeds and the decoding task returns exactly the block with
`decoded = |b|` — through the copy-block branch, every pattern of declined stages, every value of the data
type hint along the chain, the branch of fix F43 (a chain that expands the block beyond the decoder's bound:
block stored untransformed), both layouts of the skip flags, every width of the length field, the checksum
field and its comparison.  NO hypothesis on the chain. -/
theorem C01_codec_chain (ck : Nat) (ks : List Kind) (ent : Ent) (sb : Bool) (B obuf : Nat) (b : List Nat)
    (hn : ks.length ≤ 8) (hent : IsModelledEnt ent)
    (hbytes : ∀ x ∈ b, x < 256) (h0 : 0 < b.length) (hB : b.length ≤ B) (hmax : B ≤ 2 ^ 30) :
    ∃ p, encodeTaskGen2 ⟨ck, kindTrs ks, ent, sb, some B⟩ obuf b = .ok p ∧
      decodeTaskGen2 ⟨ck, kindTrs ks, ent, sb, some B⟩ B p = ⟨b.length, .ok b⟩ := by
  obtain ⟨p, h1, h2, _⟩ := block_roundtrip2 ⟨ck, kindTrs ks, ent, sb, some B⟩ ks rfl hn B obuf b rfl
    (entLawAt_of_law _ _ (entLaw_modelled ent hent _) _) hbytes h0 hB hmax
  exact ⟨p, h1, h2⟩

/-- `C01_codec_chain` restricted to chains without SRT and MM (`_hk` is not used: `C01_codec_chain` needs no
hypothesis on the chain) -/
theorem C01_codec_chain_nonexpanding (ck : Nat) (ks : List Kind) (ent : Ent) (sb : Bool) (B obuf : Nat)
    (b : List Nat) (hn : ks.length ≤ 8) (_hk : ∀ k ∈ ks, NonExpanding k) (hent : IsModelledEnt ent)
    (hbytes : ∀ x ∈ b, x < 256) (h0 : 0 < b.length) (hB : b.length ≤ B) (hmax : B ≤ 2 ^ 30) :
    ∃ p, encodeTaskGen2 ⟨ck, kindTrs ks, ent, sb, some B⟩ obuf b = .ok p ∧
      decodeTaskGen2 ⟨ck, kindTrs ks, ent, sb, some B⟩ B p = ⟨b.length, .ok b⟩ :=
  C01_codec_chain ck ks ent sb B obuf b hn hent hbytes h0 hB hmax

/-- the generic form: ANY entropy codec that satisfies the exact-consumption law AT THE BLOCK HANDED TO IT
(`postBlock`: the output of the transform sequence, or the block itself when the bound of fix F43 applies;
the law is only needed when the block is not a copy block) -/
theorem C01_codec_chain_ent (ck : Nat) (ks : List Kind) (ent : Ent) (sb : Bool) (B obuf : Nat) (b : List Nat)
    (hn : ks.length ≤ 8) (hent : EntLawAt ent (maxTransformLength B) (postBlock (kindTrs ks) (some B) obuf b))
    (hbytes : ∀ x ∈ b, x < 256) (h0 : 0 < b.length) (hB : b.length ≤ B) (hmax : B ≤ 2 ^ 30) :
    ∃ p, encodeTaskGen2 ⟨ck, kindTrs ks, ent, sb, some B⟩ obuf b = .ok p ∧
      decodeTaskGen2 ⟨ck, kindTrs ks, ent, sb, some B⟩ B p = ⟨b.length, .ok b⟩ := by
  obtain ⟨p, h1, h2, _⟩ := block_roundtrip2 ⟨ck, kindTrs ks, ent, sb, some B⟩ ks rfl hn B obuf b rfl hent
    hbytes h0 hB hmax
  exact ⟨p, h1, h2⟩

/-- **C01_codec_chain_fpaq_partial** / **C01_codec_chain_cm_partial**: FPAQ and CM (as the factory builds
them: FPAQ chunks of 4 MiB; CM = binary coder with chunks of 2^26 bytes and a new CM predictor) are
CONDITIONAL instances: the hypothesis is the decoder's own acceptance test of `C12_fpaq_block` /
`C12_cm_block` ("no chunk codes to twice its size or more": `fFits2` / `fits2`, decidable by evaluation)
on the block handed to the entropy coder.  It is not known to hold for every block (an adversarial block for
a fresh predictor exists for TPAQ: F36), hence `_partial`. -/
theorem C01_codec_chain_fpaq_partial (ck : Nat) (ks : List Kind) (sb : Bool) (B obuf : Nat) (b : List Nat)
    (hn : ks.length ≤ 8)
    (hf2 : Fpaq.fFits2 Fpaq.DEFAULT_CHUNK (postBlock (kindTrs ks) (some B) obuf b) = true)
    (hbytes : ∀ x ∈ b, x < 256) (h0 : 0 < b.length) (hB : b.length ≤ B) (hmax : B ≤ 2 ^ 30) :
    ∃ p, encodeTaskGen2 ⟨ck, kindTrs ks, fpaqEnt, sb, some B⟩ obuf b = .ok p ∧
      decodeTaskGen2 ⟨ck, kindTrs ks, fpaqEnt, sb, some B⟩ B p = ⟨b.length, .ok b⟩ :=
  C01_codec_chain_ent ck ks fpaqEnt sb B obuf b hn
    (entLawAt_fpaq _ (by unfold maxTransformLength; omega) _ hf2) hbytes h0 hB hmax

theorem C01_codec_chain_cm_partial (ck : Nat) (ks : List Kind) (sb : Bool) (B obuf : Nat) (b : List Nat)
    (hn : ks.length ≤ 8)
    (hf2 : BinEnt.fits2 cmPred BinEnt.MAX_CHUNK (CM.cmInit false) (postBlock (kindTrs ks) (some B) obuf b) = true)
    (hbytes : ∀ x ∈ b, x < 256) (h0 : 0 < b.length) (hB : b.length ≤ B) (hmax : B ≤ 2 ^ 30) :
    ∃ p, encodeTaskGen2 ⟨ck, kindTrs ks, cmEnt, sb, some B⟩ obuf b = .ok p ∧
      decodeTaskGen2 ⟨ck, kindTrs ks, cmEnt, sb, some B⟩ B p = ⟨b.length, .ok b⟩ :=
  C01_codec_chain_ent ck ks cmEnt sb B obuf b hn
    (entLawAt_cm _ (by unfold maxTransformLength; omega) _ hf2) hbytes h0 hB hmax

/-- the hypotheses of the instances, spelled out: the entropy codecs, and the law every modelled transform
satisfies (for every data type hint `dt` and every non-empty destination) -/
theorem C01_chain_components :
    (∀ e, IsModelledEnt e ↔ (e = noneEnt ∨ e = ans0Ent ∨ e = ans1Ent ∨ e = rangeEnt ∨ e = hufEnt)) ∧
    (∀ (k : Kind) (dt : Nat) (x y : List Nat) (d : Nat), (∀ v ∈ x, v < 256) → x.length < 2 ^ 31 → 0 < d →
      k.tr.fwd dt x d = .ok y →
      (∀ v ∈ y, v < 256) ∧ y.length ≤ k.grow x.length ∧ ∀ n, x.length ≤ n → k.tr.inv y n = .ok x) :=
  ⟨fun _ => Iff.rfl, fun k dt x y d hb hl hd hf =>
    (kind_law k).rt dt x d y hb (by unfold lawLim; omega) hd hf⟩

/-- C01_chain_no_fault: the adapters of `Kind.tr` turn a Go panic inside a Forward (`.fault` of the
transform models) into a declined stage; that case never arises: on a block of byte values no Forward of
the modelled transforms panics, whatever the data type hint and the destination size -/
theorem C01_chain_no_fault (b : List Nat) (d : Nat) (hb : ∀ x ∈ b, x < 256) (hl : b.length < 2 ^ 31) :
    (∀ dt fast e, RLT.rltForward dt fast b d ≠ .fault e) ∧
    SRT.srtForward b d ≠ .fault ∧
    (∀ o dt e, Alias.aliasForward o dt b d ≠ .fault e) ∧
    (∀ extra dt e, LZ.lzForward extra dt b.toArray d ≠ .fault e) ∧
    (∀ k x l, LZP.lzpForward b d ≠ .fault k x l) ∧
    (∀ dt e, FSD.fsdForward dt b d ≠ .fault e) :=
  kind_no_fault b d hb hl

/-- C01_codec_of_header2: whatever a header of the modelled codecs announces (`cfgOfHeader2 h = some c`: every
slot of the transform word is one of the twelve transforms; `uncondEntropy`: entropy NONE / HUFFMAN / RANGE /
ANS0 / ANS1, codes 0 1 4 5 8), the configuration the Reader derives from it decodes what a Writer with the
same parameters (skipBlocks on or off, any buffer history) encoded. -/
theorem C01_codec_of_header2 (h : Header) (sb : Bool) (c : Cfg2) (hc : cfgOfHeader2 h false = some c)
    (hE : uncondEntropy h.entropyType)
    (obuf : Nat) (b : List Nat) (hbytes : ∀ x ∈ b, x < 256) (h0 : 0 < b.length) (hB : b.length ≤ h.blockSize)
    (hmax : h.blockSize ≤ 2 ^ 30) :
    ∃ p, encodeTaskGen2 { c with skipBlocks := sb } obuf b = .ok p ∧
      decodeTaskGen2 c h.blockSize p = ⟨b.length, .ok b⟩ := by
  obtain ⟨_, _, hbs, he, ks, _, htrs, hn⟩ := cfgOfHeader2_spec h false c hc
  obtain ⟨p, h1, h2, _⟩ := block_roundtrip2 { c with skipBlocks := sb } ks htrs hn h.blockSize obuf b hbs
    (entLawAt_of_law _ _ (entLaw_modelled _ (entOf2_modelled _ _ he hE) _) _) hbytes h0 hB hmax
  exact ⟨p, h1, h2⟩

/-! ## 3. the CLI levels -/

/-- **C01_level0**: `kanzi -l 0` = NONE / NONE -/
theorem C01_level0 (ck : Nat) (sb : Bool) (B obuf : Nat) (b : List Nat)
    (hbytes : ∀ x ∈ b, x < 256) (h0 : 0 < b.length) (hB : b.length ≤ B) (hmax : B ≤ 2 ^ 30) :
    ∃ p, encodeTaskGen2 ⟨ck, kindTrs [.none], noneEnt, sb, some B⟩ obuf b = .ok p ∧
      decodeTaskGen2 ⟨ck, kindTrs [.none], noneEnt, sb, some B⟩ B p = ⟨b.length, .ok b⟩ :=
  C01_codec_chain ck _ noneEnt sb B obuf b (by decide) (Or.inl rfl) hbytes h0 hB hmax

/-- **C01_level1**: `kanzi -l 1` = LZX / NONE -/
theorem C01_level1 (ck : Nat) (sb : Bool) (B obuf : Nat) (b : List Nat)
    (hbytes : ∀ x ∈ b, x < 256) (h0 : 0 < b.length) (hB : b.length ≤ B) (hmax : B ≤ 2 ^ 30) :
    ∃ p, encodeTaskGen2 ⟨ck, kindTrs [.lz true], noneEnt, sb, some B⟩ obuf b = .ok p ∧
      decodeTaskGen2 ⟨ck, kindTrs [.lz true], noneEnt, sb, some B⟩ B p = ⟨b.length, .ok b⟩ :=
  C01_codec_chain ck _ noneEnt sb B obuf b (by decide) (Or.inl rfl) hbytes h0 hB hmax

/-- **C01_level2**: `kanzi -l 2` = DNA+LZ / HUFFMAN -/
theorem C01_level2 (ck : Nat) (sb : Bool) (B obuf : Nat) (b : List Nat)
    (hbytes : ∀ x ∈ b, x < 256) (h0 : 0 < b.length) (hB : b.length ≤ B) (hmax : B ≤ 2 ^ 30) :
    ∃ p, encodeTaskGen2 ⟨ck, kindTrs [.alias true, .lz false], hufEnt, sb, some B⟩ obuf b = .ok p ∧
      decodeTaskGen2 ⟨ck, kindTrs [.alias true, .lz false], hufEnt, sb, some B⟩ B p = ⟨b.length, .ok b⟩ :=
  C01_codec_chain ck _ hufEnt sb B obuf b (by decide)
    (Or.inr (Or.inr (Or.inr (Or.inr rfl)))) hbytes h0 hB hmax

/-- the three configurations ARE what the level table of the tool (`Generated/Levels.lean`, regenerated
from v2/app on every check) selects, through `transform.GetType` / `entropy.GetType` (model functions of
`Names`), `transform.New` and the entropy factory -/
theorem C01_levels_modelled :
    Generated.Levels.levels.take 3 = [(0, "NONE", "NONE"), (1, "LZX", "NONE"), (2, "DNA+LZ", "HUFFMAN")] ∧
    Names.getType Generated.Names.transformTokens "NONE" = .ok 0 ∧
    Names.getType Generated.Names.transformTokens "LZX" = .ok (Names.chainType [16]) ∧
    Names.getType Generated.Names.transformTokens "DNA+LZ" = .ok (Names.chainType [19, 3]) ∧
    Names.entropyType Generated.Names.entropyTokens "NONE" = .ok 0 ∧
    Names.entropyType Generated.Names.entropyTokens "HUFFMAN" = .ok 1 ∧
    newSeq2 0 0 = some [.none] ∧ newSeq2 (Names.chainType [16]) 0 = some [.lz true] ∧
    newSeq2 (Names.chainType [19, 3]) 1 = some [.alias true, .lz false] := by
  decide +kernel

/-- the levels OUT OF REACH of the twelve-kind model: each of 3..9 uses a transform that is not modelled here
(TEXT, UTF, EXE, BWT, ROLZ; levels 6..9 moreover use FPAQ / CM / TPAQ / TPAQX, whose instances are conditional
or absent): the transform word of such a stream has no sequence in this model (`C01_blockgen3` covers them) -/
theorem C01_levels_out_of_reach :
    (Generated.Levels.levels.drop 3).length = 7 ∧
    ∀ r ∈ Generated.Levels.levels.drop 3,
      (match Names.getType Generated.Names.transformTokens r.2.1,
          Names.entropyType Generated.Names.entropyTokens r.2.2 with
        | .ok ty, .ok e => (newSeq2 ty e).isNone
        | _, _ => false) = true := by
  decide +kernel

/-! ## 4. finding F43 and its repair -/

/-- **C01_chain_expansion_limit.**  Six SRT stages, 1 KiB blocks (`-t SRT+SRT+SRT+SRT+SRT+SRT -b 1024`): every
SRT stage prepends a header of at least 256 bytes, so for EVERY block of 1024 bytes the output of the sequence
has at least 2560 bytes, above the decoder's bound `maxTransformLength 1024 = 2304` (`ChainFits` is false).
  * Since fix F43 the branch "store the block untransformed" IS taken (`postOf … = (b, 0xFF)`: the block
    itself goes to the entropy coder, all skip flags set), and the decoding task returns the block — any
    entropy codec of the five, any checksum, any buffer history.
  * Without the comparison (a ctx with no `uint` block size, which no Writer has; the code before the fix)
    the six stages are applied, the encoding task succeeds and the decoding task rejects its output with
    "Invalid compressed block size": the defect. -/
theorem C01_chain_expansion_limit (ck obuf : Nat) (ent : Ent) (hent : IsModelledEnt ent) (sb : Bool)
    (b : List Nat) (hb : ∀ x ∈ b, x < 256) (hlen : b.length = 1024) :
    ¬ ChainFits (List.replicate 6 .srt) 1024 ∧
    postOf (kindTrs (List.replicate 6 .srt)) (some 1024) obuf b = (b, 0xFF) ∧
    (∃ p, encodeTaskGen2 ⟨ck, kindTrs (List.replicate 6 .srt), ent, sb, some 1024⟩ obuf b = .ok p ∧
      decodeTaskGen2 ⟨ck, kindTrs (List.replicate 6 .srt), ent, sb, some 1024⟩ 1024 p = ⟨1024, .ok b⟩) ∧
    (∃ p, encodeTaskGen2 ⟨ck, kindTrs (List.replicate 6 .srt), noneEnt, false, none⟩ obuf b = .ok p ∧
      decodeTaskGen2 ⟨ck, kindTrs (List.replicate 6 .srt), noneEnt, false, none⟩ 1024 p = .fail .size) := by
  refine ⟨by decide, srt6_fallback obuf b hb hlen, ?_, srt6_rejected_without_bs ck obuf b hb hlen⟩
  have := C01_codec_chain ck (List.replicate 6 .srt) ent sb 1024 obuf b (by decide) hent hb (by omega)
    (by omega) (by decide)
  rw [hlen] at this
  exact this

/-- when `ChainFits` holds the bound of fix F43 never applies: what goes to the entropy coder is the output
of the sequence -/
theorem C01_chain_fits_no_fallback (ks : List Kind) (hn : ks.length ≤ 8) (B obuf : Nat) (b : List Nat)
    (hfit : ChainFits ks B) (hbytes : ∀ x ∈ b, x < 256) (hB : b.length ≤ B) (hmax : B ≤ 2 ^ 30) :
    postOf (kindTrs ks) (some B) obuf b = forwardOf (kindTrs ks) obuf b := by
  by_cases hb0 : b.length = 0
  · have : b = [] := List.eq_nil_of_length_eq_zero hb0
    subst this
    unfold postOf fallback forwardOf seqForward2
    simp
  · unfold postOf fallback
    rw [if_neg]
    intro ⟨_, h2⟩
    have hlaws := kindLtrs_law3 ks (fun _ => True)
    have hlim : runG (kindLtrs ks) b.length ≤ lawLim :=
      runG_le_lawLim (kindLtrs ks) (kindLtrs_step ks) b.length (by simp only [kindLtrs, List.length_map]; exact hn)
        (by omega)
    have hgm : ∀ l ∈ kindLtrs ks, ∀ a b, a ≤ b → l.g a ≤ l.g b := fun l hl => (hlaws l hl).grow.mono
    have hreq0 : 0 < seqMaxLen (trsOf (kindTrs ks)) b.length := by
      rw [← ltrs_kindLtrs, seqMaxLen_ltrs]
      have := le_runMax (kindLtrs ks) b.length
      omega
    have := BlockGen3.seq3_roundtrip lawLim (seqMaxLen (trsOf (kindTrs ks)) b.length)
      (growTo obuf (seqMaxLen (trsOf (kindTrs ks)) b.length)) 0 (initDt b) 0 (fun _ => True)
      (kindLtrs ks) b hlaws (by simp only [kindLtrs, List.length_map]; exact hn) hreq0
      (by unfold growTo; split <;> omega) hbytes hlim
    rw [ltrs_kindLtrs] at this
    have h3 : (forwardOf (kindTrs ks) obuf b).1.length ≤ runG (kindLtrs ks) b.length := this.2.2.1
    have h4 := runG_mono (kindLtrs ks) hgm b.length B hB
    have hml : maxLengthOf (some B) = maxTransformLength B := rfl
    rw [hml] at h2
    unfold ChainFits at hfit
    rw [← chainBound_eq] at hfit
    omega

/-- up to three SRT stages fit 1 KiB blocks, and eight fit 16 KiB blocks -/
example : ChainFits (List.replicate 1 .srt) 1024 ∧ ChainFits [.srt, .rlt true, .lz false, .srt] 4096 ∧
    ChainFits (List.replicate 8 .srt) 16384 ∧ ChainFits [.fsd, .lz true] 65536 := by decide

/-! ## 5. whole streams -/

/-- **C01_stream_image_chain_partial.**  `cd` = the configuration the Reader derives from the header, the
Writer's tasks use the same with skipBlocks on or off, ANY job count (the tasks' buffer lengths are threaded
by `streamImageGen2`).  If every payload respects the reader's `maxFrameLength` bound (`FrameFit`: an
explicit, decidable size condition — no size bound is proved for HUFFMAN / RANGE / ANS1 here; for ANS0 see
`C01_ans0_block_size`), the image exists and reading it back yields the header, exactly the blocks, and
stops at the end marker. -/
theorem C01_stream_image_chain_partial (h : Header) (wf : WF h) (cd : Cfg2) (hcfg : cfgOfHeader2 h false = some cd)
    (hE : uncondEntropy h.entropyType)
    (sb : Bool) (jobs : Nat) (blocks : List (List Nat)) (hv : ValidBlocks h.blockSize blocks)
    (hfit : ∀ b ∈ blocks, ∀ obuf p, encodeTaskGen2 { cd with skipBlocks := sb } obuf b = .ok p →
      p.length ≤ maxFrameBits h.blockSize) :
    ∃ img, streamImageGen2 h { cd with skipBlocks := sb } jobs blocks = .ok img ∧
      parseImageGen2 img = (some h, blocks, .endOfStream) := by
  apply parseImageGen2_streamImageGen2 h wf _ cd jobs hcfg blocks
  intro b hb
  obtain ⟨h0, hB, hx⟩ := hv b hb
  refine ⟨fun obuf => ?_, h0, hB⟩
  obtain ⟨p, hp, hd⟩ := C01_codec_of_header2 h sb cd hcfg hE obuf b hx h0 hB wf.bsHi
  exact ⟨p, hp, hd, frameFit_of_le (encodeTaskGen2_length_ge hp) (hfit b hb obuf p hp)⟩

/-- **C01_stream_image_chain_none**: NO remaining hypothesis for entropy NONE — in particular for the
streams of `kanzi -l 0` and `kanzi -l 1`: every well-formed header announcing entropy NONE and a transform
word over the twelve transforms, every list of blocks of 1..blockSize bytes, any job count, skipBlocks on or
off: the image parses back to the blocks. -/
theorem C01_stream_image_chain_none (h : Header) (wf : WF h) (hent : h.entropyType = 0) (cd : Cfg2)
    (hcfg : cfgOfHeader2 h false = some cd)
    (sb : Bool) (jobs : Nat) (blocks : List (List Nat)) (hv : ValidBlocks h.blockSize blocks) :
    ∃ img, streamImageGen2 h { cd with skipBlocks := sb } jobs blocks = .ok img ∧
      parseImageGen2 img = (some h, blocks, .endOfStream) := by
  obtain ⟨_, _, hbs, he, ks, _, htrs, hn⟩ := cfgOfHeader2_spec h false cd hcfg
  rw [hent] at he
  have hne : cd.ent = noneEnt := (Option.some.inj he).symm
  apply parseImageGen2_streamImageGen2 h wf _ cd jobs hcfg blocks
  intro b hb
  obtain ⟨h0, hB, hx⟩ := hv b hb
  refine ⟨fun obuf => ?_, h0, hB⟩
  obtain ⟨p, h1, h2, h3⟩ := block_roundtrip2 { cd with skipBlocks := sb } ks htrs hn h.blockSize obuf b hbs
    (entLawAt_of_law _ _ (entLaw_modelled _ (entOf2_modelled _ _ he (Or.inl rfl)) _) _) hx h0 hB wf.bsHi
  exact ⟨p, h1, h2, h3 hne⟩

/-! ## 6. the hypotheses are satisfiable -/

/-- a header of the modelled codecs: XXHash64, HUFFMAN, RLT+SRT+PACK+LZ+LZP+MM (six transforms: extra
skip-flag byte), 64 KiB blocks -/
example : WF (mkHeader 2 1 (Names.chainType [5, 13, 18, 3, 14, 15]) 65536 0) ∧
    newSeq2 (Names.chainType [5, 13, 18, 3, 14, 15]) 1 =
      some [.rlt true, .srt, .alias false, .lz false, .lzp, .fsd] ∧
    ChainFits [.rlt true, .srt, .alias false, .lz false, .lzp, .fsd] 65536 := by decide

/-- `packOnlyDNA` sticks: PACK after DNA is built as DNA; RLT is not `fast` with ANS1 -/
example : newSeq2 (Names.chainType [19, 18, 5]) 8 = some [.alias true, .alias true, .rlt false] := by decide

end Kanzi.C01gen
