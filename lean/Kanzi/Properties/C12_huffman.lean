/-
C12 (Huffman) — the static Huffman codec of kanzi-go, bitstream version 6
(v2/entropy/HuffmanCodec.go: `HuffmanEncoder.Write` / `HuffmanDecoder.Read`, with the signed
Exp-Golomb byte codec of v2/entropy/ExpGolombCodec.go for the code lengths).
Property theorems only; proofs live in `Kanzi/Proofs/Huf*.lean`.  The model
(`Kanzi/Model/Huffman.lean`) mirrors the Go code (in-place length computation of Moffat and
Katajainen, the fast length limiting with its bit debt, the renormalising fallback, the
last-resort 8-bit codes, canonical codes, the 4 interleaved sub-streams with the 64-bit register
of the encoder and the `readState` / `uint8` register machine of the decoder) and is tied to /repo
by the `huffman` correspondence stream (byte-identical encoder output for every branch of
`updateFrequencies`, decoding of valid and of payload-corrupted streams).

Every round trip is stated in the "exact consumption" form
    dec (enc x ++ rest) = some (x, rest)      for EVERY continuation `rest`
over the abstract bit strings `Kanzi.Bits` (C14 lifts this to the real bitstreams): the decoder
returns the data and stops exactly where the encoder stopped, so whatever follows the block in
the same bitstream is read correctly.

NOTHING here is `_partial`: the chunk and block theorems (section 5) hold for all inputs the Go
constructors accept; the component theorems (sections 1–4) assume only what the preceding component
establishes (`LensOk`, Kraft's equality, at least two symbols).
Hypotheses of section 5: bytes are `< 256`; the chunk size passes `NewHuffmanEncoder` / `NewHuffmanDecoder`
(`ctorOk`: 1024..16384, the same on both sides); `junk` (what earlier chunks left in the decoder's
reusable buffer behind the 8 cleared bytes) is arbitrary bytes.
-/
import Kanzi.Model.Huffman
import Kanzi.Proofs.HufHeader
import Kanzi.Proofs.HufCanon
import Kanzi.Proofs.HufLimit
import Kanzi.Proofs.HufUpdate
import Kanzi.Proofs.HufEnc
import Kanzi.Proofs.HufChunk
import Kanzi.Proofs.HufBlock

namespace Kanzi.C12
open Kanzi.Bits Kanzi.EntSmall Kanzi.Huffman

/-! ## 1. Code lengths -/

/-- **C12_huf_inplace_kraft** (`computeInPlaceSizesPhase1` + `Phase2`).  For EVERY list of
weights of length `n ≥ 2` (sorted or not, whatever the values) the two in-place phases terminate
without fault and the lengths they leave satisfy Kraft's EQUALITY `Σ 2^(M - len) = 2^M` (any
`M ≥ n`), lie in `[1, max]` with `max < n`, and are non increasing along the array (the rarest
symbol first). -/
theorem C12_huf_inplace_kraft (w : List Nat) (M : Nat) (hn : 2 ≤ w.length) (hM : w.length ≤ M) :
    ∃ lens mx, phase2 (phase1 w) = some (lens, mx) ∧ lens.length = w.length ∧
      (lens.map (fun x => 2 ^ (M - x))).sum = 2 ^ M ∧
      (∀ x ∈ lens, 1 ≤ x ∧ x ≤ mx) ∧ mx + 1 ≤ w.length ∧ lens.Pairwise (· ≥ ·) := by
  obtain ⟨res, m, h, hok⟩ := lengths_spec w M hn hM
  exact ⟨res, m, h, hok.len, hok.kraft, hok.range, hok.mle, hok.mono⟩

/-- **C12_huf_fast_limit** (the fast path of `limitCodeLengths`).  From lengths that satisfy
Kraft's equality, are positive and non increasing along `ranks` (at most 256 distinct symbols):
no fault (the unguarded loop `for sizes[ranks[n]] >= 12` stops inside the array), every length
ends in `[1, 12]`, nothing outside `ranks` is touched, and the Kraft sum exceeds 1 by at most the
remaining debt `d2`, in units of 2^-12 (here: `unit12 = 2^244` units of 2^-256). -/
theorem C12_huf_fast_limit (sizes ranks : List Nat) (hnd : ranks.Nodup) (hlt : ∀ s ∈ ranks, s < sizes.length)
    (hcnt : ranks.length ≤ 256) (hk : kraftM 256 sizes ranks = 2 ^ 256)
    (hmono : (lensOf sizes ranks).Pairwise (· ≥ ·)) (hpos : ∀ s ∈ ranks, 1 ≤ sizes.getD s 0) :
    ∃ d1 d2 sz, fastLimit sizes ranks = some (d1, d2, sz) ∧ sz.length = sizes.length ∧
      (∀ x, x ∉ ranks → sz.getD x 0 = sizes.getD x 0) ∧
      (∀ s ∈ ranks, 1 ≤ sz.getD s 0 ∧ sz.getD s 0 ≤ 12) ∧
      kraftM 256 sz ranks ≤ 2 ^ 256 + d2 * unit12 :=
  fastLimit_spec sizes ranks ⟨hnd, hlt⟩ hcnt hk hmono hpos

/-- **C12_huf_lengths_kraft.**  For EVERY histogram (256 counts, any values) `updateFrequencies`
succeeds, whatever branch it takes (empty, single symbol, plain lengths, fast limiting by the first
or the second loop, renormalisation to 2048, last-resort 8-bit codes): `count` is the number of
symbols present, and the length of every present symbol lies in `[1, 12]` with Kraft's inequality
`Σ 2^(12 - len) ≤ 2^12`. -/
theorem C12_huf_lengths_kraft (freqs : List Nat) (hl : freqs.length = 256) :
    ∃ u, updateFrequencies freqs = some u ∧
      u.count = (Kanzi.Normalize.support freqs).length ∧
      (∀ s ∈ Kanzi.Normalize.support freqs, 1 ≤ u.sizes.getD s 0 ∧ u.sizes.getD s 0 ≤ 12) ∧
      ((Kanzi.Normalize.support freqs).map (fun s => 2 ^ (12 - u.sizes.getD s 0))).sum ≤ 2 ^ 12 := by
  obtain ⟨u, hu, hok⟩ := updateFrequencies_spec freqs hl
  exact ⟨u, hu, hok.count, hok.lens.range, hok.lens.kraft⟩

/-! ## 2. Canonical codes -/

/-- **C12_huf_canonical_prefix_free.**  `a` = at least two distinct symbols `< 256`, `sizes` =
lengths in `[1, 12]` on `a` with Kraft's inequality (`LensOk`).  Then `generateCanonicalCodes`
succeeds, every code fits its length, and no code is a prefix of another one.  Moreover the result
depends on `sizes` through the entries of `a` only and on `a` as a set only: the decoder, which
calls it on its own table (default 8 elsewhere) with the alphabet in transmission order, gets the
codes the encoder computed from `ranks` (the symbols sorted by frequency). -/
theorem C12_huf_canonical_prefix_free (sizes a : List Nat) (hlo : LensOk sizes a) (h2 : 2 ≤ a.length) :
    ∃ codes, generateCanonicalCodes sizes (List.replicate 256 0) a = some (codes, canonOrder sizes a) ∧
      (∀ s ∈ a, codes.getD s 0 < 2 ^ sizes.getD s 0) ∧
      (∀ s ∈ a, ∀ t ∈ a, codeBits sizes codes s <+: codeBits sizes codes t → s = t) ∧
      (∀ sizes' a', (∀ x, x ∈ a ↔ x ∈ a') → a.length = a'.length → (∀ x ∈ a, sizes.getD x 0 = sizes'.getD x 0) →
        generateCanonicalCodes sizes' (List.replicate 256 0) a' = some (codes, canonOrder sizes a)) := by
  obtain ⟨codes, hg, _, hco, _⟩ := genCodes_ok sizes a hlo h2
  exact ⟨codes, hg, code_lt_of_codesOk sizes codes a hlo hco,
    fun s hs t ht hp => canonical_prefix_free sizes a hlo codes hco s t hs ht hp,
    fun sizes' a' hm hl hs => by rw [← genCodes_congr sizes sizes' a a' hm hl h2 hs]; exact hg⟩

/-- **C12_huf_encoder_codes.**  For every histogram with at least two symbols the table
`this.codes` of the encoder holds, for each present symbol, `(length << 12) | code` where `code`
is the canonical code of the transmitted lengths — in EVERY branch, the last-resort one included
(`codes[alphabet[i]] = i` with 8-bit lengths is the canonical assignment). -/
theorem C12_huf_encoder_codes (freqs : List Nat) (hl : freqs.length = 256)
    (h2 : 2 ≤ (Kanzi.Normalize.support freqs).length) :
    ∃ u codes ord, updateFrequencies freqs = some u ∧
      generateCanonicalCodes u.sizes (List.replicate 256 0) (Kanzi.Normalize.support freqs) = some (codes, ord) ∧
      ∀ s ∈ Kanzi.Normalize.support freqs,
        u.codes.getD s 0 >>> 12 = u.sizes.getD s 0 ∧ u.codes.getD s 0 &&& 0x0FFF = codes.getD s 0 :=
  encoder_codes freqs hl h2

/-! ## 3. Header -/

/-- **C12_huf_expgolomb.**  The signed Exp-Golomb byte codec round trips every byte value, with
exact consumption; a value takes between 1 and 16 bits. -/
theorem C12_huf_expgolomb (d : Nat) (hd : d < 256) :
    (∀ rest : Bits, egDecodeByte (egEncodeByte d ++ rest) = some (d, rest)) ∧
    1 ≤ (egEncodeByte d).length ∧ (egEncodeByte d).length ≤ 16 :=
  ⟨fun rest => eg_roundtrip d hd rest, (eg_entry d hd).2⟩

/-- **C12_huf_header.**  `a` = the alphabet in increasing order (any size 0..256), `sizes` with
`LensOk`.  `readLengths` on the header written by `updateFrequencies` (alphabet, then the length
deltas starting from 2) consumes exactly the header, returns the same symbols (reordered by
`generateCanonicalCodes` when there are at least two), the same length for every symbol, and
the canonical codes of these lengths. -/
theorem C12_huf_header (sizes a : List Nat) (hs : a.Pairwise (· < ·)) (hlo : LensOk sizes a) (rest : Bits) :
    ∃ rl, readLengths (encodeAlphabetBits a ++ encodeSizes sizes a 2 ++ rest) = some (rl, rest) ∧
      rl.alphabet.Perm a ∧ (∀ s ∈ a, rl.sizes.getD s 0 = sizes.getD s 0) ∧
      (2 ≤ a.length → generateCanonicalCodes sizes (List.replicate 256 0) a = some (rl.codes, rl.alphabet)) :=
  readLengths_header sizes a hs hlo rest

/-- the header of EVERY histogram is read back: `C12_huf_header` applies to what
`updateFrequencies` writes -/
theorem C12_huf_header_of_histogram (freqs : List Nat) (hl : freqs.length = 256) (rest : Bits) :
    ∃ u rl, updateFrequencies freqs = some u ∧ readLengths (u.bits ++ rest) = some (rl, rest) ∧
      rl.alphabet.Perm (Kanzi.Normalize.support freqs) ∧
      ∀ s ∈ Kanzi.Normalize.support freqs, rl.sizes.getD s 0 = u.sizes.getD s 0 := by
  obtain ⟨u, hu, hok⟩ := updateFrequencies_spec freqs hl
  obtain ⟨rl, h1, h2, h3, _⟩ := readLengths_header u.sizes _ (support_alpha freqs hl).sorted hok.lens rest
  exact ⟨u, rl, hu, by rw [hok.bits]; exact h1, h2, h3⟩

/-! ## 4. Symbols -/

/-- **C12_huf_symbols.**  With the decoding table built from a header (`buildDecodingTable` on
what `readLengths` returns) the plain table walk `specDec` — look up the next 12 bits (zero padded),
emit the symbol, consume `length` bits — returns every list of symbols of the alphabet from the
concatenation of their codes, whatever follows (`rest`: padding, stale buffer bytes). -/
theorem C12_huf_symbols (sizes a : List Nat) (hs : a.Pairwise (· < ·)) (hlo : LensOk sizes a) (h2 : 2 ≤ a.length) :
    ∃ rl codes tbl, readLengths (encodeAlphabetBits a ++ encodeSizes sizes a 2) = some (rl, []) ∧
      generateCanonicalCodes sizes (List.replicate 256 0) a = some (codes, rl.alphabet) ∧
      buildTable rl = some tbl ∧ tbl.length = 4096 ∧
      ∀ (syms : List Nat) (rest : Bits), (∀ b ∈ syms, b ∈ a) →
        specDec tbl syms.length (syms.flatMap (codeBits sizes codes) ++ rest) = syms := by
  obtain ⟨codes, tbl, hg, hrl, hbt, _, htf, hlt, _, htl⟩ := decoder_tables sizes a hs hlo h2
  have hrl := hrl []
  rw [List.append_nil] at hrl
  exact ⟨_, codes, tbl, hrl, hg, hbt, htl, fun syms rest hb =>
    specDec_codes sizes codes a tbl htf hlo.lt256 (fun s hs' => (hlo.range s hs').2) hlt syms rest hb⟩

/-- **C12_huf_encoder_machine.**  The encoder's 64-bit register (`state << len | code`, the
`PutUint64` flush every four symbols, the final flush) writes exactly the concatenation of the
codes, for every packed table consistent with (`sizes`, `codes`): lengths at most 12, codes
shorter than their lengths. -/
theorem C12_huf_encoder_machine (arr : Array Nat) (sizes codes a : List Nat)
    (hlen : ∀ b ∈ a, arr.getD b 0 >>> 12 = sizes.getD b 0)
    (hcode : ∀ b ∈ a, arr.getD b 0 &&& 0x0FFF = codes.getD b 0)
    (h12 : ∀ b ∈ a, sizes.getD b 0 ≤ 12) (hlt : ∀ b ∈ a, codes.getD b 0 < 2 ^ sizes.getD b 0)
    (frag : List Nat) (hb : ∀ b ∈ frag, b ∈ a) :
    encFrag arr frag = frag.flatMap (codeBits sizes codes) :=
  encFrag_eq arr sizes codes a ⟨hlen, hcode, h12, hlt⟩ frag hb

/-- **C12_huf_decoder_machine** (table look-up = bitwise walk).  For EVERY table whose entries
carry a length in 1..12 (in particular the default entries 7) and EVERY buffer of bytes, the
register machine of `decodeChunkV6` for one sub-stream (`readState`, the `uint8` counters `bits`
and `bs` with their wrap-around, 4 look-ups per refill, the last 1..4 symbols after a final
refill) decodes exactly what the plain walk `specDec` decodes from the bits of the buffer (zero
extended).  No hypothesis on the stream: corrupted payloads included. -/
theorem C12_huf_decoder_machine (tbl : List Nat)
    (ht : ∀ w, w < 4096 → 1 ≤ tbl.getD w 0 % 256 ∧ tbl.getD w 0 % 256 ≤ 12)
    (buf : Array Nat) (hb : ∀ b ∈ buf.toList, b < 256) (n : Nat) :
    decFrag tbl.toArray buf n = specDec tbl n (ofBytes buf.toList) :=
  decFrag_spec tbl ht buf hb n

/-! ## 5. Chunk and block -/

/-- **C12_huf_chunk.**  One round of the chunk loops, for every chunk `c` of 1..`chunkSize`
bytes (raw below 32 bytes; otherwise header, and — unless a single symbol is present — the four
VarInt sizes, the four sub-streams and the `len % 4` tail bytes): the encoder succeeds and the
decoder, asked for `c.length` bytes, returns `c` and stops exactly behind the chunk.  In
particular (these are `none` in the model) every sub-stream fits its region of the decoder's
buffer (`stride = chunkSize/2` bytes of the `2*chunkSize` bytes) and every 8-byte read of
`readState` stays inside the buffer: at most 15 bytes behind the end of its sub-stream. -/
theorem C12_huf_chunk (c : List Nat) (hb : ∀ b ∈ c, b < 256) (chunkSize : Nat)
    (hcs : ctorOk chunkSize = true) (hlen : 1 ≤ c.length ∧ c.length ≤ chunkSize)
    (junk : List Nat) (hj : ∀ b ∈ junk, b < 256) :
    ∃ e br, encodeOneChunk c = some (e, br) ∧
      ∀ rest, decodeOneChunk chunkSize c.length junk (e ++ rest) = some ((c, true), rest) := by
  have hcs' : 1024 ≤ chunkSize ∧ chunkSize ≤ 16384 := by
    simp only [ctorOk, Bool.and_eq_true, decide_eq_true_eq] at hcs
    exact hcs
  exact oneChunk_roundtrip c hb chunkSize hcs' hlen junk hj

/-- **C12_huf_block** (property C12 for the Huffman codec).  For EVERY block of bytes (empty,
shorter than 32 bytes, not a multiple of 4, across chunk boundaries, any symbol distribution)
and every chunk size accepted by the constructors: `Write` succeeds, and `Read` of
`blk.length` bytes on the written bits followed by ANY continuation returns the block and
leaves exactly the continuation — the decoder reads exactly the bits the encoder wrote. -/
theorem C12_huf_block (blk : List Nat) (hb : ∀ b ∈ blk, b < 256) (chunkSize : Nat)
    (hcs : ctorOk chunkSize = true) (junk : List Nat) (hj : ∀ b ∈ junk, b < 256) :
    ∃ e, encode blk chunkSize = some e ∧
      ∀ rest : Bits, decode (e ++ rest) blk.length chunkSize junk = some (blk, rest) := by
  obtain ⟨e, _, _, he, hd⟩ := block_roundtrip blk hb chunkSize hcs junk hj
  exact ⟨e, he, hd⟩

/-- the hypotheses of `C12_huf_block` are satisfiable: the default chunk size of the factory -/
example : ctorOk 16384 = true := by decide

/-- `LensOk` is satisfiable: two symbols with 1-bit codes -/
example : LensOk [1, 1] [0, 1] :=
  ⟨by decide, by decide, by decide, by decide⟩

end Kanzi.C12
