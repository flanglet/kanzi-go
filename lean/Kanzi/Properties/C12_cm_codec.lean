/-
C12 (CM entropy codec, whole codec) — the CM codec of kanzi-go is the generic binary arithmetic
coder (`BinaryEntropyEncoder` / `BinaryEntropyDecoder`, `Kanzi/Properties/C12_binary.lean`) with a
fresh `CMPredictor` (`Kanzi/Properties/C12_cm.lean`) plugged in, exactly as
`entropy.NewEntropyEncoder` / `NewEntropyDecoder` build it for `CM_TYPE`
(`NewCMPredictor(&ctx)` then `NewBinaryEntropyEncoder(bs, predictor)`), one encoder per block.

This file only composes the CM predictor model (`Kanzi/Model/CM.lean`) with the binary coder model
(`Kanzi/Model/BinEnt.lean`): the CM predictor model is an instance of the coder's
predictor interface (`Pred.ofImpure cmGet cmUpdate`: `Get()` stores `idx`, which `Update` uses), it
satisfies the coder's contract on the invariant `Kanzi.CM.R` (`Get() ≤ 4095`, both
bitstream-version branches), hence the encoder of the CM codec never fails and the codec round-trips
every non-empty block with exact consumption — under the one condition the repaired decoder itself
imposes (f731923): no chunk flushes twice the chunk length or more (`fits2`, decidable, computed
from the two models).  That condition is NOT discharged here: it would need a bound on the code
length CM assigns to arbitrary data (the per-bit bound alone, 12 bits for a probability in
`[1/4096, 4095/4096]`, only gives 12 bytes per byte); the adversaries of the `binent` stream reach
an expansion of about 1.1 against CM, far from 2.
-/
import Kanzi.Properties.C12_binary
import Kanzi.Properties.C12_cm

namespace Kanzi.C12
open Kanzi.Bits Kanzi.BinEnt Kanzi.CM

/-- the CM predictor as a predictor of the binary coder (state = the state before `Get()`) -/
def cmPred : Pred CM := Pred.ofImpure cmGet cmUpdate

theorem cmPred_get (s : CM) : cmPred.get s = cmPredGet s := rfl
theorem cmPred_update (s : CM) (b : Bool) : cmPred.update s b = cmPredUpdate s b := by
  simp only [cmPred, Pred.ofImpure, cmPredUpdate]

/-- **C12_cm_codec_safe.**  The CM predictor satisfies the contract of the binary coder on the
invariant `CM.R`: `R` is preserved by `Get(); Update(bit)` and `Get() ≤ 4095` on `R`. -/
theorem C12_cm_codec_safe : cmPred.Safe R :=
  Pred.Safe.of12 rfl (fun s b h => cmPred_update s b ▸ C12_cm_pred_safe.1 s b h)
    (fun s h => cmPred_get s ▸ C12_cm_pred_safe.2 s h)

/-- **C12_cm_encode_total.**  The encoder of the CM codec never fails, whatever the block (≤ 2^30 bytes). -/
theorem C12_cm_encode_total (v3 : Bool) (blk : List Nat) (hlen : blk.length ≤ 2 ^ 30) :
    ∃ out, encodeBlock cmPred MAX_CHUNK (cmInit v3) blk = .ok out :=
  C12_binary_encode_total cmPred C12_cm_codec_safe MAX_CHUNK (cmInit v3) (C12_cm_init v3) blk hlen

/-- **C12_cm_block.**  The CM entropy codec (binary coder + fresh CM predictor of either bitstream
version `v3`, the same on both sides; `_BINARY_ENTROPY_MAX_CHUNK = 1 << 26`): for every NON-EMPTY
block of bytes of length `≤ 2^30` of which no chunk doubles in size (`fits2`, the decoder's own
acceptance test), `Write` + `Dispose` succeed and `Read` of the same length on the written bits
followed by ANY bits `rest` returns the block and leaves exactly `rest` unread. -/
theorem C12_cm_block (v3 : Bool) (blk : List Nat) (hne : blk ≠ []) (hb : ∀ v ∈ blk, v < 256)
    (hlen : blk.length ≤ 2 ^ 30) (hfit : fits2 cmPred MAX_CHUNK (cmInit v3) blk = true) :
    ∃ out, encodeBlock cmPred MAX_CHUNK (cmInit v3) blk = .ok out ∧
      ∀ rest : Bits, decodeBlock cmPred MAX_CHUNK (cmInit v3) (out ++ rest) blk.length = .ok (blk, rest) :=
  C12_binary_block_real cmPred C12_cm_codec_safe (cmInit v3) (C12_cm_init v3) blk hne hb hlen hfit

/-- … and otherwise the decoder rejects the encoder's output: `fits2` is exactly what is missing -/
theorem C12_cm_reject (v3 : Bool) (blk : List Nat) (hne : blk ≠ []) (hb : ∀ v ∈ blk, v < 256)
    (hlen : blk.length ≤ 2 ^ 30) (hfit : fits2 cmPred MAX_CHUNK (cmInit v3) blk = false) :
    ∃ out, encodeBlock cmPred MAX_CHUNK (cmInit v3) blk = .ok out ∧
      ∀ rest : Bits, decodeBlock cmPred MAX_CHUNK (cmInit v3) (out ++ rest) blk.length = .error .invalid :=
  C12_binary_reject cmPred C12_cm_codec_safe MAX_CHUNK (by decide) (by decide) (cmInit v3) (C12_cm_init v3)
    blk hne hb hlen hfit

/-- with the final states: after `Read` the decoder's CM predictor is in the same state as the
encoder's (so is the interval) -/
theorem C12_cm_block_states (v3 : Bool) (blk : List Nat) (hne : blk ≠ []) (hb : ∀ v ∈ blk, v < 256)
    (hlen : blk.length ≤ 2 ^ 30) (hfit : fits2 cmPred MAX_CHUNK (cmInit v3) blk = true) (rest : Bits) :
    ∃ bits e', (Enc.init (cmInit v3)).write cmPred MAX_CHUNK blk = .ok (bits, e') ∧ e'.dispose.1 = e'.trailer ∧
    ∃ d' lf hf, (Dec.init (cmInit v3)).readBlock cmPred MAX_CHUNK (bits ++ e'.dispose.1 ++ rest) blk.length
        = .ok (blk, d', rest) ∧
      d'.ps = e'.ps ∧ ERel e' lf hf ∧ Inv lf hf ∧ d'.low = lf ∧ d'.high = hf :=
  C12_binary_block_states cmPred C12_cm_codec_safe MAX_CHUNK (by decide) (by decide) (cmInit v3) (C12_cm_init v3)
    blk hne hb hlen hfit rest

end Kanzi.C12
