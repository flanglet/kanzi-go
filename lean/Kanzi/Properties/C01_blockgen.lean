/-
C01 for the GENERIC block codec: H_codec ("the decoding task run on what the encoding task wrote
returns the block, consuming exactly the frame") reduced to per-component laws, proved outright for
every chain of 1..8 transforms over NONE / ZRLT / MTFT / RANK with entropy NONE and with entropy ANS0,
and carried down to the byte image of a whole stream.
Property theorems only; proofs in `Kanzi/Proofs/BlockGen.lean` (decode ∘ encode), `BlockGenInst.lean`
(instances), `BlockGenNone.lean` (NONE / NONE = `Kanzi/Model/Block.lean`), `BlockGenStream.lean` (image).

Model: `Kanzi/Model/BlockGen.lean` — `encodeTaskGen` mirrors `encodingTask.encode` from "Compute block
checksum" to `obs.Close()`, `decodeTaskGen` mirrors `decodingTask.decode` from "Create a bitstream local
to the task" to the checksum comparison, for a configuration `Cfg` = (checksum width, transform sequence
as a list of `Tr`, entropy codec `Ent`, option skipBlocks); `streamImageGen` / `parseImageGen` are the
byte image of a stream and its reader.  Tied to /repo by the `imagegen` correspondence stream: the bytes
produced by the REAL Writer are `streamImageGen` byte for byte (chains of 1..8 names over
NONE/ZRLT/MTFT/RANK, entropy NONE/ANS0, checksum 0/32/64, skipBlocks on/off), and what the REAL Reader
returns on intact and damaged streams is `parseImageGen`.

Conventions: a block is a `List Nat` of byte values; `B` is the block size of the stream (the
constructors enforce 1024 ≤ B ≤ 2^30; only the upper bound is used); `IsBlock N x` = byte values, at
most `N` bytes.
-/
import Kanzi.Model.BlockGen
import Kanzi.Model.Names
import Kanzi.Proofs.BlockGen
import Kanzi.Proofs.BlockGenInst
import Kanzi.Proofs.BlockGenNone
import Kanzi.Proofs.BlockGenStream
import Kanzi.Proofs.BlockGenAns0Size
import Kanzi.Properties.C01_none
import Kanzi.Properties.C12_ans0
import Kanzi.Properties.C13_small

namespace Kanzi.C01gen
open Kanzi.Bits Kanzi.Block Kanzi.BlockGen Kanzi.TrSmall Kanzi.Header

/-! ## 1. H_codec reduced to the laws of the components -/

/-- **C01_block_roundtrip.**  `c` = any configuration (any checksum width, skipBlocks on or off), `D` =
a class of blocks, `b ∈ D` a block of 1..B bytes, B ≤ 2^30.  Hypotheses, all about the components:
  * `SeqLaw D c.trs |b| (taskBlockLength B)`: at most 8 transforms, and each of them, called with a
    forward destination of at least `MaxEncodedLen` of the sequence and an inverse destination of at
    least the task block length (what the two Go sequences allocate), satisfies the stage law of
    `C13_sequence` on `D` (`Stage.GoodOn D`: forward ok t ⇒ t ∈ D, t ≠ [] for a non-empty input, inverse t
    = ok input; a stage may decline);
  * `EntLaw D c.ent`: the exact-consumption law `dec |x| (enc x ++ rest) = (x, rest)` on `D`;
  * every block of `D` is at most `maxTransformLength B` bytes long (the bound the decoder puts on the
    pre-transform length: "Invalid compressed block size").
Then the encoding task succeeds and the decoding task returns exactly the block, with `decoded = |b|` —
through the copy-block branch (≤ 15 bytes, or skipBlocks decided: NONE/NONE forced), every pattern of
declined stages incl. all declined, both layouts of the skip flags (nibble of the mode byte for ≤ 4
transforms, extra byte for 5..8), the 1/2/3/4-byte length field, the checksum field and its comparison. -/
theorem C01_block_roundtrip (c : Cfg) (B : Nat) (D : List Nat → Prop) (b : List Nat)
    (hseq : SeqLaw D c.trs b.length (taskBlockLength B)) (hent : EntLaw D c.ent)
    (hfits : ∀ x, D x → x.length ≤ maxTransformLength B) (hD : D b)
    (hbytes : ∀ x ∈ b, x < 256) (h0 : 0 < b.length) (hB : b.length ≤ B) (hmax : B ≤ 2 ^ 30) :
    ∃ p, encodeTaskGen c b = .ok p ∧ decodeTaskGen c B p = ⟨b.length, .ok b⟩ :=
  block_roundtrip c B D b hseq hent hfits hD hbytes h0 hB hmax

/-- the two laws, spelled out (definitions unfolded) -/
theorem C01_laws_spelled_out (D : List Nat → Prop) (trs : List Tr) (ent : Ent) (len dmin : Nat) :
    (SeqLaw D trs len dmin ↔
      (trs.length ≤ 8 ∧ ∀ t ∈ trs, ∀ req n, seqMaxLen trs len ≤ req → dmin ≤ n →
        ∀ x y, D x → t.fwd x req = .ok y → D y ∧ (x ≠ [] → y ≠ []) ∧ t.inv y n = .ok x)) ∧
    (EntLaw D ent ↔
      ∀ x, D x → ∃ e, ent.enc x = some e ∧ ∀ rest : Bits, ent.dec x.length (e ++ rest) = some (x, rest)) :=
  ⟨Iff.rfl, Iff.rfl⟩

/-- the encoder never takes its two error exits before the entropy coder on blocks a stream can hold:
`Log2NoCheck(0)` needs a post-transform length that is a multiple of 2^32, and the test "Invalid block
data length" (`dataSize > 4`) is dead code (`Log2NoCheck(uint32(x)) ≤ 31`).  (`fallback`: the block handed
to the entropy coder after the bound of fix F43 on the post-transform length.) -/
theorem C01_encode_errors (copy : Bool) (trs : List Tr) (ent : Ent) (ckw sum : Nat) (lim : Option Nat)
    (b : List Nat)
    (h : (fallback lim (seqMaxLen trs b.length) b (seqForward (fwdStages trs b.length) b)).1.length < 2 ^ 32) :
    encodeWith copy trs ent ckw sum lim b ≠ .error .panic ∧
      encodeWith copy trs ent ckw sum lim b ≠ .error .length := by
  unfold encodeWith encodeOf
  simp only [dataSizeGen_eq _ h]
  have h4 := dataSizeOf_le _ h
  rw [if_neg (by omega), if_neg (by omega)]
  split <;> exact ⟨nofun, nofun⟩

/-- fix F43 (/repo dfafae0): when `MaxEncodedLen` of the sequence exceeds `maxLength` (the decoder's bound
`maxTransformLength` for the block size stored in the ctx, 2^30 without it) and the transformed block is
longer than `maxLength`, the block is handed to the entropy coder untransformed with every stage flagged as
skipped; otherwise the output of the sequence is used as it is -/
theorem C01_fallback_spelled_out (lim : Option Nat) (req : Nat) (b : List Nat) (f : List Nat × Nat) :
    fallback lim req b f =
      (if req > maxLengthOf lim ∧ f.1.length > maxLengthOf lim then (b, 0xFF) else f) ∧
    (∀ B, maxLengthOf (some B) = maxTransformLength B) ∧ maxLengthOf none = 2 ^ 30 :=
  ⟨rfl, fun _ => rfl, rfl⟩

/-! ## 2. instances with no remaining hypothesis -/

/-- **C01_codec_small_none.**  Every chain of 1 to 8 transforms (0 is covered too) drawn from
NullTransform (NONE), ZRLT, SBRT in any mode (MTFT = mode 1, RANK = mode 2; repeats allowed), entropy
NONE, every checksum width, skipBlocks on or off, every block size B ≤ 2^30 and every block of 1..B
bytes, whatever `ctx["blockSize"]` holds (`bs`: the bound of fix F43 never applies to these transforms, and
would be harmless): decode (encode b) = b with `decoded = |b|`. -/
theorem C01_codec_small_none (ck : Nat) (trs : List Tr) (sb : Bool) (bs : Option Nat) (B : Nat) (b : List Nat)
    (hn : trs.length ≤ 8) (hs : ∀ t ∈ trs, IsSmallTr t)
    (hbytes : ∀ x ∈ b, x < 256) (h0 : 0 < b.length) (hB : b.length ≤ B) (hmax : B ≤ 2 ^ 30) :
    ∃ p, encodeTaskGen ⟨ck, trs, noneEnt, sb, bs⟩ b = .ok p ∧
      decodeTaskGen ⟨ck, trs, noneEnt, sb, bs⟩ B p = ⟨b.length, .ok b⟩ :=
  small_roundtrip ⟨ck, trs, noneEnt, sb, bs⟩ B b hn hs (entLaw_none _) hbytes h0 hB hmax

/-- **C01_codec_small_ans0.**  The same chains with the order-0 ANS codec as the factory builds it
(`C12_ans0_block` with chunks of 16384 bytes and log range 12). -/
theorem C01_codec_small_ans0 (ck : Nat) (trs : List Tr) (sb : Bool) (bs : Option Nat) (B : Nat) (b : List Nat)
    (hn : trs.length ≤ 8) (hs : ∀ t ∈ trs, IsSmallTr t)
    (hbytes : ∀ x ∈ b, x < 256) (h0 : 0 < b.length) (hB : b.length ≤ B) (hmax : B ≤ 2 ^ 30) :
    ∃ p, encodeTaskGen ⟨ck, trs, ans0Ent, sb, bs⟩ b = .ok p ∧
      decodeTaskGen ⟨ck, trs, ans0Ent, sb, bs⟩ B p = ⟨b.length, .ok b⟩ :=
  small_roundtrip ⟨ck, trs, ans0Ent, sb, bs⟩ B b hn hs (entLaw_ans0 _) hbytes h0 hB hmax

/-- the stage hypothesis of the instances, spelled out; and the names of the transform factory:
NONE = 0, ZRLT = 6, MTFT = 7 (SBRT mode 1), RANK = 8 (SBRT mode 2) -/
theorem C01_small_transforms :
    (∀ t, IsSmallTr t ↔ (t = nullTr ∨ t = zrltTr ∨ ∃ mode, t = sbrtTr mode)) ∧
    tokenTr 0 = some nullTr ∧ tokenTr 6 = some zrltTr ∧ tokenTr 7 = some (sbrtTr 1) ∧
    tokenTr 8 = some (sbrtTr 2) :=
  ⟨fun _ => Iff.rfl, rfl, rfl, rfl, rfl⟩

/-- C01_codec_of_header: whatever a header of the modelled codecs announces (`cfgOfHeader h = some c`:
every slot of the transform word is NONE / ZRLT / MTFT / RANK, entropy NONE or ANS0), the configuration the
Reader derives from it decodes what a Writer with the same parameters (skipBlocks on or off) encoded. -/
theorem C01_codec_of_header (h : Header) (sb : Bool) (c : Cfg) (hc : cfgOfHeader h false = some c)
    (b : List Nat) (hbytes : ∀ x ∈ b, x < 256) (h0 : 0 < b.length) (hB : b.length ≤ h.blockSize)
    (hmax : h.blockSize ≤ 2 ^ 30) :
    ∃ p, encodeTaskGen { c with skipBlocks := sb } b = .ok p ∧
      decodeTaskGen c h.blockSize p = ⟨b.length, .ok b⟩ := by
  obtain ⟨p, hp, hd, _⟩ := small_block h sb c hc b hbytes h0 hB hmax
  exact ⟨p, hp, hd⟩

/-- the abstraction of destination sizes is harmless for the modelled transforms: into any destination
of at least `MaxEncodedLen` bytes `Forward` returns the same result -/
theorem C01_small_dst_independent (t : Tr) (h : IsSmallTr t) (b : List Nat) (req req' : Nat)
    (h1 : t.maxLen b.length ≤ req) (h2 : t.maxLen b.length ≤ req') : t.fwd b req = t.fwd b req' :=
  small_fwd_dst_indep t h b req req' h1 h2

/-! ## 3. NONE / NONE: the generic model is the model of `Kanzi/Model/Block.lean` -/

/-- the generic encoder with the NONE sequence and the NONE entropy codec writes `encodeNone` -/
theorem C01_gen_none_encode (ck : Nat) (data : List Nat) (h0 : 0 < data.length) (h30 : data.length ≤ 2 ^ 30) :
    encodeTaskGen (noneCfg ck) data = .ok (encodeNone ck data) :=
  encodeTaskGen_none ck data h0 h30

/-- the generic decoder with the NONE sequence and the NONE entropy codec is `decodeTask`, on EVERY
payload (well formed or not; error classes: entropy / inverse failures are `eos` = ERR_PROCESS_BLOCK) -/
theorem C01_gen_none_decode (ck B : Nat) (p : Bits) :
    (decodeTaskGen (noneCfg ck) B p).toBlock = decodeTask ck B p :=
  decodeTaskGen_none ck B p

/-- and the generic stream image of a NONE / NONE stream is `streamImage` (so `C01_none_end_to_end` and
the `image` correspondence stream are statements about the generic model too) -/
theorem C01_gen_none_image (h : Header) (ck : Nat) (blocks : List (List Nat))
    (hv : ∀ b ∈ blocks, 0 < b.length ∧ b.length ≤ 2 ^ 30) :
    streamImageGen h (noneCfg ck) blocks = .ok (streamImage h ck blocks) :=
  streamImageGen_none h ck blocks hv

/-! ## 4. the byte image of a whole stream -/

/-- **C01_stream_image_gen** (generic).  `ce` = configuration of the Writer's tasks, `cd` = the one the
Reader derives from the header.  If for every block the encoding task succeeds, the decoding task
returns the block, and the payload fits a frame (`FrameFit`: non empty, below 2^34 bits and below the
reader's `maxFrameLength` bound), then the image exists and reading it back — header, frames with the
`maxFrameLength` bound, decoding tasks, result loop — yields the header, exactly the blocks, and stops
at the end marker. -/
theorem C01_stream_image_gen (h : Header) (wf : WF h) (ce cd : Cfg) (hcfg : cfgOfHeader h false = some cd)
    (blocks : List (List Nat))
    (hok : ∀ b ∈ blocks, BlockOK ce cd h.blockSize b ∧ 0 < b.length ∧ b.length ≤ h.blockSize) :
    ∃ img, streamImageGen h ce blocks = .ok img ∧ parseImageGen img = (some h, blocks, .endOfStream) := by
  obtain ⟨img, h1, _, h3⟩ := parseImageGen_streamImageGen h wf ce cd hcfg blocks hok
  exact ⟨img, h1, h3⟩

/-- **C01_stream_image_small_none**: no remaining hypothesis.  Every well-formed header announcing
entropy NONE and a transform word over NONE / ZRLT / MTFT / RANK, every list of blocks of 1..blockSize
bytes, Writer tasks with skipBlocks on or off: the image parses back to the blocks. -/
theorem C01_stream_image_small_none (h : Header) (wf : WF h) (hent : h.entropyType = 0) (cd : Cfg)
    (hcfg : cfgOfHeader h false = some cd) (sb : Bool) (blocks : List (List Nat))
    (hv : ValidBlocks h.blockSize blocks) :
    ∃ img, streamImageGen h { cd with skipBlocks := sb } blocks = .ok img ∧
      parseImageGen img = (some h, blocks, .endOfStream) := by
  apply C01_stream_image_gen h wf _ cd hcfg blocks
  intro b hb
  obtain ⟨h0, hB, hx⟩ := hv b hb
  obtain ⟨p, hp, hd, hf⟩ := small_block h sb cd hcfg b hx h0 hB wf.bsHi
  exact ⟨⟨p, hp, hd, hf (.inl hent)⟩, h0, hB⟩

/-- **C01_stream_image_small_ans0_partial**: entropy ANS0.  The round trip of every block is proved
(`C01_codec_small_ans0`); what remains as a hypothesis is that every payload respects the reader's
`maxFrameLength` bound (≈ 1.79·B bytes) — an explicit, decidable size condition that the `imagegen`
stream evaluates on every scenario (the real Writer's frames are parsed by the real Reader).  The proved
ANS bound is 2 bytes per input byte plus 575 bytes per chunk (`C01_ans0_block_size`; 2 bytes per byte is
tight for an arbitrary table), which discharges the hypothesis for block sizes up to 128 KiB
(`C01_stream_image_small_ans0`) but not beyond; a bound for the NORMALISED table of the block itself
needs an information-theoretic argument that is not formalised. -/
theorem C01_stream_image_small_ans0_partial (h : Header) (wf : WF h) (cd : Cfg)
    (hcfg : cfgOfHeader h false = some cd) (sb : Bool) (blocks : List (List Nat))
    (hv : ValidBlocks h.blockSize blocks)
    (hfit : ∀ b ∈ blocks, (payloadOf { cd with skipBlocks := sb } b).length ≤ maxFrameBits h.blockSize) :
    ∃ img, streamImageGen h { cd with skipBlocks := sb } blocks = .ok img ∧
      parseImageGen img = (some h, blocks, .endOfStream) := by
  apply C01_stream_image_gen h wf _ cd hcfg blocks
  intro b hb
  obtain ⟨h0, hB, hx⟩ := hv b hb
  obtain ⟨p, hp, hd, hf⟩ := small_block h sb cd hcfg b hx h0 hB wf.bsHi
  exact ⟨⟨p, hp, hd, hf (.inr (.inr (hfit b hb)))⟩, h0, hB⟩

/-- size of an order-0 ANS block as the factory configures the codec (chunks of 16384 bytes, log range
12): at most 2 bytes per input byte plus 575 bytes per chunk (header of at most 4345 bits, VarInt,
four states) -/
theorem C01_ans0_block_size (blk : List Nat) (enc : Bits) (hb : ∀ b ∈ blk, b < 256)
    (h : ans0Ent.enc blk = some enc) :
    enc.length ≤ 16 * blk.length + 4600 * ((blk.length + 16383) / 16384) :=
  Ans0Size.ans0Encode_length_le blk enc hb h

/-- **C01_stream_image_small_ans0**: no remaining hypothesis for block sizes up to 128 KiB (2^17),
entropy NONE or ANS0: the bound of `C01_ans0_block_size` is below the reader's `maxFrameLength` (which
is at least 288 KiB + 64 whatever the block size). -/
theorem C01_stream_image_small_ans0 (h : Header) (wf : WF h) (h17 : h.blockSize ≤ 2 ^ 17) (cd : Cfg)
    (hcfg : cfgOfHeader h false = some cd) (sb : Bool) (blocks : List (List Nat))
    (hv : ValidBlocks h.blockSize blocks) :
    ∃ img, streamImageGen h { cd with skipBlocks := sb } blocks = .ok img ∧
      parseImageGen img = (some h, blocks, .endOfStream) := by
  apply C01_stream_image_gen h wf _ cd hcfg blocks
  intro b hb
  obtain ⟨h0, hB, hx⟩ := hv b hb
  obtain ⟨p, hp, hd, hf⟩ := small_block h sb cd hcfg b hx h0 hB wf.bsHi
  exact ⟨⟨p, hp, hd, hf (.inr (.inl h17))⟩, h0, hB⟩

/-- the driver of the `imagegen` stream prints `streamImageGenFast`: it is `streamImageGen` -/
theorem C01_stream_image_gen_fast (h : Header) (c : Cfg) (blocks : List (List Nat)) :
    streamImageGenFast h c blocks = streamImageGen h c blocks :=
  streamImageGenFast_eq h c blocks

/-! ## 5. end to end: the Writer model, the byte image, the reader -/

/-- **C01_gen_end_to_end** (entropy NONE, every chain over NONE / ZRLT / MTFT / RANK; no codec
hypothesis).  Run the Writer model (any partition into Write calls, any job count, any size hint) with
the frame size of the generic encoder (`frameBitsGen`: 5 + lw + payload bits of THIS block); take the byte
image of the header and of the blocks it emitted.  Then the image exists, has exactly `GetWritten`
bytes, and reading it back yields the header, stops at the end marker, and the blocks concatenate to
the data written. -/
theorem C01_gen_end_to_end (h : Header) (wf : WF h) (hent : h.entropyType = 0) (cd : Cfg)
    (hcfg : cfgOfHeader h false = some cd) (sb : Bool)
    (c : Writer.Cfg) (hB : c.B = h.blockSize) (hJ : 0 < c.J) (hhl : c.headless = false)
    (hhb : c.headerBits = (headerBits h).length)
    (hfb : c.frameBits = frameBitsGen { cd with skipBlocks := sb })
    (parts : List (List Nat)) (hbytes : ∀ d ∈ parts, ∀ x ∈ d, x < 256) :
    let w := Writer.run c (Writer.init c) (Writer.healthyProgram parts)
    ∃ img, streamImageGen h { cd with skipBlocks := sb } w.1.emitted = .ok img ∧
      img.length = Writer.getWritten w.1 ∧
      (parseImageGen img).1 = some h ∧ (parseImageGen img).2.2 = BlockGen.Stop.endOfStream ∧
      (parseImageGen img).2.1.flatten = parts.flatten := by
  intro w
  apply end_to_end h wf _ cd hcfg c hB hJ hhl hhb hfb parts hbytes
  intro b _ h0 hBb hx
  obtain ⟨p, hp, hd, hf⟩ := small_block h sb cd hcfg b hx h0 hBb wf.bsHi
  exact ⟨p, hp, hd, hf (.inl hent)⟩

/-- **C01_gen_end_to_end_ans0_partial**: the same for entropy ANS0 (and NONE), with the frame-size
condition of `C01_stream_image_small_ans0_partial` on the blocks the Writer cuts as the only
hypothesis about the codec. -/
theorem C01_gen_end_to_end_ans0_partial (h : Header) (wf : WF h) (cd : Cfg)
    (hcfg : cfgOfHeader h false = some cd) (sb : Bool)
    (c : Writer.Cfg) (hB : c.B = h.blockSize) (hJ : 0 < c.J) (hhl : c.headless = false)
    (hhb : c.headerBits = (headerBits h).length)
    (hfb : c.frameBits = frameBitsGen { cd with skipBlocks := sb })
    (parts : List (List Nat)) (hbytes : ∀ d ∈ parts, ∀ x ∈ d, x < 256)
    (hfit : ∀ b ∈ Spec.chunks c.B parts.flatten,
      (payloadOf { cd with skipBlocks := sb } b).length ≤ maxFrameBits h.blockSize) :
    let w := Writer.run c (Writer.init c) (Writer.healthyProgram parts)
    ∃ img, streamImageGen h { cd with skipBlocks := sb } w.1.emitted = .ok img ∧
      img.length = Writer.getWritten w.1 ∧
      (parseImageGen img).1 = some h ∧ (parseImageGen img).2.2 = BlockGen.Stop.endOfStream ∧
      (parseImageGen img).2.1.flatten = parts.flatten := by
  intro w
  apply end_to_end h wf _ cd hcfg c hB hJ hhl hhb hfb parts hbytes
  intro b hb h0 hBb hx
  obtain ⟨p, hp, hd, hf⟩ := small_block h sb cd hcfg b hx h0 hBb wf.bsHi
  exact ⟨p, hp, hd, hf (.inr (.inr (hfit b hb)))⟩

/-- **C01_gen_end_to_end_ans0**: entropy ANS0 (or NONE), block sizes up to 128 KiB: no codec
hypothesis at all. -/
theorem C01_gen_end_to_end_ans0 (h : Header) (wf : WF h) (h17 : h.blockSize ≤ 2 ^ 17) (cd : Cfg)
    (hcfg : cfgOfHeader h false = some cd) (sb : Bool)
    (c : Writer.Cfg) (hB : c.B = h.blockSize) (hJ : 0 < c.J) (hhl : c.headless = false)
    (hhb : c.headerBits = (headerBits h).length)
    (hfb : c.frameBits = frameBitsGen { cd with skipBlocks := sb })
    (parts : List (List Nat)) (hbytes : ∀ d ∈ parts, ∀ x ∈ d, x < 256) :
    let w := Writer.run c (Writer.init c) (Writer.healthyProgram parts)
    ∃ img, streamImageGen h { cd with skipBlocks := sb } w.1.emitted = .ok img ∧
      img.length = Writer.getWritten w.1 ∧
      (parseImageGen img).1 = some h ∧ (parseImageGen img).2.2 = BlockGen.Stop.endOfStream ∧
      (parseImageGen img).2.1.flatten = parts.flatten := by
  intro w
  apply end_to_end h wf _ cd hcfg c hB hJ hhl hhb hfb parts hbytes
  intro b _ h0 hBb hx
  obtain ⟨p, hp, hd, hf⟩ := small_block h sb cd hcfg b hx h0 hBb wf.bsHi
  exact ⟨p, hp, hd, hf (.inr (.inl h17))⟩

/-! ## 6. the hypotheses are satisfiable -/

/-- a header of the modelled codecs: XXHash32, ANS0, ZRLT+MTFT+RANK+ZRLT+MTFT (five transforms: extra
skip-flag byte), 64 KiB blocks -/
example : WF (mkHeader 1 5 (Names.chainType [6, 7, 8, 6, 7]) 65536 0) ∧
    (cfgOfHeader (mkHeader 1 5 (Names.chainType [6, 7, 8, 6, 7]) 65536 0) false).isSome = true :=
  ⟨by decide, rfl⟩

/-- the sequence `transform.New` builds for it has five transforms -/
example : ((newSeq (Names.chainType [6, 7, 8, 6, 7])).map List.length) = some 5 := rfl

/-- a declining first stage: ZRLT refuses a block without zeros that contains 0xFF (the output would be
longer than the input), MTFT accepts: flags 0xBF -/
example : (seqForward (fwdStages [zrltTr, sbrtTr 1] 3) [9, 8, 0xFF]).2 = 0xBF := by
  decide +kernel

/-- the frame-size hypothesis of the `_partial` theorems is decidable block by block (here: 40 bytes of
a single value through ZRLT+ANS0, a 12-byte payload) -/
example : (payloadOf ⟨0, [zrltTr], ans0Ent, false, some 1024⟩ (List.replicate 40 7)).length ≤ maxFrameBits 1024 := by
  decide +kernel

end Kanzi.C01gen
