/-
Constants of the ROLZ / ROLZX models (`Kanzi/Model/ROLZX.lean`, `Kanzi/Model/ROLZ1.lean`) tied to the values the
Go type checker computes for the named constants of /repo/v2 (`Kanzi/Generated/Consts.lean`, regenerated on
every run) - same mechanism as `Kanzi/Properties/ConstsTie.lean`, whose namespace the theorem shares.
`_ROLZ_HASH_MASK` is used in the model as `x / 2^24 * 2^24` (tag) and `x % 2^24` (position): it is the
complement of `_ROLZ_CHUNK_SIZE - 1` in 32 bits.  The literals 16384 / 32768 / 12 of the ANS coders used by
ROLZ are the default chunk size and log range of `ANSRangeCodec.go`.
-/
import Kanzi.Generated.Consts
import Kanzi.Model.ROLZX
import Kanzi.Model.ROLZ1

namespace Kanzi.ConstsTie
open Kanzi.Generated

theorem rolz_consts :
    Consts.transform._ROLZ_CHUNK_SIZE = Kanzi.ROLZ.CHUNK_SIZE ∧
    Consts.transform._ROLZ_CHUNK_SIZE = 2 ^ 24 ∧
    Consts.transform._ROLZ_HASH_MASK = 2 ^ 32 - 2 ^ 24 ∧
    Consts.transform._ROLZ_HASH_SEED = Kanzi.ROLZ.HASH_SEED ∧
    Consts.transform._ROLZ_HASH_SIZE = Kanzi.ROLZ.HASH_SIZE ∧
    Consts.transform._ROLZ_LOG_POS_CHECKS1 = Kanzi.ROLZ.LOG_POS_CHECKS1 ∧
    Consts.transform._ROLZ_LOG_POS_CHECKS2 = Kanzi.ROLZ.LOG_POS_CHECKS2 ∧
    Consts.transform._ROLZ_MAX_BLOCK_SIZE = Kanzi.ROLZ.MAX_BLOCK_SIZE ∧
    Consts.transform._ROLZ_MIN_BLOCK_SIZE = Kanzi.ROLZ.MIN_BLOCK_SIZE ∧
    Consts.transform._ROLZ_MAX_MATCH1 = Kanzi.ROLZ.MAX_MATCH1 ∧
    Consts.transform._ROLZ_MAX_MATCH2 = Kanzi.ROLZ.MAX_MATCH2 ∧
    Consts.transform._ROLZ_MIN_MATCH3 = Kanzi.ROLZ.MIN_MATCH3 ∧
    Consts.transform._ROLZ_MIN_MATCH4 = Kanzi.ROLZ.MIN_MATCH4 ∧
    Consts.transform._ROLZ_MIN_MATCH7 = Kanzi.ROLZ.MIN_MATCH7 ∧
    Consts.transform._ROLZ_DST_MARGIN = Kanzi.ROLZ.DST_MARGIN ∧
    Consts.transform._ROLZ_PSCALE = Kanzi.ROLZ.PSCALE ∧
    Consts.transform._ROLZ_TOP = Kanzi.ROLZ.TOP ∧
    Consts.transform._ROLZ_LITERAL_FLAG = 1 ∧ Consts.transform._ROLZ_MATCH_FLAG = 0 ∧
    Consts.transform._ROLZ_LITERAL_CTX = 1 ∧ Consts.transform._ROLZ_MATCH_CTX = 0 ∧
    Consts.transform._MASK_0_32 = Kanzi.ROLZ.MASK_0_32 ∧ Consts.transform._MASK_0_56 = 2 ^ 56 - 1 ∧
    Consts.entropy._DEFAULT_ANS0_CHUNK_SIZE = 16384 ∧ Consts.entropy._DEFAULT_ANS_LOG_RANGE = 12 ∧
    Consts.internal.DT_DNA = Kanzi.ROLZ.DT_DNA ∧ Consts.internal.DT_EXE = Kanzi.ROLZ.DT_EXE ∧
    Consts.internal.DT_MULTIMEDIA = Kanzi.ROLZ.DT_MULTIMEDIA ∧ Consts.internal.DT_UNDEFINED = Kanzi.ROLZ.DT_UNDEFINED := by
  decide

end Kanzi.ConstsTie
