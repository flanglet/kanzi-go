/-
ConstsTie — the literal constants the hand-written models were transcribed with, tied to the
values the Go type checker computes for the named constants of /repo/v2 on every run
(`Kanzi/Generated/Consts.lean`, regenerated by `kv facts -which Consts`).

These are proof obligations of the properties whose models use the constants: when a constant of
/repo changes, the corresponding theorem below stops checking (it is closed by `decide`), the
check then searches for a failing input with the streams of the property, and reports the broken
obligation if it finds none.  Each conjunct names the model site that relies on the value.
-/
import Kanzi.Generated.Consts
import Kanzi.Model.Header
import Kanzi.Model.Block
import Kanzi.Model.EntSmall
import Kanzi.Model.Names
import Kanzi.Model.XXHash
import Kanzi.Model.RLT
import Kanzi.Model.Range

namespace Kanzi.ConstsTie
open Kanzi.Generated

/-- stream container (io/CompressedStream.go): magic, format version, legal block sizes
(`Model.Header`), the copy-block threshold and mode-byte masks (`Model.Block.modeByte`,
`decodeTask`), the extra task-buffer margin (`Model.Block.taskBlockLength`), the job cap and the
cancel value of the hand-off counter (`Model.Protocol`, `Model.Writer`, `Model.Reader`). -/
theorem io_consts :
    Consts.io._BITSTREAM_TYPE = Kanzi.Header.magic ∧
    Consts.io._BITSTREAM_FORMAT_VERSION = Kanzi.Header.version ∧
    Consts.io._MIN_BITSTREAM_BLOCK_SIZE = Kanzi.Header.minBlockSize ∧
    Consts.io._MAX_BITSTREAM_BLOCK_SIZE = Kanzi.Header.maxBlockSize ∧
    Consts.io._SMALL_BLOCK_SIZE = 15 ∧
    Consts.io._COPY_BLOCK_MASK = 0x80 ∧
    Consts.io._TRANSFORMS_MASK = 0x10 ∧
    Consts.io._EXTRA_BUFFER_SIZE = 512 ∧
    Consts.io._MAX_CONCURRENCY = 64 ∧
    Consts.io._CANCEL_TASKS_ID = -1 ∧
    Consts.io._STREAM_DEFAULT_BUFFER_SIZE = 256 * 1024 := by decide +kernel

/-- the header CRC seed is `0x01030507 * version` (`Model.Header.crcSeed`) -/
theorem io_crc_seed :
    Kanzi.Header.crcSeed = BitVec.ofNat 32 (0x01030507 * Consts.io._BITSTREAM_FORMAT_VERSION) := by decide +kernel

/-- checksum widths as the ctx / event constants name them (`Model.Block`, `Model.Header`) -/
theorem kanzi_consts :
    Consts.kanzi.EVT_HASH_NONE = 0 ∧ Consts.kanzi.EVT_HASH_32BITS = 32 ∧ Consts.kanzi.EVT_HASH_64BITS = 64 := by
  decide +kernel

/-- XXHash primes (`Model.XXHash`) -/
theorem hash_consts :
    Kanzi.XXHash.P32_1.toNat = Consts.hash._XXHASH_PRIME32_1 ∧
    Kanzi.XXHash.P32_2.toNat = Consts.hash._XXHASH_PRIME32_2 ∧
    Kanzi.XXHash.P32_3.toNat = Consts.hash._XXHASH_PRIME32_3 ∧
    Kanzi.XXHash.P32_4.toNat = Consts.hash._XXHASH_PRIME32_4 ∧
    Kanzi.XXHash.P32_5.toNat = Consts.hash._XXHASH_PRIME32_5 ∧
    Kanzi.XXHash.P64_1.toNat = Consts.hash._XXHASH_PRIME64_1 ∧
    Kanzi.XXHash.P64_2.toNat = Consts.hash._XXHASH_PRIME64_2 ∧
    Kanzi.XXHash.P64_3.toNat = Consts.hash._XXHASH_PRIME64_3 ∧
    Kanzi.XXHash.P64_4.toNat = Consts.hash._XXHASH_PRIME64_4 ∧
    Kanzi.XXHash.P64_5.toNat = Consts.hash._XXHASH_PRIME64_5 := by decide +kernel

/-- entropy package: alphabet flags and ANS / NONE codec parameters (`Model.EntSmall`) -/
theorem entropy_consts :
    Consts.entropy._ANS_TOP = Kanzi.EntSmall.ansTop ∧
    Consts.entropy._FULL_ALPHABET = 0 ∧ Consts.entropy._PARTIAL_ALPHABET = 1 ∧
    Consts.entropy._ALPHABET_256 = 0 ∧ Consts.entropy._ALPHABET_0 = 1 ∧
    Consts.entropy._DEFAULT_ANS0_CHUNK_SIZE = 16384 ∧
    Consts.entropy._DEFAULT_ANS_LOG_RANGE = 12 ∧
    Consts.entropy._ANS_MIN_CHUNK_SIZE = 1024 ∧
    Consts.entropy._ANS_MAX_CHUNK_SIZE = 2 ^ 27 ∧
    Consts.entropy._DEFAULT_RANGE_LOG_RANGE = 12 := by decide +kernel

/-- entropy type codes written in the header (`Model.Names`, `Model.Header.validEntropy`) -/
theorem entropy_type_codes :
    Consts.entropy.NONE_TYPE = 0 ∧ Consts.entropy.HUFFMAN_TYPE = 1 ∧ Consts.entropy.FPAQ_TYPE = 2 ∧
    Consts.entropy.PAQ_TYPE = 3 ∧ Consts.entropy.RANGE_TYPE = 4 ∧ Consts.entropy.ANS0_TYPE = 5 ∧
    Consts.entropy.CM_TYPE = 6 ∧ Consts.entropy.TPAQ_TYPE = 7 ∧ Consts.entropy.ANS1_TYPE = 8 ∧
    Consts.entropy.TPAQX_TYPE = 9 := by decide +kernel

/-- transform package: chain packing (`Model.Names`), SBRT modes (`Model.TrSmall.sbrt*`) -/
theorem transform_consts :
    Consts.transform._BFF_ONE_SHIFT = Kanzi.Names.oneShift ∧
    Consts.transform._BFF_MAX_SHIFT = Kanzi.Names.maxShift ∧
    Consts.transform._BFF_MASK = Kanzi.Names.mask ∧
    Consts.transform.NONE_TYPE = Kanzi.Names.noneType ∧
    Consts.transform.SBRT_MODE_MTF = 1 ∧ Consts.transform.SBRT_MODE_RANK = 2 ∧
    Consts.transform.SBRT_MODE_TIMESTAMP = 3 := by decide +kernel

/-- run-length transform (`Model.RLT`): thresholds, run-length coding steps, escape byte, and the
data-type codes its early-decline test and `DetectSimpleType` write-back use -/
theorem rlt_consts :
    Consts.transform._RLT_RUN_LEN_ENCODE1 = Kanzi.RLT.RUN_LEN_ENCODE1 ∧
    Consts.transform._RLT_RUN_LEN_ENCODE2 = Kanzi.RLT.RUN_LEN_ENCODE2 ∧
    Consts.transform._RLT_RUN_THRESHOLD = Kanzi.RLT.RUN_THRESHOLD ∧
    Consts.transform._RLT_MAX_RUN = Kanzi.RLT.MAX_RUN ∧
    Consts.transform._RLT_MAX_RUN4 = Kanzi.RLT.MAX_RUN4 ∧
    Consts.transform._RLT_MIN_BLOCK_LENGTH = Kanzi.RLT.MIN_BLOCK_LENGTH ∧
    Consts.transform._RLT_DEFAULT_ESCAPE = Kanzi.RLT.DEFAULT_ESCAPE ∧
    Consts.internal.DT_UNDEFINED = Kanzi.RLT.DT_UNDEFINED ∧
    Consts.internal.DT_NUMERIC = Kanzi.RLT.DT_NUMERIC ∧
    Consts.internal.DT_BASE64 = Kanzi.RLT.DT_BASE64 ∧
    Consts.internal.DT_DNA = Kanzi.RLT.DT_DNA ∧
    Consts.internal.DT_BIN = Kanzi.RLT.DT_BIN ∧
    Consts.internal.DT_UTF8 = Kanzi.RLT.DT_UTF8 ∧
    Consts.internal.DT_SMALL_ALPHABET = Kanzi.RLT.DT_SMALL_ALPHABET := by decide +kernel

/-- range coder (`Model.Range`) -/
theorem range_consts :
    Consts.entropy._TOP_RANGE = Kanzi.Range.topRange ∧
    Consts.entropy._BOTTOM_RANGE = Kanzi.Range.bottomRange ∧
    Consts.entropy._RANGE_MASK = Kanzi.Range.rangeMask ∧
    Consts.entropy._DEFAULT_RANGE_CHUNK_SIZE = Kanzi.Range.defaultChunkSize ∧
    Consts.entropy._DEFAULT_RANGE_LOG_RANGE = Kanzi.Range.defaultLogRange ∧
    Consts.entropy._RANGE_MAX_CHUNK_SIZE = Kanzi.Range.maxChunkSize := by decide +kernel

/-- non-vacuity: the fact base is not empty and every constant was evaluated -/
theorem consts_nonvacuous :
    200 ≤ Consts.total ∧ Consts.io.unevaluated = [] ∧ Consts.entropy.unevaluated = [] ∧
    Consts.transform.unevaluated = [] ∧ Consts.hash.unevaluated = [] ∧ Consts.kanzi.unevaluated = [] := by
  decide +kernel

end Kanzi.ConstsTie
