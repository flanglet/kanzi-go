/-
C13 (small transforms) and C01_sequence — property theorems only; proofs in `Kanzi/Proofs/TrSmall.lean`
(the transforms) and `Kanzi/Proofs/Seq.lean` (the sequence).
The models (`Kanzi/Model/TrSmall.lean`) mirror transform/NullTransform.go, ZRLT.go, SBRT.go,
Sequence.go and the skip-flag expressions of io/CompressedStream.go; they are tied to /repo by the
`trsmall` correspondence stream.

Conventions: a block is a `List Nat` of byte values (hypothesis `∀ x ∈ b, x < 256`); the second
argument of a `…Forward` / `…Inverse` model is `len(dst)` of the Go call; `.ok t` is `dst[0:written]`
with a nil error.  "Input left untouched" is not a theorem here (values are immutable); it is an
oracle of the stream on the real code.
-/
import Kanzi.Model.TrSmall
import Kanzi.Proofs.Seq

namespace Kanzi.C13
open Kanzi.TrSmall

/-- C13_null: into any destination at least as large as advertised by `MaxEncodedLen`, Forward
succeeds with the block itself (so `|output| = MaxEncodedLen`), and Inverse into any destination
that can hold the block returns it. -/
theorem C13_null (b : List Nat) (dstLen n : Nat)
    (hdst : nullMaxEncodedLen b.length ≤ dstLen) (hn : b.length ≤ n) :
    nullForward b dstLen = .ok b ∧ b.length ≤ nullMaxEncodedLen b.length ∧
      nullInverse b n = .ok b :=
  ⟨(null_roundtrip b dstLen n hdst hn).1, Nat.le_refl _, (null_roundtrip b dstLen n hdst hn).2⟩

/-- C13_zrlt: whenever ZRLT.Forward accepts a block (it declines exactly when its output would not
fit in `len(src)` bytes, conservatively: every zero run and every escaped byte must end strictly /
at most at `len(src)`), the output is at most `MaxEncodedLen(len) = len` bytes long and
ZRLT.Inverse into ANY destination of at least the original size returns the original block.
`b.length + 1 < 2^32`: Go computes the run-length width with `Log2NoCheck(uint32(runLength))`;
blocks are at most 2^30 bytes (stream constructor), so this is no restriction in the pipeline. -/
theorem C13_zrlt (b t : List Nat) (dstLen : Nat)
    (hb : ∀ x ∈ b, x < 256) (hlen : b.length + 1 < 2 ^ 32)
    (hdst : zrltMaxEncodedLen b.length ≤ dstLen)
    (h : zrltForward b dstLen = .ok t) :
    t.length ≤ zrltMaxEncodedLen b.length ∧ ∀ n, b.length ≤ n → zrltInverse t n = .ok b :=
  zrlt_roundtrip b t dstLen hb hlen hdst h

/-- the encoded block consists of byte values -/
theorem C13_zrlt_bytes (b t : List Nat) (dstLen : Nat) (hb : ∀ x ∈ b, x < 256)
    (h : zrltForward b dstLen = .ok t) : ∀ y ∈ t, y < 256 :=
  zrltForward_bytes b t dstLen hb h

/-- side condition of the ZRLT model: Go evaluates `dstIdx >= dstEnd-uint(log2)` in unsigned
arithmetic; the subtraction never wraps because a run inside a block of `n` bytes has at most `n`
zeros. -/
theorem C13_zrlt_no_wrap (run n : Nat) (h : run ≤ n) : zrltLog2 (run + 1) ≤ n :=
  zrlt_log2_le run n h

/-- the hypotheses of `C13_zrlt` are satisfiable (accepted, shorter) and Forward can decline -/
example : zrltForward [0, 0, 0, 5, 0xFF] 5 = .ok [0, 0, 6, 0xFF, 1] := rfl
example : zrltInverse [0, 0, 6, 0xFF, 1] 5 = .ok [0, 0, 0, 5, 0xFF] := rfl
example : zrltForward [0xFE] 1 = .error "declined" := rfl

/-- C13_sbrt: for every mode (MTF = 1, RANK = 2, TIMESTAMP = 3 — in fact for any rank-update rule,
`mode` is not restricted), Forward into a destination of at least `MaxEncodedLen(len) = len + 33`
bytes always succeeds, preserves the length, and Inverse into any destination that can hold the
block returns the original. -/
theorem C13_sbrt (mode : Nat) (b : List Nat) (dstLen : Nat)
    (hb : ∀ x ∈ b, x < 256) (hdst : sbrtMaxEncodedLen b.length ≤ dstLen) :
    ∃ t, sbrtForward mode b dstLen = .ok t ∧ t.length = b.length ∧
      t.length ≤ sbrtMaxEncodedLen b.length ∧
      ∀ n, b.length ≤ n → sbrtInverse mode t n = .ok b := by
  obtain ⟨t, h1, h2, _, h3⟩ := sbrt_roundtrip mode b dstLen hb hdst
  exact ⟨t, h1, h2, by unfold sbrtMaxEncodedLen; omega, h3⟩

/- `Array.range 256` is an `Array.ofFn` carrying bound proofs, which the kernel evaluates slowly;
`List.range 256` is cheap. -/
set_option maxRecDepth 20000 in
example : sbrtForward 1 [3, 3, 1, 3] 37 = .ok [3, 0, 2, 1] := by
  rw [sbrtForward, ← List.toArray_range]
  exact congrArg Except.ok (by decide +kernel)
set_option maxRecDepth 20000 in
example : sbrtForward 2 [3, 3, 1, 3] 37 = .ok [3, 0, 2, 1] := by
  rw [sbrtForward, ← List.toArray_range]
  exact congrArg Except.ok (by decide +kernel)
set_option maxRecDepth 20000 in
example : sbrtForward 3 [3, 1, 3, 1] 37 = .ok [3, 2, 1, 1] := by
  rw [sbrtForward, ← List.toArray_range]
  exact congrArg Except.ok (by decide +kernel)

/-- C13_sequence (= C01_sequence): for 1 to 8 stages (0 is covered too; the Go constructor
rejects 0 and more than 8), each of which either declines or succeeds with an output its inverse
maps back (`Stage.GoodOn D`: relative to a class `D` of blocks preserved by the stages, and a
non-empty block is never turned into an empty one), and for EVERY pattern of declining stages: the
inverse sequence driven by the skip flags computed by the forward sequence returns the input.
This includes the case where all stages decline (flags 0xFF, `C13_sequence_all_declined`). -/
theorem C13_sequence (D : List Nat → Prop) (stages : List Stage) (x : List Nat)
    (hn : stages.length ≤ 8) (hst : ∀ st ∈ stages, st.GoodOn D) (hD : D x) :
    seqInverse stages (seqForward stages x).2 (seqForward stages x).1 = .ok x :=
  seq_roundtrip D stages x hn hst hD

/-- the plain form of the hypothesis (no block class) -/
theorem C13_sequence_plain (stages : List Stage) (x : List Nat) (hn : stages.length ≤ 8)
    (hrt : ∀ st ∈ stages, ∀ a b, st.fwd a = .ok b → st.inv b = .ok a)
    (hne : ∀ st ∈ stages, ∀ a b, st.fwd a = .ok b → a ≠ [] → b ≠ []) :
    seqInverse stages (seqForward stages x).2 (seqForward stages x).1 = .ok x :=
  seq_roundtrip (fun _ => True) stages x hn
    (fun st hs a b _ hf => ⟨trivial, hne st hs a b hf, hrt st hs a b hf⟩) trivial

/-- all stages declining ⇒ flags 0xFF and output = input -/
theorem C13_sequence_all_declined (stages : List Stage) (x : List Nat)
    (h : ∀ st ∈ stages, ∀ y, ∃ e, st.fwd y = .error e) :
    seqForward stages x = (x, 0xFF) :=
  seq_all_declined stages x h

/-- Mode-byte lemma: the flags produced for `n ≤ 8` stages are a byte whose low `8-n` bits are
all 1, and the block header round-trips them in both layouts: `n ≤ 4` — merged into the low nibble
of the mode byte and recovered as `(mode<<4)|0x0F`; `n > 4` — bit 0x10 of the mode byte plus an extra
byte.  `mode0` is the mode byte before the flags are merged (non-copy block: only the two block-size
bits 0x60 may be set), and those two bits are read back unchanged. -/
theorem C13_sequence_mode_byte (stages : List Stage) (x : List Nat) (mode0 : Nat)
    (hn : stages.length ≤ 8) (hm : mode0 < 256) (hm0 : mode0 &&& 0x9F = 0) :
    let flags := (seqForward stages x).2
    let em := encodeMode mode0 flags stages.length
    flags < 256 ∧ flags % 2 ^ (8 - stages.length) = 2 ^ (8 - stages.length) - 1 ∧
    decodeFlags em.1 em.2 = flags ∧ (em.1 >>> 5) &&& 3 = mode0 / 32 := by
  intro flags em
  obtain ⟨h1, h2⟩ := seq_flags_shape stages x hn
  have hlow : stages.length ≤ 4 → flags % 16 = 15 :=
    fun h4 => flags_low_nibble flags h1 stages.length h4 h2
  obtain ⟨h3, h4⟩ := mode_byte_roundtrip mode0 flags stages.length hm hm0 h1 hlow
  exact ⟨h1, h2, h3, h4⟩

/-- `MaxEncodedLen` composition: when every stage respects its own (monotone) `MaxEncodedLen`, the
output of the sequence fits in `ByteTransformSequence.MaxEncodedLen(len)`; in particular the
`len(dst) < length` branch after the stage loop of `Forward` (which would publish flags 0xFF over a
destination that does not hold the input) is dead. -/
theorem C13_sequence_len (stages : List Stage) (x : List Nat)
    (hm : ∀ st ∈ stages, ∀ a b, a ≤ b → st.maxLen a ≤ st.maxLen b)
    (hb : ∀ st ∈ stages, ∀ a b, st.fwd a = .ok b → b.length ≤ st.maxLen a.length) :
    (seqForward stages x).1.length ≤ seqMaxEncodedLen stages x.length :=
  seq_forward_len_le stages x hm hb

/-- Instance: any sequence of up to 8 stages drawn from NullTransform, ZRLT and SBRT (any mode),
run with the buffer sizes the Go sequence uses (`req ≥ MaxEncodedLen` of the sequence for every
forward call, `n ≥ len` for every inverse call), round-trips every block of bytes.  This is the
configuration exercised by the `qf` / `qi` operations of the `trsmall` stream, and shows that the
stage hypothesis of `C13_sequence` is satisfiable by the modelled transforms. -/
theorem C13_sequence_small (stages : List Stage) (x : List Nat) (req n : Nat)
    (hn : stages.length ≤ 8) (hst : ∀ st ∈ stages, IsSmallStage req n st)
    (hreq : seqMaxEncodedLen stages x.length ≤ req) (hdst : x.length ≤ n)
    (hb : ∀ b ∈ x, b < 256) (hlen : x.length + 1 < 2 ^ 32) :
    seqInverse stages (seqForward stages x).2 (seqForward stages x).1 = .ok x :=
  seq_small_roundtrip stages x req n hn hst hreq hdst hb hlen

/-- C13_sequence_dst: the same through the destination handling of `ByteTransformSequence.Inverse`
(model `seqInverseDst`, the function the `qi` operations of the `trsmall` stream run): the stage
inverses write into intermediate buffers of `seqInvBufLen stages d ≥ d` bytes and the result is copied
into the caller's `d`-byte destination only if it fits — for every destination `d ≥ len(x)` the
block comes back. -/
theorem C13_sequence_dst (stages : List Stage) (x : List Nat) (req d : Nat)
    (hn : stages.length ≤ 8) (hst : ∀ st ∈ stages, IsSmallStage req (seqInvBufLen stages d) st)
    (hreq : seqMaxEncodedLen stages x.length ≤ req) (hdst : x.length ≤ d)
    (hb : ∀ b ∈ x, b < 256) (hlen : x.length + 1 < 2 ^ 32) :
    seqInverseDst stages (seqForward stages x).2 (seqForward stages x).1 d = .ok x := by
  have hR : x.length ≤ seqInvBufLen stages d := by unfold seqInvBufLen; omega
  have h := seq_small_roundtrip stages x req (seqInvBufLen stages d) hn hst hreq hR hb hlen
  unfold seqInverseDst
  rw [h]
  simp only
  split
  · omega
  · rfl

set_option maxRecDepth 20000 in
example : seqForward [zrltStage 40 7, sbrtStage 1 40 7] [0, 0, 0, 0, 0, 5, 5] = ([1, 1, 6, 0], 0x3F) := by
  simp only [sbrtStage, sbrtForward, ← List.toArray_range]
  decide +kernel
set_option maxRecDepth 20000 in
example : seqForward [zrltStage 36 3, sbrtStage 2 36 3] [9, 8, 0xFF] = ([9, 9, 255], 0xBF) := by
  simp only [sbrtStage, sbrtForward, ← List.toArray_range]
  decide +kernel

end Kanzi.C13
