/-
BitOpsTie — the field layouts the hand-written format models were transcribed with, tied to the
bit-level I/O calls found in the syntax tree of /repo/v2 on every run
(`Kanzi/Generated/BitOps.lean`, regenerated by `kv facts -which BitOps`).

For each function the generated table lists its `WriteBits/ReadBits/WriteBit/ReadBit/WriteArray/
ReadArray` calls in source order with the width argument (constant value, or expression text).
The theorems below say: that list IS the layout of the Lean model — and the layout lists are
connected to the models' bit strings by length theorems, so the expectation is not free-floating.
A change of a field width, a dropped / added / reordered field in /repo breaks an obligation of
C10 (format), C01, C09 and C12 even when the behavioural streams happen not to see it (e.g. a
symmetric change on both sides, which self round trips cannot see).
-/
import Kanzi.Generated.BitOps
import Kanzi.Model.Header
import Kanzi.Model.Container
import Kanzi.Model.Block
import Kanzi.Proofs.Bits

namespace Kanzi.BitOpsTie
open Kanzi.Generated.BitOps Kanzi.Bits

/-- widths of a call list -/
def widths (l : List (String × String)) : List String := l.map (·.2)

/-- operations of a call list -/
def kinds (l : List (String × String)) : List String := l.map (·.1)

/-! ### stream header -/

/-- the model's header layout: field widths in order (`szMask` = number of 16-bit units of the
optional original-size field) -/
def headerLayout (szMask : Nat) : List Nat :=
  [32, 4, 2, 5, 48, 28, 2] ++ (if szMask > 0 then [16 * szMask] else []) ++ [15, 24]

/-- the model's `headerBits` has exactly the bits of its layout -/
theorem headerBits_length (h : Kanzi.Header.Header) :
    (Kanzi.Header.headerBits h).length = (headerLayout h.szMask).sum := by
  unfold Kanzi.Header.headerBits headerLayout
  split <;> simp <;> omega

/-- `Writer.writeHeader` writes exactly the fields of the model's layout, in order: the width
arguments in the source are the layout with the original-size width spelled `16*szMask`. -/
theorem writeHeader_layout :
    opsOf io "Writer.writeHeader" =
      [("WriteBits", "32"), ("WriteBits", "4"), ("WriteBits", "2"), ("WriteBits", "5"), ("WriteBits", "48"),
       ("WriteBits", "28"), ("WriteBits", "2"), ("WriteBits", "16*szMask"), ("WriteBits", "15"), ("WriteBits", "24")] := by
  decide +kernel

/-- `Reader.readHeader`: the version-6 path reads the same fields (then the legacy version
branches read their own 6/4-bit fields; `ReadBit` is the legacy one-bit checksum flag);
`crcSize` is 24 for version 6 (16 for older versions) -/
theorem readHeader_layout :
    opsOf io "Reader.readHeader" =
      [("ReadBits", "32"), ("ReadBits", "4"), ("ReadBits", "2"), ("ReadBit", "1"), ("ReadBits", "5"), ("ReadBits", "48"),
       ("ReadBits", "28"), ("ReadBits", "2"), ("ReadBits", "16*szMask"), ("ReadBits", "15"), ("ReadBits", "crcSize"),
       ("ReadBits", "6"), ("ReadBits", "4"), ("ReadBits", "6"), ("ReadBits", "4")] := by
  decide +kernel

/-! ### frames and end marker -/

/-- `Writer.writeEndMarker` = the model's `endMarker` (5 + 3 zero bits) -/
theorem endMarker_layout :
    opsOf io "Writer.writeEndMarker" = [("WriteBits", "5"), ("WriteBits", "3")] ∧
    Kanzi.Container.endMarker.length = 5 + 3 := by
  constructor
  · decide +kernel
  · simp [Kanzi.Container.endMarker]

/-- frame = 5-bit (lw-3), lw-bit length, payload array: the tail of `encodingTask.encode` and the
head of `decodingTask.decode`; the model's `frameBits` has that shape -/
theorem frame_layout :
    (opsOf io "encodingTask.encode").drop 6 = [("WriteBits", "5"), ("WriteBits", "lw"), ("WriteArray", "chkSize")] ∧
    (opsOf io "decodingTask.decode").take 3 = [("ReadBits", "5"), ("ReadBits", "lr"), ("ReadArray", "chkSize")] := by
  decide +kernel

theorem frameBits_length (p : Bits) :
    (Kanzi.Container.frameBits p).length = 5 + Kanzi.Container.lenWidth p.length + p.length := by
  simp [Kanzi.Container.frameBits]; omega

/-! ### block prologue (mode, skip flags, length, checksum) -/

/-- `encodingTask.encode` writes mode (8) | mode (8) + skip flags (8) | length (8·dataSize) |
checksum 32 | checksum 64 — the two mode alternatives and the two checksum alternatives appear in
source order; `decodingTask.decode` reads mode 8, skip flags 8, `length`, checksum 32 / 64. -/
theorem block_prologue_layout :
    (opsOf io "encodingTask.encode").take 6 =
      [("WriteBits", "8"), ("WriteBits", "8"), ("WriteBits", "8"), ("WriteBits", "8*dataSize"),
       ("WriteBits", "32"), ("WriteBits", "64")] ∧
    (opsOf io "decodingTask.decode").drop 3 =
      [("ReadBits", "8"), ("ReadBits", "8"), ("ReadBits", "length"), ("ReadBits", "32"), ("ReadBits", "64")] := by
  decide +kernel

/-- the model's NONE/NONE block image has that prologue: 8 + 8·dataSize + checksum width bits
before the data bytes -/
theorem encodeNone_length (ck sum : Nat) (data : List Nat) :
    (Kanzi.Block.encodeNoneWith ck sum data).length =
      8 + 8 * Kanzi.Block.dataSizeOf data.length + Kanzi.Block.ckWidth ck + 8 * data.length := by
  simp [Kanzi.Block.encodeNoneWith, Kanzi.Bits.ofBytes_length]; omega

/-! ### entropy package helpers modelled in `Model.EntSmall` -/

/-- VarInt: 8-bit groups only; alphabet: flag bits, a 5-bit count, a byte-mask array; NONE
codec: whole-byte arrays; ANS header: 3-bit logRange-8 (written by `updateFrequencies`), then
`llr`-bit and `logMax`-bit fields; ANS chunk: four 32-bit states then the byte array; the binary
arithmetic coders: a 56-bit trailer. -/
theorem entropy_layouts :
    opsOf entropy "WriteVarInt" = [("WriteBits", "8"), ("WriteBits", "8")] ∧
    opsOf entropy "ReadVarInt" = [("ReadBits", "8"), ("ReadBits", "8")] ∧
    opsOf entropy "EncodeAlphabet" =
      [("WriteBit", "1"), ("WriteBit", "1"), ("WriteBit", "1"), ("WriteBit", "1"), ("WriteBit", "1"),
       ("WriteBits", "5"), ("WriteArray", "8*uint(lastMask+1)")] ∧
    opsOf entropy "DecodeAlphabet" =
      [("ReadBit", "1"), ("ReadBit", "1"), ("ReadBits", "5"), ("ReadArray", "8*uint(lastMask+1)")] ∧
    opsOf entropy "NullEntropyEncoder.Write" = [("WriteArray", "uint(8*ckSize)")] ∧
    opsOf entropy "NullEntropyDecoder.Read" = [("ReadArray", "uint(8*ckSize)")] ∧
    opsOf entropy "ANSRangeEncoder.updateFrequencies" = [("WriteBits", "3")] ∧
    opsOf entropy "ANSRangeEncoder.encodeHeader" = [("WriteBits", "llr"), ("WriteBits", "logMax")] ∧
    opsOf entropy "ANSRangeDecoder.decodeHeader" = [("ReadBits", "3"), ("ReadBits", "llr"), ("ReadBits", "logMax")] ∧
    opsOf entropy "ANSRangeEncoder.encodeChunk" =
      [("WriteBits", "32"), ("WriteBits", "32"), ("WriteBits", "32"), ("WriteBits", "32"),
       ("WriteArray", "8*uint(len(this.buffer)-n)")] ∧
    opsOf entropy "ANSRangeDecoder.decodeChunkV2" =
      [("ReadBits", "32"), ("ReadBits", "32"), ("ReadBits", "32"), ("ReadBits", "32"), ("ReadArray", "uint(8*sz)")] ∧
    opsOf entropy "BinaryEntropyEncoder.Write" = [("WriteArray", "uint(8*this.index)"), ("WriteBits", "56")] ∧
    opsOf entropy "BinaryEntropyEncoder.Dispose" = [("WriteBits", "56")] ∧
    opsOf entropy "BinaryEntropyDecoder.Read" = [("ReadBits", "56"), ("ReadArray", "uint(8*szBytes)")] := by
  decide +kernel

/-- every writer of the entropy package has a reader with the same multiset of constant widths:
encoder/decoder pairs listed explicitly (symmetric pairs the models rely on) -/
theorem entropy_pairs_mirror :
    widths (opsOf entropy "RangeEncoder.encodeHeader") = widths (opsOf entropy "RangeDecoder.decodeHeader") ∧
    widths (opsOf entropy "RangeEncoder.encodeByte") = widths (opsOf entropy "RangeDecoder.decodeByte") ∧
    widths (opsOf entropy "RangeEncoder.Write") = widths (opsOf entropy "RangeDecoder.Read") ∧
    widths (opsOf entropy "WriteVarInt") = widths (opsOf entropy "ReadVarInt") ∧
    widths (opsOf entropy "FPAQEncoder.Dispose") = ["56"] ∧
    (widths (opsOf entropy "FPAQDecoder.Read")).head? = some "56" := by
  decide +kernel

/-- the decoder models of property C03 (`Model.AnsDec`, `Model.RangeDec`, `Model.BinDecCap`) read these
fields: ANS legacy chunk = two 32-bit states (the second only for order 0) then `sz` bytes; ANS `Read` of a
block of at most 32 bytes = the raw bytes; Range `Read` = 60-bit code per chunk, 28 bits per
renormalisation round (the bound of `C03_range_renorm_bounded`); FPAQ = 56-bit state then the payload. -/
theorem decoder_layouts :
    opsOf entropy "ANSRangeDecoder.decodeChunkV1" = [("ReadBits", "32"), ("ReadBits", "32"), ("ReadArray", "uint(8*sz)")] ∧
    opsOf entropy "ANSRangeDecoder.Read" = [("ReadArray", "uint(8*len(block))")] ∧
    opsOf entropy "RangeDecoder.Read" = [("ReadBits", "60")] ∧
    opsOf entropy "RangeDecoder.decodeByte" = [("ReadBits", "28")] ∧
    opsOf entropy "RangeDecoder.decodeHeader" = [("ReadBits", "3"), ("ReadBits", "llr"), ("ReadBits", "logMax")] ∧
    opsOf entropy "FPAQDecoder.Read" = [("ReadBits", "56"), ("ReadArray", "uint(8*szBytes)")] := by
  decide +kernel

/-- non-vacuity -/
theorem bitops_nonvacuous : 100 ≤ total ∧ io.length = 5 := by decide

end Kanzi.BitOpsTie
