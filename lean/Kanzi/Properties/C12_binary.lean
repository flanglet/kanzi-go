/-
C12 (generic binary arithmetic coder) — `BinaryEntropyEncoder` / `BinaryEntropyDecoder` of
v2/entropy/BinaryEntropyCodec.go, the engine of the CM, TPAQ and TPAQX entropy codecs (each plugs a
`kanzi.Predictor` into it).  Property theorems only; proofs live in
`Kanzi/Proofs/BinEnt.lean` (pure coder, encoder), `Kanzi/Proofs/BinEntDec.lean` (decoder) and
`Kanzi/Proofs/BinEntBlock.lean` (bytes, chunks, blocks).  Core Lean only, no Mathlib.

The model (`Kanzi/Model/BinEnt.lean`) mirrors `EncodeBit`, `flush`, `EncodeByte`, `Write` (chunk
rule, VarInt payload size, `WriteArray` of the chunk buffer, 56-bit trailer `low | MASK_0_24`
between chunks), `Dispose`, and `DecodeBit`, `read`, `DecodeByte`, `Read` (VarInt, 56-bit
`current`, `ReadArray`, buffer index) with the Go `uint64` arithmetic (the encoder never masks
`low` / `high` to 56 bits: the proof carries the identical left-over top 8 bits).  It is tied
byte-identically to /repo by the `binent` correspondence stream.

THE PREDICTOR IS A PARAMETER.  `Pred σ` is a deterministic state machine: `get s` = the value
returned by `Get()` in state `s`, `update s b` = the state after `Get(); Update(b)` (the coder calls
`Get()` exactly once before each `Update`, in both directions; for a predictor whose `Get()` mutates
its state, e.g. CMPredictor's `idx`, use `Pred.ofImpure`).  The ONLY hypothesis on the predictor is
`P.Safe R`: some state invariant `R` (chosen by the instance) is preserved by `update` and on `R`
every `Get()` is in the documented range `0 ≤ p ≤ 4095` (`Pred.Safe.of12`).  Both ends are safe;
`4096` is not (the split could reach `high`).  `Pred.Ok` is the special case `R = True`.
(`Pred` also carries the first shift of the split computation, `shift = 4` here; the proofs are
shared with FPAQ, whose coder uses `shift = 8` and 16-bit probabilities: `Safe.range` is stated as
`p < 2^(8 + shift)`.)

Every round trip is in the exact-consumption form  dec (enc x ++ rest) = (x, rest)  for EVERY
continuation `rest`.

The model follows the code AFTER the repairs d8b7b56 and f731923 (finding F36: `flush` stored 4
bytes past a buffer of `length + length>>3` bytes when the predictor kept guessing wrong): `flush` now
grows the buffer, so the encoder never fails (`C12_binary_encode_total`); `Read` accepts a chunk
larger than the estimate only below TWICE the chunk length `length` (to bound the allocation a forged
size can cause).  The coder itself only guarantees 32 bytes per byte (`C12_binary_flushed_le`, tight:
`C12_binary_estimate_exceeded_adversarial`), so the round trip needs the explicit, decidable
hypothesis `fits2 P M s0 blk` — every chunk flushes fewer than `2·length` bytes — which is EXACTLY the
decoder's acceptance: with it the block round-trips (`C12_binary_block`), without it the decoder
answers "Invalid bitstream" (`C12_binary_reject`), and `C12_binary_expansion_limit` exhibits a
predictor within the 12-bit contract and a block in that case.  Whether the real CM / TPAQ predictors
can be driven to a two-fold expansion is not decided here (the adversaries of the `binent` stream
stay below 1.4: figures per codec in `C12_cm_codec.lean`, `C12_tpaq_codec.lean`).
-/
import Kanzi.Model.BinEnt
import Kanzi.Proofs.BinEntBlock

namespace Kanzi.C12
open Kanzi.Bits Kanzi.EntSmall Kanzi.BinEnt

/-! ## 1. bit level -/

/-- **C12_binary_bits.**  For every predictor satisfying the contract, every initial predictor
state and every bit list: the encoder (fresh, buffer of `bufLen` bytes, any `bufLen`) codes `bits`
without failing (the buffer grows when needed and always holds the `index` flushed bytes; `index ≤
4·|bits|`: at most one 32-bit flush per coded bit).  Let `S` be what `Write` / `Dispose` put on the
stream after the VarInt: the flushed bytes `buffer[0:index]` then the 56-bit trailer.  A fresh decoder
that has loaded `S` the way `Read` does (`current` = the first 56 bits, the buffer = the remaining
`index` bytes, followed by ANY stale bytes) decodes exactly `bits` (as the number `acc·2^n + bits`,
the way `DecodeByte` accumulates them), its predictor state and its interval equal the encoder's, and
it has consumed exactly the `index` payload bytes (only `stale` is left in the buffer). -/
theorem C12_binary_bits {σ : Type} (P : Pred σ) {R : σ → Prop} (hP : P.Safe R) (s0 : σ) (hs : R s0)
    (bits : List Bool) (bufLen : Nat) :
    ∃ e', Enc.encodeBits P (Enc.fresh s0 bufLen) bits = .ok e' ∧
      e'.index = e'.rev.length ∧ e'.index ≤ 4 * bits.length ∧ e'.index ≤ e'.bufLen ∧ bufLen ≤ e'.bufLen ∧
      ∀ (stale : List Nat) (acc : Nat), ∃ d', Dec.decodeBitsAcc P bits.length
        (Dec.fresh s0 (bitsNat ((ofBytes e'.rev.reverse ++ e'.trailer).take 56))
          (bytesOf e'.index ((ofBytes e'.rev.reverse ++ e'.trailer).drop 56) ++ stale)) acc
        = .ok (acc * 2 ^ bits.length + bitsNat bits, d') ∧
      d'.ps = e'.ps ∧ d'.low = e'.low % 2 ^ 56 ∧ d'.high = e'.high % 2 ^ 56 ∧ d'.rem = stale :=
  bits_rt P hP s0 hs bits bufLen

/-- the bit list is determined by the decoded number: `natBits (bitsNat bits) |bits| = bits` -/
theorem C12_binary_bits_number (bits : List Bool) : natBits (bitsNat bits) bits.length = bits :=
  natBits_bitsNat bits

/-- the code value stays inside the interval: from ANY reachable coder state `(s, l, h)` the first
56 bits of everything the encoder will still emit (flushed words, then the trailer) lie in
`[l, h]`.  This is the invariant behind every decoding decision. -/
theorem C12_binary_code_value_in_interval {σ : Type} (P : Pred σ) {R : σ → Prop} (hP : P.Safe R)
    (s : σ) (l h : Nat) (hs : R s) (hi : Inv l h) (bits : List Bool) :
    l ≤ win P s l h bits ∧ win P s l h bits ≤ h :=
  win_range P hP bits s l h hs hi

/-! ## 2. block level -/

/-- **C12_binary_encode_total.**  `Write` + `Dispose` never fail on a block of at most 2^30 bytes
(any predictor satisfying the contract, any `M`): `flush` grows the buffer instead of running past
its end. -/
theorem C12_binary_encode_total {σ : Type} (P : Pred σ) {R : σ → Prop} (hP : P.Safe R) (M : Nat)
    (s0 : σ) (hs : R s0) (blk : List Nat) (hlen : blk.length ≤ MAX_BLOCK) :
    ∃ out, encodeBlock P M s0 blk = .ok out :=
  encodeBlock_total P hP M s0 hs blk hlen

/-- **C12_binary_block.**  For every predictor satisfying the contract and every NON-EMPTY block
of bytes of length `≤ 2^30` (the Go limit; `M` = `_BINARY_ENTROPY_MAX_CHUNK`, any value with
`8 ≤ M ≤ 2^27`, so single-chunk blocks, blocks shorter than 64 bytes and multi-chunk blocks are all
covered) such that every chunk flushes fewer than twice the chunk length (`fits2`, the decoder's
acceptance test): `Write` + `Dispose` succeed, and `Read` of the same length on the written bits
followed by ANY bits `rest` returns the block and leaves exactly `rest` unread.
(`8 ≤ M` makes the chunk length `count >> 3` of a block of `count ≥ M` bytes positive; `M ≤ 2^27`
keeps every chunk below 2^27 bytes, hence its payload below 2^32 bytes, the range of the `uint32`
VarInt.) -/
theorem C12_binary_block {σ : Type} (P : Pred σ) {R : σ → Prop} (hP : P.Safe R) (M : Nat) (hM : 8 ≤ M)
    (hM27 : M ≤ 2 ^ 27) (s0 : σ) (hs : R s0) (blk : List Nat) (hne : blk ≠ []) (hb : ∀ v ∈ blk, v < 256)
    (hlen : blk.length ≤ MAX_BLOCK) (hfit : fits2 P M s0 blk = true) :
    ∃ out, encodeBlock P M s0 blk = .ok out ∧
      ∀ rest : Bits, decodeBlock P M s0 (out ++ rest) blk.length = .ok (blk, rest) :=
  block_rt P hP M hM hM27 s0 hs blk hne hb hlen hfit

/-- **C12_binary_reject.**  `fits2` is exactly the decoder's acceptance: when some chunk flushes at
least twice the chunk length, the encoder still succeeds but `Read` reports "Invalid bitstream". -/
theorem C12_binary_reject {σ : Type} (P : Pred σ) {R : σ → Prop} (hP : P.Safe R) (M : Nat) (hM : 8 ≤ M)
    (hM27 : M ≤ 2 ^ 27) (s0 : σ) (hs : R s0) (blk : List Nat) (hne : blk ≠ []) (hb : ∀ v ∈ blk, v < 256)
    (hlen : blk.length ≤ MAX_BLOCK) (hfit : fits2 P M s0 blk = false) :
    ∃ out, encodeBlock P M s0 blk = .ok out ∧
      ∀ rest : Bits, decodeBlock P M s0 (out ++ rest) blk.length = .error .invalid :=
  block_reject P hP M hM hM27 s0 hs blk hne hb hlen hfit

/-- the same with the real constant `_BINARY_ENTROPY_MAX_CHUNK = 1 << 26` -/
theorem C12_binary_block_real {σ : Type} (P : Pred σ) {R : σ → Prop} (hP : P.Safe R)
    (s0 : σ) (hs : R s0) (blk : List Nat) (hne : blk ≠ []) (hb : ∀ v ∈ blk, v < 256)
    (hlen : blk.length ≤ 2 ^ 30) (hfit : fits2 P MAX_CHUNK s0 blk = true) :
    ∃ out, encodeBlock P MAX_CHUNK s0 blk = .ok out ∧
      ∀ rest : Bits, decodeBlock P MAX_CHUNK s0 (out ++ rest) blk.length = .ok (blk, rest) :=
  block_rt P hP MAX_CHUNK (by decide) (by decide) s0 hs blk hne hb hlen hfit

/-- for a single-chunk block (`0 < n < M`) `fits2` reads: the flushed bytes number fewer than
`2·max(n, 64)` -/
theorem C12_binary_fits2_single {σ : Type} (P : Pred σ) (M : Nat) (s0 : σ) (blk : List Nat) (hne : blk ≠ [])
    (hM : blk.length < M) :
    fits2 P M s0 blk = decide (flushedLen P s0 blk < 2 * max blk.length 64) :=
  fits2_single P M s0 blk hne hM

/-- with the final states: after `Read` the decoder's predictor state is the encoder's and its
interval is the encoder's (`ERel e' lf hf`: the encoder's `low` / `high` are `lf` / `hf` plus identical
left-over top 8 bits) -/
theorem C12_binary_block_states {σ : Type} (P : Pred σ) {R : σ → Prop} (hP : P.Safe R) (M : Nat) (hM : 8 ≤ M)
    (hM27 : M ≤ 2 ^ 27) (s0 : σ) (hs : R s0) (blk : List Nat) (hne : blk ≠ []) (hb : ∀ v ∈ blk, v < 256)
    (hlen : blk.length ≤ MAX_BLOCK) (hfit : fits2 P M s0 blk = true) (rest : Bits) :
    ∃ bits e', (Enc.init s0).write P M blk = .ok (bits, e') ∧ e'.dispose.1 = e'.trailer ∧
    ∃ d' lf hf, (Dec.init s0).readBlock P M (bits ++ e'.dispose.1 ++ rest) blk.length = .ok (blk, d', rest) ∧
      d'.ps = e'.ps ∧ ERel e' lf hf ∧ Inv lf hf ∧ d'.low = lf ∧ d'.high = hf := by
  obtain ⟨r, hw⟩ := write_total P hP M s0 hs blk hlen
  have h := block_rt_full P hP M hM hM27 s0 hs blk hne hb hlen r.1 r.2 hw rest
  exact ⟨r.1, r.2, hw, h.1, h.2.1 hfit⟩

/-! ## 3. the empty block (known finding F11) -/

/-- **C12_binary_empty_mismatch.**  On a 0-length block `Write` writes nothing and `Dispose` writes
the 56 bits `0x00000000FFFFFF`, while `Read` of 0 bytes reads nothing at all: the 56 bits stay in
front of whatever follows, so data after an empty block is NOT read correctly.  (Unreachable through
the stream layer: empty blocks are never entropy coded.) -/
theorem C12_binary_empty_mismatch {σ : Type} (P : Pred σ) (M : Nat) (s0 : σ) (rest : Bits) :
    encodeBlock P M s0 [] = .ok (natBits 0xFFFFFF 56) ∧
    decodeBlock P M s0 (natBits 0xFFFFFF 56 ++ rest) 0 = .ok ([], natBits 0xFFFFFF 56 ++ rest) ∧
    natBits 0xFFFFFF 56 ++ rest ≠ rest :=
  ⟨encodeBlock_nil P M s0, decodeBlock_zero P M s0 _, by
    intro h
    have := congrArg List.length h
    rw [List.length_append, natBits_length] at this
    omega⟩

/-! ## 4. the buffer estimate `length + length>>3` and the bound `32·n` -/

/-- `flushedLen P s0 blk` = the number of bytes `flush` stores for the block (pure coder): at most
one 32-bit word per coded bit, i.e. `32·n` bytes for `n` bytes of input. -/
theorem C12_binary_flushed_le {σ : Type} (P : Pred σ) (s0 : σ) (blk : List Nat) :
    flushedLen P s0 blk ≤ 32 * blk.length :=
  flushedLen_le P s0 blk

/-- **C12_binary_encode_single.**  What the encoder writes for a single-chunk block (`0 < n < M`,
`n < 2^27`): the VarInt of the number of flushed bytes, these bytes, the 56-bit trailer — whether or
not that number exceeds the estimate. -/
theorem C12_binary_encode_single {σ : Type} (P : Pred σ) {R : σ → Prop} (hP : P.Safe R) (M : Nat)
    (s0 : σ) (hs : R s0) (blk : List Nat) (hne : blk ≠ []) (hM : blk.length < M)
    (hlen : blk.length < 2 ^ 27) :
    encodeBlock P M s0 blk = .ok (writeVarInt (flushedLen P s0 blk) ++ pOut P s0 0 TOP (ofBytes blk)) :=
  encodeBlock_single P hP M s0 hs blk hne hM hlen

/-- **C12_binary_estimate_exceeded_adversarial.**  The ESTIMATE `length + length>>3` (`length =
max(n, 64)`) is false for predictors that respect the 12-bit contract: with `Get() = 0` always ("a one
is impossible"), a block of `n ≥ 3` bytes `0xFF` flushes on every bit: `32·n` bytes — the maximum of
`C12_binary_flushed_le`, so the bound `32·n` is tight — which is more than the estimate.  Before
the repair this was an index out of range in `flush` (and the real TPAQ predictor reaches it on a
67-byte block: `binent` stream, `real TPAQ 67 adv 0`); now the buffer grows. -/
theorem C12_binary_estimate_exceeded_adversarial {σ : Type} (P : Pred σ) (h0 : ∀ s, P.get s = 0)
    (s0 : σ) (n : Nat) (hn : 3 ≤ n) :
    flushedLen P s0 (List.replicate n 255) = 32 * n ∧
    bufSizeOf (max n 64) < flushedLen P s0 (List.replicate n 255) :=
  estimate_exceeded P h0 s0 n hn

/-- **C12_binary_expansion_limit.**  The residual gap, explicit: a predictor WITHIN the 12-bit
contract (`Get() = 0` always) and a block (`n ≥ 4` bytes `0xFF`, single chunk) for which the encoder
succeeds and the decoder rejects its output ("Invalid bitstream"): `32·n ≥ 2·max(n, 64)`.  The coder
round-trips every block only for predictors that never let a chunk double in size. -/
theorem C12_binary_expansion_limit {σ : Type} (P : Pred σ) (hsh : P.shift = 4) (h0 : ∀ s, P.get s = 0)
    (M : Nat) (hM : 8 ≤ M) (hM27 : M ≤ 2 ^ 27) (s0 : σ) (n : Nat) (hn : 4 ≤ n) (hnM : n < M) :
    fits2 P M s0 (List.replicate n 255) = false ∧
    ∃ out, encodeBlock P M s0 (List.replicate n 255) = .ok out ∧
      ∀ rest : Bits, decodeBlock P M s0 (out ++ rest) n = .error .invalid := by
  have hf := fits2_false_adversarial P h0 M s0 n hn hnM
  have hP : P.Safe (fun _ => True) := Pred.Ok.safe ⟨hsh, fun s => by rw [h0 s]; omega⟩
  have hne : List.replicate n 255 ≠ [] := by
    intro hc
    have := congrArg List.length hc
    rw [List.length_replicate, List.length_nil] at this
    omega
  have hmb : MAX_BLOCK = 1073741824 := rfl
  have := block_reject P hP M hM hM27 s0 trivial (List.replicate n 255) hne
    (fun v hv => by rw [(List.mem_replicate.mp hv).2]; omega)
    (by rw [List.length_replicate]; omega) hf
  rw [List.length_replicate] at this
  exact ⟨hf, this⟩

/-! ## 5. the hypotheses are satisfiable -/

/-- a constant predictor satisfies the contract -/
example : ({ get := fun _ => 2048, update := fun s _ => s } : Pred Unit).Ok :=
  ⟨rfl, fun _ => (by decide : 2048 ≤ 4095)⟩

/-- the two extreme values are allowed -/
example : ({ get := fun s => if s then 0 else 4095, update := fun s _ => !s } : Pred Bool).Safe (fun _ => True) :=
  Pred.Safe.of12 rfl (fun _ _ _ => trivial) (fun s _ => by cases s <;> decide)

/-- `fits2` is decidable and holds e.g. for 3 bytes with a constant predictor (kernel evaluation) -/
example : fits2 ({ get := fun _ => 2048, update := fun s _ => s } : Pred Unit) MAX_CHUNK () [0, 255, 16] = true := by
  decide

end Kanzi.C12
