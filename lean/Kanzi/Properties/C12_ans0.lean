/-
C12 (ANS order 0, whole chunk / whole block) — extends `C12_small.lean` (`C12_ans_step`,
`C12_freq_header`) to the complete order-0 `ANSRangeEncoder.Write` / `ANSRangeDecoder.Read`
(`encodeChunk`, `decodeChunkV2`, 4 interleaved states sharing one byte buffer).
Property theorems only; proofs live in `Kanzi/Proofs/Ans0.lean`.
The model functions (`Kanzi/Model/EntSmall.lean`, section `Ans0`: `mkEncSyms`, `mkDecTable`,
`encRounds`, `decRounds`, `ans0EncodeChunk`, `ans0DecodeChunk`, `ans0Encode`, `ans0Decode`) are tied
byte-identically to /repo by the `entsmall` correspondence stream (op `ab`).

Every round trip is in the "exact consumption" form  dec (enc x ++ rest) = some (x, rest)  for
EVERY continuation `rest`.

Size condition.  `decodeChunkV2` rejects a chunk whose payload size (the VarInt) is `≥ 2^27`
(`_ANS_MAX_CHUNK_SIZE`).  Each encoded symbol pushes at most one 16-bit word, so the payload of a
chunk of `n` bytes is at most `2n` bytes (`C12_ans0_payload_le`): the theorems are stated for
chunks shorter than `2^26` bytes, and `C12_ans0_chunk_sz` gives the most general form (the
hypothesis is exactly the decoder's test).  For an ARBITRARY valid table the bound cannot be
improved much (a chunk repeating a symbol of frequency 1 at `lr = 15` costs 15 bits per byte).
All chunk sizes used inside the library (16384, 32768) are far below.
NOT covered (as for order 1, `C12_ans1.lean`): the capacity of the encoder's byte buffer
(`max(min(2*len, chunk+chunk/8), 65536)` bytes); the model's buffer (`EncSt.out`) is unbounded.
-/
import Kanzi.Model.EntSmall
import Kanzi.Proofs.Ans0

namespace Kanzi.C12
open Kanzi.Bits Kanzi.EntSmall

/-! ## stage 1 — one state, a list of symbols -/

/-- **C12_ans0_single_state.**  `f` a frequency table summing to `2^lr` (`8 ≤ lr ≤ 15`), `syms` any
list of symbols with a positive frequency.  Encoding the list BACKWARDS with one rANS state
(`encList1`: `encodeSymbol` with the table `mkEncSyms f lr` built by `updateFrequencies`, starting
from `_ANS_TOP`) yields a normalised final state and at most `2·|syms|` bytes, and decoding
FORWARDS (`decList1`: slot lookup in `mkDecTable f lr` + `decodeSymbol`) from that state, with the
bytes followed by ANY other bytes `rest`, returns exactly `syms`, ends in the initial state
`_ANS_TOP` and leaves exactly `rest`. -/
theorem C12_ans0_single_state (f : List Nat) (lr : Nat) (syms : List Nat) (hlr : 8 ≤ lr ∧ lr ≤ 15)
    (hsum : f.sum = 2 ^ lr) (hs : ∀ a ∈ syms, a < f.length ∧ 0 < f.getD a 0) :
    (2 ^ 15 ≤ (encList1 f lr syms).1 ∧ (encList1 f lr syms).1 < 2 ^ 31) ∧
    (∀ b ∈ (encList1 f lr syms).2, b < 256) ∧
    (encList1 f lr syms).2.length ≤ 2 * syms.length ∧
    ∀ rest : List Nat, decList1 (mkDecTable f lr) lr syms.length (encList1 f lr syms).1
        ((encList1 f lr syms).2 ++ rest) = (syms, ansTop, rest) :=
  single_rt f lr hlr hsum syms hs

/-! ## stage 2 — four interleaved states sharing one buffer -/

/-- **C12_ans0_interleaved.**  `ans0Final blk syms` is the encoder state at the end of the order-0
loop of `encodeChunk` (4 states, rounds `i = end4-1, end4-5, …`, bytes pushed in FRONT of the raw
tail `blk[end4:]`).  Running the decoder loop of `decodeChunkV2` for `len/4` rounds from these
four states on these bytes returns the first `end4` bytes of the chunk, brings the four states back
to `_ANS_TOP` and leaves exactly the raw tail unread: the words pushed by the encoder (st0, st1,
st2, st3 within a round, rounds backwards) are popped by the decoder in exactly the reverse order
(st3, st2, st1, st0, rounds forwards).  Also: every payload byte is `< 256` and the four final
states are below `2^31` (they fit the 32-bit fields of the chunk).  The bound `2·len` on the payload
is `C12_ans0_payload_le`. -/
theorem C12_ans0_interleaved (blk f : List Nat) (lr : Nat) (hlr : 8 ≤ lr ∧ lr ≤ 15)
    (hlen : f.length ≤ 256) (hsum : f.sum = 2 ^ lr)
    (hsym : ∀ a ∈ blk, a < f.length ∧ 0 < f.getD a 0) :
    decRounds (mkDecTable f lr) lr (blk.length / 4)
        ⟨(ans0Final blk (mkEncSyms f lr)).st0, (ans0Final blk (mkEncSyms f lr)).st1,
         (ans0Final blk (mkEncSyms f lr)).st2, (ans0Final blk (mkEncSyms f lr)).st3,
         (ans0Final blk (mkEncSyms f lr)).out⟩
      = (blk.take ((blk.length / 4) * 4),
         ⟨ansTop, ansTop, ansTop, ansTop, blk.drop ((blk.length / 4) * 4)⟩) ∧
    (∀ b ∈ (ans0Final blk (mkEncSyms f lr)).out, b < 256) ∧
    (ans0Final blk (mkEncSyms f lr)).st0 < 2 ^ 31 ∧ (ans0Final blk (mkEncSyms f lr)).st1 < 2 ^ 31 ∧
    (ans0Final blk (mkEncSyms f lr)).st2 < 2 ^ 31 ∧ (ans0Final blk (mkEncSyms f lr)).st3 < 2 ^ 31 := by
  obtain ⟨v, d, _⟩ := final_facts blk f lr hlr hlen hsum hsym
  have d := d []
  rw [toDec_nil, List.append_nil] at d
  exact ⟨d, v.bytes, v.h0.2, v.h1.2, v.h2.2, v.h3.2⟩

/-- the payload of a chunk (`ans0PayloadLen` = the VarInt written by `encodeChunk`) is at most
twice the chunk length -/
theorem C12_ans0_payload_le (blk f : List Nat) (lr : Nat) (hlr : 8 ≤ lr ∧ lr ≤ 15)
    (hlen : f.length ≤ 256) (hsum : f.sum = 2 ^ lr)
    (hsym : ∀ a ∈ blk, a < f.length ∧ 0 < f.getD a 0) :
    ans0PayloadLen blk f lr ≤ 2 * blk.length :=
  (final_facts blk f lr hlr hlen hsum hsym).2.2

/-! ## stage 3 — header + chunk -/

/-- **C12_ans0_chunk.**  `a` = alphabet (strictly increasing, non empty, symbols < 256), `f` = the
256-entry table, zero outside `a`, positive on `a`, summing to `2^lr`, `8 ≤ lr ≤ 15` (the
hypotheses of `C12_freq_header`); `blk` = ANY chunk (length 0, 1, 2, 3 and non multiples of 4
included) of fewer than `2^26` bytes whose symbols all belong to `a`.  Then on the encoder's output
`header ++ chunk` followed by any `rest`:
  * `decodeHeader` returns exactly `(a, f, lr)` and leaves `chunk ++ rest`;
  * `decodeChunkV2`, with the tables rebuilt from the decoded `f`, returns exactly `blk` and leaves
    exactly `rest` (VarInt size, four 32-bit states, payload words, raw tail all consumed). -/
theorem C12_ans0_chunk (a f blk : List Nat) (lr : Nat) (hlr : 8 ≤ lr ∧ lr ≤ 15)
    (hs : a.Pairwise (· < ·)) (ha : ∀ s ∈ a, s < 256) (hne : a ≠ [])
    (hlen : f.length = 256) (hz : ∀ i, i ∉ a → f.getD i 0 = 0) (hpos : ∀ s ∈ a, 1 ≤ f.getD s 0)
    (hsum : (a.map (fun s => f.getD s 0)).sum = 2 ^ lr)
    (hblk : ∀ b ∈ blk, b ∈ a) (hsz : blk.length < 2 ^ 26) (rest : Bits) :
    ansDecodeHeader (ansEncodeHeader a f lr ++ (ans0EncodeChunk blk (mkEncSyms f lr) ++ rest))
      = some ((a, f, lr), ans0EncodeChunk blk (mkEncSyms f lr) ++ rest) ∧
    ans0DecodeChunk (mkDecTable f lr) lr blk.length (ans0EncodeChunk blk (mkEncSyms f lr) ++ rest)
      = some (blk, rest) := by
  have hle : ∀ s ∈ a, f.getD s 0 ≤ 2 ^ lr := by
    intro s hsa
    rw [← hsum]
    exact mem_le_sum _ _ (List.mem_map.mpr ⟨s, hsa, rfl⟩)
  exact hdr_chunk_rt a f blk lr hlr ⟨hs, ha, hne, hlen, hz, hpos, hle⟩ hsum hblk hsz rest

/-- **C12_ans0_chunk_sz** — most general form: any table of at most 256 entries summing to `2^lr`,
any chunk whose symbols have a positive frequency, and NO bound on the chunk other than the
decoder's own test on the payload size. -/
theorem C12_ans0_chunk_sz (blk f : List Nat) (lr : Nat) (hlr : 8 ≤ lr ∧ lr ≤ 15)
    (hlen : f.length ≤ 256) (hsum : f.sum = 2 ^ lr)
    (hsym : ∀ a ∈ blk, a < f.length ∧ 0 < f.getD a 0)
    (hsz : ans0PayloadLen blk f lr < 2 ^ 27) (rest : Bits) :
    ans0DecodeChunk (mkDecTable f lr) lr blk.length (ans0EncodeChunk blk (mkEncSyms f lr) ++ rest)
      = some (blk, rest) :=
  chunk_rt_sz blk f lr hlr hlen hsum hsym hsz rest

/-- the hypotheses of `C12_ans0_chunk` are satisfiable (two symbols, 100 + 156 = 2^8, a chunk of
    6 bytes: one round of four + a raw tail of two) -/
example : ans0DecodeChunk (mkDecTable (100 :: 156 :: List.replicate 254 0) 8) 8 [0, 1, 1, 0, 1, 1].length
    (ans0EncodeChunk [0, 1, 1, 0, 1, 1] (mkEncSyms (100 :: 156 :: List.replicate 254 0) 8) ++ [true])
    = some ([0, 1, 1, 0, 1, 1], [true]) := by
  refine (C12_ans0_chunk [0, 1] (100 :: 156 :: List.replicate 254 0) [0, 1, 1, 0, 1, 1] 8
    ⟨by omega, by omega⟩ (by decide) (by decide) (by decide) ?_ ?_ ?_ rfl (by decide) (by decide) [true]).2
  · rw [List.length_cons, List.length_cons, List.length_replicate]
  · intro i hi
    match i with
    | 0 => exact absurd (List.mem_cons_self) hi
    | 1 => exact absurd (List.mem_cons_of_mem _ List.mem_cons_self) hi
    | j + 2 => exact getD_replicate_zero 254 j
  · intro s hs
    rcases List.mem_cons.mp hs with rfl | hs
    · exact (by decide : 1 ≤ 100)
    · rcases List.mem_cons.mp hs with rfl | hs
      · exact (by decide : 1 ≤ 156)
      · cases hs

/-! ## the whole block -/

/-- **C12_ans0_block.**  For every block of bytes (any length: the `≤ 32` bytes raw shortcut, one or
several chunks, single-symbol chunks sent as a header only), every chunk size `1 ≤ chunkSize < 2^26`
(the Go constructors accept 1024 … 2^27; 16384 by default) and `8 ≤ lr ≤ 15`: the order-0
`ANSRangeEncoder.Write` succeeds (per chunk: histogram, `NormalizeFrequencies` — C16 —, header,
payload) and `ANSRangeDecoder.Read` asked for `blk.length` bytes returns exactly `blk` and consumes
exactly the written bits. -/
theorem C12_ans0_block (blk : List Nat) (chunkSize lr : Nat) (hlr : 8 ≤ lr ∧ lr ≤ 15)
    (hcs : 0 < chunkSize ∧ chunkSize < 2 ^ 26) (hb : ∀ b ∈ blk, b < 256) :
    ∃ enc, ans0Encode blk chunkSize lr = some enc ∧
      ∀ rest : Bits, ans0Decode (enc ++ rest) blk.length chunkSize = some (blk, rest) :=
  block_rt blk chunkSize lr hlr hcs.1 hcs.2 hb

/-- one chunk of `Write` on its own: for a non-empty chunk of bytes the statistics step succeeds
with a non-empty alphabet, the header round trips, a single-symbol chunk is constant (the decoder
fills it from the alphabet alone) and the payload round trips with the tables built from the
normalised frequencies. -/
theorem C12_ans0_one_chunk (c : List Nat) (lr : Nat) (hlr : 8 ≤ lr ∧ lr ≤ 15) (hne : c ≠ [])
    (hb : ∀ b ∈ c, b < 256) (hsz : c.length < 2 ^ 26) :
    ∃ o, Kanzi.Normalize.normalize (histogram c) c.length (2 ^ lr) = .ok o ∧
      o.alphabet.length = o.size ∧ o.alphabet ≠ [] ∧
      (∀ rest : Bits, ansDecodeHeader (ansEncodeHeader o.alphabet o.freqs lr ++ rest)
          = some ((o.alphabet, o.freqs, lr), rest)) ∧
      (o.alphabet.length = 1 → c = List.replicate c.length (o.alphabet.headD 0)) ∧
      (∀ rest : Bits, ans0DecodeChunk (mkDecTable o.freqs lr) lr c.length
          (ans0EncodeChunk c (mkEncSyms o.freqs lr) ++ rest) = some (c, rest)) :=
  oneChunk_facts c lr hlr hne hb hsz

example : (8 ≤ 12 ∧ 12 ≤ 15) ∧ (0 < 16384 ∧ 16384 < 2 ^ 26) := by decide

end Kanzi.C12
