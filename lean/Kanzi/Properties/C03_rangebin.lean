/-
Property C03 (the decoder is total), entropy decoders on ARBITRARY (forged) input:

  v2/entropy/RangeCodec.go          RangeDecoder.Read          model `Kanzi.RangeDec`  (Model/RangeDec.lean)
  v2/entropy/BinaryEntropyCodec.go  BinaryEntropyDecoder.Read  model `Kanzi.BinEnt.Dec` (Model/BinEnt.lean) + `readBlockCap`
  v2/entropy/FPAQCodec.go           FPAQDecoder.Read           model `Kanzi.Fpaq`       (Model/Fpaq.lean)   + `fReadCap`
  (`readBlockCap`, `fReadCap` and the version-3 predictor `fpaqP1`: Model/BinDecCap.lean)

The round-trip theorems of C12 speak about encoder output.  Here the input is ANY bit string, the
decoder is in ANY state a previous `Read` can have left it in, and the questions are those of C03:
does every loop end, is every allocation bounded by the declared sizes, which panics are reachable.
Property theorems only; proofs in `Kanzi/Proofs/RangeDec.lean`, `Kanzi/Proofs/BinDecCap.lean` and
`Kanzi/Proofs/FpaqDecCap.lean`; the forged streams of the examples are in `Kanzi/Proofs/C03Examples.lean`.
In the real pipeline every decoding task has a deferred recover: an index-out-of-range or an
end-of-stream panic inside a codec becomes a block error.  What would violate C03 is an unbounded
loop, an allocation not bounded by the declared sizes, a division by zero nobody expects.

Results.
* RANGE: the only unbounded loop of the Go code (the carry-less renormalisation of `decodeByte`) reads
  28 bits per round, so it ends by the end-of-stream panic at the latest (`C03_range_renorm_bounded`);
  `Read` performs at most `count` chunk rounds, exactly `count` `decodeByte` calls and at most
  `len(bits)/28 + 1` loop heads per call (`C03_range_terminates`).  `rng` is never 0 when the division
  `(code - low) / rng` is executed: the loop leaves only with `rng > 0xFFFF` and `logRange ≤ 15`
  (`C03_range_classes`: never `.div0`).  `decodeHeader` never indexes out of range whatever the header
  says (`C03_range_header_no_fault`), and `len(f2s) ≤ max(len before, 32768)` on every path
  (`C03_range_alloc_bound`).  The only reachable fault is `f2s[count]` in `decodeByte` with a forged
  `code` (`C03_range_fault_site`, reachable: `C03_range_fault_reachable`) - recovered by the task.
  OBSERVATION (`C03_range_stale_f2s`): `f2s` is kept between chunks and only reallocated when too
  short, so after a table with a larger log range a forged code can select a STALE entry: a symbol of
  frequency 0 in the current table, `rng` becomes 0, the loop spins (28 bits per round) to the end of
  the stream.  Bounded by the frame, ends in the recovered end-of-stream panic; the same bits on a fresh
  decoder give the index fault instead.
* BINARY (CM, TPAQ, TPAQX) and FPAQ: for every predictor that satisfies the contract (`Pred.Safe`) the
  interval registers keep their invariant WHATEVER `current` and the buffer hold: no wrap-around, and
  the predictor is only asked in states of its own invariant - so the index safety of the real
  predictors (C12_cm_*, C12_tpaq_*) extends to forged input (`C03_binary_interval_total`).  `read()` is
  the only faulting site (`binary.BigEndian.Uint32(buffer[index:])` when the forged size is smaller than
  what the decoder consumes); it cannot fault while 32 bytes per remaining output byte are left
  (`C03_binary_no_fault_if`), and it can otherwise (`C03_binary_fault_reachable`, recovered by the
  task).  The chunk loop ends within `ceil(count/length)` rounds (`C03_binary_terminates`,
  `C03_fpaq_terminates`), each chunk makes exactly `8·n` `DecodeBit` calls with at most one `read()`
  each.  `len(this.buffer)` on EVERY path, failing ones included (`C03_binary_alloc_bound`: this is what
  commit f731923 was about; `C03_fpaq_alloc_bound`): at most `max(len before, 2·max(count,64) − 1)`
  resp. `max(len before, 1024, 2.5·count)`.
  OBSERVATION: the FPAQ test compares the chunk size with `2·len(block)` (the whole block), not with
  the 4 MiB chunk: a forged size in a multi-chunk block can make the buffer 2.5 times the BLOCK size
  (2.5 GiB for a 1 GiB block).  Linear in the declared block size, hence within the letter of C03.
  The version-3 bit decoder `decodeBitV1` (selected by the stream header, hence reachable from forged
  input; the round-trip model of C12 has `decodeBitV2` only) is covered too: it is the generic coder
  with `p >> 4` as a 12-bit
  probability (`fpaqP1`, within the contract: `C03_fpaq_models_safe`), and its refill loop
  `for (low^high)>>24 == 0 { read() }` runs at most once (`C03_fpaq_v1_refill_once`).
* on encoder output the three models return what the proved decoders of C12 return
  (`C03_range_agrees` + `C03_range_roundtrip`, `C03_binary_agrees`, `C03_fpaq_agrees`).

The tie to the real code is the stream `decforge` (harness/cmd/kv/decforge.go): the REAL decoders on
forged input; the models must predict the class (ok + bytes / err / panic:eos / panic:index), and the
capacity of the buffer (`len(f2s)`, `len(buffer)`, read by reflection) on every path.
-/
import Kanzi.Proofs.RangeDec
import Kanzi.Proofs.FpaqDecCap
import Kanzi.Proofs.C03Examples
import Kanzi.Properties.C12_range
import Kanzi.Properties.C12_binary
import Kanzi.Properties.C12_fpaq

namespace Kanzi.C03
open Kanzi.Bits Kanzi.EntSmall

/-! ## 1. RANGE -/
section Range
open Kanzi.Range Kanzi.RangeDec

/-- **C03_range_renorm_bounded.**  The renormalisation loop of `decodeByte` (`for { … }` without a
bound in Go) reads 28 bits per round: from ANY registers - `rng = 0` included, where the loop can no
longer leave through its `break` - `len(bits)/28 + 1` evaluations of the loop head suffice; it ends by
`break` (with `rng > 0xFFFF`) or by the end-of-stream panic. -/
theorem C03_range_renorm_bounded (low rng code : Nat) (bs : Bits) :
    (∀ c, normC (bs.length / 28 + 1) low rng code bs = .fail c → c = .eos) ∧
    (∀ l g cd bs', normC (bs.length / 28 + 1) low rng code bs = .ok (l, g, cd) bs' → bottomRange < g) := by
  refine ⟨fun c h => ?_, fun l g cd bs' h => normC_ok_bottom _ _ _ _ _ _ _ _ _ h⟩
  rcases normC_cls _ _ _ _ _ _ h with h1 | h1
  · exact h1
  · subst h1; exact absurd h (normC_no_hang _ _ _ _ _ (Nat.le_refl _))

/-- **C03_range_classes / C03_range_terminates.**  For every bit string, every state of the decoder
(`f2s` = whatever earlier `Read`s left), every `count` and every chunk size `≥ 1` (the constructor
demands 1024 … 2^30): `Read` terminates - the model's fuel (`count` chunk rounds, `count` symbols,
`len/28 + 1` loop heads per symbol) is never exhausted - and a failing `Read` is an "Invalid
bitstream" error, the end-of-stream panic of the bitstream, or an index panic.  NEVER a division by
zero, never `.hang`. -/
theorem C03_range_classes (f2s : Array Nat) (bs : Bits) (count chunkSize : Nat) (hcs : 0 < chunkSize)
    (c : Cls) (cap : Nat) (h : read f2s bs count chunkSize = .fail c cap) :
    c = .err ∨ c = .eos ∨ c = .fault := by
  have hf := chunksC_facts chunkSize hcs count count f2s bs (Nat.le_refl _)
  rw [show chunksC count chunkSize count f2s bs = .fail c cap from h] at hf
  exact hf.1

/-- in particular never `.hang` (the model's fuel) and never `.div0` -/
theorem C03_range_terminates (f2s : Array Nat) (bs : Bits) (count chunkSize : Nat) (hcs : 0 < chunkSize)
    (cap : Nat) : read f2s bs count chunkSize ≠ .fail .hang cap ∧ read f2s bs count chunkSize ≠ .fail .div0 cap := by
  constructor
  · intro h
    rcases C03_range_classes f2s bs count chunkSize hcs _ _ h with e | e | e <;> cases e
  · intro h
    rcases C03_range_classes f2s bs count chunkSize hcs _ _ h with e | e | e <;> cases e

/-- **C03_range_alloc_bound.**  The only allocation of the decoder is `f2s = make([]uint16, scale)`
with `scale = 1 << logRange ≤ 32768`: on EVERY path (success, error, panic) `len(f2s)` never shrinks
and never exceeds `max(len before, 32768)`, whatever the input says; a successful `Read` stores at
most `count` bytes. -/
theorem C03_range_alloc_bound (f2s : Array Nat) (bs : Bits) (count chunkSize : Nat) (hcs : 0 < chunkSize) :
    (∀ c cap, read f2s bs count chunkSize = .fail c cap → f2s.size ≤ cap ∧ cap ≤ max f2s.size 32768) ∧
    (∀ out t r, read f2s bs count chunkSize = .done out t r →
        out.length ≤ count ∧ f2s.size ≤ t.size ∧ t.size ≤ max f2s.size 32768) := by
  have hf := chunksC_facts chunkSize hcs count count f2s bs (Nat.le_refl _)
  refine ⟨fun c cap h => ?_, fun out t r h => ?_⟩
  · rw [show chunksC count chunkSize count f2s bs = .fail c cap from h] at hf
    exact hf.2
  · rw [show chunksC count chunkSize count f2s bs = .done out t r from h] at hf
    exact hf

/-- **C03_range_header_no_fault.**  Whatever a header says, the table `decodeHeader` builds sums to at
most `scale`, `logRange ≤ 15`, and the reverse-mapping loop `f2s[base+j] = i` stays inside `f2s`. -/
theorem C03_range_header_no_fault (old : Array Nat) (bs : Bits) (a f : List Nat) (lr : Nat) (r : Bits)
    (h : headerC bs = .ok (a, f, lr) r) :
    lr ≤ 15 ∧ f.sum ≤ 2 ^ lr ∧ ∃ t, buildF2s old f lr = some t ∧ t.size = max old.size (2 ^ lr) := by
  obtain ⟨h1, h2⟩ := (headerC_facts bs).2 a f lr r h
  obtain ⟨t, t1, t2, _⟩ := buildF2s_ok old f lr h2
  exact ⟨h1, h2, t, t1, t2⟩

/-- **C03_range_fault_site.**  From any state the loop can leave behind (`rng > 0xFFFF`) and
`logRange ≤ 15`, `decodeByte` faults exactly when the slot `(code - low) / (rng >> shift)` computed
from the forged `code` is not below `len(f2s)`; the division itself is safe (`rng >> shift ≥ 2`). -/
theorem C03_range_fault_site (cum f2s : Array Nat) (shift low rng code : Nat) (bs : Bits)
    (hb : bottomRange < rng) (hs : shift ≤ 15) :
    rng >>> shift ≠ 0 ∧
    (stepC cum f2s shift low rng code bs = .fail .fault ↔ f2s.size ≤ slot shift low rng code) := by
  have h0 := shift_pos rng shift hb hs
  refine ⟨h0, ?_⟩
  unfold stepC
  rw [if_neg h0]
  by_cases hsl : slot shift low rng code ≥ f2s.size
  · rw [if_pos hsl]; exact ⟨fun _ => hsl, fun _ => rfl⟩
  · rw [if_neg hsl]
    constructor
    · intro h
      have := (stepSymC_cls cum shift low rng code bs _).1 _ h
      cases this
    · intro h; exact absurd h hsl

/-- **C03_range_fault_reachable** (observation, recovered by the task).  An 11-byte forged chunk -
alphabet {0,1}, logRange 8, then the code 2^60 − 1 - makes `count = 256 = len(f2s)`: index out of
range in `decodeByte`. -/
theorem C03_range_fault_reachable :
    Kanzi.C03Ex.isFail (read #[] (ofBytes Kanzi.C03Ex.rangeFaultStream) 1 1024) .fault 256 = true := by
  decide +kernel

/-- **C03_range_stale_f2s** (observation).  Two `Read`s on one decoder.  The first (alphabet {5,7},
logRange 9) leaves 512 entries in `f2s`, `f2s[256] = 7`.  The second (alphabet {0,1}, logRange 8, code
2^60 − 1) computes slot 256: beyond its own 256 fresh entries, inside the slice: the stale symbol 7 has
frequency 0 in the new table, `rng` becomes 0 and the loop reads 28 bits per round until the bitstream
panics - whatever the length of the rest (here 0 and 40 more bytes).  On a fresh decoder the same bits
give the index fault. -/
theorem C03_range_stale_f2s :
    Kanzi.C03Ex.staleDemo 0 = true ∧ Kanzi.C03Ex.staleDemo 40 = true ∧ Kanzi.C03Ex.freshDemo = true := by
  exact ⟨by decide +kernel, by decide +kernel, by decide +kernel⟩

/-- **C03_range_agrees.**  Whenever the decoder of the round-trip theorems (`Kanzi.Range.decode`,
which answers `none` for every failure and knows no state) returns a block, this model returns the
same block and leaves the same bits, whatever `f2s` held before. -/
theorem C03_range_agrees (f2s : Array Nat) (bs : Bits) (count chunkSize : Nat) (hcs : 0 < chunkSize)
    (out : List Nat) (rest : Bits) (h : decode bs count chunkSize = some (out, rest)) :
    ∃ t, read f2s bs count chunkSize = .done out t rest :=
  chunksC_agree chunkSize hcs count count f2s bs out rest (Nat.le_refl _) h

/-- **C03_range_roundtrip.**  Hence the round trip of C12 holds for the total model, from any decoder
state: what `RangeEncoder.Write` produced for `blk` is decoded to `blk`, consuming exactly it. -/
theorem C03_range_roundtrip (blk : List Nat) (chunkSize logRange : Nat) (hlr : 8 ≤ logRange ∧ logRange ≤ 15)
    (hcs : 0 < chunkSize) (hb : ∀ b ∈ blk, b < 256) (f2s : Array Nat) :
    ∃ enc, encode blk chunkSize logRange = some enc ∧
      ∀ rest : Bits, ∃ t, read f2s (enc ++ rest) blk.length chunkSize = .done blk t rest := by
  obtain ⟨enc, h1, h2⟩ := Kanzi.C12.C12_range_block blk chunkSize logRange hlr hcs hb
  exact ⟨enc, h1, fun rest => C03_range_agrees f2s _ _ _ hcs _ _ (h2 rest)⟩

end Range

/-! ## 2. BINARY (engine of CM / TPAQ / TPAQX) -/
section Binary
open Kanzi.BinEnt

/-- **C03_binary_interval_total.**  For every predictor within its contract (`Pred.Safe R`: `R` is
preserved by `Get(); Update(bit)` for EITHER bit, and `Get()` is in range on `R`), from a decoder state
with `R` and the interval invariant (`low/2^24 < high/2^24`, `high < 2^56` - true of a new decoder):
whatever `current` and the buffer hold, `DecodeBit` either panics in `read()` - exactly when fewer
than 4 bytes are left behind `index` - or returns with `R` and the invariant again, the buffer
untouched, at most 4 more bytes consumed.  So on forged input the interval arithmetic never wraps and
the predictor is never asked outside its invariant. -/
theorem C03_binary_interval_total {σ : Type} (P : Pred σ) {R : σ → Prop} (hP : P.Safe R) (d : Dec σ)
    (hr : R d.ps) (hi : Inv d.low d.high) :
    (∀ x, d.decodeBit P = .error x → x = .index ∧ d.rem.length < 4) ∧
    (∀ b d', d.decodeBit P = .ok (b, d') →
        R d'.ps ∧ Inv d'.low d'.high ∧ d'.buffer = d.buffer ∧
        d'.rem.length ≤ d.rem.length ∧ d.rem.length ≤ d'.rem.length + 4) :=
  decodeBit_any P hP d hr hi

/-- **C03_binary_no_fault_if.**  Decoding `n` bytes (`8·n` `DecodeBit` calls, at most one `read()` of 4
bytes each) cannot fault while `32·n` bytes are left behind `index`; and when it faults, it is the
index panic of `read()` and fewer than `32·n` bytes were left. -/
theorem C03_binary_no_fault_if {σ : Type} (P : Pred σ) {R : σ → Prop} (hP : P.Safe R) (n : Nat) (d : Dec σ)
    (acc : List Nat) (hg : Good R d) :
    (32 * n ≤ d.rem.length → ∃ r, d.decodeBytes P n acc = .ok r) ∧
    (∀ x, d.decodeBytes P n acc = .error x → x = .index ∧ d.rem.length < 32 * n) :=
  ⟨decodeBytes_no_fault P hP n d acc hg, (decodeBytes_any P hP n d acc hg).1⟩

/-- **C03_binary_fault_reachable** (observation, recovered by the task).  The predictor that always
answers 0 (within the 12-bit contract), an empty payload (VarInt 0) and `current = 0`: every bit costs a
32-bit refill; the 72-byte buffer of a block of up to 64 bytes is exhausted after 18 bits: a block of 2
bytes decodes, a block of 3 (or 64) bytes panics with index out of range in `read()`. -/
theorem C03_binary_fault_reachable :
    Kanzi.C03Ex.isOk (decodeBlock Kanzi.C03Ex.zeroP MAX_CHUNK () Kanzi.C03Ex.binFaultStream 2) = true ∧
    Kanzi.C03Ex.isIndex (decodeBlock Kanzi.C03Ex.zeroP MAX_CHUNK () Kanzi.C03Ex.binFaultStream 3) = true ∧
    Kanzi.C03Ex.isIndex (decodeBlock Kanzi.C03Ex.zeroP MAX_CHUNK () Kanzi.C03Ex.binFaultStream 64) = true := by
  exact ⟨by decide +kernel, by decide +kernel, by decide +kernel⟩

/-- **C03_binary_terminates.**  The chunk loop of `Read` ends within `ceil(count / length)` rounds
(`length` = the chunk length chosen for `count`, at least 1 when `_BINARY_ENTROPY_MAX_CHUNK ≥ 8`):
any fuel `n` with `count ≤ n·length` gives the result of the model's fuel `count` (the model's loop
returns normally, with a short result, when out of fuel: the equality says that never happens).  Inside a round
everything is a bounded `for`: `8·chunkSize` `DecodeBit` calls, at most one `read()` each. -/
theorem C03_binary_terminates {σ : Type} (P : Pred σ) (M : Nat) (hM : 8 ≤ M) (d : Dec σ) (bs : Bits)
    (count fuel : Nat) (hf : count ≤ fuel * chunkLenOf M count) :
    Dec.readChunks P fuel (chunkLenOf M count) (bufSizeOf (chunkLenOf M count)) d count bs
      = Dec.readChunks P count (chunkLenOf M count) (bufSizeOf (chunkLenOf M count)) d count bs := by
  rw [readChunks_eq, readChunks_eq]
  exact readLoop_fuel_eq _ _ fuel count d count bs hf (Nat.le_mul_of_pos_right count (chunkLenOf_pos M count hM))

/-- **C03_binary_alloc_bound.**  `len(this.buffer)` when `Read(block)` returns OR panics (`count =
len(block)`, `L` = the chunk length): it never shrinks and is at most `max(len before, L + L/8,
2·L − 1) ≤ max(len before, 2·max(count, 64) − 1)`, whatever chunk sizes the input declares (a size
above `L + L/8` is accepted only below `2·L`: commit f731923).  After success the decoder is again in
a state of the invariants (the next `Read` starts from there). -/
theorem C03_binary_alloc_bound {σ : Type} (P : Pred σ) {R : σ → Prop} (hP : P.Safe R) (M : Nat) (hM : 8 ≤ M)
    (d : Dec σ) (bs : Bits) (count : Nat) (hg : Good R d) :
    (Dec.readBlockCap P M d bs count).1 = Dec.readBlock P M d bs count ∧
    d.buffer.length ≤ (Dec.readBlockCap P M d bs count).2 ∧
    (Dec.readBlockCap P M d bs count).2 ≤ max d.buffer.length (2 * max count 64 - 1) ∧
    (∀ r, Dec.readBlock P M d bs count = .ok r →
        Good R r.2.1 ∧ r.2.1.buffer.length = (Dec.readBlockCap P M d bs count).2) := by
  obtain ⟨a1, a2, a3⟩ := readBlockCap_bound P hP M d bs count hg
  have hl := chunkLenOf_le M count
  have hp := chunkLenOf_pos M count hM
  have hb := bufSizeOf_le (chunkLenOf M count)
  refine ⟨readBlockCap_fst P M d bs count, a1, by omega, fun r h => a3 r ?_⟩
  rw [readBlockCap_fst]; exact h

/-- with the real constants (`_BINARY_ENTROPY_MAX_CHUNK = 2^26`, blocks of at most 2^30 bytes): never
more than 2^27 − 1 bytes -/
theorem C03_binary_alloc_bound_real {σ : Type} (P : Pred σ) {R : σ → Prop} (hP : P.Safe R)
    (d : Dec σ) (bs : Bits) (count : Nat) (hg : Good R d) :
    (Dec.readBlockCap P MAX_CHUNK d bs count).2 ≤ max d.buffer.length (2 ^ 27 - 1) := by
  by_cases hc : count > MAX_BLOCK
  · unfold Dec.readBlockCap; rw [if_pos hc]; simp only; omega
  · obtain ⟨_, a2, _⟩ := readBlockCap_bound P hP MAX_CHUNK d bs count hg
    have hl := chunkLenOf_real count (by omega)
    have hp := chunkLenOf_pos MAX_CHUNK count (by decide)
    have hb := bufSizeOf_le (chunkLenOf MAX_CHUNK count)
    omega

/-- **C03_binary_agrees.**  The decoder with the capacity made visible IS the decoder of C12: on the
output of `Write` + `Dispose` for a block within the decoder's acceptance (`fits2`) a new decoder
returns the block, consumes exactly the written bits, and its buffer stays within the bound. -/
theorem C03_binary_agrees {σ : Type} (P : Pred σ) {R : σ → Prop} (hP : P.Safe R) (M : Nat) (hM : 8 ≤ M)
    (hM27 : M ≤ 2 ^ 27) (s0 : σ) (hs : R s0) (blk : List Nat) (hne : blk ≠ []) (hb : ∀ v ∈ blk, v < 256)
    (hlen : blk.length ≤ MAX_BLOCK) (hfit : fits2 P M s0 blk = true) :
    ∃ out, encodeBlock P M s0 blk = .ok out ∧
      ∀ rest : Bits, ∃ d', (Dec.readBlockCap P M (Dec.init s0) (out ++ rest) blk.length).1 = .ok (blk, d', rest) ∧
        (Dec.readBlockCap P M (Dec.init s0) (out ++ rest) blk.length).2 ≤ 2 * max blk.length 64 - 1 := by
  obtain ⟨out, h1, h2⟩ := Kanzi.C12.C12_binary_block P hP M hM hM27 s0 hs blk hne hb hlen hfit
  refine ⟨out, h1, fun rest => ?_⟩
  have hd := h2 rest
  obtain ⟨e1, _, e3, _⟩ := C03_binary_alloc_bound P hP M hM (Dec.init s0) (out ++ rest) blk.length (good_init s0 hs)
  unfold decodeBlock at hd
  rw [e1]
  cases hr : Dec.readBlock P M (Dec.init s0) (out ++ rest) blk.length with
  | error x => rw [hr] at hd; cases hd
  | ok r =>
    rw [hr] at hd
    simp only [Except.ok.injEq, Prod.mk.injEq] at hd
    obtain ⟨q1, q2⟩ := hd
    refine ⟨r.2.1, ?_, ?_⟩
    · rw [← q1, ← q2]
    · have : (Dec.init s0).buffer.length = 0 := rfl
      omega

end Binary

/-! ## 3. FPAQ -/
section Fpaq
open Kanzi.BinEnt Kanzi.Fpaq

/-- **C03_fpaq_interval_total.**  The FPAQ model satisfies the predictor contract (C12_fpaq_model_safe),
so `C03_binary_interval_total` and `C03_binary_no_fault_if` hold for `decodeBitV2` as they stand: on
forged input the registers keep their invariant, the probabilities stay below 2^16, `read()` is the only
faulting site. -/
theorem C03_fpaq_interval_total (d : Dec FState) (hr : FR d.ps) (hi : Inv d.low d.high) :
    (∀ x, d.decodeBit fpaqP = .error x → x = .index ∧ d.rem.length < 4) ∧
    (∀ b d', d.decodeBit fpaqP = .ok (b, d') →
        FR d'.ps ∧ Inv d'.low d'.high ∧ d'.buffer = d.buffer ∧
        d'.rem.length ≤ d.rem.length ∧ d.rem.length ≤ d'.rem.length + 4) :=
  decodeBit_any fpaqP fpaq_safe d hr hi

theorem C03_fpaq_no_fault_if (n : Nat) (d : Dec FState) (acc : List Nat) (hg : Good FR d) :
    (32 * n ≤ d.rem.length → ∃ r, d.decodeBytes fpaqP n acc = .ok r) ∧
    (∀ x, d.decodeBytes fpaqP n acc = .error x → x = .index ∧ d.rem.length < 32 * n) :=
  C03_binary_no_fault_if fpaqP fpaq_safe n d acc hg

/-- **C03_fpaq_terminates.**  The chunk loop of `FPAQDecoder.Read` ends within `ceil(count / C)` rounds
(`C` = `_FPAQ_DEFAULT_CHUNK_SIZE`, any value `≥ 1`). -/
theorem C03_fpaq_terminates (C : Nat) (hC : 0 < C) (d : Dec FState) (bs : Bits) (count fuel : Nat)
    (hf : count ≤ fuel * C) :
    fReadChunks C count fuel d count bs = fReadChunks C count count d count bs := by
  rw [fReadChunks_eq, fReadChunks_eq]
  exact readLoop_fuel_eq _ _ fuel count d count bs hf (Nat.le_mul_of_pos_right count hC)

/-- **C03_fpaq_alloc_bound.**  `len(this.buffer)` when `Read(block)` returns OR panics, for either bit
decoder (`P = fpaqP`: `decodeBitV2`; `P = fpaqP1`: `decodeBitV1`, bitstream version 3): it never shrinks
and is at most `max(len before, 1024, m + m/4)` with `m = 2·count − 1` the largest chunk size the test
`szBytes >= 2*len(block)` lets through - about 2.5 times the BLOCK length, also for the 4 MiB chunks of
a larger block (observation in the header of this file). -/
theorem C03_fpaq_alloc_bound (P : Pred FState) (hP : P.Safe FR) (C : Nat) (d : Dec FState) (bs : Bits)
    (count : Nat) (hg : Good FR d) :
    d.buffer.length ≤ (fReadCap P C d bs count).2 ∧
    (fReadCap P C d bs count).2 ≤ max d.buffer.length (max 1024 ((2 * count - 1) + (2 * count - 1) / 4)) ∧
    (∀ r, (fReadCap P C d bs count).1 = .ok r → Good FR r.2.1 ∧ r.2.1.buffer.length = (fReadCap P C d bs count).2) := by
  obtain ⟨a1, a2, a3⟩ := fReadCap_bound P hP C d bs count hg
  refine ⟨a1, ?_, a3⟩
  unfold fCapOf at a2
  rw [Nat.shiftRight_eq_div_pow] at a2
  exact a2

/-- both bit decoders are within the predictor contract; for `decodeBitV2` the capacity-tracking
function returns what `fRead` (the decoder of C12 on a decoder in any state) returns -/
theorem C03_fpaq_models_safe : fpaqP.Safe FR ∧ fpaqP1.Safe FR ∧
    ∀ C d bs count, (fReadCap fpaqP C d bs count).1 = fRead C d bs count :=
  ⟨fpaq_safe, fpaq1_safe, fReadCap_fst⟩

/-- **C03_fpaq_v1_refill_once.**  `decodeBitV1` refills with `for (low^high)>>24 == 0 { read() }`:
after ONE `read()` (`low <<= 32`, `high = high<<32 | 0xFFFFFFFF`, both masked to 56 bits) bits 24..31
of `low` are 0 and those of `high` are 1, so the condition is false: the loop is the `if` of
`decodeBitV2`, it cannot spin whatever the input. -/
theorem C03_fpaq_v1_refill_once (d d' : Dec FState) (h : d.read = .ok d') : ¬ (d'.low ^^^ d'.high) < 2 ^ 24 :=
  read_once d d' h

/-- **C03_fpaq_agrees.**  On a new decoder `fRead` is `fpaqDecode`, the decoder of C12: the encoder's
output for a block within the acceptance test is decoded to the block, consuming exactly it. -/
theorem C03_fpaq_agrees (C : Nat) (hC : 0 < C) (hC27 : C < 2 ^ 27) (blk : List Nat) (hne : blk ≠ [])
    (hb : ∀ v ∈ blk, v < 256) (hlen : blk.length ≤ Fpaq.MAX_BLOCK) (hfit : fFits2 C blk = true) :
    ∃ out, fpaqEncode C blk = .ok out ∧
      ∀ rest : Bits, ∃ d', fRead C (Dec.init FState.init) (out ++ rest) blk.length = .ok (blk, d', rest) := by
  obtain ⟨out, h1, h2⟩ := Kanzi.C12.C12_fpaq_block C hC hC27 blk hne hb hlen hfit
  refine ⟨out, h1, fun rest => ?_⟩
  have hd := h2 rest
  rw [fRead_fresh] at hd
  cases hr : fRead C (Dec.init FState.init) (out ++ rest) blk.length with
  | error x => rw [hr] at hd; cases hd
  | ok r =>
    rw [hr] at hd
    simp only [Except.ok.injEq, Prod.mk.injEq] at hd
    obtain ⟨q1, q2⟩ := hd
    exact ⟨r.2.1, by rw [← q1, ← q2]⟩

example : Good FR (Dec.init FState.init) := good_init _ fr_init

end Fpaq

end Kanzi.C03
