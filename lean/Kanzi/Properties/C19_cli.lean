/-
C19 (partial) — command-line tool: file safety of one file task.
Property theorems only; the model is `Kanzi/Model/Cli.lean` (effects of `app.openOutputFile`,
`app.fileCompressTask.call`, `app.fileDecompressTask.call`), proofs in `Kanzi/Proofs/Cli.lean`.
Tie to /repo: the `cli` stream projects `strace` of the real binary onto `Effect`s; the projection
must be accepted by `cliAccepts` (compared with the harness's own check of the same order), and
the tree / refusal / SIGKILL oracles of that stream observe the real file system.
Not modelled here: kernel durability (no fsync: power loss is out of scope, SIGKILL is not), the
directory walker and the output names (`C19_paths.lean`), argument parsing, stdin/stdout targets.
-/
import Kanzi.Model.Cli
import Kanzi.Proofs.Cli

namespace Kanzi.C19
open Kanzi.Cli

/-- Without `force`, an existing destination makes the exclusive open fail and nothing else
happens (no effect at all: no file is created, truncated, written or removed).  With `force`, a
destination that is the source itself is refused before the truncating open. -/
theorem C19_no_clobber (t : Task) (fs : FS) :
    (t.force = false → (fs t.out).isSome → t.trace fs = []) ∧
    (t.force = true → t.out = t.inp → t.trace fs = []) := by
  constructor <;> intro h1 h2 <;> simp [Task.trace, h1, h2]

/-- No effect of a task changes the source, except the `unlink` of a `--rm` run, which is the last
effect: after every strict prefix of the trace (every prefix when `remove = false`) the source
path holds its original content. -/
theorem C19_input_untouched (t : Task) (fs : FS) (hio : t.inp ≠ t.out) (k : Nat)
    (hk : k < (t.trace fs).length ∨ t.remove = false) :
    (exec t.inp t.out ⟨fs, false⟩ ((t.trace fs).take k)).fs t.inp = fs t.inp := by
  refine acc_src_untouched hio (fs t.inp) _ .start _ ((cliAccepts_eq _).symm.trans (trace_accepted t fs)) rfl rfl k ?_
  rcases hk with hk | hk
  · exact Or.inl hk
  · refine Or.inr ?_
    unfold Task.trace
    split <;> simp [hk]

/-- `--rm` is crash safe: for EVERY crash point `k` (the effects after the first `k` are lost),
either the source still has its original content, or the destination holds the complete stream
(all chunks, in order) and its descriptor has been closed. -/
theorem C19_remove_safe (t : Task) (fs : FS) (hio : t.inp ≠ t.out) (k : Nat) :
    let s := exec t.inp t.out ⟨fs, false⟩ ((t.trace fs).take k)
    s.fs t.inp = fs t.inp ∨ (s.fs t.out = some t.chunks ∧ s.outOpen = false) := by
  intro s
  by_cases hne : t.trace fs = []
  · left; simp [s, hne, exec]
  · have h := acc_prefix_safe hio (fs t.inp) (t.trace fs) .start ⟨fs, false⟩
      ((cliAccepts_eq _).symm.trans (trace_accepted t fs)) (fun _ => rfl) (by simp [Ph.outDone]) k
    rwa [trace_output t fs hio hne] at h

/-- The acceptor used on the strace projection of real runs is sound: if it accepts a trace then
after every prefix (crash point) the source is intact or the destination already holds exactly what
it holds at the end of the trace and is closed; and the source is untouched before the final unlink. -/
theorem C19_acceptor_sound (i o : Path) (hio : i ≠ o) (fs : FS) (tr : List Effect)
    (h : cliAccepts tr = true) (k : Nat) :
    let s := exec i o ⟨fs, false⟩ (tr.take k)
    (s.fs i = fs i ∨ (s.fs o = (exec i o ⟨fs, false⟩ tr).fs o ∧ s.outOpen = false)) ∧
    (k < tr.length → s.fs i = fs i) := by
  have ha := (cliAccepts_eq tr).symm.trans h
  exact ⟨acc_prefix_safe hio (fs i) tr .start ⟨fs, false⟩ ha (fun _ => rfl) (by simp [Ph.outDone]) k,
    fun hk => acc_src_untouched hio (fs i) tr .start ⟨fs, false⟩ ha rfl rfl k (Or.inl hk)⟩

/-- the model's own traces are accepted (so the acceptor is not vacuous) -/
theorem C19_trace_accepted (t : Task) (fs : FS) : cliAccepts (t.trace fs) = true := trace_accepted t fs

/-- hypotheses are satisfiable, and the order removed by the fix of finding F14 (decompression
unlinked the source before closing the destination) is rejected at the unlink -/
example : (Task.mk "a" "a.knz" false true [3, 4]).trace (fun _ => none) =
    [.openWr .out true, .openRd .inp, .write .out 3, .write .out 4, .close .out, .close .inp, .unlink .inp] := by
  decide +kernel
example : accRun .start 0 [.openWr .out true, .openRd .inp, .write .out 3, .close .inp, .unlink .inp, .close .out] = some 4 := by
  decide +kernel

end Kanzi.C19
