/-
Constants of the LZ codec model (`Kanzi/Model/LZ.lean`) tied to the values the Go type checker computes for
the named constants of /repo/v2 (`Kanzi/Generated/Consts.lean`, regenerated on every run) - same mechanism as
`Kanzi/Properties/ConstsTie.lean`, whose namespace the theorem shares.  The hash shifts are literals
in `hashOf`; they matter for more than the byte-exact stream: the bound on the token buffer of Forward
(`C13_lz_total`) rests on the hash depending on exactly 5 bytes, injectively in the fifth.
-/
import Kanzi.Generated.Consts
import Kanzi.Model.LZ

namespace Kanzi.ConstsTie
open Kanzi.Generated

theorem lz_consts :
    Consts.transform._LZX_HASH_SEED = Kanzi.LZ.HASH_SEED.toNat ∧
    Consts.transform._LZX_HASH_LSHIFT1 = 24 ∧ Consts.transform._LZX_HASH_RSHIFT1 = 48 ∧
    Consts.transform._LZX_HASH_LSHIFT2 = 24 ∧ Consts.transform._LZX_HASH_RSHIFT2 = 45 ∧
    2 ^ Consts.transform._LZX_HASH_LOG1 = 65536 ∧ 2 ^ Consts.transform._LZX_HASH_LOG2 = 524288 ∧
    Consts.transform._LZX_MAX_DISTANCE1 = Kanzi.LZ.MAX_DISTANCE1 ∧
    Consts.transform._LZX_MAX_DISTANCE2 = Kanzi.LZ.MAX_DISTANCE2 ∧
    Consts.transform._LZX_MIN_MATCH4 = Kanzi.LZ.MIN_MATCH4 ∧
    Consts.transform._LZX_MIN_MATCH6 = Kanzi.LZ.MIN_MATCH6 ∧
    Consts.transform._LZX_MAX_MATCH = Kanzi.LZ.MAX_MATCH ∧
    Consts.transform._LZX_MIN_BLOCK_LENGTH = Kanzi.LZ.MIN_BLOCK_LENGTH ∧
    Consts.internal.DT_DNA = Kanzi.LZ.DT_DNA ∧
    Consts.internal.DT_SMALL_ALPHABET = Kanzi.LZ.DT_SMALL_ALPHABET := by decide

end Kanzi.ConstsTie
