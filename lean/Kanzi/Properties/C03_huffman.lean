/-
C03 (the decoder is total) — the Huffman decoder (`HuffmanDecoder` of v2/entropy/HuffmanCodec.go:
`Read`, `decodeV6` / `decodeChunkV6` / `readState`, the legacy `decodeV5` / `decodeChunkV5`,
`readLengths`, `buildDecodingTable`, `generateCanonicalCodes`; `DecodeAlphabet`, `ReadVarInt`,
`ExpGolombDecoder.DecodeByte`) on ARBITRARY input and from ANY state of the decoder object.
Property theorems only; proofs in `Kanzi/Proofs/HufDecTotal.lean` and `Kanzi/Proofs/HufDecSafe.lean`.  The model `Kanzi/Model/HufDec.lean`
is tied to /repo by the `hufdec` stream: the real decoder on forged inputs (mutated encodings,
truncations, crafted code lengths and sub-stream sizes, random bytes, two `Read`s, versions 1..5)
must end every `Read` exactly as the model says — same bytes, same error, same class of panic,
same `len(this.buffer)`.

Vocabulary.  `read p s bs count` = `Read(make([]byte, count))` of a decoder built with parameters `p`
(`mkParams` = the constructors), whose object state is `s` (`fresh` for a new decoder; only
`this.buffer` is ever read before being written, see the model), on the input bits `bs`.  Its `cls`
is `ret n err`, or `stop eos` (the input bitstream ran out), `stop overrun` (`ReadArray` asked for
more bits than its destination holds: panics inside the bitstream), `stop fault` (index / slice
bounds in the codec), or `stop fuel` (a loop of the model ran out of fuel).  Every decoding task of
kanzi runs under a deferred `recover`: `stop eos` / `overrun` / `fault` are block errors, i.e.
observations; a violation of C03 is an unbounded loop or an allocation unrelated to the declared sizes.

FINDING F48 (reported, `design-probes/go/hufv5alloc`; repaired in /repo 97146d4): for a bitstream version
below 6 (a 4-bit field of the stream header) `decodeChunkV5` sized `this.buffer` from the VarInt it
had just read: `sz + sz>>3` bytes with `sz = (szBits+7)>>3`, up to 603 979 773 bytes, BEFORE trying to
read the payload — an 8-byte input made a `Read` of ONE byte allocate 576 MiB.  Since the repair
`sz > max(2*count, 1024)` is rejected with "incorrect chunk size" before any allocation
(`C03_huf_v5_forged_size_rejected`), and the model follows: `C03_huf_v5_alloc_bound`,
`C03_huf_alloc_bound`.  Version 6 never depended on the stream for its buffer: `C03_huf_v6_alloc`.
-/
import Kanzi.Model.HufDec
import Kanzi.Proofs.HufDecTotal
import Kanzi.Proofs.HufDecSafe

namespace Kanzi.C03
open Kanzi.Bits Kanzi.EntSmall Kanzi.HufDec

/-- the constructors only produce a chunk size in `[1024, 16384]` (so the chunk loop advances), and
record the bitstream version of the context (6 without context) -/
theorem C03_huf_params (c v : Option Nat) (p : Params) (h : mkParams c v = some p) :
    1024 ≤ p.chunkSize ∧ p.chunkSize ≤ 16384 ∧ p.bsVersion = v.getD 6 :=
  mkParams_facts c v p h

/-! ## termination -/

/-- **C03_huf_terminates.**  For EVERY input, decoder state and bitstream version, a `Read` of `count`
bytes ends: no loop of the model exhausts its fuel.
  * the chunk loops of `decodeV6` / `decodeV5` get `count / chunkSize + 2` rounds;
  * the main loop of `decodeChunkV5` (`for idx < sz-8`, four symbols per round, NOT bounded by
    `count` in the Go code) gets `len(block[startChunk:]) / 4 + 2` rounds: it writes `block[n..n+3]`
    with `n` growing by 4, so it ends by its own test or by the index panic at the end of the block;
  * its refill loop (`for bits < 12 && idx < sz`) gets 2 rounds (`bits` gains 8 per round), its
    symbol loop `count - n` rounds;
  * everything else is structural in the model: `DecodeAlphabet` (at most 32 mask bytes),
    `readLengths` (one Exp-Golomb code per symbol of the alphabet, at most 256; the unary prefix of a
    code ends with the input at the latest), `generateCanonicalCodes` / `buildDecodingTable` (at
    most 256 symbols, 4096 table entries), `ReadVarInt` (at most 5 bytes), `decodeChunkV6`
    (`count/4` symbols per sub-stream in groups of four, one `readState` per group: the number of
    rounds depends on `count` only, never on the payload).
So the time of one `Read` is `O((count/chunkSize + 1) · 4096 + count)` for version 6, and for
versions below 6 additionally `O(len(block))` per chunk. -/
theorem C03_huf_terminates (p : Params) (hcs : 0 < p.chunkSize) (s : St) (bs : Bits) (count : Nat) :
    (read p s bs count).cls ≠ .stop .fuel := by
  by_cases hv : p.bsVersion < 6
  · exact (read_v5 p hcs hv s bs count).1
  · exact (read_v6 p hcs hv s bs count).1

/-! ## allocation -/

/-- **C03_huf_v6_alloc.**  Bitstream version 6 (and above): whatever the input and however the call
ends (return, error, any panic), `len(this.buffer)` after `Read` is EXACTLY what it was, or
`2*chunkSize` (at most 32768) if it was shorter — the one `make` at the top of `decodeV6`.  Nothing
else is allocated by the decoder (`this.table`: 4096 entries made by the constructor and never
replaced; checked on the real object by the stream, together with the bytes the Go runtime
allocated during the call). -/
theorem C03_huf_v6_alloc (p : Params) (hcs : 0 < p.chunkSize) (hv : 6 ≤ p.bsVersion) (s : St) (bs : Bits)
    (count : Nat) :
    (read p s bs count).bufSz =
      if count = 0 then s.buf.size else if s.buf.size < 2 * p.chunkSize then 2 * p.chunkSize else s.buf.size :=
  (read_v6 p hcs (by omega) s bs count).2.2

/-- **C03_huf_v5_alloc_bound.**  Bitstream versions below 6, every input and state, however the call
ends: `len(this.buffer)` after `Read` is at most what it was, or `m + m/8` with
`m = max(2*min(chunkSize, count), 1024)` — `decodeChunkV5` rejects a payload size above
`max(2*sizeChunk, 1024)` before allocating `sz + sz>>3` bytes. -/
theorem C03_huf_v5_alloc_bound (p : Params) (hcs : 0 < p.chunkSize) (hv : p.bsVersion < 6) (s : St) (bs : Bits)
    (count : Nat) :
    (read p s bs count).bufSz ≤
      max s.buf.size (max (2 * min p.chunkSize count) 1024 + max (2 * min p.chunkSize count) 1024 / 8) :=
  (read_v5 p hcs hv s bs count).2.2

/-- **C03_huf_alloc_bound.**  EVERY bitstream version, input, state and `count`, every way the call can
end: `len(this.buffer)` after `Read` is at most what it was before, or `2*chunkSize + chunkSize/4`
(at most 36864 bytes: the constructors give `1024 ≤ chunkSize ≤ 16384`) — a function of the declared
chunk size only.  (Version 6: exactly `2*chunkSize`, `C03_huf_v6_alloc`; below 6: `C03_huf_v5_alloc_bound`.) -/
theorem C03_huf_alloc_bound (p : Params) (hcs : 512 ≤ p.chunkSize) (s : St) (bs : Bits) (count : Nat) :
    (read p s bs count).bufSz ≤ max s.buf.size (2 * p.chunkSize + p.chunkSize / 4) :=
  read_alloc p hcs s bs count

/-- the buffer `decodeChunkV5` asks for once the size has passed the check is a function of the
stream's VarInt alone, `max(sz + sz>>3, 1024)` with `sz = uint32(szBits+7)>>3` -/
theorem C03_huf_v5_alloc_rule (szBits : Nat) (buf : Array Nat) :
    (v5Alloc szBits buf).size =
      if buf.size < max (v5Sz szBits + v5Sz szBits / 8) 1024 then max (v5Sz szBits + v5Sz szBits / 8) 1024
      else buf.size :=
  v5Alloc_size szBits buf

/-- **C03_huf_v5_forged_size_rejected** (the input of the finding, `hd c - 5 1 800d6787fffff878` in
corpus/C03/hufdec.ops): version 5, a new decoder, `Read` of 1 byte on the 8 input bytes
`80 0d 67 87 ff ff f8 78` (alphabet {0,1}, lengths 1 and 1, stream count 0, VarInt `0xFFFFFFF0`):
`return 0, err` and `this.buffer` is still empty (before the repair: 603 979 773 bytes). -/
theorem C03_huf_v5_forged_size_rejected :
    (read ⟨16384, 5⟩ fresh (ofBytes [0x80, 0x0d, 0x67, 0x87, 0xff, 0xff, 0xf8, 0x78]) 1).cls = .ret 0 true ∧
    (read ⟨16384, 5⟩ fresh (ofBytes [0x80, 0x0d, 0x67, 0x87, 0xff, 0xff, 0xf8, 0x78]) 1).bufSz = 0 := by
  decide +kernel

/-! ## faults -/

/-- **C03_huf_v6_no_fault.**  Bitstream version 6 (and above): NO input and NO state of the decoder
object (any `this.buffer`, any content, any length) makes `Read` end in an index / slice-bounds
panic of the codec.  What remains is `ret n err`, `stop eos`, `stop overrun` (both raised inside the
input bitstream and recovered by the decoding task).  Ingredients, each for all inputs:
`DecodeAlphabet` delivers a strictly increasing list of bytes, so `generateCanonicalCodes` never
runs off its `buf` nor sees a length outside 1..12 (`C03_huf_header_no_fault`); in
`buildDecodingTable` the `uint16` values `idx`, `end` never wrap before the first tile that leaves
the 4096 entries, and that tile is answered `return false` — in particular an over-subscribed
(Kraft sum > 1) length table is REJECTED with "incorrect symbol size", never sliced
(`C03_huf_table_no_fault`); every table entry consumes 1..12 bits (`C03_huf_table_entries`), so the
`uint8` counters `bits` / `bs` stay in 1..56 and each `readState` advances its index by at most 7
bytes per group of four symbols: the 8-byte reads of the four sub-streams stay inside
`this.buffer` (`C03_huf_v6_readstate_safe`).  (`hcs`: the constructors give `chunkSize ≥ 1024`.) -/
theorem C03_huf_v6_no_fault (p : Params) (hcs : 128 ≤ p.chunkSize) (hv : 6 ≤ p.bsVersion) (s : St) (bs : Bits)
    (count : Nat) : (read p s bs count).cls ≠ .stop .fault :=
  fun h => absurd ((read_v6 p (by omega) (by omega) s bs count).2.1 h) (by omega)

/-- an index panic of `Read` needs a bitstream version below 6 (`decodeChunkV5`) -/
theorem C03_huf_fault_only_v5 (p : Params) (hcs : 128 ≤ p.chunkSize) (s : St) (bs : Bits) (count : Nat)
    (h : (read p s bs count).cls = .stop .fault) : p.bsVersion < 6 :=
  Nat.lt_of_not_le fun hv => C03_huf_v6_no_fault p hcs hv s bs count h

/-- `readLengths` (with `DecodeAlphabet`, the Exp-Golomb lengths, `generateCanonicalCodes`) never
panics, and what it accepts has lengths in 1..12 for every symbol of its alphabet.  Rejected with an
error: a running length that leaves 1..12 (`readSizesR`: `.err`). -/
theorem C03_huf_header_no_fault (bs : Bits) :
    (readLengthsR bs).isFault = false ∧
    ∀ x, readLengthsR bs = .ok x → ∀ sym ∈ x.1.alphabet, 1 ≤ x.1.sizes.getD sym 0 ∧ x.1.sizes.getD sym 0 ≤ 12 :=
  ⟨(readLengthsR_sat bs).isFault, fun _ h => ((readLengthsR_sat bs).ok h).1⟩

/-- `buildDecodingTable` never panics on a header `readLengths` accepted (it may refuse it) -/
theorem C03_huf_table_no_fault (bs : Bits) (x : Kanzi.Huffman.RL × Bits) (h : readLengthsR bs = .ok x) :
    (buildTableR x.1).isFault = false :=
  ((readLengthsR_sat bs).ok h).2.isFault

/-- every entry of a table `buildDecodingTable` builds is the initial 7 or `(symbol << 8) | length`
with a length in 1..12: a look-up always consumes 1..12 bits (no zero-progress entry) -/
theorem C03_huf_table_entries (bs : Bits) (x : Kanzi.Huffman.RL × Bits) (h : readLengthsR bs = .ok x)
    (tbl : List Nat) (ht : buildTableR x.1 = .ok tbl) :
    tbl.length = 4096 ∧ ∀ v ∈ tbl, 1 ≤ v % 256 ∧ v % 256 ≤ 12 :=
  ((readLengthsR_sat bs).ok h).2.ok ht

/-- `decodeChunkV6` on ANY table whose entries consume 1..12 bits, ANY buffer of at least 256 and
`2*count` bytes with ANY content, ANY four sub-stream sizes: no read of `readState` leaves the buffer -/
theorem C03_huf_v6_readstate_safe (tbl : Array Nat)
    (h : ∀ i, i < 4096 → 1 ≤ tbl.getD i 0 % 256 ∧ tbl.getD i 0 % 256 ≤ 12) (count : Nat) (buf : Array Nat)
    (bs : Bits) (hL : 256 ≤ buf.size) (hc : 2 * count ≤ buf.size) : (chunkV6 tbl count buf bs).isFault = false :=
  (chunkV6_sat False tbl count buf bs (Or.inr ⟨h, hL, hc⟩)).isFault

/-- **C03_huf_v5_fault_example** (`corpus/C03/hufdec.ops`, second scenario): version 5, `Read` of 1 byte,
a chunk whose VarInt announces 24 payload bytes (accepted: at most `max(2*count, 1024)`): the main loop of `decodeChunkV5` writes
`block[0..3]` without looking at `count` — index panic (recovered by the decoding task).  In the
model this is the test `n + 4 > rem` of `v5Main`: the panic is reachable exactly when the loop
condition `idx + 8 < sz` still holds after `len(block[startChunk:])/4` rounds, i.e. when the payload
announced is longer than the symbols asked for need (each round consumes at most 7 bytes). -/
theorem C03_huf_v5_fault_example :
    (read ⟨16384, 5⟩ fresh (ofBytes [128, 13, 102, 0, 15, 255, 255, 255, 255, 255, 255, 255, 255, 255,
      255, 255, 255, 255, 255, 255, 255, 255, 255, 255, 255, 255, 255, 255, 248]) 1).cls = .stop .fault := by
  decide +kernel

/-! ## agreement with the decoder of C12 (`Model/Huffman.lean`) -/

/-- `readLengths` of the total model succeeds exactly when the one of the round-trip model does,
with the same alphabet, sizes, codes and remaining input -/
theorem C03_huf_header_agrees (bs : Bits) : (readLengthsR bs).toOpt = Kanzi.Huffman.readLengths bs :=
  readLengthsR_toOpt bs

/-- same for `buildDecodingTable` -/
theorem C03_huf_table_agrees (rl : Kanzi.Huffman.RL) : (buildTableR rl).toOpt = Kanzi.Huffman.buildTable rl :=
  buildTableR_toOpt rl

end Kanzi.C03
