/-
C13 for the UTF-8 aliasing codec `transform.UTFCodec` — property theorems only; proofs in
`Kanzi/Proofs/UTFPack.lean`, `UTFTok.lean`, `UTFFwd.lean`, `UTFInv.lean`, `UTF.lean`.  The model (`Kanzi/Model/UTF.lean`) mirrors
v2/transform/UTFCodec.go as repaired by /repo commit c2cdc0f (Forward, validateUTF, packUTF, unpackUTF0,
unpackUTF1, Inverse, MaxEncodedLen, the data type and bitstream version entries of the ctx) and is tied
to /repo by the `utf` correspondence stream.

Conventions: a block is a `List Nat` of byte values (hypothesis `∀ x ∈ b, x < 256`); the last argument
of `utfForward` / `utfInverse` is `len(dst)` of the Go call; `.ok t` is `dst[0:written]` with a nil error,
`.err c` a non-nil error (Forward declines / Inverse fails), `.fault` a Go run-time panic (index out of
range) or exhausted model fuel.  `dt` is the `dataType` entry Forward reads from its ctx (`0` = none);
`v3` says that Inverse runs with a `bsVersion` entry below 4.  The theorems hold for all of them.
"Input left untouched on decline" is not a theorem here (values are immutable); it is an oracle of the
stream on the real code.

The ranking of the symbols by frequency (a stable sort in Go, `List.mergeSort` in the model) enters the
proofs through one fact only: the ranked list is a permutation of the distinct packed values
(`ranked_keys_perm`).  Any other injective assignment of ranks would round-trip as well.
-/
import Kanzi.Generated.Consts
import Kanzi.Model.UTF
import Kanzi.Proofs.UTF

namespace Kanzi.C13
open Kanzi.RLT Kanzi.UTF

/-- C13_utf_pack: `packUTF` / `unpackUTF1` on ANY four bytes `b0 b1 b2 b3` (the bytes at and after a
position of the block).
(1) the size returned by `packUTF` is the table entry of the lead byte, at most 4, and the packed value
    indexes the 2^22-entry `aliasMap`;
(2) on every sequence the counting loop of Forward accepts (`seqValid`: lead byte of size 1..4, i.e.
    00..7F, C2..DF, E0..EF, F0..F4, and continuation bytes 80..BF in positions 2..size of a 3 or 4 byte
    sequence), `unpackUTF1 ∘ packUTF` gives back exactly the bytes consumed;
(3) on any other input: a lead byte of size 0 packs to `(0, 0)` (Forward declines); for sizes 3 and 4 only
    the six low bits of the bytes 2..size are kept, so they come back forced into 80..BF - this is why
    the acceptance test of (2) has to check them (finding F41, repaired in c2cdc0f). -/
theorem C13_utf_pack (b0 b1 b2 b3 : Nat) (h0 : b0 < 256) (h1 : b1 < 256) :
    ((packVal b0 b1 b2 b3).1 = utfSize b0 ∧ utfSize b0 ≤ 4 ∧ (packVal b0 b1 b2 b3).2 < 2 ^ 22) ∧
    (seqValid b0 b1 b2 b3 →
      unpack1 (packVal b0 b1 b2 b3).2 = [b0, b1, b2, b3].take (packVal b0 b1 b2 b3).1 ∧ 0 < (packVal b0 b1 b2 b3).1) ∧
    (unpack1 (packVal b0 b1 b2 b3).2 =
      (if utfSize b0 = 0 then [0]
       else if utfSize b0 = 1 then [b0]
       else if utfSize b0 = 2 then [b0, b1]
       else if utfSize b0 = 3 then [b0, 0x80 + b1 % 64, 0x80 + b2 % 64]
       else [b0, 0x80 + b1 % 64, 0x80 + b2 % 64, 0x80 + b3 % 64])) ∧
    (utfSize b0 = 0 → packVal b0 b1 b2 b3 = (0, 0)) :=
  ⟨⟨packVal_fst b0 b1 b2 b3, utfSize_le b0, packVal_lt b0 b1 b2 b3 h1⟩,
   fun hv => ⟨unpack1_packVal_valid b0 b1 b2 b3 h0 h1 hv, by rw [packVal_fst]; exact Nat.pos_of_ne_zero hv.1⟩,
   unpack1_packVal b0 b1 b2 b3 h0 h1,
   packVal_0 b0 b1 b2 b3⟩

/-- the size table in closed form: 1 for 00..7F, 2 for C2..DF, 3 for E0..EF, 4 for F0..F4, else 0 -/
theorem C13_utf_sizes (b : Nat) (h : b < 256) : utfSize b =
    (if b < 0x80 then 1 else if b < 0xC2 then 0 else if b < 0xE0 then 2
     else if b < 0xF0 then 3 else if b < 0xF5 then 4 else 0) := utfSize_eq b

/-- C13_utf: for every block of bytes, every data type hint, and every destination at least as large as
advertised by `MaxEncodedLen`: if Forward succeeds, its output is at most `MaxEncodedLen(len)` bytes long
(in fact shorter than the block), and Inverse into ANY destination of at least the original block length
restores the block exactly.  Holds whatever permutation the ranking produces. -/
theorem C13_utf (dt : Nat) (b t : List Nat) (dstLen : Nat)
    (hb : ∀ x ∈ b, x < 256) (hdst : utfMaxEncodedLen b.length ≤ dstLen)
    (h : utfForward dt b dstLen = .ok t) :
    t.length ≤ utfMaxEncodedLen b.length ∧ ∀ n, b.length ≤ n → utfInverse false t n = .ok b :=
  ⟨(utf_roundtrip dt b t dstLen hb hdst h).1, (utf_roundtrip dt b t dstLen hb hdst h).2.2.2.1⟩

/-- a successful Forward really compresses: the output is strictly shorter than the (non-empty) block;
and it only happens for blocks of at least 1024 bytes with no or a UTF-8 data type hint -/
theorem C13_utf_shorter (dt : Nat) (b t : List Nat) (dstLen : Nat)
    (hb : ∀ x ∈ b, x < 256) (hdst : utfMaxEncodedLen b.length ≤ dstLen) (hne : b ≠ [])
    (h : utfForward dt b dstLen = .ok t) :
    t.length < b.length ∧ MIN_BLOCKSIZE ≤ b.length ∧ (dt = DT_UNDEFINED ∨ dt = DT_UTF8) := by
  refine ⟨(utf_roundtrip dt b t dstLen hb hdst h).2.1 hne, ?_⟩
  rcases (utfForward_spec dt b dstLen hb hdst).ok h with ⟨h0, _⟩ | ⟨hdt, start, ts, iEnd, rk, hok, _⟩
  · exact absurd h0 hne
  · exact ⟨hok.len, hdt⟩

/-- C13_utf_total: no direction ever indexes out of range on what the compressor can hand it (the model
marks every slice access of the Go code that would panic, and exhausted loop fuel, as `.fault`):
(1) Forward on ANY block of bytes into any destination of at least `MaxEncodedLen(len)` bytes, with any
    hint - in particular blocks with very many distinct code points, whose symbol map is larger than the
    8192-byte margin (the defect repaired in 5b55042), and blocks with more than 32767 distinct code points;
(2) Inverse on an output of Forward, into a destination of ANY size, with either bitstream version;
(3) Inverse on ARBITRARY bytes (forged, truncated), any destination size, either version: a block or a
    clean error, except under the EXACT condition `invFaultPre`: header and symbol map pass all checks,
    the destination has room for head and tail, and the `start` head bytes overlap the tail bytes
    (`invOverlap`: `4 + 3n + start > len - 4 + adjust`); then the final copy loop reads past the end of the
    input (`.fault "src-index"`).  See the `example`s below: such inputs do make the real Inverse panic
    (index out of range); reported as an observation, no Forward output has such a header (2). -/
theorem C13_utf_total :
    (∀ (dt : Nat) (b : List Nat) (dstLen : Nat) (e : String), (∀ x ∈ b, x < 256) →
      utfMaxEncodedLen b.length ≤ dstLen → utfForward dt b dstLen ≠ .fault e) ∧
    (∀ (dt : Nat) (b t : List Nat) (dstLen : Nat), (∀ x ∈ b, x < 256) → utfMaxEncodedLen b.length ≤ dstLen →
      utfForward dt b dstLen = .ok t → ∀ (v3 : Bool) (n : Nat) (e : String), utfInverse v3 t n ≠ .fault e) ∧
    (∀ (v3 : Bool) (src : List Nat) (n : Nat) (e : String), (∀ x ∈ src, x < 256) →
      (utfInverse v3 src n = .fault e ↔ (e = "src-index" ∧ invFaultPre v3 src n))) :=
  ⟨fun dt b dstLen e hb hdst => utfForward_ne_fault dt b dstLen hb hdst e,
   fun dt b t dstLen hb hdst h => (utf_roundtrip dt b t dstLen hb hdst h).2.2.2.2,
   fun v3 src n e hb => utfInverse_fault_iff v3 src n e hb⟩

/-- the fault condition of Inverse implies the overlap of head and tail bytes in the header -/
theorem C13_utf_fault_overlap (v3 : Bool) (src : List Nat) (n : Nat) (h : invFaultPre v3 src n) : invOverlap src :=
  h.2.2.2.2.2.2.2.2.2

/-- C13_utf_bytes: the encoded block consists of byte values -/
theorem C13_utf_bytes (dt : Nat) (b t : List Nat) (dstLen : Nat)
    (hb : ∀ x ∈ b, x < 256) (hdst : utfMaxEncodedLen b.length ≤ dstLen)
    (h : utfForward dt b dstLen = .ok t) : ∀ y ∈ t, y < 256 :=
  (utf_roundtrip dt b t dstLen hb hdst h).2.2.1

/-- C13_utf_consts: the named constants of the model are those of /repo (`Kanzi/Generated/Consts.lean` is
regenerated from the Go source on every run).  The other constants of UTFCodec.go are literals there
(8192, 32768, 1<<22, the masks and shifts) and are covered by the correspondence stream. -/
theorem C13_utf_consts :
    Kanzi.Generated.Consts.transform._UTF_MIN_BLOCKSIZE = Kanzi.UTF.MIN_BLOCKSIZE ∧
    Kanzi.Generated.Consts.internal.DT_UTF8 = Kanzi.RLT.DT_UTF8 ∧
    Kanzi.Generated.Consts.internal.DT_UNDEFINED = Kanzi.RLT.DT_UNDEFINED ∧
    Kanzi.UTF.ALIAS_MAP_SIZE = 2 ^ 22 ∧ Kanzi.UTF.MAX_SYMBOLS = 2 ^ 15 ∧
    Kanzi.UTF.sizesArr.size = 256 :=
  ⟨by decide, by decide, by decide, by decide, by decide, sizesArr_size⟩

/-- the hypotheses of `C13_utf` are satisfiable (any byte block with the advertised destination) -/
example : (∀ x ∈ List.replicate 2000 0xD0, x < 256) ∧ utfMaxEncodedLen 2000 ≤ 10192 := by
  constructor
  · intro x hx; rw [(List.mem_replicate.mp hx).2]; decide
  · decide

/-- observation (C13_utf_total (3)): forged headers whose head bytes overlap the tail make Inverse read
past the end of its input; the real code panics on the same inputs (corpus/C13/utf.ops) -/
example : utfInverse false [3, 1, 0, 1, 8, 0xD0, 0xB0, 0, 0, 0] 40 = .fault "src-index" := by decide +kernel
example : invOverlap [3, 1, 0, 1, 8, 0xD0, 0xB0, 0, 0, 0] := by decide +kernel
example : utfInverse true [2, 0, 0, 1, 0, 0, 0x41, 0, 0, 0, 0] 8 = .fault "src-index" := by decide +kernel
/-- the same header with room for the head bytes decodes (one 2-byte symbol, no alias, four tail bytes) -/
example : utfInverse false [0, 0, 0, 1, 8, 0xD0, 0xB0, 0, 0x41, 0x42, 0x43, 0x44] 40 =
    .ok [0xD0, 0xB0, 0x41, 0x42, 0x43, 0x44] := by decide +kernel
example : utfInverse false [0, 0, 0, 1, 8, 0xD0, 0xB0, 0, 0x41, 0x42, 0x43, 0x44] 3 = .err "dstsize" := by decide +kernel
example : utfInverse false [0, 0, 0x80, 0, 8, 0xD0, 0xB0] 40 = .err "mapsize" := by decide +kernel
example : utfInverse false [0, 0, 0, 1, 0x18, 0xD0, 0xB0, 0, 0, 0, 0] 40 = .err "alias" := by decide +kernel
-- pack / unpack of U+20AC (E2 82 AC), U+1F600 (F0 9F 98 80), and a lossy pack (second byte 0x41)
set_option maxRecDepth 100000 in
example : packVal 0xE2 0x82 0xAC 0 = (3, 0x1020AC) ∧ unpack1 0x1020AC = [0xE2, 0x82, 0xAC] := by decide +kernel
set_option maxRecDepth 100000 in
example : packVal 0xF0 0x9F 0x98 0x80 = (4, 0x21F600) ∧ unpack1 0x21F600 = [0xF0, 0x9F, 0x98, 0x80] := by decide +kernel
set_option maxRecDepth 100000 in
example : unpack1 (packVal 0xE1 0x41 0x80 0).2 = [0xE1, 0x81, 0x80] ∧ ¬ seqValid 0xE1 0x41 0x80 0 := by decide +kernel
example : utfForward 0 [1, 2, 3] 9000 = .err "small" := by decide +kernel
set_option maxRecDepth 100000 in
example : utfForward 6 (List.replicate 1024 0x41) 9216 = .err "type" := by decide +kernel
set_option maxRecDepth 100000 in
example : utfForward 0 (List.replicate 1024 0x41) 9215 = .err "dst" := by decide +kernel

end Kanzi.C13
