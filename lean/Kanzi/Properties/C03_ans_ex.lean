/-
C03, ANS range decoder on forged input: the concrete counter-examples (evaluated in the kernel by
`decide`) that go with `Properties/C03_ans.lean`.  Each is a complete input of a complete `Read` on
a new decoder; the same inputs are in the `ansdec` corpus, where the real decoder must end the
same way.
-/
import Kanzi.Model.AnsDec

namespace Kanzi.C03
open Kanzi.Bits Kanzi.EntSmall Kanzi.AnsDec

/-- a two-symbol header at log range 8 (alphabet {0,1}, frequencies 156 / 100) -/
def exHdr : Bits := natBits 0 3 ++ [true] ++ natBits 0 5 ++ natBits 3 8 ++ natBits 7 4 ++ natBits 99 7

/-- counter-example (order 0, a new default decoder, `Read` of 40 bytes): header, then a forged
payload size 300 > max(2·40, 256) = 256: the real code panics inside `ReadArray` (recovered by the
task); nothing beyond 256 bytes is allocated -/
theorem C03_ans_overrun_example :
    (read ⟨0, 16384, 6⟩ (fresh 0)
      (exHdr ++ writeVarInt 300 ++ natBits 40000 32 ++ natBits 40000 32 ++ natBits 40000 32 ++ natBits 40000 32) 40).cls
      = .stop .overrun := by
  decide +kernel

theorem C03_ans_overrun_example_alloc :
    (read ⟨0, 16384, 6⟩ (fresh 0)
      (exHdr ++ writeVarInt 300 ++ natBits 40000 32 ++ natBits 40000 32 ++ natBits 40000 32 ++ natBits 40000 32) 40).bufSz
      = 256 := by
  decide +kernel

/-- the same header with a payload size that fits: the forged payload decodes to 40 bytes -/
example : (read ⟨0, 16384, 6⟩ (fresh 0)
      (exHdr ++ writeVarInt 3 ++ natBits 40000 32 ++ natBits 40000 32 ++ natBits 40000 32 ++ natBits 40000 32
        ++ ofBytes [1, 2, 3]) 40).cls = .ret 40 false := by
  decide +kernel

/-! ## bitstream version 1 -/

/-- counter-example to "no fault" for version 1: two zero states and three zero payload bytes make
the renormalisation loop `for st < _ANS_TOP` run off the end of `this.buffer` (index panic, recovered
by the task).  An observation, not a violation. -/
theorem C03_ans_v1_fault_example :
    (read ⟨0, 16384, 1⟩ (fresh 0) (exHdr ++ writeVarInt 3 ++ natBits 0 32 ++ natBits 0 32 ++ ofBytes [0, 0, 0]) 40).cls
      = .stop .fault := by
  decide +kernel

/-- version 1 used to allocate `sz + sz/8` bytes from the forged size alone (finding F47: 144 MiB per
decoding task for a 52-byte stream).  Since the repair `decodeChunkV1` rejects `sz > max(2·len, 256)`
before reading the states: the same forged input (size 2000 for a `Read` of 40 bytes) now ends in
the clean error "incorrect chunk size" -/
theorem C03_ans_v1_forged_size_rejected :
    (read ⟨0, 16384, 1⟩ (fresh 0) (exHdr ++ writeVarInt 2000 ++ natBits 0 32 ++ natBits 0 32) 40).cls = .ret 0 true := by
  decide +kernel

/-- and nothing has been allocated for it -/
theorem C03_ans_v1_forged_size_no_alloc :
    (read ⟨0, 16384, 1⟩ (fresh 0) (exHdr ++ writeVarInt 2000 ++ natBits 0 32 ++ natBits 0 32) 40).bufSz = 0 := by
  decide +kernel

/-- the largest accepted size, `max(2·40, 256) = 256`, allocates `256 + 32` bytes (then the input ends) -/
theorem C03_ans_v1_boundary_size :
    (read ⟨0, 16384, 1⟩ (fresh 0) (exHdr ++ writeVarInt 256 ++ natBits 0 32 ++ natBits 0 32) 40).bufSz = 288 := by
  decide +kernel

end Kanzi.C03
