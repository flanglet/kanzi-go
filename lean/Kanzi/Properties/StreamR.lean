/-
Reader-side property theorems (C01 reader half, C05, C06 read sizes, C09, C11, C02 after-error) over
`Model.Reader`.  Proofs in `Kanzi/Proofs/Reader.lean`.  They hold for every block size B ≥ 1, every
job count J ≥ 1, every size hint (nbIn) and every range from/to.
-/
import Kanzi.Model.Reader
import Kanzi.Spec.Stream
import Kanzi.Proofs.Reader

namespace Kanzi.StreamR
open Kanzi.Reader Kanzi.Spec

/-- C05 / C06 (read sizes) / C11 / C01 (reader half), in one statement.  For every well-formed stream,
every job count, every size hint, every block range and EVERY sequence of Read request sizes: the k-th
call returns exactly the next `min(n, left)` bytes of the concatenation of the blocks in range
(`specRead`), without error; it returns end-of-stream exactly when nothing is left and n > 0.
Hence the delivered bytes do not depend on jobs, hint or request sizes; blocks come in stream order,
exactly once; blocks outside the range contribute nothing. -/
theorem C05_reader_refines_spec (c : Cfg) (hB : 0 < c.B) (hJ : 0 < c.J) (blocks : List (List Nat))
    (hv : validBlocks c.B blocks) (sizes : List Nat) :
    let expected := (selectRange c.from_ c.to_ blocks).flatten
    ∀ k, (hk : k < sizes.length) →
      let pos := (sizes.take k).sum
      let n := sizes[k]
      ((readSeq c (init (validFrames blocks)) sizes).2)[k]? =
        some (if n = 0 then ReadRes.data [] none
              else if pos ≥ expected.length then ReadRes.eof
              else ReadRes.data (specRead expected pos n) none) :=
  Kanzi.Reader.reader_refines_spec c hB hJ blocks hv sizes

/-- C11: blocks outside the range are never handed to the codec -/
theorem C11_skipped_not_decoded (c : Cfg) (hB : 0 < c.B) (hJ : 0 < c.J) (frames : List Frame) (sizes : List Nat) :
    ∀ id ∈ (readSeq c (init frames) sizes).1.decodedIds, inRange c id = true :=
  Kanzi.Reader.decoded_in_range c hB hJ frames sizes

/-- C02 / C05: once a Read has reported a block error the reader is dead: no later Read returns a
byte, whatever the stream contains after the failed block -/
theorem C02_nothing_after_error (c : Cfg) (hB : 0 < c.B) (hJ : 0 < c.J) (s : St) (n : Nat)
    (h : (read c s n).2.isErr = true) (hcl : s.closed = false) (sizes : List Nat) :
    ∀ r ∈ (readSeq c (read c s n).1 sizes).2, r.bytes = [] :=
  Kanzi.Reader.nothing_after_error c hB hJ s n h hcl sizes

/-- C09 (PARTIAL): a stream without end marker (cut at a frame boundary or inside a frame, after any
number of good frames) is never reported as complete: whatever the request sizes, end-of-stream is never
returned unless an error was returned by an earlier call.
PARTIAL: under the hypothesis `hne` that no frame decodes to zero bytes (block frames are meant to be
non-empty but the type `Frame` does not enforce it).  Without `hne` the statement is FALSE for the model:
B = 2, J = 1, frames = [Frame.block []] (or [Frame.oversize 0]), sizes = [1] gives `[ReadRes.eof]`
(`Kanzi.Reader.no_eof_without_marker_counterexample`). -/
theorem C09_no_eof_without_marker (c : Cfg) (hB : 0 < c.B) (hJ : 0 < c.J) (frames : List Frame)
    (hno : Frame.endMarker ∉ frames)
    (hne : ∀ f ∈ frames, f ≠ Frame.block [] ∧ f ≠ Frame.oversize 0) (sizes : List Nat) :
    ∀ k : Nat, ((readSeq c (init frames) sizes).2)[k]? = some ReadRes.eof →
      ∃ j : Nat, j < k ∧ (((readSeq c (init frames) sizes).2)[j]?.map ReadRes.isErr) = some true :=
  Kanzi.Reader.no_eof_without_marker_partial c hB hJ frames hno hne sizes

/-- C05 (error position): when frame number `blocks.length + 1` fails (in or after the critical
section) every byte ever returned belongs to the blocks before it (a prefix of their concatenation):
nothing from beyond the failed block is delivered in its place, for any continuation of the stream -/
theorem C05_error_position (c : Cfg) (hB : 0 < c.B) (hJ : 0 < c.J) (blocks : List (List Nat))
    (hv : ∀ b ∈ blocks, b.length = c.B) (bad : Frame) (hbad : bad = .badCrit ∨ bad = .badPost)
    (hin : inRange c (blocks.length + 1) = true)
    (rest : List Frame) (sizes : List Nat) :
    let outs := (readSeq c (init (blocks.map Frame.block ++ bad :: rest)) sizes).2
    (outs.map ReadRes.bytes).flatten <+: (selectRange c.from_ c.to_ blocks).flatten ∧
    ReadRes.stale ∉ outs :=
  Kanzi.Reader.error_position c hB hJ blocks hv bad hbad hin rest sizes

/-- C17 (reader): Close is idempotent and absorbing -/
theorem C17_reader_closed (c : Cfg) (s : St) (n : Nat) :
    close (close s) = close s ∧ read c (close s) n = (close s, ReadRes.data [] (some Err.closed)) :=
  Kanzi.Reader.closed_absorbing c s n

end Kanzi.StreamR
