/-
C19 (partial) — command-line tool: which files a run reads and which files it writes.
Property theorems only.  Model: `Kanzi/Model/CliPaths.lean` (`plan` = `app.BlockCompressor.Compress`
/ `app.BlockDecompressor.Decompress` up to the creation of the file tasks, with
`relativeToInputDir` (`filepath.Rel`, fallback `filepath.Base`), the pre-flight `checkOutputNames`
of the multi-file branch and `fileOutputName`; `createFileList` = `internal.CreateFileList`;
`clean` / `walkPath` = `filepath.Clean` / the names `filepath.Walk` reports).
Proofs: `Kanzi/Proofs/CliPaths*.lean`.  Tie to /repo: the `clipath` stream runs the real binary on
trees with adversarial names and compares refusal class, printed (input, output) names, new files
and exit status with the model (harness/cmd/kv/clipath.go).

Strings are byte lists.  The file system enters through oracles (`FS`); the theorems assume about
them only what is written in their hypotheses:
  `DirInput fs a`   both `Stat` calls on the `-i` argument say "directory";
  `TreeOK l`        the directory walk reports every entry once, under directory entry names
                    (not empty, not `.`, not `..`, no `/`);
  `KnzTree l`       (decompression) every name is `<directory entry name>.knz`: what compression writes.
EVERY spelling of `-i` is covered (`./T`, `T//`, `T/../T`, `.`, `..`, `X/..`, a directory called
`T.`, absolute, `X/.`), in place and with `-o <dir>`, with NO hypothesis on the spelling: `FinOK inp`
("`formattedInName` still names the listed directory") holds for every non-empty `-i`
(`C19_paths_formatted_input_ok`), because the tool drops the trailing dot of the `-i` string only in
`X/.` (repair f45672a of finding P5).
The safety theorems need no `NoShadow` / `OutApart` hypothesis: a run whose names clash is
refused (status 7) before any file is opened (`C19_paths_dichotomy`, `C19_paths_refusal_real`), a
run that is not refused has distinct outputs none of which is an input (`C19_paths_checked`,
`C19_paths_output_not_input`).  `NoShadow` / `OutApart` are hypotheses of
`C19_paths_no_spurious_refusal` only: trees without such names are never refused.
-/
import Kanzi.Model.CliPaths
import Kanzi.Proofs.CliPathsThm

namespace Kanzi.C19
open Kanzi.CliPaths

/-! ### the pre-flight check: dichotomy -/

/-- The outputs of a run that is not refused are pairwise distinct: no hypothesis on the tree,
the names or the spelling (several files: `checkOutputNames`; one file: trivial). -/
theorem C19_paths_outputs_distinct (fs : FS) (a : Args) (ts : List (Str × Str))
    (h : plan fs a = .tasks ts) (hsp : isSpecial a.out = false) : (ts.map (·.2)).Nodup :=
  plan_outputs_nodup fs a ts h hsp

/-- A run on several files that is not refused has passed the check: after `filepath.Clean` no
output equals an input of the run, and no two outputs are equal. -/
theorem C19_paths_checked (fs : FS) (a : Args) (ts : List (Str × Str)) (h : plan fs a = .tasks ts)
    (hsp : isSpecial a.out = false) (hlen : ts.length ≠ 1) :
    (∀ t ∈ ts, ∀ u ∈ ts, clean t.2 ≠ clean u.1) ∧ (ts.map fun t => clean t.2).Nodup := by
  have hc := plan_checked fs a ts h hsp hlen
  exact ⟨fun t ht u hu e => hc (Or.inl ⟨t, ht, u, hu, e⟩), Decidable.of_not_not (fun hn => hc (Or.inr hn))⟩

/-- DICHOTOMY.  Let `N` be the (input, output) names the tool computes (`planUnchecked`: the tool
without its check) for several files and a real output.  Either the names clash (`Clash N`: an
output is an input, or two outputs coincide) and the run is refused with status 7 — `Plan.err`:
before any file is opened — or they do not clash and exactly these tasks are run. -/
theorem C19_paths_dichotomy (fs : FS) (a : Args) (N : List (Str × Str))
    (h : planUnchecked fs a = .tasks N) (hsp : isSpecial a.out = false) (hlen : N.length ≠ 1) :
    (Clash N ∧ plan fs a = .err ERR_OVERWRITE_FILE) ∨ (¬ Clash N ∧ plan fs a = .tasks N) :=
  plan_dichotomy fs a N h hsp hlen

/-- A refusal with status 7 is never spurious: the names do clash. -/
theorem C19_paths_refusal_real (fs : FS) (a : Args) (h : plan fs a = .err ERR_OVERWRITE_FILE) :
    ∃ N, planUnchecked fs a = .tasks N ∧ N.length ≠ 1 ∧ isSpecial a.out = false ∧ Clash N :=
  plan_refusal_real fs a h

/-- Trees of directory entry names without shadowing names (in place) / apart from the output
directory (`-o`) are never refused: the check changes nothing for them. -/
theorem C19_paths_no_spurious_refusal (fs : FS) (a : Args)
    (hc : a.decomp = false) (hsp : isSpecial a.out = false) (hd : DirInput fs a)
    (ht : TreeOK (fs.tree (rootOf a.inp)))
    (hin : a.out = [] → NoShadow (fs.tree (rootOf a.inp)))
    (hout : a.out ≠ [] → OutApart a (fs.tree (rootOf a.inp))) :
    plan fs a = planUnchecked fs a :=
  no_spurious_refusal fs a (fun N hN =>
    no_clash _ fs a N hsp hd ht.1 (hc ▸ ht.entries) hin hout hN)

theorem C19_paths_no_spurious_refusal_decompress (fs : FS) (a : Args)
    (hc : a.decomp = true) (hsp : isSpecial a.out = false) (hd : DirInput fs a)
    (hnd : ((fs.tree (rootOf a.inp)).map (·.1)).Nodup) (hk : KnzTree (fs.tree (rootOf a.inp)))
    (hin : a.out = [] → NoShadow (fs.tree (rootOf a.inp)))
    (hout : a.out ≠ [] → OutApart a (fs.tree (rootOf a.inp))) :
    plan fs a = planUnchecked fs a :=
  no_spurious_refusal fs a (fun N hN =>
    no_clash _ fs a N hsp hd hnd (hc ▸ hk.entries) hin hout hN)

/-! ### injectivity -/

/-- Compression of a directory, in place or with `-o <dir>`, for every spelling of `-i`: two
distinct input files never get the same output path — not even after `filepath.Clean` — and the
input paths are distinct. -/
theorem C19_paths_injective (fs : FS) (a : Args) (ts : List (Str × Str))
    (hc : a.decomp = false) (hsp : isSpecial a.out = false) (hd : DirInput fs a)
    (ht : TreeOK (fs.tree (rootOf a.inp)))
    (h : plan fs a = .tasks ts) :
    (ts.map (·.1)).Nodup ∧ (ts.map (·.2)).Nodup ∧ (ts.map fun t => clean t.2).Nodup := by
  have := paths_injective _ fs a ts hsp hd ht.1 (hc ▸ ht.entries) h
  exact ⟨this.1, this.2.1, this.2.2.1⟩

theorem C19_paths_injective_decompress (fs : FS) (a : Args) (ts : List (Str × Str))
    (hc : a.decomp = true) (hsp : isSpecial a.out = false) (hd : DirInput fs a)
    (hnd : ((fs.tree (rootOf a.inp)).map (·.1)).Nodup) (hk : KnzTree (fs.tree (rootOf a.inp)))
    (h : plan fs a = .tasks ts) :
    (ts.map (·.1)).Nodup ∧ (ts.map (·.2)).Nodup ∧ (ts.map fun t => clean t.2).Nodup := by
  have := paths_injective _ fs a ts hsp hd hnd (hc ▸ hk.entries) h
  exact ⟨this.1, this.2.1, this.2.2.1⟩

/-- The in-place case (no `-o`). -/
theorem C19_paths_injective_inplace (fs : FS) (a : Args) (ts : List (Str × Str))
    (hc : a.decomp = false) (ho : a.out = []) (hd : DirInput fs a)
    (ht : TreeOK (fs.tree (rootOf a.inp))) (h : plan fs a = .tasks ts) :
    (ts.map (·.1)).Nodup ∧ (ts.map (·.2)).Nodup := by
  have := C19_paths_injective fs a ts hc (by rw [ho]; decide) hd ht h
  exact ⟨this.1, this.2.1⟩

theorem C19_paths_injective_inplace_decompress (fs : FS) (a : Args) (ts : List (Str × Str))
    (hc : a.decomp = true) (ho : a.out = []) (hd : DirInput fs a)
    (hnd : ((fs.tree (rootOf a.inp)).map (·.1)).Nodup) (hk : KnzTree (fs.tree (rootOf a.inp)))
    (h : plan fs a = .tasks ts) : (ts.map (·.2)).Nodup :=
  (C19_paths_injective_decompress fs a ts hc (by rw [ho]; decide) hd hnd hk h).2.1

/-! ### no output is an input -/

/-- No task writes a path that is an input path of the run — its own or another task's, compared
after `filepath.Clean` — whatever the names in the tree (no `NoShadow`, no `OutApart`): clashing
runs are refused, see the dichotomy. -/
theorem C19_paths_output_not_input (fs : FS) (a : Args) (ts : List (Str × Str))
    (hc : a.decomp = false) (hsp : isSpecial a.out = false) (hd : DirInput fs a)
    (ht : TreeOK (fs.tree (rootOf a.inp)))
    (h : plan fs a = .tasks ts) : ∀ t ∈ ts, ∀ u ∈ ts, clean t.2 ≠ clean u.1 :=
  output_not_input_of fs a ts hsp h (paths_injective _ fs a ts hsp hd ht.1 (hc ▸ ht.entries) h).2.2.2

theorem C19_paths_output_not_input_decompress (fs : FS) (a : Args) (ts : List (Str × Str))
    (hc : a.decomp = true) (hsp : isSpecial a.out = false) (hd : DirInput fs a)
    (hnd : ((fs.tree (rootOf a.inp)).map (·.1)).Nodup) (hk : KnzTree (fs.tree (rootOf a.inp)))
    (h : plan fs a = .tasks ts) : ∀ t ∈ ts, ∀ u ∈ ts, clean t.2 ≠ clean u.1 :=
  output_not_input_of fs a ts hsp h (paths_injective _ fs a ts hsp hd hnd (hc ▸ hk.entries) h).2.2.2

theorem C19_paths_output_not_input_inplace (fs : FS) (a : Args) (ts : List (Str × Str))
    (hc : a.decomp = false) (ho : a.out = []) (hd : DirInput fs a)
    (ht : TreeOK (fs.tree (rootOf a.inp))) (h : plan fs a = .tasks ts) :
    ∀ t ∈ ts, ∀ u ∈ ts, clean t.2 ≠ clean u.1 :=
  C19_paths_output_not_input fs a ts hc (by rw [ho]; decide) hd ht h

/-! ### inside the output directory -/

/-- With `-o <dir>` every output path is `<dir>/` followed by a relative path made of directory
entry names (no `..`, no empty or absolute component), for every spelling of `-i`. -/
theorem C19_paths_within_outdir (fs : FS) (a : Args) (ts : List (Str × Str))
    (hc : a.decomp = false) (hsp : isSpecial a.out = false) (ho : a.out ≠ []) (hd : DirInput fs a)
    (ht : TreeOK (fs.tree (rootOf a.inp)))
    (h : plan fs a = .tasks ts) : ∀ t ∈ ts, Under (foutOf a.out) t.2 :=
  within_outdir _ fs a ts hsp ho hd (hc ▸ ht.entries) h

theorem C19_paths_within_outdir_decompress (fs : FS) (a : Args) (ts : List (Str × Str))
    (hc : a.decomp = true) (hsp : isSpecial a.out = false) (ho : a.out ≠ []) (hd : DirInput fs a)
    (hk : KnzTree (fs.tree (rootOf a.inp)))
    (h : plan fs a = .tasks ts) : ∀ t ∈ ts, Under (foutOf a.out) t.2 :=
  within_outdir _ fs a ts hsp ho hd (hc ▸ hk.entries) h

/-! ### round trip of the names -/

/-- Stripping undoes appending, for EVERY byte string. -/
theorem C19_paths_roundtrip_names (p : Str) : dName (cName p) = p := dName_cName p

/-- In place: the decompressor maps the name the compressor wrote back to the input name (when
that name does not read as `none` / `stdout`: then it is written as `./name`, the same file). -/
theorem C19_paths_roundtrip_inplace (isDir sp : Bool) (fin i : Str) (h : isSpecial i = false) :
    oName false isDir sp fin [] i = i ++ KNZ ∧ oName true isDir sp fin [] (i ++ KNZ) = i :=
  paths_roundtrip_inplace isDir sp fin i h

/-- Tree `inT` compressed into directory `oC`, then `inC` — the same directory, spelled in any
way (`hsame`) — decompressed into `oD`: for the entry `init/last` the compressor writes
`oC/init/last.knz`; that is, after `filepath.Clean`, the name under which the decompressor finds
it; and the decompressor writes `oD/init/last`: the relative path is preserved. -/
theorem C19_paths_roundtrip (inT oC inC oD : Str) (init : List Str) (last : Str)
    (hv : ∀ n ∈ init ++ [last], ValidName n) (hT : inT ≠ []) (hC : inC ≠ [])
    (hoC : oC ≠ []) (hoD : oD ≠ [])
    (hsame : stackOf (foutOf oC) = stackOf (rootOf inC) ∧ isRooted (foutOf oC) = isRooted (rootOf inC)) :
    oName false true false (finOf inT) (foutOf oC) (pathOf inT (init ++ [last]))
        = foutOf oC ++ joinSep (init ++ [last ++ KNZ]) ∧
    clean (foutOf oC ++ joinSep (init ++ [last ++ KNZ])) = clean (pathOf inC (init ++ [last ++ KNZ])) ∧
    oName true true false (finOf inC) (foutOf oD) (pathOf inC (init ++ [last ++ KNZ]))
        = foutOf oD ++ joinSep (init ++ [last]) :=
  paths_roundtrip inT oC inC oD init last hv hT hC hoC hoD hsame

/-- For every non-empty `-i` string `formattedInName` names the directory that is listed (same
component stack after `filepath.Clean`, same rootedness); they are even the same string, except
for `-i /.`. -/
theorem C19_paths_formatted_input_ok (inp : Str) (hi : inp ≠ []) :
    FinOK inp ∧ (finOf inp = rootOf inp ∨ inp = [SEP, DOT]) :=
  ⟨finOK_all inp hi, finOf_eq_rootOf inp hi⟩

/-! ### special outputs, single file, `filepath.Clean` -/

/-- An output name the tool derives from an input file name (no `-o`, or below the `-o`
directory) is never interpreted as `NONE` / `STDOUT` by the file task. -/
theorem C19_paths_no_special_output (fs : FS) (a : Args) (ts : List (Str × Str))
    (h : plan fs a = .tasks ts)
    (hder : a.out = [] ∨ (isSpecial a.out = false ∧ ∃ n, fs.stat a.inp = some (.dir, n))) :
    ∀ t ∈ ts, isSpecial t.2 = false :=
  no_special_output _ fs a ts h hder

/-- A regular file as input: one task, reading that file, writing `-o` when given, else the
mapped name. -/
theorem C19_paths_file (fs : FS) (a : Args) (ts : List (Str × Str)) (hf : FileInput fs a)
    (h : plan fs a = .tasks ts) :
    ts = [(targetOf a.inp, oName a.decomp false (isSpecial a.out) [] a.out (targetOf a.inp))] :=
  plan_file _ fs a ts hf h

theorem C19_clean_idempotent (p : Str) : clean (clean p) = clean p := clean_idem p

theorem C19_walk_names_injective (root : Str) (r1 r2 : List Str) (hp : root ≠ []) (h1 : r1 ≠ [])
    (h2 : r2 ≠ []) (v1 : ∀ n ∈ r1, ValidName n) (v2 : ∀ n ∈ r2, ValidName n)
    (h : walkPath root r1 = walkPath root r2) : r1 = r2 :=
  walkPath_inj root r1 r2 hp h1 h2 v1 v2 h

/-! ### the hypotheses are satisfiable; the repaired behaviour (findings P1..P5) -/

private def T : Str := [84]                       -- "T"
private def dotT : Str := [46, 47, 84]            -- "./T"
private def Tdot : Str := [84, 46]                -- "T."
private def out : Str := [111, 117, 116]          -- "out"
private def x : Str := [120]                      -- "x"
private def a1 : Str := [97]                      -- "a"
private def abcdef : Str := [97, 98, 99, 100, 101, 102]

private def w1 : World :=
  { base := [[119]], cwd := [[119]],
    ents := [⟨[T], .dir⟩, ⟨[T, abcdef], .file⟩, ⟨[T, a1], .file⟩, ⟨[out], .dir⟩] }

/-- the tree {x, x.knz} -/
private def w2 : World :=
  { base := [[119]], cwd := [[119]],
    ents := [⟨[T], .dir⟩, ⟨[T, x], .file⟩, ⟨[T, x ++ KNZ], .file⟩, ⟨[out], .dir⟩] }

/-- every spelling of a directory, also a last element ending with a dot (REPAIRED, P5) -/
example : FinOK T ∧ FinOK (T ++ [SEP]) ∧ FinOK dotT ∧ FinOK [DOT] ∧ FinOK (T ++ [SEP, SEP]) ∧
    FinOK (T ++ [SEP, DOT, DOT, SEP] ++ T) ∧ FinOK (T ++ [SEP, DOT]) ∧ FinOK [SEP] ∧
    FinOK Tdot ∧ FinOK [DOT, DOT] ∧ FinOK (T ++ [SEP, DOT, DOT]) ∧ FinOK [SEP, DOT] := by decide +kernel

example : DirInput w1.fs ⟨false, dotT, out, false, false, false, false⟩ := ⟨⟨2, by decide +kernel⟩, ⟨2, by decide +kernel⟩⟩
example : TreeOK (w1.fs.tree (rootOf dotT)) := by unfold TreeOK; decide +kernel
example : NoShadow (w1.fs.tree (rootOf dotT)) := by unfold NoShadow; decide +kernel
example : OutApart ⟨false, dotT, out, false, false, false, false⟩ (w1.fs.tree (rootOf dotT)) := by
  unfold OutApart; decide +kernel
example : KnzTree [([x, x ++ KNZ], Kind.file)] := by
  intro e he
  have : e = ([x, x ++ KNZ], Kind.file) := by simpa using he
  subst this
  exact ⟨[x], x, rfl, by decide, by decide⟩

/-- REPAIRED (P1): `-i ./T -o out` keeps the names, also the one-letter name -/
example : plan w1.fs ⟨false, dotT, out, false, false, false, false⟩ = .tasks
    [(T ++ SEP :: abcdef, out ++ SEP :: abcdef ++ KNZ), (T ++ SEP :: a1, out ++ SEP :: a1 ++ KNZ)] := by decide +kernel

/-- REPAIRED (P2): in place the tree {x, x.knz} is refused with status 7, with or without -f,
because the output of x is the input x.knz; into another directory it is not -/
example : plan w2.fs ⟨false, T, [], true, false, false, false⟩ = .err ERR_OVERWRITE_FILE := by decide +kernel
example : planUnchecked w2.fs ⟨false, T, [], true, false, false, false⟩ = .tasks
    [(T ++ SEP :: x, T ++ SEP :: x ++ KNZ), (T ++ SEP :: x ++ KNZ, T ++ SEP :: x ++ KNZ ++ KNZ)] := by decide +kernel
example : plan w2.fs ⟨false, T, out, false, false, false, false⟩ = .tasks
    [(T ++ SEP :: x, out ++ SEP :: x ++ KNZ), (T ++ SEP :: x ++ KNZ, out ++ SEP :: x ++ KNZ ++ KNZ)] := by decide +kernel

/-- REPAIRED (P3): decompression of {a.knz, a.KNZ}: both names give `a`; refused with status 7 -/
example : plan { w2 with ents := [⟨[T], .dir⟩, ⟨[T, a1 ++ KNZ], .file⟩, ⟨[T, a1 ++ KNZU], .file⟩, ⟨[out], .dir⟩] }.fs
    ⟨true, T, out, true, true, false, false⟩ = .err ERR_OVERWRITE_FILE := by decide +kernel

/-- REPAIRED (P4): `none.knz` decompressed in place is written to `./none` -/
example : oName true false false [] [] ([110, 111, 110, 101] ++ KNZ) = [DOT, SEP, 110, 111, 110, 101] := by decide +kernel

/-- REPAIRED (P5): a directory called `T.` with `-o out` (before f45672a: `out/../T./abcdef.knz`) -/
example : plan { w1 with ents := [⟨[Tdot], .dir⟩, ⟨[Tdot, abcdef], .file⟩, ⟨[out], .dir⟩] }.fs
      ⟨false, Tdot, out, false, false, false, false⟩ =
    .tasks [(Tdot ++ SEP :: abcdef, out ++ SEP :: abcdef ++ KNZ)] := by decide +kernel

end Kanzi.C19
