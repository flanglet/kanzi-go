/-
C08 (output bitstream part) — sink failures are never swallowed by `DefaultOutputBitStream`.
Property theorems only; proofs in `Kanzi/Proofs/OBS*.lean`.  The sink follows an ARBITRARY failure
plan `failAt : Nat → Bool` (call k fails and accepts nothing); see `Kanzi/Properties/C14_obs.lean`
for the vocabulary (`Inv`, `Counted`, `abs`, `writtenOf`).
-/
import Kanzi.Model.OBS
import Kanzi.Proofs.OBS

namespace Kanzi.C08
open Kanzi.OBS Kanzi.Bits

/-- (1) No silent loss, for every failure plan: if every operation of a program returned normally
    and `Close` returned nil, the sink holds exactly the packed image of all the bits written —
    success is never reported with bytes missing — and no sink call issued so far had failed. -/
theorem C08_obs_no_silent_loss (bs : Nat) (plan : Nat → Bool) (h40 : 40 ≤ bs) (h8 : bs % 8 = 0)
    (ops : List Op) (hv : ∀ op ∈ ops, op.valid)
    (hok : ∀ o ∈ (run (init bs plan) ops).2, o = .ok)
    (hclose : (close (run (init bs plan) ops).1).2 = .ok) :
    (close (run (init bs plan) ops).1).1.sink.map BitVec.toNat = packBytes (ops.flatMap opBits) ∧
    writtenOf (close (run (init bs plan) ops).1).1 = ((ops.flatMap opBits).length : Int) ∧
    ∀ k, 0 < k → k ≤ (close (run (init bs plan) ops).1).1.sinkCalls → plan k = false := by
  have hi := init_inv bs plan (by omega) h8
  have st := run_ok ops _ hi (by rw [init_len]; exact h40) hv hok
  rcases close_spec _ st.inv with ⟨_, c⟩ | ⟨e, _⟩
  · refine ⟨?_, ?_, ?_⟩
    · rw [c.image, st.sabs, init_abs, List.nil_append]
    · rw [c.wr, written_eq _ st.inv (st.counted (init_counted _ _)), st.sabs, init_abs, List.nil_append]
    · intro k h0 hk
      by_cases h : k ≤ (run (init bs plan) ops).1.sinkCalls
      · exact st.nofail k h0 h
      · have := c.nofail k (by omega) hk
        rw [st.plan] at this
        exact this
  · rw [hclose] at e; cases e

/-- (2) `Close` retry.  If `Close` returns an error (its flush failed) the stream is left in a
    state that satisfies the invariant again, with the same abstract content, the same sink bytes
    and the same `Written()`; the failed call is the one `Close` issued.  Consequently a later
    `Close` that succeeds (under any continuation `plan'` of the failure plan) delivers exactly the
    packed image of the bits written, the same sink bytes as if the failure had not happened, and
    `Written()` is the number of bits — this is what `TestWriterCloseRetriesAfterFailure` relies on. -/
theorem C08_obs_close_retry (s : St) (h : Inv s) (herr : (close s).2 = .err) :
    Inv (close s).1 ∧ abs (close s).1 = abs s ∧ (close s).1.sink = s.sink ∧
    writtenOf (close s).1 = writtenOf s ∧ (Counted s → Counted (close s).1) ∧
    (close s).1.sinkCalls = s.sinkCalls + 1 ∧ s.failAt (s.sinkCalls + 1) = true ∧
    ∀ plan' : Nat → Bool, (close { (close s).1 with failAt := plan' }).2 = .ok →
      (close { (close s).1 with failAt := plan' }).1.sink.map BitVec.toNat = packBytes (abs s) ∧
      (close { (close s).1 with failAt := plan' }).1.sink =
        (close { s with failAt := fun _ => false }).1.sink ∧
      writtenOf (close { (close s).1 with failAt := plan' }).1 = writtenOf s := by
  rcases close_spec s h with ⟨e, _⟩ | ⟨_, f⟩
  · rw [herr] at e; cases e
  · refine ⟨f.inv, f.sabs, f.sink, f.wo, ?_, f.calls, f.failed, ?_⟩
    · intro c; unfold Counted at *; rw [f.wr, f.sink]; exact c
    · intro plan' hok
      have hi2 := inv_plan (close s).1 plan' f.inv
      rcases close_spec _ hi2 with ⟨_, c2⟩ | ⟨e, _⟩
      · have himg : (close { (close s).1 with failAt := plan' }).1.sink.map BitVec.toNat = packBytes (abs s) := by
          rw [c2.image]
          show packBytes (abs (close s).1) = _
          rw [f.sabs]
        obtain ⟨_, c3⟩ := close_healthy { s with failAt := fun _ => false } (inv_plan s _ h) rfl
        refine ⟨himg, ?_, ?_⟩
        · have e3 : (close { s with failAt := fun _ => false }).1.sink.map BitVec.toNat = packBytes (abs s) := c3.image
          have := himg.trans e3.symm
          exact (List.map_inj_right (fun x y hxy => BitVec.eq_of_toNat_eq hxy)).mp this
        · rw [c2.wr]; exact f.wo
      · rw [hok] at e; cases e

/-- (3) A sink failure during `WriteBit` / `WriteBits` / `WriteArray` surfaces as the `io` panic
    of that very operation, never later and never swallowed: a valid operation on a stream
    satisfying the invariant either returns normally or panics with the sink error, and it panics
    exactly when one of the sink calls it issued failed (that call is then the last one issued). -/
theorem C08_obs_io_surfaces (s : St) (op : Op) (h : Inv s) (h40 : 40 ≤ s.buffer.length) (hv : op.valid) :
    ((step s op).2 = .ok ∨ (step s op).2 = .panic .io) ∧
    ((∃ k, s.sinkCalls < k ∧ k ≤ (step s op).1.sinkCalls ∧ s.failAt k = true) ↔
      (step s op).2 = .panic .io) ∧
    ((step s op).2 = .panic .io → s.failAt (step s op).1.sinkCalls = true) := by
  rcases step_spec s op h h40 hv with ⟨e, st⟩ | ⟨e, f⟩
  · refine ⟨Or.inl e, ⟨?_, ?_⟩, ?_⟩
    · rintro ⟨k, h1, h2, h3⟩
      have := st.nofail k h1 h2
      rw [h3] at this; cases this
    · intro e2; rw [e] at e2; cases e2
    · intro e2; rw [e] at e2; cases e2
  · refine ⟨Or.inr e, ⟨fun _ => e, fun _ => ⟨_, f.lt, Nat.le_refl _, f.failed⟩⟩, fun _ => f.failed⟩

/-- the same for `Close`: it returns nil or the sink error (never panics on a stream satisfying the
    invariant), and it returns the error exactly when the one sink call it issued failed. -/
theorem C08_obs_close_io (s : St) (h : Inv s) :
    ((close s).2 = .ok ∨ (close s).2 = .err) ∧
    ((close s).2 = .err ↔ ((close s).1.sinkCalls = s.sinkCalls + 1 ∧ s.failAt (s.sinkCalls + 1) = true)) := by
  rcases close_spec s h with ⟨e, c⟩ | ⟨e, f⟩
  · refine ⟨Or.inl e, ⟨?_, ?_⟩⟩
    · intro e2; rw [e] at e2; cases e2
    · rintro ⟨h1, h2⟩
      have := c.nofail (s.sinkCalls + 1) (by omega) (by omega)
      rw [h2] at this; cases this
  · exact ⟨Or.inr e, ⟨fun _ => ⟨f.calls, f.failed⟩, fun _ => e⟩⟩

/-- a whole program: if all operations returned normally, none of the sink calls issued had failed -/
theorem C08_obs_run_no_swallow (bs : Nat) (plan : Nat → Bool) (h40 : 40 ≤ bs) (h8 : bs % 8 = 0)
    (ops : List Op) (hv : ∀ op ∈ ops, op.valid)
    (hok : ∀ o ∈ (run (init bs plan) ops).2, o = .ok) :
    ∀ k, 0 < k → k ≤ (run (init bs plan) ops).1.sinkCalls → plan k = false :=
  (run_ok ops _ (init_inv bs plan (by omega) h8) (by rw [init_len]; exact h40) hv hok).nofail

/-- the hypotheses of `C08_obs_close_retry` are satisfiable: one bit written, first sink call fails -/
example : Inv (writeBit (init 16 (fun k => k == 1)) true).1 ∧
    (close (writeBit (init 16 (fun k => k == 1)) true).1).2 = .err := by
  constructor
  · rcases writeBit_spec _ true (init_inv 16 (fun k => k == 1) (by omega) (by omega)) with ⟨_, st⟩ | ⟨e, _⟩
    · exact st.inv
    · exact absurd e (by decide)
  · decide

end Kanzi.C08
