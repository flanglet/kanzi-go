/-
C18 (fact-base part) — package-level variables of the library are written only during package
initialisation, hence shared read-only between concurrently running streams.

`Kanzi.Generated.Globals` is REGENERATED from /repo on every check (`kv facts -which Globals`, syntax
only).  For every package-level `var` of v2/{io,transform,entropy,bitstream,hash,internal} (default build:
the `verif`-tagged hook variable is not part of it) it lists

* `writers`: functions containing a syntactic write (assignment / op-assignment / `++` / `--` / range
  key-value to the variable or to an index, field, deref or slice expression rooted at it; `&v…`;
  first argument of `copy`, `clear`, `delete`; `v = append(v, …)`), also from other packages of the
  module for exported variables (`pkg.func`); locals and parameters that shadow the name are resolved
  with go/parser's scope resolution;
* `aliases`: functions in which a reference into the variable's storage escapes that tracking (a slice
  or pointer typed part is stored, returned or passed on; method call on the variable).

Approximation (no type checker, no alias analysis): a write THROUGH an alias is not attributed to the
variable.  Therefore the set of run-time aliases is pinned below (`C18_global_aliases_reviewed`): a new
alias makes the build fail until a human has checked that it is only read.
-/
import Kanzi.Generated.Globals

namespace Kanzi.C18
open Kanzi.Generated

/-- writers that run before `main` (single goroutine, happens-before everything else) -/
def initWriters : List String := ["init", "<pkg-level initializer>"]

/-- Allow-list of globals written at run time under a lock / `sync.Once` visible in the AST.
EMPTY for the current /repo: no package-level variable is written after initialisation. -/
def guardedRuntimeWriters : List (String × String × String) := []

/-- C18_globals_readonly: every write to a package-level variable of the library happens in `init` or
in a package-level initialiser (or is allow-listed as provably guarded: currently nothing is). -/
theorem C18_globals_readonly :
    ∀ g ∈ globals, ∀ w ∈ g.writers, w ∈ initWriters ∨ (g.pkg, g.name, w) ∈ guardedRuntimeWriters := by
  decide +kernel

/-- Run-time aliases, each reviewed by hand (read-only use):
* `entropy._EXPG_VALUES` — `NewExpGolombEncoder` stores `_EXPG_VALUES[k][:]` in `this.cache`; the only
  other use of `cache` is the read `this.cache[val]` in `EncodeByte`.
* `entropy._TPAQ_STATE_TRANSITIONS` — `TPAQPredictor.Update`: `table := _TPAQ_STATE_TRANSITIONS[bit]`,
  `table` is only indexed on the right-hand side.
* `transform._TC_STATIC_DICTIONARY` — `textCodec{1,2}.reset` copy the entries into the instance's own
  `dictList`; the copied `dictEntry.ptr` slices still point into the shared dictionary text
  (`_TC_DICT_EN_1024`), which the codecs only read (`sameWords(pe.ptr…)`, `copy(dst, pe.ptr…)`);
  `pe.ptr = src[…]` re-points the instance's entry, it does not write through it.
(At initialisation time `createDictionary` is handed `_TC_DICT_EN_1024` and `_TC_STATIC_DICTIONARY[:]`
and does write through both: package-level initialiser, not listed here.) -/
def reviewedRuntimeAliases : List (String × String × List String) := [
  ("entropy", "_EXPG_VALUES", ["NewExpGolombEncoder"]),
  ("entropy", "_TPAQ_STATE_TRANSITIONS", ["TPAQPredictor.Update"]),
  ("transform", "_TC_STATIC_DICTIONARY", ["textCodec1.reset", "textCodec2.reset"])]

/-- the run-time aliases of package-level variables are exactly the reviewed ones -/
theorem C18_global_aliases_reviewed :
    globals.filterMap (fun g =>
      let a := g.aliases.filter (fun f => !initWriters.contains f)
      if a.isEmpty then none else some (g.pkg, g.name, a)) = reviewedRuntimeAliases := by
  decide +kernel

/-- the fact base is not vacuous: variables were found, and the extractor does see writes
(the tables filled by `init` in v2/internal) -/
theorem C18_facts_nonvacuous :
    globals.length ≥ 10 ∧ ∃ g ∈ globals, g.writers = ["init"] := by
  decide +kernel

end Kanzi.C18
