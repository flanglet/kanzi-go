/-
C12 (small pieces) — VarInt, alphabet, null entropy codec, frequency headers of the static coders,
one rANS step.  Property theorems only; proofs live in `Kanzi/Proofs/EntSmall.lean`,
`Kanzi/Proofs/EntSmallAns.lean` and (the table after normalisation) `Kanzi/Proofs/Ans0.lean`.
The models (`Kanzi/Model/EntSmall.lean`) mirror v2/entropy/{EntropyUtils,NullEntropyCodec,
ANSRangeCodec,RangeCodec}.go and are tied to /repo by the `entsmall` correspondence stream
(byte-identical bitstreams, both directions).

Every round trip is stated in the "exact consumption" form
    dec (enc x ++ rest) = some (x, rest)      for EVERY continuation `rest`
over the abstract bit strings `Kanzi.Bits` (C14 lifts this to the real bitstreams).
-/
import Kanzi.Model.EntSmall
import Kanzi.Proofs.EntSmall
import Kanzi.Proofs.EntSmallAns
import Kanzi.Proofs.Normalize
import Kanzi.Proofs.Ans0

namespace Kanzi.C12
open Kanzi.Bits Kanzi.EntSmall

/-! ## 1. VarInt -/

/-- `ReadVarInt (WriteVarInt v) = v` for every `uint32`, consuming exactly the written bits; the
encoding is a whole number of bytes, between 1 and 5 (`varIntLen` = the value returned by
`WriteVarInt`). -/
theorem C12_varint (v : Nat) (hv : v < 2 ^ 32) :
    (∀ rest : Bits, readVarInt (writeVarInt v ++ rest) = some (v, rest)) ∧
    (writeVarInt v).length = 8 * varIntLen v ∧ 1 ≤ varIntLen v ∧ varIntLen v ≤ 5 ∧
    (writeVarInt v).length ≤ 40 := by
  have h := varint_length v
  exact ⟨fun rest => varint_roundtrip v hv rest, h.1, h.2.1, h.2.2, by omega⟩

/-! ## 2. Alphabet -/

/-- for every strictly increasing list of symbols `< 256` (hence of size 0..256: the three
encodings empty / full / partial with bit masks) `EncodeAlphabet` succeeds and `DecodeAlphabet`
returns the same list, consuming exactly the written bits. -/
theorem C12_alphabet (a : List Nat) (hs : a.Pairwise (· < ·)) (ha : ∀ s ∈ a, s < 256) :
    encodeAlphabet a = some (encodeAlphabetBits a) ∧
    ∀ rest : Bits, decodeAlphabet (encodeAlphabetBits a ++ rest) = some (a, rest) :=
  ⟨encodeAlphabet_some a hs ha, fun rest => alphabet_roundtrip a hs ha rest⟩

example : [3, 7, 8, 200].Pairwise (· < ·) ∧ ∀ s ∈ [3, 7, 8, 200], s < 256 := by decide

/-! ## 3. Null entropy codec -/

/-- for every block of bytes (any length, 0 and lengths above the 2^23-byte chunk limit
included) the decoder asked for `b.length` bytes returns `b` and consumes exactly the written
bits; the image is the plain byte string; the chunk sizes sum to the length and never exceed
2^23. -/
theorem C12_none (b : List Nat) (hb : ∀ x ∈ b, x < 256) :
    (∀ rest : Bits, nullDecode (nullEncode b ++ rest) b.length = some (b, rest)) ∧
    nullEncode b = ofBytes b ∧
    (nullChunks b.length).sum = b.length ∧ ∀ c ∈ nullChunks b.length, 0 < c ∧ c ≤ 2 ^ 23 := by
  have h := nullChunksAux_sum b.length b.length (Nat.le_refl _)
  exact ⟨fun rest => null_roundtrip b hb rest, nullEncode_eq b, h.1, h.2⟩

/-! ## 4. Frequency headers (ANS order 0 and Range) -/

/-- **C12_freq_header.**  `a` = alphabet (strictly increasing, non empty, symbols < 256),
`f` = the 256-entry frequency table, zero outside `a`, positive on `a`, summing to `2^lr`,
`8 ≤ lr ≤ 15`.  Then both header decoders return exactly `(a, f, lr)` and consume exactly the
header bits.  (`lr = 16`, accepted by the Go constructors, does not fit the 3-bit field `lr − 8`;
it is excluded here because the Go code itself cannot round trip it.) -/
theorem C12_freq_header (a f : List Nat) (lr : Nat) (hlr : 8 ≤ lr ∧ lr ≤ 15)
    (hs : a.Pairwise (· < ·)) (ha : ∀ s ∈ a, s < 256) (hne : a ≠ [])
    (hlen : f.length = 256) (hz : ∀ i, i ∉ a → f.getD i 0 = 0) (hpos : ∀ s ∈ a, 1 ≤ f.getD s 0)
    (hsum : (a.map (fun s => f.getD s 0)).sum = 2 ^ lr) (rest : Bits) :
    ansDecodeHeader (ansEncodeHeader a f lr ++ rest) = some ((a, f, lr), rest) ∧
    rangeDecodeHeader (rangeEncodeHeader a f lr ++ rest) = some ((a, f, lr), rest) := by
  have hle : ∀ s ∈ a, f.getD s 0 ≤ 2 ^ lr := by
    intro s hsa
    rw [← hsum]
    exact mem_le_sum _ _ (List.mem_map.mpr ⟨s, hsa, rfl⟩)
  have ht : FreqTable a f lr := ⟨hs, ha, hne, hlen, hz, hpos, hle⟩
  exact ⟨ans_header_roundtrip a f lr hlr ht hsum rest, range_header_roundtrip a f lr hlr ht hsum rest⟩

/-- **C12_freq_header_needs_sum** (the direction that makes C16 necessary).  Same table
hypotheses but `Σ f ≠ 2^lr` (each entry still `≤ 2^lr`): whenever a header decoder accepts the
encoder's header it reconstructs a DIFFERENT first frequency (`2^lr − Σ others`), so the table
cannot round trip. -/
theorem C12_freq_header_needs_sum (a f : List Nat) (lr : Nat) (hlr : 8 ≤ lr ∧ lr ≤ 15)
    (hs : a.Pairwise (· < ·)) (ha : ∀ s ∈ a, s < 256) (hne : a ≠ [])
    (hlen : f.length = 256) (hz : ∀ i, i ∉ a → f.getD i 0 = 0) (hpos : ∀ s ∈ a, 1 ≤ f.getD s 0)
    (hle : ∀ s ∈ a, f.getD s 0 ≤ 2 ^ lr)
    (hsum : (a.map (fun s => f.getD s 0)).sum ≠ 2 ^ lr) (rest : Bits) :
    (∀ a' f' lr' r, ansDecodeHeader (ansEncodeHeader a f lr ++ rest) = some ((a', f', lr'), r) →
        a' = a ∧ lr' = lr ∧ r = rest ∧ f'.getD (a.headD 0) 0 ≠ f.getD (a.headD 0) 0) ∧
    (∀ a' f' lr' r, rangeDecodeHeader (rangeEncodeHeader a f lr ++ rest) = some ((a', f', lr'), r) →
        a' = a ∧ lr' = lr ∧ r = rest ∧ f'.getD (a.headD 0) 0 ≠ f.getD (a.headD 0) 0) ∧
    ansDecodeHeader (ansEncodeHeader a f lr ++ rest) ≠ some ((a, f, lr), rest) ∧
    rangeDecodeHeader (rangeEncodeHeader a f lr ++ rest) ≠ some ((a, f, lr), rest) := by
  have ht : FreqTable a f lr := ⟨hs, ha, hne, hlen, hz, hpos, hle⟩
  have key : ∀ a' f' lr' r, hdrTail a lr (encodeFreqs a f lr ++ rest) = some ((a', f', lr'), r) →
      a' = a ∧ lr' = lr ∧ r = rest ∧ f'.getD (a.headD 0) 0 ≠ f.getD (a.headD 0) 0 := by
    intro a' f' lr' r h
    obtain ⟨h1, h2, h3, h4⟩ := hdrTail_dec a f lr hlr ht rest a' f' lr' r h
    rw [sum_split a f hne] at hsum
    exact ⟨h1, h2, h3, by omega⟩
  rw [ansDecodeHeader_unfold a f lr hlr ht, rangeDecodeHeader_unfold a f lr hlr ht]
  exact ⟨key, key, fun h => (key _ _ _ _ h).2.2.2 rfl, fun h => (key _ _ _ _ h).2.2.2 rfl⟩

/-- the hypotheses of `C12_freq_header` are satisfiable: two symbols, 100 + 156 = 2^8 -/
example : ansDecodeHeader (ansEncodeHeader [0, 1] (100 :: 156 :: List.replicate 254 0) 8 ++ [true])
    = some (([0, 1], 100 :: 156 :: List.replicate 254 0, 8), [true]) := by
  refine (C12_freq_header [0, 1] (100 :: 156 :: List.replicate 254 0) 8 ⟨by omega, by omega⟩
    (by decide) (by decide) (by decide) ?_ ?_ ?_ rfl [true]).1
  · rw [List.length_cons, List.length_cons, List.length_replicate]
  · intro i hi
    match i with
    | 0 => exact absurd (List.mem_cons_self) hi
    | 1 => exact absurd (List.mem_cons_of_mem _ List.mem_cons_self) hi
    | j + 2 => exact getD_replicate_zero 254 j
  · intro s hs
    rcases List.mem_cons.mp hs with rfl | hs
    · exact (by decide : 1 ≤ 100)
    · rcases List.mem_cons.mp hs with rfl | hs
      · exact (by decide : 1 ≤ 156)
      · cases hs

/-- **C12_freq_header_after_normalize** (C16 ⟹ header correctness).  For every histogram `h` over
256 symbols with a positive total the table produced by `NormalizeFrequencies` (model of C16) at scale `2^lr`, `8 ≤ lr ≤ 15`, is
transmitted exactly by both header codecs. -/
theorem C12_freq_header_after_normalize (h : List Nat) (lr : Nat) (hlr : 8 ≤ lr ∧ lr ≤ 15)
    (hlen : h.length = 256) (htot : 0 < h.sum) :
    ∃ o, Kanzi.Normalize.normalize h h.sum (2 ^ lr) = .ok o ∧ ∀ rest : Bits,
      ansDecodeHeader (ansEncodeHeader o.alphabet o.freqs lr ++ rest) = some ((o.alphabet, o.freqs, lr), rest) ∧
      rangeDecodeHeader (rangeEncodeHeader o.alphabet o.freqs lr ++ rest)
        = some ((o.alphabet, o.freqs, lr), rest) := by
  obtain ⟨o, ho, _, ht, hsumA, _⟩ := normalize_table h lr hlr hlen htot
  exact ⟨o, ho, fun rest =>
    ⟨ans_header_roundtrip _ _ lr hlr ht hsumA rest, range_header_roundtrip _ _ lr hlr ht hsumA rest⟩⟩

/-! ## 5. one rANS step -/

/-- **C12_ans_reciprocal.**  With the `invFreq` / `invShift` fields computed by
`encSymbol.reset(c, f, lr)` for ANY frequency whose clamped value `min f (2^lr − 1)` is at least 2
(`lr ≤ 16`, so every frequency up to 2^16), the multiply–shift used by `encodeSymbol` is the exact
quotient for every state `x < 2^31`, and the 64-bit product does not overflow. -/
theorem C12_ans_reciprocal (c f lr x : Nat) (hlr : lr ≤ 16) (hf : 2 ≤ min f (2 ^ lr - 1)) (hx : x < 2 ^ 31) :
    (x * (encSymReset c f lr).invFreq) >>> (encSymReset c f lr).invShift = x / min f (2 ^ lr - 1) ∧
    x * (encSymReset c f lr).invFreq < 2 ^ 63 :=
  reciprocal_sym c f lr x hlr hf hx

/-- frequency 1 uses the constants `0xFFFFFFFF`, 32 and a compensating bias: in every case
(`f ≥ 1`, `1 ≤ lr ≤ 16`) the new state is `(x / f')·2^lr + x mod f' + c` with `f' = min f (2^lr−1)`,
for every `0 < x < 2^31`. -/
theorem C12_ans_encode_closed_form (c f lr x : Nat) (hlr : 1 ≤ lr ∧ lr ≤ 16) (hf : 0 < f)
    (hx0 : 0 < x) (hx : x < 2 ^ 31) :
    x + (encSymReset c f lr).bias
        + ((x * (encSymReset c f lr).invFreq) >>> (encSymReset c f lr).invShift) * (encSymReset c f lr).cmplFreq
      = (x / min f (2 ^ lr - 1)) * 2 ^ lr + x % min f (2 ^ lr - 1) + c :=
  encode_state c f lr x hlr hf hx0 hx

/-- **C12_ans_step** (no hypothesis on the reciprocal: its exactness is `C12_ans_reciprocal`).
For `8 ≤ lr ≤ 15`,
`0 < f`, `c + f ≤ 2^lr` and a state `x` in the normalised interval `[2^15, 2^31)`:
the encoder emits at most one 16-bit word and its new state `x'` is again normalised; the slot
`x' mod 2^lr` lies in `[c, c+f)` (it identifies the symbol); and the decoder step on `x'`, with
the emitted words in front of ANY further words `ws`, returns exactly `x` and leaves `ws`. -/
theorem C12_ans_step (lr c f x : Nat) (ws : List Nat) (hlr : 8 ≤ lr ∧ lr ≤ 15) (hf : 0 < f)
    (hc : c + f ≤ 2 ^ lr) (hx : 2 ^ 15 ≤ x ∧ x < 2 ^ 31) :
    2 ^ 15 ≤ (encodeStep x (encSymReset c f lr)).2 ∧ (encodeStep x (encSymReset c f lr)).2 < 2 ^ 31 ∧
    c ≤ (encodeStep x (encSymReset c f lr)).2 % 2 ^ lr ∧
    (encodeStep x (encSymReset c f lr)).2 % 2 ^ lr < c + f ∧
    (∀ w ∈ (encodeStep x (encSymReset c f lr)).1, w < 2 ^ 16) ∧
    (encodeStep x (encSymReset c f lr)).1.length ≤ 1 ∧
    decodeStep (encodeStep x (encSymReset c f lr)).2 (decSymReset c f lr) lr
        ((encodeStep x (encSymReset c f lr)).1 ++ ws) = (x, ws) :=
  ans_step lr c f x ws hlr hf hc hx

example : (8 ≤ 12 ∧ 12 ≤ 15) ∧ 0 < 5 ∧ 7 + 5 ≤ 2 ^ 12 ∧ (2 ^ 15 ≤ 40000 ∧ 40000 < 2 ^ 31) := by decide

end Kanzi.C12
