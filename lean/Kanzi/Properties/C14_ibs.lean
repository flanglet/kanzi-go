/-
C14 (reader half) — `bitstream.DefaultInputBitStream` is an exact mirror of the bit string it is
given.  Property theorems only; proofs in `Kanzi/Proofs/IBS*.lean`.

Model: `Kanzi/Model/IBS.lean` (tied to /repo by the `ibs` correspondence stream).  Abstraction:
`remaining s : Bits` = the low `availBits` bits of `current` ++ the bits of
`buffer[position .. maxPosition]` ++ the bits of all bytes the source will still deliver
(all chunks up to and including the first one returned together with an error); `[]` once closed.
`Inv` is the representation invariant (`availBits ≤ 64`, buffered size a multiple of 8 unless an
error/EOF was recorded in `pendingErr`, non-empty chunks, …); it holds initially (`init_inv`) and
is preserved by every operation, also by the failing ones.  `Fresh s` = open and
`position ≤ maxPosition + 1`; it is preserved by every operation that does not panic.
`s.count` is `Read()`.
-/
import Kanzi.Proofs.IBSThm

namespace Kanzi.C14
open Kanzi.IBS Kanzi.Bits Kanzi.BitsIbs

/-- `ReadBits(n)`, `1 ≤ n ≤ 64`, with at least `n` bits left: returns the big-endian value of the
next `n` bits, drops exactly them, `Read()` grows by exactly `n` — for every chunking of the
source, every buffer state, whether or not the source ends with an error after those bits. -/
theorem C14_ibs_readBits (s : St) (hi : Inv s) (hc : s.closed = false) (n : Nat)
    (h1 : 1 ≤ n) (h64 : n ≤ 64) (hen : n ≤ (remaining s).length) :
    ∃ v s', readBits s n = (.val v, s') ∧ v.toNat = bitsNat ((remaining s).take n) ∧
      remaining s' = (remaining s).drop n ∧ Inv s' ∧ s'.count = s.count + n ∧
      s'.closed = false ∧ (Fresh s → Fresh s') :=
  readBits_refines s hi hc n h1 h64 hen

/-- `ReadBit` with at least one bit left. -/
theorem C14_ibs_readBit (s : St) (hi : Inv s) (hc : s.closed = false)
    (hen : 1 ≤ (remaining s).length) :
    ∃ v s', readBit s = (.val v, s') ∧ v.toNat = bitsNat ((remaining s).take 1) ∧
      remaining s' = (remaining s).drop 1 ∧ Inv s' ∧ s'.count = s.count + 1 ∧
      s'.closed = false ∧ (Fresh s → Fresh s') :=
  readBit_refines s hi hc hen

/-- `ReadArray(bits, k)` with at least `k` bits left (any `k`, any alignment of the cursor, across
any number of refills): the bytes stored are the packed image of the next `k` bits (last byte zero
padded), exactly `k` bits are dropped, `Read()` grows by exactly `k`.  Covers the aligned bulk
copy and the unaligned 256-bit / 64-bit word loops. -/
theorem C14_ibs_readArray (s : St) (hi : Inv s) (hf : Fresh s) (k : Nat)
    (hen : k ≤ (remaining s).length) :
    ∃ out s', readArray s k = (.val out, s') ∧
      out.map BitVec.toNat = packBytes ((remaining s).take k) ∧
      remaining s' = (remaining s).drop k ∧ Inv s' ∧ s'.count = s.count + k ∧ Fresh s' :=
  readArray_refines s hi hf k hen

/-- End of stream (needed by C09): over a source that ends with EOF, asking for more bits than
remain panics with class `eos` — zero bits are never fabricated. -/
theorem C14_ibs_eos (s : St) (hi : Inv s) (hc : s.closed = false) (ht : s.src.term = .eof) :
    (∀ n, 1 ≤ n → n ≤ 64 → (remaining s).length < n → (readBits s n).1 = .panic .eos) ∧
    ((remaining s).length = 0 → (readBit s).1 = .panic .eos) ∧
    (∀ k, Fresh s → (remaining s).length < k → (readArray s k).1 = .panic .eos) := by
  have he : s.src.term.err = .eos := by rw [ht]; rfl
  refine ⟨fun n h1 h64 h => ?_, fun h => ?_, fun k hf h => ?_⟩
  · rw [← he]; exact readBits_short s hi hc n h1 h64 h
  · rw [← he]; exact readBit_short s hi hc h
  · rw [← he]; exact readArray_short s hi hf k h

/-- `HasMoreToRead` on an open stream: true iff a bit remains, else the ending of the source as
an error value; it consumes nothing. -/
theorem C14_ibs_hasMore (s : St) (hi : Inv s) (hc : s.closed = false) :
    (hasMore s).1 = (if (remaining s).length = 0 then .panic s.src.term.err else .val ()) ∧
    remaining (hasMore s).2 = remaining s ∧ (hasMore s).2.count = s.count :=
  hasMore_spec s hi hc

/-- After `Close`: the stream is closed, `Read()` is unchanged, `Close` is idempotent, and every
read operation panics with class `closed` (Go: `pull → readFromInputStream → "Stream closed"`) and
leaves the state unchanged; `ReadBits` still checks its count first. -/
theorem C14_ibs_closed (s : St) (hi : Inv s) :
    (close s).closed = true ∧ (close s).count = s.count ∧ close (close s) = close s ∧
    Inv (close s) ∧
    (∀ t, IBS.Inv t → t.closed = true →
      readBit t = (.panic .closed, t) ∧
      (∀ n, 1 ≤ n → n ≤ 64 → readBits t n = (.panic .closed, t)) ∧
      (∀ n, n = 0 ∨ n > 64 → readBits t n = (.panic .invalidCount, t)) ∧
      (∀ k, readArray t k = (.panic .closed, t)) ∧
      hasMore t = (.panic .closed, t)) :=
  ⟨close_closed s, close_count s, close_idem s, (close_sim s hi).2,
    fun t ht hc => ⟨readBit_after_close t ht hc, fun n h1 h64 => readBits_after_close t ht hc n h1 h64,
      fun n hn => readBits_invalid t n hn, fun k => readArray_after_close t hc k,
      hasMore_after_close t hc⟩⟩

/-- Mirror, stated on `Kanzi.Bits` only: reading the byte image `packBytes w` of the bits written
by `WriteBits(v, n)` calls (`v < 2^n`) with reads of the same sizes returns the written values. -/
theorem C14_mirror (ws : List (Nat × Nat)) (hv : ∀ w ∈ ws, w.1 < 2 ^ w.2) :
    specReads (ofBytes (packBytes (bitsOfWrites ws))) (ws.map (·.2)) = ws.map (·.1) := by
  rw [ofBytes_packBytes]
  exact specReads_writes ws hv _

/-- Mirror through the model: a stream over any chunking of the bytes `packBytes w` (any buffer
size) returns, for reads of the sizes written, the written values, and `Read()` after each read is
the number of bits read so far. -/
theorem C14_mirror_ibs (bs : Nat) (hb : bs % 8 = 0 ∧ 0 < bs) (chunks : List (List IBS.Byte))
    (hne : ∀ c ∈ chunks, c ≠ []) (term : Term) (ws : List (Nat × Nat))
    (hw : ∀ w ∈ ws, 1 ≤ w.2 ∧ w.2 ≤ 64 ∧ w.1 < 2 ^ w.2)
    (himg : chunks.flatten.map BitVec.toNat = packBytes (bitsOfWrites ws)) :
    run (init bs (plainSrc chunks term)) (ws.map (fun w => Op.readBits w.2)) = mirrorOut 0 ws := by
  have hrem : remaining (init bs (plainSrc chunks term)) =
      bitsOfWrites ws ++ List.replicate ((8 - (bitsOfWrites ws).length % 8) % 8) false := by
    rw [remaining_init]
    simp only [plainSrc]
    rw [srcBytes_plain, bytesBits, himg, ofBytes_packBytes]
  exact run_mirror ws _ _ (init_inv bs _ hb.1 hb.2 (plain_ne chunks hne term)) rfl hw hrem

/-- the hypotheses are satisfiable: the initial state over a two-chunk source -/
example : Inv (init 1024 (plainSrc [[1, 2, 3], [4]] .eof)) ∧
    Fresh (init 1024 (plainSrc [[1, 2, 3], [4]] .eof)) ∧
    (remaining (init 1024 (plainSrc [[1, 2, 3], [4]] .eof))).length = 32 := by
  refine ⟨init_inv _ _ (by decide) (by decide) (plain_ne _ (by decide) _),
    (init_good _ _ (by decide) (by decide) (plain_ne _ (by decide) _)).2.resolve_left (by decide), ?_⟩
  rw [remaining_init]
  simp only [plainSrc]
  rw [srcBytes_plain, bytesBits_length]
  rfl

end Kanzi.C14
