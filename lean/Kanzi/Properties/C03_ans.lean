/-
C03 (the decoder is total) — the ANS range decoder (`ANSRangeDecoder` of
v2/entropy/ANSRangeCodec.go, order 0 and order 1, with `DecodeAlphabet` / `ReadVarInt` of
EntropyUtils.go) on ARBITRARY input.  Property theorems only; proofs in `Kanzi/Proofs/AnsDec.lean`,
`Kanzi/Proofs/AnsDecAgree.lean` and `Kanzi/Proofs/AnsDecAgree1.lean`.  The model `Kanzi/Model/AnsDec.lean` is tied to /repo by the
`ansdec` stream: the real decoders on forged inputs (mutated encodings, truncations, crafted
headers and sizes, random bytes) must end every `Read` exactly as the model says — same bytes, same
error, same class of panic, same `len(this.f2s)` and `len(this.buffer)`.

Vocabulary.  `read p s bs count` = `Read(make([]byte, count))` of a decoder built with parameters
`p` (`mkParams` = the constructors `NewANSRangeDecoder` / `NewANSRangeDecoderWithCtx` with their
optional arguments), whose object state is `s` (`fresh p.order` for a new
decoder; `this.symbols`, `this.f2s`, `this.buffer` persist between calls), on the input bits `bs`.
Its `cls` is `ret n err` (normal return), or `stop eos` (the input bitstream ran out: the panic
"No more data to read in the bitstream"), `stop overrun` (`ReadArray` asked to put `sz` bytes in a
shorter `this.buffer`: panics inside the bitstream), `stop fault` (index / slice bounds out of range
in the codec), or `fuel` (the model's chunk loop ran out of fuel).  In the real code every decoding
task runs under a deferred `recover`, so `stop eos` and `stop overrun` are block errors, i.e.
observations, not violations of C03; a violation would be an unbounded loop, an allocation not
bounded by the declared sizes, or (in a helper goroutine without recover) any panic.

`Inv order syms f2s`: the decoder object has its constructor-given `len(this.symbols) ≥ dim·256`
(`dim = 255·order + 1`) and `this.f2s` holds bytes; true of a new decoder (`C03_ans_inv_fresh`) and
kept by every `Read` that returns without error (`C03_ans_inv_kept`), so the theorems apply to every
`Read` of a sequence on one decoder, up to and including the first one that fails.
-/
import Kanzi.Model.AnsDec
import Kanzi.Proofs.AnsDec
import Kanzi.Proofs.AnsDecAgree1

namespace Kanzi.C03
open Kanzi.Bits Kanzi.EntSmall Kanzi.AnsDec

/-- the constructors only produce order 0 or 1, a chunk size in `[1024, 2^27]` (so the chunk
loop advances), and record the bitstream version of the context (6 without context) -/
theorem C03_ans_params (o c v : Option Nat) (p : Params) (h : mkParams o c v = some p) :
    (p.order = 0 ∨ p.order = 1) ∧ 1024 ≤ p.chunkSize ∧ p.chunkSize ≤ 2 ^ 27 ∧ p.bsVersion = v.getD 6 :=
  mkParams_facts o c v p h

theorem C03_ans_inv_fresh (order : Nat) : Inv order (fresh order).syms (fresh order).f2s :=
  fresh_inv order

/-! ## termination -/

/-- **C03_ans_terminates.**  For EVERY input, decoder state and bitstream version (1 included), a
`Read` of `count` bytes ends: the chunk loop `for startChunk < end` of the model is given
`chunksOf chunkSize count = count / chunkSize + 2` units of fuel (one per chunk, one for the final
test) and never exhausts them.  Every other loop of the decoder is bounded by a constant or by a
value the code has checked, and is a structural recursion in the model:
  * `ReadVarInt`: at most 5 bytes; `DecodeAlphabet`: at most 32 mask bytes × 8 flags;
  * `decodeHeader`: `dim` contexts × (at most `256/6 + 1` frequency groups of at most 8 values, then
    256 symbols whose reverse-mapping runs total exactly `2^lr ≤ 32768` slots: `C03_ans_table_sum`);
  * `decodeChunkV2`: `ReadArray` of `sz ≤ len(buffer)` bytes, at most 64 guard bytes, `len/4` rounds
    of four `decodeSymbol` (no inner loop: at most one 16-bit refill each), `len%4` tail bytes;
  * `decodeChunkV1` (version 1): each renormalisation loop reads two bytes per iteration and stops
    at the end of `this.buffer` at the latest (`C03_ans_v1_renorm_fuel`).
So the time of one `Read` is `O((count/chunkSize + 1) · dim · 2^15 + count)`, independent of the
payload contents. -/
theorem C03_ans_terminates (p : Params) (hcs : 0 < p.chunkSize) (s : St) (bs : Bits) (count : Nat) :
    (read p s bs count).cls ≠ .fuel :=
  read_terminates p hcs s bs count

/-- the same for the loop itself with its explicit bound: `ceil(count/chunkSize) + 1` iterations -/
theorem C03_ans_loop_bound (p : Params) (hcs : 0 < p.chunkSize) (fuel count : Nat) (acc : List Nat)
    (syms : Array DecSym) (f2s buf : Array Nat) (bs : Bits)
    (hf : (count + p.chunkSize - 1) / p.chunkSize + 1 ≤ fuel) :
    (readLoop p fuel count acc syms f2s buf bs).cls ≠ .fuel :=
  readLoop_terminates p hcs fuel count acc syms f2s buf bs hf

/-- the frequency table of a context sums to the scale on every accepted header, whatever the
input: the reverse-mapping loops write exactly `2^lr` slots -/
theorem C03_ans_table_sum (a : List Nat) (lr : Nat) (bs : Bits) (tbl : List Nat) (r : Bits)
    (hs : a.Pairwise (· < ·)) (hlt : ∀ s ∈ a, s < 256) (hne : a ≠ [])
    (h : freqTableR a lr bs = .ok (tbl, r)) : tbl.length = 256 ∧ tbl.sum = 2 ^ lr :=
  (freqTableR_sat a lr bs hs hlt hne).of_ok h

/-! ## no fault, bounded allocation (bitstream versions 0, 2..6: `decodeChunkV2`) -/

/-- **C03_ans_no_fault.**  On ARBITRARY input bits, for order 0 and order 1, any chunk size, any
decoder object satisfying `Inv` (new, or left by earlier `Read`s that returned without error): the
model never indexes out of range (`stop fault`), in
`decodeHeader` (`f[alphabet[j]]`, `freq2sym[sum+j]`, the slices of `this.f2s` / `this.symbols`), in
the main loop of `decodeChunkV2` (`f2s[(prv<<lr)+(st&mask)]` even with NEGATIVE or wrapped states and
stale tables of another log range, `symbols[..]`, `buffer[n]`, `buffer[n+1]`), in the tail.  The
only abnormal ends are the bitstream's own panics (`eos`, `overrun`).  (Second conjunct: `stop err`, the
class the pieces of the model use for a rejected value, never surfaces as the class of a `Read`:
it becomes `ret n true`.) -/
theorem C03_ans_no_fault (p : Params) (hv : p.bsVersion ≠ 1) (hcs : 0 < p.chunkSize) (s : St) (bs : Bits)
    (count : Nat) (hinv : Inv p.order s.syms s.f2s) :
    (read p s bs count).cls ≠ .stop .fault ∧ (read p s bs count).cls ≠ .stop .err :=
  ⟨(read_good p hv hcs s bs count hinv).noFault, (read_good p hv hcs s bs count hinv).noErrStop⟩

/-- **C03_ans_alloc_bound.**  However a `Read` of `count` bytes (decoder object satisfying `Inv`)
ends, the two slices the decoder
allocates from stream-controlled values are bounded by the declared sizes only:
`len(this.f2s) ≤ max(before, dim·32768)` (`dim` = 1 or 256: 32 KiB / 8 MiB) and
`len(this.buffer) ≤ max(before, 2·min(chunkSize, count), 256)`: a forged payload size up to `2^27`
is never allocated.  (Both slices are only ever replaced by longer ones, so these are the largest
allocations; `this.symbols` / `this.freqs` are allocated by the constructor: `dim·256` entries.) -/
theorem C03_ans_alloc_bound (p : Params) (hv : p.bsVersion ≠ 1) (hcs : 0 < p.chunkSize) (s : St) (bs : Bits)
    (count : Nat) (hinv : Inv p.order s.syms s.f2s) :
    (read p s bs count).f2sSz ≤ max s.f2s.size (dimOf p.order * 2 ^ 15) ∧
    (read p s bs count).bufSz ≤ max s.buf.size (max (2 * min p.chunkSize count) 256) :=
  ⟨(read_good p hv hcs s bs count hinv).f2sLe, (read_good p hv hcs s bs count hinv).bufLe⟩

/-- for a new decoder: at most `dim·32768` and `max(2·min(chunkSize, count), 256)` bytes -/
theorem C03_ans_alloc_bound_fresh (p : Params) (hv : p.bsVersion ≠ 1) (hcs : 0 < p.chunkSize) (bs : Bits)
    (count : Nat) :
    (read p (fresh p.order) bs count).f2sSz ≤ dimOf p.order * 2 ^ 15 ∧
    (read p (fresh p.order) bs count).bufSz ≤ max (2 * min p.chunkSize count) 256 := by
  have h := C03_ans_alloc_bound p hv hcs (fresh p.order) bs count (fresh_inv p.order)
  have hs : (fresh p.order).f2s.size = 0 := rfl
  have hb : (fresh p.order).buf.size = 0 := rfl
  rw [hs, hb] at h
  constructor
  · have := h.1; omega
  · have := h.2; omega

/-- **summary for a decoder as the library builds it** (either constructor, any accepted
arguments, bitstream version other than 1) reading its first block: the `Read` ends, never faults, and
allocates at most `dim·32768 + max(2·min(chunkSize, count), 256)` bytes beyond what the constructor
allocated, `dim ∈ {1, 256}` — whatever the input bits are -/
theorem C03_ans_total (o c v : Option Nat) (p : Params) (h : mkParams o c v = some p) (hv : v.getD 6 ≠ 1)
    (bs : Bits) (count : Nat) :
    (read p (fresh p.order) bs count).cls ≠ .fuel ∧
    (read p (fresh p.order) bs count).cls ≠ .stop .fault ∧
    (read p (fresh p.order) bs count).f2sSz ≤ dimOf p.order * 2 ^ 15 ∧
    (read p (fresh p.order) bs count).bufSz ≤ max (2 * min p.chunkSize count) 256 ∧
    (dimOf p.order = 1 ∨ dimOf p.order = 256) := by
  obtain ⟨ho, hc1, _, hbv⟩ := C03_ans_params o c v p h
  have hv' : p.bsVersion ≠ 1 := by rw [hbv]; exact hv
  have hcs : 0 < p.chunkSize := by omega
  refine ⟨C03_ans_terminates p hcs _ bs count,
    (C03_ans_no_fault p hv' hcs _ bs count (fresh_inv p.order)).1,
    (C03_ans_alloc_bound_fresh p hv' hcs bs count).1, (C03_ans_alloc_bound_fresh p hv' hcs bs count).2, ?_⟩
  rcases ho with h0 | h1
  · left; rw [h0]; rfl
  · right; rw [h1]; rfl

/-- a `Read` that returns without error leaves an object satisfying the invariant again, whose slice
lengths are the reported ones: the three theorems above hold for every `Read` of a sequence, as long as the
earlier ones returned without error -/
theorem C03_ans_inv_kept (p : Params) (hv : p.bsVersion ≠ 1) (hcs : 0 < p.chunkSize) (s : St) (bs : Bits)
    (count n : Nat) (hinv : Inv p.order s.syms s.f2s) (h : (read p s bs count).cls = .ret n false) :
    Inv p.order (read p s bs count).st.syms (read p s bs count).st.f2s ∧
    (read p s bs count).st.f2s.size = (read p s bs count).f2sSz ∧
    (read p s bs count).st.buf.size = (read p s bs count).bufSz :=
  (read_good p hv hcs s bs count hinv).inv n h

/-- `this.buffer` holds bytes after a `Read` that returns without error (with `C03_ans_inv_kept`: the
hypotheses of the agreement theorems below are kept by every successful `Read`) -/
theorem C03_ans_buf_kept (p : Params) (s : St) (bs : Bits) (count n : Nat) (hb : Bytes s.buf)
    (h : (read p s bs count).cls = .ret n false) : Bytes (read p s bs count).st.buf :=
  read_buf p s bs count n hb h

/-! ## agreement with the proved inverse decoders on encoder output -/

/-- **C03_ans0_agrees.**  For every block of bytes, chunk size `0 < cs < 2^26`, log range
`8..15`, bitstream version other than 1: on the output of `ANSRangeEncoder.Write` (model
`ans0Encode`) followed by any bits `rest`,
the decoder of `Model/EntSmall.lean` that `C12_ans0_block` is about AND the total decoder model of
this file — started from ANY decoder object satisfying the invariant (new, or left by earlier
`Read`s: stale `f2s` / `symbols` / `buffer` contents are never observed) — return exactly the block
and leave exactly `rest`.  So the order-0 round-trip theorem holds for the model that follows the Go
code on arbitrary input; in particular no `eos` / `overrun` / error on encoder output. -/
theorem C03_ans0_agrees (blk : List Nat) (cs lr v : Nat) (hlr : 8 ≤ lr ∧ lr ≤ 15) (hcs : 0 < cs ∧ cs < 2 ^ 26)
    (hv : v ≠ 1) (hb : ∀ b ∈ blk, b < 256) :
    ∃ enc, ans0Encode blk cs lr = some enc ∧
      ∀ (rest : Bits) (s : St), Inv 0 s.syms s.f2s → Bytes s.buf →
        ans0Decode (enc ++ rest) blk.length cs = some (blk, rest) ∧
        (read ⟨0, cs, v⟩ s (enc ++ rest) blk.length).cls = .ret blk.length false ∧
        (read ⟨0, cs, v⟩ s (enc ++ rest) blk.length).out = blk ∧
        (read ⟨0, cs, v⟩ s (enc ++ rest) blk.length).rest = rest :=
  agrees0 blk cs lr v hlr hcs hv hb

/-- **C03_ans1_agrees.**  The same for the order-1 codec (`ans1Encode`, 256 contexts, four
interleaved walks): the proved decoder of `Model/Ans1.lean` (`C12_ans1_block`, from any previous
tables) and the total model (from any decoder object) both return the block and leave `rest`.  The
total model keeps the flat Go arrays, so contexts whose alphabet is empty in this chunk hold stale
entries, possibly of another log range: the proof shows that encoder output never walks into them. -/
theorem C03_ans1_agrees (blk : List Nat) (cs lr v : Nat) (hlr : 8 ≤ lr ∧ lr ≤ 15) (hcs : 0 < cs ∧ cs < 2 ^ 26)
    (hv : v ≠ 1) (hb : ∀ b ∈ blk, b < 256) :
    ∃ enc, Kanzi.Ans1.ans1Encode blk cs lr = some enc ∧
      ∀ (rest : Bits) (s : St), Inv 1 s.syms s.f2s → Bytes s.buf →
        (∀ prev : List (List Nat), prev.length = 256 →
          Kanzi.Ans1.ans1Decode (enc ++ rest) blk.length cs prev = some (blk, rest)) ∧
        (read ⟨1, cs, v⟩ s (enc ++ rest) blk.length).cls = .ret blk.length false ∧
        (read ⟨1, cs, v⟩ s (enc ++ rest) blk.length).out = blk ∧
        (read ⟨1, cs, v⟩ s (enc ++ rest) blk.length).rest = rest :=
  agrees1 blk cs lr v hlr hcs hv hb

/-- the decoder-to-decoder part holds on ANY input, not only encoder output: whenever the proved
order-0 header decoder accepts a header with a non-empty alphabet, `decodeHeader` of the total model
accepts it too, reads the same bits, and its flat `f2s` / `symbols` arrays hold exactly the slot table
`mkDecTable tbl lr` of the proved model -/
theorem C03_ans0_header_agrees (bs : Bits) (a tbl : List Nat) (lr : Nat) (r : Bits)
    (h : ansDecodeHeader bs = some ((a, tbl, lr), r)) (hne : a ≠ [])
    (f2s : Array Nat) (syms : Array DecSym) (hsy : 256 ≤ syms.size) (hb : Bytes f2s) :
    ∃ l r0 hd, readBits 3 bs = some (l, r0) ∧ lr = 8 + l ∧ hdrBody 1 lr f2s syms r0 = .ok hd ∧
      hd.res = a.length ∧ hd.a0 = a.headD 0 ∧ hd.rest = r ∧
      TabRel hd.f2s hd.syms 0 0 (decTblL lr 0 0 tbl) ∧ tbl.length = 256 ∧ tbl.sum = 2 ^ lr ∧
      2 ^ lr ≤ hd.f2s.size ∧ hd.syms.size = syms.size ∧ Bytes hd.f2s :=
  hdr0_agree bs a tbl lr r h hne f2s syms hsy hb

/-- and the main loop: on ANY four 32-bit states, ANY buffer contents and any consistent table, the
four-state loop of the total model (Go `int` arithmetic with wrap-around, bounds-checked flat arrays)
computes what `decRounds` of the proved model computes on the bytes of the real buffer -/
theorem C03_ans0_loop_agrees (lr : Nat) (f2s : Array Nat) (syms : Array DecSym) (buf : Array Nat)
    (T : List (Nat × DecSym)) (hrel : TabRel f2s syms 0 0 T) (hok : TabOk lr T) (hf : 2 ^ lr ≤ f2s.size)
    (hs : 256 ≤ syms.size) (hb : Bytes buf) (m x0 x1 x2 x3 n : Nat) (h0 : x0 < 2 ^ 32) (h1 : x1 < 2 ^ 32)
    (h2 : x2 < 2 ^ 32) (h3 : x3 < 2 ^ 32) (hn : n + 8 * m ≤ buf.size) :
    ∃ (y0 y1 y2 y3 n' : Nat),
      rounds0 lr f2s syms buf m ⟨x0, x1, x2, x3, n⟩
        = .ok ((decRounds T.toArray lr m ⟨x0, x1, x2, x3, buf.toList.drop n⟩).1, ⟨(y0 : Int), y1, y2, y3, n'⟩) ∧
      (decRounds T.toArray lr m ⟨x0, x1, x2, x3, buf.toList.drop n⟩).2 = ⟨y0, y1, y2, y3, buf.toList.drop n'⟩ ∧
      n ≤ n' ∧ n' ≤ n + 8 * m :=
  rounds0_agree lr f2s syms buf T hrel hok hf hs hb m x0 x1 x2 x3 n h0 h1 h2 h3 hn

/-! ## the oversize payload (the one place where the real decoder CAN panic on forged input) -/

/-- **C03_ans_overrun_iff.**  Exact condition for `decodeChunkV2` to end in the oversize `ReadArray`:
the VarInt payload size is accepted (`< 2^27`), the four 32-bit states are there, and the size exceeds
`len(this.buffer)` after the code's own `max(2·len(block), 256)` rule.  Decidable on the input. -/
theorem C03_ans_overrun_iff (p : Params) (lr len rem : Nat) (acc : List Nat) (h : Hdr) (buf : Array Nat)
    (bs0 : Bits) (fsz : Nat) (hinv : Inv p.order h.syms h.f2s) (hf : dimOf p.order * 2 ^ lr ≤ h.f2s.size) :
    (∃ r, stepV2 p.order lr len rem acc h buf bs0 fsz = .done r ∧ r.cls = .stop .overrun) ↔
    ∃ q, chunkPre h.rest = .ok q ∧ bufSizeAfter len buf.size < q.sz :=
  stepV2_overrun_iff p lr len rem acc h buf bs0 fsz hinv hf

/-! ## bitstream version 1 (`decodeChunkV1`; reachable: the version is read from the stream header)

No-fault does NOT hold for version 1 (`C03_ans_v1_fault_example` in `Properties/C03_ans_ex.lean`: an
index panic recovered by the task, an observation).  The buffer used to be sized from the stream's
VarInt alone (finding F47: 144 MiB per task from a 52-byte stream); since the repair (`sz > max(2·len, 256)`
is rejected before anything is read or allocated) it is bounded for every version. -/

/-- **C03_ans_alloc_bound_any.**  For EVERY bitstream version (1 included), input and decoder object:
`len(this.buffer)` after a `Read` of `count` bytes, however it ends, is at most
`max(before, m + m/8)` with `m = max(2·min(chunkSize, count), 256)` (version 1 pads its buffer by one
eighth; the other versions stay within `m`: `C03_ans_alloc_bound`) -/
theorem C03_ans_alloc_bound_any (p : Params) (s : St) (bs : Bits) (count : Nat) :
    (read p s bs count).bufSz ≤
      max s.buf.size (max (2 * min p.chunkSize count) 256 + max (2 * min p.chunkSize count) 256 / 8) :=
  read_sz p s bs count

/-- **C03_ans_v1_alloc_bound.**  The instance for bitstream version 1 (`decodeChunkV1`), the path the
finding was about -/
theorem C03_ans_v1_alloc_bound (p : Params) (_hv : p.bsVersion = 1) (s : St) (bs : Bits) (count : Nat) :
    (read p s bs count).bufSz ≤
      max s.buf.size (max (2 * min p.chunkSize count) 256 + max (2 * min p.chunkSize count) 256 / 8) :=
  read_sz p s bs count

/-- the renormalisation loops of `decodeChunkV1` (`for st < _ANS_TOP`, two bytes per iteration) are the
only data-driven loops of the decoder; they stop at the end of `this.buffer` at the latest:
`len(buffer)/2 + 1` iterations always suffice (more fuel never changes the model's result) -/
theorem C03_ans_v1_renorm_fuel (buf : Array Nat) (n : Nat) (st : Int) (k : Nat) :
    renormV1 buf (buf.size / 2 + 1 + k) n st = renormV1 buf (buf.size / 2 + 1) n st :=
  renormV1_fuel buf n st k

end Kanzi.C03
