/-
C07 — block hand-off protocol: exclusive, ordered, always terminating; failures reported.
Also the protocol parts of C04 (schedule independence of the written stream) and C05.
Property theorems only, each a thin wrapper around the invariants and the step lemmas of
`Kanzi/Proofs/Protocol.lean`.  Every theorem holds for every
number of tasks N and every reachable state, i.e. every interleaving of the atomic actions and
every placement of failures allowed by `encStep` / `decStep`.
-/
import Kanzi.Model.Protocol
import Kanzi.Proofs.Protocol

namespace Kanzi.C07
open Kanzi.Protocol

abbrev EncReach := Reach encStep encInit
abbrev DecReach := Reach decStep decInit

def holds (p : Pc) : Prop := p = .crit ∨ p = .io

/-- mutual exclusion on the shared output stream -/
theorem C07_enc_mutex (N : Nat) (s : St) (h : EncReach N s) (i j : Nat)
    (hi : holds (s.pc i)) (hj : holds (s.pc j)) : i = j :=
  (enc_inv h).mutex i j hi hj

/-- mutual exclusion on the shared input stream (token held from acquire to publish) -/
theorem C07_dec_mutex (N : Nat) (s : St) (h : DecReach N s) (i j : Nat)
    (hi : holds (s.pc i) ∨ s.pc i = .pub) (hj : holds (s.pc j) ∨ s.pc j = .pub) : i = j :=
  (dec_inv h).mutex i j hi hj

/-- blocks reach the shared stream in increasing id order, each exactly once: the log is 1,2,..,k -/
theorem C07_enc_ordered (N : Nat) (s : St) (h : EncReach N s) :
    s.log = List.range' 1 s.log.length ∧ s.log.length ≤ N :=
  ⟨(enc_inv h).sorted, (enc_inv h).bound⟩

theorem C07_dec_ordered (N : Nat) (s : St) (h : DecReach N s) :
    s.log = List.range' 1 s.log.length ∧ s.log.length ≤ N :=
  ⟨(dec_inv h).sorted, (dec_inv h).bound⟩

/-- no deadlock, no waiting forever: while some task is not done there is an enabled step that
strictly decreases the measure (a non-spin step); no step increases it; so every run has at
most `measure N init = 9·N` (enc) / `8·N` (dec) non-spin steps and, under weak fairness, ends. -/
theorem C07_enc_progress (N : Nat) (s : St) (h : EncReach N s) (hnd : ¬ allDone N s) :
    ∃ t, Step encStep N s t ∧ measure N t < measure N s :=
  Kanzi.Protocol.enc_progress N s h hnd

theorem C07_dec_progress (N : Nat) (s : St) (h : DecReach N s) (hnd : ¬ allDone N s) :
    ∃ t, Step decStep N s t ∧ measure N t < measure N s :=
  Kanzi.Protocol.dec_progress N s h hnd

theorem C07_enc_measure_mono (N : Nat) (s t : St) (h : Step encStep N s t) :
    measure N t ≤ measure N s :=
  let ⟨_, hN, he⟩ := h
  (step_frame (.inl he)).measure_le hN

theorem C07_dec_measure_mono (N : Nat) (s t : St) (h : Step decStep N s t) :
    measure N t ≤ measure N s :=
  let ⟨_, hN, he⟩ := h
  (step_frame (.inr he)).measure_le hN

theorem C07_enc_measure_init (N : Nat) : measure N encInit = 9 * N :=
  Kanzi.Protocol.enc_measure_init N

theorem C07_dec_measure_init (N : Nat) : measure N decInit = 8 * N :=
  Kanzi.Protocol.dec_measure_init N

/-- the cancel value is stable and nobody acquires the token after it is visible -/
theorem C07_enc_cancel_stable (N : Nat) (s t : St) (h : Step encStep N s t) (hc : s.ctr = none) :
    t.ctr = none ∧ (∀ i, holds (t.pc i) → holds (s.pc i)) ∧ t.log.length ≤ s.log.length + 1 :=
  let ⟨_, _, he⟩ := h
  have hfr := step_frame (.inl he)
  ⟨hfr.cancel hc, fun i => (hfr.acquire (hfr.cancel hc) i).1, hfr.log_le⟩

theorem C07_dec_cancel_stable (N : Nat) (s t : St) (h : Step decStep N s t) (hc : s.ctr = none) :
    t.ctr = none ∧ (∀ i, holds (t.pc i) → holds (s.pc i)) :=
  let ⟨_, _, he⟩ := h
  have hfr := step_frame (.inr he)
  ⟨hfr.cancel hc, fun i => (hfr.acquire (hfr.cancel hc) i).1⟩

/-- a failure while holding the token: no later block ever touches the shared stream -/
theorem C07_enc_crit_failure_blocks (N : Nat) (s : St) (h : EncReach N s) (i : Nat)
    (hf : s.critFail i = true) : s.log.length ≤ i ∧ ∀ j, i < j → ¬ holds (s.pc j) :=
  let ⟨h1, h2, _⟩ := (enc_inv h).cf i hf
  ⟨Nat.le_of_eq h1, fun j _ => h2 j⟩

theorem C07_dec_crit_failure_blocks (N : Nat) (s : St) (h : DecReach N s) (i : Nat)
    (hf : s.critFail i = true ∨ s.eos i = true) : s.log.length ≤ i ∧ ∀ j, i < j → ¬ holds (s.pc j) :=
  let ⟨h1, h2, _⟩ := (dec_inv h).cf i hf
  ⟨Nat.le_of_eq h1, fun j _ hj => h2 j (Or.inl hj)⟩

/-- failure reporting: in a terminal state the batch result is an error iff some task failed,
and it is the first failed task in id order -/
theorem C07_failure_reported (N : Nat) (f : Nat → Bool) :
    (firstFailed N f).isSome ↔ ∃ i, i < N ∧ f i = true :=
  Kanzi.Protocol.firstFailed_isSome N f

theorem C07_first_failure (N : Nat) (f : Nat → Bool) (i : Nat) (h : firstFailed N f = some i) :
    i < N ∧ f i = true ∧ ∀ j, j < i → f j = false :=
  Kanzi.Protocol.firstFailed_spec N f i h

/-- C04 (schedule independence): whatever the interleaving, a terminal state of the encode batch
without failure has written exactly blocks 1..N in order and leaves the counter at N -/
theorem C04_schedule_independent (N : Nat) (s : St) (h : EncReach N s) (hd : allDone N s)
    (hok : ∀ i, i < N → s.failed i = false) : s.log = List.range' 1 N ∧ s.ctr = some N :=
  Kanzi.Protocol.enc_terminal_ok N s h hd hok

/-- C05 (schedule independence): task i reads frame i+1 and nothing else: in a terminal state of
a decode batch with neither failure nor end-of-stream all N frames were read in order -/
theorem C05_schedule_independent (N : Nat) (s : St) (h : DecReach N s) (hd : allDone N s)
    (hok : ∀ i, i < N → s.failed i = false ∧ s.eos i = false) :
    s.log = List.range' 1 N ∧ s.ctr = some N :=
  Kanzi.Protocol.dec_terminal_ok N s h hd hok

/-- the trace runner used by the correspondence driver only follows `Step` -/
theorem C07_runTrace_sound (step : St → Ev → Option St) (init : St) (N : Nat) (s t : St) (es : List Ev)
    (hs : Reach step init N s) (h : runTrace step N s es = some t) : Reach step init N t :=
  Kanzi.Protocol.runTrace_sound step init N s t es hs h

end Kanzi.C07
