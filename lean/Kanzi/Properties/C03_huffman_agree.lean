/-
C03 / C12 (Huffman) — the TOTAL decoder model (`Kanzi/Model/HufDec.lean`: `HuffmanDecoder.Read` as the
Go code runs it on any input, ONE shared `this.buffer` with its real length and whatever earlier
chunks / earlier `Read`s left in it) agrees with the round-trip model of C12
(`Kanzi/Model/Huffman.lean`: private zero-padded region per sub-stream) on ENCODER OUTPUT: the round
trip `C12_huf_block` carries over to `HufDec.read`, for every decoder object the total model allows.
Property theorems only; proofs in `Kanzi/Proofs/HufDecAgree.lean`.

Hypotheses (all explicit):
  * bytes of the block are `< 256`;
  * the decoder parameters come from the constructors (`mkParams`) with `bsVersion ≥ 6`
    (`decodeV6`); the encoder uses the same chunk size (`p.chunkSize`, 1024..16384);
  * the decoder object: `this.buffer` holds bytes (`∀ b ∈ s.buf.toList, b < 256`) — ANY length
    (shorter than `2*chunkSize`: reallocated by `Read`; longer: kept), ANY content.  This is the only
    state the total model reads before writing; the property is preserved by every successful
    `Read` on encoder output (last conjunct), so it holds along any sequence of such `Read`s from
    `fresh`.

Why stale content is harmless: the register machine of sub-stream `j`, started at `idx = j*stride`
in the shared buffer, is the plain table walk on the bits of the buffer from `8*j*stride`
(`C03_huf_substream_walk`, any content), these bits BEGIN with the sub-stream the encoder wrote
(the four `ReadArray` do not overlap because every sub-stream fits its region, the four `clear`
only touch bytes behind a payload), and a prefix-free walk over `count/4` codes never looks at what
follows them.
-/
import Kanzi.Model.HufDec
import Kanzi.Proofs.HufDecAgree
import Kanzi.Properties.C12_huffman

namespace Kanzi.C03
open Kanzi.Bits Kanzi.EntSmall Kanzi.HufDec

/-- **C03_huf_substream_walk** (decoder to decoder, ANY buffer content).  For every table whose
entries carry a length in 1..12 and every buffer of bytes, the register machine of `decodeChunkV6`
for the sub-stream that starts at byte `off` of the SHARED buffer (`readState` at absolute indices,
the `uint8` counters) decodes exactly what the plain walk `specDec` decodes from the bits of the
buffer from bit `8*off` on — payload, cleared bytes, the next region, stale bytes alike.
(`C12_huf_decoder_machine` is the case `off = 0` on a private region.) -/
theorem C03_huf_substream_walk (tbl : List Nat)
    (ht : ∀ w, w < 4096 → 1 ≤ tbl.getD w 0 % 256 ∧ tbl.getD w 0 % 256 ≤ 12)
    (buf : Array Nat) (hb : ∀ b ∈ buf.toList, b < 256) (off n : Nat) :
    Kanzi.Huffman.decFragLoop tbl.toArray buf n n ⟨0, off, 0⟩
      = Kanzi.Huffman.specDec tbl n ((ofBytes buf.toList).drop (8 * off)) :=
  Kanzi.Huffman.decFragLoop_spec tbl ht buf hb n n ⟨0, off, 0⟩ (8 * off) (by omega)
    ⟨rfl, Nat.zero_le _, by simp [Kanzi.Huffman.peekAt_zero]⟩

/-- **C03_huf_chunk_agrees** (one round of the chunk loop of `decodeV6`, total model).  For every
chunk `c` of 1..`chunkSize` bytes the encoder succeeds (`encodeOneChunk`, the same bits as in
`C12_huf_chunk`), and the total model, at ANY position `start` of a block of `total` bytes with
`min(chunkSize, total - start) = c.length`, with ANY buffer of bytes of at least `2*chunkSize` bytes
(any content) and any output array: goes on to the next chunk (`.next`: no error, no end of input,
no overrun, no fault), has consumed exactly the chunk, has written `c` at `out[start ..]` and nothing
else, and leaves a buffer of bytes of the same length. -/
theorem C03_huf_chunk_agrees (p : Params) (hcs : 1024 ≤ p.chunkSize ∧ p.chunkSize ≤ 16384)
    (c : List Nat) (hb : ∀ b ∈ c, b < 256) (hlen : 1 ≤ c.length ∧ c.length ≤ p.chunkSize) :
    ∃ e br, Kanzi.Huffman.encodeOneChunk c = some (e, br) ∧
      ∀ (rest : Bits) (start total : Nat) (out buf : Array Nat),
        min p.chunkSize (total - start) = c.length → (∀ b ∈ buf.toList, b < 256) → 2 * p.chunkSize ≤ buf.size →
        ∃ out' buf', stepV6 p start total out buf (e ++ rest) = .next (start + c.length) out' buf' rest ∧
          (∀ b ∈ buf'.toList, b < 256) ∧ buf'.size = buf.size ∧ out'.size = out.size ∧
          ∀ x, out'.getD x 0
            = if start ≤ x ∧ x < start + c.length ∧ x < out.size then c.getD (x - start) 0 else out.getD x 0 := by
  obtain ⟨e, br, he, hd⟩ := stepV6_enc p hcs c hb hlen
  refine ⟨e, br, he, fun rest start total out buf hmin hB hsz => ?_⟩
  obtain ⟨o, b, h1, h2, h3, h4, h5⟩ := hd rest start total out buf hmin (Bytes_of_mem buf hB) hsz
  exact ⟨o, b, h1, h2.mem_toList, h3, h4, h5⟩

/-- **C03_huf_agrees** (the round trip of C12 for the total decoder model).  For EVERY block of bytes
(hypotheses of `C12_huf_block`), decoder parameters the constructors yield with `bsVersion ≥ 6`, and
ANY decoder object whose `this.buffer` holds bytes (any length, any content: fresh, left by
earlier `Read`s of valid or of forged streams): `Write` with the same chunk size succeeds, and
`Read` of `blk.length` bytes on the written bits followed by ANY continuation `rest`
returns `(blk.length, nil)`, the bytes of the block, and leaves exactly `rest` in the bitstream;
the buffer it leaves holds bytes again. -/
theorem C03_huf_agrees (ca cv : Option Nat) (p : Params) (hp : mkParams ca cv = some p) (hv : 6 ≤ p.bsVersion)
    (s : St) (hs : ∀ b ∈ s.buf.toList, b < 256) (blk : List Nat) (hb : ∀ b ∈ blk, b < 256) :
    ∃ e, Kanzi.Huffman.encode blk p.chunkSize = some e ∧
      ∀ rest : Bits,
        (read p s (e ++ rest) blk.length).cls = .ret blk.length false ∧
        (read p s (e ++ rest) blk.length).out = blk ∧
        (read p s (e ++ rest) blk.length).rest = rest ∧
        (∀ b ∈ (read p s (e ++ rest) blk.length).st.buf.toList, b < 256) := by
  obtain ⟨h1, h2, _⟩ := mkParams_facts ca cv p hp
  obtain ⟨e, he, hd⟩ := read_enc p ⟨h1, h2⟩ (by omega) s (Bytes_of_mem _ hs) blk hb
  refine ⟨e, he, fun rest => ?_⟩
  obtain ⟨st', hr, hB⟩ := hd rest
  rw [hr]
  exact ⟨rfl, rfl, rfl, hB.mem_toList⟩

/-- **C03_huf_agrees_decode.**  On encoder output the two decoder models return the same thing: the
total model (`HufDec.read`, shared buffer, any state) and the round-trip model of C12
(`Huffman.decode`, private regions, any `junk`). -/
theorem C03_huf_agrees_decode (ca cv : Option Nat) (p : Params) (hp : mkParams ca cv = some p) (hv : 6 ≤ p.bsVersion)
    (s : St) (hs : ∀ b ∈ s.buf.toList, b < 256) (blk : List Nat) (hb : ∀ b ∈ blk, b < 256)
    (junk : List Nat) (hj : ∀ b ∈ junk, b < 256) (e : Bits) (he : Kanzi.Huffman.encode blk p.chunkSize = some e)
    (rest : Bits) :
    (read p s (e ++ rest) blk.length).cls = .ret blk.length false ∧
    Kanzi.Huffman.decode (e ++ rest) blk.length p.chunkSize junk
      = some ((read p s (e ++ rest) blk.length).out, (read p s (e ++ rest) blk.length).rest) := by
  obtain ⟨h1, h2, _⟩ := mkParams_facts ca cv p hp
  obtain ⟨e1, he1, hd1⟩ := C03_huf_agrees ca cv p hp hv s hs blk hb
  obtain ⟨e2, he2, hd2⟩ := Kanzi.C12.C12_huf_block blk hb p.chunkSize
    (by simp only [Kanzi.Huffman.ctorOk, Bool.and_eq_true, decide_eq_true_eq]; exact ⟨h1, h2⟩) junk hj
  rw [he] at he1 he2
  simp only [Option.some.injEq] at he1 he2
  subst he1
  subst he2
  obtain ⟨r1, r2, r3, _⟩ := hd1 rest
  rw [r2, r3]
  exact ⟨r1, hd2 rest⟩

/-- two `Read`s on the same decoder object (the second one finds what the first one left in the
buffer): both blocks come back -/
theorem C03_huf_agrees_twice (ca cv : Option Nat) (p : Params) (hp : mkParams ca cv = some p) (hv : 6 ≤ p.bsVersion)
    (s : St) (hs : ∀ b ∈ s.buf.toList, b < 256) (b1 b2 : List Nat) (hb1 : ∀ b ∈ b1, b < 256) (hb2 : ∀ b ∈ b2, b < 256) :
    ∃ e1 e2, Kanzi.Huffman.encode b1 p.chunkSize = some e1 ∧ Kanzi.Huffman.encode b2 p.chunkSize = some e2 ∧
      ∀ rest : Bits,
        (read p s (e1 ++ (e2 ++ rest)) b1.length).out = b1 ∧
        (read p (read p s (e1 ++ (e2 ++ rest)) b1.length).st (read p s (e1 ++ (e2 ++ rest)) b1.length).rest b2.length).cls
          = .ret b2.length false ∧
        (read p (read p s (e1 ++ (e2 ++ rest)) b1.length).st (read p s (e1 ++ (e2 ++ rest)) b1.length).rest b2.length).out = b2 ∧
        (read p (read p s (e1 ++ (e2 ++ rest)) b1.length).st (read p s (e1 ++ (e2 ++ rest)) b1.length).rest b2.length).rest = rest := by
  obtain ⟨e1, he1, hd1⟩ := C03_huf_agrees ca cv p hp hv s hs b1 hb1
  obtain ⟨e2, he2, _⟩ := C03_huf_agrees ca cv p hp hv s hs b2 hb2
  refine ⟨e1, e2, he1, he2, fun rest => ?_⟩
  obtain ⟨_, r2, r3, r4⟩ := hd1 (e2 ++ rest)
  obtain ⟨e2', he2', hd2⟩ := C03_huf_agrees ca cv p hp hv _ r4 b2 hb2
  rw [he2] at he2'
  simp only [Option.some.injEq] at he2'
  subst he2'
  rw [r3]
  obtain ⟨q1, q2, q3, _⟩ := hd2 rest
  exact ⟨r2, q1, q2, q3⟩

/-- the hypotheses are satisfiable: the default constructor, a new decoder -/
example : mkParams none none = some ⟨16384, 6⟩ ∧ (∀ b ∈ fresh.buf.toList, b < 256) :=
  ⟨rfl, fun _ h => by cases h⟩

end Kanzi.C03

