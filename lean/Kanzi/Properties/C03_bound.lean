/-
C03 (work bound) — the decoder never allocates for, nor reads, a frame longer than what an encoder
can produce for the stream's block size (the fix for finding F25), in the model of the per-task frame
parser that is compared with the real Reader by the `image` stream (`imgx` ops).
-/
import Kanzi.Model.Block

namespace Kanzi.C03
open Kanzi.Bits Kanzi.Block

/-- C03_frame_bound: whatever the bits, a frame accepted by the task has a payload of at most
`maxFrameBits B` bits (a function of the block size only) and that payload was actually present in
the input: nothing is allocated or consumed beyond `5 + 34 + maxFrameBits B` bits per task. -/
theorem C03_frame_bound (B : Nat) (bs p rest : Bits) (h : parseFrame B bs = Container.Parsed.frame p rest) :
    p.length ≤ maxFrameBits B ∧ p.length ≤ 2 ^ 34 ∧ p.length + rest.length + 5 ≤ bs.length := by
  rw [parseFrame] at h
  dsimp only at h
  by_cases h1 : bs.length < 5
  · rw [if_pos h1] at h; cases h
  rw [if_neg h1] at h
  generalize bitsNat (bs.take 5) + 3 = lw at h
  by_cases h2 : (bs.drop 5).length < lw
  · rw [if_pos h2] at h; cases h
  rw [if_neg h2] at h
  generalize bitsNat ((bs.drop 5).take lw) = len at h
  by_cases h3 : len = 0
  · rw [if_pos h3] at h; cases h
  rw [if_neg h3] at h
  by_cases h4 : len > 2 ^ 34 ∨ len > maxFrameBits B
  · rw [if_pos h4] at h; cases h
  rw [if_neg h4] at h
  by_cases h5 : ((bs.drop 5).drop lw).length < len
  · rw [if_pos h5] at h; cases h
  rw [if_neg h5] at h
  injection h with hp hr
  subst hp hr
  simp only [List.length_take, List.length_drop] at h2 h5 ⊢
  omega

/-- `maxFrameBits B` is by definition `9/8 · m + 64` bytes with `m = max(maxTransformLength B, 256 KiB)` and
`maxTransformLength B = min(max(1.5·(B + max(512, B/16)), 2048), 2^30)`: linear in the block size up to the
cap.  The theorem is the cap: never more than `9/8 · 2^30 + 64` bytes, whatever `B` -/
theorem C03_frame_bound_linear (B : Nat) : maxFrameBits B ≤ (2 ^ 30 + 2 ^ 30 / 8 + 64) * 8 := by
  unfold maxFrameBits maxTransformLength
  simp only []
  omega

end Kanzi.C03
