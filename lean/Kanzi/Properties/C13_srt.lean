/-
C13 for the sorted rank transform `transform.SRT` (v2/transform/SRT.go) — property theorems only.
Model: `Kanzi/Model/SRT.lean` (tied to /repo by the `srt` correspondence stream); proofs:
`Kanzi/Proofs/SRTHeader.lean` (varint header), `SRTSort.lean` (Shell sort of `preprocess`),
`SRTList.lean` / `SRTFwd.lean` / `SRTInv.lean` (rank transform and its inverse), `SRT.lean`.

Conventions: a block is a `List Nat` of byte values (hypothesis `∀ x ∈ b, x < 256`); the last
argument of `srtForward` / `srtInverse` is `len(dst)` of the Go call; `.ok t` is `dst[0:written]` with
a nil error, `.err` a non-nil error, `.fault` a Go panic (slice index out of range).
`srtForwardFill fill` is Forward on a destination whose bytes all hold `fill` before the call
(`srtForward = srtForwardFill 0`): the theorems hold for every `fill`, i.e. no byte of the output is
left unwritten.  "The input is left unmodified when Forward declines" is not a theorem here (values
are immutable); it is an oracle of the `srt` stream on the real code.

The one hypothesis beyond "bytes": NO SYMBOL OCCURS 2^31 TIMES OR MORE (`∀ c, b.count c < 2^31`,
implied by `b.length < 2^31`; the compressor hands over at most 2^30 bytes).  This is the domain of
the Go code itself: `freqs` is `[256]int32`, and the decoder keeps three bits of the fifth varint
byte (`C13_srt_header_sharp`).

History of the Go code (finding F32, repaired in /repo by ee98bca): `decodeHeader` used to read at most
four varint bytes although `encodeHeader` writes five for a frequency ≥ 2^28, so blocks of 256 MiB ..
1 GiB with such a symbol did not round-trip, and `_SRT_MAX_HEADER_SIZE` was 4*256 although a header
can take 1025 bytes and more (Forward then indexed past a destination of exactly `MaxEncodedLen`
bytes).  The theorems below are about the repaired code: fifth byte read, `MaxEncodedLen = len + 1280`.
-/
import Kanzi.Model.SRT
import Kanzi.Proofs.SRT

namespace Kanzi.C13
open Kanzi.SRT

/-- C13_srt_header: `decodeHeader` inverts `encodeHeader` on every table of 256 frequencies below
2^31 (every non-negative int32; whatever follows the header), and the header takes between 256 and
1280 = `_SRT_MAX_HEADER_SIZE` bytes. -/
theorem C13_srt_header (freqs rest : List Nat) (hlen : freqs.length = 256)
    (hf : ∀ f ∈ freqs, f < 2 ^ 31) :
    decodeHeader (encodeHeader freqs ++ rest) = some (freqs, rest) ∧
      256 ≤ (encodeHeader freqs).length ∧ (encodeHeader freqs).length ≤ 1280 := by
  have h := encodeHeader_length freqs hf
  rw [hlen] at h
  exact ⟨decodeHeader_encodeHeader freqs hlen hf rest, h.1, h.2⟩

/-- the bound 2^31 is exact: the encoder writes bit 31 into the fifth byte (it emits up to five
bytes for values below 2^35) but the decoder keeps only `val & 0x07` of it, so 2^31 is not read back.
(A Go `int32` frequency cannot reach 2^31.) -/
theorem C13_srt_header_sharp : decVar (encVar (2 ^ 31)) ≠ some (2 ^ 31, []) :=
  decVar_encVar_sharp

/-- four bytes per frequency suffice below 2^28; in general one extra byte per 2^28 occurrences:
the header of a table whose entries add up to `n` takes at most `1024 + n / 2^28` bytes. -/
theorem C13_srt_header_bound (freqs : List Nat) (hlen : freqs.length = 256)
    (hf : ∀ f ∈ freqs, f < 2 ^ 31) :
    (encodeHeader freqs).length ≤ 1024 + freqs.sum / 2 ^ 28 := by
  have h := encodeHeader_length_sum freqs hf
  rw [hlen] at h
  exact h

/-- C13_srt: into any destination of at least `MaxEncodedLen(len) = len + 1280` bytes (with any
previous contents) Forward NEVER declines and never faults; its output fits in `MaxEncodedLen`; and
Inverse of that output into any destination of at least the original length returns the block. -/
theorem C13_srt (fill : Nat) (b : List Nat) (dstLen : Nat) (hb : ∀ x ∈ b, x < 256)
    (hfreq : ∀ c, b.count c < 2 ^ 31) (hdst : maxEncodedLen b.length ≤ dstLen) :
    ∃ t, srtForwardFill fill b dstLen = .ok t ∧ t.length ≤ maxEncodedLen b.length ∧
      ∀ n, b.length ≤ n → srtInverse t n = .ok b :=
  srt_roundtrip fill b dstLen hb hfreq hdst

/-- the same with the hypothesis on the block length -/
theorem C13_srt_len (b : List Nat) (dstLen : Nat) (hb : ∀ x ∈ b, x < 256)
    (hlen : b.length < 2 ^ 31) (hdst : maxEncodedLen b.length ≤ dstLen) :
    ∃ t, srtForward b dstLen = .ok t ∧ t.length ≤ maxEncodedLen b.length ∧
      ∀ n, b.length ≤ n → srtInverse t n = .ok b :=
  srt_roundtrip 0 b dstLen hb (count_lt_of_length_lt b _ hlen) hdst

/-- sharper size bound than `MaxEncodedLen`: the output takes at most `len + 1024 + len / 2^28`
bytes, i.e. `len + 1024` below 256 MiB and at most `len + 1028` up to the pipeline limit 2^30. -/
theorem C13_srt_size_sharp (fill : Nat) (b t : List Nat) (dstLen : Nat) (hb : ∀ x ∈ b, x < 256)
    (hfreq : ∀ c, b.count c < 2 ^ 31) (hdst : maxEncodedLen b.length ≤ dstLen)
    (h : srtForwardFill fill b dstLen = .ok t) :
    t.length ≤ b.length + 1024 + b.length / 2 ^ 28 ∧
      (b.length ≤ 2 ^ 30 → t.length ≤ b.length + 1028) := by
  have h1 := srtForward_length_sharp fill b t dstLen hb hfreq hdst h
  refine ⟨h1, fun hl => ?_⟩
  omega

/-- C13_srt_total_forward: on a block of bytes in the domain (`hfreq`) no destination size makes Forward
fault (too small: error). -/
theorem C13_srt_total_forward (fill : Nat) (b : List Nat) (dstLen : Nat) (hb : ∀ x ∈ b, x < 256)
    (hfreq : ∀ c, b.count c < 2 ^ 31) : srtForwardFill fill b dstLen ≠ .fault :=
  srtForward_no_fault fill b dstLen hb hfreq

/-- C13_srt_total (Inverse) does NOT hold for arbitrary input — FINDING.  What holds: Inverse never
faults when the header parses and the frequencies it announces fit in the data that follows
(`total fr S` = the sum of the frequencies of the announced symbols).  This is the check missing in
the Go code (it only tests `bucketPos > len(src)` before adding the frequency). -/
theorem C13_srt_total_inverse_partial (src fs data : List Nat) (n : Nat)
    (hd : decodeHeader src = some (fs, data))
    (hsum : total fs.toArray (preprocess fs.toArray) ≤ data.length) :
    srtInverse src n ≠ .fault :=
  srtInverse_no_fault src fs data n hd hsum

/-- FINDING (1): every non-empty input shorter than 256 bytes makes Inverse panic
(`decodeHeader` indexes `src` without a length check). -/
theorem C13_srt_inverse_faults_short (src : List Nat) (n : Nat) (h0 : src ≠ []) (hn : n ≠ 0)
    (h : src.length < 256) : srtInverse src n = .fault :=
  srtInverse_short_fault src n h0 hn h

/-- FINDING (2): header "symbols 0 and 1 occur once", one data byte: `src[bucketPos]` with
`bucketPos == len(src)` (the guard is `>`), panic in the bucket loop. -/
theorem C13_srt_inverse_faults_sum : srtInverse ([1, 1] ++ List.replicate 255 0) 16 = .fault := by
  simp only [srtInverse, preprocess, ppCollect_toArray]
  decide +kernel

/-- FINDING (3): header "symbol 0 occurs 5 times", one data byte: `src[buckets[c]]` out of range in
the decoding loop. -/
theorem C13_srt_inverse_faults_freq : srtInverse ([5] ++ List.replicate 256 0) 16 = .fault := by
  simp only [srtInverse, preprocess, ppCollect_toArray]
  decide +kernel

/-- C13_srt_bytes: the output of Forward consists of bytes (for every input list, whenever the
destination held bytes). -/
theorem C13_srt_bytes (fill : Nat) (b t : List Nat) (dstLen : Nat) (hfill : fill < 256)
    (h : srtForwardFill fill b dstLen = .ok t) : ∀ y ∈ t, y < 256 :=
  srtForward_bytes fill b t dstLen hfill h

/-- what Inverse relies on from `preprocess`: it is a permutation of the symbols with a non-zero
frequency (so both directions, which run it on the same table, lay the buckets out identically) … -/
theorem C13_srt_preprocess_perm (freqs : Array Nat) :
    (preprocess freqs).Perm ((List.range 256).filter (fun i => rd freqs i != 0)) :=
  preprocess_perm freqs

/-- … and, as the name of the transform says, sorted by decreasing frequency, ties by increasing
symbol (the Shell sort with gaps …, 40, 13, 4, 1 is a correct sort). -/
theorem C13_srt_preprocess_sorted (freqs : Array Nat) :
    (preprocess freqs).Pairwise
      (fun a b => rd freqs b < rd freqs a ∨ (rd freqs a = rd freqs b ∧ a < b)) :=
  preprocess_sorted freqs

/-- the hypotheses of `C13_srt` are satisfiable -/
example : ∃ t, srtForward [3, 3, 1, 3] 1284 = .ok t ∧ t.length ≤ maxEncodedLen 4 ∧
    ∀ n, 4 ≤ n → srtInverse t n = .ok [3, 3, 1, 3] :=
  C13_srt_len [3, 3, 1, 3] 1284 (by decide) (by decide) (by decide)

end Kanzi.C13
