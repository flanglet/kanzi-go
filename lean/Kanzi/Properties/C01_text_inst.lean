/-
The instantiation of `TextLaw` (`C01_blockgen3`) with the TEXT model of `Kanzi/Model/Text.lean`, and the CLI levels
3, 4, 5 with that model in place of the abstract `text`.
-/
import Kanzi.Properties.C01_blockgen3
import Kanzi.Properties.C13_text

namespace Kanzi.C01gen
open Kanzi.BlockGen3 Kanzi.Text Kanzi.C13

/-- `transform.newToken` for TEXT: codec 1 or 2 (`tc2` = ctx `textcodec` is 2), hash table of `hsz` entries -/
def textImpl (tc2 : Bool) (hsz : Nat) : TextImpl :=
  ⟨textForward tc2 hsz, textCtxWrite tc2, textInverse tc2 false hsz, textMaxEncodedLen⟩

theorem textLaw_text (tc2 : Bool) (hsz lh : Nat) (hh : hsz = 2 ^ lh) (h6 : 6 ≤ lh) (h32 : lh ≤ 32) :
    TextLaw (textImpl tc2 hsz) :=
  ⟨C13_text_maxlen, C13_text_inverse_nil tc2 false hsz,
   fun dt b y d hb _ hd h =>
     ⟨by cases tc2
         · exact (C13_text1 hsz lh dt hh h6 h32 b y d hb hd h).1
         · exact (C13_text2 hsz lh dt hh h6 h32 b y d hb hd h).1,
      C13_text_bytes tc2 hsz lh dt hh h6 h32 b y d hb hd h,
      fun n hn h39 => by
        cases tc2
        · exact (C13_text1 hsz lh dt hh h6 h32 b y d hb hd h).2 n (Nat.le_of_lt hn) h39 (fun _ => hn)
        · exact (C13_text2 hsz lh dt hh h6 h32 b y d hb hd h).2 n (Nat.le_of_lt hn) h39⟩,
   C13_text_small_dst tc2 hsz,
   fun dt b d e _ _ => C13_text_no_fault tc2 hsz dt (by rw [hh]; exact Nat.two_pow_pos lh) b d e⟩

/-- **C01_level4_closed**: level 4 of the CLI (TEXT+UTF+EXE+PACK+MM+ROLZ / NONE) with the real TEXT model (codec 1 or 2 as
the factory picks: here codec 2, any hash size 2^lh with 6 ≤ lh ≤ 32 — Go uses 13..27): NO residual hypothesis. -/
theorem C01_level4_closed (lh : Nat) (h6 : 6 ≤ lh) (h32 : lh ≤ 32) (ck : Nat) (sb : Bool) (B obuf : Nat) (b : List Nat)
    (hbytes : ∀ x ∈ b, x < 256) (h0 : 0 < b.length) (hB : b.length ≤ B) (hmax : B ≤ 2 ^ 30) :
    ∃ p, BlockGen2.encodeTaskGen2 ⟨ck, kind3Trs (textImpl true (2 ^ lh))
        [.text, .utf, .exe, .old (BlockGen2.Kind.alias false), .old .fsd, .rolz], BlockGen.noneEnt, sb, some B⟩ obuf b = .ok p ∧
      BlockGen2.decodeTaskGen2 ⟨ck, kind3Trs (textImpl true (2 ^ lh))
        [.text, .utf, .exe, .old (BlockGen2.Kind.alias false), .old .fsd, .rolz], BlockGen.noneEnt, sb, some B⟩ B p =
          ⟨b.length, .ok b⟩ :=
  C01_level4 (textImpl true (2 ^ lh)) (textLaw_text true (2 ^ lh) lh rfl h6 h32) ck sb B obuf b hbytes h0 hB hmax

/-- **C01_level3_closed**: level 3 (TEXT+UTF+PACK+MM+LZX / HUFFMAN) with the real TEXT model: the only residual condition is
the Reader's frame bound on the payload (2^34 bits), which no size bound on the Huffman output is proved for. -/
theorem C01_level3_closed (tc2 : Bool) (lh : Nat) (h6 : 6 ≤ lh) (h32 : lh ≤ 32) (ck : Nat) (sb : Bool) (B obuf : Nat) (b : List Nat)
    (hbytes : ∀ x ∈ b, x < 256) (h0 : 0 < b.length) (hB : b.length ≤ B) (hmax : B ≤ 2 ^ 30) :
    ∃ p, BlockGen2.encodeTaskGen2 ⟨ck, kind3Trs (textImpl tc2 (2 ^ lh))
        [.text, .utf, .old (BlockGen2.Kind.alias false), .old .fsd, .old (.lz true)], BlockGen2.hufEnt, sb, some B⟩ obuf b = .ok p ∧
      (p.length ≤ 2 ^ 34 →
        BlockGen2.decodeTaskGen2 ⟨ck, kind3Trs (textImpl tc2 (2 ^ lh))
          [.text, .utf, .old (BlockGen2.Kind.alias false), .old .fsd, .old (.lz true)], BlockGen2.hufEnt, sb, some B⟩ B p =
            ⟨b.length, .ok b⟩) :=
  C01_level3 (textImpl tc2 (2 ^ lh)) (textLaw_text tc2 (2 ^ lh) lh rfl h6 h32) ck sb B obuf b hbytes h0 hB hmax

/-- **C01_level5_closed**: level 5 (TEXT+UTF+BWT+RANK+ZRLT / ANS0) with the real TEXT model, for every BWT job count; the
residual condition is the frame bound on the payload (2^34 bits), as for level 3, and the forward BWT is its
specification (tied to the real suffix sort by the bwt stream, not proved). -/
theorem C01_level5_closed (tc2 : Bool) (lh : Nat) (h6 : 6 ≤ lh) (h32 : lh ≤ 32) (jobs : Nat) (hj : 1 ≤ jobs) (ck : Nat) (sb : Bool)
    (B obuf : Nat) (b : List Nat)
    (hbytes : ∀ x ∈ b, x < 256) (h0 : 0 < b.length) (hB : b.length ≤ B) (hmax : B ≤ 2 ^ 30) :
    ∃ p, BlockGen2.encodeTaskGen2 ⟨ck, kind3Trs (textImpl tc2 (2 ^ lh))
        [.text, .utf, .bwt jobs, .old (.sbrt 2), .old .zrlt], BlockGen.ans0Ent, sb, some B⟩ obuf b = .ok p ∧
      (p.length ≤ 2 ^ 34 →
        BlockGen2.decodeTaskGen2 ⟨ck, kind3Trs (textImpl tc2 (2 ^ lh))
          [.text, .utf, .bwt jobs, .old (.sbrt 2), .old .zrlt], BlockGen.ans0Ent, sb, some B⟩ B p = ⟨b.length, .ok b⟩) :=
  C01_level5 (textImpl tc2 (2 ^ lh)) (textLaw_text tc2 (2 ^ lh) lh rfl h6 h32) jobs hj ck sb B obuf b hbytes h0 hB hmax

end Kanzi.C01gen
