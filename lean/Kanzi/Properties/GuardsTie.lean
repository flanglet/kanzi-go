/-
GuardsTie — the guards of the destination stores of the parallel inverse BWT, tied to the syntax tree of
/repo/v2/transform/BWT.go on every run (`Kanzi/Generated/Guards.lean`, regenerated by `kv facts -which Guards`).

`C13_bwt_tasks_disjoint` proves, over the model of `inverseBiPSIv2` / `inverseBiPSIv2Task`, that the worker
goroutines of one inverse BWT write disjoint ranges of the destination (C18: no unsynchronised write-write
inside one instance).  The model stores the SECOND symbol of a decoded pair only when it still belongs to the
chunk (`i < end`), or when the chunk is the last one (`end = total - 1`): finding F46 was exactly a missing
guard there.  Weakening that guard changes no output byte (the neighbouring worker stores the same value), so
no behavioural correspondence can see it and the race detector sees it only by luck (seed C18-d): the guard is
tied syntactically.  Every guarded store into `dst*` of the `BWT.inverse*` functions, in source order:
the eight-lane loop stores the second symbol under `i < end`, the per-chunk loop under
`i < end || end == total-1`.
-/
import Kanzi.Generated.Guards

namespace Kanzi.GuardsTie
open Kanzi.Generated.Guards

/-- the second store of every pair is guarded as in the model (`Model.BWT`, the write sets of `C13_bwt_tasks_disjoint`) -/
theorem bwt_pair_guards :
    bwtInverse.map (fun g => (g.2.1, g.2.2)) =
      [("i<end", "dst0[i]"), ("i<end", "dst1[i]"), ("i<end", "dst2[i]"), ("i<end", "dst3[i]"),
       ("i<end", "dst4[i]"), ("i<end", "dst5[i]"), ("i<end", "dst6[i]"), ("i<end", "dst7[i]"),
       ("i<end||end==total-1", "dst[i]")] ∧
    bwtInverse.all (fun g => g.1 == "BWT.inverseBiPSIv2Task") = true := by
  decide +kernel

end Kanzi.GuardsTie
