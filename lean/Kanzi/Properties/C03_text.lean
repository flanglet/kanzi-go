/-
C03 ("the decoder is total: arbitrary input never crashes or hangs the process; allocation / time bounded by the
declared block sizes") for the INVERSE side of the dictionary text transform `transform.TextCodec`
(v2/transform/TextCodec.go: `TextCodec.Inverse`, `textCodec1.Inverse`, `textCodec2.Inverse` (current and old
token format), `reset`, `expandDictionary`, the hash map and the static dictionary) on ARBITRARY (forged) input.
Property theorems only; proofs in `Kanzi/Proofs/TextDec.lean` and `Kanzi/Proofs/TextDecReuse.lean`, on top of the
dictionary invariants of `Kanzi/Proofs/TextDict.lean`.

The model is the one of the round-trip theorems of C13 (`Kanzi/Model/Text.lean`: `textInverse tc2 old hsz src n` is
`TextCodec.Inverse(src, dst)` with `len(dst) = n` on a codec object that has not been used before; `tc2` = codec
2, `old` = `bsVersion < 6`, `hsz = 1 << logHashSize`), extended by `Kanzi/Model/TextDec.lean` with the object
state a call leaves behind (`codecCall ... none src n`: result and dictionary).  Both are tied to /repo by the
streams `text` (op `ti`) and `textdec` (forged input, `dictSize` / `len(dictList)` read by reflection, two calls
on one object).

Outcomes: `.ok o` = nil error and `dst[0:written] = o`; `.err c` = non-nil Go error of class `c` (`small`, `big`:
the wrapper; `index` = "Invalid index", `data` = "Invalid input data", `srcidx` = "Source index: .., expected");
`.fault k` = a Go run-time panic: `src-index` = `src[srcIdx]` beyond the end of the source, `dict-index` =
`dictList[-1]`; `fuel` = the model's loop fuel exhausted (a hang), `nil-ptr` = slicing a nil `ptr`.

What is proved, for EVERY source, destination size, mode byte and hash table size:
  * termination: the loop ends within `len(src)` iterations (`fuel` is unreachable; every iteration advances
    `srcIdx`), `C03_text_iterations`;
  * no write beyond `dst`: a success returns at most `len(dst)` bytes and every state of the loop has
    `dstIdx <= len(dst)` (`out_le` of the invariant `Kanzi.Text.TInv`; every Go write is `dst[dstIdx] = ..; dstIdx++`);
  * the only run-time panics are: codec 1 and old codec 2: `src-index`; current codec 2: `src-index` or
    `dict-index`.  Tasks of the decompressor recover panics, so these are observations, not findings; for
    codec 1 the condition is exact (`C03_text1_panic_iff`);
  * allocation: the dictionary a call on a fresh object leaves behind has `len(dictList) = dictSize <= 2^19`
    entries and `dictSize` is the value chosen by `reset` from `len(dst)` (at most 2^18) or at most
    `2 staticDictSize + (len(src)+1)/2`: a forged input cannot make the dictionary grow beyond what its own
    length pays for (a word is only learnt after 3 letters and a delimiter).  `dictMap` is allocated by `reset`
    with `1 << logHashSize` entries (ctx `blockSize` / 8 resp. / 32, at least 2^13) and never resized;
  * agreement with `C13_text1` / `C13_text2`: on encoder output the traced call returns the original block.
  * any prior object state: the same outcome classes hold for a call on an object that has already processed ANY
    sequence of blocks (`C03_text_reuse_total`; `reset` on a used object = `resetReuse`), and `dictSize`,
    `len(dictMap)` stay bounded (`C03_text_reuse_sizes`).  `len(dictList)` does NOT stay bounded over calls: an
    expansion appends to the end of a `dictList` that is already longer than `dictSize` (observation; reproducer
    design-probes/go/textdict-reuse-growth, directed line of the `textdec` stream); the
    stream API builds a new transform per block, so only direct users of the transform API are concerned.
-/
import Kanzi.Model.TextDec
import Kanzi.Proofs.TextDecReuse
import Kanzi.Properties.C13_text

namespace Kanzi.C03
open Kanzi.Text Kanzi.RLT

/-- C03_text1_total: `TextCodec.Inverse` with the delegate `textCodec1` on ANY source into a destination of ANY
size, any hash table size `hsz > 0`: it returns a success with at most `len(dst)` bytes, or one of five error classes, or
panics with an index out of range of the SOURCE.  Nothing else: no hang (`fuel`), no nil slice, no dictionary
index out of range, no write beyond `dst`. -/
theorem C03_text1_total (old : Bool) (hsz : Nat) (hpos : 0 < hsz) (src : List Nat) (dstLen : Nat) :
    (∃ o, textInverse false old hsz src dstLen = .ok o ∧ o.length ≤ dstLen) ∨
    (∃ e, textInverse false old hsz src dstLen = .err e ∧
      (e = "small" ∨ e = "big" ∨ e = "index" ∨ e = "data" ∨ e = "srcidx")) ∨
    textInverse false old hsz src dstLen = .fault "src-index" := by
  rcases (textInverseS_total staticInit.1 staticInit.2 staticOK false old hsz hpos src dstLen).cases with
    h | h | h | ⟨h, _⟩
  · exact Or.inl h
  · exact Or.inr (Or.inl h)
  · exact Or.inr (Or.inr h)
  · cases h

/-- C03_text2_total: the same for the delegate `textCodec2`; the current token format (`old = false`) has one more
panic: a forged index 0 in the two / three byte form is not rejected and indexes `dictList[-1]`. -/
theorem C03_text2_total (old : Bool) (hsz : Nat) (hpos : 0 < hsz) (src : List Nat) (dstLen : Nat) :
    (∃ o, textInverse true old hsz src dstLen = .ok o ∧ o.length ≤ dstLen) ∨
    (∃ e, textInverse true old hsz src dstLen = .err e ∧
      (e = "small" ∨ e = "big" ∨ e = "index" ∨ e = "data" ∨ e = "srcidx")) ∨
    textInverse true old hsz src dstLen = .fault "src-index" ∨
    (old = false ∧ textInverse true old hsz src dstLen = .fault "dict-index") := by
  rcases (textInverseS_total staticInit.1 staticInit.2 staticOK true old hsz hpos src dstLen).cases with
    h | h | h | ⟨_, h⟩
  · exact Or.inl h
  · exact Or.inr (Or.inl h)
  · exact Or.inr (Or.inr (Or.inl h))
  · exact Or.inr (Or.inr (Or.inr h))

/-- C03_text_iterations (both delegates): termination with the bound.  The loop of Inverse, started as the Go
function starts it (`srcIdx = 1`, fresh dictionary), given ANY fuel `f >= len(src)` never runs out of fuel: a
result `.fault e` is one of the two panics.  (Every iteration advances `srcIdx` by at least 1:
`C03_text_step`.  Work of one iteration, read off the model, not a theorem: one hash over at most 31 bytes, one
look-up, at most one copied word of `(data >> 24) & 0xFF <= 255` bytes, and - at most 6 times per call, 2^13 ->
2^19 - one `expandDictionary` of `dictSize` entries.) -/
theorem C03_text_iterations (tc2 old : Bool) (hsz : Nat) (hpos : 0 < hsz) (src : List Nat) (dstLen c1 : Nat)
    (crlf : Bool) (h1 : src.toArray[1]? = some c1) (f : Nat) (hf : src.length ≤ f) (e : String)
    (h : invLoop tc2 old src.toArray dstLen crlf f
      ⟨1, if isText c1 = true then 1 else 2, (reset staticInit.1 staticInit.2 tc2 hsz dstLen).ssz, false,
        reset staticInit.1 staticInit.2 tc2 hsz dstLen, #[]⟩ = .fault e) :
    e ≠ "fuel" ∧ e ≠ "nil-ptr" ∧ (e = "src-index" ∨ (tc2 = true ∧ old = false ∧ e = "dict-index")) :=
  have hf := invLoop_fuel staticInit.1 staticInit.2 staticOK tc2 old hsz hpos src dstLen c1 crlf h1 f hf e h
  ⟨hf.ne_fuel.1, hf.ne_fuel.2, hf⟩

/-- C03_text_step: one iteration of the loop from ANY state that satisfies the invariant `TInv` (well-formed
dictionary, current word made of letters, `dstIdx <= len(dst)`, dictionary size paid for by source bytes) and
the loop condition: it re-establishes the invariant with `srcIdx` advanced, or stops with an error / a panic and
a bounded dictionary. -/
theorem C03_text_step (tc2 old : Bool) (a : Array Nat) (dstLen D0 z hz : Nat) (crlf : Bool) (s : ISt)
    (hI : TInv a dstLen D0 z hz s) (hi : s.i < a.size) (ho : s.out.size < dstLen) :
    match invStepT tc2 old a dstLen crlf s with
    | .ok s' => TInv a dstLen D0 z hz s' ∧ s.i + 1 ≤ s'.i
    | .err e d => (e = "index" ∨ e = "data") ∧ DB a.size D0 z hz d
    | .fault e d => (e = "src-index" ∨ (tc2 = true ∧ old = false ∧ e = "dict-index")) ∧ DB a.size D0 z hz d := by
  have h := invStepT_spec tc2 old a dstLen D0 z hz crlf s (TInv_iff.mp hI) hi ho
  generalize invStepT tc2 old a dstLen crlf s = r at h
  cases r with
  | ok s' => exact ⟨TInv_iff.mpr h.1, h.2⟩
  | err e d => exact ⟨h.1, h.2.strict⟩
  | fault e d => exact ⟨h.1, h.2.strict⟩

/-- C03_text_trace: the traced call (`codecCall`, used for the allocation theorems and by the `textdec` stream)
returns exactly what `textInverse` returns. -/
theorem C03_text_trace (tc2 old : Bool) (hsz : Nat) (src : List Nat) (dstLen : Nat) :
    (codecCall tc2 old hsz none src dstLen).1 = textInverse tc2 old hsz src dstLen :=
  codecCallS_fst staticInit.1 staticInit.2 tc2 old hsz src dstLen

/-- C03_text1_alloc_bound: the dictionary `TextCodec.Inverse` (delegate `textCodec1`) leaves behind on a fresh
object, whatever the outcome (success, error, panic): `len(dictList) = dictSize`, at most 2^19 entries,
`len(dictMap) = 1 << logHashSize` (the table `reset` allocated; never resized), and
`dictSize` is the initial size (a function of `len(dst)` only, between 2^13 and 2^18) or at most
`2052 + (len(src)+1)/2`. -/
theorem C03_text1_alloc_bound (old : Bool) (hsz : Nat) (hpos : 0 < hsz) (src : List Nat) (dstLen : Nat) (d : Dict)
    (h : (codecCall false old hsz none src dstLen).2 = some d) :
    d.list.size = d.size ∧ d.size ≤ 2 ^ 19 ∧ d.map.size = hsz ∧
      d.size ≤ max (dictSizeFor dstLen) (2052 + (src.length + 1) / 2) ∧ dictSizeFor dstLen ≤ 2 ^ 18 := by
  have hz : staticSize staticInit.1 false ≤ 1026 := staticSize_le _ _ staticOK.le
  obtain ⟨h1, h2, h3, h4⟩ :=
    (codecCallS_alloc staticInit.1 staticInit.2 staticOK false old hsz hpos src dstLen d h).alloc (K := 2052) (by omega)
  exact ⟨h1, h2, h3, h4, dictSizeFor_le dstLen⟩

/-- C03_text2_alloc_bound: the same for the delegate `textCodec2` (static dictionary of 1024 entries). -/
theorem C03_text2_alloc_bound (old : Bool) (hsz : Nat) (hpos : 0 < hsz) (src : List Nat) (dstLen : Nat) (d : Dict)
    (h : (codecCall true old hsz none src dstLen).2 = some d) :
    d.list.size = d.size ∧ d.size ≤ 2 ^ 19 ∧ d.map.size = hsz ∧
      d.size ≤ max (dictSizeFor dstLen) (2048 + (src.length + 1) / 2) ∧ dictSizeFor dstLen ≤ 2 ^ 18 := by
  have hz : staticSize staticInit.1 true ≤ 1024 := by unfold staticSize; simp only [if_true]; exact staticOK.le
  obtain ⟨h1, h2, h3, h4⟩ :=
    (codecCallS_alloc staticInit.1 staticInit.2 staticOK true old hsz hpos src dstLen d h).alloc (K := 2048) (by omega)
  exact ⟨h1, h2, h3, h4, dictSizeFor_le dstLen⟩

/-- C03_text1_panic_iff: the EXACT condition of a panic of `textCodec1.Inverse`.  In an iteration from a state
that satisfies the invariant, the token part panics if and only if the current byte is an escape byte (0x0F or
0x0E) and its index is cut off by the end of the source (`trunc1`: no byte behind the escape, or a first index
byte >= 0x80 with no second byte, or a second byte >= 0x80 with no third byte); the panic then is the
index-out-of-range of `src[srcIdx]`. -/
theorem C03_text1_panic_iff {a : Array Nat} {dstLen D0 z hz : Nat} {t : ISt} (h : TokPre a dstLen D0 z hz t) (crlf : Bool)
    (cur : Nat) (e : String) :
    invTok1 a dstLen crlf t cur = .fault e ↔
      ((cur = ESCAPE_TOKEN1 ∨ cur = ESCAPE_TOKEN2) ∧ e = "src-index" ∧ trunc1 a t.i = true) :=
  invTok1_fault_iff h crlf cur e

/-- ... and the index reader alone (no hypothesis): it panics iff the index is cut off -/
theorem C03_text1_readidx_panic_iff (a : Array Nat) (i dsize : Nat) (e : String) :
    readIdx1 a i dsize = .fault e ↔ (e = "src-index" ∧ trunc1 a i = true) :=
  readIdx1_fault_iff a i dsize e

/-- C03_text2_readidx: every outcome of the index reader of `textCodec2` (current format): panic by a cut-off
index or by the unchecked index 0 of the multi-byte forms, "Invalid index", or an index below `dictSize` (or
below 128 <= `dictSize`) and a position inside the source. -/
theorem C03_text2_readidx (a : Array Nat) (i cur dsize : Nat) (hi : i ≤ a.size) :
    readIdx2 a i cur dsize = .fault "src-index" ∨ readIdx2 a i cur dsize = .fault "dict-index" ∨
    readIdx2 a i cur dsize = .err "index" ∨
    ∃ idx i2 fl, readIdx2 a i cur dsize = .ok (idx, i2, fl) ∧ i ≤ i2 ∧ i2 ≤ a.size ∧ (idx < dsize ∨ idx < 128) :=
  readIdx2_cases a i cur dsize hi

/-- C03_text2_readidx_panic_iff: the EXACT condition of the two panics of the index reader of `textCodec2` (current
format; `c` = the first index byte, i.e. the token byte itself or the byte behind the flip marker 0x80, `i` =
the position behind it): `src-index` iff a byte of the 2-byte (low bits 64..111) / 3-byte (112..127) form lies
beyond the end of the source (`cut2Core`); `dict-index` iff the multi-byte index is complete and 0 (`zero2Core`:
the Go code tests `idx > dictSize` before "Adjust index" and then reads `dictList[-1]`).  Independent of the
dictionary.  (Behind the flip marker 0x80 the reader first needs `src[i]` itself: `readIdx2`.) -/
theorem C03_text2_readidx_panic_iff (a : Array Nat) (c i flip dsize : Nat) (e : String) :
    readIdx2Core a c i flip dsize = .fault e ↔
      ((e = "src-index" ∧ cut2Core a c i = true) ∨ (e = "dict-index" ∧ zero2Core a c i = true)) :=
  readIdx2Core_fault_iff a c i flip dsize e

/-- C03_text_reuse_total (both delegates): FROM ANY PRIOR OBJECT STATE.  `calls` = any sequence of earlier
`TextCodec.Inverse` calls `(src, len(dst))` on the object (arbitrary sources: successes, errors, panics recovered
by the caller).  The next call on ANY source into a destination of ANY size has the same outcome classes as on
a fresh object: success with at most `len(dst)` bytes, one of five errors, a panic by an index out of range of
the source or (current codec 2) `dictList[-1]`; no hang, no nil slice, no write beyond `dst`.  (Proof: the
used object is well formed on everything below `dictSize`, `Kanzi.Text.DictOKx`; the stale entries beyond
`dictSize` left by an earlier expansion are never read before being re-initialised.) -/
theorem C03_text_reuse_total (tc2 old : Bool) (hsz : Nat) (hpos : 0 < hsz) (calls : List (List Nat × Nat))
    (src : List Nat) (dstLen : Nat) :
    (∃ o, (codecCall tc2 old hsz (runCalls tc2 old hsz none calls) src dstLen).1 = .ok o ∧ o.length ≤ dstLen) ∨
    (∃ e, (codecCall tc2 old hsz (runCalls tc2 old hsz none calls) src dstLen).1 = .err e ∧
      (e = "small" ∨ e = "big" ∨ e = "index" ∨ e = "data" ∨ e = "srcidx")) ∨
    (codecCall tc2 old hsz (runCalls tc2 old hsz none calls) src dstLen).1 = .fault "src-index" ∨
    (tc2 = true ∧ old = false ∧
      (codecCall tc2 old hsz (runCalls tc2 old hsz none calls) src dstLen).1 = .fault "dict-index") :=
  (codecCallS_reuse staticInit.1 staticInit.2 staticOK tc2 old hsz hpos _
    (runCallsS_good staticInit.1 staticInit.2 staticOK tc2 old hsz hpos calls none trivial) src dstLen).1.cases

/-- C03_text_reuse_sizes: after ANY sequence of calls the object has `dictSize <= 2^19`, `len(dictMap) = 1 <<
logHashSize` (allocated once) and `len(dictList) >= dictSize`.  (No upper bound of `len(dictList)` holds: it
grows by up to `2^19 - 2^13` entries per call on a used object.) -/
theorem C03_text_reuse_sizes (tc2 old : Bool) (hsz : Nat) (hpos : 0 < hsz) (calls : List (List Nat × Nat)) (d : Dict)
    (h : runCalls tc2 old hsz none calls = some d) :
    d.size ≤ 2 ^ 19 ∧ d.map.size = hsz ∧ d.size ≤ d.list.size := by
  have hg := runCallsS_good staticInit.1 staticInit.2 staticOK tc2 old hsz hpos calls none trivial
  unfold runCalls at h
  rw [h] at hg
  have hM : MAX_DICT_SIZE = 2 ^ 19 := by decide
  have := GoodD.sizes hg
  rw [hM] at this
  exact this

/-- C03_text1_agrees: on encoder output the traced call is the Inverse of `C13_text1`: it restores the block
(hypotheses of `C13_text1`, including its exception for a block that ends with 0x0E / 0x0F). -/
theorem C03_text1_agrees (hsz lh dt : Nat) (hh : hsz = 2 ^ lh) (h6 : 6 ≤ lh) (h32 : lh ≤ 32) (b t : List Nat)
    (dstLen : Nat) (hb : ∀ x ∈ b, x < 256) (hdst : textMaxEncodedLen b.length ≤ dstLen)
    (h : textForward false hsz dt b dstLen = .ok t) (n : Nat) (hn : b.length ≤ n) (hn39 : n < 2 ^ 39)
    (hesc : Kanzi.C13.lastIsEscape b = true → b.length < n) :
    (codecCall false false hsz none t n).1 = .ok b := by
  rw [C03_text_trace]
  exact (Kanzi.C13.C13_text1 hsz lh dt hh h6 h32 b t dstLen hb hdst h).2 n hn hn39 hesc

/-- C03_text2_agrees: the same for codec 2 (no exception). -/
theorem C03_text2_agrees (hsz lh dt : Nat) (hh : hsz = 2 ^ lh) (h6 : 6 ≤ lh) (h32 : lh ≤ 32) (b t : List Nat)
    (dstLen : Nat) (hb : ∀ x ∈ b, x < 256) (hdst : textMaxEncodedLen b.length ≤ dstLen)
    (h : textForward true hsz dt b dstLen = .ok t) (n : Nat) (hn : b.length ≤ n) (hn39 : n < 2 ^ 39) :
    (codecCall true false hsz none t n).1 = .ok b := by
  rw [C03_text_trace]
  exact (Kanzi.C13.C13_text2 hsz lh dt hh h6 h32 b t dstLen hb hdst h).2 n hn hn39

/-! Examples.  The index readers are evaluated by the kernel (`decide`); whole calls by the compiler (`#guard`:
the kernel needs minutes to build the static dictionary); the same inputs are the first lines of
corpus/C03/textdec.ops and run against the real code in the `textdec` stream. -/

-- codec 1: escape byte at the end / cut inside a 2-byte / a 3-byte index: panic
example : trunc1 #[0, 0x61, 0x20, 0x0F] 4 = true := by decide
example : readIdx1 #[0, 0x61, 0x20, 0x0F] 4 8192 = .fault "src-index" := by decide
example : readIdx1 #[0, 0x61, 0x20, 0x0F, 0x88] 4 8192 = .fault "src-index" := by decide
example : readIdx1 #[0, 0x61, 0x20, 0x0F, 0xE0, 0x80] 4 8192 = .fault "src-index" := by decide
-- complete indexes: 3-byte form 8192 = dictSize rejected, 2-byte form 1025 accepted
example : readIdx1 #[0, 0x61, 0x20, 0x0F, 0xE0, 0xC0, 0x00] 4 8192 = .err "index" := by decide
example : readIdx1 #[0, 0x61, 0x20, 0x0F, 0x88, 0x01, 0x41] 4 8192 = .ok (1025, 6) := by decide
example : trunc1 #[0, 0x61, 0x20, 0x0F, 0x88, 0x01, 0x41] 4 = false := by decide
-- codec 2: index 0 in the 2-byte and 3-byte form: `dictList[-1]`; in the 1-byte form: "Invalid index"
example : readIdx2 #[0, 0x61, 0x20, 0xC0, 0x00] 4 0xC0 8192 = .fault "dict-index" := by decide
example : readIdx2 #[0, 0x61, 0x20, 0xF0, 0x00, 0x00] 4 0xF0 8192 = .fault "dict-index" := by decide
example : readIdx2 #[0, 0x61, 0x20, 0x81] 4 0x81 8192 = .ok (0, 4, 0) := by decide
example : readIdx2 #[0, 0x61, 0x20, 0x80] 4 0x80 8192 = .fault "src-index" := by decide
example : zero2Core #[0, 0x61, 0x20, 0xC0, 0x00] 0xC0 4 = true ∧ cut2Core #[0, 0x61, 0x20, 0xC0, 0x00] 0xC0 4 = false := by decide
example : cut2Core #[0, 0x61, 0x20, 0xF0, 0x00] 0xF0 4 = true ∧ zero2Core #[0, 0x61, 0x20, 0xF0, 0x00] 0xF0 4 = false := by decide

#guard (codecCall false false 8192 none [0, 0x41, 0x62, 0x63, 0x64, 0x20, 0x4F, 0x0F, 0x88, 0x02] 64).1 =
  .ok [0x41, 0x62, 0x63, 0x64, 0x20, 0x4F, 0x41, 0x62, 0x63, 0x64]
#guard textInverse false false 8192 [0, 0x61, 0x62, 0x63, 0x64, 0x20, 0x0F, 0x88, 0x03] 64 = .err "data"
#guard textInverse false false 8192 [0, 0x61, 0x20, 0x0F] 64 = .fault "src-index"
#guard textInverse false false 8192 [0, 0x61, 0x20, 0x0F, 0xE0, 0xC0, 0x00] 64 = .err "index"
#guard textInverse false false 8192 [0x40, 0x0A, 0x0A, 0x0A, 0x0A, 0x0A] 5 = .err "data"
#guard textInverse true false 8192 [0, 0x61, 0x20, 0xC0, 0x00] 64 = .fault "dict-index"
#guard textInverse true true 8192 [0, 0x61, 0x20, 0xC1] 64 = .fault "src-index"
#guard textInverse false false 8192 [0x41] 8 = .err "small"
#guard ((codecCall false false 8192 none [0, 0x61, 0x20, 0x0F] 64).2.map fun d => (d.size, d.list.size)) = some (8192, 8192)

end Kanzi.C03
