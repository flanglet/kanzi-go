/-
C13 for the alias codec `transform.AliasCodec` (transform names "PACK" and "DNA") — property theorems
only; proofs in `Kanzi/Proofs/Alias.lean` (main theorems), `AliasDigram.lean` (pair → alias substitution),
`AliasPack.lean` (small-alphabet packing), `AliasBase.lean`, `AliasInv.lean` (faults of Inverse).  The model
(`Kanzi/Model/Alias.lean`) mirrors v2/transform/AliasCodec.go (Forward: early declines by data type,
histogram, free slots, data type detection and its write-back, one symbol / 2-bit / 4-bit packing, digram
aliasing with its header, both "not enough savings" declines; Inverse: header parse, the three unpacking
paths, alias expansion, every index / slice bound; MaxEncodedLen) and is tied to /repo by the `alias`
correspondence stream.

Conventions: a block is a `List Nat` of byte values (hypothesis `∀ x ∈ b, x < 256`); the last argument
of `aliasForward` / `aliasInverse` is `len(dst)` of the Go call; `.ok t` is `dst[0:written]` with a nil
error, `.err c` a non-nil error (Forward declines / Inverse fails), `.fault` a Go run-time panic (index or
slice bounds out of range).  `onlyDNA` is the ctx entry `packOnlyDNA` (`true` = transform "DNA", `false` =
"PACK" and `NewAliasCodec()`), `dt` the ctx entry `dataType` (0 = none); the theorems hold for all of them.
"Input left untouched on decline" is not a theorem here (values are immutable); it is an oracle of the
stream on the real code.
-/
import Kanzi.Model.Alias
import Kanzi.Proofs.Alias
import Kanzi.Proofs.AliasInv
import Kanzi.Generated.Consts

namespace Kanzi.C13
open Kanzi.RLT Kanzi.Alias

/-- C13_alias: for every block of bytes shorter than 2^32 (the one-symbol path stores the length in 32
bits; kanzi blocks have at most 2^30 bytes), both variants (PACK / DNA), every data type hint and every
destination at least as large as advertised by `MaxEncodedLen`: if Forward succeeds, its output is at
most `MaxEncodedLen(len)` bytes long (in fact not longer than the block: otherwise Forward declines with
"not enough savings") and Inverse into ANY destination of at least the original block length restores
the block exactly. -/
theorem C13_alias (onlyDNA : Bool) (dt : Nat) (b t : List Nat) (dstLen : Nat)
    (hb : ∀ x ∈ b, x < 256) (hlen : b.length < 2 ^ 32) (hdst : aliasMaxEncodedLen b.length ≤ dstLen)
    (h : aliasForward onlyDNA dt b dstLen = .ok t) :
    t.length ≤ aliasMaxEncodedLen b.length ∧ ∀ n, b.length ≤ n → aliasInverse t n = .ok b :=
  ⟨Nat.le_trans (alias_roundtrip onlyDNA dt b t dstLen hb hlen hdst h).1 (Nat.le_add_right _ _),
   (alias_roundtrip onlyDNA dt b t dstLen hb hlen hdst h).2.2.2⟩

/-- a successful Forward really compresses: the output is strictly shorter than the (non-empty) block -/
theorem C13_alias_shorter (onlyDNA : Bool) (dt : Nat) (b t : List Nat) (dstLen : Nat)
    (hb : ∀ x ∈ b, x < 256) (hlen : b.length < 2 ^ 32) (hdst : aliasMaxEncodedLen b.length ≤ dstLen)
    (hne : b ≠ []) (h : aliasForward onlyDNA dt b dstLen = .ok t) : t.length < b.length :=
  (alias_roundtrip onlyDNA dt b t dstLen hb hlen hdst h).2.1 hne

/-- C13_alias_bytes: the encoded block consists of byte values -/
theorem C13_alias_bytes (onlyDNA : Bool) (dt : Nat) (b t : List Nat) (dstLen : Nat)
    (hb : ∀ x ∈ b, x < 256) (hlen : b.length < 2 ^ 32) (hdst : aliasMaxEncodedLen b.length ≤ dstLen)
    (h : aliasForward onlyDNA dt b dstLen = .ok t) : ∀ y ∈ t, y < 256 :=
  (alias_roundtrip onlyDNA dt b t dstLen hb hlen hdst h).2.2.1

/-- the pair → alias substitution is correct for ANY header (not only the one the frequency sort
selects): whatever list of `(pair value, alias)` entries is used, as long as the aliases are distinct byte
values that do not occur in the block (`GoodEntries`), the expansion loop of Inverse, run with the map
rebuilt from the header bytes, restores exactly the bytes the emit loop of Forward consumed
(`(emitP …).2` is the byte the emit loop leaves over, which both directions copy verbatim). -/
theorem C13_alias_any_injective_map (entries : List (Nat × Nat)) (a : Nat) (rest : List Nat) (n : Nat)
    (hb : ∀ x ∈ a :: rest, x < 256) (hg : GoodEntries entries (a :: rest)) (hn : (a :: rest).length ≤ n) :
    ∃ cons : List Nat,
      expandLoop (mkImap (headerBytes entries) imapInit) n (emitP (mkMap16 entries) a rest).1 #[]
        = .ok ((#[] : Array Nat) ++ cons) ∧
      cons ++ (emitP (mkMap16 entries) a rest).2.toList = a :: rest :=
  expand_emit _ _ _ (maps_ok entries (a :: rest) hg) n a rest #[]
    (fun x hx => ⟨hb x hx, hx⟩) (by simp at hn ⊢; omega)

/-- C13_alias_total: Forward never indexes out of range (the model marks every slice access of the Go
code that would panic as `.fault`) on any block into any destination of at least `MaxEncodedLen(len)`
bytes, with any hints and both variants; Inverse never faults on a Forward output when the destination has
at least the original length (it returns the block); and for ARBITRARY input Inverse faults EXACTLY when
`invSafe src n = false` (`Kanzi/Proofs/AliasInv.lean`: a decidable structural predicate — header complete,
size field present, and every store of the unpacking / expansion loops inside the destination).  Inverse
of the Go code has no bounds checks of its own besides the one-symbol size field, so `invSafe` does fail
on forged or truncated inputs and on genuine inputs with a too small destination: see the examples
below.  These are observations about malformed input, not violations of C13. -/
theorem C13_alias_total :
    (∀ (onlyDNA : Bool) (dt : Nat) (b : List Nat) (dstLen : Nat) (e : String),
      aliasMaxEncodedLen b.length ≤ dstLen → aliasForward onlyDNA dt b dstLen ≠ .fault e) ∧
    (∀ (onlyDNA : Bool) (dt : Nat) (b t : List Nat) (dstLen n : Nat) (e : String),
      (∀ x ∈ b, x < 256) → b.length < 2 ^ 32 → aliasMaxEncodedLen b.length ≤ dstLen →
      aliasForward onlyDNA dt b dstLen = .ok t → b.length ≤ n → aliasInverse t n ≠ .fault e) ∧
    (∀ (src : List Nat) (n : Nat), (∃ e, aliasInverse src n = .fault e) ↔ invSafe src n = false) :=
  ⟨fun onlyDNA dt b dstLen e hdst => aliasForward_ne_fault onlyDNA dt b dstLen hdst e,
   fun onlyDNA dt b t dstLen n e hb hlen hdst h hn => by
     rw [(alias_roundtrip onlyDNA dt b t dstLen hb hlen hdst h).2.2.2 n hn]; simp,
   fun src n => aliasInverse_fault_iff src n⟩

/-- the hypotheses are satisfiable: every one-symbol block of at least 1024 bytes is accepted by both
variants and packs into six bytes -/
theorem C13_alias_one_symbol_accepted (c k : Nat) (hc : c < 256) (hk : 1024 ≤ k) :
    aliasForward false 0 (List.replicate k c) (aliasMaxEncodedLen k) = .ok ([255, c] ++ le32Bytes k) :=
  aliasForward_one_symbol c k hc hk

/-- the literal constants of the model are those of /repo (`Kanzi/Generated/Consts.lean` is regenerated from
the Go source by every check): minimum block size, the data type codes of the early declines (the other
codes are tied by `ConstsTie.rlt_consts`), and the two transform type codes that build this codec -/
theorem C13_alias_consts :
    Kanzi.Generated.Consts.transform._ALIAS_MIN_BLOCKSIZE = Kanzi.Alias.MIN_BLOCKSIZE ∧
    Kanzi.Generated.Consts.internal.DT_MULTIMEDIA = Kanzi.Alias.DT_MULTIMEDIA ∧
    Kanzi.Generated.Consts.internal.DT_EXE = Kanzi.Alias.DT_EXE ∧
    Kanzi.Generated.Consts.internal.DT_UTF8 = Kanzi.RLT.DT_UTF8 ∧
    Kanzi.Generated.Consts.internal.DT_BIN = Kanzi.RLT.DT_BIN ∧
    Kanzi.Generated.Consts.internal.DT_DNA = Kanzi.RLT.DT_DNA ∧
    Kanzi.Generated.Consts.internal.DT_UNDEFINED = Kanzi.RLT.DT_UNDEFINED ∧
    Kanzi.Generated.Consts.transform.PACK_TYPE = 18 ∧
    Kanzi.Generated.Consts.transform.DNA_TYPE = 19 := by decide

/-- early declines -/
example : aliasForward false 0 [1, 2, 3] 1027 = .err "small" := by decide
example : aliasForward false 0 [1, 2, 3] 1026 = .err "dst" := by decide
example : aliasForward false 0 [] 1024 = .ok [] := by decide
example : aliasInverse [] 10 = .ok [] := by decide

/-- Inverse on the formats (small instances of what Forward writes): one symbol, 2 bits, 4 bits -/
example : aliasInverse [255, 65, 5, 0, 0, 0] 5 = .ok [65, 65, 65, 65, 65] := by decide
example : aliasInverse [254, 65, 67, 1, 67, 0x14] 5 = .ok [67, 65, 67, 67, 65] := by decide
example : aliasInverse [251, 1, 2, 3, 4, 5, 1, 9, 0x04, 0x32] 5 = .ok [9, 1, 5, 4, 3] := by decide

/-- OBSERVATIONS (forged / truncated input, or a too small destination): Inverse panics -/
-- one symbol: size field truncated (`binary.LittleEndian.Uint32` on 1 byte)
example : aliasInverse [255, 65, 3] 10 = .fault "src-index" := by decide
-- 2 symbols announced, adjust byte missing
example : aliasInverse [254, 65, 66] 10 = .fault "src-index" := by decide
-- adjust = 3 but only one byte follows (`src[srcIdx:srcIdx+3]`)
example : aliasInverse [254, 65, 66, 3, 1] 10 = .fault "src-slice" := by decide
-- one packed byte = 4 symbols into a destination of 3 bytes (`PutUint32(dst[0:])`)
example : aliasInverse [254, 65, 66, 0, 0x1B] 3 = .fault "dst-index" := by decide
-- 16 symbols, one packed byte = 2 symbols into a destination of 1 byte
example : aliasInverse [240, 0, 1, 2, 3, 4, 5, 6, 7, 8, 9, 10, 11, 12, 13, 14, 15, 0, 0x12] 1
    = .fault "dst-index" := by decide
-- a nil error with `written = 3 > len(dst) = 2`: the short `copy` followed by `dstIdx += adjust`
example : aliasInverse [254, 65, 66, 3, 1, 2, 3] 2 = .ok [1, 2, 3] := by decide
-- digram header announces 16 entries (48 bytes), 3 bytes follow
example : aliasInverse [16, 0, 1, 2, 3] 10 = .fault "src-index" := by decide

end Kanzi.C13
