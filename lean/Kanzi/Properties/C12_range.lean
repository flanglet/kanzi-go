/-
C12 (order-0 range coder) — `RangeEncoder.Write` / `RangeDecoder.Read` of v2/entropy/RangeCodec.go.
Property theorems only; proofs live in `Kanzi/Proofs/Range.lean` (renormalisation, one step, payload)
and `Kanzi/Proofs/RangeChunk.lean` (tables, chunk, block).  The model (`Kanzi/Model/Range.lean`) is
tied byte-identically to /repo by the `range` correspondence stream.

Every round trip is in the "exact consumption" form  dec (enc x ++ rest) = some (x, rest)  for EVERY
continuation `rest`: the decoder reads exactly the bits the encoder wrote, so whatever follows the
block in the same bitstream is read correctly.

Registers.  `low`, `rng`, `code` are the Go `uint64` registers.  `L = low mod 2^60` is the live part
of `low` (the Go code never masks the 4 bits above; they are kept by the model and shown irrelevant).

  `Inv low rng`   :  low < 2^64,  0 < rng,  L + rng ≤ 2^60,  and  L + rng = 2^60 → 2^32 ≤ L
  `Win low rng R` :  R (the bits the encoder still has to write from this state on) has at least 60
                     bits and its first 60 bits, as a number, lie in [L, L + rng)
  `DecInv low code R` : code < 2^64 and (code − low) mod 2^64 + L = first 60 bits of R, i.e. the
                     decoder's `code` register is the 60-bit window on R (with the same stale high
                     bits as `low`).

Exact consumption is by construction of the argument: at every shift the encoder writes 28 bits and
the decoder reads 28 bits (same loop on the same `(low, rng)`), the decoder starts 60 bits ahead
(`code = ReadBits(60)`) and the encoder ends with a 60-bit flush of `low`.
-/
import Kanzi.Model.Range
import Kanzi.Proofs.Range
import Kanzi.Proofs.RangeChunk

namespace Kanzi.C12
open Kanzi.Bits Kanzi.EntSmall Kanzi.Range

/-! ## 1. the carry-less renormalisation terminates and keeps the range positive -/

/-- the initial registers of every chunk (`low = 0`, `rng = _TOP_RANGE`) satisfy the invariant, with
    `rng > _BOTTOM_RANGE` -/
theorem C12_range_init : Inv 0 topRange ∧ bottomRange < topRange := ⟨inv_init, by decide⟩

/-- **C12_range_renorm.**  The loop `for { if (low^(low+rng))&MASK != 0 { if rng > BOTTOM {break};
rng = -low & BOTTOM }; write/read 28 bits; rng <<= 28; low <<= 28 }` has no bound in Go.  From every
state satisfying the invariant (all reachable states do: `C12_range_init`, `C12_range_step`):
  * it leaves through its `break` after at most TWO shifts: with 3 units of fuel (evaluations of the
    loop head) or with any larger amount the model loop returns the same result, in the encoder
    (`normLoop`) and in the decoder (`decNorm`, on any input bits);
  * at most 56 bits are written;
  * on exit the invariant holds again and `rng > _BOTTOM_RANGE = 0xFFFF`: in particular the range
    never becomes 0 (no division by zero in `decodeByte`, no endless loop), and the `rng >>= shift`
    of the next step (`shift ≤ 16`) leaves a positive range. -/
theorem C12_range_renorm (low rng : Nat) (h64 : low < 2 ^ 64) (hpos : 0 < rng)
    (hle : low % 2 ^ 60 + rng ≤ 2 ^ 60) (htop : low % 2 ^ 60 + rng = 2 ^ 60 → 2 ^ 32 ≤ low % 2 ^ 60) :
    (∀ k, normLoop (3 + k) low rng = normLoop 3 low rng) ∧
    (∀ k code bs, decNorm (3 + k) low rng code bs = decNorm 3 low rng code bs) ∧
    normRng (normLoop 3 low rng).2.1 (normLoop 3 low rng).2.2 = none ∧
    (normLoop 3 low rng).1.length ≤ 56 ∧
    Inv (normLoop 3 low rng).2.1 (normLoop 3 low rng).2.2 ∧
    bottomRange < (normLoop 3 low rng).2.2 := by
  have hi : Inv low rng := ⟨h64, hpos, hle, htop⟩
  have hf : FuelOk rng 3 := by unfold FuelOk; omega
  obtain ⟨s1, s2, s3, s4, _⟩ := normLoop_spec 3 low rng hi hf
  exact ⟨fun k => normLoop_fuel 3 k low rng hi hf, fun k code bs => decNorm_fuel 3 k low rng code bs hi hf,
    s3, s4, s1, s2⟩

/-- the model's loops (fuel `normFuel` = 64) are therefore the Go loops -/
theorem C12_range_renorm_model (low rng : Nat) (hi : Inv low rng) :
    normLoop normFuel low rng = normLoop 3 low rng ∧
    ∀ code bs, decNorm normFuel low rng code bs = decNorm 3 low rng code bs := by
  have hf : FuelOk rng 3 := by unfold FuelOk; omega
  exact ⟨normLoop_fuel 3 61 low rng hi hf, fun code bs => decNorm_fuel 3 61 low rng code bs hi hf⟩

example : Inv 0x0FFFFFFF12345678 0x9000 := ⟨by decide, by decide, by decide, by decide⟩

/-! ## 2. one encodeByte / decodeByte pair -/

/-- **C12_range_step.**  `cum` / `f2s` are the tables `cumFreqs` / `f2s`; `SymTab cum f2s shift s`
says: the frequency of `s` is positive (`cum[s] < cum[s+1]`), `cum[s+1] ≤ 2^shift`, and `f2s[j] = s`
for every slot `cum[s] ≤ j < cum[s+1]` (the tables built by the Go code from ANY frequency table
summing to `2^shift` have this property for every symbol of positive frequency:
`C12_range_tables`).  Encoder and decoder are at the same `(low, rng)`, which satisfies the
invariant with `rng > _BOTTOM_RANGE`, `shift ≤ 16`.  Let `n = encStep …` be the result of
`encodeByte(s)`: the bits written `n.1` and the new registers `(n.2.1, n.2.2)`.  Then
  * the new registers satisfy the invariant and `rng > _BOTTOM_RANGE` again; at most 56 bits written;
  * for every continuation `R` of the encoder's output whose window lies in the new interval:
    the window of `n.1 ++ R` lies in the old interval `[L, L+rng)`, and
  * a decoder whose `code` is the window on `n.1 ++ R` and whose unread input is the rest of
    `n.1 ++ R` followed by anything: `decodeByte` returns exactly `s`, ends with the SAME
    `(low, rng)` as the encoder, has consumed exactly `|n.1|` bits (what remains is the rest of `R`),
    its `code` is the window on `R`, and lies inside `[low, low + rng)`. -/
theorem C12_range_step (cum f2s : Array Nat) (shift low rng s : Nat) (hi : Inv low rng)
    (hb : bottomRange < rng) (hs : shift ≤ 16) (ht : SymTab cum f2s shift s) :
    Inv (encStep shift low rng (cum.getD s 0) (cum.getD (s + 1) 0 - cum.getD s 0)).2.1
        (encStep shift low rng (cum.getD s 0) (cum.getD (s + 1) 0 - cum.getD s 0)).2.2 ∧
    bottomRange < (encStep shift low rng (cum.getD s 0) (cum.getD (s + 1) 0 - cum.getD s 0)).2.2 ∧
    (encStep shift low rng (cum.getD s 0) (cum.getD (s + 1) 0 - cum.getD s 0)).1.length ≤ 56 ∧
    ∀ (R : Bits), Win (encStep shift low rng (cum.getD s 0) (cum.getD (s + 1) 0 - cum.getD s 0)).2.1
        (encStep shift low rng (cum.getD s 0) (cum.getD (s + 1) 0 - cum.getD s 0)).2.2 R →
      Win low rng ((encStep shift low rng (cum.getD s 0) (cum.getD (s + 1) 0 - cum.getD s 0)).1 ++ R) ∧
      ∀ (code : Nat) (rest : Bits),
        DecInv low code ((encStep shift low rng (cum.getD s 0) (cum.getD (s + 1) 0 - cum.getD s 0)).1 ++ R) →
        ∃ code', decStep cum f2s shift low rng code
            (((encStep shift low rng (cum.getD s 0) (cum.getD (s + 1) 0 - cum.getD s 0)).1 ++ R).drop 60 ++ rest)
          = some ((s, (encStep shift low rng (cum.getD s 0) (cum.getD (s + 1) 0 - cum.getD s 0)).2.1,
                      (encStep shift low rng (cum.getD s 0) (cum.getD (s + 1) 0 - cum.getD s 0)).2.2, code'),
                  R.drop 60 ++ rest) ∧
          DecInv (encStep shift low rng (cum.getD s 0) (cum.getD (s + 1) 0 - cum.getD s 0)).2.1 code' R ∧
          (code' + 2 ^ 64 - (encStep shift low rng (cum.getD s 0) (cum.getD (s + 1) 0 - cum.getD s 0)).2.1) % 2 ^ 64
            < (encStep shift low rng (cum.getD s 0) (cum.getD (s + 1) 0 - cum.getD s 0)).2.2 := by
  obtain ⟨h1, h2, h3, h4⟩ := step_spec cum f2s shift low rng s hi hb hs ht _ rfl
  refine ⟨h1, h2, h3, fun R hw => ⟨(h4 R hw).1, fun code rest hd => ?_⟩⟩
  obtain ⟨code', e1, e2⟩ := (h4 R hw).2 code rest hd
  exact ⟨code', e1, e2, code_in_range _ _ _ R hw e2⟩

/-- the tables `cumFreqs` (`mkCum`) and `f2s` (`mkF2s`) built from any frequency table summing to
    `2^lr` satisfy `SymTab` for every symbol of positive frequency -/
theorem C12_range_tables (f : List Nat) (lr s : Nat) (hsum : f.sum = 2 ^ lr) (hs : s < f.length)
    (hpos : 0 < f.getD s 0) : SymTab (mkCum f) (mkF2s f) lr s :=
  symTab_mk f lr s hsum hs hpos

/-! ## 3. one chunk -/

/-- **C12_range_payload.**  Any frequency table `f` summing to `2^lr`, `lr ≤ 16`; any chunk `c`
(every length, 0 included) whose symbols have a positive frequency.  The payload written by the
encoder is `encTail … c 0 _TOP_RANGE` = the words of all `encodeByte` calls followed by the flush
`WriteBits(low, 60)`.  The decoder (`code = ReadBits(60)`, then `|c|` × `decodeByte`) returns
exactly `c` and leaves exactly `rest`. -/
theorem C12_range_payload (f : List Nat) (lr : Nat) (hlr : lr ≤ 16) (hsum : f.sum = 2 ^ lr)
    (c : List Nat) (hsym : ∀ a ∈ c, a < f.length ∧ 0 < f.getD a 0) (rest : Bits) :
    decodePayload f lr c.length (encTail (mkCum f) lr c 0 topRange ++ rest) = some (c, rest) :=
  payload_table_rt f lr hlr hsum c hsym rest

/-- **C12_range_chunk.**  `a` = alphabet (strictly increasing, non empty, symbols < 256), `f` = the
256-entry table, zero outside `a`, positive on `a`, summing to `2^lr`, `8 ≤ lr ≤ 15` (the hypotheses
of `C12_freq_header`); `c` = ANY chunk whose symbols all belong to `a`.  On the encoder's output
`header ++ payload` followed by any `rest`: `decodeHeader` returns exactly `(a, f, lr)` and leaves
`payload ++ rest`; then the payload decoder, with the tables rebuilt from the decoded `f`, returns
exactly `c` and leaves exactly `rest`. -/
theorem C12_range_chunk (a f c : List Nat) (lr : Nat) (hlr : 8 ≤ lr ∧ lr ≤ 15)
    (hs : a.Pairwise (· < ·)) (ha : ∀ s ∈ a, s < 256) (hne : a ≠ [])
    (hlen : f.length = 256) (hz : ∀ i, i ∉ a → f.getD i 0 = 0) (hpos : ∀ s ∈ a, 1 ≤ f.getD s 0)
    (hsum : (a.map (fun s => f.getD s 0)).sum = 2 ^ lr)
    (hc : ∀ b ∈ c, b ∈ a) (rest : Bits) :
    rangeDecodeHeader (rangeEncodeHeader a f lr ++ (encTail (mkCum f) lr c 0 topRange ++ rest))
      = some ((a, f, lr), encTail (mkCum f) lr c 0 topRange ++ rest) ∧
    decodePayload f lr c.length (encTail (mkCum f) lr c 0 topRange ++ rest) = some (c, rest) := by
  have hle : ∀ s ∈ a, f.getD s 0 ≤ 2 ^ lr := by
    intro s hsa
    rw [← hsum]
    exact mem_le_sum _ _ (List.mem_map.mpr ⟨s, hsa, rfl⟩)
  have ht : FreqTable a f lr := ⟨hs, ha, hne, hlen, hz, hpos, hle⟩
  refine ⟨range_header_roundtrip a f lr hlr ht hsum _, ?_⟩
  exact payload_table_rt f lr (by omega) (table_sum a f lr ht hsum) c
    (fun b hb => ⟨by have := ha b (hc b hb); omega, hpos b (hc b hb)⟩) rest

/-- the hypotheses of `C12_range_chunk` are satisfiable (two symbols, 100 + 156 = 2^8) -/
example : decodePayload (100 :: 156 :: List.replicate 254 0) 8 [0, 1, 1, 0, 1].length
    (encTail (mkCum (100 :: 156 :: List.replicate 254 0)) 8 [0, 1, 1, 0, 1] 0 topRange ++ [true])
    = some ([0, 1, 1, 0, 1], [true]) := by
  refine (C12_range_chunk [0, 1] (100 :: 156 :: List.replicate 254 0) [0, 1, 1, 0, 1] 8
    ⟨by omega, by omega⟩ (by decide) (by decide) (by decide) ?_ ?_ ?_ rfl (by decide) [true]).2
  · rw [List.length_cons, List.length_cons, List.length_replicate]
  · intro i hi
    match i with
    | 0 => exact absurd (List.mem_cons_self) hi
    | 1 => exact absurd (List.mem_cons_of_mem _ List.mem_cons_self) hi
    | j + 2 => exact getD_replicate_zero 254 j
  · intro s hs
    rcases List.mem_cons.mp hs with rfl | hs
    · exact (by decide : 1 ≤ 100)
    · rcases List.mem_cons.mp hs with rfl | hs
      · exact (by decide : 1 ≤ 156)
      · cases hs

/-- one chunk of `Write` on its own (`lr` = the log range after the lowering for short chunks,
`8 ≤ lr ≤ 15`): for a non-empty chunk of bytes the statistics step succeeds with a non-empty
alphabet (C16), the header round trips, a single-symbol chunk is constant (the decoder fills it from
the alphabet alone, nothing else is written) and the payload round trips with the tables built from
the normalised frequencies. -/
theorem C12_range_one_chunk (c : List Nat) (lr : Nat) (hlr : 8 ≤ lr ∧ lr ≤ 15) (hne : c ≠ [])
    (hb : ∀ b ∈ c, b < 256) :
    ∃ o, Kanzi.Normalize.normalize (histogram c) c.length (2 ^ lr) = .ok o ∧
      o.alphabet.length = o.size ∧ o.alphabet ≠ [] ∧
      (∀ rest : Bits, rangeDecodeHeader (rangeEncodeHeader o.alphabet o.freqs lr ++ rest)
          = some ((o.alphabet, o.freqs, lr), rest)) ∧
      (o.alphabet.length = 1 → c = List.replicate c.length (o.alphabet.headD 0)) ∧
      (∀ rest : Bits, decodePayload o.freqs lr c.length (encTail (mkCum o.freqs) lr c 0 topRange ++ rest)
          = some (c, rest)) :=
  oneChunk_facts c lr hlr hne hb

/-- the log range used for a chunk stays in `[8, logRange]` -/
theorem C12_range_chunk_lr (logRange len : Nat) (h : 8 ≤ logRange) :
    8 ≤ chunkLr logRange len ∧ chunkLr logRange len ≤ logRange :=
  chunkLr_bounds logRange len h

/-! ## 4. the whole block -/

/-- **C12_range_block.**  For every block of bytes (ANY length: 0 — nothing is written and nothing is
read —, tiny, one chunk, several chunks, a last short chunk, single-symbol chunks sent as a header
only), every chunk size `≥ 1` (the Go constructors accept 1024 … 2^30; 32768 by default) and
`8 ≤ logRange ≤ 15` (12 by default; 16 is accepted by the constructors but cannot be transmitted in
the 3-bit header field — family `logRange16` of the `range` stream): `RangeEncoder.Write` + `Dispose`
succeeds (per chunk: lowering of the log range, histogram, `NormalizeFrequencies` — C16 —, header,
payload, flush) and
`RangeDecoder.Read` asked for `blk.length` bytes returns exactly `blk` and consumes exactly the
written bits: whatever follows (`rest`) is left untouched. -/
theorem C12_range_block (blk : List Nat) (chunkSize logRange : Nat) (hlr : 8 ≤ logRange ∧ logRange ≤ 15)
    (hcs : 0 < chunkSize) (hb : ∀ b ∈ blk, b < 256) :
    ∃ enc, encode blk chunkSize logRange = some enc ∧
      ∀ rest : Bits, decode (enc ++ rest) blk.length chunkSize = some (blk, rest) :=
  block_rt blk chunkSize logRange hlr hcs hb

example : (8 ≤ defaultLogRange ∧ defaultLogRange ≤ 15) ∧ 0 < defaultChunkSize := by decide

end Kanzi.C12
