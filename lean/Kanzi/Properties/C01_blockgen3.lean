/-
C01 for the GENERIC block codec over all transforms: H_codec ("the decoding task run on what the encoding task wrote
returns the block") is a THEOREM for every chain of 1..8 transforms over ALL NINETEEN transform kinds of kanzi —
the twelve of `C01_blockgen2` (NONE ZRLT MTFT RANK RLT SRT PACK DNA LZ LZX LZP MM), the six added here (UTF, EXE, ROLZ,
ROLZX, BWT, BWTS: models and round-trip theorems of C13_utf, C13_exe, C13_rolz, C13_bwt, C13_bwts) and an ABSTRACT TEXT
transform — and every entropy codec among NONE, ANS0, ANS1, RANGE, HUFFMAN; FPAQ, CM, TPAQ, TPAQX are conditional
instances (the decoder's own acceptance test `fits2`).  All ten CLI levels follow as named corollaries.
Property theorems only; proofs in `Kanzi/Proofs/BlockGen3.lean` (block, any list of lawful transforms),
`BlockGen3Kinds.lean` (the laws of the kinds, `TextLaw`), `BlockGen3Stream.lean` (headers, streams, TPAQ).

Model: `Kanzi/Model/BlockGen3.lean` — the kind universe `Kind3` and its adapters; encoder, decoder and stream image
are those of `BlockGen2` (`encodeTaskGen2`: real destination sizes, the `ctx["dataType"]` hint threaded through
the stages, the bound of fix F43).  Tied to /repo by the `imagegen3` stream: for chains over the eighteen concrete
kinds the bytes produced by the REAL Writer are `streamImageGen2` byte for byte.

RESIDUAL ASSUMPTIONS, stated once:
  * TEXT.  `text : TextImpl` is a parameter; every statement about a chain in which TEXT occurs has the hypothesis
    `TextLaw text` (`C01_textLaw_spelled_out`).  `C01_text_inst.lean` discharges it for the TEXT model (from `C13_text1`,
    `C13_text2`, …).  TextCodec.go
    inverts correctly only into destinations STRICTLY longer than the block (codec 1: a finding, see `C13_text1`) and
    shorter than 2^39 bytes (a `uint32` computed from `len(dst)`), and `TextLaw` asks for no more; the sequence always
    provides the former, and the latter follows from the Reader's bound on a frame: for a chain WITH TEXT the decoding
    task is claimed to return the block for a payload of AT MOST 2^34 BITS (`(Kind3.text ∈ ks → p.length ≤ 2^34) → …`) —
    the Reader rejects longer frames ("Invalid block size") before any task sees them.  For entropy NONE the bound is
    proved (`C01_codec_chain3_none`); for the other codecs no output size bound is proved (as in `C01_blockgen2`).
  * BWT / BWTS FORWARD.  The real Forward of both is built on DivSufSort, which is not modelled.  In the model the
    forward BWT is its SPECIFICATION (`Kanzi.BWT.blockForward`: header of BWTBlockCodec + naive suffix sort with implicit
    end marker) and the forward BWTS is its SPECIFICATION (`bwtsSpecForward`: `bwtsSpec`, sorted rotations of the Lyndon
    factors).  "real Forward = specification" is TIED BY THE `bwt`, `bwts` AND `imagegen3` STREAMS (byte-exact comparison
    on generated blocks), NOT PROVED.  Both INVERSES are statement-level models proved against the specifications.
  * BWT job count: `.bwt jobs` carries `ctx["jobs"]` of the decoding task; the theorems need `1 ≤ jobs` (`Kind3.WF`:
    `NewBWTWithCtx` rejects 0, every task gets at least one job) and hold for every such count; the ENCODER does not
    look at it (`C01_chain3_encoder_jobs_independent`), so Writer and Reader may use different job counts.
  * FPAQ, CM, TPAQ, TPAQX: `fits2` on the block handed to the entropy coder, as in `C01_blockgen2`.  The way the block
    codec builds the TPAQ predictor (`tpaqEnt`: ctx entries entropy / blockSize / size / bsVersion) is NOT tied by a
    correspondence stream.
-/
import Kanzi.Model.BlockGen3
import Kanzi.Proofs.BlockGen3
import Kanzi.Proofs.BlockGen3Kinds
import Kanzi.Proofs.BlockGen3Stream
import Kanzi.Properties.C01_blockgen2

namespace Kanzi.C01gen
open Kanzi.Bits Kanzi.Block Kanzi.BlockGen Kanzi.BlockGen2 Kanzi.BlockGen3 Kanzi.TrSmall Kanzi.Header

/-! ## 1. the law of a TEXT implementation -/

/-- **TextLaw**, spelled out.  `t : TextImpl` = the four functions of a `transform.TextCodec` as the sequence sees it
(`forward dt src len(dst)`, `ctxWrite` = the `dataType` write-back, `inverse src len(dst)`, `maxEncodedLen`; results
`.ok` = nil error, `.err` = declined / failed, `.fault` = panic).  The law is exactly the shape of the C13 theorems
of the other transforms: `MaxEncodedLen(n) = n`; Inverse of nothing is nothing; an ACCEPTED Forward into a destination
of at least `MaxEncodedLen` bytes returns at most `MaxEncodedLen(len)` byte values which Inverse, into ANY destination
strictly longer than the block and shorter than 2^39 bytes, turns back into the block; Forward does not succeed into
a smaller non-empty destination; Forward never panics into a destination of at least `MaxEncodedLen` bytes. -/
theorem C01_textLaw_spelled_out (t : TextImpl) :
    TextLaw t ↔
      ((∀ n, t.maxEncodedLen n = n) ∧
       (∀ n, t.inverse [] n = .ok []) ∧
       (∀ (dt : Nat) (b y : List Nat) (dstLen : Nat), (∀ x ∈ b, x < 256) → b.length < 2 ^ 31 →
          t.maxEncodedLen b.length ≤ dstLen → t.forward dt b dstLen = .ok y →
            y.length ≤ t.maxEncodedLen b.length ∧ (∀ v ∈ y, v < 256) ∧
              ∀ n, b.length < n → n < 2 ^ 39 → t.inverse y n = .ok b) ∧
       (∀ (dt : Nat) (b y : List Nat) (dstLen : Nat), b ≠ [] → 0 < dstLen →
          dstLen < t.maxEncodedLen b.length → t.forward dt b dstLen ≠ .ok y) ∧
       (∀ (dt : Nat) (b : List Nat) (dstLen : Nat) (e : String), (∀ x ∈ b, x < 256) →
          t.maxEncodedLen b.length ≤ dstLen → t.forward dt b dstLen ≠ .fault e)) :=
  ⟨fun h => ⟨h.maxLen, h.inverse_nil, h.roundtrip, h.small_dst, h.no_fault⟩,
   fun h => ⟨h.1, h.2.1, h.2.2.1, h.2.2.2.1, h.2.2.2.2⟩⟩

/-- the law is satisfiable (a TEXT stage that accepts nothing but the empty block) -/
example : TextLaw idText := textLaw_idText

/-! ## 2. H_codec for every chain over the nineteen kinds and every entropy codec -/

/-- **C01_codec_chain3.**  `ks` = any chain of at most 8 kinds of `Kind3` (what `transform.New` builds for a transform
word over ALL nineteen names, for any setting of the constructor parameters), `ent` = NONE, ANS0, ANS1, RANGE or HUFFMAN
as the factory builds them, any checksum width `ck`, skipBlocks on or off, any length `obuf` of the task's output
buffer, a Writer of block size `B ≤ 2^30`, `b` a block of 1..B bytes: the encoding task succeeds and the decoding
task returns exactly the block with `decoded = |b|` — through the copy-block branch, every pattern of declined
stages (incl. the stages that decline because the block exceeds their size limit, section 4), every value of the
data type hint along the chain, the branch of fix F43, both layouts of the skip flags, every width of the length
field, the checksum field and its comparison.
Hypotheses on the chain: `hjobs` (the job count of every BWT stage is at least 1) and `htext` (`TextLaw text`, needed
ONLY IF TEXT occurs in the chain).  If TEXT occurs, the claim about the decoding task is for a payload within the
Reader's frame bound of 2^34 bits (see the file header).  Forward BWT / BWTS = their specifications (file header). -/
theorem C01_codec_chain3 (text : TextImpl) (ck : Nat) (ks : List Kind3) (ent : Ent) (sb : Bool) (B obuf : Nat)
    (b : List Nat) (hn : ks.length ≤ 8) (hjobs : ∀ k ∈ ks, k.WF) (htext : Kind3.text ∈ ks → TextLaw text)
    (hent : IsModelledEnt ent)
    (hbytes : ∀ x ∈ b, x < 256) (h0 : 0 < b.length) (hB : b.length ≤ B) (hmax : B ≤ 2 ^ 30) :
    ∃ p, encodeTaskGen2 ⟨ck, kind3Trs text ks, ent, sb, some B⟩ obuf b = .ok p ∧
      ((Kind3.text ∈ ks → p.length ≤ 2 ^ 34) →
        decodeTaskGen2 ⟨ck, kind3Trs text ks, ent, sb, some B⟩ B p = ⟨b.length, .ok b⟩) := by
  obtain ⟨p, h1, h2, _⟩ := block_roundtrip3 text ⟨ck, kind3Trs text ks, ent, sb, some B⟩ ks rfl hn hjobs htext B obuf b
    rfl (entLawAt_of_law _ _ (entLaw_modelled ent hent _) _) hbytes h0 hB hmax
  exact ⟨p, h1, h2⟩

/-- **C01_codec_chain3_no_text**: chains WITHOUT TEXT — the eighteen concrete kinds: no hypothesis about TEXT at all
(whatever `text` is), no condition on the payload. -/
theorem C01_codec_chain3_no_text (text : TextImpl) (ck : Nat) (ks : List Kind3) (ent : Ent) (sb : Bool) (B obuf : Nat)
    (b : List Nat) (hn : ks.length ≤ 8) (hjobs : ∀ k ∈ ks, k.WF) (hnt : Kind3.text ∉ ks) (hent : IsModelledEnt ent)
    (hbytes : ∀ x ∈ b, x < 256) (h0 : 0 < b.length) (hB : b.length ≤ B) (hmax : B ≤ 2 ^ 30) :
    ∃ p, encodeTaskGen2 ⟨ck, kind3Trs text ks, ent, sb, some B⟩ obuf b = .ok p ∧
      decodeTaskGen2 ⟨ck, kind3Trs text ks, ent, sb, some B⟩ B p = ⟨b.length, .ok b⟩ := by
  obtain ⟨p, h1, h2⟩ := C01_codec_chain3 text ck ks ent sb B obuf b hn hjobs (fun h => absurd h hnt) hent hbytes h0 hB
    hmax
  exact ⟨p, h1, h2 (fun h => absurd h hnt)⟩

/-- **C01_codec_chain3_none**: entropy NONE, any chain (TEXT included, under its law): the payload is at most
`48 + 64 + 8·maxTransformLength B` bits, within the frame bound: no condition on the payload. -/
theorem C01_codec_chain3_none (text : TextImpl) (ck : Nat) (ks : List Kind3) (sb : Bool) (B obuf : Nat)
    (b : List Nat) (hn : ks.length ≤ 8) (hjobs : ∀ k ∈ ks, k.WF) (htext : Kind3.text ∈ ks → TextLaw text)
    (hbytes : ∀ x ∈ b, x < 256) (h0 : 0 < b.length) (hB : b.length ≤ B) (hmax : B ≤ 2 ^ 30) :
    ∃ p, encodeTaskGen2 ⟨ck, kind3Trs text ks, noneEnt, sb, some B⟩ obuf b = .ok p ∧
      decodeTaskGen2 ⟨ck, kind3Trs text ks, noneEnt, sb, some B⟩ B p = ⟨b.length, .ok b⟩ := by
  obtain ⟨p, h1, h2, _⟩ := block_roundtrip3' text ⟨ck, kind3Trs text ks, noneEnt, sb, some B⟩ ks rfl hn hjobs htext
    (Or.inr rfl) B obuf b rfl (entLawAt_of_law _ _ (entLaw_none _) _) hbytes h0 hB hmax
  exact ⟨p, h1, h2⟩

/-- the old kinds are embedded unchanged: a chain of `C01_codec_chain` is a chain here -/
theorem C01_chain3_extends (text : TextImpl) (ks : List Kind) :
    kind3Trs text (ks.map Kind3.old) = kindTrs ks := by
  simp [kind3Trs, kindTrs, List.map_map, Function.comp_def, Kind3.tr]

/-- the generic form: ANY entropy codec that satisfies the exact-consumption law AT THE BLOCK HANDED TO IT -/
theorem C01_codec_chain3_ent (text : TextImpl) (ck : Nat) (ks : List Kind3) (ent : Ent) (sb : Bool) (B obuf : Nat)
    (b : List Nat) (hn : ks.length ≤ 8) (hjobs : ∀ k ∈ ks, k.WF) (htext : Kind3.text ∈ ks → TextLaw text)
    (hent : EntLawAt ent (maxTransformLength B) (postBlock (kind3Trs text ks) (some B) obuf b))
    (hbytes : ∀ x ∈ b, x < 256) (h0 : 0 < b.length) (hB : b.length ≤ B) (hmax : B ≤ 2 ^ 30) :
    ∃ p, encodeTaskGen2 ⟨ck, kind3Trs text ks, ent, sb, some B⟩ obuf b = .ok p ∧
      ((Kind3.text ∈ ks → p.length ≤ 2 ^ 34) →
        decodeTaskGen2 ⟨ck, kind3Trs text ks, ent, sb, some B⟩ B p = ⟨b.length, .ok b⟩) := by
  obtain ⟨p, h1, h2, _⟩ := block_roundtrip3 text ⟨ck, kind3Trs text ks, ent, sb, some B⟩ ks rfl hn hjobs htext B obuf b
    rfl hent hbytes h0 hB hmax
  exact ⟨p, h1, h2⟩

/-- **C01_codec_chain3_fpaq_partial / _cm_partial / _tpaq_partial**: FPAQ, CM, TPAQ (`extra = false`) and TPAQX (`extra =
true`) are CONDITIONAL instances: the hypothesis is the decoder's own acceptance test ("no chunk codes to twice its
size or more": `fFits2` / `fits2`, decidable by evaluation) on the block handed to the entropy coder.  It is not known
to hold for every block (an adversarial block for a fresh predictor exists for TPAQ: F36), hence `_partial`. -/
theorem C01_codec_chain3_fpaq_partial (text : TextImpl) (ck : Nat) (ks : List Kind3) (sb : Bool) (B obuf : Nat)
    (b : List Nat) (hn : ks.length ≤ 8) (hjobs : ∀ k ∈ ks, k.WF) (htext : Kind3.text ∈ ks → TextLaw text)
    (hf2 : Fpaq.fFits2 Fpaq.DEFAULT_CHUNK (postBlock (kind3Trs text ks) (some B) obuf b) = true)
    (hbytes : ∀ x ∈ b, x < 256) (h0 : 0 < b.length) (hB : b.length ≤ B) (hmax : B ≤ 2 ^ 30) :
    ∃ p, encodeTaskGen2 ⟨ck, kind3Trs text ks, fpaqEnt, sb, some B⟩ obuf b = .ok p ∧
      ((Kind3.text ∈ ks → p.length ≤ 2 ^ 34) →
        decodeTaskGen2 ⟨ck, kind3Trs text ks, fpaqEnt, sb, some B⟩ B p = ⟨b.length, .ok b⟩) :=
  C01_codec_chain3_ent text ck ks fpaqEnt sb B obuf b hn hjobs htext
    (entLawAt_fpaq _ (by unfold maxTransformLength; omega) _ hf2) hbytes h0 hB hmax

theorem C01_codec_chain3_cm_partial (text : TextImpl) (ck : Nat) (ks : List Kind3) (sb : Bool) (B obuf : Nat)
    (b : List Nat) (hn : ks.length ≤ 8) (hjobs : ∀ k ∈ ks, k.WF) (htext : Kind3.text ∈ ks → TextLaw text)
    (hf2 : BinEnt.fits2 cmPred BinEnt.MAX_CHUNK (CM.cmInit false) (postBlock (kind3Trs text ks) (some B) obuf b) = true)
    (hbytes : ∀ x ∈ b, x < 256) (h0 : 0 < b.length) (hB : b.length ≤ B) (hmax : B ≤ 2 ^ 30) :
    ∃ p, encodeTaskGen2 ⟨ck, kind3Trs text ks, cmEnt, sb, some B⟩ obuf b = .ok p ∧
      ((Kind3.text ∈ ks → p.length ≤ 2 ^ 34) →
        decodeTaskGen2 ⟨ck, kind3Trs text ks, cmEnt, sb, some B⟩ B p = ⟨b.length, .ok b⟩) :=
  C01_codec_chain3_ent text ck ks cmEnt sb B obuf b hn hjobs htext
    (entLawAt_cm _ (by unfold maxTransformLength; omega) _ hf2) hbytes h0 hB hmax

theorem C01_codec_chain3_tpaq_partial (extra : Bool) (text : TextImpl) (ck : Nat) (ks : List Kind3) (sb : Bool)
    (B obuf : Nat) (b : List Nat) (hn : ks.length ≤ 8) (hjobs : ∀ k ∈ ks, k.WF) (htext : Kind3.text ∈ ks → TextLaw text)
    (hf2 : tpaqFits extra B (postBlock (kind3Trs text ks) (some B) obuf b))
    (hbytes : ∀ x ∈ b, x < 256) (h0 : 0 < b.length) (hB : b.length ≤ B) (hmax : B ≤ 2 ^ 30) :
    ∃ p, encodeTaskGen2 ⟨ck, kind3Trs text ks, tpaqEnt extra B, sb, some B⟩ obuf b = .ok p ∧
      ((Kind3.text ∈ ks → p.length ≤ 2 ^ 34) →
        decodeTaskGen2 ⟨ck, kind3Trs text ks, tpaqEnt extra B, sb, some B⟩ B p = ⟨b.length, .ok b⟩) :=
  C01_codec_chain3_ent text ck ks (tpaqEnt extra B) sb B obuf b hn hjobs htext
    (entLawAt_tpaq extra B (by omega) _ (by unfold maxTransformLength; omega) _ hf2) hbytes h0 hB hmax

/-- `tpaqFits`, spelled out: the predictor the factory builds from the task ctx (entropy name, stream block size, `size`
= length of the block handed to the codec, bitstream version 6) exists, and the binary coder's acceptance test holds -/
theorem C01_tpaqFits_spelled_out (extra : Bool) (B : Nat) (y : List Nat) :
    tpaqFits extra B y ↔
      ∃ s0, TPAQ.tpaqNew (some { entropy := .str (if extra then "TPAQX" else "TPAQ"), blockSize := .uint B,
                                 size := .uint y.length, bsVersion := .uint 6 }) = .ok s0 ∧
        BinEnt.fits2 Kanzi.C12.tpaqPred BinEnt.MAX_CHUNK s0 y = true := Iff.rfl

/-! ## 3. the components -/

/-- the law every kind satisfies (for every data type hint `dt` and every non-empty destination), with its output
bound: a successful Forward of EXE adds at most `len/50` bytes, of BWT at most 33 (its header), of SRT and MM what
`C01_grow_spelled_out` says; every other transform returns at most `len` bytes -/
theorem C01_chain3_components (text : TextImpl) (k : Kind3) (hwf : k.WF) (ht : k = .text → TextLaw text)
    (dt : Nat) (x y : List Nat) (d : Nat) (hb : ∀ v ∈ x, v < 256) (hl : x.length < 2 ^ 31) (hd : 0 < d)
    (hf : (k.tr text).fwd dt x d = .ok y) :
    (∀ v ∈ y, v < 256) ∧ y.length ≤ k.grow x.length ∧
      ∀ n, x.length < n → n < 2 ^ 39 → (k.tr text).inv y n = .ok x := by
  obtain ⟨h1, h2, _, h4⟩ := (kind3_law text k hwf TextDst (fun h => ⟨ht h, fun _ hn => hn⟩)).rt dt x d y hb
    (by unfold lawLim; omega) hd hf
  exact ⟨h1, h2, h4⟩

/-- … and for every kind but TEXT into EVERY destination of at least the block length -/
theorem C01_chain3_components_concrete (text : TextImpl) (k : Kind3) (hwf : k.WF) (hk : k ≠ .text)
    (dt : Nat) (x y : List Nat) (d : Nat) (hb : ∀ v ∈ x, v < 256) (hl : x.length < 2 ^ 31) (hd : 0 < d)
    (hf : (k.tr text).fwd dt x d = .ok y) : ∀ n, x.length ≤ n → (k.tr text).inv y n = .ok x :=
  ((kind3_lawS text k hwf hk).rt dt x d y hb (by unfold lawLim; omega) hd hf).2.2

theorem C01_grow3_spelled_out (a : Nat) :
    Kind3.exe.grow a = a + a / 50 ∧ (∀ j, (Kind3.bwt j).grow a = a + 33) ∧ Kind3.utf.grow a = a ∧
    Kind3.rolz.grow a = a ∧ Kind3.rolzx.grow a = a ∧ Kind3.bwts.grow a = a ∧ Kind3.text.grow a = a ∧
    (∀ k, (Kind3.old k).grow a = k.grow a) :=
  ⟨rfl, fun _ => rfl, rfl, rfl, rfl, rfl, rfl, fun _ => rfl⟩

/-- what the adapters are (definitional): the transform models of the C13 files with the parameters of a stream of
bitstream version 6 -/
theorem C01_chain3_adapters (text : TextImpl) (dt : Nat) (x : List Nat) (d n jobs : Nat) :
    (Kind3.utf.tr text).fwd dt x d = ofRlt (UTF.utfForward dt x d) ∧
    (Kind3.utf.tr text).inv x n = ofRlt (UTF.utfInverse false x n) ∧
    (Kind3.exe.tr text).fwd dt x d = ofRlt (EXE.exeForward (some dt) x d) ∧
    (Kind3.exe.tr text).ctxw dt x d = EXE.exeCtxWrite (some dt) x d ∧
    (Kind3.exe.tr text).inv x n = ofRlt (EXE.exeInverse false x n) ∧
    (Kind3.rolz.tr text).fwd dt x d = ofRolzF (ROLZ.rolzForward ROLZ.CHUNK_SIZE ROLZ.LOG_POS_CHECKS1 true dt x d) ∧
    (Kind3.rolz.tr text).ctxw dt x d = ROLZ.rolzCtxWrite true dt x d ∧
    (Kind3.rolz.tr text).inv x n =
      ofRolzI (ROLZ.rolzInverse ROLZ.CHUNK_SIZE ROLZ.LOG_POS_CHECKS1 true 6 x (Array.replicate n 0)) ∧
    (Kind3.rolzx.tr text).fwd dt x d = ofRolzF (ROLZ.rolzxForward ROLZ.CHUNK_SIZE ROLZ.LOG_POS_CHECKS2 true dt x d) ∧
    (Kind3.rolzx.tr text).inv x n =
      ofRolzI (ROLZ.rolzxInverse ROLZ.CHUNK_SIZE ROLZ.LOG_POS_CHECKS2 6 x (Array.replicate n 0)) ∧
    ((Kind3.bwt jobs).tr text).fwd dt x d = ofBwtF (BWT.blockForward x d) ∧
    ((Kind3.bwt jobs).tr text).inv x n = ofBwtI (BWT.blockInverse #[] (List.replicate 8 0) jobs x.toArray n).1 ∧
    (Kind3.bwts.tr text).fwd dt x d = ofBwts (bwtsSpecForward x d) ∧
    (Kind3.bwts.tr text).inv x n = ofBwts (BWTS.bwtsInverse x n) ∧
    (Kind3.text.tr text).fwd dt x d = ofRlt (text.forward dt x d) ∧
    (Kind3.text.tr text).ctxw dt x d = text.ctxWrite dt x d ∧
    (Kind3.text.tr text).inv x n = ofRlt (text.inverse x n) :=
  ⟨rfl, rfl, rfl, rfl, rfl, rfl, rfl, rfl, rfl, rfl, rfl, rfl, rfl, rfl, rfl, rfl, rfl⟩

/-- C01_chain3_no_fault: the adapters turn a Go panic inside a Forward (`.fault` / `.hang` of the transform models)
into a declined stage; that case never arises: on a block of byte values no Forward of the transforms added here panics,
whatever the data type hint and the destination size (TEXT: under its law, into a destination of at least
`MaxEncodedLen` bytes).  (The twelve old kinds: `C01_chain_no_fault`.) -/
theorem C01_chain3_no_fault (b : List Nat) (d : Nat) (hb : ∀ x ∈ b, x < 256) :
    (∀ dt e, UTF.utfForward dt b d ≠ .fault e) ∧
    (∀ dt e, EXE.exeForward dt b d ≠ .fault e) ∧
    (∀ hasCtx dt e, ROLZ.rolzForward ROLZ.CHUNK_SIZE ROLZ.LOG_POS_CHECKS1 hasCtx dt b d ≠ .fault e) ∧
    (∀ dt e, ROLZ.rolzxForward ROLZ.CHUNK_SIZE ROLZ.LOG_POS_CHECKS2 true dt b d ≠ .fault e) ∧
    (BWT.blockForward b d ≠ .fault ∧ BWT.blockForward b d ≠ .hang) ∧
    bwtsSpecForward b d ≠ .fault ∧
    (∀ (text : TextImpl), TextLaw text → ∀ dt e, text.maxEncodedLen b.length ≤ d → text.forward dt b d ≠ .fault e) :=
  ⟨fun dt e => utf_no_fault dt b d e hb, fun dt e => exe_no_fault dt b d e,
   fun _ _ e => Kanzi.C13.C13_rolz_forward_total (by decide) e, fun dt e => rolzx_no_fault dt b d e hb,
   bwt_no_fault b d, bwts_no_fault b d, fun text ht dt e hd => ht.no_fault dt b d e hb hd⟩

/-- **C01_chain3_encoder_jobs_independent**: the payload written by the encoding task does not depend on the job
counts of the BWT stages (Forward does not look at `ctx["jobs"]`): a Writer with any job count and a Reader with any
other (≥ 1) are covered by `C01_codec_chain3` applied to the Reader's chain. -/
theorem C01_chain3_encoder_jobs_independent (text : TextImpl) (ck j : Nat) (ks : List Kind3) (ent : Ent) (sb : Bool)
    (bs : Option Nat) (obuf : Nat) (b : List Nat) :
    encodeTaskGen2 ⟨ck, kind3Trs text ks, ent, sb, bs⟩ obuf b =
      encodeTaskGen2 ⟨ck, kind3Trs text (ks.map (Kind3.setJobs j)), ent, sb, bs⟩ obuf b :=
  encodeTaskGen2_encEq ck _ _ (kind3Trs_setJobs text j ks) ent sb bs obuf b

/-- Writer tasks with the job counts of `ks`, Reader task with `j ≥ 1` jobs for every BWT stage -/
theorem C01_codec_chain3_jobs (text : TextImpl) (ck j : Nat) (hj : 1 ≤ j) (ks : List Kind3) (ent : Ent) (sb : Bool)
    (B obuf : Nat) (b : List Nat) (hn : ks.length ≤ 8) (htext : Kind3.text ∈ ks → TextLaw text)
    (hent : IsModelledEnt ent)
    (hbytes : ∀ x ∈ b, x < 256) (h0 : 0 < b.length) (hB : b.length ≤ B) (hmax : B ≤ 2 ^ 30) :
    ∃ p, encodeTaskGen2 ⟨ck, kind3Trs text ks, ent, sb, some B⟩ obuf b = .ok p ∧
      ((Kind3.text ∈ ks → p.length ≤ 2 ^ 34) →
        decodeTaskGen2 ⟨ck, kind3Trs text (ks.map (Kind3.setJobs j)), ent, sb, some B⟩ B p = ⟨b.length, .ok b⟩) := by
  rw [C01_chain3_encoder_jobs_independent text ck j ks ent sb (some B) obuf b]
  have hmem : Kind3.text ∈ ks.map (Kind3.setJobs j) → Kind3.text ∈ ks := by
    intro h
    obtain ⟨k', hk', he⟩ := List.mem_map.mp h
    cases k' <;> first | exact hk' | cases he
  have hwf : ∀ k ∈ ks.map (Kind3.setJobs j), k.WF := by
    intro k hk
    obtain ⟨k', _, rfl⟩ := List.mem_map.mp hk
    cases k' <;> first | exact hj | trivial
  obtain ⟨p, h1, h2⟩ := C01_codec_chain3 text ck (ks.map (Kind3.setJobs j)) ent sb B obuf b (by simpa using hn) hwf
    (fun h => htext (hmem h)) hent hbytes h0 hB hmax
  exact ⟨p, h1, fun hp => h2 (fun h => hp (hmem h))⟩

/-! ## 4. the size limits of the transforms

A stage whose input is outside the sizes its Go code accepts DECLINES (the block goes on untransformed to the next
stage); `C01_codec_chain3` covers these branches.  The limits: -/

theorem C01_chain3_size_limits (text : TextImpl) (dt : Nat) (x : List Nat) (d : Nat) (hd : 0 < d) :
    (x.length > 2 ^ 28 - 1 → ∃ e, (Kind3.exe.tr text).fwd dt x d = .error e) ∧
    (x.length > 2 ^ 30 → ∃ e, (Kind3.rolz.tr text).fwd dt x d = .error e) ∧
    (x.length > 2 ^ 30 → ∃ e, (Kind3.rolzx.tr text).fwd dt x d = .error e) ∧
    (x.length > 2 ^ 30 → ∀ j, ∃ e, ((Kind3.bwt j).tr text).fwd dt x d = .error e) ∧
    (x.length > 2 ^ 30 → ∃ e, (Kind3.bwts.tr text).fwd dt x d = .error e) ∧
    (0 < x.length → x.length < 4096 → ∃ e, (Kind3.exe.tr text).fwd dt x d = .error e) ∧
    (0 < x.length → x.length < 1024 → ∃ e, (Kind3.utf.tr text).fwd dt x d = .error e) ∧
    (0 < x.length → x.length < 64 → ∃ e, (Kind3.rolz.tr text).fwd dt x d = .error e) ∧
    (0 < x.length → x.length < 64 → ∃ e, (Kind3.rolzx.tr text).fwd dt x d = .error e) := by
  refine ⟨fun h => ?_, fun h => ?_, fun h => ?_, fun h j => ?_, fun h => ?_, fun h0 h => ?_, fun h0 h => ?_,
    fun h0 h => ?_, fun h0 h => ?_⟩
  · show ∃ e, ofRlt (EXE.exeForward (some dt) x d) = .error e
    simp only [EXE.exeForward]
    rw [if_neg (by omega), if_neg (by simp only [EXE.MIN_BLOCK_SIZE]; omega),
      if_pos (by simp only [EXE.MAX_BLOCK_SIZE]; omega)]
    exact ⟨_, rfl⟩
  · show ∃ e, ofRolzF (ROLZ.rolzForward _ _ true dt x d) = .error e
    unfold ROLZ.rolzForward
    rw [if_neg (by omega), if_neg (by unfold ROLZ.MIN_BLOCK_SIZE; omega), if_pos (by unfold ROLZ.MAX_BLOCK_SIZE; omega)]
    exact ⟨_, rfl⟩
  · show ∃ e, ofRolzF (ROLZ.rolzxForward _ _ true dt x d) = .error e
    unfold ROLZ.rolzxForward
    rw [if_neg (by omega), if_neg (by unfold ROLZ.MIN_BLOCK_SIZE; omega), if_pos (by unfold ROLZ.MAX_BLOCK_SIZE; omega)]
    exact ⟨_, rfl⟩
  · show ∃ e, ofBwtF (BWT.blockForward x d) = .error e
    rcases blockForward_cases x d with ⟨_, _⟩ | ⟨_, e, he⟩ | ⟨_, hmax, _, _⟩
    · omega
    · rw [he]
      exact ⟨e, rfl⟩
    · unfold BWT.MAX_BLOCK_SIZE at hmax
      omega
  · show ∃ e, ofBwts (bwtsSpecForward x d) = .error e
    unfold bwtsSpecForward
    rw [if_neg (by omega)]
    split
    · exact ⟨_, rfl⟩
    · rw [if_pos (by unfold BWTS.maxBlockSize; omega)]; exact ⟨_, rfl⟩
  · show ∃ e, ofRlt (EXE.exeForward (some dt) x d) = .error e
    simp only [EXE.exeForward]
    rw [if_neg (by omega), if_pos (by simp only [EXE.MIN_BLOCK_SIZE]; omega)]
    exact ⟨_, rfl⟩
  · show ∃ e, ofRlt (UTF.utfForward dt x d) = .error e
    unfold UTF.utfForward
    rw [if_neg (by omega), if_pos (by unfold UTF.MIN_BLOCKSIZE; omega)]
    exact ⟨_, rfl⟩
  · show ∃ e, ofRolzF (ROLZ.rolzForward _ _ true dt x d) = .error e
    unfold ROLZ.rolzForward
    rw [if_neg (by omega), if_pos (by unfold ROLZ.MIN_BLOCK_SIZE; omega)]
    exact ⟨_, rfl⟩
  · show ∃ e, ofRolzF (ROLZ.rolzxForward _ _ true dt x d) = .error e
    unfold ROLZ.rolzxForward
    rw [if_neg (by omega), if_pos (by unfold ROLZ.MIN_BLOCK_SIZE; omega)]
    exact ⟨_, rfl⟩

/-! ## 5. what a header announces -/

/-- C01_codec_of_header3: whatever a header announces over the nineteen transform names (`cfgOfHeader3 … = some c`) with
entropy NONE / HUFFMAN / RANGE / ANS0 / ANS1, the configuration the Reader derives from it (tasks with `jobs ≥ 1` jobs)
decodes what a Writer with the same parameters (skipBlocks on or off, any buffer history) encoded — if the transform
word names TEXT (token 10): under `TextLaw text`, for a payload within the frame bound. -/
theorem C01_codec_of_header3 (text : TextImpl) (jobs : Nat) (hj : 1 ≤ jobs) (h : Header) (sb : Bool) (c : Cfg2)
    (hc : cfgOfHeader3 text jobs h false = some c) (hE : uncondEntropy h.entropyType)
    (htext : (seqTokens h.transformType).contains 10 = true → TextLaw text)
    (obuf : Nat) (b : List Nat) (hbytes : ∀ x ∈ b, x < 256) (h0 : 0 < b.length) (hB : b.length ≤ h.blockSize)
    (hmax : h.blockSize ≤ 2 ^ 30) :
    ∃ p, encodeTaskGen2 { c with skipBlocks := sb } obuf b = .ok p ∧
      (((seqTokens h.transformType).contains 10 = true → p.length ≤ 2 ^ 34) →
        decodeTaskGen2 c h.blockSize p = ⟨b.length, .ok b⟩) := by
  obtain ⟨_, _, hbs, he, ks, _, htrs, hn, hwf, htok⟩ := cfgOfHeader3_spec text jobs hj h false c hc
  obtain ⟨p, h1, h2, _⟩ := block_roundtrip3 text { c with skipBlocks := sb } ks htrs hn hwf (fun hm => htext (htok hm))
    h.blockSize obuf b hbs
    (entLawAt_of_law _ _ (entLaw_modelled _ (entOf2_modelled _ _ he hE) _) _) hbytes h0 hB hmax
  exact ⟨p, h1, fun hp => h2 (fun hm => hp (htok hm))⟩

/-- the claim about the decoding task under a condition `L` on the payload that is asked for only in case `T`
(TEXT occurs in the chain), read with `L` asked for outright -/
theorem outright {α : Type} {E L D : α → Prop} {T : Prop} (h : ∃ p, E p ∧ ((T → L p) → D p)) :
    ∃ p, E p ∧ (L p → D p) :=
  h.imp fun _ h => ⟨h.1, fun hp => h.2 fun _ => hp⟩

/-! ## 6. the CLI levels

All of them contain TEXT: the claim about the decoding task is for a payload within the Reader's frame bound of 2^34
bits (`p.length ≤ 2 ^ 34 → …`), except level 4 (entropy NONE), where that bound is proved. -/

/-- **C01_level3**: `kanzi -l 3` = TEXT+UTF+PACK+MM+LZX / HUFFMAN.  Residual hypotheses: `TextLaw text`; the claim about
the decoding task is for a payload of at most 2^34 bits. -/
theorem C01_level3 (text : TextImpl) (htext : TextLaw text) (ck : Nat) (sb : Bool) (B obuf : Nat) (b : List Nat)
    (hbytes : ∀ x ∈ b, x < 256) (h0 : 0 < b.length) (hB : b.length ≤ B) (hmax : B ≤ 2 ^ 30) :
    ∃ p, encodeTaskGen2 ⟨ck, kind3Trs text [.text, .utf, .old (Kind.alias false), .old .fsd, .old (.lz true)], hufEnt,
        sb, some B⟩ obuf b = .ok p ∧
      (p.length ≤ 2 ^ 34 →
        decodeTaskGen2 ⟨ck, kind3Trs text [.text, .utf, .old (Kind.alias false), .old .fsd, .old (.lz true)], hufEnt,
          sb, some B⟩ B p = ⟨b.length, .ok b⟩) :=
  outright (C01_codec_chain3 text ck _ hufEnt sb B obuf b (by decide) (by decide) (fun _ => htext)
    (Or.inr (Or.inr (Or.inr (Or.inr rfl)))) hbytes h0 hB hmax)

/-- **C01_level4**: `kanzi -l 4` = TEXT+UTF+EXE+PACK+MM+ROLZ / NONE.  Residual hypothesis: `TextLaw text` only. -/
theorem C01_level4 (text : TextImpl) (htext : TextLaw text) (ck : Nat) (sb : Bool) (B obuf : Nat) (b : List Nat)
    (hbytes : ∀ x ∈ b, x < 256) (h0 : 0 < b.length) (hB : b.length ≤ B) (hmax : B ≤ 2 ^ 30) :
    ∃ p, encodeTaskGen2 ⟨ck, kind3Trs text [.text, .utf, .exe, .old (Kind.alias false), .old .fsd, .rolz], noneEnt, sb,
        some B⟩ obuf b = .ok p ∧
      decodeTaskGen2 ⟨ck, kind3Trs text [.text, .utf, .exe, .old (Kind.alias false), .old .fsd, .rolz], noneEnt, sb,
        some B⟩ B p = ⟨b.length, .ok b⟩ :=
  C01_codec_chain3_none text ck _ sb B obuf b (by decide) (by decide) (fun _ => htext) hbytes h0 hB hmax

/-- **C01_level5**: `kanzi -l 5` = TEXT+UTF+BWT+RANK+ZRLT / ANS0, the decoding task with `jobs ≥ 1` jobs.  Residual
hypotheses: `TextLaw text`, payload of at most 2^34 bits (and: forward BWT = its specification). -/
theorem C01_level5 (text : TextImpl) (htext : TextLaw text) (jobs : Nat) (hj : 1 ≤ jobs) (ck : Nat) (sb : Bool)
    (B obuf : Nat) (b : List Nat)
    (hbytes : ∀ x ∈ b, x < 256) (h0 : 0 < b.length) (hB : b.length ≤ B) (hmax : B ≤ 2 ^ 30) :
    ∃ p, encodeTaskGen2 ⟨ck, kind3Trs text [.text, .utf, .bwt jobs, .old (.sbrt 2), .old .zrlt], ans0Ent, sb,
        some B⟩ obuf b = .ok p ∧
      (p.length ≤ 2 ^ 34 →
        decodeTaskGen2 ⟨ck, kind3Trs text [.text, .utf, .bwt jobs, .old (.sbrt 2), .old .zrlt], ans0Ent, sb,
          some B⟩ B p = ⟨b.length, .ok b⟩) :=
  outright (C01_codec_chain3 text ck _ ans0Ent sb B obuf b (by simp)
    (by simp only [List.forall_mem_cons, Kind3.WF, hj, List.not_mem_nil, false_imp_iff, implies_true, and_self])
    (fun _ => htext) (Or.inr (Or.inl rfl)) hbytes h0 hB hmax)

/-- **C01_level6_partial**: `kanzi -l 6` = TEXT+UTF+BWT+SRT+ZRLT / FPAQ.  Residual hypotheses: `TextLaw text`, payload of
at most 2^34 bits, and `fFits2` (the FPAQ decoder's acceptance test) on the block handed to the entropy coder. -/
theorem C01_level6_partial (text : TextImpl) (htext : TextLaw text) (jobs : Nat) (hj : 1 ≤ jobs) (ck : Nat) (sb : Bool)
    (B obuf : Nat) (b : List Nat)
    (hf2 : Fpaq.fFits2 Fpaq.DEFAULT_CHUNK
      (postBlock (kind3Trs text [.text, .utf, .bwt jobs, .old .srt, .old .zrlt]) (some B) obuf b) = true)
    (hbytes : ∀ x ∈ b, x < 256) (h0 : 0 < b.length) (hB : b.length ≤ B) (hmax : B ≤ 2 ^ 30) :
    ∃ p, encodeTaskGen2 ⟨ck, kind3Trs text [.text, .utf, .bwt jobs, .old .srt, .old .zrlt], fpaqEnt, sb,
        some B⟩ obuf b = .ok p ∧
      (p.length ≤ 2 ^ 34 →
        decodeTaskGen2 ⟨ck, kind3Trs text [.text, .utf, .bwt jobs, .old .srt, .old .zrlt], fpaqEnt, sb,
          some B⟩ B p = ⟨b.length, .ok b⟩) :=
  outright (C01_codec_chain3_fpaq_partial text ck _ sb B obuf b (by simp)
    (by simp only [List.forall_mem_cons, Kind3.WF, hj, List.not_mem_nil, false_imp_iff, implies_true, and_self])
    (fun _ => htext) hf2 hbytes h0 hB hmax)

/-- **C01_level7_partial**: `kanzi -l 7` = LZP+TEXT+UTF+BWT+LZP / CM.  Residual hypotheses: `TextLaw text`, payload of at
most 2^34 bits, `fits2`. -/
theorem C01_level7_partial (text : TextImpl) (htext : TextLaw text) (jobs : Nat) (hj : 1 ≤ jobs) (ck : Nat) (sb : Bool)
    (B obuf : Nat) (b : List Nat)
    (hf2 : BinEnt.fits2 cmPred BinEnt.MAX_CHUNK (CM.cmInit false)
      (postBlock (kind3Trs text [.old .lzp, .text, .utf, .bwt jobs, .old .lzp]) (some B) obuf b) = true)
    (hbytes : ∀ x ∈ b, x < 256) (h0 : 0 < b.length) (hB : b.length ≤ B) (hmax : B ≤ 2 ^ 30) :
    ∃ p, encodeTaskGen2 ⟨ck, kind3Trs text [.old .lzp, .text, .utf, .bwt jobs, .old .lzp], cmEnt, sb,
        some B⟩ obuf b = .ok p ∧
      (p.length ≤ 2 ^ 34 →
        decodeTaskGen2 ⟨ck, kind3Trs text [.old .lzp, .text, .utf, .bwt jobs, .old .lzp], cmEnt, sb,
          some B⟩ B p = ⟨b.length, .ok b⟩) :=
  outright (C01_codec_chain3_cm_partial text ck _ sb B obuf b (by simp)
    (by simp only [List.forall_mem_cons, Kind3.WF, hj, List.not_mem_nil, false_imp_iff, implies_true, and_self])
    (fun _ => htext) hf2 hbytes h0 hB hmax)

/-- **C01_level8_partial**: `kanzi -l 8` = EXE+RLT+TEXT+UTF+DNA / TPAQ (RLT is not `fast` with TPAQ).  Residual
hypotheses: `TextLaw text`, payload of at most 2^34 bits, `tpaqFits false` (predictor construction + `fits2`). -/
theorem C01_level8_partial (text : TextImpl) (htext : TextLaw text) (ck : Nat) (sb : Bool) (B obuf : Nat) (b : List Nat)
    (hf2 : tpaqFits false B
      (postBlock (kind3Trs text [.exe, .old (.rlt false), .text, .utf, .old (Kind.alias true)]) (some B) obuf b))
    (hbytes : ∀ x ∈ b, x < 256) (h0 : 0 < b.length) (hB : b.length ≤ B) (hmax : B ≤ 2 ^ 30) :
    ∃ p, encodeTaskGen2 ⟨ck, kind3Trs text [.exe, .old (.rlt false), .text, .utf, .old (Kind.alias true)],
        tpaqEnt false B, sb, some B⟩ obuf b = .ok p ∧
      (p.length ≤ 2 ^ 34 →
        decodeTaskGen2 ⟨ck, kind3Trs text [.exe, .old (.rlt false), .text, .utf, .old (Kind.alias true)],
          tpaqEnt false B, sb, some B⟩ B p = ⟨b.length, .ok b⟩) :=
  outright (C01_codec_chain3_tpaq_partial false text ck _ sb B obuf b (by decide) (by decide) (fun _ => htext)
    hf2 hbytes h0 hB hmax)

/-- **C01_level9_partial**: `kanzi -l 9` = EXE+RLT+TEXT+UTF+DNA / TPAQX.  Residual hypotheses: `TextLaw text`, payload of
at most 2^34 bits, `tpaqFits true`. -/
theorem C01_level9_partial (text : TextImpl) (htext : TextLaw text) (ck : Nat) (sb : Bool) (B obuf : Nat) (b : List Nat)
    (hf2 : tpaqFits true B
      (postBlock (kind3Trs text [.exe, .old (.rlt false), .text, .utf, .old (Kind.alias true)]) (some B) obuf b))
    (hbytes : ∀ x ∈ b, x < 256) (h0 : 0 < b.length) (hB : b.length ≤ B) (hmax : B ≤ 2 ^ 30) :
    ∃ p, encodeTaskGen2 ⟨ck, kind3Trs text [.exe, .old (.rlt false), .text, .utf, .old (Kind.alias true)],
        tpaqEnt true B, sb, some B⟩ obuf b = .ok p ∧
      (p.length ≤ 2 ^ 34 →
        decodeTaskGen2 ⟨ck, kind3Trs text [.exe, .old (.rlt false), .text, .utf, .old (Kind.alias true)],
          tpaqEnt true B, sb, some B⟩ B p = ⟨b.length, .ok b⟩) :=
  outright (C01_codec_chain3_tpaq_partial true text ck _ sb B obuf b (by decide) (by decide) (fun _ => htext)
    hf2 hbytes h0 hB hmax)

/-- the chains and codecs of `C01_level3` … `C01_level9_partial` ARE what the level table of the tool
(`Generated/Levels.lean`, regenerated from v2/app on every check) selects, through `transform.GetType` /
`entropy.GetType` (model functions of `Names`), `transform.New` (`newSeq3`, for a task with any job count) and the
entropy factory (`entOf3`, for any block size).  Levels 0..2: `C01_levels_modelled`.  (`C01_levels_out_of_reach`
of `C01_blockgen2` only says that the twelve-kind model `newSeq2` has no sequence for the levels 3..9.) -/
theorem C01_levels_all_modelled :
    Generated.Levels.levels.length = 10 ∧
    Generated.Levels.levels.drop 3 =
      [(3, "TEXT+UTF+PACK+MM+LZX", "HUFFMAN"), (4, "TEXT+UTF+EXE+PACK+MM+ROLZ", "NONE"),
       (5, "TEXT+UTF+BWT+RANK+ZRLT", "ANS0"), (6, "TEXT+UTF+BWT+SRT+ZRLT", "FPAQ"),
       (7, "LZP+TEXT+UTF+BWT+LZP", "CM"), (8, "EXE+RLT+TEXT+UTF+DNA", "TPAQ"), (9, "EXE+RLT+TEXT+UTF+DNA", "TPAQX")] ∧
    Names.getType Generated.Names.transformTokens "TEXT+UTF+PACK+MM+LZX" = .ok (Names.chainType [10, 17, 18, 15, 16]) ∧
    Names.getType Generated.Names.transformTokens "TEXT+UTF+EXE+PACK+MM+ROLZ" =
      .ok (Names.chainType [10, 17, 9, 18, 15, 11]) ∧
    Names.getType Generated.Names.transformTokens "TEXT+UTF+BWT+RANK+ZRLT" = .ok (Names.chainType [10, 17, 1, 8, 6]) ∧
    Names.getType Generated.Names.transformTokens "TEXT+UTF+BWT+SRT+ZRLT" = .ok (Names.chainType [10, 17, 1, 13, 6]) ∧
    Names.getType Generated.Names.transformTokens "LZP+TEXT+UTF+BWT+LZP" = .ok (Names.chainType [14, 10, 17, 1, 14]) ∧
    Names.getType Generated.Names.transformTokens "EXE+RLT+TEXT+UTF+DNA" = .ok (Names.chainType [9, 5, 10, 17, 19]) ∧
    Names.entropyType Generated.Names.entropyTokens "HUFFMAN" = .ok 1 ∧
    Names.entropyType Generated.Names.entropyTokens "NONE" = .ok 0 ∧
    Names.entropyType Generated.Names.entropyTokens "ANS0" = .ok 5 ∧
    Names.entropyType Generated.Names.entropyTokens "FPAQ" = .ok 2 ∧
    Names.entropyType Generated.Names.entropyTokens "CM" = .ok 6 ∧
    Names.entropyType Generated.Names.entropyTokens "TPAQ" = .ok 7 ∧
    Names.entropyType Generated.Names.entropyTokens "TPAQX" = .ok 9 ∧
    (∀ jobs,
      newSeq3 (Names.chainType [10, 17, 18, 15, 16]) 1 jobs =
        some [.text, .utf, .old (Kind.alias false), .old .fsd, .old (.lz true)] ∧
      newSeq3 (Names.chainType [10, 17, 9, 18, 15, 11]) 0 jobs =
        some [.text, .utf, .exe, .old (Kind.alias false), .old .fsd, .rolz] ∧
      newSeq3 (Names.chainType [10, 17, 1, 8, 6]) 5 jobs = some [.text, .utf, .bwt jobs, .old (.sbrt 2), .old .zrlt] ∧
      newSeq3 (Names.chainType [10, 17, 1, 13, 6]) 2 jobs = some [.text, .utf, .bwt jobs, .old .srt, .old .zrlt] ∧
      newSeq3 (Names.chainType [14, 10, 17, 1, 14]) 6 jobs = some [.old .lzp, .text, .utf, .bwt jobs, .old .lzp] ∧
      newSeq3 (Names.chainType [9, 5, 10, 17, 19]) 7 jobs =
        some [.exe, .old (.rlt false), .text, .utf, .old (Kind.alias true)] ∧
      newSeq3 (Names.chainType [9, 5, 10, 17, 19]) 9 jobs =
        some [.exe, .old (.rlt false), .text, .utf, .old (Kind.alias true)]) ∧
    (∀ B, entOf3 B 1 = some hufEnt ∧ entOf3 B 0 = some noneEnt ∧ entOf3 B 5 = some ans0Ent ∧
      entOf3 B 2 = some fpaqEnt ∧ entOf3 B 6 = some cmEnt ∧ entOf3 B 7 = some (tpaqEnt false B) ∧
      entOf3 B 9 = some (tpaqEnt true B)) := by
  refine ⟨by decide +kernel, by decide +kernel, by decide +kernel, by decide +kernel, by decide +kernel, by decide +kernel,
    by decide +kernel, by decide +kernel, by decide +kernel, by decide +kernel, by decide +kernel, by decide +kernel,
    by decide +kernel, by decide +kernel, by decide +kernel, fun jobs => ?_, fun B => ?_⟩
  · exact ⟨rfl, rfl, rfl, rfl, rfl, rfl, rfl⟩
  · exact ⟨rfl, rfl, rfl, rfl, rfl, rfl, rfl⟩

/-- every name of a level is a name of the model; the twelve-kind model of `C01_blockgen2` is the restriction -/
theorem C01_newSeq3_extends (ft e jobs : Nat) (ks : List Kind) (h : newSeq2 ft e = some ks) :
    newSeq3 ft e jobs = some (ks.map Kind3.old) :=
  newSeq3_of_newSeq2 ft e jobs ks h

/-! ## 7. whole streams -/

/-- **C01_stream_image_chain3_partial.**  `cd` = the configuration the Reader derives from the header (tasks with `rj ≥
1` jobs), the Writer's tasks use the same with skipBlocks on or off, ANY job count `jobs` (the tasks' buffer lengths
are threaded by `streamImageGen2`).  If every payload respects the reader's `maxFrameLength` bound (`FrameFit`: an
explicit size condition — no size bound is proved for HUFFMAN / RANGE / ANS1 / ANS0 here), the image exists and
reading it back yields the header, exactly the blocks, and stops at the end marker.  Under `TextLaw text` if the
transform word names TEXT. -/
theorem C01_stream_image_chain3_partial (text : TextImpl) (rj : Nat) (hrj : 1 ≤ rj) (h : Header) (wf : WF h) (cd : Cfg2)
    (hcfg : cfgOfHeader3 text rj h false = some cd) (hE : uncondEntropy h.entropyType)
    (htext : (seqTokens h.transformType).contains 10 = true → TextLaw text)
    (sb : Bool) (jobs : Nat) (blocks : List (List Nat)) (hv : ValidBlocks h.blockSize blocks)
    (hfit : ∀ b ∈ blocks, ∀ obuf p, encodeTaskGen2 { cd with skipBlocks := sb } obuf b = .ok p →
      p.length ≤ maxFrameBits h.blockSize) :
    ∃ img, streamImageGen2 h { cd with skipBlocks := sb } jobs blocks = .ok img ∧
      parseImageGen3 text rj img = (some h, blocks, .endOfStream) := by
  apply parseImageGen3_streamImageGen2 text rj h wf _ cd jobs hcfg blocks
  intro b hb
  obtain ⟨h0, hB, hx⟩ := hv b hb
  refine ⟨fun obuf => ?_, h0, hB⟩
  obtain ⟨p, hp, hd⟩ := C01_codec_of_header3 text rj hrj h sb cd hcfg hE htext obuf b hx h0 hB wf.bsHi
  have hf := frameFit_of_le (encodeTaskGen2_length_ge hp) (hfit b hb obuf p hp)
  exact ⟨p, hp, hd (fun _ => Nat.le_of_lt hf.2.1), hf⟩

/-- **C01_stream_image_chain3_none**: NO size hypothesis for entropy NONE — in particular for the streams of
`kanzi -l 4`: every well-formed header announcing entropy NONE and a transform word over the nineteen names, every list
of blocks of 1..blockSize bytes, any job counts, skipBlocks on or off: the image parses back to the blocks. -/
theorem C01_stream_image_chain3_none (text : TextImpl) (rj : Nat) (hrj : 1 ≤ rj) (h : Header) (wf : WF h)
    (hent : h.entropyType = 0) (cd : Cfg2) (hcfg : cfgOfHeader3 text rj h false = some cd)
    (htext : (seqTokens h.transformType).contains 10 = true → TextLaw text)
    (sb : Bool) (jobs : Nat) (blocks : List (List Nat)) (hv : ValidBlocks h.blockSize blocks) :
    ∃ img, streamImageGen2 h { cd with skipBlocks := sb } jobs blocks = .ok img ∧
      parseImageGen3 text rj img = (some h, blocks, .endOfStream) := by
  obtain ⟨_, _, hbs, he, ks, _, htrs, hn, hwf, htok⟩ := cfgOfHeader3_spec text rj hrj h false cd hcfg
  have ht : Kind3.text ∈ ks → TextLaw text := fun hm => htext (htok hm)
  rw [hent] at he
  have hne : cd.ent = noneEnt := (Option.some.inj he).symm
  apply parseImageGen3_streamImageGen2 text rj h wf _ cd jobs hcfg blocks
  intro b hb
  obtain ⟨h0, hB, hx⟩ := hv b hb
  refine ⟨fun obuf => ?_, h0, hB⟩
  obtain ⟨p, h1, h2, h3⟩ := block_roundtrip3' text { cd with skipBlocks := sb } ks htrs hn hwf ht (Or.inr hne)
    h.blockSize obuf b hbs
    (entLawAt_of_law _ _ (entLaw_modelled _ (entOf2_modelled _ _ he (Or.inl rfl)) _) _) hx h0 hB wf.bsHi
  exact ⟨p, h1, h2, h3 hne⟩

/-! ## 8. the hypotheses are satisfiable; examples -/

/-- a header of level 5 without TEXT: XXHash32, ANS0, UTF+BWT+RANK+ZRLT, 4 MiB blocks; ROLZ next to ROLZX is built as
ROLZX; PACK after DNA as DNA -/
example : WF (mkHeader 1 5 (Names.chainType [17, 1, 8, 6]) 4194304 0) ∧
    newSeq3 (Names.chainType [17, 1, 8, 6]) 5 3 = some [.utf, .bwt 3, .old (.sbrt 2), .old .zrlt] ∧
    newSeq3 (Names.chainType [11, 12]) 0 1 = some [.rolzx, .rolzx] ∧
    newSeq3 (Names.chainType [11, 2]) 0 1 = some [.rolz, .bwts] ∧
    newSeq3 (Names.chainType [19, 18, 9]) 8 1 = some [.old (Kind.alias true), .old (Kind.alias true), .exe] := by decide

example : (∀ k ∈ [Kind3.utf, .bwt 3, .old (.sbrt 2), .old .zrlt], k.WF) ∧ Kind3.text ∉ [Kind3.utf, .bwt 3, .old .zrlt] := by
  decide

end Kanzi.C01gen
