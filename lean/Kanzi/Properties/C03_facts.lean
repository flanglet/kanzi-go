/-
C03 (fact-base part) — every goroutine that runs codec code recovers from panics.

`Kanzi.Generated.GoSites` is REGENERATED from /repo on every check (`kv facts -which GoSites`, syntax
only: go/parser + go/ast).  The theorem below is `decide` over that term, so it stops compiling as
soon as /repo gains a `go` statement whose spawned function does not start a deferred `recover()`,
a new `go` statement in the CLI, or loses the recover in one of the caller-goroutine entry points.

Meaning of `recovers` (computed by the extractor, see harness/cmd/kv/facts_ast.go): the body of the
spawned function — the func literal itself, or the same-package function/method named in the `go`
statement (one level; the receiver type is inferred from the local declaration, otherwise ALL methods
of that name must qualify) — has, among its top-level statements, a `defer func() { … }()` whose
literal body (nested literals excluded) calls the builtin `recover()`.

Not covered: statements executed before that `defer` is reached, a deferred function that re-panics,
goroutines started by packages outside v2/{io,transform,entropy,bitstream,hash,internal,app}.
-/
import Kanzi.Generated.GoSites

namespace Kanzi.C03
open Kanzi.Generated

/-- Finding F12 (known, allow-listed): the CLI's per-file worker goroutines have no recover; only the
main goroutine is wrapped (`runWithRecovery` in app/Kanzi.go).  Harmless as long as no library call
panics on the caller's goroutine (that is what `callerSites` + the F2/F8 fixes are about).
Entries are (file, enclosing function, spawned callee); the list is compared for EQUALITY, so any
additional `go` statement in v2/app fails the theorem until it is reviewed and listed here. -/
def appAllowed : List (String × String × String) := [
  ("app/BlockCompressor.go", "BlockCompressor.Compress", "fileCompressWorker"),
  ("app/BlockDecompressor.go", "BlockDecompressor.Decompress", "fileDecompressWorker")]

/-- functions of v2/io that run codec or listener code on the CALLER's goroutine and therefore carry
their own deferred recover -/
def callerEntryPoints : List String := ["Reader.readHeader", "Writer.writeEndMarker", "notifyListeners"]

/-- C03_every_panic_site_recovered: (1) every `go` statement of the library packages spawns a function
that recovers; (2) the `go` statements of the CLI are exactly the allow-listed ones (F12);
(3) the three caller-goroutine entry points exist and recover. -/
theorem C03_every_panic_site_recovered :
    (∀ s ∈ goSites, s.pkg ≠ "app" → s.recovers = true) ∧
    (goSites.filter (fun s => s.pkg == "app")).map (fun s => (s.file, s.func, s.callee)) = appAllowed ∧
    callerSites.map (fun s => s.callee) = callerEntryPoints ∧
    (∀ s ∈ callerSites, s.recovers = true) := by
  decide +kernel

/-- the fact base is not vacuous: the extractor found the block-task goroutines of v2/io -/
theorem C03_facts_nonvacuous : ∃ s ∈ goSites, s.pkg = "io" ∧ s.recovers = true := by
  decide +kernel

end Kanzi.C03
