/-
C13 for the reduced-offset Lempel-Ziv codecs of v2/transform/ROLZCodec.go: ROLZX (`rolzCodec2`, own adaptive
binary range coder) and ROLZ (`rolzCodec1`, ANS coded side buffers).  Property theorems only; proofs in
`Kanzi/Proofs/RolzCoder.lean` (range coder), `RolzTab.lean` (tables, keys, match verification, `emitCopy`),
`RolzxStep.lean` (one step), `RolzxEnc.lean` (encoder invariants), `RolzxRound.lean` (loops, whole block),
`RolzxTotal.lean`, `RolzxTotal2.lean` (no fault), and for ROLZ `Rolz1*.lean`.
The models (`Kanzi/Model/ROLZX.lean`, `Kanzi/Model/ROLZ1.lean`) mirror the Go code as repaired by 0db08cf
(ROLZX chunk bounds) and cd26df1 (ROLZ token buffers) and are tied to /repo by the `rolz` correspondence
stream (byte-exact outputs of Forward and Inverse, forged inputs included).

Conventions.  `rolzxForward cs lpc hasCtx dt src dstLen` is `ROLZCodec.Forward(src, dst)` with `len(dst) =
dstLen` for a codec built for "ROLZX": `cs` = `_ROLZ_CHUNK_SIZE` (2^24 in Go; the theorems hold for every chunk
size `0 < cs ≤ 2^24`, so the chunk boundary cases are covered at every scale), `lpc` = `logPosChecks` (5 in
Go; any value), `hasCtx` / `dt` = the ctx map and its `dataType` entry (any value: DNA and EXE select other
keys / minimum match lengths; without an entry the type is detected from the block).  `rolzxInverse cs lpc
bsv t dst0` is `Inverse(t, dst)` into a destination whose contents before the call are `dst0`, `bsv` the ctx
entry `bsVersion`.  `.ok` = nil error, `.err` = declined / failed, `.fault` = run-time panic.
"Input left untouched on decline" is not a theorem here (values are immutable); it is an oracle of the stream.

The encoder is heuristic (hash-tagged candidates, first longest match, no claim of optimality); what is proved
is that whatever it emits is decoded back:
  * `C13_rolzx_coder`   the binary range coder round-trips any sequence of symbols;
  * `C13_rolz_sync`     one encoder step and the corresponding decoder step keep positions, match tables
                        (as rings of positions per key), probability tables and coder registers in lock step;
  * `C13_rolzx`         their composition over first literals, main loop, chunks, last literals: the round trip;
  * `C13_rolzx_bound`   size bound;  `C13_rolzx_total`  no fault;
  * `C13_rolz`, `C13_rolz_bound`, `C13_rolz_forward_total`, `C13_rolz_total`  the same for ROLZ (all chunk counts).
-/
import Kanzi.Model.ROLZX
import Kanzi.Model.ROLZ1
import Kanzi.Proofs.RolzxRound
import Kanzi.Proofs.RolzxTotal
import Kanzi.Proofs.RolzxTotal2
import Kanzi.Proofs.Rolz1Total
import Kanzi.Proofs.Rolz1Block

namespace Kanzi.C13
open Kanzi.ROLZ

/-! ## ROLZX: the binary range coder -/

/-- **C13_rolzx_coder.**  The range coder of ROLZX (`rolzEncoder` / `rolzDecoder`: 64-bit carry-less interval
with identical left-over top bytes, 32-bit flushes, 16-bit adaptive probabilities in two context-indexed
tables) round-trips ANY sequence of symbols.  `ys` is a list of symbols (table, context byte, number of bits,
value); the encoder starts after a header `out0` (any bytes), codes them (`setContext` + `encodeBits` each) and
`dispose`s into `out`.  Then a decoder created right after the header (`newRolzDecoder` reads 8 bytes), driven
with the same symbol shapes and the same initial probability tables (every entry below 2^16), returns exactly
the values (their low `n` bits) and has consumed exactly the whole output.  No hypothesis on the probabilities
beyond their 16-bit range: both extremes are safe. -/
theorem C13_rolzx_coder {dstLen lpc : Nat} (out0 : Array Nat) (hout0 : ∀ k, out0.getD k 0 < 256)
    (ys : List Sym) (pl pm : Array Nat) (hpl : ProbOk pl) (hpm : ProbOk pm)
    {r : Enc × Array Nat × Array Nat} (h : encSyms dstLen lpc ys ⟨0, TOP, out0⟩ pl pm = .ok r)
    {out : Array Nat} (hd : r.1.dispose dstLen = .ok out) :
    ∃ d0 d', Dec.init out.toList.toArray out0.size = .ok d0 ∧
      decSyms out.toList.toArray lpc ys d0 pl pm = .ok (ys.map (fun y => y.val % 2 ^ y.n), d') ∧
      d'.idx = out.size :=
  coder_roundtrip out0 hout0 ys pl pm hpl hpm h hd

/-- the bit level: `S` is the complete output of the encoder.  If the encoder state AFTER coding `bit` with
probability `p` is consistent with `S` (`Good`: it has written a prefix of `S` and the 56-bit code value that
follows lies in its interval) then a decoder aligned with the state BEFORE (`DRel`) decodes `bit` and is aligned
with the state after.  (`Good` itself flows backwards from the final state: `encodeBit_back`, `dispose_good`.) -/
theorem C13_rolzx_coder_bit {dstLen : Nat} {S : List Nat} (hS : Bytes S) {e e' : Enc} {d : Dec} (hi : EInv e) {p : Nat}
    (hp : p < 65536) {bit : Bool} (h : e.encodeBit dstLen p bit = .ok e') (hg : Good S e') (hr : DRel S e d) :
    ∃ d', d.decodeBit S.toArray p = .ok (bit, d') ∧ DRel S e' d' :=
  decodeBit_sim hS hi hp h hg hr

/-! ## lock step of encoder and decoder -/

/-- **C13_rolz_sync.**  One iteration of the main loop of ROLZX Forward at position `i` of the chunk
`[base, lim)` (literal, or match length + match index) is mirrored by one iteration of the main loop of Inverse:
if encoder state `sF` and decoder state `sI` are related (`Rel`: aligned range coders, equal probability tables,
the decoder has restored the block below `i`) and their match tables are in lock step (`TRel`: for every key
the RING of remembered positions, most recent first, is the same on both sides - the encoder's entries carry a
hash tag, and the per-key counters may differ, so the tables are not literally equal - and every remembered
position lies before `i`), and the encoder step succeeds, reaching position `i'` and a coder state consistent
with the final output `S`, then the decoder step succeeds, reaches the same `i'`, and both relations hold
again.  Holds for every data-type variant (`ParamsOk`: key of 2 bytes at distance 2 or 3, or hashed key of 8
bytes) and every `logPosChecks`. -/
theorem C13_rolz_sync {S : List Nat} {a : Array Nat} {dstLen dstEnd base lim mm delta lpc i i' : Nat} (hS : Bytes S)
    (ha : ∀ k, a.getD k 0 < 256) (hpar : ParamsOk mm delta) (hmm : 3 ≤ mm ∧ mm ≤ 7)
    (hbi : base + 8 ≤ i) (hlimE : lim ≤ dstEnd) (hchunk : lim - base ≤ 2 ^ 24)
    {sF sF' : FSt} {sI : ISt} (hrel : Rel S a lpc i sF sI) (hsz : lim ≤ sI.dst.size)
    (htr : TRel lpc base lim mm i sF.tab sI.tab)
    (hF : fwdStep a dstLen base lim mm delta lpc i sF = .ok (i', sF')) (hg : Good S sF'.enc) :
    ∃ sI', invStep S.toArray dstEnd base lim mm delta lpc i sI = .ok (i', sI') ∧ Rel S a lpc i' sF' sI' ∧
      sI'.dst.size = sI.dst.size ∧ TRel lpc base lim mm i' sF'.tab sI'.tab ∧ i < i' ∧ i' ≤ lim ∧ Good S sF.enc :=
  step_sim hS ha hpar hmm hbi hlimE hchunk hrel hsz htr hF hg

/-- the shape of the lock-step invariant on the tables: registering a position shifts the ring of its key by
one on both sides and leaves the other keys alone -/
theorem C13_rolz_sync_register {tE tD : Tab} {lpc : Nat} (hE : TabOk tE lpc) (hD : TabOk tD lpc)
    (h : RingEq tE tD lpc) {key : Nat} (hk : key < HASH_SIZE) (vE vD : Nat) (hv : vE % 2 ^ 24 = vD) :
    RingEq (tE.register lpc key vE) (tD.register lpc key vD) lpc :=
  register_ringEq hE hD h hk vE vD hv

/-! ## ROLZX: the whole block -/

/-- **C13_rolzx.**  For every block of byte values, every chunk size `0 < cs ≤ 2^24` (Go: 2^24; multi-chunk
blocks, last chunks shorter than 8 bytes and block lengths `k*cs + 1..11` included - the shapes that were
wrong before 0db08cf), every `logPosChecks`, every ctx / data type hint, and every destination of at least
`MaxEncodedLen` bytes: if Forward succeeds, then Inverse of its output (bitstream version 4 or later) into ANY
destination of at least the original block length (whatever it contained before) succeeds, reports the
original length as bytes written and restores the block exactly. -/
theorem C13_rolzx {cs lpc : Nat} {hasCtx : Bool} {dt : Nat} {src t : List Nat} {dstLen : Nat} (bsv : Nat)
    (dst0 : Array Nat) (hcs : 0 < cs ∧ cs ≤ 2 ^ 24) (hb : ∀ x ∈ src, x < 256) (hbsv : 4 ≤ bsv)
    (hdst : maxEncodedLen2 src.length ≤ dstLen) (hd : src.length ≤ dst0.size)
    (h : rolzxForward cs lpc hasCtx dt src dstLen = .ok t) :
    ∃ dst, rolzxInverse cs lpc bsv t dst0 = .ok (src.length, dst) ∧ dst.size = dst0.size ∧
      ∀ k, k < src.length → dst.getD k 0 = src.getD k 0 :=
  rolzx_roundtrip bsv dst0 hcs hb hbsv hdst hd h

/-- the same with the constants of the Go code -/
theorem C13_rolzx_real {hasCtx : Bool} {dt : Nat} {src t : List Nat} {dstLen : Nat} (dst0 : Array Nat)
    (hb : ∀ x ∈ src, x < 256) (hdst : maxEncodedLen2 src.length ≤ dstLen) (hd : src.length ≤ dst0.size)
    (h : rolzxForward CHUNK_SIZE LOG_POS_CHECKS2 hasCtx dt src dstLen = .ok t) :
    ∃ dst, rolzxInverse CHUNK_SIZE LOG_POS_CHECKS2 6 t dst0 = .ok (src.length, dst) ∧ dst.size = dst0.size ∧
      ∀ k, k < src.length → dst.getD k 0 = src.getD k 0 :=
  rolzx_roundtrip 6 dst0 (by decide) hb (by decide) hdst hd h

/-- **C13_rolzx_bound.**  A successful Forward output is strictly shorter than the block (otherwise Forward
declines with "no compression"), hence fits `MaxEncodedLen`. -/
theorem C13_rolzx_bound {cs lpc : Nat} {hasCtx : Bool} {dt : Nat} {src t : List Nat} {dstLen : Nat}
    (h : rolzxForward cs lpc hasCtx dt src dstLen = .ok t) :
    t.length ≤ src.length ∧ t.length ≤ maxEncodedLen2 src.length := by
  have h1 : t.length ≤ src.length := by
    rcases rolzxForward_len h with h | h
    · rw [h]; exact Nat.zero_le _
    · omega
  refine ⟨h1, ?_⟩
  unfold maxEncodedLen2
  split <;> omega

/-- **C13_rolzx_total.**  Neither direction of ROLZX faults on a block the compressor can hand it, whatever the
number of chunks.  Forward: for EVERY block of byte values, every chunk size `9 ≤ cs ≤ 2^24` (Go: 2^24), every
`logPosChecks ≤ 8` (Go: 5), every ctx / data type hint and every destination of at least `MaxEncodedLen` bytes the
model never reads the block out of range, never runs out of loop fuel, and the range coder never writes past
`dst`.  The room argument has two parts:
  * the test `dstIdx > len(dst) - _ROLZ_DST_MARGIN` (repair 3817ae7) at the head of the main loop leaves 256 bytes
    for one iteration (at most 36 + 4·logPosChecks bytes, one 32-bit flush per coded bit at worst), the 4 last
    literals (144) and `dispose` (8);
  * the 8 first literals of a chunk - and the 4 last literals when they follow them directly, the last chunk
    having at most 8 bytes - are coded WITHOUT any test, right after `reset()`; the crude bound (288 / 432 bytes)
    exceeds what the previous chunk is known to leave (152), so a quantitative one is proved
    (`Kanzi/Proofs/RolzxTotal2.lean`): during the first 12 symbols after `reset()` every probability read is
    within `[22391, 43143]` (a cell is updated at most once per symbol), such a bit keeps more than a third of the
    interval, a flush leaves at least `2^32 - 1` and needs less than `2^24`, hence at least 6 coded bits between
    two flushes: 72 bits emit at most 51 bytes, 108 bits at most 75.
Inverse: on what Forward produced it returns the block (`C13_rolzx`), so it does not fault either. -/
theorem C13_rolzx_total {cs lpc : Nat} {hasCtx : Bool} {dt : Nat} {src : List Nat} {dstLen : Nat}
    (hb : ∀ x ∈ src, x < 256) (hcs : 9 ≤ cs ∧ cs ≤ 2 ^ 24) (hlpc : lpc ≤ 8) (hdst : maxEncodedLen2 src.length ≤ dstLen) :
    (∀ k, rolzxForward cs lpc hasCtx dt src dstLen ≠ .fault k) ∧
    (∀ t bsv dst0, rolzxForward cs lpc hasCtx dt src dstLen = .ok t → 4 ≤ bsv → src.length ≤ dst0.size →
      ∀ k, rolzxInverse cs lpc bsv t dst0 ≠ .fault k) := by
  refine ⟨rolzxForward_nf_multi hb hcs.1 hlpc hdst, fun t bsv dst0 h hbsv hd k => ?_⟩
  obtain ⟨dst, hdst', _⟩ := rolzx_roundtrip bsv dst0 ⟨by omega, hcs.2⟩ hb hbsv hdst hd h
  rw [hdst']
  simp

/-- the one-chunk case (`len ≤ cs + 4`) needs neither the hypothesis on the byte values nor the quantitative
bound: the crude "one flush per bit" suffices there (`MaxEncodedLen ≥ 1088`) -/
theorem C13_rolzx_forward_total_one_chunk {cs lpc : Nat} {hasCtx : Bool} {dt : Nat} {src : List Nat} {dstLen : Nat}
    (hone : src.length ≤ cs + 4) (hlpc : lpc ≤ 8) (hdst : maxEncodedLen2 src.length ≤ dstLen) :
    ∀ k, rolzxForward cs lpc hasCtx dt src dstLen ≠ .fault k :=
  rolzxForward_nf hone hlpc hdst

/-- the quantitative core: a symbol of `n ≤ 9` bits coded in the literal table at most 11 symbols after `reset()`
(`InB`), with `s` bits coded since the last flush (`Pot`), emits at most 4 bytes per 6 bits -/
theorem C13_rolzx_fresh_symbol {dstLen c val k : Nat} (hc : c < 256) (hk : k < 12) (e : Enc) (t : Array Nat) (s : Nat)
    (hsz : t.size = 131072) (hi : EInv e) (hp : Pot e s) (hin : InB k t)
    (hroom : 3 * e.out.size + 2 * s + 2 * 9 + 12 ≤ 3 * dstLen) :
    ∃ e' t' s', encBits dstLen (c <<< 9) val 9 1 e t = .ok (e', t') ∧ Pot e' s' ∧ InB (k + 1) t' ∧
      3 * e'.out.size + 2 * s' ≤ 3 * e.out.size + 2 * s + 2 * 9 := by
  obtain ⟨e', t', s', h1, _, h3, h4, _, h6, _⟩ := encBits_fresh (dstLen := dstLen) (val := val) hc hk 9 1 e t s
    (Nat.le_refl _) (Nat.le_refl _) (by decide) hsz hi hp (inB_succ hin) (fun i _ hi' => hin i hi') hroom
  exact ⟨e', t', s', h1, h3, h4, h6⟩

/-! ## ROLZ (rolzCodec1) -/

/-- **C13_rolz_forward_total.**  ROLZ Forward NEVER faults: for every block (any values, any length, any number
of chunks), every chunk size `cs ≥ 8` (Go: 2^24), every `logPosChecks`, every ctx / data type hint and every
destination size, `rolzForward` returns `.ok` or `.err` (declines), never `.fault`: every read of the block is in
range (keys, hash of 4 bytes at the current position, the 8-byte comparisons of `findMatch`, the lazy check at
the next position), the loops terminate within their fuel, and the four side buffers never overflow:
`litBuf` holds at most one byte per covered position; `lenBuf` (`sizeChunk/5`) gets a byte only for a match of
at least 10 bytes or a literal run of at least 31 bytes, i.e. at most one byte per 10 covered positions;
`tkBuf` / `mIdxBuf` (`sizeChunk/4`) are protected by the decline "too many matches" (repair cd26df1: a block made
of back-to-back 3-byte matches produced one token per 3 bytes and indexed past them), which always leaves room
for the token that follows the last match. -/
theorem C13_rolz_forward_total {cs lpc : Nat} {hasCtx : Bool} {dt : Nat} {src : List Nat} {dstLen : Nat} (hcs : 8 ≤ cs) :
    ∀ k, rolzForward cs lpc hasCtx dt src dstLen ≠ .fault k :=
  rolzForward_nf hcs

/-- the density argument for `lenBuf`: `emitLengthROLZ(v)` stores 1..4 bytes, and never more than `(v + 10) / 10` -/
theorem C13_rolz_length_bytes (v : Nat) :
    1 ≤ (emitLengthBytes v).length ∧ (emitLengthBytes v).length ≤ 4 ∧ 10 * (emitLengthBytes v).length ≤ v + 10 :=
  emitLengthBytes_len v

/-- **C13_rolz.**  ROLZ (`rolzCodec1`).  For every block of byte values, every chunk size `64 ≤ cs ≤ 2^24` (Go:
2^24; multi-chunk blocks included), every `logPosChecks` in `[2, 8]` (the values the constructors accept; the
inverse codec is built with the same one, as the compressor does: 4), every ctx / data type hint (DNA, EXE,
MULTIMEDIA and detection), and every destination of at least `MaxEncodedLen` bytes: if Forward succeeds, then
Inverse of its output (no `bsVersion` entry, or one of at least 4) into ANY destination of at least the original
block length succeeds, reports the original length and restores the block exactly.

The proof composes: the sequence layer (`Kanzi/Proofs/Rolz1Round.lean`: each literal run + match is read back
from token / length / literal / match-index buffers; the positions the encoder visited one by one - with its skip
acceleration and its lazy "next position" check - are re-registered by the decoder's `regRun` in one go, so the
rings of remembered positions stay equal), the bitstream of a chunk (`chunk_transport`: four 32-bit lengths, the
literals through ANS order 0 or 1, tokens / lengths / indexes through ANS order 0, `Close` padding), and the
ANS block round trips of C12 (`C12_ans0_block`, `C12_ans1_block`; repeated in `Rolz1Ans.lean` with the payload
buffer test of `decodeChunkV2`, which an encoder's output always passes). -/
theorem C13_rolz {cs lpc : Nat} {hasCtx : Bool} {dt : Nat} {src t : List Nat} {dstLen : Nat} (hasBsv : Bool)
    (bsv : Nat) (dst0 : Array Nat) (hcs : 64 ≤ cs ∧ cs ≤ 2 ^ 24) (hlpc : 2 ≤ lpc ∧ lpc ≤ 8) (hb : ∀ x ∈ src, x < 256)
    (hbsv : hasBsv = true → 4 ≤ bsv) (hdst : maxEncodedLen1 src.length ≤ dstLen) (hd : src.length ≤ dst0.size)
    (h : rolzForward cs lpc hasCtx dt src dstLen = .ok t) :
    ∃ dst, rolzInverse cs lpc hasBsv bsv t dst0 = .ok (src.length, dst) ∧ dst.size = dst0.size ∧
      ∀ k, k < src.length → dst.getD k 0 = src.getD k 0 :=
  rolz_roundtrip hasBsv bsv dst0 hcs hlpc hb hbsv hdst hd h

/-- the same with the constants of the Go code (codec built by name) -/
theorem C13_rolz_real {hasCtx : Bool} {dt : Nat} {src t : List Nat} {dstLen : Nat} (dst0 : Array Nat)
    (hb : ∀ x ∈ src, x < 256) (hdst : maxEncodedLen1 src.length ≤ dstLen) (hd : src.length ≤ dst0.size)
    (h : rolzForward CHUNK_SIZE LOG_POS_CHECKS1 hasCtx dt src dstLen = .ok t) :
    ∃ dst, rolzInverse CHUNK_SIZE LOG_POS_CHECKS1 false 6 t dst0 = .ok (src.length, dst) ∧ dst.size = dst0.size ∧
      ∀ k, k < src.length → dst.getD k 0 = src.getD k 0 :=
  rolz_roundtrip false 6 dst0 (by decide) (by decide) hb (by intro h; cases h) hdst hd h

/-- **C13_rolz_bound.**  A successful Forward output is strictly shorter than the block, hence fits
`MaxEncodedLen` (which for ROLZ is the block length itself above 512 bytes). -/
theorem C13_rolz_bound {cs lpc : Nat} {hasCtx : Bool} {dt : Nat} {src t : List Nat} {dstLen : Nat}
    (h : rolzForward cs lpc hasCtx dt src dstLen = .ok t) :
    t.length ≤ src.length ∧ t.length ≤ maxEncodedLen1 src.length := by
  have h1 : t.length ≤ src.length := by
    rcases rolzForward_len h with h | h
    · rw [h]; exact Nat.zero_le _
    · omega
  refine ⟨h1, ?_⟩
  unfold maxEncodedLen1
  split <;> omega

/-- **C13_rolz_total.**  Neither direction of ROLZ faults on a block the compressor can hand it: Forward never
faults at all (`C13_rolz_forward_total`), and Inverse, on what Forward produced, returns the block. -/
theorem C13_rolz_total {cs lpc : Nat} {hasCtx : Bool} {dt : Nat} {src : List Nat} {dstLen : Nat}
    (hcs : 64 ≤ cs ∧ cs ≤ 2 ^ 24) (hlpc : 2 ≤ lpc ∧ lpc ≤ 8) (hdst : maxEncodedLen1 src.length ≤ dstLen) :
    (∀ k, rolzForward cs lpc hasCtx dt src dstLen ≠ .fault k) ∧
    (∀ t dst0, rolzForward cs lpc hasCtx dt src dstLen = .ok t → (∀ x ∈ src, x < 256) → src.length ≤ dst0.size →
      ∀ k, rolzInverse cs lpc false 6 t dst0 ≠ .fault k) := by
  refine ⟨rolzForward_nf (by omega), fun t dst0 h hb hd k => ?_⟩
  obtain ⟨dst, hdst', _⟩ := rolz_roundtrip false 6 dst0 hcs hlpc hb (by intro h; cases h) hdst hd h
  rw [hdst']
  simp

/-- the hypotheses are satisfiable: declined blocks, the empty block -/
example : rolzxForward CHUNK_SIZE 5 true 0 [] 100 = .ok [] := by decide
example : rolzxForward CHUNK_SIZE 5 true 0 (List.replicate 63 7) 2000 = .err "small" := by decide
example : rolzxForward CHUNK_SIZE 5 true 0 (List.replicate 64 7) 1087 = .err "dst" := by decide
example : maxEncodedLen2 16384 = 17408 ∧ maxEncodedLen2 16385 = 16897 := by decide
example : (0 < CHUNK_SIZE ∧ CHUNK_SIZE ≤ 2 ^ 24) ∧ (4 : Nat) ≤ 6 ∧ 8 ≤ CHUNK_SIZE := by decide
example : rolzForward CHUNK_SIZE 4 true 0 (List.replicate 63 7) 2000 = .err "small" := by decide
example : maxEncodedLen1 512 = 576 ∧ maxEncodedLen1 513 = 513 := by decide

end Kanzi.C13
