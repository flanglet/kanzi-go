/-
C02 (checksummed streams), hash part — executable models of the block checksums.
The C02 theorems about a checksummed block (`C02_crc_mismatch_detected`, `C02_crc_field_checked` in
`C01_none.lean`) use these hashes through `Block.checksum`; this file is about the two hash functions of
the format themselves (`Kanzi/Model/XXHash.lean`, mirroring /repo/v2/hash/XXHash32.go and XXHash64.go, tied
to the Go code by the `hash` correspondence stream, ops `h32` / `h64`).  Proofs live in `Kanzi/Proofs/XXHash.lean`.
-/
import Kanzi.Model.XXHash
import Kanzi.Proofs.XXHash

namespace Kanzi.C02
open Kanzi.XXHash

/-- the checksums are total functions of (seed, data): a value exists for every input, it is unique
(a function), and nothing but seed and data enters (no state is kept between calls; the Go `Hash`
method only reads `this.seed`) -/
theorem C02_hash_total :
    (∀ (seed : BitVec 32) (data : List Byte), ∃ c : BitVec 32, xxh32 seed data = c ∧
        ∀ c', xxh32 seed data = c' → c' = c) ∧
    (∀ (seed : BitVec 64) (data : List Byte), ∃ c : BitVec 64, xxh64 seed data = c ∧
        ∀ c', xxh64 seed data = c' → c' = c) :=
  ⟨fun _ _ => ⟨_, rfl, fun _ h => h.symm⟩, fun _ _ => ⟨_, rfl, fun _ h => h.symm⟩⟩

/-- the stripe loops of the models stop where the Go loops stop (`for n <= end-16`, `for n <= end-32`):
after them exactly `len mod 16` (`len mod 32`) bytes are left for the tail loops -/
theorem C02_hash_stripes (v32 : Lanes32) (v64 : Lanes64) (data : List Byte) :
    (stripes32 v32 data).2 = data.drop (16 * (data.length / 16)) ∧
    (stripes64 v64 data).2 = data.drop (32 * (data.length / 32)) :=
  ⟨stripes32_tail v32 data, stripes64_tail v64 data⟩

/-- the 32-bit model reproduces the published XXH32 test vectors (seed 0: "", "a", "abc" and a
39-byte text that runs the stripe loop, the word loop and the byte loop) -/
theorem C02_hash_xxh32_vectors :
    xxh32 0#32 [] = 0x02CC5D05#32 ∧ xxh32 0#32 (ascii [0x61]) = 0x550D7456#32 ∧
    xxh32 0#32 (ascii [0x61, 0x62, 0x63]) = 0x32D153FF#32 ∧ xxh32 0#32 spam = 0xE2293B2F#32 :=
  ⟨xxh32_vector_empty, xxh32_vector_a, xxh32_vector_abc, xxh32_vector_spam⟩

end Kanzi.C02
