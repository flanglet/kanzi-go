/-
C12 (TPAQ and TPAQX entropy codecs, whole codec) — the TPAQ / TPAQX codecs of kanzi-go are the
generic binary arithmetic coder (`Kanzi/Properties/C12_binary.lean`) with a fresh `TPAQPredictor`
(`Kanzi/Properties/C12_tpaq.lean`; the `extra` variant for TPAQX) plugged in, exactly as
`entropy.NewEntropyEncoder` / `NewEntropyDecoder` build it for `TPAQ_TYPE` / `TPAQX_TYPE`
(`NewTPAQPredictor(&ctx)` then `NewBinaryEntropyEncoder(bs, predictor)`), one per block.

This file only composes the TPAQ predictor model (`Kanzi/Model/TPAQ.lean`) with the binary coder
model (`Kanzi/Model/BinEnt.lean`), like `C12_cm_codec.lean` does for CM: the TPAQ predictor
model is an instance of the coder's predictor interface (`Get()` returns `pr`; state = the state
before `Get()`), it satisfies the coder's contract on the invariant `TPAQ.R` (`1 ≤ Get() ≤ 4095`),
hence for EVERY constructor context the factory can pass (`ArgsOk`: block size and size ≥ 1 when
given) the encoder never fails and the codec round-trips every non-empty block with exact
consumption — under the one condition the repaired decoder itself imposes (f731923): no chunk
flushes twice the chunk length or more (`fits2`, decidable, computed from the two models; NOT
discharged: it needs a bound on the total code length; the adversaries of the `binent` stream reach
an expansion of 1.35 against TPAQ, 1.30 against TPAQX).
-/
import Kanzi.Properties.C12_binary
import Kanzi.Properties.C12_tpaq

namespace Kanzi.C12
open Kanzi.Bits Kanzi.BinEnt Kanzi.TPAQ

/-- the TPAQ predictor as a predictor of the binary coder (state = the state before `Get()`) -/
def tpaqPred : Pred TPAQ := ⟨tpaqPredGet, tpaqPredUpdate, 4⟩

theorem tpaqPred_shift : tpaqPred.shift = 4 := rfl
theorem tpaqPred_get (s : TPAQ) : tpaqPred.get s = tpaqPredGet s := by simp only [tpaqPred]
theorem tpaqPred_update (s : TPAQ) (b : Bool) : tpaqPred.update s b = tpaqPredUpdate s b := by simp only [tpaqPred]

/-- **C12_tpaq_codec_safe.**  The TPAQ / TPAQX predictor satisfies the contract of the binary coder on
the invariant `TPAQ.R`. -/
theorem C12_tpaq_codec_safe : tpaqPred.Safe R :=
  Pred.Safe.of12 tpaqPred_shift (fun s b h => tpaqPred_update s b ▸ C12_tpaq_pred_safe.1 s b h)
    (fun s h => tpaqPred_get s ▸ C12_tpaq_pred_safe.2.1 s h)

/-- **C12_tpaq_encode_total.**  For every constructor context the factory can pass, the encoder of the
TPAQ / TPAQX codec never fails, whatever the block (≤ 2^30 bytes). -/
theorem C12_tpaq_encode_total (c : Option CtxArgs) (s0 : TPAQ) (hc : ArgsOk c) (hs : tpaqNew c = .ok s0)
    (blk : List Nat) (hlen : blk.length ≤ 2 ^ 30) :
    ∃ out, encodeBlock tpaqPred MAX_CHUNK s0 blk = .ok out :=
  C12_binary_encode_total tpaqPred C12_tpaq_codec_safe MAX_CHUNK s0 (C12_tpaq_init c s0 hc hs) blk hlen

/-- **C12_tpaq_block.**  The TPAQ / TPAQX entropy codec (binary coder + fresh predictor built from the
same context on both sides): for every NON-EMPTY block of bytes of length `≤ 2^30` of which no chunk
doubles in size (`fits2`, the decoder's own acceptance test), `Write` + `Dispose` succeed and `Read`
of the same length on the written bits followed by ANY bits `rest` returns the block and leaves
exactly `rest` unread. -/
theorem C12_tpaq_block (c : Option CtxArgs) (s0 : TPAQ) (hc : ArgsOk c) (hs : tpaqNew c = .ok s0)
    (blk : List Nat) (hne : blk ≠ []) (hb : ∀ v ∈ blk, v < 256)
    (hlen : blk.length ≤ 2 ^ 30) (hfit : fits2 tpaqPred MAX_CHUNK s0 blk = true) :
    ∃ out, encodeBlock tpaqPred MAX_CHUNK s0 blk = .ok out ∧
      ∀ rest : Bits, decodeBlock tpaqPred MAX_CHUNK s0 (out ++ rest) blk.length = .ok (blk, rest) :=
  C12_binary_block_real tpaqPred C12_tpaq_codec_safe s0 (C12_tpaq_init c s0 hc hs) blk hne hb hlen hfit

/-- … and otherwise the decoder rejects the encoder's output: `fits2` is exactly what is missing -/
theorem C12_tpaq_reject (c : Option CtxArgs) (s0 : TPAQ) (hc : ArgsOk c) (hs : tpaqNew c = .ok s0)
    (blk : List Nat) (hne : blk ≠ []) (hb : ∀ v ∈ blk, v < 256)
    (hlen : blk.length ≤ 2 ^ 30) (hfit : fits2 tpaqPred MAX_CHUNK s0 blk = false) :
    ∃ out, encodeBlock tpaqPred MAX_CHUNK s0 blk = .ok out ∧
      ∀ rest : Bits, decodeBlock tpaqPred MAX_CHUNK s0 (out ++ rest) blk.length = .error .invalid :=
  C12_binary_reject tpaqPred C12_tpaq_codec_safe MAX_CHUNK (by decide) (by decide) s0 (C12_tpaq_init c s0 hc hs)
    blk hne hb hlen hfit

end Kanzi.C12
