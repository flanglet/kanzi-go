/-
C13 for the bijective Burrows–Wheeler transform `transform.BWTS` (v2/transform/BWTS.go, "BWTS",
Gil–Scott "BWT Scottified") — property theorems only.
Model: `Kanzi/Model/BWTS.lean` (tied to /repo by the `bwts` correspondence stream); proofs:
`Kanzi/Proofs/BWTSInv.lean` (array level of `Inverse`), `BWTSLex.lean` (Lyndon words, Chen–Fox–Lyndon),
`BWTSOmega.lean` (the order `u^ω < v^ω`), `BWTSSort.lean` (LF mapping on the sorted rotations and its
cycles), `BWTSMatrix.lean`, `BWTSMain.lean` (the cycles in the order of the loops), `BWTSThm.lean`,
`BWTSSA.lean` (the suffix array specification).

Conventions: a block is a `List Nat` of byte values (hypothesis `∀ x ∈ b, x < 256`); the last argument
of `bwtsInverseFill fill` is `len(dst)` of the Go call, `fill` the value of every destination byte
before the call; `.ok t` is `dst[0:written]` with a nil error, `.err` a non-nil error, `.fault` a Go
panic (index out of range).  `maxBlockSize = _BWTS_MAX_BLOCK_SIZE = 2^30`.

WHAT IS PROVED, AND ABOUT WHAT.  The theorems are about
  * `bwtsSpec`, the textbook DEFINITION of the transform (Lyndon factorisation, all rotations of the
    factors sorted by `u^ω ≤ v^ω`, last letters), and
  * `bwtsInverseFill`, the statement-by-statement MODEL of `BWTS.Inverse`.
`BWTS.Forward` is implemented on top of DivSufSort with a repair procedure for the suffix array
(`moveLyndonWordHead`); its model `bwtsForwardFill` (naive suffix array + the modelled repair loops) is
NOT proved equal to `bwtsSpec`: that equality, and `real Forward = bwtsForwardFill`, `real Forward =
bwtsSpec`, `real Inverse = bwtsInverseFill`, are checked by the `bwts` stream (0 differences; ops `s`
and `c` compare the real Forward with `bwtsSpec` directly; exhaustive over all strings of length ≤ 8 on
three letters and ≤ 12 on two letters, and on blocks up to 256 KiB).  So for C13:
  "output fits in MaxEncodedLen"            `C13_bwts_len` (on the definition) + stream oracle (real code)
  "Inverse restores the block exactly"      `C13_bwts_inverse`: model Inverse ∘ definition = id, all blocks
  "neither direction ever faults"           `C13_bwts_total` for Inverse on EVERY byte string (proved);
                                            for Forward: stream oracle only (the model has explicit
                                            faults at every slice access and none was ever reached).
-/
import Kanzi.Model.BWTS
import Kanzi.Proofs.BWTSThm
import Kanzi.Proofs.BWTSSA

namespace Kanzi.C13
open Kanzi.BWTS

/-! ## the definition is well-founded: orders and factorisation -/

/-- `lexLt` is the lexicographic order `<` of core Lean on `List Nat` (a proper prefix is smaller). -/
theorem C13_bwts_lex (u v : List Nat) : lexLt u v = true ↔ u < v := lexLt_iff_lt u v

/-- `omegaLt u v` decides `u^ω < v^ω`: the infinite words `pw u i = u[i mod |u|]` and `pw v` differ
somewhere, and at the first difference `u^ω` has the smaller letter. -/
theorem C13_bwts_omega (u v : List Nat) (hu : u ≠ []) (hv : v ≠ []) :
    omegaLt u v = true ↔ ∃ k, (∀ i, i < k → pw u i = pw v i) ∧ pw u k < pw v k :=
  omegaLt_iff u v hu hv

/-- the executable Lyndon test is the definition: non-empty and strictly smaller than every proper
non-empty suffix. -/
theorem C13_bwts_isLyndon (w : List Nat) : isLyndon w = true ↔ Lyndon w := isLyndon_iff w

/-- C13_bwts_lyndon (Chen–Fox–Lyndon; Duval): `lyndonFactors s = [w1, …, wk]` is a factorisation of
`s` (`w1 ++ … ++ wk = s`) into Lyndon words with `w1 ≥ w2 ≥ … ≥ wk` (no earlier factor is `lexLt` a
later one), and it is the ONLY such factorisation. -/
theorem C13_bwts_lyndon (s : List Nat) :
    ((lyndonFactors s).flatten = s ∧ (∀ w ∈ lyndonFactors s, Lyndon w) ∧
      (lyndonFactors s).Pairwise (fun a b => lexLt a b = false)) ∧
    ∀ fs : List (List Nat), fs.flatten = s → (∀ w ∈ fs, Lyndon w) →
      fs.Pairwise (fun a b => lexLt a b = false) → fs = lyndonFactors s :=
  ⟨lyndonFactors_spec s, fun fs h1 h2 h3 => lyndonFactors_unique s fs ⟨h1, h2, h3⟩⟩

/-- the rows of the matrix are exactly the rotations of the Lyndon factors (as a multiset), sorted
by `u^ω ≤ v^ω`; two rows with the same `^ω` are equal, so ties do not influence the output. -/
theorem C13_bwts_matrix (s : List Nat) :
    (bwtsMatrix s).Perm ((lyndonFactors s).flatMap rotations) ∧
    (bwtsMatrix s).Pairwise (fun a b => SeqLe (pw a) (pw b)) ∧
    ∀ x ∈ bwtsMatrix s, ∀ y ∈ bwtsMatrix s, SeqEq (pw x) (pw y) → x = y := by
  have h := bwtsMatrix_sortedRots s
  exact ⟨bwtsMatrix_perm s, h.sorted, fun x hx y hy e => rotL_antisymm (h.rotl x hx) (h.rotl y hy) e⟩

/-- the suffix array handed to the forward model (in place of DivSufSort, which is not modelled) is
the list of all start positions, the suffixes in strictly increasing lexicographic order. -/
theorem C13_bwts_suffixArray (s : List Nat) :
    (suffixArray s).Perm (List.range s.length) ∧
      (suffixArray s).Pairwise (fun i j => lexLt (s.drop i) (s.drop j) = true) :=
  ⟨suffixArray_perm s, suffixArray_sorted s⟩

/-! ## length -/

/-- C13_bwts_len: the transform has no header: the output of the definition has exactly the length
of the block, which is `MaxEncodedLen`; its letters are letters of the block (so bytes stay bytes). -/
theorem C13_bwts_len (s : List Nat) :
    (bwtsSpec s).length = s.length ∧ (bwtsSpec s).length ≤ maxEncodedLen s.length ∧
      ∀ x ∈ bwtsSpec s, x ∈ s :=
  ⟨bwtsSpec_length s, by rw [bwtsSpec_length]; exact Nat.le_refl _, fun _ h => mem_bwtsSpec h⟩

/-! ## Inverse -/

/-- C13_bwts_total: the model of `BWTS.Inverse` NEVER faults: on any byte string whatsoever and any
destination size.  With a destination at least as long as the input (and an input of at most 2^30
bytes — longer ones are rejected with an error) it succeeds and writes exactly `len` bytes, all of
them bytes, whatever the destination held before.  (Every byte string is a BWTS image.) -/
theorem C13_bwts_total (fill : Nat) (t : List Nat) (d : Nat) (hb : ∀ x ∈ t, x < 256) :
    bwtsInverseFill fill t d ≠ .fault ∧
      (t.length ≤ maxBlockSize → t.length ≤ d →
        ∃ s, bwtsInverseFill fill t d = .ok s ∧ s.length = t.length ∧ ∀ x ∈ s, x < 256) := by
  refine ⟨bwtsInverse_total fill t d hb, fun hmax hd => ?_⟩
  have h := bwtsInverseFill_eq fill t d hb hmax hd
  exact ⟨decode t, h.1, h.2, decode_bytes hb⟩

/-- C13_bwts_inverse (Gil–Scott; Kufleitner): for EVERY block `s` (bytes, at most 2^30 of them) the
model of `BWTS.Inverse`, run on the transform `bwtsSpec s` into any destination of at least the
original length, returns exactly `s`. -/
theorem C13_bwts_inverse (fill : Nat) (s : List Nat) (d : Nat) (hb : ∀ x ∈ s, x < 256)
    (hmax : s.length ≤ maxBlockSize) (hd : s.length ≤ d) :
    bwtsInverseFill fill (bwtsSpec s) d = .ok s :=
  bwtsInverse_bwtsSpec fill s d hb hmax hd

/-- C13_bwts_bijective: the transform is a bijection on the byte strings of each length: what the
model of `BWTS.Inverse` returns on an ARBITRARY byte string `t` is a block whose transform is `t`. -/
theorem C13_bwts_bijective (fill : Nat) (t : List Nat) (d : Nat) (hb : ∀ x ∈ t, x < 256)
    (hmax : t.length ≤ maxBlockSize) (hd : t.length ≤ d) :
    ∃ s, bwtsInverseFill fill t d = .ok s ∧ bwtsSpec s = t :=
  ⟨decode t, (bwtsInverseFill_eq fill t d hb hmax hd).1, bwtsSpec_decode t hb⟩

/-- the two directions as pure functions (`decode` = the function computed by the loops of
`BWTS.Inverse`, see `C13_bwts_total`): mutually inverse. -/
theorem C13_bwts_pure (s : List Nat) (hb : ∀ x ∈ s, x < 256) :
    decode (bwtsSpec s) = s ∧ bwtsSpec (decode s) = s :=
  ⟨decode_bwtsSpec s, bwtsSpec_decode s hb⟩

/-! ## error paths of the model (no fault) -/

/-- Inverse declines (error, no fault) a destination shorter than the input and an input above
`_BWTS_MAX_BLOCK_SIZE`; an empty input or an empty destination yields "0 bytes, no error". -/
theorem C13_bwts_inverse_declines (fill : Nat) (t : List Nat) (d : Nat) :
    ((t.length = 0 ∨ d = 0) → bwtsInverseFill fill t d = .ok []) ∧
    (¬ (t.length = 0 ∨ d = 0) → (t.length > maxBlockSize ∨ t.length > d) →
      bwtsInverseFill fill t d = .err) := by
  constructor
  · intro h; unfold bwtsInverseFill; rw [if_pos h]
  · intro h0 h; unfold bwtsInverseFill; rw [if_neg h0]
    by_cases h1 : t.length > maxBlockSize
    · rw [if_pos h1]
    · rw [if_neg h1, if_pos (h.resolve_left h1)]

/-- Forward (model) declines a destination shorter than `MaxEncodedLen = len` and an input above
`_BWTS_MAX_BLOCK_SIZE`, copies a one-byte block, and agrees with the definition there. -/
theorem C13_bwts_forward_small (fill : Nat) (s : List Nat) (d : Nat) :
    ((s.length = 0 ∨ d = 0) → bwtsForwardFill fill s d = .ok []) ∧
    (¬ (s.length = 0 ∨ d = 0) → (d < s.length ∨ s.length > maxBlockSize) →
      bwtsForwardFill fill s d = .err) ∧
    (∀ a, s = [a] → 0 < d → bwtsForwardFill fill s d = .ok (bwtsSpec s)) := by
  refine ⟨?_, ?_, ?_⟩
  · intro h; unfold bwtsForwardFill; rw [if_pos h]
  · intro h0 h; unfold bwtsForwardFill maxEncodedLen; rw [if_neg h0]
    by_cases h1 : d < s.length
    · rw [if_pos h1]
    · rw [if_neg h1, if_pos (h.resolve_left h1)]
  · intro a hs hd
    subst hs
    have e : bwtsSpec [a] = [a] := by
      simp [bwtsSpec, bwtsMatrix, lyndonFactors, lyndonStack, pushMerge, rotations, rot]
    rw [e]
    unfold bwtsForwardFill maxEncodedLen maxBlockSize
    have h1 : ¬ (([a] : List Nat).length = 0 ∨ d = 0) := by simp; omega
    have h2 : ¬ d < ([a] : List Nat).length := by simp; omega
    rw [if_neg h1, if_neg h2]
    simp

/-! ## satisfiability of the hypotheses, and kernel-evaluated TESTS (tests, not proofs) -/

example : ∃ s : List Nat, (∀ x ∈ s, x < 256) ∧ s.length ≤ maxBlockSize ∧ 2 ≤ s.length :=
  ⟨[98, 97], by decide, by decide, by decide⟩

/-- TEST: "banana" factors as b · an · an · a -/
example : lyndonFactors [98, 97, 110, 97, 110, 97] = [[98], [97, 110], [97, 110], [97]] := by decide

/-- TEST: the loops of Inverse on "annbaa" give "banana" (kernel evaluation of the pure loops) -/
example : decode [97, 110, 110, 98, 97, 97] = [98, 97, 110, 97, 110, 97] := by decide +kernel

/-- TEST (through `C13_bwts_pure`): BWTS("banana") = "annbaa" -/
example : bwtsSpec [98, 97, 110, 97, 110, 97] = [97, 110, 110, 98, 97, 97] := by
  have h := (C13_bwts_pure [97, 110, 110, 98, 97, 97] (by decide)).2
  rwa [show decode [97, 110, 110, 98, 97, 97] = [98, 97, 110, 97, 110, 97] by decide +kernel] at h

end Kanzi.C13
