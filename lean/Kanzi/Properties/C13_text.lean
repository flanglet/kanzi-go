/-
C13 for the dictionary text transform `transform.TextCodec` (both delegates `textCodec1` / `textCodec2`) -
property theorems only; proofs in `Kanzi/Proofs/Text*.lean` (Text, TextDict, TextTotal, TextDec, TextSpec, TextRefine,
TextSim, TextStats, TextLog, TextRound).  The model
(`Kanzi/Model/Text.lean`) mirrors v2/transform/TextCodec.go (block analysis `computeTextStats`, static dictionary
built by `createDictionary` from the 1024-word string, dynamic dictionary with hash map / ring replacement /
expansion, word tokens, escapes, CR+LF folding, `Forward`, `Inverse`, the `TextCodec` wrapper) and is tied to
/repo by the `text` correspondence stream (byte-exact outputs, error classes, panics, ctx write-back).

Conventions: a block is a `List Nat` of byte values; the last argument of `textForward` / `textInverse` is
`len(dst)` of the Go call; `.ok t` is `dst[0:written]` with a nil error, `.err c` a non-nil error (Forward
declines / Inverse fails), `.fault k` a Go run-time panic (or exhausted model fuel).  `tc2` selects codec 2
(ctx `textcodec` = 2), `hsz` is `1 << logHashSize` (from the ctx entries `blockSize` and `entropy`, see
`logHash1` / `logHash2`), `dt` the `dataType` hint.  "Input left untouched on decline" is not a theorem here
(values are immutable); it is an oracle of the stream on the real code.
-/
import Kanzi.Model.Text
import Kanzi.Proofs.TextRound

namespace Kanzi.C13
open Kanzi.Text Kanzi.RLT

/-- C13_text_tokens (codec 1): the 1-3 byte index coding is an inverse pair.  For every dictionary index below
the maximal dictionary size `2^19` and below the decoder's current `dictSize`, the decoder positioned on the
bytes `emitWordIndex1` stored (anything before, anything after) reads the index back and stops right behind
them; the bytes are byte values and there are 1 (index < 128), 2 (< 16384) or 3 of them. -/
theorem C13_text_tokens1 (pre rest : List Nat) (idx dsize : Nat) (h19 : idx < 2 ^ 19) (hd : idx < dsize) :
    readIdx1 (pre ++ (wordIndex1 idx ++ rest)).toArray pre.length dsize =
        .ok (idx, pre.length + (wordIndex1 idx).length) ∧
      (wordIndex1 idx).length = (if idx < 128 then 1 else if idx < 16384 then 2 else 3) ∧
      ∀ b ∈ wordIndex1 idx, b < 256 :=
  ⟨readIdx1_wordIndex1 pre rest idx dsize h19 hd, wordIndex1_length idx, wordIndex1_bytes idx⟩

/-- C13_text_tokens (codec 2, current bitstream version): the index bytes `c :: tl` stored by `emitWordIndex2`
are read back by the decoder, both when `c` is the token byte itself (no case flip: `readIdx2 .. c ..`, flip mask
0) and when the marker 0x80 precedes it (`readIdx2 .. 0x80 ..`, flip mask 0x20); the first index byte is
above 0x80, so it is neither a literal (< 0x80) nor the marker; 1 to 3 bytes, all byte values. -/
theorem C13_text_tokens2 (pre rest tl : List Nat) (c idx dsize : Nat) (h19 : idx < 2 ^ 19) (hd : idx < dsize)
    (hw : wordIndex2 idx = c :: tl) :
    readIdx2 (pre ++ (tl ++ rest)).toArray pre.length c dsize = .ok (idx, pre.length + tl.length, 0) ∧
      readIdx2 (pre ++ (c :: (tl ++ rest))).toArray pre.length MASK_FLIP_CASE dsize =
        .ok (idx, pre.length + 1 + tl.length, 0x20) ∧
      128 < c ∧ (wordIndex2 idx).length = (if idx + 1 < 64 then 1 else if idx + 1 < 8192 then 2 else 3) ∧
      ∀ b ∈ wordIndex2 idx, b < 256 := by
  refine ⟨readIdx2_plain pre rest tl c idx dsize h19 hd hw, readIdx2_flip pre rest tl c idx dsize h19 hd hw, ?_,
    wordIndex2_length idx, wordIndex2_bytes idx h19⟩
  obtain ⟨c', tl', e, h1, _⟩ := wordIndex2_head idx h19
  rw [e] at hw
  cases hw
  exact h1

/-- C13_text_hash: the collision check of both codecs is exact.  `sameWords` compares the bytes of the word from
the second one on; together with the equality of the 32-bit hashes this decides the first byte too (the hash
step is a bijection of the accumulator and injective in the byte), so a dictionary hit is the same word, and a
hit through `h2` is the word with the case bit of its first letter flipped.  Moreover the two hashes `h1`, `h2`
of a word never select the same slot of a hash table of `2^k >= 64` entries (`pe == pe1` is a sound test). -/
theorem C13_text_hash (a b : Nat) (t : List Nat) (ha : a < 256) (hb : b < 256) :
    (hashWord (a :: t) = hashWord (b :: t) → a = b) ∧
    ∀ k, 6 ≤ k → k ≤ 32 → hashWord (a :: t) % 2 ^ k ≠ hashWord ((a ^^^ 0x20) :: t) % 2 ^ k :=
  ⟨hashWord_first a b t ha hb, fun k h6 h32 => hashWord_flip_slot a t k h6 h32⟩

/-- C13_text_static: the static dictionary the Go code builds at init time (`createDictionary` over the
1024-word string) is well formed: at most 1024 entries, every entry carries its own position, its text, the
length of its text and the hash of its text, and consists of letters.  (Proved for `createDictionary` on ANY
string; nothing evaluates the 1024 words.) -/
theorem C13_text_static : StaticOK staticInit.1 staticInit.2 := staticOK

/-- C13_text_total: `TextCodec.Forward` (either codec, any hash table size, any `dataType` hint) on ANY block into
a destination of ANY size never panics (no index or slice out of range, no nil slice; the model fuel
suffices): it declines with an error or succeeds with at most `MaxEncodedLen(len) = len` bytes. -/
theorem C13_text_total (tc2 : Bool) (hsz dt : Nat) (hpos : 0 < hsz) (src : List Nat) (dstLen : Nat) :
    (∃ e, textForward tc2 hsz dt src dstLen = .err e) ∨
    (∃ o, textForward tc2 hsz dt src dstLen = .ok o ∧ o.length ≤ textMaxEncodedLen src.length) :=
  textForwardS_total staticInit.1 staticInit.2 staticOK tc2 hsz dt hpos src dstLen

/-- the last byte of the block is one of the two escape bytes of codec 1 -/
def lastIsEscape (b : List Nat) : Bool :=
  b.getLast? = some ESCAPE_TOKEN1 || b.getLast? = some ESCAPE_TOKEN2

/-- C13_text1 (codec 1 = `textCodec1`, the default): for every block of byte values, every hash table size
`2^lh` (6 <= lh <= 32; the Go code uses 13..27), every `dataType` hint and every destination at least as large
as `MaxEncodedLen`: if Forward succeeds, its output has at most `MaxEncodedLen(len) = len` bytes, and Inverse
(built with the SAME hash table size) restores the block exactly into ANY destination of `n >= len` bytes
(`n < 2^39`: `uint32(len(dst)/128)` must not wrap) - EXCEPT when the last byte of the block is 0x0E / 0x0F
and `n = len`: then one spare byte is needed (`n > len`).  That exception is a defect of the Go code
(`textCodec1.Inverse` tests `dstIdx+length >= dstEnd` also for the one-byte escape entries), reproduced on the
real code by the `text` stream (symptom `exact-dst-last-byte-escape`) and by the `#guard`s below; the
stream layer always passes a larger destination.  The full statement (without the exception) is therefore
FALSE for the code as it is; with the fix `>` instead of `>=` the hypothesis `hesc` disappears. -/
theorem C13_text1 (hsz lh dt : Nat) (hh : hsz = 2 ^ lh) (h6 : 6 ≤ lh) (h32 : lh ≤ 32) (b t : List Nat)
    (dstLen : Nat) (hb : ∀ x ∈ b, x < 256) (hdst : textMaxEncodedLen b.length ≤ dstLen)
    (h : textForward false hsz dt b dstLen = .ok t) :
    t.length ≤ textMaxEncodedLen b.length ∧
      ∀ n, b.length ≤ n → n < 2 ^ 39 → (lastIsEscape b = true → b.length < n) →
        textInverse false false hsz t n = .ok b :=
  ⟨text_bound staticInit.1 staticInit.2 staticOK false hsz dt (by rw [hh]; exact Nat.two_pow_pos lh) b t dstLen h,
    fun n hn hn39 hesc =>
      (text_roundtrip staticInit.1 staticInit.2 staticOK false hsz lh dt hh h6 h32 b t dstLen n hb hdst h hn hn39
        (fun _ c hl hc => hesc (by
          unfold lastIsEscape
          rw [hl]
          rcases hc with hc | hc <;> simp [hc]))).2.1⟩

/-- C13_text2 (codec 2 = `textCodec2`, chosen by the factory for the entropy codecs NONE / ANS0 / HUFFMAN /
RANGE; current bitstream version): as `C13_text1`, without any exception: if Forward succeeds, its output has at
most `MaxEncodedLen(len) = len` bytes and Inverse restores the block exactly into ANY destination of `n >= len`
bytes (`n < 2^39`). -/
theorem C13_text2 (hsz lh dt : Nat) (hh : hsz = 2 ^ lh) (h6 : 6 ≤ lh) (h32 : lh ≤ 32) (b t : List Nat)
    (dstLen : Nat) (hb : ∀ x ∈ b, x < 256) (hdst : textMaxEncodedLen b.length ≤ dstLen)
    (h : textForward true hsz dt b dstLen = .ok t) :
    t.length ≤ textMaxEncodedLen b.length ∧
      ∀ n, b.length ≤ n → n < 2 ^ 39 → textInverse true false hsz t n = .ok b :=
  ⟨text_bound staticInit.1 staticInit.2 staticOK true hsz dt (by rw [hh]; exact Nat.two_pow_pos lh) b t dstLen h,
    fun n hn hn39 =>
      (text_roundtrip staticInit.1 staticInit.2 staticOK true hsz lh dt hh h6 h32 b t dstLen n hb hdst h hn hn39
        (fun htc => absurd htc (by decide))).2.1⟩

/-- C13_text_bytes: the encoded block consists of byte values (either codec) -/
theorem C13_text_bytes (tc2 : Bool) (hsz lh dt : Nat) (hh : hsz = 2 ^ lh) (h6 : 6 ≤ lh) (h32 : lh ≤ 32) (b t : List Nat)
    (dstLen : Nat) (hb : ∀ x ∈ b, x < 256) (hdst : textMaxEncodedLen b.length ≤ dstLen)
    (h : textForward tc2 hsz dt b dstLen = .ok t) : ∀ y ∈ t, y < 256 :=
  text_bytes staticInit.1 staticInit.2 staticOK tc2 hsz lh dt hh h6 h32 b t dstLen hb hdst h

/-- facts used when TEXT is a stage of a transform sequence: `MaxEncodedLen` is the identity, Inverse of the
empty block is the empty block, Forward refuses a destination below `MaxEncodedLen`, Forward never faults -/
theorem C13_text_maxlen (n : Nat) : textMaxEncodedLen n = n := rfl

theorem C13_text_inverse_nil (tc2 old : Bool) (hsz n : Nat) : textInverse tc2 old hsz [] n = .ok [] := by
  unfold textInverse textInverseS
  simp

theorem C13_text_small_dst (tc2 : Bool) (hsz dt : Nat) (b y : List Nat) (dstLen : Nat) (hne : b ≠ [])
    (h0 : 0 < dstLen) (hlt : dstLen < textMaxEncodedLen b.length) : textForward tc2 hsz dt b dstLen ≠ .ok y := by
  have hl : b.length ≠ 0 := fun e => hne (List.eq_nil_of_length_eq_zero e)
  unfold textMaxEncodedLen at hlt
  unfold textForward textForwardS
  rw [if_neg (by omega)]
  split
  · exact fun h => by cases h
  · split
    · exact fun h => by cases h
    · unfold codecForwardS
      rw [if_pos hlt]
      exact fun h => by cases h

theorem C13_text_no_fault (tc2 : Bool) (hsz dt : Nat) (hpos : 0 < hsz) (b : List Nat) (dstLen : Nat) (e : String) :
    textForward tc2 hsz dt b dstLen ≠ .fault e := by
  rcases C13_text_total tc2 hsz dt hpos b dstLen with ⟨x, hx⟩ | ⟨o, ho, _⟩
  · rw [hx]; exact fun h => by cases h
  · rw [ho]; exact fun h => by cases h

/-- C13_text_sync: encoder and decoder run in lock step.  For every block that Forward transformed (either codec)
and every destination Inverse can restore it into, the loop of Inverse (working on Forward's output) ends
with the SAME dynamic dictionary and the same ring index `words` as the loop of Forward: the same hash map
`dictMap`, the same `staticDictSize` and `hashMask`, and entry by entry the same `dictList` (`DictSim`; the
decoder's `dictSize`, chosen from `len(dst)`, may be larger - its extra entries are still empty).  The proof
carries this relation as an invariant through every token (`Kanzi.Text.Sim`), together with "Inverse has
reproduced the source up to the current word". -/
theorem C13_text_sync (tc2 : Bool) (hsz lh dt : Nat) (hh : hsz = 2 ^ lh) (h6 : 6 ≤ lh) (h32 : lh ≤ 32)
    (b t : List Nat) (dstLen n : Nat) (hb : ∀ x ∈ b, x < 256) (hne : b ≠ [])
    (hdst : textMaxEncodedLen b.length ≤ dstLen) (h : textForward tc2 hsz dt b dstLen = .ok t)
    (hn : b.length ≤ n) (hn39 : n < 2 ^ 39) (hesc : tc2 = false → lastIsEscape b = true → b.length < n) :
    ∃ sF tI, codecForwardLoop tc2 hsz b dstLen = .ok sF ∧ codecInverseLoop tc2 false hsz t n = .ok tI ∧
      DictSim sF.d tI.d ∧ tI.words = sF.words :=
  text_sync staticInit.1 staticInit.2 staticOK tc2 hsz lh dt hh h6 h32 b t dstLen n hb hdst hne h hn hn39
    (fun htc c hl hc => hesc htc (by
      unfold lastIsEscape
      rw [hl]
      rcases hc with hc | hc <;> simp [hc]))

/-- C13_text_sync_step: the lock-step step.  At a delimiter after a word `w` of letters that Forward did not find
in its dictionary, when both sides hold related dictionaries and the same ring index: Forward and Inverse
store `w` into the same slot `words` (`learn`), both succeed, and they end with related dictionaries and the
same new ring index (expansion / wrap-around at 2^19 included). -/
theorem C13_text_sync_step (dE dD : Dict) (words : Nat) (w : List Nat) (hE : DictOK dE words) (hD : DictOK dD words)
    (hs : DictSim dE dD) (ht : ∀ x ∈ w, isText x = true) :
    ∃ dE' dD' words', learn dE words w (hashWord w) = .ok (dE', words') ∧
      learn dD words w (hashWord w) = .ok (dD', words') ∧ DictOK dE' words' ∧ DictOK dD' words' ∧ DictSim dE' dD' :=
  learn_sim dE dD words w hE hD hs ht

/-- ... and Inverse takes the decision to learn exactly when Forward does: at a delimiter `c` after a word `w`
(2..31 letters) for which Forward's look-up failed, Inverse learns iff the word has more than 3 letters (or 3
and fewer than 2^14 words are in use) and the slot of its hash is free - the condition of Forward. -/
theorem C13_text_sync_decide (w : List Nat) (words : Nat) (d : Dict) (c : Nat) (hd : DictOK d words)
    (hg : w.length ≥ 2 ∧ isDelimiter c = true ∧ w.length ≤ MAX_WORD_LENGTH) :
    learnL (some w) words d c =
      if (w.length > 3 ∨ (w.length = 3 ∧ words < THRESHOLD2)) ∧ findEntry d (hashWord w) = none then
        learn d words w (hashWord w)
      else .ok (d, words) :=
  learnL_notfound w words d c hd hg

/-! Satisfiability of the premises, and the exception of `C13_text1` (evaluated by the compiler, not by the
kernel: the kernel needs minutes to build the static dictionary; the `text` stream exercises thousands of
accepted blocks of both codecs against the real code). -/

/-- 255 times "the " then "the" and one last byte: 1024 bytes -/
def exBlock (last : Nat) : List Nat :=
  (List.replicate 255 [0x74, 0x68, 0x65, 0x20]).flatten ++ [0x74, 0x68, 0x65, last]

-- accepted, 514 bytes, restored into a destination of exactly 1024 bytes (hash table size 2^13)
#guard (match textForward false 8192 0 (exBlock 0x2E) 1024 with
  | .ok t => t.length == 514 && textInverse false false 8192 t 1024 == .ok (exBlock 0x2E)
  | _ => false)
-- the exception: last byte 0x0F, codec 1: Inverse fails into 1024 bytes, succeeds into 1025
#guard (match textForward false 8192 0 (exBlock 0x0F) 1024 with
  | .ok t => textInverse false false 8192 t 1024 == .err "data" && textInverse false false 8192 t 1025 == .ok (exBlock 0x0F)
  | _ => false)
#guard (match textForward false 8192 0 (exBlock 0x0E) 1024 with
  | .ok t => textInverse false false 8192 t 1024 == .err "data" && textInverse false false 8192 t 1025 == .ok (exBlock 0x0E)
  | _ => false)
-- codec 2 has no such exception
#guard (match textForward true 8192 0 (exBlock 0x0F) 1024 with
  | .ok t => t.length == 262 && textInverse true false 8192 t 1024 == .ok (exBlock 0x0F)
  | _ => false)
#guard lastIsEscape (exBlock 0x0F) = true ∧ lastIsEscape (exBlock 0x2E) = false
-- declines: binary data, a block below the minimum size, a destination below MaxEncodedLen, a dataType hint
#guard textForward false 8192 0 (List.replicate 2000 0) 2000 = .err "nottext"
#guard textForward false 8192 0 (exBlock 0x2E |>.take 1023) 1023 = .err "small"
#guard textForward false 8192 0 (exBlock 0x2E) 1023 = .err "dst"
#guard textForward true 8192 3 (exBlock 0x2E) 1024 = .err "nottext"
-- a forged codec-2 index 0 in the two-byte form is not rejected: `dictList[-1]`
#guard textInverse true false 8192 [0, 0xC0, 0x00] 64 = .fault "dict-index"

end Kanzi.C13
