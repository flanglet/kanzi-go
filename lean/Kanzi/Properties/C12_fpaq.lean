/-
C12 (FPAQ) — `FPAQEncoder` / `FPAQDecoder` of v2/entropy/FPAQCodec.go (bitstream version ≥ 4:
`decodeBitV2`), as they are after the repair 1e1b76f.  Property theorems only; proofs live in
`Kanzi/Proofs/Fpaq.lean`, which INSTANTIATES the proof of the generic binary coder
(`Kanzi/Proofs/BinEnt*.lean`; its properties: `Kanzi/Properties/C12_binary.lean`): FPAQ = the same
56-bit interval coder with first shift 8 and
16-bit probabilities (`fpaqP.shift = 8`), the built-in adaptive model (4 × 256 probabilities, table
chosen by the top two bits of the previous byte, entry by the bits of the current byte, `± >> 6`
adaptation) as the predictor — `C12_fpaq_model_safe`: every probability stays below 2^16, so the
contract of the coder holds — and its own chunk framing (4 MiB chunks, encoder buffer
`chunkSize + chunkSize>>3` that `flush` grows when needed, decoder test `szBytes >= 2*len(block)`,
decoder buffer `max(sz + sz>>2, 1024)` with 8 zeroed guard bytes).  The model
(`Kanzi/Model/Fpaq.lean`) is tied byte-identically to /repo by the `fpaq` correspondence stream,
including blocks above the 4 MiB chunk size (thorough tier).

Finding F37 (fixed by 1e1b76f): before the repair `flush` stored past the buffer; a 39-byte block that
keeps the coding interval across a multiple of 2^24 and then collapses it needs 44 bytes for a
43-byte buffer (`fpaq` stream, family `fenc-straddle`).  Now the encoder never fails
(`C12_fpaq_encode_total`) and the only residual condition is the decoder's acceptance test
`fFits2` (every chunk flushes fewer than `2·len(block)` bytes), stated explicitly; it is NOT
discharged from the model here (the adversaries of the stream reach an expansion of about 1.25).
-/
import Kanzi.Model.Fpaq
import Kanzi.Proofs.Fpaq

namespace Kanzi.C12
open Kanzi.Bits Kanzi.EntSmall Kanzi.BinEnt Kanzi.Fpaq

/-- the FPAQ adaptive model satisfies the predictor contract of the coder (16-bit probabilities,
shift 8) on the invariant "every table entry is `< 2^16`", which holds initially -/
theorem C12_fpaq_model_safe : fpaqP.Safe FR ∧ FR FState.init := ⟨fpaq_safe, fr_init⟩

/-- **C12_fpaq_encode_total.**  `Write` + `Dispose` never fail on a block of at most 2^30 bytes. -/
theorem C12_fpaq_encode_total (C : Nat) (blk : List Nat) (hlen : blk.length ≤ Fpaq.MAX_BLOCK) :
    ∃ out, fpaqEncode C blk = .ok out :=
  fpaqEncode_total C blk hlen

/-- **C12_fpaq_block.**  For every NON-EMPTY block of bytes of length `≤ 2^30` (`C` = the chunk
size `_FPAQ_DEFAULT_CHUNK_SIZE`, any value `0 < C < 2^27`: single-chunk and multi-chunk blocks) such
that every chunk flushes fewer than `2·len(block)` bytes (`fFits2`, the decoder's acceptance test):
`Write` + `Dispose` succeed and `Read` of the same length on the written bits followed by ANY bits
`rest` returns the block and leaves exactly `rest` unread. -/
theorem C12_fpaq_block (C : Nat) (hC : 0 < C) (hC27 : C < 2 ^ 27) (blk : List Nat) (hne : blk ≠ [])
    (hb : ∀ v ∈ blk, v < 256) (hlen : blk.length ≤ Fpaq.MAX_BLOCK) (hfit : fFits2 C blk = true) :
    ∃ out, fpaqEncode C blk = .ok out ∧
      ∀ rest : Bits, fpaqDecode C (out ++ rest) blk.length = .ok (blk, rest) := by
  obtain ⟨out, h1, h2, _⟩ := fpaq_block_full C hC hC27 blk hne hb hlen
  exact ⟨out, h1, h2 hfit⟩

/-- `fFits2` is exactly the decoder's acceptance: otherwise `Read` reports "Invalid chunk size" -/
theorem C12_fpaq_reject (C : Nat) (hC : 0 < C) (hC27 : C < 2 ^ 27) (blk : List Nat) (hne : blk ≠ [])
    (hb : ∀ v ∈ blk, v < 256) (hlen : blk.length ≤ Fpaq.MAX_BLOCK) (hfit : fFits2 C blk = false) :
    ∃ out, fpaqEncode C blk = .ok out ∧
      ∀ rest : Bits, fpaqDecode C (out ++ rest) blk.length = .error .invalid := by
  obtain ⟨out, h1, _, h3⟩ := fpaq_block_full C hC hC27 blk hne hb hlen
  exact ⟨out, h1, h3 hfit⟩

/-- the same with the real chunk size 4 MiB -/
theorem C12_fpaq_block_real (blk : List Nat) (hne : blk ≠ []) (hb : ∀ v ∈ blk, v < 256)
    (hlen : blk.length ≤ 2 ^ 30) (hfit : fFits2 DEFAULT_CHUNK blk = true) :
    ∃ out, fpaqEncode DEFAULT_CHUNK blk = .ok out ∧
      ∀ rest : Bits, fpaqDecode DEFAULT_CHUNK (out ++ rest) blk.length = .ok (blk, rest) :=
  C12_fpaq_block DEFAULT_CHUNK (by decide) (by decide) blk hne hb hlen hfit

/-- for a single-chunk block (`0 < n ≤ C`, i.e. up to 4 MiB) `fFits2` reads: the flushed bytes number
fewer than `2·n`; they never exceed `32·n` -/
theorem C12_fpaq_fits2_single (C : Nat) (blk : List Nat) (hne : blk ≠ []) (hC : blk.length ≤ C) :
    fFits2 C blk = decide (fFlushedLen blk < 2 * blk.length) ∧ fFlushedLen blk ≤ 32 * blk.length :=
  ⟨fFits2_single C blk hne hC, fFlushedLen_le blk⟩

/-- the empty block (known finding F11, FPAQ flavour): `Dispose` writes 56 bits, `Read` of 0 bytes
reads nothing -/
theorem C12_fpaq_empty_mismatch (C : Nat) (rest : Bits) :
    fpaqEncode C [] = .ok (natBits 0xFFFFFF 56) ∧
    fpaqDecode C (natBits 0xFFFFFF 56 ++ rest) 0 = .ok ([], natBits 0xFFFFFF 56 ++ rest) ∧
    natBits 0xFFFFFF 56 ++ rest ≠ rest :=
  ⟨fpaqEncode_nil C, fpaqDecode_zero C _, by
    intro h
    have := congrArg List.length h
    rw [List.length_append, natBits_length] at this
    omega⟩

end Kanzi.C12
