/-
C12 (ANS order 1) — the ORDER-1 mode of `ANSRangeEncoder` / `ANSRangeDecoder`
(v2/entropy/ANSRangeCodec.go, bitstream version >= 2): 256 contexts, one frequency table per context,
four interleaved rANS states, state k walking quarter k of the chunk backwards with the PREVIOUS byte
of the same quarter as context (0 for the first byte of each quarter).
Property theorems only; proofs live in `Kanzi/Proofs/Ans1.lean` and `Kanzi/Proofs/Ans1Block.lean`.
The model (`Kanzi/Model/Ans1.lean`, on top of the order-0 pieces of `Kanzi/Model/EntSmall.lean`) is
tied byte-identically to /repo by the `ans1` correspondence stream (harness/cmd/kv/ans1.go,
lean/Kanzi/Drv/Ans1.lean).

Every round trip is in the "exact consumption" form  dec (enc x ++ rest) = some (x, rest)  for
EVERY continuation `rest`: the decoder reads exactly the bits the encoder wrote and whatever follows
in the same bitstream is left intact.

Parameters.  With `order = 1` the Go constructors store `chunkSize = min(chk<<8, 1<<27)` (chunk
argument `1024 <= chk <= 1<<27`, default 16384, i.e. 4 MiB; what `EntropyCodecFactory` uses) and
`logRange = max(logRange-1, 8)` (argument 8..16, default 12), hence `262144 <= chunkSize <= 2^27`,
`8 <= lr <= 15` (`C12_ans1_params`).

Size condition.  `decodeChunkV2` rejects a chunk whose payload size (the VarInt) is `>= 2^27`
(`_ANS_MAX_CHUNK_SIZE`).  Each encoded symbol pushes at most one 16-bit word, so the payload of a
chunk of `n` bytes is at most `2n` bytes (`C12_ans1_payload_le`): the theorems are stated for chunks
shorter than `2^26` bytes, i.e. constructor arguments `chk < 2^18` (the default 16384 included), and
`C12_ans1_chunk_sz` gives the most general form (hypothesis = exactly the decoder's test).
NOT covered: chunk arguments `2^18 <= chk <= 2^27`, for which a chunk of 64..128 MiB could reach a
payload of `2^27` bytes or more (the constructor accepts them, the decoder would refuse the chunk),
and the capacity of the encoder's byte buffer (`max(min(2*len, chunk+chunk/8), 65536)` bytes: a chunk
expanding by more than 12.5% would overflow it; the model's buffer is unbounded).
-/
import Kanzi.Model.Ans1
import Kanzi.Proofs.Ans1
import Kanzi.Proofs.Ans1Block

namespace Kanzi.C12
open Kanzi.Bits Kanzi.EntSmall Kanzi.Ans1

/-! ## constructor parameters -/

/-- **C12_ans1_params.**  What `NewANSRangeEncoder(bs, 1, chk, logRange)` stores: a chunk size in
`[262144, 2^27]` and a log range in `[8, 15]`; the chunk size is below `2^26` exactly for chunk
arguments below `2^18`. -/
theorem C12_ans1_params (chk logRange : Nat) (ps : Params) (h : mkParams chk logRange = some ps) :
    (262144 ≤ ps.chunkSize ∧ ps.chunkSize ≤ 2 ^ 27) ∧ (8 ≤ ps.lr ∧ ps.lr ≤ 15) ∧
    (chk < 2 ^ 18 → ps.chunkSize < 2 ^ 26) := by
  unfold mkParams at h
  split at h
  · cases h
  · split at h
    · cases h
    · injection h with h
      subst h
      simp only
      omega

/-- the default parameters (chunk argument 16384, log range 12) give 4 MiB chunks and `lr = 11` -/
example : mkParams 16384 12 = some ⟨4194304, 11⟩ := by decide

/-! ## stage 1 — the 256-context frequency header -/

/-- **C12_ans1_header.**  `ts` = one (alphabet, table) pair per context (256 in the Go code; any
number here), each either with an EMPTY alphabet (context never seen: only the 2-bit empty-alphabet
code is sent) or a valid table: alphabet strictly increasing, non empty, symbols < 256; 256-entry
table, zero outside the alphabet, positive on it, summing to `2^lr` (`HdrOk`; `8 ≤ lr ≤ 15`).
`prev` = the tables the decoder object holds before the call (one per context).
Then `decodeHeader` applied to `updateFrequencies`' output followed by ANY `rest` returns `lr` and,
per context, exactly the alphabet and table of the encoder — except that a context with an empty
alphabet keeps its previous table (`mergeTabs`: the Go code `continue`s) — and leaves exactly
`rest`: 3 bits of log range, then per context the alphabet and the frequencies in chunks of 6 or 8
with their `llr`-bit widths, all consumed exactly. -/
theorem C12_ans1_header (lr : Nat) (hlr : 8 ≤ lr ∧ lr ≤ 15) (ts : List (List Nat × List Nat))
    (prev : List (List Nat)) (hl : prev.length = ts.length) (hok : ∀ t ∈ ts, HdrOk lr t) (rest : Bits) :
    ans1DecodeHeader prev (ans1EncodeHeader ts lr ++ rest) = some ((lr, mergeTabs prev ts), rest) :=
  header1_rt lr hlr ts prev hl hok rest

/-- **C12_ans1_header_exact.**  Same, on a decoder whose tables are all zero (a new decoder object)
when the encoder's tables of the never-seen contexts are all zero too (they are: `clear(this.freqs)`
in `rebuildStatistics`; `C12_ans1_one_chunk`): the decoded tables are EXACTLY the encoder's. -/
theorem C12_ans1_header_exact (lr : Nat) (hlr : 8 ≤ lr ∧ lr ≤ 15) (ts : List (List Nat × List Nat))
    (hok : ∀ t ∈ ts, HdrOk lr t) (hz : ∀ t ∈ ts, t.1 = [] → t.2 = List.replicate 256 0) (rest : Bits) :
    ans1DecodeHeader (List.replicate ts.length (List.replicate 256 0)) (ans1EncodeHeader ts lr ++ rest)
      = some ((lr, ts), rest) := by
  rw [header1_rt lr hlr ts _ List.length_replicate hok rest, merge_fresh _ ts hz]

/-! ## stage 2 — one state, one quarter -/

/-- **C12_ans1_single_state.**  `fs` = the per-context frequency tables, `syms` = the bytes of one
quarter, `c` = the context of its first byte (0 in the codec).  `WalkOk`: every step (context =
previous byte, symbol) uses a table summing to `2^lr` in which the symbol has a positive frequency.
Encoding the walk BACKWARDS with one rANS state (`encWalk1`: `encodeSymbol` with the entry
`symbols[(ctx<<8)|sym]` built by `updateFrequencies`, from `_ANS_TOP`) yields a normalised state and
at most `2·|syms|` bytes; decoding FORWARDS (`decWalk1`: slot lookup in the context's reverse
mapping, `decodeSymbol`, the decoded byte becomes the next context) from that state on these bytes
followed by ANY `rest` returns exactly `syms`, ends in `_ANS_TOP` and leaves exactly `rest`. -/
theorem C12_ans1_single_state (fs : List (List Nat)) (lr : Nat) (hlr : 8 ≤ lr ∧ lr ≤ 15)
    (syms : List Nat) (c : Nat) (hs : WalkOk fs lr c syms) :
    (2 ^ 15 ≤ (encWalk1 fs lr c syms).1 ∧ (encWalk1 fs lr c syms).1 < 2 ^ 31) ∧
    (∀ b ∈ (encWalk1 fs lr c syms).2, b < 256) ∧
    (encWalk1 fs lr c syms).2.length ≤ 2 * syms.length ∧
    ∀ rest : List Nat, decWalk1 fs lr syms.length c (encWalk1 fs lr c syms).1
        ((encWalk1 fs lr c syms).2 ++ rest) = (syms, ansTop, rest) :=
  walk1_rt fs lr hlr syms c hs

/-! ## stage 3 — four interleaved states sharing one buffer -/

/-- **C12_ans1_interleaved.**  `ans1Final blk tabs` is the encoder state at the end of the order-1
part of `encodeChunk` (raw tail `blk[end4:]` first, then the loop `for i0 >= 0` over the four
quarters with `prv`/`cur`, then the four "last symbols" in context 0).  Under `ChunkOk` (bytes, and
every step of the four walks covered by tables on which encoder `fsE` and decoder `fsD` agree)
the decoder loop of `decodeChunkV2`, run for `len/4` rounds from these four states on these bytes
in context (0,0,0,0), returns exactly the rows `(blk[j], blk[q+j], blk[2q+j], blk[3q+j])`,
`j = 0..q-1`, brings the four states back to `_ANS_TOP` and leaves exactly the raw tail unread: the
words pushed by the encoder (st0, st1, st2, st3 within a round, rounds backwards) are popped by the
decoder in exactly the reverse order.  Also: the rows, read quarter by quarter (`quartersOf`), are
the first `4·(len/4)` bytes of the chunk; payload bytes `< 256`; final states below `2^31` (they fit
the 32-bit fields of the chunk).  The bound `2·len` on the payload is `C12_ans1_payload_le`. -/
theorem C12_ans1_interleaved (blk : List Nat) (fsE fsD : List (List Nat)) (lr : Nat)
    (hlr : 8 ≤ lr ∧ lr ≤ 15) (hok : ChunkOk fsE fsD lr blk) :
    dec1Rounds (mkDecTabs fsD lr) lr (blk.length / 4) (0, 0, 0, 0)
        ⟨(ans1Final blk (mkEncTabs fsE lr)).st0, (ans1Final blk (mkEncTabs fsE lr)).st1,
         (ans1Final blk (mkEncTabs fsE lr)).st2, (ans1Final blk (mkEncTabs fsE lr)).st3,
         (ans1Final blk (mkEncTabs fsE lr)).out⟩
      = (rowsOf blk.toArray (blk.length / 4),
         ⟨ansTop, ansTop, ansTop, ansTop, blk.drop (4 * (blk.length / 4))⟩) ∧
    quartersOf (rowsOf blk.toArray (blk.length / 4)) = blk.take (4 * (blk.length / 4)) ∧
    (∀ b ∈ (ans1Final blk (mkEncTabs fsE lr)).out, b < 256) ∧
    (ans1Final blk (mkEncTabs fsE lr)).st0 < 2 ^ 31 ∧ (ans1Final blk (mkEncTabs fsE lr)).st1 < 2 ^ 31 ∧
    (ans1Final blk (mkEncTabs fsE lr)).st2 < 2 ^ 31 ∧ (ans1Final blk (mkEncTabs fsE lr)).st3 < 2 ^ 31 := by
  obtain ⟨v, d, _⟩ := final1_facts blk fsE fsD lr hlr hok
  have d := d []
  rw [toDec_nil, List.append_nil] at d
  exact ⟨d, quartersOf_rowsOf blk _ (by omega), v.bytes, v.h0.2, v.h1.2, v.h2.2, v.h3.2⟩

/-- the payload of a chunk (`ans1PayloadLen` = the VarInt written by `encodeChunk`) is at most
twice the chunk length -/
theorem C12_ans1_payload_le (blk : List Nat) (fsE fsD : List (List Nat)) (lr : Nat)
    (hlr : 8 ≤ lr ∧ lr ≤ 15) (hok : ChunkOk fsE fsD lr blk) :
    ans1PayloadLen blk fsE lr ≤ 2 * blk.length :=
  (final1_facts blk fsE fsD lr hlr hok).2.2

/-! ## stage 4 — one chunk -/

/-- **C12_ans1_chunk.**  `blk` = ANY chunk of bytes of fewer than `2^26` bytes — length 0, 1, 2, 3
(`end4 = 0`: nothing but the raw tail, the case repaired by the fix for F16), 4, 5, ... , any
`len % 4`; `fsE` / `fsD` = the 256 per-context frequency tables of encoder and decoder.
Hypothesis: for every (context, symbol) pair that `rebuildStatistics` counts (`statPairs`: the
order-1 pairs of each quarter started in context 0, or of the whole chunk below 4 bytes) the two
sides hold the same table for that context, it sums to `2^lr`, and the symbol has a positive
frequency in it.  Then `decodeChunkV2(encodeChunk blk ++ rest) = (blk, rest)`: VarInt size, four
32-bit states, payload words and raw tail all consumed exactly. -/
theorem C12_ans1_chunk (blk : List Nat) (fsE fsD : List (List Nat)) (lr : Nat) (hlr : 8 ≤ lr ∧ lr ≤ 15)
    (hb : ∀ b ∈ blk, b < 256)
    (hp : ∀ pr ∈ statPairs blk, fsD.getD pr.1 [] = fsE.getD pr.1 [] ∧ (fsE.getD pr.1 []).sum = 2 ^ lr ∧
      pr.2 < (fsE.getD pr.1 []).length ∧ 0 < (fsE.getD pr.1 []).getD pr.2 0)
    (hsz : blk.length < 2 ^ 26) (rest : Bits) :
    ans1DecodeChunk (mkDecTabs fsD lr) lr blk.length (ans1EncodeChunk blk (mkEncTabs fsE lr) ++ rest)
      = some (blk, rest) :=
  chunk1_rt blk fsE fsD lr hlr
    ⟨hb, rowsOk_of_pairs fsE fsD lr blk hb (fun pr h _ _ => ⟨(hp pr h).1, (hp pr h).2.1, (hp pr h).2.2⟩)⟩ hsz rest

/-- **C12_ans1_chunk_sz** — most general form: NO bound on the chunk other than the decoder's own
test on the payload size. -/
theorem C12_ans1_chunk_sz (blk : List Nat) (fsE fsD : List (List Nat)) (lr : Nat) (hlr : 8 ≤ lr ∧ lr ≤ 15)
    (hok : ChunkOk fsE fsD lr blk) (hsz : ans1PayloadLen blk fsE lr < 2 ^ 27) (rest : Bits) :
    ans1DecodeChunk (mkDecTabs fsD lr) lr blk.length (ans1EncodeChunk blk (mkEncTabs fsE lr) ++ rest)
      = some (blk, rest) :=
  chunk1_rt_sz blk fsE fsD lr hlr hok hsz rest

/-- **C12_ans1_one_chunk.**  One chunk of `Write` on its own.  For every non-empty chunk of bytes:
`rebuildStatistics` succeeds (2-D histogram `hist1 (statPairs c)`, `NormalizeFrequencies` on each of
the 256 rows with the row total — C16 —) and yields 256 (alphabet, table) pairs, each either empty or
a valid table summing to `2^lr` (never-seen contexts: empty alphabet, all-zero table); at least one
alphabet is not empty (so `Read` does not stop); the header round trips (`C12_ans1_header`); and
`decodeChunkV2` with the tables the decoder ends up with — whatever it held before (`prev`) —
returns the chunk and leaves `rest`. -/
theorem C12_ans1_one_chunk (c : List Nat) (lr : Nat) (hlr : 8 ≤ lr ∧ lr ≤ 15) (hne : c ≠ [])
    (hb : ∀ b ∈ c, b < 256) (hsz : c.length < 2 ^ 26) :
    ∃ ts, normRows lr (hist1 (statPairs c)) = some ts ∧ ts.length = 256 ∧
      (∀ t ∈ ts, HdrOk lr t) ∧ (∀ t ∈ ts, t.1 = [] → t.2 = List.replicate 256 0) ∧
      (ts.map (·.1.length)).sum ≠ 0 ∧
      ∀ prev : List (List Nat), prev.length = 256 → ∀ rest : Bits,
        ans1DecodeHeader prev (ans1EncodeHeader ts lr ++ rest) = some ((lr, mergeTabs prev ts), rest) ∧
        ans1DecodeChunk (mkDecTabs ((mergeTabs prev ts).map (·.2)) lr) lr c.length
          (ans1EncodeChunk c (mkEncTabs (ts.map (·.2)) lr) ++ rest) = some (c, rest) := by
  obtain ⟨ts, hts, hl, hhdr, hsum, hchunk, hz⟩ := oneChunk1_facts c lr hlr hne hb
  exact ⟨ts, hts, hl, hhdr, hz, hsum, fun prev hpl rest =>
    ⟨header1_rt lr hlr ts prev (by omega) hhdr rest,
     chunk1_rt c _ _ lr hlr (hchunk prev hpl) hsz rest⟩⟩

/-! ## the whole block -/

/-- **C12_ans1_block.**  For every block of bytes (any length: empty, the `≤ 32` bytes raw
shortcut, one chunk, several chunks, a last chunk of 1, 2 or 3 bytes), every chunk size
`1 ≤ chunkSize < 2^26` (the Go constructors produce 262144 … 2^27; 4 MiB by default) and
`8 ≤ lr ≤ 15` (everything the constructors produce): the order-1 `ANSRangeEncoder.Write` succeeds
(per chunk: statistics over the four quarters, `NormalizeFrequencies` per context, 256-context
header, four interleaved walks) and `ANSRangeDecoder.Read` asked for `blk.length` bytes — on a
decoder object in ANY previous table state `prev` (a new one: `freshTables`) — returns exactly `blk`
and consumes exactly the written bits: whatever follows (`rest`) is left intact. -/
theorem C12_ans1_block (blk : List Nat) (chunkSize lr : Nat) (hlr : 8 ≤ lr ∧ lr ≤ 15)
    (hcs : 0 < chunkSize ∧ chunkSize < 2 ^ 26) (hb : ∀ b ∈ blk, b < 256) :
    ∃ enc, ans1Encode blk chunkSize lr = some enc ∧
      ∀ (prev : List (List Nat)), prev.length = 256 → ∀ rest : Bits,
        ans1Decode (enc ++ rest) blk.length chunkSize prev = some (blk, rest) :=
  block1_rt blk chunkSize lr hlr hcs.1 hcs.2 hb

/-- **C12_ans1_block_ctor.**  The same through the constructor rules: every pair of arguments the
Go constructors accept with a chunk argument below `2^18 = 262144` (the default 16384 included) and
any log range argument 8..16, new encoder, new decoder. -/
theorem C12_ans1_block_ctor (blk : List Nat) (chk logRange : Nat) (ps : Params)
    (hps : mkParams chk logRange = some ps) (hchk : chk < 2 ^ 18) (hb : ∀ b ∈ blk, b < 256) :
    ∃ enc, ans1Encode blk ps.chunkSize ps.lr = some enc ∧
      ∀ rest : Bits, ans1Decode (enc ++ rest) blk.length ps.chunkSize freshTables = some (blk, rest) := by
  obtain ⟨hc, hl, hlt⟩ := C12_ans1_params chk logRange ps hps
  obtain ⟨enc, he, hd⟩ := block1_rt blk ps.chunkSize ps.lr hl (by omega) (hlt hchk) hb
  exact ⟨enc, he, fun rest => hd freshTables List.length_replicate rest⟩

/-- the hypotheses are satisfiable: default parameters -/
example : (8 ≤ 11 ∧ 11 ≤ 15) ∧ (0 < 4194304 ∧ 4194304 < 2 ^ 26) ∧ (16384 < 2 ^ 18) := by decide

end Kanzi.C12
