/-
C13 for the executable-code filter `transform.EXECodec` (transform name "EXE") — property theorems only;
proofs in `Kanzi/Proofs/EXEBase.lean` (byte order, address arithmetic), `EXEX86.lean`, `EXEARM.lean`
(one iteration / the loops / the code section), `EXE.lean` (whole transform), `EXETotal.lean` (no panic).
The model (`Kanzi/Model/EXE.lean`) mirrors v2/transform/EXECodec.go AS REPAIRED by 5f9fdb7 and f305690:
MaxEncodedLen, Forward with every decline, `detectExeType` (magic number, `parseExeHeader` for PE, ELF
32/64 LE/BE and Mach-O 32/64 with all their bounds checks and `int64` wrap-around, the heuristic scan with
its histogram / `DetectSimpleType` / jump thresholds), `forwardX86` / `inverseX86`, `forwardARM` /
`inverseARM`, the legacy `inverseV2`, the ctx `dataType` write-back.  It is tied to /repo by the `exe`
correspondence stream (byte-identical outputs, decline classes, returned indices and partial outputs).

Conventions: a block is a `List Nat` of byte values (hypothesis `∀ x ∈ b, x < 256` where the byte order
arithmetic needs it); the last argument of `exeForward` / `exeInverse` / `fwdX86` / `fwdARM` is `len(dst)` of
the Go call; `.ok t` is `dst[0:written]` with a nil error, `.err c` a non-nil error (Forward declines /
Inverse fails), `.fault` a Go run-time panic (index or slice bounds out of range) or exhausted model fuel.
`dt` is the `dataType` entry of the ctx (`none` = no ctx / no entry); the first argument of `exeInverse` is
`isBsVersion2` (`false` for `NewEXECodec()` and for every ctx the decompressor builds for a version >= 3
stream).  "Input left untouched on decline" is not a theorem here (values are immutable); it is an oracle of
the stream on the real code.

FINDINGS in this codec (F39 = E1..E4, repaired by 5f9fdb7; F40 = E5, repaired by f305690; regression
lines in corpus/C13/exe.ops): E1 the ARM probe of the type detection scan read 4 bytes at `len-3` after the
`0F 38/3A` skip (panic on ANY block of length 3 mod 4 ending `.. 0F 38 xx` + 6 bytes); E2 ELF64 section
table offset near MaxInt64 wrapped the bounds test (panic); E3 Mach-O segment command 15 bytes before the
end (panic); E4 Mach-O 64 text section header cut by the end of the block (panic); E5 ARM64 branch whose
target is exactly 2^28 (blocks above 128 MiB) was stored with address field 0 = the escape, the inverse
swallowed the next instruction (silent corruption).  With the repaired code all theorems below hold
without any precondition excluding those shapes.

OBSERVATION (not a defect of the round trip in the pipeline): a codec built by `NewEXECodecWithCtx` whose
ctx has NO `bsVersion` entry decodes with the legacy format (`isBsVersion2 = true`), which does not invert
the current Forward; the decompressor always stores `bsVersion`.  The stream family `ei-*-as-v2` shows it.
-/
import Kanzi.Model.EXE
import Kanzi.Proofs.EXE
import Kanzi.Proofs.EXETotal
import Kanzi.Generated.Consts

namespace Kanzi.C13
open Kanzi.EXE

/-- C13_exe_x86_jump: the address arithmetic of one x86 CALL / JMP / Jcc.  For the opcode at index `i`
(below 2^31) with the little endian operand `o0 o1 o2 sgn` that Forward converts (sign byte 00 or FF and
operand ≠ FF000000): the absolute address Forward stores (`x86Addr`, before the xor mask) fits 32 bits
and the operand Inverse computes from it at the same index (`x86Off`) is the original one — also when the
target address is negative (wraps as uint32). -/
theorem C13_exe_x86_jump (i o0 o1 o2 sgn : Nat) (h0 : o0 < 256) (h1 : o1 < 256) (h2 : o2 < 256)
    (hs : sgn = 0 ∨ sgn = 255) (hne : leVal [o0, o1, o2, sgn] ≠ 0xFF000000) (hi : i < 2 ^ 31) :
    x86Addr i (leVal [o0, o1, o2, sgn]) sgn < 2 ^ 32 ∧
    le32Bytes (x86Off i (x86Addr i (leVal [o0, o1, o2, sgn]) sgn)) = [o0, o1, o2, sgn] :=
  x86_addr_roundtrip i o0 o1 o2 sgn h0 h1 h2 hs hne hi

/-- C13_exe_x86: the x86 code section.  For EVERY block of bytes (at most the codec maximum 2^28-1),
EVERY code range `[cs, ce)` handed over by the header parser / the heuristic (any integers: out of range
ones are declined) and every destination: if `forwardX86` succeeds, the output is at most `len + len/50`
bytes, ends at least 5 bytes before the end of the destination, consists of bytes, and Inverse into ANY
destination of at least the original length restores the block exactly. -/
theorem C13_exe_x86 (src : List Nat) (dstLen : Nat) (cs ce : Int) (t : List Nat)
    (hb : ∀ x ∈ src, x < 256) (hlen : src.length ≤ MAX_BLOCK_SIZE)
    (h : fwdX86 src dstLen cs ce = .ok t) :
    t.length ≤ src.length + src.length / 50 ∧ t.length + 5 ≤ dstLen ∧ (∀ y ∈ t, y < 256) ∧
      ∀ n, src.length ≤ n → exeInverse false t n = .ok src :=
  fwdX86_roundtrip src dstLen cs ce t hb hlen h

/-- C13_exe_arm_branch: one ARM64 B / BL instruction word `instr` at a 4-byte aligned index `i` below
2^28: the word Forward stores is again a B / BL word; when Forward escapes it (target 0, below 0, or a
multiple of 2^28: address field 0) Inverse sees the escape; otherwise Inverse at the same index
recomputes exactly `instr`. -/
theorem C13_exe_arm_branch (i instr : Nat) (hin : instr < 2 ^ 32) (hbl : isBL instr = true)
    (hi4 : i % 4 = 0) (hi : i < 2 ^ 28) :
    (armEnc i instr).1 < 2 ^ 32 ∧ isBL (armEnc i instr).1 = true ∧
    ((armEnc i instr).2 = true → (armDec i (armEnc i instr).1).2 = true) ∧
    ((armEnc i instr).2 = false → armDec i (armEnc i instr).1 = (instr, false)) :=
  arm_roundtrip i instr hin hbl hi4 hi

/-- C13_exe_arm: the ARM64 code section; same statement as `C13_exe_x86` for `forwardARM` (which
declines a code offset that is not a multiple of 4), with a margin of 8 bytes in the destination. -/
theorem C13_exe_arm (src : List Nat) (dstLen : Nat) (cs ce : Int) (t : List Nat)
    (hb : ∀ x ∈ src, x < 256) (hlen : src.length ≤ MAX_BLOCK_SIZE)
    (h : fwdARM src dstLen cs ce = .ok t) :
    t.length ≤ src.length + src.length / 50 ∧ t.length + 8 ≤ dstLen ∧ (∀ y ∈ t, y < 256) ∧
      ∀ n, src.length ≤ n → exeInverse false t n = .ok src :=
  fwdARM_roundtrip src dstLen cs ce t hb hlen h

/-- C13_exe: the whole transform.  For every block of bytes, every `dataType` hint and every
destination at least as large as advertised by `MaxEncodedLen`: if Forward succeeds (whatever the header
or the heuristic made of the block), its output is at most `MaxEncodedLen(len)` bytes long and Inverse
into ANY destination of at least the original block length restores the block exactly. -/
theorem C13_exe (dt : Option Nat) (b t : List Nat) (dstLen : Nat)
    (hb : ∀ x ∈ b, x < 256) (hdst : exeMaxEncodedLen b.length ≤ dstLen)
    (h : exeForward dt b dstLen = .ok t) :
    t.length ≤ exeMaxEncodedLen b.length ∧ ∀ n, b.length ≤ n → exeInverse false t n = .ok b :=
  ⟨(exe_roundtrip dt b t dstLen hb hdst h).1, (exe_roundtrip dt b t dstLen hb hdst h).2.2⟩

/-- C13_exe_total: neither direction ever indexes out of range (every slice access of the Go code that
would panic, and exhausted loop fuel, is a `.fault` of the model).
Forward: ANY list of values (headers are attacker controlled on the compression side too: arbitrary
garbage behind an ELF / PE / Mach-O magic number, section tables and load commands anywhere, offsets up to
2^64-1), any hint, any destination of at least `MaxEncodedLen(len)` bytes.
Inverse: ANY input (forged, truncated, not produced by Forward), a destination of ANY size, current and
legacy format.  Inverse therefore always returns a block or a clean error. -/
theorem C13_exe_total :
    (∀ (dt : Option Nat) (b : List Nat) (dstLen : Nat) (e : String),
      exeMaxEncodedLen b.length ≤ dstLen → exeForward dt b dstLen ≠ .fault e) ∧
    (∀ (v2 : Bool) (src : List Nat) (n : Nat) (e : String), exeInverse v2 src n ≠ .fault e) :=
  ⟨fun dt b dstLen e hdst => (exeForward_nf dt b dstLen hdst).nf e,
   fun v2 src n e => (exeInverse_nf v2 src n).nf e⟩

/-- the pieces of `C13_exe_total` that do not depend on the block size limits of Forward: the two section
encoders never fault for ANY code range (any integers) once the destination holds the 9 header bytes, and
header parsing + type detection never fault on any slice of at least 64 bytes -/
theorem C13_exe_total_parts :
    (∀ (src : List Nat) (dstLen : Nat) (cs ce : Int) (e : String), 9 ≤ dstLen →
      fwdX86 src dstLen cs ce ≠ .fault e ∧ fwdARM src dstLen cs ce ≠ .fault e) ∧
    (∀ (s : Array Nat) (cs ce : Int) (e : String), 64 ≤ s.size → s.size < 2 ^ 62 →
      detectExeType s cs ce ≠ .fault e) :=
  ⟨fun src dstLen cs ce e h => ⟨(fwdX86_nf src dstLen cs ce h).nf e, (fwdARM_nf src dstLen cs ce h).nf e⟩,
   fun s cs ce e h1 h2 => (detectExeType_nf s cs ce h1 h2).nf e⟩

/-- C13_exe_bytes: the encoded block consists of byte values -/
theorem C13_exe_bytes (dt : Option Nat) (b t : List Nat) (dstLen : Nat)
    (hb : ∀ x ∈ b, x < 256) (hdst : exeMaxEncodedLen b.length ≤ dstLen)
    (h : exeForward dt b dstLen = .ok t) : ∀ y ∈ t, y < 256 :=
  (exe_roundtrip dt b t dstLen hb hdst h).2.1

/-- C13_exe_ctx: the ctx `dataType` write-back: after a successful Forward of a non-empty block the
entry is DT_EXE (the model function `exeCtxWrite` also gives the entry after a decline: the detected simple
type when the block is "not an executable", otherwise unchanged; the stream compares it on every op) -/
theorem C13_exe_ctx (dt : Option Nat) (b t : List Nat) (dstLen : Nat)
    (hne : b ≠ []) (hd : dstLen ≠ 0) (h : exeForward dt b dstLen = .ok t) :
    exeCtxWrite dt b dstLen = some DT_EXE :=
  exeCtxWrite_ok dt b t dstLen hne hd h

/-- C13_exe_consts: the literal constants of the model are those of /repo (`Kanzi/Generated/Consts.lean`
is regenerated from the Go source by every check) -/
theorem C13_exe_consts :
    Kanzi.Generated.Consts.transform._EXE_X86_MASK_JUMP = X86_MASK_JUMP ∧
    Kanzi.Generated.Consts.transform._EXE_X86_INSTRUCTION_JUMP = X86_INSTRUCTION_JUMP ∧
    Kanzi.Generated.Consts.transform._EXE_X86_INSTRUCTION_JCC = X86_INSTRUCTION_JCC ∧
    Kanzi.Generated.Consts.transform._EXE_X86_TWO_BYTE_PREFIX = X86_TWO_BYTE_PREFIX ∧
    Kanzi.Generated.Consts.transform._EXE_X86_MASK_JCC = X86_MASK_JCC ∧
    Kanzi.Generated.Consts.transform._EXE_X86_ESCAPE = X86_ESCAPE ∧
    Kanzi.Generated.Consts.transform._EXE_NOT_EXE = NOT_EXE ∧
    Kanzi.Generated.Consts.transform._EXE_X86 = X86 ∧
    Kanzi.Generated.Consts.transform._EXE_ARM64 = ARM64 ∧
    Kanzi.Generated.Consts.transform._EXE_MASK_DT = MASK_DT ∧
    Kanzi.Generated.Consts.transform._EXE_X86_ADDR_MASK = X86_ADDR_MASK ∧
    Kanzi.Generated.Consts.transform._EXE_X86_ADDR_MASK = 2 ^ 24 - 1 ∧
    Kanzi.Generated.Consts.transform._EXE_MASK_ADDRESS = MASK_ADDRESS ∧
    Kanzi.Generated.Consts.transform._EXE_ARM_B_ADDR_MASK = ARM_B_ADDR_MASK ∧
    Kanzi.Generated.Consts.transform._EXE_ARM_B_ADDR_MASK = 2 ^ 26 - 1 ∧
    Kanzi.Generated.Consts.transform._EXE_ARM_B_OPCODE_MASK = ARM_B_OPCODE_MASK ∧
    Kanzi.Generated.Consts.transform._EXE_ARM_B_ADDR_SGN_MASK = ARM_B_ADDR_SGN_MASK ∧
    Kanzi.Generated.Consts.transform._EXE_ARM_OPCODE_B = ARM_OPCODE_B ∧
    Kanzi.Generated.Consts.transform._EXE_ARM_OPCODE_BL = ARM_OPCODE_BL ∧
    Kanzi.Generated.Consts.transform._EXE_ARM_CB_OPCODE_MASK = ARM_CB_OPCODE_MASK ∧
    Kanzi.Generated.Consts.transform._EXE_ARM_OPCODE_CBZ = ARM_OPCODE_CBZ ∧
    Kanzi.Generated.Consts.transform._EXE_ARM_OPCODE_CBNZ = ARM_OPCODE_CBNZ ∧
    Kanzi.Generated.Consts.transform._EXE_WIN_PE = WIN_PE ∧
    Kanzi.Generated.Consts.transform._EXE_WIN_X86_ARCH = WIN_X86_ARCH ∧
    Kanzi.Generated.Consts.transform._EXE_WIN_AMD64_ARCH = WIN_AMD64_ARCH ∧
    Kanzi.Generated.Consts.transform._EXE_WIN_ARM64_ARCH = WIN_ARM64_ARCH ∧
    Kanzi.Generated.Consts.transform._EXE_ELF_X86_ARCH = ELF_X86_ARCH ∧
    Kanzi.Generated.Consts.transform._EXE_ELF_AMD64_ARCH = ELF_AMD64_ARCH ∧
    Kanzi.Generated.Consts.transform._EXE_ELF_ARM64_ARCH = ELF_ARM64_ARCH ∧
    Kanzi.Generated.Consts.transform._EXE_MAC_AMD64_ARCH = MAC_AMD64_ARCH ∧
    Kanzi.Generated.Consts.transform._EXE_MAC_ARM64_ARCH = MAC_ARM64_ARCH ∧
    Kanzi.Generated.Consts.transform._EXE_MAC_MH_EXECUTE = MAC_MH_EXECUTE ∧
    Kanzi.Generated.Consts.transform._EXE_MAC_LC_SEGMENT = MAC_LC_SEGMENT ∧
    Kanzi.Generated.Consts.transform._EXE_MAC_LC_SEGMENT64 = MAC_LC_SEGMENT64 ∧
    Kanzi.Generated.Consts.transform._EXE_MIN_BLOCK_SIZE = MIN_BLOCK_SIZE ∧
    Kanzi.Generated.Consts.transform._EXE_MAX_BLOCK_SIZE = MAX_BLOCK_SIZE ∧
    Kanzi.Generated.Consts.transform._EXE_MAX_BLOCK_SIZE = 2 ^ 28 - 1 ∧
    Kanzi.Generated.Consts.internal.WIN_MAGIC = WIN_MAGIC ∧
    Kanzi.Generated.Consts.internal.ELF_MAGIC = ELF_MAGIC ∧
    Kanzi.Generated.Consts.internal.MAC_MAGIC32 = MAC_MAGIC32 ∧
    Kanzi.Generated.Consts.internal.MAC_CIGAM32 = MAC_CIGAM32 ∧
    Kanzi.Generated.Consts.internal.MAC_MAGIC64 = MAC_MAGIC64 ∧
    Kanzi.Generated.Consts.internal.MAC_CIGAM64 = MAC_CIGAM64 ∧
    Kanzi.Generated.Consts.internal.DT_UNDEFINED = DT_UNDEFINED ∧
    Kanzi.Generated.Consts.internal.DT_EXE = DT_EXE ∧
    Kanzi.Generated.Consts.internal.DT_BIN = DT_BIN ∧
    Kanzi.Generated.Consts.internal.DT_BIN = Kanzi.RLT.DT_BIN ∧
    Kanzi.Generated.Consts.transform.EXE_TYPE = 9 := by decide

/-- `MaxEncodedLen` leaves room for the 2 % expansion cap of both encoders and their safety margins -/
theorem C13_exe_max_encoded_len (n : Nat) (h : MIN_BLOCK_SIZE ≤ n) :
    n + n / 50 + 8 ≤ exeMaxEncodedLen n := by
  simp only [MIN_BLOCK_SIZE] at h
  unfold exeMaxEncodedLen; split <;> omega

/-! ## examples: one iteration of each loop (both directions), the escapes, the early declines -/

-- CALL +0x10 at index 0x100: target 0x110, stored big endian and xor-ed with the mask 0xF0F0F0F0
example : x86FwdStep 1000 [0xE8, 0x10, 0, 0, 0, 0x90] 0x100 = .emit [0xE8, 0xF0, 0xF0, 0xF1, 0xE0] 5 1 := by decide
example : x86InvStep 1000 1000 [0xE8, 0xF0, 0xF0, 0xF1, 0xE0, 0x90] 9 0x100 = .emit [0xE8, 0x10, 0, 0, 0] 5 := by decide
-- JMP -0x200 at index 0x100: the target is below 0 and wraps as uint32
example : x86FwdStep 1000 [0xE9, 0x00, 0xFE, 0xFF, 0xFF, 0x90] 0x100 = .emit [0xE9, 0x0F, 0x0F, 0x0F, 0xF0] 5 1 := by decide
example : x86InvStep 1000 1000 [0xE9, 0x0F, 0x0F, 0x0F, 0xF0] 9 0x100 = .emit [0xE9, 0x00, 0xFE, 0xFF, 0xFF] 5 := by decide
-- an operand that is not an address (sign byte 0x12) and the value 0xFF000000 are escaped
example : x86FwdStep 1000 [0xE8, 1, 2, 3, 0x12, 0x90] 7 = .emit [0x9B, 0xE8] 1 0 := by decide
example : x86FwdStep 1000 [0xE8, 0, 0, 0, 0xFF, 0x90] 7 = .emit [0x9B, 0xE8] 1 0 := by decide
-- the escape byte itself, alone and after the two-byte prefix
example : x86FwdStep 1000 [0x9B, 1] 7 = .emit [0x9B, 0x9B] 1 0 := by decide
example : x86FwdStep 1000 [0x0F, 0x9B, 1] 7 = .emit [0x0F, 0x9B, 0x9B] 2 0 := by decide
-- a jump cut by the end of the code section stops the loop (the rest is copied as tail)
example : x86FwdStep 11 [0xE8, 1, 0, 0, 0, 0x90] 7 = .stop := by decide
example : x86FwdStep 12 [0x0F, 0x84, 1, 0, 0, 0, 0x90] 7 = .stop := by decide
example : x86FwdStep 8 [0x0F, 0x84, 1, 0, 0, 0, 0x90] 7 = .stop := by decide
-- ARM64: BL +4 instructions at index 0x100: target 0x110 >> 2 = 0x44
example : armFwdStep [0x04, 0, 0, 0x94, 0xFF] 0x100 = .emit [0x44, 0, 0, 0x94] 4 1 := by decide
example : armInvStep 1000 1000 [0x44, 0, 0, 0x94, 0xFF] 9 0x100 = .emit [0x04, 0, 0, 0x94] 4 := by decide
-- B to address 0 (offset -0x40 at index 0x100) is escaped: zero address field + the instruction
example : armFwdStep [0xC0, 0xFF, 0xFF, 0x17] 0x100 = .emit [0, 0, 0, 0x14, 0xC0, 0xFF, 0xFF, 0x17] 4 0 := by decide
example : armInvStep 1000 1000 [0, 0, 0, 0x14, 0xC0, 0xFF, 0xFF, 0x17] 9 0x100 = .emit [0xC0, 0xFF, 0xFF, 0x17] 8 := by decide
-- regression E5: target 2^28 from index 2^27+8 (offset 2^25-2): the address field would be 0, so it is escaped
example : armAddr 134217736 (0x14000000 + 33554430) = 2 ^ 28 := by decide
example : (armEnc 134217736 (0x14000000 + 33554430)).2 = true := by decide
-- early declines and trivial calls
example : exeForward none [] 100 = .ok [] := by decide
example : exeInverse false [] 100 = .ok [] := by decide
example : exeInverse false [0x40, 0, 0, 0, 0, 9, 0, 0] 100 = .err "data" := by decide
example : exeInverse false [0x41, 0, 0, 0, 0, 9, 0, 0, 0] 100 = .err "type" := by decide
-- forged header: codeEnd beyond the input
example : exeInverse false [0x40, 0, 0, 0, 0, 10, 0, 0, 0] 100 = .err "data" := by decide
-- minimal well-formed inputs: empty code section + tail
example : exeInverse false [0x40, 0, 0, 0, 0, 9, 0, 0, 0, 7, 8] 100 = .ok [7, 8] := by decide
example : exeInverse false [0x20, 0, 0, 0, 0, 9, 0, 0, 0, 7, 8] 100 = .ok [7, 8] := by decide

end Kanzi.C13
